/-
  QV.Proofs.WriterDecodeCongr — the independent message decoder reads the questions and records
  of a layout chain from the octets below the cursor only: on two writer states where everything
  written so far is still there (`Pres`), it decodes the chain identically.

  `name_det`: a name item; `expandRdata_det`: the RDATA of a record of a 16-bit type;
  `decodeRrs_det`: the records of a chain. `finishWithMac_pres`: the states before and after `finish` are such a pair.
-/
import QV.Proofs.WriterExtents
import QV.Proofs.WriterScratch

namespace QV.Writer
open QV QV.Wire QV.Spec QV.ServerSafety

variable {sA sB : State}

theorem msg_agree (hA : WInv sA) (hB : WInv sB) (h : Pres sA sB) (i : Nat) (h12 : 12 ≤ i) (hi : i < sA.cursor) :
    (sB.octets.extract 0 sB.cursor)[i]? = (sA.octets.extract 0 sA.cursor)[i]? := by
  have hcA : sA.cursor ≤ sA.octets.size := Nat.le_trans hA.cur_av hA.av_size
  have hcB : sB.cursor ≤ sB.octets.size := Nat.le_trans hB.cur_av hB.av_size
  rw [extract_prefix_get _ _ hcB i (by have := h.cur; omega), extract_prefix_get _ _ hcA i hi]
  exact h.pre i h12 hi

/-- **a name item is decoded identically** -/
theorem name_det (hA : WInv sA) (hB : WInv sB) (h : Pres sA sB) {a k : Nat} (hit : Item sA a k) :
    specDecodeName (sB.octets.extract 0 sB.cursor) a = specDecodeName (sA.octets.extract 0 sA.cursor) a := by
  obtain ⟨⟨q, hop, hq⟩, hck, hk⟩ := hit
  obtain ⟨ls, _, hd⟩ := hop_decodes hA hop hq hck hk
  rw [hd _ fun i h12 hi => (msg_agree hA hB h i h12 hi).trans (written_agree hA i hi),
    hd _ fun i _ hi => written_agree hA i hi]

theorem rdName_det (hA : WInv sA) (hB : WInv sB) (h : Pres sA sB) {a k e : Nat} (hit : Item sA a k) :
    rdName (sB.octets.extract 0 sB.cursor) a e = rdName (sA.octets.extract 0 sA.cursor) a e := by
  unfold rdName
  rw [name_det hA hB h hit]

theorem extract_det (hA : WInv sA) (hB : WInv sB) (h : Pres sA sB) (i j : Nat) (h12 : 12 ≤ i) (hj : j ≤ sA.cursor) :
    ((sB.octets.extract 0 sB.cursor).extract i j).toList = ((sA.octets.extract 0 sA.cursor).extract i j).toList := by
  have hcA : sA.cursor ≤ sA.octets.size := Nat.le_trans hA.cur_av hA.av_size
  have hcB : sB.cursor ≤ sB.octets.size := Nat.le_trans hB.cur_av hB.av_size
  have := h.cur
  rw [extract_congr_range (x := sA.octets.extract 0 sA.cursor) (y := sB.octets.extract 0 sB.cursor)
    (fun k h1 h2 => msg_agree hA hB h k (by omega) (by omega))
    (by rw [extract_size _ _ hcA]; exact hj) (by rw [extract_size _ _ hcB]; omega)]

/-- the name the decoder reads at an item occupies the item's `k` octets -/
theorem rdName_k (hA : WInv sA) {a k e k' : Nat} {w : List UInt8} (hit : Item sA a k)
    (hr : rdName (sA.octets.extract 0 sA.cursor) a e = some (w, k')) : k' = k := by
  obtain ⟨w', n, hd⟩ := item_decodes hA hit
  unfold rdName at hr
  rw [hd] at hr
  dsimp only at hr
  split at hr
  · cases hr; rfl
  · cases hr

/-- **the RDATA of a record (16-bit type) is expanded identically** -/
theorem expandRdata_det (hA : WInv sA) (hB : WInv sB) (h : Pres sA sB) (m : CMode) (cls ty : Nat)
    (ts : List CompType) (rd : List UInt8) (p len : Nat) (ps : List Nat) (h12 : 12 ≤ p)
    (hct : componentTypes cls ty = some ts) (hrd : RdAt sA m ts rd p (p + len) ps) (hstop : p + len ≤ sA.cursor) :
    expandRdata (sB.octets.extract 0 sB.cursor) ty p len = expandRdata (sA.octets.extract 0 sA.cursor) ty p len := by
  rw [componentTypes_layout] at hct
  simp only [Option.some.injEq] at hct
  subst hct
  have hex : ∀ i, 12 ≤ i → ((sB.octets.extract 0 sB.cursor).extract i (p + len)).toList =
      ((sA.octets.extract 0 sA.cursor).extract i (p + len)).toList := fun i hi => extract_det hA hB h i _ hi hstop
  unfold expandRdata Message.layoutOf at *
  by_cases h1 : ty = 2 ∨ ty = 3 ∨ ty = 4 ∨ ty = 5 ∨ ty = 7 ∨ ty = 8 ∨ ty = 9 ∨ ty = 12
  · simp only [h1, if_true, List.map_cons, List.map_nil, layToComp, RdAt] at hrd ⊢
    obtain ⟨n, rest, k, _, hit, _, _, _, _⟩ := hrd
    rw [rdName_det hA hB h hit]
  · simp only [h1, if_false] at hrd ⊢
    by_cases h6 : ty = 6
    · subst h6
      simp only [true_or, if_true, List.map_cons, List.map_nil, layToComp, RdAt] at hrd ⊢
      obtain ⟨a, r1, k1, _, hit1, _, _, _, b, r2, k2, _, hit2, _, _, _, _⟩ := hrd
      rw [rdName_det hA hB h hit1]
      cases hr1 : rdName (sA.octets.extract 0 sA.cursor) p (p + len) with
      | none => rfl
      | some x =>
        obtain ⟨wa, k1'⟩ := x
        have := rdName_k hA hit1 hr1
        subst this
        simp only []
        rw [rdName_det hA hB h hit2]
        cases hr2 : rdName (sA.octets.extract 0 sA.cursor) (p + k1') (p + len) with
        | none => rfl
        | some y =>
          obtain ⟨wb, k2'⟩ := y
          simp only []
          rw [hex _ (by omega)]
    · by_cases h14 : ty = 14
      · subst h14
        simp only [Nat.reduceEqDiff, or_true, if_true, if_false, List.map_cons, List.map_nil, layToComp, RdAt] at hrd ⊢
        obtain ⟨a, r1, k1, _, hit1, _, _, _, b, r2, k2, _, hit2, _, _, _, _⟩ := hrd
        rw [rdName_det hA hB h hit1]
        cases hr1 : rdName (sA.octets.extract 0 sA.cursor) p (p + len) with
        | none => rfl
        | some x =>
          obtain ⟨wa, k1'⟩ := x
          have := rdName_k hA hit1 hr1
          subst this
          simp only []
          rw [rdName_det hA hB h hit2]
      · by_cases h15 : ty = 15
        · subst h15
          simp only [Nat.reduceEqDiff, or_self, if_true, if_false, List.map_cons, List.map_nil, layToComp, RdAt] at hrd ⊢
          obtain ⟨_, _, a, r1, k1, _, hit1, _, _, _, _⟩ := hrd
          rw [rdName_det hA hB h hit1, extract_det hA hB h p (p + 2) h12 (by
            have := hit1.2.2; omega)]
        · simp only [h6, h14, h15, if_false]
          rw [hex p h12]

theorem field16_det (hA : WInv sA) (hB : WInv sB) (h : Pres sA sB) (i : Nat) (h12 : 12 ≤ i) (hi : i + 1 < sA.cursor) :
    specField16 (sB.octets.extract 0 sB.cursor) i = specField16 (sA.octets.extract 0 sA.cursor) i := by
  unfold specField16
  rw [msg_agree hA hB h i h12 (by omega), msg_agree hA hB h (i + 1) (by omega) hi]

/-- **the records of a chain are decoded identically** (16-bit types) -/
theorem decodeRrs_det (hA : WInv sA) (hB : WInv sB) (h : Pres sA sB) :
    ∀ (rs : List RItC) (p e : Nat), RChainC sA rs p e → e ≤ sA.cursor → 12 ≤ p →
      (∀ it ∈ rs, it.r.ty < 65536) → ∀ n, n ≤ rs.length →
      decodeRrs (sB.octets.extract 0 sB.cursor) n p = decodeRrs (sA.octets.extract 0 sA.cursor) n p := by
  have hcA : sA.cursor ≤ sA.octets.size := Nat.le_trans hA.cur_av hA.av_size
  have hcB : sB.cursor ≤ sB.octets.size := Nat.le_trans hB.cur_av hB.av_size
  have hszA := extract_size sA.octets sA.cursor hcA
  have hszB := extract_size sB.octets sB.cursor hcB
  intro rs
  induction rs with
  | nil =>
    intro p e _ _ _ _ n hn
    have : n = 0 := by simpa using hn
    subst this
    rfl
  | cons x r ih =>
    intro p e hch he h12 hty n hn
    cases n with
    | zero => rfl
    | succ n =>
      obtain ⟨h1, ⟨hit, hnm, hby, hb, ts, hct, hrd⟩, h4⟩ := hch
      subst h1
      have hle := rchainC_le h4
      have hcur := h.cur
      have hl2 : ∀ y, (u16be y).length = 2 := fun _ => rfl
      obtain ⟨b12, b3⟩ := bytesAt_append hby
      obtain ⟨b1, b2⟩ := bytesAt_append b12
      have et : be16 (sA.octets.extract 0 sA.cursor) (x.a + x.k) = x.r.ty % 65536 :=
        be16_of_bytesAt_mod (bytesAt_extract_prefix hcA b1 (by rw [hl2]; omega))
      have e8 : be16 (sA.octets.extract 0 sA.cursor) (x.a + x.k + 8) = x.rdlen := by
        rw [be16_extract _ _ _ hcA (by omega)]; exact hb
      have hxt := hty x List.mem_cons_self
      simp only [decodeRrs]
      rw [name_det hA hB h hit]
      obtain ⟨w, nn, hd⟩ := item_decodes hA hit
      rw [hd]
      simp only []
      rw [field16_det hA hB h _ (by omega) (by omega), field16_det hA hB h _ (by omega) (by omega),
        field16_det hA hB h _ (by omega) (by omega)]
      have h32 : specField32 (sB.octets.extract 0 sB.cursor) (x.a + x.k + 4) =
          specField32 (sA.octets.extract 0 sA.cursor) (x.a + x.k + 4) := by
        unfold specField32
        rw [field16_det hA hB h _ (by omega) (by omega), field16_det hA hB h _ (by omega) (by omega)]
      rw [h32]
      rw [specField16_some (m := sA.octets.extract 0 sA.cursor) (by rw [hszA]; omega),
        specField16_some (m := sA.octets.extract 0 sA.cursor) (i := x.a + x.k + 2) (by rw [hszA]; omega),
        specField16_some (m := sA.octets.extract 0 sA.cursor) (i := x.a + x.k + 8) (by rw [hszA]; omega)]
      cases h32v : specField32 (sA.octets.extract 0 sA.cursor) (x.a + x.k + 4) with
      | none => rfl
      | some raw =>
        simp only [e8, et, Nat.mod_eq_of_lt hxt]
        rw [if_pos (by rw [hszB]; omega), if_pos (by rw [hszA]; omega)]
        rw [expandRdata_det hA hB h x.m x.r.cls x.r.ty ts x.r.rdata _ _ x.ps (by omega) hct hrd (by omega),
          extract_det hA hB h _ _ (by omega) (by omega),
          ih _ _ h4 he (by omega) (fun it hx => hty it (List.mem_cons_of_mem _ hx)) n (by simpa using hn)]

/-! ### `finish` keeps what was written -/

theorem finishWithMac_pres (macFn : Tsig → List UInt8 → List UInt8) (s : State) (hI : I s) (len : Nat)
    (mac : Option (List UInt8)) (sF : State) (hw : finishWithMac macFn s = (.ok (len, mac), sF)) : Pres s sF :=
  (finishWithMac_appended hI hw).2.2.1

end QV.Writer
