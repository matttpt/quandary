/-
  QV.Proofs.FinishTsigOwner — the owner of the TSIG record `finish` appends, compressed or not,
  decodes (with the independent RFC 1035 decoder, on the finished message) to the key name.
-/
import QV.Proofs.WriterDecodes
import QV.Proofs.FinishTsig

namespace QV.Writer
open QV QV.Wire QV.Spec QV.ServerSafety

/-- **the TSIG record's owner decodes to the key name.** If a TSIG is set and `finish` succeeds from a
    valid state, then at the position where the TSIG record starts — right after the message proper
    and the OPT record — the independent decoder reads, on the finished message, a name with the
    key name's label count that equals the key name up to ASCII case (octet for octet unless the
    compression mode is `Standard`), whatever `write_hinted_name(None, key_name)` made of it
    (literal, labels and a pointer, or a bare pointer); the ten fixed octets of the record follow. -/
theorem finish_tsig_owner_decodes (macFn : Tsig → List UInt8 → List UInt8) (hmac : MacLenOK macFn)
    (s : State) (hI : I s) (ts : Tsig) (hts : s.tsig = some ts)
    (m : Bytes) (mac : Option (List UInt8)) (hf : finish s macFn = .ok (m, mac)) :
    ∃ w k, specDecodeName m (finishPrefix s ++ optEnc s.edns).length = some (w, ts.rr.keyName.len, k) ∧
      (finishPrefix s ++ optEnc s.edns).length + k + 10 ≤ m.size ∧
      w.map lowerU8 = ts.rr.keyName.wire.map lowerU8 ∧ (s.mode ≠ .standard → w = ts.rr.keyName.wire) := by
  obtain ⟨len, sF, hw, hm⟩ := finish_eq_ok.mp hf
  replace hm := hm.symm
  obtain ⟨_, hlc, hszF⟩ := finishWithMac_len macFn s hI.inv len mac sF hw
  obtain ⟨_, s1', ho', hw⟩ := finishWithMac_eq_ok.mp hw
  have hIA := i_octets hI _ (withCounts_size s) fun i hi => withCounts_getElem? s i (Or.inr hi)
  have hosz := withCounts_size s
  generalize withCounts s = o at ho' hIA hosz
  have hres := inv_reserved' hI.inv
  have hav := hI.inv.av_lim; have hls := hI.inv.lim_size
  have h12 := hI.inv.hdr
  have hca := hI.inv.cur_av
  -- the OPT record
  obtain ⟨s1, ho, w1, hroom1, ht1, l1⟩ := finishOpt_spec { s with octets := o } hIA.winv hIA.log
    (tsigReserved s.tsig)
    (by intro e he; show s.available + Gen.OPT_RECORD_SIZE + _ ≤ o.size
        have he' : s.edns = some e := he
        rw [he'] at hres; simp at hres; rw [hosz]; omega)
    (by show s.available + _ ≤ o.size; rw [hosz]; omega)
  obtain rfl : s1 = s1' := by
    have := ho.symm.trans ho'
    cases this; rfl
  obtain ⟨a1, z1, _⟩ := appB_finishOpt_any s.edns _ s1 ho'
  have hc1 : s1.cursor = s.cursor + (optEnc s.edns).length := a1.cur
  -- the TSIG record
  rcases finishTsig_ok_inv hw with ⟨hn, _⟩ | ⟨ts', hts', _, _, hlen, hadd⟩
  · rw [hts] at hn; cases hn
  · rw [hts] at hts'
    cases hts'
    have ht1' : s1.tsig = some ts := by rw [ht1]; exact hts
    obtain ⟨_, hkey, _, _, _⟩ := hI.tsig ts hts
    rw [hts] at hroom1
    simp only [tsigReserved] at hroom1
    have w1' : WInv { s1 with tsig := none, available := s1.available + ts.reservedLen } := by
      have := winv_raise w1 ts.reservedLen hroom1 none
      exact this
    have hcF : sF.cursor ≤ sF.octets.size := by omega
    have hmget : ∀ i, i < sF.cursor → m[i]? = sF.octets[i]? := by
      intro i hi
      rw [← hm, hlc]
      exact extract_prefix_get _ _ hcF _ hi
    obtain ⟨w, k, hd, hk10, hcase, hexact⟩ := addRr_owner_decodes .none ts.rr.keyName T_TSIG QC_ANY (ttlFrom 0)
      _ _ sF w1' hkey trivial hadd m hmget
    have hpos : (finishPrefix s ++ optEnc s.edns).length = s1.cursor := by
      rw [List.length_append, finishPrefix_length s h12 (by omega), hc1]
    have hmsz : m.size = sF.cursor := by rw [← hm, hlc]; exact extract_size _ _ hcF
    have hmode : s1.mode = s.mode := a1.mode
    refine ⟨w, k, by rw [hpos]; exact hd, by rw [hpos, hmsz]; exact hk10, hcase, ?_⟩
    intro hne
    exact hexact (by show s1.mode ≠ _; rw [hmode]; exact hne)

end QV.Writer
