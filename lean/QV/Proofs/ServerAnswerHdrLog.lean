/-
  QV.Proofs.ServerAnswerHdrLog — which header operations the answering logic (`answer` / `answer_any`)
  logs, for every zone, query and writer behaviour: `set_aa`, and `set_rcode(NXDOMAIN)`; never
  `set_tc`, never `clear_rrs`, no other RCODE (read off the shape of the phase,
  Proofs/ServerAnswerProg.lean).  With the epilogue of `handle_non_axfr_query` (`handle_log_np`) this gives the
  header of every response of the answering phase: RCODE 0, 2 or 3; TC only over UDP and only
  together with empty sections.
-/
import QV.Proofs.ServerAnswerTypes
import QV.Proofs.ServerAnswerCap

namespace QV.ServerAnswer
open QV QV.Writer QV.Server QV.Zone

/-- what the answering logic logs: no `set_tc`, no `clear_rrs`, and `set_rcode` only with NXDOMAIN -/
def InnerEv (e : Ev) : Prop := (∀ b, e ≠ .tc b) ∧ e ≠ .clear ∧ ∀ r, e = .rcode r → r = 3

theorem Prog.logsH {Q : AddEv → Prop} {α : Type} {m : PM α} {r r' : Nat} (h : Prog Q m r r') :
    Logs m InnerEv (fun _ => True) :=
  h.logs (fun _ _ _ => ⟨by simp, by simp, by simp⟩) (fun _ => ⟨by simp, by simp, by simp⟩)
    ⟨by simp, by simp, fun r h => by cases h; decide⟩ ⟨by simp, by simp, by simp⟩

theorem LogsH.referral (z : Zone.Zone) (child : NameL.Name) (ns : Rrset) :
    Logs (doReferral z child ns) InnerEv (fun _ => True) :=
  (Prog.referral (Ty := fun _ => True) z child ns).logsH

theorem LogsH.answer (z : Zone.Zone) (qname : WName) (qtype : Nat) :
    Logs (Server.answer z qname qtype) InnerEv (fun _ => True) :=
  (Prog.answer (Ty := fun _ => True) z qname qtype trivial).logsH

theorem LogsH.inner (z : Zone.Zone) (qname : WName) (qtype : Nat) :
    Logs (inner z qname qtype) InnerEv (fun _ => True) :=
  (Prog.inner' z qname qtype).logsH

theorem foldl_innerEv : ∀ (l : List Ev) (v : View), (∀ e ∈ l, InnerEv e) →
    (l.foldl View.step v).tc = v.tc ∧ ((l.foldl View.step v).rcode = v.rcode ∨ (l.foldl View.step v).rcode = 3) := by
  intro l v h
  refine ⟨foldl_tc (fun e he => (h e he).1) v, ?_⟩
  induction l generalizing v with
  | nil => exact Or.inl rfl
  | cons e rest ih =>
    rw [List.foldl_cons]
    have hstep : (v.step e).rcode = v.rcode ∨ (v.step e).rcode = 3 := by
      cases e with
      | add a => exact Or.inl (step_add_flags v a).2.2
      | rcode r => exact Or.inr ((h _ List.mem_cons_self).2.2 r rfl)
      | _ => exact Or.inl rfl
    rcases ih (v.step e) (fun x hx => h x (List.mem_cons_of_mem _ hx)) with i | i
    · rw [i]; exact hstep
    · exact Or.inr i

/-- the view of the answering logic's own log: TC clear, RCODE 0 or 3 -/
theorem view_inner_ok (z : Zone.Zone) (qname : WName) (qtype : Nat) (w : State) (r : Out PErr Unit) (pt : PS)
    (h : inner z qname qtype ⟨w, []⟩ = (r, pt)) :
    (view pt.log).tc = false ∧ ((view pt.log).rcode = 0 ∨ (view pt.log).rcode = 3) := by
  obtain ⟨evs, hl, hP, _⟩ := LogsH.inner z qname qtype ⟨w, []⟩
  rw [h] at hl
  simp only [List.nil_append] at hl
  rw [hl]
  exact foldl_innerEv evs {} hP

/-- **the header of every response of the answering phase**, on the view of the log: RCODE 0, 2
    (SERVFAIL) or 3 (NXDOMAIN); TC only over UDP, and then all three sections are empty — for every
    zone, query and writer behaviour -/
theorem view_handle_flags (z : Zone.Zone) (qname : WName) (qtype : Nat) (tr : Transport) (w : State)
    (hnp : (handleNonAxfrQueryL z qname qtype tr ⟨w, []⟩).1 ≠ .panic) :
    ((view (handleNonAxfrQueryL z qname qtype tr ⟨w, []⟩).2.log).rcode = 0 ∨
      (view (handleNonAxfrQueryL z qname qtype tr ⟨w, []⟩).2.log).rcode = 2 ∨
      (view (handleNonAxfrQueryL z qname qtype tr ⟨w, []⟩).2.log).rcode = 3) ∧
    ((view (handleNonAxfrQueryL z qname qtype tr ⟨w, []⟩).2.log).tc = true →
      tr = .udp ∧ (view (handleNonAxfrQueryL z qname qtype tr ⟨w, []⟩).2.log).answer = [] ∧
      (view (handleNonAxfrQueryL z qname qtype tr ⟨w, []⟩).2.log).authority = [] ∧
      (view (handleNonAxfrQueryL z qname qtype tr ⟨w, []⟩).2.log).additional = []) := by
  rw [(handle_log_np z qname qtype tr ⟨w, []⟩ hnp).1, view_tail]
  rcases hin : inner z qname qtype ⟨w, []⟩ with ⟨r, pt⟩
  obtain ⟨f1, f2⟩ := view_inner_ok z qname qtype w r pt hin
  dsimp only
  generalize view pt.log = v0 at f1 f2
  have ntc {p : Prop} (h : v0.tc = true) : p := absurd (f1.symm.trans h) (by decide)
  rcases r with u | (_ | _) | _ <;> dsimp only
  · exact ⟨f2.imp_right Or.inr, ntc⟩
  · exact ⟨Or.inr (Or.inl rfl), ntc⟩
  · split
    · exact ⟨Or.inr (Or.inl rfl), ntc⟩
    · next htr =>
      refine ⟨f2.imp_right Or.inr, fun _ => ⟨?_, rfl, rfl, rfl⟩⟩
      cases tr with
      | udp => rfl
      | tcp => exact absurd rfl htr
  · exact ⟨f2.imp_right Or.inr, ntc⟩

end QV.ServerAnswer
