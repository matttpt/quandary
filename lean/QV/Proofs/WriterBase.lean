/-
  QV.Proofs.WriterBase — the monad `M`, `writeAt`, and the writer's primitives by cases.

  `M.bind_eq_ok` inverts a successful bind (`M.bind_total`: no panic and a postcondition through a bind);
  `tryPush`/`write` leave `pushed` / `writeAt` or fail without a change, each outcome with its condition
  (`tryPush_cases`, `write_cases`; `changeSection_cases` near the end of the file); `setHdr`,
  `setExtendedRcode`, `setEdns`, `setTsig`, `setLimit`, `updateTimeSigned` have a `*_cases` theorem each
  that lists the outcomes (`setRcode` has none); `stHdr … stLimit` are the states the header and
  configuration setters leave on success, as pure updates (in `setEdns_cases`, and in the equations of
  `QV.Proofs.WriterView`). `finish_with_mac`: the counts are one write of eight octets (`withCounts`,
  `withCounts_eq`), then `finishOpt` and `finishTsig` run from that state (`finishWithMac_eq`, for success
  `finishWithMac_eq_ok`); each of the two is nothing or one `add_rr` on a state with the reserved room
  released (`finishOpt_ok_inv`, `finishTsig_some`, `finishTsig_ok_inv`; `finishMac` is the MAC computed).
  A call inside a `Session` (`liftW`, `withHv`); `restore`, the state `with_rollback` leaves after a failure.
-/
import QV.Model.Writer
import QV.Proofs.Wire

namespace QV.Writer
open QV QV.Wire

@[simp] theorem M.bind_apply {α β} (x : M α) (f : α → M β) (s : State) :
    (x >>= f) s = match x s with
      | (.ok a, s') => f a s'
      | (.err e, s') => (.err e, s')
      | (.panic, s') => (.panic, s') := rfl

/-- a bind succeeds exactly when both halves do -/
theorem M.bind_eq_ok {α β} {x : M α} {f : α → M β} {s s' : State} {b : β} :
    (x >>= f) s = (.ok b, s') ↔ ∃ a s1, x s = (.ok a, s1) ∧ f a s1 = (.ok b, s') := by
  rw [M.bind_apply]
  cases hx : x s with
  | mk r s1 =>
    cases r with
    | ok a => exact ⟨fun h => ⟨a, s1, rfl, h⟩, fun ⟨_, _, h1, h2⟩ => by cases h1; exact h2⟩
    | err e => exact ⟨fun h => (by cases h), fun ⟨_, _, h1, _⟩ => by cases h1⟩
    | panic => exact ⟨fun h => (by cases h), fun ⟨_, _, h1, _⟩ => by cases h1⟩

/-- no panic, and a postcondition on success, through a bind -/
theorem M.bind_total {α β} {f : M α} {g : α → M β} {s : State} {Q : β → State → Prop}
    (hf : (f s).1 ≠ .panic)
    (hg : ∀ a s1, f s = (.ok a, s1) → (g a s1).1 ≠ .panic ∧ ∀ b s', g a s1 = (.ok b, s') → Q b s') :
    ((f >>= g) s).1 ≠ .panic ∧ ∀ b s', (f >>= g) s = (.ok b, s') → Q b s' := by
  rw [M.bind_apply]
  cases hfs : f s with
  | mk r s1 =>
    rw [hfs] at hf
    cases r with
    | ok a => exact hg a s1 hfs
    | err e => exact ⟨by simp, fun _ _ h => by cases h⟩
    | panic => exact absurd rfl hf

theorem M.bind_assoc {α β γ} (x : M α) (f : α → M β) (g : β → M γ) :
    (x >>= f) >>= g = x >>= fun a => f a >>= g := by
  funext s
  simp only [M.bind_apply]
  cases x s with
  | mk r s' => cases r <;> rfl

@[simp] theorem M.pure_apply {α} (a : α) (s : State) : (pure a : M α) s = (.ok a, s) := rfl
@[simp] theorem M.fail_apply {α} (e : WriterErr) (s : State) : (M.fail e : M α) s = (.err e, s) := rfl
@[simp] theorem M.panic_apply {α} (s : State) : (M.panic : M α) s = (.panic, s) := rfl
@[simp] theorem M.get_apply (s : State) : M.get s = (.ok s, s) := rfl
@[simp] theorem M.gets_apply {α} (f : State → α) (s : State) : M.gets f s = (.ok (f s), s) := rfl
@[simp] theorem M.modify_apply (f : State → State) (s : State) : M.modify f s = (.ok (), f s) := rfl

@[simp] theorem writeAt_size (a : Bytes) (pos : Nat) (d : List UInt8) :
    (writeAt a pos d).size = a.size := by
  induction d generalizing a pos with
  | nil => rfl
  | cons b bs ih => simp [writeAt, ih]

theorem writeAt_get_lt (a : Bytes) (pos : Nat) (d : List UInt8) (i : Nat) (h : i < pos) :
    (writeAt a pos d)[i]? = a[i]? := by
  induction d generalizing a pos with
  | nil => rfl
  | cons b bs ih =>
    simp only [writeAt]
    rw [ih _ _ (by omega)]
    simp [Array.getElem?_setIfInBounds]
    omega

theorem writeAt_get_ge (a : Bytes) (pos : Nat) (d : List UInt8) (i : Nat) (h : pos + d.length ≤ i) :
    (writeAt a pos d)[i]? = a[i]? := by
  induction d generalizing a pos with
  | nil => rfl
  | cons b bs ih =>
    simp only [writeAt]
    rw [ih _ _ (by simp at h; omega)]
    simp [Array.getElem?_setIfInBounds]
    simp at h; omega

theorem writeAt_get_in (a : Bytes) (pos : Nat) (d : List UInt8) (i : Nat) (h : i < d.length)
    (hs : pos + d.length ≤ a.size) : (writeAt a pos d)[pos + i]? = d[i]? := by
  induction d generalizing a pos i with
  | nil => simp at h
  | cons b bs ih =>
    simp only [writeAt]
    cases i with
    | zero =>
      rw [writeAt_get_lt _ _ _ _ (by omega)]
      simp [Array.getElem?_setIfInBounds]
      simp at hs; omega
    | succ j =>
      have := ih (a.setIfInBounds pos b) (pos + 1) j (by simp at h; omega) (by simp at hs ⊢; omega)
      rw [show pos + (j + 1) = pos + 1 + j by omega, this]
      simp

/-- consecutive writes are one write -/
theorem writeAt_append (d1 d2 : List UInt8) : ∀ (a : Bytes) (pos : Nat),
    writeAt (writeAt a pos d1) (pos + d1.length) d2 = writeAt a pos (d1 ++ d2) := by
  induction d1 with
  | nil => intro a pos; rfl
  | cons b bs ih =>
    intro a pos
    simp only [writeAt, List.cons_append, List.length_cons]
    rw [← ih]
    congr 1
    omega

/-! ### the primitives, by cases -/

/-- the state after `data` was pushed -/
def pushed (s : State) (d : List UInt8) : State :=
  { s with octets := writeAt s.octets s.cursor d, cursor := s.cursor + d.length }

/-- the three outcomes of `try_push`: a panic, `Truncation` for lack of room, or `pushed` -/
theorem tryPush_cases (d : List UInt8) (s : State) :
    tryPush d s = (.panic, s) ∨ (s.available < s.cursor + d.length ∧ tryPush d s = (.err .Truncation, s)) ∨
    (s.cursor + d.length ≤ s.available ∧ s.cursor + d.length ≤ s.octets.size ∧
      tryPush d s = (.ok (), pushed s d)) := by
  unfold tryPush
  by_cases h1 : s.available < s.cursor
  · rw [if_pos h1]; exact Or.inl rfl
  rw [if_neg h1]
  by_cases h2 : s.available - s.cursor ≥ d.length
  · rw [if_pos h2]
    by_cases h3 : s.cursor + d.length ≤ s.octets.size
    · rw [if_pos h3]; exact Or.inr (Or.inr ⟨by omega, h3, rfl⟩)
    · rw [if_neg h3]; exact Or.inl rfl
  · rw [if_neg h2]; exact Or.inr (Or.inl ⟨by omega, rfl⟩)

/-- `write` stores the octets, or panics and changes nothing -/
theorem write_cases (pos : Nat) (d : List UInt8) (s : State) :
    write pos d s = (.panic, s) ∨
    (pos + d.length ≤ s.octets.size ∧ write pos d s = (.ok (), { s with octets := writeAt s.octets pos d })) := by
  unfold write
  by_cases h : pos + d.length ≤ s.octets.size
  · rw [if_pos h]; exact Or.inr ⟨h, rfl⟩
  · rw [if_neg h]; exact Or.inl rfl

theorem pushed_cursor (s : State) (d : List UInt8) : (pushed s d).cursor = s.cursor + d.length := rfl
theorem pushed_available (s : State) (d : List UInt8) : (pushed s d).available = s.available := rfl

/-- `try_push` succeeds exactly when there is room, and then leaves `pushed` -/
theorem tryPush_eq_ok {d : List UInt8} {s s' : State} {u : Unit} :
    tryPush d s = (.ok u, s') ↔
      s.cursor + d.length ≤ s.available ∧ s.cursor + d.length ≤ s.octets.size ∧ s' = pushed s d := by
  constructor
  · intro h
    rcases tryPush_cases d s with e | ⟨_, e⟩ | ⟨h1, h2, e⟩ <;> rw [e] at h <;> cases h
    exact ⟨h1, h2, rfl⟩
  · rintro ⟨h1, h2, rfl⟩
    unfold tryPush
    rw [if_neg (by omega), if_pos (by omega), if_pos h2]; rfl

theorem write_eq_ok {pos : Nat} {d : List UInt8} {s s' : State} {u : Unit} :
    write pos d s = (.ok u, s') ↔
      pos + d.length ≤ s.octets.size ∧ s' = { s with octets := writeAt s.octets pos d } := by
  constructor
  · intro h
    rcases write_cases pos d s with e | ⟨h1, e⟩ <;> rw [e] at h <;> cases h
    exact ⟨h1, rfl⟩
  · rintro ⟨h1, rfl⟩
    unfold write
    rw [if_pos h1]

/-- … in front of a continuation -/
theorem write_bind_eq_ok {β} {pos : Nat} {d : List UInt8} {f : Unit → M β} {s s' : State} {b : β} :
    (write pos d >>= f) s = (.ok b, s') ↔
      pos + d.length ≤ s.octets.size ∧ f () { s with octets := writeAt s.octets pos d } = (.ok b, s') := by
  rw [M.bind_eq_ok]
  constructor
  · rintro ⟨_, _, hw, hf⟩
    obtain ⟨h, rfl⟩ := write_eq_ok.mp hw
    exact ⟨h, hf⟩
  · rintro ⟨h, hf⟩
    exact ⟨(), _, write_eq_ok.mpr ⟨h, rfl⟩, hf⟩

theorem M.gets_bind {α β} (f : State → α) (k : α → M β) (s : State) : (M.gets f >>= k) s = k (f s) s := rfl

theorem pushed_pushed (s : State) (a b : List UInt8) : pushed (pushed s a) b = pushed s (a ++ b) := by
  unfold pushed
  simp only [writeAt_append, List.length_append, Nat.add_assoc]

/-- consecutive pushes are one push -/
theorem tryPush_append_ok {a b : List UInt8} {s s' : State} {u : Unit} :
    (tryPush a >>= fun _ => tryPush b) s = (.ok u, s') ↔ tryPush (a ++ b) s = (.ok u, s') := by
  simp only [M.bind_eq_ok, tryPush_eq_ok]
  constructor
  · rintro ⟨_, _, ⟨h1, h2, rfl⟩, h3, h4, rfl⟩
    refine ⟨?_, ?_, pushed_pushed s a b⟩
    · rw [List.length_append]; exact (Nat.add_assoc ..).symm ▸ h3
    · rw [List.length_append]; simpa [pushed, Nat.add_assoc] using h4
  · rintro ⟨h1, h2, rfl⟩
    rw [List.length_append] at h1 h2
    refine ⟨(), _, ⟨by omega, by omega, rfl⟩, ?_, ?_, (pushed_pushed s a b).symm⟩
    · show s.cursor + a.length + b.length ≤ s.available; omega
    · show s.cursor + a.length + b.length ≤ (writeAt _ _ _).size; rw [writeAt_size]; omega

/-- … also in front of a continuation -/
theorem tryPush_tryPush_ok {a b : List UInt8} {β} {k : M β} {s s' : State} {r : β} :
    (tryPush a >>= fun _ => tryPush b >>= fun _ => k) s = (.ok r, s') ↔
      (tryPush (a ++ b) >>= fun _ => k) s = (.ok r, s') := by
  rw [← M.bind_assoc, M.bind_eq_ok, M.bind_eq_ok]
  simp only [tryPush_append_ok]

/-! ### the public calls: what each outcome found and did, the successful state as a pure update -/

/-- `octets[i] = f(octets[i])` -/
def stHdr (i : Nat) (f : UInt8 → UInt8) (s : State) : State :=
  { s with octets := s.octets.setIfInBounds i (f (s.octets.getD i 0)) }

/-- `set_rcode` -/
def stRcode (rc : Nat) (s : State) : State :=
  let s1 := stHdr 3 (fun b => (b &&& ~~~ (15 : UInt8)) ||| UInt8.ofNat rc) s
  match s1.edns with
  | some e => { s1 with edns := some { e with upper := 0 } }
  | none => s1

/-- `set_extended_rcode` on an EDNS response -/
def stXRcode (raw : Nat) (e : Edns) (s : State) : State :=
  { stHdr 3 (fun b => (b &&& ~~~ (15 : UInt8)) ||| (UInt8.ofNat (raw % 256) &&& 15)) s with
    edns := some { e with upper := (raw / 16) % 256 } }

/-- `set_edns` -/
def stEdns (payload : Nat) (s : State) : State :=
  { s with arcount := s.arcount + 1, available := s.available - Gen.OPT_RECORD_SIZE, edns := some ⟨payload, 0⟩ }

/-- `set_limit` upwards -/
def stLimit (nl : Nat) (s : State) : State :=
  { s with limit := nl, available := s.available + (nl - s.limit) }

/-- `set_hdr` replaces one octet, or panics and changes nothing -/
theorem setHdr_cases (i : Nat) (f : UInt8 → UInt8) (s : State) :
    setHdr i f s = (.panic, s) ∨
    ∃ o, o.size = s.octets.size ∧ setHdr i f s = (.ok (), { s with octets := o }) := by
  unfold setHdr
  by_cases h : i < s.octets.size
  · rw [dif_pos h]; exact Or.inr ⟨_, Array.size_set .., rfl⟩
  · rw [dif_neg h]; exact Or.inl rfl

/-- `set_extended_rcode` refuses without EDNS or beyond twelve bits; otherwise it is `set_hdr` on the RCODE
    octet — whose panic it passes on — followed by the upper bits in the EDNS slot -/
theorem setExtendedRcode_cases (raw : Nat) (s : State) :
    (s.edns = none ∧ setExtendedRcode raw s = (.err .NotEdns, s)) ∨
    ∃ e, s.edns = some e ∧
      ((4095 < raw ∧ setExtendedRcode raw s = (.err .ExtendedRcodeOverflow, s)) ∨
       raw ≤ 4095 ∧ ∃ r s1, setHdr Gen.RCODE_BYTE (fun b => (b &&& ~~~ (UInt8.ofNat Gen.RCODE_MASK)) |||
            (UInt8.ofNat (raw % 256) &&& UInt8.ofNat Gen.RCODE_MASK)) s = (r, s1) ∧
          ((r = .panic ∧ s1 = s ∧ setExtendedRcode raw s = (.panic, s)) ∨
           (r = .ok () ∧ setExtendedRcode raw s =
              (.ok (), { s1 with edns := some { e with upper := raw / 16 % 256 } })))) := by
  unfold setExtendedRcode
  simp only [M.bind_apply, M.gets_apply]
  cases he : s.edns with
  | none => exact Or.inl ⟨rfl, rfl⟩
  | some e =>
    refine Or.inr ⟨e, rfl, ?_⟩
    by_cases hv : raw > 4095
    · simp only [if_pos hv]; exact Or.inl ⟨hv, rfl⟩
    · simp only [if_neg hv, M.bind_apply]
      refine Or.inr ⟨by omega, ?_⟩
      rcases setHdr_cases Gen.RCODE_BYTE (fun b => (b &&& ~~~ (UInt8.ofNat Gen.RCODE_MASK)) |||
          (UInt8.ofNat (raw % 256) &&& UInt8.ofNat Gen.RCODE_MASK)) s with h | ⟨o, _, h⟩ <;> rw [h]
      · exact ⟨_, _, rfl, Or.inl ⟨rfl, rfl, rfl⟩⟩
      · exact ⟨_, _, rfl, Or.inr ⟨rfl, rfl⟩⟩

/-- `set_edns`: refused — the state untouched — when EDNS is set already, when the OPT record does not fit or when
    ARCOUNT would overflow; else `stEdns` -/
theorem setEdns_cases (p : Nat) (s : State) :
    (∃ e, setEdns p s = (.err e, s) ∧ ((e = .AlreadyEdns ∧ s.edns.isSome = true) ∨
      (e = .Truncation ∧ s.available < s.cursor + Gen.OPT_RECORD_SIZE) ∨ (e = .CountOverflow ∧ 65535 < s.arcount + 1))) ∨
    (s.edns = none ∧ s.cursor + Gen.OPT_RECORD_SIZE ≤ s.available ∧ s.arcount + 1 ≤ 65535 ∧
      setEdns p s = (.ok (), stEdns p s)) := by
  unfold setEdns
  by_cases h1 : s.edns.isSome = true
  · rw [if_pos h1]; exact .inl ⟨_, rfl, .inl ⟨rfl, h1⟩⟩
  have hn : s.edns = none := by cases he : s.edns with | none => rfl | some e => rw [he] at h1; exact absurd rfl h1
  rw [if_neg h1]
  by_cases h2 : s.cursor + Gen.OPT_RECORD_SIZE > s.available
  · rw [if_pos h2]; exact .inl ⟨_, rfl, .inr (.inl ⟨rfl, h2⟩)⟩
  rw [if_neg h2]
  by_cases h3 : s.arcount + 1 > 65535
  · rw [if_pos h3]; exact .inl ⟨_, rfl, .inr (.inr ⟨rfl, h3⟩)⟩
  rw [if_neg h3]; exact .inr ⟨hn, Nat.le_of_not_gt h2, Nat.le_of_not_gt h3, rfl⟩

/-- `set_tsig`: the same three refusals for the TSIG slot and the room `reservedLenOf mode rr`; else the room
    is reserved and the slot filled -/
theorem setTsig_cases (mode : TsigMode) (rr : TsigRr) (s : State) :
    (∃ e, setTsig mode rr s = (.err e, s) ∧ ((e = .AlreadyTsig ∧ s.tsig.isSome = true) ∨
      (e = .Truncation ∧ s.available < s.cursor + reservedLenOf mode rr) ∨ (e = .CountOverflow ∧ 65535 < s.arcount + 1))) ∨
    (s.tsig = none ∧ s.cursor + reservedLenOf mode rr ≤ s.available ∧ s.arcount + 1 ≤ 65535 ∧
      setTsig mode rr s = (.ok (), { s with
        arcount := s.arcount + 1, available := s.available - reservedLenOf mode rr,
        tsig := some ⟨mode, reservedLenOf mode rr, rr⟩ })) := by
  unfold setTsig
  by_cases h1 : s.tsig.isSome = true
  · rw [if_pos h1]; exact .inl ⟨_, rfl, .inl ⟨rfl, h1⟩⟩
  have hn : s.tsig = none := by cases he : s.tsig with | none => rfl | some e => rw [he] at h1; exact absurd rfl h1
  rw [if_neg h1]
  by_cases h2 : s.cursor + reservedLenOf mode rr > s.available
  · rw [if_pos h2]; exact .inl ⟨_, rfl, .inr (.inl ⟨rfl, h2⟩)⟩
  rw [if_neg h2]
  by_cases h3 : s.arcount + 1 > 65535
  · rw [if_pos h3]; exact .inl ⟨_, rfl, .inr (.inr ⟨rfl, h3⟩)⟩
  rw [if_neg h3]; exact .inr ⟨hn, Nat.le_of_not_gt h2, Nat.le_of_not_gt h3, rfl⟩

/-- `set_limit` either panics — not under the size part of the invariant —, or moves `limit` and `available` by
    the same amount within the buffer (the bounds, and the new limit: the request clamped between what is used
    and the buffer — under the size part of the invariant) -/
theorem setLimit_cases (v : Nat) (s : State) :
    (¬(s.cursor ≤ s.available ∧ s.available ≤ s.limit ∧ s.limit ≤ s.octets.size) ∧ setLimit v s = (.panic, s)) ∨
    ∃ l a, setLimit v s = (.ok (), { s with limit := l, available := a }) ∧
      (s.cursor ≤ s.available → s.available ≤ s.limit → s.limit ≤ s.octets.size →
        s.cursor ≤ a ∧ a ≤ l ∧ l ≤ s.octets.size ∧ l - a = s.limit - s.available ∧
        l = min s.octets.size (max v (s.cursor + (s.limit - s.available)))) := by
  unfold setLimit
  dsimp only
  by_cases h1 : v ≥ s.limit
  · rw [if_pos h1]
    by_cases h2 : min v s.octets.size < s.limit
    · rw [if_pos h2]; exact Or.inl ⟨by omega, rfl⟩
    · rw [if_neg h2]; exact Or.inr ⟨_, _, rfl, fun _ _ _ => by omega⟩
  · rw [if_neg h1]
    by_cases h2 : s.cursor + s.limit < s.available
    · rw [if_pos h2]; exact Or.inl ⟨by omega, rfl⟩
    rw [if_neg h2]
    by_cases h3 : s.limit < max v (s.cursor + s.limit - s.available)
    · rw [if_pos h3]; exact Or.inl ⟨by omega, rfl⟩
    rw [if_neg h3]
    by_cases h4 : s.available < s.limit - max v (s.cursor + s.limit - s.available)
    · rw [if_pos h4]; exact Or.inl ⟨by omega, rfl⟩
    · rw [if_neg h4]; exact Or.inr ⟨_, _, rfl, fun _ _ _ => by omega⟩

/-- `update_time_signed` refuses without TSIG; otherwise only the time in the pending TSIG record changes -/
theorem updateTimeSigned_cases (t : List UInt8) (s : State) :
    (s.tsig = none ∧ updateTimeSigned t s = (.err .NotTsig, s)) ∨
    ∃ ts, s.tsig = some ts ∧ updateTimeSigned t s =
      (.ok (), { s with tsig := some { ts with rr := { ts.rr with timeSigned := t } } }) := by
  unfold updateTimeSigned
  cases h : s.tsig with
  | none => exact .inl ⟨rfl, rfl⟩
  | some ts => exact .inr ⟨ts, rfl, rfl⟩

/-- `unwrap` turns an `Err` into a panic and changes nothing else -/
theorem unwrap_snd {α} (f : M α) (s : State) : (unwrap f s).2 = (f s).2 := by
  unfold unwrap
  split
  · rename_i heq; rw [heq]
  · rfl

theorem unwrap_eq_ok {α} {f : M α} {s s' : State} {a : α} : unwrap f s = (.ok a, s') ↔ f s = (.ok a, s') := by
  unfold unwrap
  rcases f s with ⟨(x | e | _), s1⟩
  · exact Iff.rfl
  · exact ⟨(fun h => by cases h), (fun h => by cases h)⟩
  · exact Iff.rfl

theorem unwrap_ne_err {α} (f : M α) (s : State) (e : WriterErr) : (unwrap f s).1 ≠ .err e := by
  unfold unwrap
  rcases f s with ⟨(x | e' | _), s1⟩ <;> nofun

/-- the MAC `finish` computes: none in `Unsigned` mode, otherwise `macFn` applied to the message so far -/
def finishMac (macFn : Tsig → List UInt8 → List UInt8) (ts : Tsig) (message : List UInt8) :
    Option (List UInt8) :=
  match ts.mode with
  | .unsigned _ => none
  | _ => some (macFn ts message)

/-- the four counts written into the header -/
def withCounts (s : State) : Bytes :=
  writeAt (writeAt (writeAt (writeAt s.octets 4 (u16be s.qdcount)) 6 (u16be s.ancount)) 8 (u16be s.nscount)) 10
    (u16be s.arcount)

/-- the four counts are written as one run of eight octets -/
theorem withCounts_eq (s : State) : withCounts s =
    writeAt s.octets 4 (u16be s.qdcount ++ (u16be s.ancount ++ (u16be s.nscount ++ u16be s.arcount))) := by
  rw [← writeAt_append, ← writeAt_append, ← writeAt_append]; rfl

theorem withCounts_size (s : State) : (withCounts s).size = s.octets.size := by
  rw [withCounts_eq, writeAt_size]

/-- the counts go to octets 4 … 11 -/
theorem withCounts_getElem? (s : State) (i : Nat) (hi : i < 4 ∨ 12 ≤ i) : (withCounts s)[i]? = s.octets[i]? := by
  rw [withCounts_eq]
  rcases hi with hi | hi
  · exact writeAt_get_lt _ _ _ _ hi
  · exact writeAt_get_ge _ _ _ _ hi

/-- the first part of `finish_with_mac` succeeds exactly when the buffer holds a header, and leaves `withCounts` -/
theorem finishCounts_eq_ok {s s' : State} {u : Unit} :
    finishCounts s.qdcount s.ancount s.nscount s.arcount s = (.ok u, s') ↔
      12 ≤ s.octets.size ∧ s' = { s with octets := withCounts s } := by
  unfold finishCounts withCounts
  -- the counts as opaque lists of two octets
  have l1 : (u16be s.qdcount).length = 2 := rfl
  have l2 : (u16be s.ancount).length = 2 := rfl
  have l3 : (u16be s.nscount).length = 2 := rfl
  have l4 : (u16be s.arcount).length = 2 := rfl
  generalize u16be s.qdcount = d1 at l1 ⊢
  generalize u16be s.ancount = d2 at l2 ⊢
  generalize u16be s.nscount = d3 at l3 ⊢
  generalize u16be s.arcount = d4 at l4 ⊢
  have c : Gen.QDCOUNT_START = 4 ∧ Gen.ANCOUNT_START = 6 ∧ Gen.NSCOUNT_START = 8 ∧ Gen.ARCOUNT_START = 10 :=
    ⟨rfl, rfl, rfl, rfl⟩
  simp only [write_bind_eq_ok, write_eq_ok, writeAt_size, l1, l2, l3, l4, c.1, c.2.1, c.2.2.1, c.2.2.2]
  exact ⟨fun ⟨_, _, _, h, e⟩ => ⟨h, e⟩, fun ⟨h, e⟩ => ⟨by omega, by omega, by omega, h, e⟩⟩

/-- a successful `finishOpt`: nothing without EDNS; otherwise `add_rr` of the OPT record succeeded on the state
    with the reserved room released -/
theorem finishOpt_ok_inv {edns : Option Edns} {s s1 : State} (h : finishOpt edns s = (.ok (), s1)) :
    (edns = none ∧ s1 = s) ∨ (∃ e, edns = some e ∧
      addRr .none WName.root T_OPT e.payload ((e.upper * 16777216) % 4294967296) []
        { s with available := s.available + Gen.OPT_RECORD_SIZE } = (.ok (), s1)) := by
  unfold finishOpt at h
  cases edns with
  | none => cases h; exact Or.inl ⟨rfl, rfl⟩
  | some e =>
    simp only [M.bind_apply, M.modify_apply] at h
    exact Or.inr ⟨e, rfl, unwrap_eq_ok.mp h⟩

/-- `finishTsig` with a TSIG record to append, the cursor lying in the buffer: the MAC is `finishMac` of the message
    so far; the slot is emptied, the reserved room released, the record added -/
theorem finishTsig_some (macFn : Tsig → List UInt8 → List UInt8) (ts : Tsig) (s : State) (hc : s.cursor ≤ s.octets.size) :
    finishTsig macFn (some ts) s = (do
      M.modify fun s => { s with tsig := none, available := s.available + ts.reservedLen }
      unwrap (addRr .none ts.rr.keyName T_TSIG QC_ANY (ttlFrom 0) (tsigRdata ts.rr (tsigAlgName ts.mode)
        ((finishMac macFn ts (s.octets.extract 0 s.cursor).toList).getD [])))
      let len ← M.gets (·.cursor)
      pure (len, finishMac macFn ts (s.octets.extract 0 s.cursor).toList) : M (Nat × Option (List UInt8))) s := by
  unfold finishTsig finishMac
  simp only [M.bind_apply, M.gets_apply, if_neg (Nat.not_lt.mpr hc)]
  cases ts.mode <;> rfl

/-- a successful `finishTsig`: nothing without TSIG; otherwise the cursor lay in the buffer, the MAC is
    `finishMac` of the message so far, and `add_rr` of the TSIG record succeeded on the state with the slot
    emptied and the reserved room released; the length returned is the final cursor -/
theorem finishTsig_ok_inv {macFn : Tsig → List UInt8 → List UInt8} {tsig : Option Tsig} {s s' : State}
    {len : Nat} {mac : Option (List UInt8)} (h : finishTsig macFn tsig s = (.ok (len, mac), s')) :
    (tsig = none ∧ s' = s ∧ len = s.cursor ∧ mac = none) ∨ (∃ ts, tsig = some ts ∧ s.cursor ≤ s.octets.size ∧
      mac = finishMac macFn ts (s.octets.extract 0 s.cursor).toList ∧ len = s'.cursor ∧
      addRr .none ts.rr.keyName T_TSIG QC_ANY (ttlFrom 0) (tsigRdata ts.rr (tsigAlgName ts.mode) (mac.getD []))
        { s with tsig := none, available := s.available + ts.reservedLen } = (.ok (), s')) := by
  cases tsig with
  | none => cases h; exact Or.inl ⟨rfl, rfl, rfl, rfl⟩
  | some ts =>
    by_cases hc : s.cursor ≤ s.octets.size
    · rw [finishTsig_some macFn ts s hc] at h
      simp only [M.bind_apply, M.modify_apply] at h
      generalize hmc : finishMac macFn ts (s.octets.extract 0 s.cursor).toList = mc at h
      rcases hu : unwrap (addRr .none ts.rr.keyName T_TSIG QC_ANY (ttlFrom 0)
        (tsigRdata ts.rr (tsigAlgName ts.mode) (mc.getD [])))
        { s with tsig := none, available := s.available + ts.reservedLen } with ⟨(u | e | _), s1⟩ <;>
        rw [hu] at h <;> cases h
      exact Or.inr ⟨ts, rfl, hc, hmc.symm, rfl, unwrap_eq_ok.mp hu⟩
    · unfold finishTsig at h
      simp only [M.bind_apply, M.gets_apply, if_pos (Nat.lt_of_not_le hc)] at h
      cases h

/-- `finish_with_mac` on a buffer that holds a header: the counts are written, then `finishOpt` and `finishTsig`
    run with the EDNS and TSIG slots as they stood at the start -/
theorem finishWithMac_eq (macFn : Tsig → List UInt8 → List UInt8) (s : State) (hsz : 12 ≤ s.octets.size) :
    finishWithMac macFn s =
      (finishOpt s.edns >>= fun _ => finishTsig macFn s.tsig) { s with octets := withCounts s } := by
  show (finishCounts s.qdcount s.ancount s.nscount s.arcount >>= fun _ =>
    finishOpt s.edns >>= fun _ => finishTsig macFn s.tsig) s = _
  rw [M.bind_apply, finishCounts_eq_ok (u := ()).mpr ⟨hsz, rfl⟩]

/-- … and it succeeds exactly when the buffer holds a header and both of them succeed -/
theorem finishWithMac_eq_ok {macFn : Tsig → List UInt8 → List UInt8} {s sF : State} {r : Nat × Option (List UInt8)} :
    finishWithMac macFn s = (.ok r, sF) ↔ 12 ≤ s.octets.size ∧ ∃ s1,
      finishOpt s.edns { s with octets := withCounts s } = (.ok (), s1) ∧ finishTsig macFn s.tsig s1 = (.ok r, sF) := by
  show (finishCounts s.qdcount s.ancount s.nscount s.arcount >>= fun _ =>
    finishOpt s.edns >>= fun _ => finishTsig macFn s.tsig) s = _ ↔ _
  simp only [M.bind_eq_ok, finishCounts_eq_ok]
  constructor
  · rintro ⟨_, _, ⟨hsz, rfl⟩, _, s1, h1, h2⟩; exact ⟨hsz, s1, h1, h2⟩
  · rintro ⟨hsz, s1, h1, h2⟩; exact ⟨(), _, ⟨hsz, rfl⟩, (), s1, h1, h2⟩

/-- `finish` succeeds exactly when `finish_with_mac` does: the message is the buffer up to the length returned -/
theorem finish_eq_ok {s : State} {macFn : Tsig → List UInt8 → List UInt8} {m : Bytes} {mac : Option (List UInt8)} :
    finish s macFn = .ok (m, mac) ↔
      ∃ len sF, finishWithMac macFn s = (.ok (len, mac), sF) ∧ m = sF.octets.extract 0 len := by
  unfold finish
  rcases finishWithMac macFn s with ⟨(⟨len, mc⟩ | e | _), sF⟩
  · exact ⟨fun h => by cases h; exact ⟨_, _, rfl, rfl⟩, fun ⟨_, _, h, hm⟩ => by cases h; rw [hm]⟩
  · exact ⟨nofun, fun ⟨_, _, h, _⟩ => by cases h⟩
  · exact ⟨nofun, fun ⟨_, _, h, _⟩ => by cases h⟩

/-! ### a call in a session -/

theorem liftW_fst (ss : Session) (f : M Unit) : (liftW ss f).1 = (f ss.w).1 := by
  unfold liftW
  cases f ss.w with
  | mk r s1 => rfl

theorem liftW_w (ss : Session) (f : M Unit) : (liftW ss f).2.w = (f ss.w).2 := by
  unfold liftW
  cases f ss.w with
  | mk r s1 => rfl

theorem withHv_fst (ss : Session) (slot : Option Nat) (f : M Unit) :
    (withHv ss slot f).1 = (f { ss.w with hv := slot.map (hvGet ss.hvs) }).1 := by
  unfold withHv
  dsimp only

theorem withHv_w (ss : Session) (slot : Option Nat) (f : M Unit) :
    (withHv ss slot f).2.w = { (f { ss.w with hv := slot.map (hvGet ss.hvs) }).2 with hv := none } := by
  unfold withHv
  dsimp only

/-! ### the section switch, label starts, rollback -/

/-- `change_section_to_*` only ever touches the section -/
theorem changeSection_cases (sec : RrSection) (s : State) :
    changeSection sec s = (.err .OutOfOrder, s) ∨ ∃ x, changeSection sec s = (.ok (), { s with sect := x }) := by
  unfold changeSection
  cases sec <;> cases hs : s.sect <;> first | exact Or.inl rfl | exact Or.inr ⟨_, rfl⟩ | exact Or.inr ⟨s.sect, by rw [← hs]⟩

theorem labelStartsFrom_le (c : Nat) (ls : List Label) : ∀ g ∈ labelStartsFrom c ls, c ≤ g := by
  induction ls generalizing c with
  | nil => intro g hg; simp [labelStartsFrom] at hg
  | cons l ls ih =>
    intro g hg
    simp only [labelStartsFrom, List.mem_cons] at hg
    rcases hg with rfl | hg
    · exact Nat.le_refl _
    · have := ih _ g hg; omega

/-- what `with_rollback` restores after a failure -/
def restore (s s' : State) : State :=
  { s' with sect := s.sect, cursor := s.cursor, qname := s.qname,
            mostRecentOwner := s.mostRecentOwner,
            mostRecentNameInRdata := s.mostRecentNameInRdata,
            gLabels := s.gLabels, gPtrs := s.gPtrs, gCtx := s.gCtx }

theorem withRollback_apply {α} (f : M α) (s : State) :
    withRollback f s = match f s with
      | (.ok a, s') => (.ok a, s')
      | (.err e, s') => (.err e, restore s s')
      | (.panic, s') => (.panic, s') := rfl

theorem withRollback_fst {α} (f : M α) (s : State) : (withRollback f s).1 = (f s).1 := by
  rw [withRollback_apply]
  cases f s with
  | mk r s' => cases r <;> rfl

end QV.Writer
