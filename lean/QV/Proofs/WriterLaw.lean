/-
  QV.Proofs.WriterLaw — what the writer's internal routines can do to the state, said once.

  `Steps R E f`: from every state `s`, `f` ends (whatever its outcome) in a state `R`-related to `s`,
  and the only errors it reports are in `E`. A *law* lists the primitive state changes of a layer of
  routines that `R` must respect: `NameLaw` for the name writers, `RecLaw` for `add_rr`/`add_rrset`
  and the body of `add_question`, `OpLaw` for the public record calls; here each primitive is shown to
  be a `Steps` under its law. The routines built from them follow in QV.Proofs.WriterRoutine, so a
  judgement of this shape about any of them is a law: a handful of one-line facts about `R`.
-/
import QV.Proofs.WriterBase

namespace QV.Writer
open QV QV.Wire

/-- from `s`, `f` ends in a state `R`-related to `s` and reports only errors in `E` -/
def StepsAt (R : State → State → Prop) (E : WriterErr → Prop) {α} (f : M α) (s : State) : Prop :=
  R s (f s).2 ∧ ∀ e, (f s).1 = .err e → E e

/-- … from every state -/
def Steps (R : State → State → Prop) (E : WriterErr → Prop) {α} (f : M α) : Prop := ∀ s, StepsAt R E f s

/-- `R` is reflexive and transitive -/
structure Pre (R : State → State → Prop) : Prop where
  refl : ∀ s, R s s
  trans : ∀ {a b c}, R a b → R b c → R a c

namespace Pre
variable {R : State → State → Prop} {E : WriterErr → Prop} {α β : Type}

theorem pure (P : Pre R) (a : α) : Steps R E (Pure.pure a : M α) := fun s => ⟨P.refl s, fun _ h => by cases h⟩
theorem panic (P : Pre R) : Steps R E (M.panic : M α) := fun s => ⟨P.refl s, fun _ h => by cases h⟩
theorem gets (P : Pre R) (f : State → α) : Steps R E (M.gets f) := fun s => ⟨P.refl s, fun _ h => by cases h⟩
theorem fail (P : Pre R) {e : WriterErr} (he : E e) : Steps R E (M.fail e : M α) :=
  fun s => ⟨P.refl s, fun _ h => by cases h; exact he⟩

theorem bindAt (P : Pre R) {f : M α} {g : α → M β} {s : State} (hf : StepsAt R E f s)
    (hg : ∀ a s', f s = (.ok a, s') → StepsAt R E (g a) s') : StepsAt R E (f >>= g) s := by
  unfold StepsAt at hf ⊢
  rw [M.bind_apply]
  rcases hfs : f s with ⟨(a | e | _), s1⟩
  · rw [hfs] at hf
    exact ⟨P.trans hf.1 (hg a s1 hfs).1, (hg a s1 hfs).2⟩
  · rw [hfs] at hf; exact ⟨hf.1, fun e' h => hf.2 e' (by cases h; rfl)⟩
  · rw [hfs] at hf; exact ⟨hf.1, fun _ h => by cases h⟩

theorem bind (P : Pre R) {f : M α} {g : α → M β} (hf : Steps R E f) (hg : ∀ a, Steps R E (g a)) :
    Steps R E (f >>= g) := fun s => P.bindAt (hf s) fun a s' _ => hg a s'

/-- `M.gets f >>= g` where `g` may rely on what it read -/
theorem getsBind {f : State → α} {g : α → M β} (h : ∀ s, StepsAt R E (g (f s)) s) : Steps R E (M.gets f >>= g) := h
theorem getsBindAt {f : State → α} {g : α → M β} {s : State} (h : StepsAt R E (g (f s)) s) :
    StepsAt R E (M.gets f >>= g) s := h

end Pre

theorem Steps.modify {R : State → State → Prop} {E : WriterErr → Prop} (f : State → State) (h : ∀ s, R s (f s)) :
    Steps R E (M.modify f) := fun s => ⟨h s, fun _ h => by cases h⟩

theorem Steps.ite {R : State → State → Prop} {E : WriterErr → Prop} {α} {c : Prop} [Decidable c] {x y : M α}
    (hx : Steps R E x) (hy : Steps R E y) : Steps R E (if c then x else y) := by
  split <;> assumption

theorem Steps.err {R : State → State → Prop} {E : WriterErr → Prop} {α} {f : M α} (h : Steps R E f) {s : State}
    {e : WriterErr} (he : (f s).1 = .err e) : E e := (h s).2 e he

/-- `f` reports no error outside `S` -/
abbrev Only {α} (S : WriterErr → Prop) (f : M α) : Prop := Steps (fun _ _ => True) S f

/-! ### the name writers -/

/-- what a name writer does: it pushes octets at the cursor, records label starts at or above the
    cursor it pushed at, logs pointers; its only error is `Truncation` -/
structure NameLaw (R : State → State → Prop) (E : WriterErr → Prop) : Prop extends Pre R where
  trunc : E .Truncation
  push : ∀ s d gl, s.cursor + d.length ≤ s.available → s.cursor + d.length ≤ s.octets.size →
    (∀ g ∈ gl, s.cursor ≤ g) → R s { pushed s d with gLabels := gl ++ s.gLabels }
  ptr : ∀ s ev, R s { s with gPtrs := ev :: s.gPtrs }

namespace NameLaw
variable {R : State → State → Prop} {E : WriterErr → Prop} (L : NameLaw R E)
include L

/-- `try_push` of (part of) a name followed by the ghost record of its label positions -/
theorem pushLabels (d : List UInt8) (l : List Label) (b : Bool) (s : State) :
    StepsAt R E (Writer.tryPush d >>= fun _ => ghostLabels s.cursor l b) s := by
  unfold StepsAt
  rw [M.bind_apply]
  rcases tryPush_cases d s with h | ⟨_, h⟩ | ⟨h1, h2, h⟩ <;> rw [h]
  · exact ⟨L.refl s, fun _ h => by cases h⟩
  · exact ⟨L.refl s, fun _ h => by cases h; exact L.trunc⟩
  · refine ⟨L.push s d _ h1 h2 fun g hg => ?_, fun _ h => by cases h⟩
    rcases List.mem_append.mp hg with hg | hg
    · split at hg
      · cases List.mem_singleton.mp hg; exact Nat.le_add_right _ _
      · cases hg
    · exact labelStartsFrom_le _ _ g (List.mem_reverse.mp hg)

theorem tryPush (d : List UInt8) : Steps R E (Writer.tryPush d) := by
  intro s
  rcases tryPush_cases d s with h | ⟨_, h⟩ | ⟨h1, h2, h⟩ <;> unfold StepsAt <;> rw [h]
  · exact ⟨L.refl s, fun _ h => by cases h⟩
  · exact ⟨L.refl s, fun _ h => by cases h; exact L.trunc⟩
  · exact ⟨L.push s d [] h1 h2 (fun _ h => by cases h), fun _ h => by cases h⟩

end NameLaw

/-! ### records -/

/-- what `add_rr` does besides writing names: it sets the ghost context and the anchors, pushes onto
    the caller's vector, skips the two RDLENGTH octets and later fills them in -/
structure RecLaw (R : State → State → Prop) (E : WriterErr → Prop) : Prop extends NameLaw R E where
  ctx : ∀ s c, R s { s with gCtx := c }
  owner : ∀ s p, R s { s with mostRecentOwner := p }
  inRdata : ∀ s p, R s { s with mostRecentNameInRdata := p }
  qname : ∀ s p, R s { s with qname := p }
  hv : ∀ s v, R s { s with hv := some v }
  skip : ∀ s n, s.cursor + n ≤ s.available → R s { s with cursor := s.cursor + n }
  /-- octets at or above the cursor of the origin, below the present one, are overwritten -/
  patch : ∀ {s s'} pos d, R s s' → s.cursor ≤ pos → pos + d.length ≤ s'.octets.size →
    R s { s' with octets := writeAt s'.octets pos d }

namespace RecLaw
variable {R : State → State → Prop} {E : WriterErr → Prop} (L : RecLaw R E)
include L

theorem setCtx (c : NameCtx) : Steps R E (Writer.setCtx c) := .modify _ fun s => L.ctx s c

theorem hvPush (p : Option Nat) : Steps R E (Writer.hvPush p) := by
  refine .modify _ fun s => ?_
  split
  · split
    · exact L.hv s _
    · exact L.refl s
  · exact L.refl s

/-- RDLENGTH written back: a write at or above the cursor `f` started from, after `f` -/
theorem writeAbove {s s2 : State} (h : R s s2) (pos : Nat) (d : List UInt8) (hp : s.cursor ≤ pos) :
    R s (write pos d s2).2 ∧ ∀ e, (write pos d s2).1 = .err e → E e := by
  rcases write_cases pos d s2 with hw | ⟨hs, hw⟩ <;> rw [hw]
  · exact ⟨h, fun _ h => by cases h⟩
  · exact ⟨L.patch pos d h hp hs, fun _ h => by cases h⟩

/-- two octets left free for RDLENGTH, `body`, then RDLENGTH written back where the cursor was -/
theorem backpatch {body : M Unit} (hb : Steps R E body) : Steps R E (do
    let av ← M.gets (·.available)
    let st ← M.gets (·.cursor)
    if av < st then M.panic
    else if av - st < 2 then M.fail .Truncation
    else do
      M.modify fun s => { s with cursor := s.cursor + 2 }
      body
      let cur' ← M.gets (·.cursor)
      if cur' < st + 2 then M.panic
      else Writer.write st (u16be ((cur' - st - 2) % 65536))) := by
  refine Pre.getsBind fun s => Pre.getsBindAt ?_
  by_cases h1 : s.available < s.cursor
  · rw [if_pos h1]; exact L.panic s
  rw [if_neg h1]
  by_cases h2 : s.available - s.cursor < 2
  · rw [if_pos h2]; exact L.fail L.trunc s
  rw [if_neg h2]
  unfold StepsAt
  simp only [M.bind_apply, M.modify_apply, M.gets_apply]
  have e1 : R s { s with cursor := s.cursor + 2 } := L.skip s 2 (by omega)
  have e2 := hb { s with cursor := s.cursor + 2 }
  unfold StepsAt at e2
  rcases hw : body { s with cursor := s.cursor + 2 } with ⟨(u | e | _), s2⟩ <;> rw [hw] at e2
  · simp only []
    split
    · exact ⟨L.trans e1 e2.1, fun _ h => by cases h⟩
    · exact L.writeAbove (L.trans e1 e2.1) _ _ (Nat.le_refl _)
  · exact ⟨L.trans e1 e2.1, e2.2⟩
  · exact ⟨L.trans e1 e2.1, fun _ h => by cases h⟩

end RecLaw

/-! ### the public record calls -/

/-- what `add_*_rr` and `add_*_rrset` do around that: they move to a section, bump a count, and undo on
    failure what `with_rollback` undoes -/
structure OpLaw (R : State → State → Prop) (E : WriterErr → Prop) : Prop extends RecLaw R E where
  invalid : E .InvalidRdata
  order : E .OutOfOrder
  overflow : E .CountOverflow
  sect : ∀ s x, R s { s with sect := x }
  count : ∀ s sec n, R s (setCount sec n s).2
  rollback : ∀ {s s'}, R s s' → R s (restore s s')

namespace OpLaw
variable {R : State → State → Prop} {E : WriterErr → Prop} (L : OpLaw R E)
include L

theorem changeSection (sec : RrSection) : Steps R E (Writer.changeSection sec) := by
  intro s
  unfold StepsAt
  rcases changeSection_cases sec s with h | ⟨x, h⟩ <;> rw [h]
  · exact ⟨L.refl s, fun _ h => by cases h; exact L.order⟩
  · exact ⟨L.sect s x, fun _ h => by cases h⟩

theorem setCount (sec : RrSection) (n : Nat) : Steps R E (Writer.setCount sec n) :=
  fun s => ⟨L.count s sec n, fun _ h => by cases h⟩

theorem withRollback {α} {f : M α} (hf : Steps R E f) : Steps R E (Writer.withRollback f) := by
  intro s
  have := hf s
  unfold StepsAt at this ⊢
  rw [withRollback_apply]
  rcases hfs : f s with ⟨(a | e | _), s1⟩ <;> rw [hfs] at this
  · exact ⟨this.1, fun _ h => by cases h⟩
  · exact ⟨L.rollback this.1, this.2⟩
  · exact ⟨this.1, fun _ h => by cases h⟩

end OpLaw

/-! ### laws with the trivial relation: which errors occur -/

theorem errNameLaw {S : WriterErr → Prop} (hT : S .Truncation) : NameLaw (fun _ _ => True) S :=
  ⟨⟨fun _ => trivial, fun _ _ => trivial⟩, hT, fun _ _ _ _ _ _ => trivial, fun _ _ => trivial⟩

theorem errLaw {S : WriterErr → Prop} (hT : S .Truncation) : RecLaw (fun _ _ => True) S where
  toNameLaw := errNameLaw hT
  ctx _ _ := trivial
  owner _ _ := trivial
  inRdata _ _ := trivial
  qname _ _ := trivial
  hv _ _ := trivial
  skip _ _ _ := trivial
  patch _ _ _ _ _ := trivial

end QV.Writer
