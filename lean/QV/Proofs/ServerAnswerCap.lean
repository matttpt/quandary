/-
  QV.Proofs.ServerAnswerCap — the errors the answer phase cannot meet (helpers of C05 at full
  strength): besides `Truncation` and `InvalidRdata`, `add_*_rr(set)` can fail with `OutOfOrder`
  and `CountOverflow`, and it can panic. None of these is reachable from the state in which
  `handle_query` is entered:

    * `OutOfOrder`     — the phase adds answer, then authority, then additional records
                         (`rank` of the writer's section never exceeds that of the next call);
    * `CountOverflow`  — every accepted record occupies at least 10 octets (`Nice 10 (addRr …)`)
                         below a limit of at most 65 535 octets, so a count stays below 6 556;
    * panics           — C01 (`handleNonAxfrQueryL_safe`): the handler does not panic, and a logged
                         panic is a panic of the handler (`CapJ`'s third clause).

  On the writer model alone: one judgement `Nice b f` (`f` keeps the section, fails only with
  `Truncation`/`InvalidRdata`, and advances the cursor by at least `b` on success).  `CapJ m r r'` pushes
  `CapPre` through the answer phase of the server model; `noCapErr_of_noTruncation` draws the conclusion
  for `handle_non_axfr_query`; the state in which `handle_message` enters `handle_query` is one of these
  (`QueryReady`, `ScanKeeps`).
-/
import QV.Proofs.ServerAnswerProg
import QV.Proofs.ServerQuery
import QV.Proofs.WriterLayout
import QV.Proofs.WriterLimit

namespace QV.ServerAnswer
open QV QV.Writer QV.Server QV.Zone

/-! ## the writer: `Nice` -/

/-- `f` keeps the section, fails only with `Truncation` or `InvalidRdata`, and advances the
    cursor by at least `b` octets when it succeeds -/
def Nice {α} (b : Nat) (f : M α) : Prop :=
  ∀ s, (f s).2.sect = s.sect ∧
    (∀ e, (f s).1 = .err e → e = .Truncation ∨ e = .InvalidRdata) ∧
    (∀ a, (f s).1 = .ok a → s.cursor + b ≤ (f s).2.cursor)

theorem nice_mono {α} {b b' : Nat} {f : M α} (h : Nice b f) (hb : b' ≤ b) : Nice b' f := by
  intro s
  obtain ⟨h1, h2, h3⟩ := h s
  exact ⟨h1, h2, fun a ha => by have := h3 a ha; omega⟩

theorem nice_bind {α β} {b1 b2 : Nat} {f : M α} {g : α → M β} (hf : Nice b1 f) (hg : ∀ a, Nice b2 (g a)) :
    Nice (b1 + b2) (f >>= g) := by
  intro s
  obtain ⟨h1, h2, h3⟩ := hf s
  simp only [M.bind_apply]
  cases hfs : f s with
  | mk r s1 =>
    rw [hfs] at h1 h2 h3
    cases r with
    | ok a =>
      obtain ⟨g1, g2, g3⟩ := hg a s1
      simp only [] at h1 h3 ⊢
      refine ⟨by rw [g1, h1], g2, fun x hx => ?_⟩
      have := h3 a rfl
      have := g3 x hx
      omega
    | err e =>
      simp only [] at h1 h2 ⊢
      exact ⟨h1, fun e' he' => (by simp only [Out.err.injEq] at he'; subst he'; exact h2 e rfl), fun a ha => by cases ha⟩
    | panic => simp only [] at h1 ⊢; exact ⟨h1, fun e he => (by cases he), fun a ha => by cases ha⟩

theorem nice_bind0 {α β} {b : Nat} {f : M α} {g : α → M β} (hf : Nice 0 f) (hg : ∀ a, Nice b (g a)) :
    Nice b (f >>= g) := by
  have := nice_bind hf hg
  simpa using this

theorem nice_pure {α} (a : α) : Nice 0 (pure a : M α) :=
  fun s => ⟨rfl, fun e he => (by cases he), fun x hx => by simp⟩
theorem nice_panic {α} {b : Nat} : Nice b (M.panic : M α) :=
  fun s => ⟨rfl, fun e he => (by cases he), fun x hx => by cases hx⟩
theorem nice_fail {α} (b : Nat) (e : WriterErr) (he : e = .Truncation ∨ e = .InvalidRdata) : Nice b (M.fail e : M α) :=
  fun s => ⟨rfl, fun e' h => (by simp only [M.fail_apply, Out.err.injEq] at h; rw [← h]; exact he),
    fun x hx => by cases hx⟩
theorem nice_gets {α} (f : State → α) : Nice 0 (M.gets f) :=
  fun s => ⟨rfl, fun e he => (by cases he), fun x hx => by simp⟩
theorem nice_modify (b : Nat) (f : State → State) (hs : ∀ s, (f s).sect = s.sect)
    (hc : ∀ s, s.cursor + b ≤ (f s).cursor) : Nice b (M.modify f) :=
  fun s => ⟨hs s, fun e he => (by cases he), fun x hx => by simpa using hc s⟩

theorem nice_gets_bind {α β} {b : Nat} {f : State → α} {g : α → M β} (hg : ∀ a, Nice b (g a)) :
    Nice b (M.gets f >>= g) := nice_bind0 (nice_gets f) hg

theorem nice_tryPush (d : List UInt8) : Nice d.length (tryPush d) := by
  intro s
  unfold tryPush
  split
  · exact ⟨rfl, fun e he => (by cases he), fun x hx => by cases hx⟩
  · split
    · split
      · exact ⟨rfl, fun e he => (by cases he), fun x hx => by simp⟩
      · exact ⟨rfl, fun e he => (by cases he), fun x hx => by cases hx⟩
    · exact ⟨rfl, fun e he => (by simp only [Out.err.injEq] at he; exact Or.inl he.symm), fun x hx => by cases hx⟩

theorem nice_write (pos : Nat) (d : List UInt8) : Nice 0 (write pos d) := by
  intro s
  unfold write
  split
  · exact ⟨rfl, fun e he => (by cases he), fun x hx => by simp⟩
  · exact ⟨rfl, fun e he => (by cases he), fun x hx => by cases hx⟩

/-- every routine of the record writer keeps the section, fails with `Truncation` or `InvalidRdata` only, and
    advances the cursor by at least its first index -/
theorem _root_.QV.Writer.Routine.nice {rec inv : Prop} {b B : Nat} {α} {f : M α} (h : Routine rec inv b B f) :
    Nice b f := by
  have upd : ∀ g : State → State, (∀ s, (g s).sect = s.sect ∧ (g s).cursor = s.cursor) → Nice 0 (M.modify g) :=
    fun g hg => nice_modify 0 g (fun s => (hg s).1) (fun s => Nat.le_of_eq (hg s).2.symm)
  induction h with
  | pure a => exact nice_pure a
  | invalid _ b _ => exact nice_fail b _ (Or.inr rfl)
  | panic b _ => exact nice_panic
  | bind _ _ ih1 ih2 => exact nice_bind ih1 ih2
  | mono _ hb _ ih => exact nice_mono ih hb
  | gets _ => exact nice_gets _
  | setCtx _ c => exact upd _ fun _ => ⟨rfl, rfl⟩
  | logPtr ev => exact upd _ fun _ => ⟨rfl, rfl⟩
  | setOwner _ p => exact upd _ fun _ => ⟨rfl, rfl⟩
  | setInRdata _ p => exact upd _ fun _ => ⟨rfl, rfl⟩
  | setQname _ p => exact upd _ fun s => by split <;> exact ⟨rfl, rfl⟩
  | hvPush _ p =>
    refine upd _ fun s => ?_
    cases s.hv with
    | none => exact ⟨rfl, rfl⟩
    | some v => simp only []; split <;> exact ⟨rfl, rfl⟩
  | tryPush d => exact nice_tryPush d
  | pushLabels d ls wr _ ih =>
    exact nice_gets_bind fun cur => nice_bind (nice_tryPush d) fun _ =>
      nice_bind0 (upd _ fun _ => ⟨rfl, rfl⟩) fun _ => ih cur
  | backpatch _ _ ih =>
    refine nice_gets_bind fun av => nice_gets_bind fun st => ?_
    split
    · exact nice_panic
    · split
      · exact nice_fail _ _ (Or.inl rfl)
      · refine nice_bind (nice_modify 2 _ (fun _ => rfl) (fun _ => Nat.le_refl _)) fun _ =>
          nice_mono (nice_bind ih fun _ => (nice_gets_bind fun cur' => ?_ : Nice 0 _)) (Nat.le_add_right _ 0)
        split
        · exact nice_panic
        · exact nice_write _ _

/-! ### the state in which no capacity error other than `Truncation` is possible -/

/-- sections in message order -/
def rank : Section → Nat
  | .question => 0
  | .answer => 1
  | .authority => 2
  | .additional => 3

theorem rank_toSect (sec : RrSection) : rank (toSect sec) = rrank sec := by cases sec <;> rfl

/-- the records not yet written: the reserved OPT and TSIG records -/
def resv (s : State) : Nat := (if s.edns.isSome then 1 else 0) + (if s.tsig.isSome then 1 else 0)

/-- every counted record that has been written occupies at least 10 octets below the cursor -/
def CountInv (s : State) : Prop := 10 * (s.ancount + s.nscount + s.arcount) ≤ s.cursor + 10 * resv s

theorem CountInv.hdrOnly {s s' : State} (h : CountInv s) (k : HdrOnly s s') : CountInv s' := by
  unfold CountInv resv at h ⊢
  rw [k.an, k.ns, k.ar, k.cursor, k.edns, k.tsig]; exact h

/-- the writer invariant (C12), a limit a message can have (at most 65 535 octets: the length
    field of TCP framing, the class field of OPT), the count invariant, and the section reached -/
def CapPre (s : State) (r : Nat) : Prop := Writer.Inv s ∧ s.limit ≤ 65535 ∧ CountInv s ∧ rank s.sect ≤ r

theorem CapPre.mono {s : State} {r r' : Nat} (h : CapPre s r) (hr : r ≤ r') : CapPre s r' :=
  ⟨h.1, h.2.1, h.2.2.1, Nat.le_trans h.2.2.2 hr⟩

theorem capPre_hv {s : State} {r : Nat} (v : Option HV) : CapPre { s with hv := v } r ↔ CapPre s r := by
  constructor
  · rintro ⟨h1, h2, h3, h4⟩
    refine ⟨?_, h2, h3, h4⟩
    have := inv_hv h1 s.hv
    exact this
  · rintro ⟨h1, h2, h3, h4⟩
    exact ⟨inv_hv h1 v, h2, h3, h4⟩

theorem capPre_same {s s' : State} {r : Nat} (h : CapPre s r) (e : Same s s') : CapPre s' r := by
  obtain ⟨h1, h2, h3, h4⟩ := h
  refine ⟨inv_of_same h1 e, by rw [e.limit]; exact h2, ?_, by rw [e.sect]; exact h4⟩
  unfold CountInv resv at h3 ⊢
  rw [e.an, e.ns, e.ar, e.cursor, e.edns, e.tsig]; exact h3

/-- a call for a section not before the writer's moves the writer to it -/
theorem changeSection_inOrder (sec : RrSection) (s : State) (h : rank s.sect ≤ rrank sec) :
    changeSection sec s = (.ok (), { s with sect := toSect sec }) := by
  unfold changeSection
  cases sec <;> cases hs : s.sect <;> simp_all [rank, rrank, toSect]
  all_goals (cases s; simp_all)

/-- the bound that keeps the counts small: below a 65 535-octet limit fewer than 6 556 records fit -/
theorem count_small {s s2 : State} (hi : Writer.Inv s) (hl : s.limit ≤ 65535) (hc : CountInv s) (e : Ext s s2)
    (n : Nat) (hg : s.cursor + 10 * n ≤ s2.cursor) (sec : RrSection) :
    n ≤ 65535 ∧ getCount sec s2 + n ≤ 65535 ∧
      10 * (s2.ancount + s2.nscount + s2.arcount + n) ≤ s2.cursor + 10 * resv s2 := by
  have h1 := e.avail hi.cur_av
  have h2 := hi.av_lim
  have hr : resv s ≤ 2 := by unfold resv; split <;> split <;> omega
  have hr2 : resv s2 = resv s := by unfold resv; rw [e.edns, e.tsig]
  unfold CountInv at hc
  have han := e.an; have hns := e.ns; have har := e.ar
  have hgc : getCount sec s2 ≤ s2.ancount + s2.nscount + s2.arcount := by
    cases sec <;> simp [getCount] <;> omega
  refine ⟨by omega, by omega, ?_⟩
  rw [hr2, han, hns, har]; omega

theorem capPre_setCount {s s2 : State} {k : Nat} (hi : Writer.Inv s) (hl : s.limit ≤ 65535) (hc : CountInv s)
    (e : Ext s s2) (n : Nat) (hg : s.cursor + 10 * n ≤ s2.cursor) (sec : RrSection)
    (hs : s2.sect = toSect sec) (hk : rrank sec ≤ k) :
    CapPre (setCount sec (getCount sec s2 + n) s2).2 k := by
  obtain ⟨h1, h2, h3⟩ := count_small hi hl hc e n hg sec
  have hi2 : Writer.Inv s2 := inv_of_ext hi e
  refine ⟨inv_setCount hi2 sec n h2, ?_, ?_, ?_⟩
  · cases sec <;> simp only [setCount, M.modify_apply] <;> rw [e.limit] <;> exact hl
  · have hres : resv (setCount sec (getCount sec s2 + n) s2).2 = resv s2 := by cases sec <;> rfl
    unfold CountInv
    rw [hres]
    cases sec <;> simp only [setCount, getCount, M.modify_apply] <;> omega
  · have : (setCount sec (getCount sec s2 + n) s2).2.sect = s2.sect := by
      cases sec <;> simp [setCount]
    rw [this, hs, rank_toSect]; exact hk

/-! ### the two record-adding operations as one -/

/-- `with_rollback`: move to section `sec`, run `body`, then add the number of records it wrote
    (`cnt` of its value) to the section's count — what `add_*_rr` (one record) and `add_*_rrset`
    (as many as the set holds) have in common -/
def recOp {α} (sec : RrSection) (body : M α) (cnt : α → Nat) : M Unit :=
  withRollback (do
    changeSection sec
    let a ← body
    let c ← M.gets (getCount sec)
    if cnt a > 65535 then M.fail .CountOverflow
    else if c + cnt a > 65535 then M.fail .CountOverflow
    else setCount sec (c + cnt a))

/-- both operations are instances, definitionally (for `add_*_rr` the first test, `1 > 65535`, evaluates away) -/
example (sec : RrSection) (hint : Hint) (owner : WName) (ty cls ttl : Nat) (rds : List (List UInt8)) :
    addRrsetOp sec hint owner ty cls ttl rds = recOp sec (addRrset hint owner ty cls (ttlFrom ttl) rds 0) id := rfl

example (sec : RrSection) (hint : Hint) (owner : WName) (ty cls ttl : Nat) (rd : List UInt8) :
    addRrOp sec hint owner ty cls ttl rd = recOp sec (addRr hint owner ty cls (ttlFrom ttl) rd) (fun _ => 1) := rfl

/-- **a record-adding call from a state whose section is not past the call's**: the only errors are
    `Truncation` and `InvalidRdata`, and the state stays of that kind — provided the body keeps the
    section, fails only so, and advances the cursor by ten octets for every record it counts -/
theorem cap_recOp {α} (sec : RrSection) {body : M α} {cnt : α → Nat} (hf : Frame body)
    (hn : ∀ s, (body s).2.sect = s.sect ∧ (∀ e, (body s).1 = .err e → e = .Truncation ∨ e = .InvalidRdata) ∧
      ∀ a, (body s).1 = .ok a → s.cursor + 10 * cnt a ≤ (body s).2.cursor)
    (s : State) (h : CapPre s (rrank sec)) :
    match recOp sec body cnt s with
    | (.ok _, s') => CapPre s' (rrank sec)
    | (.err e, s') => (e = .Truncation ∨ e = .InvalidRdata) ∧ CapPre s' (rrank sec)
    | (.panic, _) => True := by
  obtain ⟨hi, hl, hc, hr⟩ := h
  unfold recOp
  rw [withRollback_apply]
  simp only [M.bind_apply]
  rw [changeSection_inOrder sec s hr]
  simp only []
  have e1 : Ext s { s with sect := toSect sec } := by constructor <;> simp
  have hn := hn { s with sect := toSect sec }
  have hfr := hf { s with sect := toSect sec }
  cases h2 : body { s with sect := toSect sec } with
  | mk r2 s2 =>
    rw [h2] at hn hfr
    obtain ⟨hs2, he2, hg2⟩ := hn
    have e2 : Ext s s2 := Ext.trans e1 hfr
    cases r2 with
    | err e => exact ⟨he2 e rfl, capPre_same ⟨hi, hl, hc, hr⟩ (same_restore e2)⟩
    | panic => trivial
    | ok a =>
      have hg : s.cursor + 10 * cnt a ≤ s2.cursor := hg2 a rfl
      obtain ⟨c1, c2, _⟩ := count_small hi hl hc e2 (cnt a) hg sec
      simp only [M.gets_apply]
      rw [if_neg (by omega), if_neg (by omega)]
      exact capPre_setCount hi hl hc e2 (cnt a) hg sec (by rw [hs2]) (Nat.le_refl _)

theorem cap_addRrsetOp (sec : RrSection) (hint : Hint) (owner : WName) (ty cls ttl : Nat)
    (rds : List (List UInt8)) (s : State) (h : CapPre s (rrank sec)) :
    match addRrsetOp sec hint owner ty cls ttl rds s with
    | (.ok _, s') => CapPre s' (rrank sec)
    | (.err e, s') => (e = .Truncation ∨ e = .InvalidRdata) ∧ CapPre s' (rrank sec)
    | (.panic, _) => True := by
  refine cap_recOp sec (frame_addRrset hint owner ty cls (ttlFrom ttl) rds 0) (fun s0 => ?_) s h
  obtain ⟨h1, h2, h3⟩ := (Routine.addRrset owner ty cls (ttlFrom ttl) rds hint 0).nice s0
  refine ⟨h1, h2, fun n hn => ?_⟩
  have h4 := h3 n hn
  rcases hb : addRrset hint owner ty cls (ttlFrom ttl) rds 0 s0 with ⟨r, s1⟩
  rw [hb] at hn h4
  cases hn
  have := addRrset_count owner ty cls (ttlFrom ttl) rds hint 0 _ _ n hb
  simp only [id] at h4 ⊢
  omega

/-! ## the answer phase: `CapJ` -/

/-- a logged call failed, if at all, with `Truncation` or `InvalidRdata` -/
def TIEv (e : Ev) : Prop := ∀ a, e = .add a → ∀ x, a.res = .err x → x = .Truncation ∨ x = .InvalidRdata

/-- the event does not record a panic (or a failed header operation) -/
def NoPanicEv (e : Ev) : Prop := e ≠ .bad ∧ ∀ a, e = .add a → a.res ≠ .panic

/-- `m`, entered with the writer in a `CapPre _ r` state: logs only calls whose errors are
    `Truncation`/`InvalidRdata`; logs a panic only if it panics itself; and leaves a
    `CapPre _ r'` state when it succeeds -/
def CapJ {α} (m : PM α) (r r' : Nat) : Prop :=
  ∀ ps : PS, CapPre ps.w r → ∃ evs, (m ps).2.log = ps.log ++ evs ∧ (∀ e ∈ evs, TIEv e) ∧
    ((m ps).1 ≠ .panic → ∀ e ∈ evs, NoPanicEv e) ∧ (∀ a, (m ps).1 = .ok a → CapPre (m ps).2.w r')

theorem CapJ.pure {α} (a : α) (r : Nat) : CapJ (Pure.pure a : PM α) r r := by
  intro ps h
  exact ⟨[], by simp [pure_def], by simp, by simp, fun x hx => by simpa [pure_def] using h⟩

theorem CapJ.fail {α} (e : PErr) (r r' : Nat) : CapJ (PM.fail e : PM α) r r' := by
  intro ps h
  exact ⟨[], by simp [PM.fail], by simp, by simp, fun x hx => by simp [PM.fail] at hx⟩

theorem CapJ.panic {α} (r r' : Nat) : CapJ (PM.panic : PM α) r r' := by
  intro ps h
  exact ⟨[], by simp [PM.panic], by simp, by simp, fun x hx => by simp [PM.panic] at hx⟩

theorem CapJ.weaken {α} {m : PM α} {r0 r r' r1 : Nat} (h : CapJ m r r') (h0 : r0 ≤ r) (h1 : r' ≤ r1) :
    CapJ m r0 r1 := by
  intro ps hp
  obtain ⟨evs, a, b, c, d⟩ := h ps (hp.mono h0)
  exact ⟨evs, a, b, c, fun x hx => (d x hx).mono h1⟩

theorem CapJ.bind {α β} {m : PM α} {f : α → PM β} {r r1 r2 : Nat}
    (h1 : CapJ m r r1) (h2 : ∀ a, CapJ (f a) r1 r2) : CapJ (m >>= f) r r2 := by
  intro ps hp
  obtain ⟨evs1, hl1, ht1, hn1, hc1⟩ := h1 ps hp
  rw [bind_def]
  rcases hm : m ps with ⟨(a | e | _), ps1⟩
  · rw [hm] at hl1 hn1 hc1
    obtain ⟨evs2, hl2, ht2, hn2, hc2⟩ := h2 a ps1 (hc1 a rfl)
    refine ⟨evs1 ++ evs2, ?_, ?_, ?_, hc2⟩
    · simp only [] at hl1 ⊢; rw [hl2, hl1, List.append_assoc]
    · intro e he
      rcases List.mem_append.mp he with h | h
      · exact ht1 e h
      · exact ht2 e h
    · intro hnp e he
      rcases List.mem_append.mp he with h | h
      · exact hn1 (by simp) e h
      · exact hn2 hnp e h
  · rw [hm] at hl1 hn1
    exact ⟨evs1, hl1, ht1, fun _ => hn1 (by simp), by intro x hx; simp at hx⟩
  · rw [hm] at hl1
    exact ⟨evs1, hl1, ht1, by intro h; simp at h, by intro x hx; simp at hx⟩

/-- a header operation: never an error, keeps the invariant, the limit, the counts and the section -/
structure HdrKeeps (m : M Unit) : Prop where
  total : Total m
  hdr : ∀ s, HdrOnly s (m s).2
  limit : ∀ s, (m s).2.limit = s.limit

theorem capPre_hdr {m : M Unit} (hk : HdrKeeps m) {s : State} {r : Nat} (h : CapPre s r) : CapPre (m s).2 r := by
  obtain ⟨h1, h2, h3, h4⟩ := h
  have k := hk.hdr s
  exact ⟨(hk.total s).2 h1, by rw [hk.limit]; exact h2, h3.hdrOnly k, by rw [k.sect]; exact h4⟩

theorem hdrKeeps_setBit (b m : Nat) (v : Bool) (hb : b < 12) : HdrKeeps (setBit b m v) :=
  ⟨total_setBit b m v, fun s => hdrOnly_setHdr b _ hb s, fun s => setHdr_limit b _ s⟩

theorem hdrKeeps_setRcode (v : Nat) : HdrKeeps (setRcode v) :=
  ⟨total_setRcode v, hdrOnly_setRcode v, setRcode_limit v⟩

theorem CapJ.hdrOp (ev : Ev) (m : M Unit) (hk : HdrKeeps m) (hev : ev ≠ .bad) (hadd : ∀ a, ev ≠ .add a) (r : Nat) :
    CapJ (PM.hdrOp ev m) r r := by
  intro ps hp
  have hpost := capPre_hdr hk hp
  have htot := (hk.total ps.w).1
  unfold PM.hdrOp
  rcases h : m ps.w with ⟨(u | e | _), w'⟩
  · rw [h] at hpost
    refine ⟨[ev], by simp, ?_, ?_, fun x hx => by simpa using hpost⟩
    · intro e he a ha; simp only [List.mem_singleton] at he; subst he; exact absurd ha (hadd a)
    · intro _ e he; simp only [List.mem_singleton] at he; subst he
      exact ⟨hev, fun a ha => absurd ha (hadd a)⟩
  · exact absurd (by rw [h]) (htot e)
  · refine ⟨[.bad], by simp, ?_, by simp, by simp⟩
    intro e he a ha; simp only [List.mem_singleton] at he; subst he; cases ha

theorem CapJ.setAa (b : Bool) (r : Nat) : CapJ (PM.setAa b) r r :=
  CapJ.hdrOp _ _ (hdrKeeps_setBit _ _ _ (by decide)) (by simp) (by simp) r

theorem CapJ.setRcode (v : Nat) (r : Nat) : CapJ (PM.setRcode v) r r :=
  CapJ.hdrOp _ _ (hdrKeeps_setRcode v) (by simp) (by simp) r

/-- a logged record-adding call whose writer call satisfies the `cap_*` lemma -/
theorem CapJ.addCall (ev : AddEv) (m : M HV) (k : Nat)
    (hm : ∀ s, CapPre s k → match m s with
      | (.ok _, s') => CapPre s' k
      | (.err e, s') => (e = .Truncation ∨ e = .InvalidRdata) ∧ CapPre s' k
      | (.panic, _) => True) : CapJ (PM.addCall ev m) k k := by
  intro ps hp
  have h0 := hm ps.w hp
  unfold PM.addCall
  rcases h : m ps.w with ⟨(hv | e | _), w'⟩
  · rw [h] at h0
    refine ⟨[.add { ev with res := .ok () }], by simp, ?_, ?_, fun x hx => by simpa using h0⟩
    · intro e he a ha x hx; simp only [List.mem_singleton] at he; subst he; cases ha; cases hx
    · intro _ e he; simp only [List.mem_singleton] at he; subst he
      exact ⟨by simp, fun a ha => by cases ha; simp⟩
  · rw [h] at h0
    have hti : ∀ e' ∈ [Ev.add { ev with res := .err e }], TIEv e' := by
      intro e' he a ha x hx; simp only [List.mem_singleton] at he; subst he; cases ha
      simp only [Out.err.injEq] at hx; subst hx; exact h0.1
    have hnp : ∀ e' ∈ [Ev.add { ev with res := .err e }], NoPanicEv e' := by
      intro e' he; simp only [List.mem_singleton] at he; subst he
      exact ⟨by simp, fun a ha => by cases ha; simp⟩
    by_cases ht : ev.optional = true ∧ e = .Truncation
    · simp only []
      rw [if_pos ht]
      exact ⟨_, rfl, hti, fun _ => hnp, fun x hx => h0.2⟩
    · simp only []
      rw [if_neg ht]
      exact ⟨_, rfl, hti, fun _ => hnp, fun x hx => by cases hx⟩
  · refine ⟨[.add { ev with res := .panic }], by simp, ?_, by simp, by simp⟩
    intro e he a ha x hx; simp only [List.mem_singleton] at he; subst he; cases ha; cases hx

theorem cap_withHv {m : M Unit} {k : Nat}
    (hm : ∀ s, CapPre s k → match m s with
      | (.ok _, s') => CapPre s' k
      | (.err e, s') => (e = .Truncation ∨ e = .InvalidRdata) ∧ CapPre s' k
      | (.panic, _) => True) :
    ∀ s, CapPre s k → match Server.withHv [] m s with
      | (.ok _, s') => CapPre s' k
      | (.err e, s') => (e = .Truncation ∨ e = .InvalidRdata) ∧ CapPre s' k
      | (.panic, _) => True := by
  intro s hp
  have h0 := hm { s with hv := some [] } ((capPre_hv _).mpr hp)
  unfold Server.withHv
  rcases h : m { s with hv := some [] } with ⟨(u | e | _), s'⟩
  · rw [h] at h0; exact (capPre_hv _).mpr h0
  · rw [h] at h0; exact ⟨h0.1, (capPre_hv _).mpr h0.2⟩
  · trivial

theorem CapJ.addRrs (opt : Bool) (sec : RrSection) (hint : Hint) (owner : WName) (ty cls ttl : Nat)
    (rds : List (List UInt8)) : CapJ (PM.addRrs opt sec hint owner ty cls ttl rds) (rrank sec) (rrank sec) :=
  CapJ.addCall _ _ _ (cap_withHv (cap_addRrsetOp sec hint owner ty cls ttl rds))

/-! ### the functions of query.rs, from their shape -/

theorem Prog.capJ {Q : AddEv → Prop} {α : Type} {m : PM α} {r r' : Nat} (h : Prog Q m r r') : CapJ m r r' := by
  induction h with
  | pure a r => exact CapJ.pure a r
  | fail e r r' => exact CapJ.fail e r r'
  | panic r r' => exact CapJ.panic r r'
  | bind _ _ ih1 ih2 => exact CapJ.bind ih1 ih2
  | weaken _ h0 h1 ih => exact CapJ.weaken ih h0 h1
  | setAa b r => exact CapJ.setAa b r
  | nxDomain r => exact CapJ.setRcode _ r
  | addRrs opt sec hint owner ty cls ttl rds _ => exact CapJ.addRrs opt sec hint owner ty cls ttl rds

theorem CapJ.referral (z : Zone.Zone) (child : NameL.Name) (ns : Rrset) : CapJ (doReferral z child ns) 2 3 :=
  (Prog.referral (Ty := fun _ => True) z child ns).capJ

theorem CapJ.answer (z : Zone.Zone) (qname : WName) (qtype : Nat) : CapJ (Server.answer z qname qtype) 1 3 :=
  (Prog.answer (Ty := fun _ => True) z qname qtype trivial).capJ

theorem CapJ.inner (z : Zone.Zone) (qname : WName) (qtype : Nat) : CapJ (inner z qname qtype) 1 3 :=
  (Prog.inner' z qname qtype).capJ

/-! ## `handle_non_axfr_query` — from "no Truncation" to "no capacity error" -/

/-- the epilogue of `handle_non_axfr_query`, knowing only that the handler does not panic -/
theorem handle_log_np (z : Zone.Zone) (qname : WName) (qtype : Nat) (tr : Transport) (ps : PS)
    (hnp : (handleNonAxfrQueryL z qname qtype tr ps).1 ≠ .panic) :
    (handleNonAxfrQueryL z qname qtype tr ps).2.log
      = (inner z qname qtype ps).2.log ++ tailEvs tr (inner z qname qtype ps).1 ∧
    (inner z qname qtype ps).1 ≠ .panic := by
  rcases handle_log_cases z qname qtype tr ps with ⟨h1, h2⟩ | ⟨_, h2⟩
  · refine ⟨h1, ?_⟩
    rcases h2 with ⟨_, h⟩ | ⟨h, _⟩
    · exact absurd h hnp
    · exact h
  · exact absurd h2 hnp

/-- **the state in which `handle_query` is entered** (reached from `Writer::new` with a limit of at
    most 65 535 octets by the header setters, `add_question`, `set_edns`, `set_limit`, `set_tsig`):
    the writer's invariants (C12/C13), the QNAME hint valid for `qname`, nothing but the question
    written, the count invariant -/
structure QueryReady (w : State) (qname : WName) : Prop where
  safe : Writer.I w
  hint : ServerSafety.HintOK Writer.Den w .qname qname
  sect : w.sect = .question
  limit : w.limit ≤ 65535
  count : CountInv w

theorem QueryReady.capPre {w : State} {qname : WName} (h : QueryReady w qname) : CapPre w 1 :=
  ⟨h.safe.inv, h.limit, h.count, by rw [h.sect]; decide⟩

/-- **no capacity error other than `Truncation`, no panic**: from a `QueryReady` state, for a zone
    the API can hold and a QNAME at or below its apex, a log without `Truncation` is a log without
    any capacity error -/
theorem noCapErr_of_noTruncation (z : Zone.Zone) (hz : ServerSafety.ZoneOK z) (qname : WName) (hq : qname.WF)
    (qtype : Nat) (tr : Transport) (hsub : z.apex <:+ fold qname) (w : State) (hw : QueryReady w qname)
    (hnt : ∀ a, Ev.add a ∈ (handleNonAxfrQueryL z qname qtype tr ⟨w, []⟩).2.log → a.res ≠ .err .Truncation) :
    NoCapErr (handleNonAxfrQueryL z qname qtype tr ⟨w, []⟩).2.log := by
  have hsafe := ServerSafety.handleNonAxfrQueryL_safe Writer.writerSafe z hz qname hq qtype tr hsub ⟨w, []⟩
    hw.safe hw.hint
  obtain ⟨hlog, hinp⟩ := handle_log_np z qname qtype tr ⟨w, []⟩ hsafe.1
  obtain ⟨evs, hl, hti, hnp, _⟩ := CapJ.inner z qname qtype ⟨w, []⟩ hw.capPre
  simp only [List.nil_append] at hl
  rw [hlog, hl] at hnt ⊢
  intro e he
  rcases List.mem_append.mp he with h | h
  · have h1 := hti e h
    have h2 := hnp hinp e h
    refine ⟨h2.1, fun a ha => ?_⟩
    subst ha
    rcases hr : a.res with u | x | _
    · exact Or.inl rfl
    · rcases h1 a rfl x hr with hx | hx
      · subst hx
        exact absurd hr (hnt a (List.mem_append_left _ h))
      · subst hx; exact Or.inr rfl
    · exact absurd hr (h2.2 a rfl)
  · obtain ⟨h1, h2⟩ := tailEvs_hdr _ _ e h
    exact ⟨h1, fun a ha => absurd ha (h2 a)⟩

/-! ## `QueryReady` is the state `handle_message` enters `handle_query` in

  `handle_message`: `Writer::new(buf, 512 | 65 535)`, the header setters, `add_question` (once,
  first), then the scan: `set_edns`, `set_limit(clamp(opt.class, 512, payload))` with a 16-bit
  `opt.class`, `set_extended_rcode`, `set_rcode`, `set_tsig`. Each of these keeps what
  `QueryReady` needs. -/

/-- what the calls other than `add_*` keep besides a limit within 65 535 (`call_limit`): the section and the
    count invariant -/
structure ScanKeeps (s s' : State) : Prop where
  sect : s'.sect = s.sect
  count : CountInv s → CountInv s'

theorem ScanKeeps.refl (s : State) : ScanKeeps s s := ⟨rfl, id⟩

theorem scanKeeps_hdrOnly {s s' : State} (k : HdrOnly s s') : ScanKeeps s s' := ⟨k.sect, fun h => h.hdrOnly k⟩

theorem scanKeeps_setEdns (p : Nat) (s : State) : ScanKeeps s (setEdns p s).2 := by
  rcases setEdns_cases p s with ⟨_, h, _⟩ | ⟨he, _, _, h⟩ <;> rw [h]
  · exact ScanKeeps.refl s
  · refine ⟨rfl, fun h => ?_⟩
    unfold CountInv resv at h ⊢
    unfold stEdns
    simp only [he, Option.isSome_none, Bool.false_eq_true, if_false, Option.isSome_some, if_true] at h ⊢
    omega

theorem scanKeeps_setTsig (m : TsigMode) (rr : TsigRr) (s : State) : ScanKeeps s (setTsig m rr s).2 := by
  rcases setTsig_cases m rr s with ⟨_, h, _⟩ | ⟨he, _, _, h⟩ <;> rw [h]
  · exact ScanKeeps.refl s
  · refine ⟨rfl, fun h => ?_⟩
    unfold CountInv resv at h ⊢
    simp only [he, Option.isSome_none, Bool.false_eq_true, if_false, Option.isSome_some, if_true] at h ⊢
    omega

/-- the calls of the scan phase: all of `Call` except the two `add_*`; `set_limit` with a limit
    that a 16-bit field can hold -/
def ScanCall : ServerSafety.Call → Prop
  | .addRr .. => False
  | .addRrset .. => False
  | .setLimit v => v ≤ 65535
  | _ => True

/-- every call of the scan phase keeps `ScanKeeps`: all but `set_edns` and `set_tsig` touch only the header
    octets and the room (`HdrOnly`) -/
theorem scanKeeps_call (c : ServerSafety.Call) (s : State) (hp : c.Pre Writer.Den s)
    (hc : ScanCall c) : ScanKeeps s (c.run s).2 := by
  cases c with
  | setId v => exact scanKeeps_hdrOnly (hdrOnly_write _ _ (by simp [u16be, Gen.ID_START]) s)
  | setBit b m v => exact scanKeeps_hdrOnly (hdrOnly_setHdr b _ hp s)
  | setOpcode v => exact scanKeeps_hdrOnly (hdrOnly_setHdr _ _ (by decide) s)
  | setRcode v => exact scanKeeps_hdrOnly (hdrOnly_setRcode v s)
  | setExtendedRcode v => exact scanKeeps_hdrOnly (hdrOnly_setExtendedRcode v s)
  | setLimit v => exact scanKeeps_hdrOnly (hdrOnly_setLimit v s)
  | setEdns p => exact scanKeeps_setEdns p s
  | setTsig m rr => exact scanKeeps_setTsig m rr s
  | addRr => exact absurd hc id
  | addRrset => exact absurd hc id

/-- the state before the question is added -/
structure PreQuestion (s : State) : Prop where
  safe : Writer.I s
  sect : s.sect = .question
  qd : s.qdcount = 0
  limit : s.limit ≤ 65535
  count : CountInv s

/-- `Writer::new` with a limit of at most 65 535 octets -/
theorem preQuestion_new (buf : Bytes) (limit : Nat) (hl : limit ≤ 65535) (s : State)
    (h : Writer.new buf limit = .ok s) : PreQuestion s := by
  have hi := Writer.writerSafe.new_I buf limit s hl h
  have h' := h
  unfold Writer.new at h'
  by_cases hlt : min limit buf.size < Gen.HEADER_SIZE
  · simp [hlt] at h'
  · simp only [hlt, if_false, Out.ok.injEq] at h'
    refine ⟨hi, ?_, ?_, ?_, ?_⟩
    · rw [← h']
    · rw [← h']
    · rw [← h']; show min limit buf.size ≤ 65535; omega
    · rw [← h']; unfold CountInv; simp

theorem nice_addQuestionBody (qn : WName) (qt qc : Nat) : Nice 0 (addQuestionBody qn qt qc) :=
  nice_mono (Routine.addQuestionBody (inv := False) qn qt qc).nice (Nat.zero_le _)

/-- **`add_question` makes the state `QueryReady`** -/
theorem queryReady_addQuestion (qn : WName) (qt qc : Nat) (hwf : qn.WF) (s s' : State) (h : PreQuestion s)
    (hok : addQuestion qn qt qc s = (.ok (), s')) : QueryReady s' qn := by
  obtain ⟨h1, h2, _, h4⟩ := Writer.writerSafe.addQuestion qn qt qc s h.safe hwf
  rw [hok] at h2 h4
  obtain ⟨s3, _, hb, hs'⟩ := addQuestion_ok_inv qn qt qc s s' hok
  have e3 : Ext s s3 := by have := frame_addQuestionBody qn qt qc s; rwa [hb] at this
  have hn := nice_addQuestionBody qn qt qc s
  rw [hb] at hn
  refine ⟨h2, h4 rfl h.sect h.qd, ?_, ?_, ?_⟩
  · rw [hs']; show s3.sect = _; rw [hn.1]; exact h.sect
  · rw [hs']; show s3.limit ≤ _; rw [e3.limit]; exact h.limit
  · have hc := h.count
    unfold CountInv resv at hc ⊢
    rw [hs']
    show 10 * (s3.ancount + s3.nscount + s3.arcount) ≤ s3.cursor + 10 * _
    simp only []
    rw [e3.an, e3.ns, e3.ar, e3.edns, e3.tsig]
    have := e3.cur
    omega

/-- the scan keeps it -/
theorem queryReady_call (c : ServerSafety.Call) (s : State) (qn : WName) (h : QueryReady s qn) (hp : c.Pre Writer.Den s)
    (hc : ScanCall c) : QueryReady (c.run s).2 qn := by
  have k := scanKeeps_call c s hp hc
  have := Writer.writerSafe.call c s h.safe hp
  exact ⟨this.2.1, ServerSafety.hintOK_qname_mono Writer.writerSafe h.hint this.2.2,
    by rw [k.sect]; exact h.sect, call_limit c s hp h.limit, k.count h.count⟩

end QV.ServerAnswer
