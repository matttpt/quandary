/-
  QV.Proofs.ServerSafety — layer L4 of C01: `Server::handle_message` assembled from its shell
  (QV.Proofs.ServerShell), the scan phase (QV.Proofs.ServerContext), the QUERY handler
  (QV.Proofs.ServerQuery) and the structural "never returns `Err`" fact (QV.Proofs.ServerNoErr). The
  assembly is done once, for the handler cut before RRL and `finish` (`handleToContext`,
  QV.Model.ServerRrl); `handle_message` is that followed by `finish`.
-/
import QV.Model.ServerRrl
import QV.Proofs.ServerQuery
import QV.Proofs.ServerNoErr
import QV.Proofs.HmacLen

namespace QV.ServerSafety
open QV QV.Writer QV.Server QV.Reader

variable (W : WriterSafe)

/-! ### `finish` never returns `Err` (it unwraps) -/

theorem noErr_finishWithMac (macFn : Writer.Tsig → List UInt8 → List UInt8) : NoErr (finishWithMac macFn) := by
  have gets : ∀ {α : Type} (f : State → α), NoErr (M.gets f) := fun _ => ⟨fun _ _ => nofun⟩
  unfold finishWithMac
  refine noErr_bind (gets _) fun c => noErr_bind (gets _) fun edns => noErr_bind (gets _) fun tsig => ?_
  refine noErr_bind ?_ fun _ => noErr_bind ?_ fun _ => ?_
  · exact noErr_bind (noErr_write _ _) fun _ => noErr_bind (noErr_write _ _) fun _ =>
      noErr_bind (noErr_write _ _) fun _ => noErr_write _ _
  · cases edns with
    | none => exact noErr_pure _
    | some e => exact noErr_bind (noErr_modify _) fun _ => noErr_unwrap _
  · cases tsig with
    | none => exact noErr_bind (gets _) fun _ => noErr_pure _
    | some ts =>
      refine noErr_bind (gets _) fun m => ?_
      cases m with
      | none => exact noErr_panic
      | some m =>
        exact noErr_bind (noErr_modify _) fun _ => noErr_bind (noErr_unwrap _) fun _ =>
          noErr_bind (gets _) fun _ => noErr_pure _

theorem finish_ok (s : State) (macFn : Writer.Tsig → List UInt8 → List UInt8) (hi : W.I s)
    (hm : MacLenOK macFn) : ∃ b mac, Writer.finish s macFn = .ok (b, mac) := by
  have hnp := W.finish s macFn hi hm
  have hne := (noErr_finishWithMac macFn).h s
  unfold Writer.finish at hnp ⊢
  generalize finishWithMac macFn s = r at hnp hne
  obtain ⟨o, s'⟩ := r
  cases o with
  | ok v => obtain ⟨len, mac⟩ := v; exact ⟨_, _, rfl⟩
  | err e => exact absurd rfl (hne e)
  | panic => exact absurd rfl hnp

/-! ### the MAC of the response fits the reservation -/

/-- SHA-1 / SHA-256 tags have the algorithm's output size -/
def HmacLenOK : Prop := ∀ alg key data, (Tsig.realHmac alg key data).length = alg.outputSize

/-- … which is a theorem about the SHA model (C11, `QV.Tsig.realHmac_length`) -/
theorem hmacLenOK : HmacLenOK := Tsig.realHmac_length

theorem signResponse_mac {ε : Type} (hm : Tsig.Algorithm → Tsig.Octets → Tsig.Octets → Tsig.Octets)
    (p : Tsig.PreparedTsigRr) (m pm : Tsig.Octets) (alg : Tsig.Algorithm) (key x mac : Tsig.Octets)
    (h : Tsig.signResponse (ε := ε) hm p m pm alg key = .ok (x, mac)) : ∃ data, mac = hm alg key data := by
  unfold Tsig.signResponse at h
  split at h
  · cases h
  · cases h1 : (Tsig.responseInput m pm p.originalId (p.vars alg.name) : Out ε Tsig.Octets) with
    | panic => rw [h1] at h; cases h
    | err e => rw [h1] at h; cases h
    | ok data =>
      rw [h1] at h
      simp only [Out.bind_ok] at h
      cases h2 : (p.serializeRdata alg.name (hm alg key data) : Out ε Tsig.Octets) with
      | panic => rw [h2] at h; cases h
      | err e => rw [h2] at h; cases h
      | ok rd =>
        rw [h2] at h
        simp only [Out.bind_ok, Out.pure_eq, Out.ok.injEq, Prod.mk.injEq] at h
        exact ⟨data, h.2.symm⟩

theorem macLenOK_server (hh : HmacLenOK) : MacLenOK macFn := by
  intro ts msg
  unfold macFn macFnWith
  cases hmode : ts.mode with
  | request a k => simp
  | subsequent a pm k => simp
  | unsigned n => simp
  | response alg rm key =>
    simp only
    split
    · rename_i x mac hs
      obtain ⟨data, hd⟩ := signResponse_mac _ _ _ _ _ _ _ _ hs
      rw [hd, hh]
      cases alg <;> exact Nat.le_refl _
    · simp

/-! ### header setters: frame -/

theorem setHdr_frame (i : Nat) (f : UInt8 → UInt8) (s : State) :
    (setHdr i f s).2.sect = s.sect ∧ (setHdr i f s).2.qdcount = s.qdcount := by
  unfold setHdr; split <;> exact ⟨rfl, rfl⟩

theorem write_frame (pos : Nat) (d : List UInt8) (s : State) :
    (write pos d s).2.sect = s.sect ∧ (write pos d s).2.qdcount = s.qdcount := by
  unfold write; split <;> exact ⟨rfl, rfl⟩

/-- what `handle_message` asks of its environment -/
structure EnvOK (cfg : Cfg) (tr : Transport) (now bufLen : Nat) (req : Bytes) : Prop where
  /-- the documented requirement on `response_buf` (otherwise: the documented panic) -/
  buf : (match tr with | .tcp => 65535 | .udp => cfg.payload) ≤ bufLen
  /-- `SystemTime::now()` is representable in the 48-bit TSIG "time signed" field (until the year
      8.9 million) -/
  now : now < 2^48
  /-- the request's length fits a `usize` (it is a slice: `len ≤ isize::MAX`) -/
  req : req.size < 2^64

theorem prog_safe (cfg : Cfg) (hcfg : CfgWF cfg) (tr : Transport) (now : Nat) (hnow : now < 2^48)
    (r0 : Reader) (hr0 : RInv r0) (id opc : Nat) (rdv : Bool) (w0 : State) (hI0 : W.I w0)
    (hsect : w0.sect = .question) (hqd : w0.qdcount = 0) :
    Safe0 W (prog cfg tr now r0 id opc rdv) w0 ∧ NoErr (prog cfg tr now r0 id opc rdv) := by
  unfold prog
  constructor
  · have fr : ∀ (cl : Call) s, W.I s → cl.Pre W.Den s → s.sect = .question ∧ s.qdcount = 0 →
        ((cl.run s).2.sect = s.sect ∧ (cl.run s).2.qdcount = s.qdcount) →
        Safe W cl.run s (fun _ s' => s'.sect = .question ∧ s'.qdcount = 0) :=
      fun cl s hi hp hs hf => safe_call_post W cl s hi hp (Q := fun s' => s'.sect = .question ∧ s'.qdcount = 0)
        ⟨hf.1.trans hs.1, hf.2.trans hs.2⟩
    refine safe_bind0_M W (fr (.setId _) w0 hI0 trivial ⟨hsect, hqd⟩ (write_frame _ _ _)) (fun _ s1 hi1 _ hs1 => ?_)
    refine safe_bind0_M W (fr (.setBit Gen.QR_BYTE Gen.QR_MASK true) s1 hi1 (show Gen.QR_BYTE < Gen.HEADER_SIZE by decide) hs1 (setHdr_frame _ _ _))
      (fun _ s2 hi2 _ hs2 => ?_)
    refine safe_bind0_M W (fr (.setOpcode opc) s2 hi2 trivial hs2 (setHdr_frame _ _ _)) (fun _ s3 hi3 _ hs3 => ?_)
    have hk : ∀ s4, W.I s4 → s4.sect = .question ∧ s4.qdcount = 0 →
        Safe0 W (handleWithContext cfg tr now r0) s4 := fun s4 hi4 hs4 =>
      handleWithContext_safe W cfg tr now hnow (querySafe W cfg hcfg tr) r0 hr0 s4 hi4 hs4.1 hs4.2
    split
    · exact safe_bind0_M W (fr (.setBit Gen.RD_BYTE Gen.RD_MASK rdv) s3 hi3 (show Gen.RD_BYTE < Gen.HEADER_SIZE by decide) hs3 (setHdr_frame _ _ _))
        (fun _ s4 hi4 _ hs4 => hk s4 hi4 hs4)
    · exact hk s3 hi3 hs3
  · refine noErr_bind (noErr_setId _) (fun _ => noErr_bind (noErr_setQr _) (fun _ =>
      noErr_bind (noErr_setOpcode _) (fun _ => ?_)))
    split
    · exact noErr_bind (noErr_setRd _) (fun _ => noErr_handleWithContext _ _ _ _)
    · exact noErr_handleWithContext _ _ _ _

/-- **L4**: up to RRL `handle_message` never panics, and the writer it has built satisfies the
    writer invariant -/
theorem handleToContext_cases (W : WriterSafe) (cfg : Cfg) (hcfg : CfgWF cfg) (tr : Transport)
    (now bufLen : Nat) (req : Bytes) (henv : EnvOK cfg tr now bufLen req) :
    handleToContext cfg tr now bufLen req = .ok .noContext ∨
    ∃ send w1 r0, W.I w1 ∧ Reader.Inv r0 ∧ handleToContext cfg tr now bufLen req = .ok (.ctx send w1 r0) := by
  obtain ⟨_, h⟩ | ⟨id, opc, rdv, h12, _, _, _, _, h⟩ :=
    handleToContext_shell cfg tr now bufLen req henv.buf hcfg.payload
  · exact .inl h
  · have hinv : Reader.Inv ⟨req, 12, none⟩ := ⟨h12, h12⟩
    have hnew := ServerScan.new_eq bufLen (ServerScan.lim0 tr) (by
      have := henv.buf; have := hcfg.payload
      cases tr <;> simp only [ServerScan.lim0] at * <;> omega)
    obtain ⟨⟨hp1, hp2⟩, hne⟩ := prog_safe W cfg hcfg tr now henv.now _ ⟨hinv, Nat.le_refl 12, henv.req⟩ id opc rdv _
      (W.new_I _ _ _ (by cases tr <;> decide) hnew) rfl rfl
    have hne' := hne.h (ServerScan.w0 bufLen (ServerScan.lim0 tr))
    rw [h]
    generalize prog cfg tr now ⟨req, 12, none⟩ id opc rdv _ = res at hp1 hp2 hne'
    obtain ⟨o, w1⟩ := res
    cases o with
    | panic => exact absurd rfl hp1
    | err e => exact absurd rfl (hne' e)
    | ok send => exact .inr ⟨send, w1, _, hp2, hinv, rfl⟩

/-- **L4**: what `handle_message` returns: no response, or the octets `finish` produced from a
    writer state satisfying the writer invariant — never a panic -/
theorem handleMessage_cases (W : WriterSafe) (cfg : Cfg) (hcfg : CfgWF cfg) (tr : Transport) (now bufLen : Nat)
    (req : Bytes) (henv : EnvOK cfg tr now bufLen req) (hmac : MacLenOK macFn) :
    handleMessage cfg tr now bufLen req = .ok none ∨
    ∃ w1 b mac, W.I w1 ∧ Writer.finish w1 macFn = .ok (b, mac) ∧
      handleMessage cfg tr now bufLen req = .ok (some b) := by
  rw [handleMessage_eq_toContext]
  obtain h | ⟨send, w1, r0, hi, _, h⟩ := handleToContext_cases W cfg hcfg tr now bufLen req henv <;> rw [h]
  · exact Or.inl rfl
  · cases send
    · exact Or.inl rfl
    · obtain ⟨b, mac, hf⟩ := finish_ok W w1 macFn hi hmac
      exact Or.inr ⟨w1, b, mac, hi, hf, by simp only [finishResponse, hf]⟩

/-- **L4**: `handle_message` never panics -/
theorem handleMessage_no_panic (W : WriterSafe) (cfg : Cfg) (hcfg : CfgWF cfg) (tr : Transport) (now bufLen : Nat)
    (req : Bytes) (henv : EnvOK cfg tr now bufLen req) (hmac : MacLenOK macFn) :
    handleMessage cfg tr now bufLen req ≠ .panic := by
  rcases handleMessage_cases W cfg hcfg tr now bufLen req henv hmac with h | ⟨_, _, _, _, _, h⟩ <;>
    rw [h] <;> simp

end QV.ServerSafety
