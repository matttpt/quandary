/-
  QV.Proofs.Frame — frame lemmas for the writer model: the operations the answering phase of the
  server issues (`add_*_rr`, `add_*_rrset`, `set_aa`, `set_tc`, `set_rcode`, `clear_rrs`) never touch
  the ID, QR, opcode, RD, RA, Z/AD/CD bits, the question octets, QDCOUNT, `rr_start`, the TSIG slot or
  the EDNS payload size, and never move the cursor below the start of the records (`Fr true b`, `Framed`;
  for the record writers because `Fr k b` is an operation law, `frLaw`). The calls of the scan (`set_edns`,
  `set_tsig`, `set_limit`) keep all of that but the TSIG slot and the payload size (`Fr false b`), and
  `finish` hands the framed part over to the message (`finish_frame`).
-/
import QV.Proofs.WriterView
import QV.Proofs.WriterSingle
import QV.Proofs.WriterLaw

namespace QV.Writer
open QV

/-- what is preserved from `s` to `s'`, relative to a bound `b` (the start of the records) -/
structure Fr (k : Bool) (b : Nat) (s s' : State) : Prop where
  size : s'.octets.size = s.octets.size
  body : ∀ i, i < b → i ≠ 2 → i ≠ 3 → s'.octets[i]? = s.octets[i]?
  o2 : (s'.octets.getD 2 0) &&& 0xF9 = (s.octets.getD 2 0) &&& 0xF9
  o3 : (s'.octets.getD 3 0) &&& 0xF0 = (s.octets.getD 3 0) &&& 0xF0
  qd : s'.qdcount = s.qdcount
  rrStart : s'.rrStart = s.rrStart
  cur : b ≤ s'.cursor
  /-- with `k`: the TSIG slot and the EDNS payload size are preserved too -/
  keep : k = true → s'.tsig = s.tsig ∧ s'.edns.map (·.payload) = s.edns.map (·.payload)

theorem Fr.refl (k : Bool) (b : Nat) (s : State) (h : b ≤ s.cursor) : Fr k b s s :=
  ⟨rfl, fun _ _ _ _ => rfl, rfl, rfl, rfl, rfl, h, fun _ => ⟨rfl, rfl⟩⟩

theorem Fr.trans {k : Bool} {b : Nat} {s s' s'' : State} (h1 : Fr k b s s') (h2 : Fr k b s' s'') : Fr k b s s'' :=
  ⟨h2.size.trans h1.size, fun i a c d => (h2.body i a c d).trans (h1.body i a c d), h2.o2.trans h1.o2,
   h2.o3.trans h1.o3, h2.qd.trans h1.qd, h2.rrStart.trans h1.rrStart, h2.cur,
   fun hk => ⟨((h2.keep hk).1).trans (h1.keep hk).1, ((h2.keep hk).2).trans (h1.keep hk).2⟩⟩

theorem Fr.weaken {k : Bool} {b : Nat} {s s' : State} (h : Fr k b s s') : Fr false b s s' :=
  ⟨h.size, h.body, h.o2, h.o3, h.qd, h.rrStart, h.cur, fun hk => by cases hk⟩

/-- the computation `m`, started in `s` with cursor and `rr_start` at or above `b`, frames -/
def FramedAt {α} (k : Bool) (b : Nat) (m : M α) (s : State) : Prop :=
  b ≤ s.cursor → b ≤ s.rrStart → Fr k b s (m s).2

/-- … from every such state -/
def Framed {α} (k : Bool) (b : Nat) (m : M α) : Prop := ∀ s, FramedAt k b m s

theorem Framed.weaken {α} {k : Bool} {b : Nat} {m : M α} (h : Framed k b m) : Framed false b m :=
  fun s hc hr => (h s hc hr).weaken

variable {k : Bool}

theorem framedAt_bind {α β} {b : Nat} {x : M α} {f : α → M β} {s : State}
    (hx : FramedAt k b x s) (hf : b ≤ s.cursor → ∀ a s', x s = (.ok a, s') → FramedAt k b (f a) s') :
    FramedAt k b (x >>= f) s := by
  intro hc hr
  have h1 := hx hc hr
  rw [M.bind_apply]
  rcases hxs : x s with ⟨(a | e | _), s1⟩
  · rw [hxs] at h1
    simp only
    have := hf hc a s1 hxs h1.cur (by rw [h1.rrStart]; exact hr)
    exact h1.trans this
  · rw [hxs] at h1; exact h1
  · rw [hxs] at h1; exact h1

theorem framed_bind {α β} {b : Nat} {x : M α} {f : α → M β} (hx : Framed k b x) (hf : ∀ a, Framed k b (f a)) :
    Framed k b (x >>= f) := fun s => framedAt_bind (hx s) (fun _ a s' _ => hf a s')

theorem framed_pure {α} (b : Nat) (a : α) : Framed k b (pure a : M α) := fun s hc _ => Fr.refl _ b s hc
theorem framed_panic {α} (b : Nat) : Framed k b (M.panic : M α) := fun s hc _ => Fr.refl _ b s hc
theorem framed_gets {α} (b : Nat) (φ : State → α) : Framed k b (M.gets φ) := fun s hc _ => Fr.refl _ b s hc

/-- a state update that leaves the framed fields alone -/
theorem framed_modify (b : Nat) (f : State → State)
    (hf : ∀ s, (f s).octets = s.octets ∧ (f s).qdcount = s.qdcount ∧ (f s).rrStart = s.rrStart ∧
      (b ≤ s.cursor → b ≤ s.rrStart → b ≤ (f s).cursor) ∧
      (k = true → (f s).tsig = s.tsig ∧ (f s).edns.map (·.payload) = s.edns.map (·.payload))) :
    Framed k b (M.modify f) := by
  intro s hc hr
  obtain ⟨h1, h2, h3, h6, h7⟩ := hf s
  show Fr k b s (f s)
  exact ⟨by rw [h1], fun _ _ _ _ => by rw [h1], by rw [h1], by rw [h1], h2, h3, h6 hc hr, h7⟩

theorem framed_ite {α} (b : Nat) (c : Prop) [Decidable c] (x y : M α) (hx : Framed k b x) (hy : Framed k b y) :
    Framed k b (if c then x else y) := by
  split <;> assumption

/-! ### writes at or above the bound -/

theorem fr_writeAt (b : Nat) (hb : 4 ≤ b) (s : State) (pos : Nat) (data : List UInt8) (hp : b ≤ pos) (hc : b ≤ s.cursor) :
    Fr k b s { s with octets := writeAt s.octets pos data } := by
  have hget : ∀ i, i < b → (writeAt s.octets pos data)[i]? = s.octets[i]? := by
    intro i hi
    rw [writeAt_getElem?, if_neg (by omega)]
  refine ⟨writeAt_size _ _ _, fun i hi _ _ => hget i hi, ?_, ?_, rfl, rfl, hc, fun _ => ⟨rfl, rfl⟩⟩
  · show (writeAt s.octets pos data).getD 2 0 &&& 0xF9 = _
    rw [Array.getD_eq_getD_getElem?, Array.getD_eq_getD_getElem?, hget 2 (by omega)]
  · show (writeAt s.octets pos data).getD 3 0 &&& 0xF0 = _
    rw [Array.getD_eq_getD_getElem?, Array.getD_eq_getD_getElem?, hget 3 (by omega)]

/-- an update of ghost / compression bookkeeping fields only -/
theorem fr_same (b : Nat) (s s' : State) (h1 : s'.octets = s.octets) (h2 : s'.qdcount = s.qdcount)
    (h3 : s'.rrStart = s.rrStart) (h6 : b ≤ s'.cursor)
    (h7 : k = true → s'.tsig = s.tsig ∧ s'.edns.map (·.payload) = s.edns.map (·.payload)) :
    Fr k b s s' :=
  ⟨by rw [h1], fun _ _ _ _ => by rw [h1], by rw [h1], by rw [h1], h2, h3, h6, h7⟩

/-! ### names, records and the record-adding calls -/

/-- `Fr k b` from states whose cursor and `rr_start` lie at or above `b` is an operation law -/
theorem frLaw (k : Bool) (b : Nat) (hb : 4 ≤ b) :
    OpLaw (fun s s' => b ≤ s.cursor → b ≤ s.rrStart → Fr k b s s') fun _ => True where
  refl s hc _ := Fr.refl k b s hc
  trans h1 h2 hc hr := (h1 hc hr).trans (h2 (h1 hc hr).cur ((h1 hc hr).rrStart ▸ hr))
  trunc := trivial
  invalid := trivial
  order := trivial
  overflow := trivial
  push s d gl _ _ _ hc _ := (fr_writeAt b hb s s.cursor d hc hc).trans
    (fr_same b _ _ rfl rfl rfl (Nat.le_trans hc (Nat.le_add_right _ _)) fun _ => ⟨rfl, rfl⟩)
  ptr s _ hc _ := fr_same b s _ rfl rfl rfl hc fun _ => ⟨rfl, rfl⟩
  ctx s _ hc _ := fr_same b s _ rfl rfl rfl hc fun _ => ⟨rfl, rfl⟩
  owner s _ hc _ := fr_same b s _ rfl rfl rfl hc fun _ => ⟨rfl, rfl⟩
  inRdata s _ hc _ := fr_same b s _ rfl rfl rfl hc fun _ => ⟨rfl, rfl⟩
  qname s _ hc _ := fr_same b s _ rfl rfl rfl hc fun _ => ⟨rfl, rfl⟩
  hv s _ hc _ := fr_same b s _ rfl rfl rfl hc fun _ => ⟨rfl, rfl⟩
  skip s n _ hc _ := fr_same b s _ rfl rfl rfl (Nat.le_trans hc (Nat.le_add_right _ _)) fun _ => ⟨rfl, rfl⟩
  patch pos d h hp _ hc hr := (h hc hr).trans (fr_writeAt b hb _ pos d (Nat.le_trans hc hp) (h hc hr).cur)
  sect s _ hc _ := fr_same b s _ rfl rfl rfl hc fun _ => ⟨rfl, rfl⟩
  count s sec n hc _ := by cases sec <;> exact fr_same b s _ rfl rfl rfl hc fun _ => ⟨rfl, rfl⟩
  rollback h hc hr := (h hc hr).trans (fr_same b _ _ rfl rfl rfl hc fun _ => ⟨rfl, rfl⟩)

theorem Steps.framed {α} {b : Nat} {f : M α} {E : WriterErr → Prop}
    (h : Steps (fun s s' => b ≤ s.cursor → b ≤ s.rrStart → Fr k b s s') E f) : Framed k b f := fun s => (h s).1

theorem framed_addRr (b : Nat) (hb : 4 ≤ b) (hint : Hint) (owner : WName) (ty cls ttl : Nat) (rdata : List UInt8) :
    Framed k b (addRr hint owner ty cls ttl rdata) := ((frLaw k b hb).addRr trivial _ _ _ _ _ _).framed

theorem framed_addRrsetOp (b : Nat) (hb : 4 ≤ b) (sec : RrSection) (hint : Hint) (owner : WName) (ty cls ttlRaw : Nat)
    (rdatas : List (List UInt8)) : Framed k b (addRrsetOp sec hint owner ty cls ttlRaw rdatas) :=
  ((frLaw k b hb).addRrsetOp _ _ _ _ _ _ _).framed

/-- `clear_rrs`: the cursor returns to `rr_start` -/
theorem framed_clearRrs (b : Nat) : Framed k b clearRrs :=
  fun s _ hr => fr_same b s _ rfl rfl rfl hr (fun _ => ⟨rfl, rfl⟩)

/-! ### AA, TC, RCODE -/

/-- or-ing in bits that lie outside the mask `m` is invisible under `m` -/
theorem or_and_mask (x : UInt8) {y m : UInt8} (h : y &&& m = 0) : (x ||| y) &&& m = x &&& m := by
  have : (x ||| y) &&& m = x &&& m ||| y &&& m := UInt8.toBitVec_inj.1 BitVec.and_or_distrib_right
  rw [this, h, UInt8.or_zero]

/-- and-ing with `a` clears nothing that the mask `m` shows when `a` has all the bits of `m` -/
theorem and_and_mask (x : UInt8) {a m : UInt8} (h : a &&& m = m) : (x &&& a) &&& m = x &&& m := by
  rw [UInt8.and_assoc, h]

/-- a header-octet update that keeps the masked bits of octets 2 and 3 -/
theorem framed_setHdr (b : Nat) (hb : 4 ≤ b) (i : Nat) (f : UInt8 → UInt8)
    (hi : i = 2 ∨ i = 3) (h2 : i = 2 → ∀ x, f x &&& 0xF9 = x &&& 0xF9) (h3 : i = 3 → ∀ x, f x &&& 0xF0 = x &&& 0xF0) :
    Framed k b (setHdr i f) := by
  intro s hc _
  unfold setHdr
  split
  · rename_i hlt
    have hget : ∀ j, j ≠ i → (s.octets.set i (f s.octets[i]))[j]? = s.octets[j]? := by
      intro j hj
      rw [Array.getElem?_set]; simp [Ne.symm hj]
    have hself : (s.octets.set i (f s.octets[i])).getD i 0 = f (s.octets.getD i 0) := by
      simp [Array.getD, hlt]
    refine ⟨by simp, fun j _ j2 j3 => hget j (by rcases hi with rfl | rfl <;> assumption), ?_, ?_, rfl, rfl, hc, fun _ => ⟨rfl, rfl⟩⟩
    · rcases hi with rfl | rfl
      · show (s.octets.set 2 _).getD 2 0 &&& 0xF9 = _
        rw [hself, h2 rfl]
      · show (s.octets.set 3 _).getD 2 0 &&& 0xF9 = _
        rw [Array.getD_eq_getD_getElem?, hget 2 (by omega), ← Array.getD_eq_getD_getElem?]
    · rcases hi with rfl | rfl
      · show (s.octets.set 2 _).getD 3 0 &&& 0xF0 = _
        rw [Array.getD_eq_getD_getElem?, hget 3 (by omega), ← Array.getD_eq_getD_getElem?]
      · show (s.octets.set 3 _).getD 3 0 &&& 0xF0 = _
        rw [hself, h3 rfl]
  · exact Fr.refl _ b s hc

theorem framed_setAa (b : Nat) (hb : 4 ≤ b) (v : Bool) : Framed k b (setAa v) := by
  unfold setAa setBit
  refine framed_setHdr b hb _ _ (Or.inl rfl) (fun _ x => ?_) (fun h => by cases h)
  cases v
  · exact and_and_mask x (by decide)
  · exact or_and_mask x (by decide)

theorem framed_setTc (b : Nat) (hb : 4 ≤ b) (v : Bool) : Framed k b (setTc v) := by
  unfold setTc setBit
  refine framed_setHdr b hb _ _ (Or.inl rfl) (fun _ x => ?_) (fun h => by cases h)
  cases v
  · exact and_and_mask x (by decide)
  · exact or_and_mask x (by decide)

theorem low_nibble : ∀ r : Fin 16, UInt8.ofNat r.val &&& 0xF0 = 0 := by decide

/-- `set_rcode` with an RCODE below 16 (every `Rcode` is) -/
theorem framed_setRcode (b : Nat) (hb : 4 ≤ b) (rc : Nat) (hrc : rc < 16) : Framed k b (setRcode rc) := by
  unfold setRcode
  refine framed_bind (framed_setHdr b hb _ _ (Or.inr rfl) (fun h => by cases h) (fun _ x => (or_and_mask _ (low_nibble ⟨rc, hrc⟩)).trans (and_and_mask x (by decide))))
    fun _ => ?_
  intro s hc _
  show Fr k b s (match s.edns with
    | some e => { s with edns := some { e with upper := 0 } }
    | none => s)
  cases he : s.edns with
  | none => exact Fr.refl _ b s hc
  | some e => exact fr_same b s _ rfl rfl rfl hc (fun _ => ⟨rfl, by simp [he]⟩)


/-! ### the EDNS / TSIG / limit operations of the scan -/

theorem framed_setEdns (b : Nat) (payload : Nat) : Framed false b (setEdns payload) := by
  intro s hc _
  rcases setEdns_cases payload s with ⟨_, h, _⟩ | ⟨_, _, _, h⟩ <;> rw [h]
  · exact Fr.refl _ b s hc
  · exact fr_same b s _ rfl rfl rfl hc (fun h => by cases h)

theorem framed_setLimit (b : Nat) (nl : Nat) : Framed false b (setLimit nl) := by
  intro s hc _
  rcases setLimit_cases nl s with ⟨_, h⟩ | ⟨_, _, h, _⟩ <;> rw [h]
  · exact Fr.refl _ b s hc
  · exact fr_same b s _ rfl rfl rfl hc (fun h => by cases h)

theorem framed_setTsig (b : Nat) (mode : TsigMode) (rr : TsigRr) : Framed false b (setTsig mode rr) := by
  intro s hc _
  rcases setTsig_cases mode rr s with ⟨_, h, _⟩ | ⟨_, _, _, h⟩ <;> rw [h]
  · exact Fr.refl _ b s hc
  · exact fr_same b s _ rfl rfl rfl hc (fun h => by cases h)

theorem framed_setExtendedRcode (b : Nat) (hb : 4 ≤ b) (raw : Nat) : Framed k b (setExtendedRcode raw) := by
  intro s hc hr
  rcases setExtendedRcode_cases raw s with ⟨_, h⟩ | ⟨e0, hedns, ⟨_, h⟩ | ⟨_, r, s1, hs1, ⟨_, _, h⟩ | ⟨rfl, h⟩⟩⟩ <;> rw [h]
  · exact Fr.refl _ b s hc
  · exact Fr.refl _ b s hc
  · exact Fr.refl _ b s hc
  · have hk1 : Fr k b s s1 := by
      have := framed_setHdr (k := k) b hb Gen.RCODE_BYTE
        (fun b => (b &&& ~~~ (UInt8.ofNat Gen.RCODE_MASK)) ||| (UInt8.ofNat (raw % 256) &&& UInt8.ofNat Gen.RCODE_MASK))
        (Or.inr rfl) (fun h => by cases h)
        (fun _ x => (or_and_mask _ (by rw [UInt8.and_assoc]; exact UInt8.and_zero)).trans (and_and_mask x (by decide))) s hc hr
      rwa [hs1] at this
    exact hk1.trans (fr_same b s1 _ rfl rfl rfl hk1.cur (fun hk => ⟨rfl, by rw [(hk1.keep hk).2, hedns]; rfl⟩))

theorem framed_unwrap {α} (b : Nat) (m : M α) (h : Framed k b m) : Framed k b (unwrap m) := by
  intro s hc hr
  rw [unwrap_snd]; exact h s hc hr


/-! ### `finish` frames -/

theorem framed_finishOpt (b : Nat) (hb : 4 ≤ b) (e : Option Edns) : Framed k b (finishOpt e) := by
  unfold finishOpt
  cases e with
  | none => exact framed_pure b ()
  | some e =>
    exact framed_bind (framed_modify b _ fun s => ⟨rfl, rfl, rfl, fun h _ => h, fun _ => ⟨rfl, rfl⟩⟩) fun _ =>
      framed_unwrap b _ (framed_addRr b hb _ _ _ _ _ _)

theorem framed_finishTsig (b : Nat) (hb : 4 ≤ b) (macFn : Tsig → List UInt8 → List UInt8) (t : Option Tsig) :
    Framed false b (finishTsig macFn t) := by
  unfold finishTsig
  cases t with
  | none => exact framed_bind (framed_gets b _) fun _ => framed_pure b _
  | some ts =>
    refine framed_bind (framed_gets b _) fun message => ?_
    cases message with
    | none => exact framed_panic b
    | some message =>
      refine framed_bind (framed_modify b _ fun s => ⟨rfl, rfl, rfl, fun h _ => h, fun h => by cases h⟩) fun _ => ?_
      refine framed_bind (framed_unwrap b _ (framed_addRr b hb _ _ _ _ _ _)) fun _ => ?_
      exact framed_bind (framed_gets b _) fun _ => framed_pure b _

theorem withCounts_qd (s : State) (j : Nat) (hj : j < 2) (hsz : 6 ≤ s.octets.size) :
    (withCounts s)[4 + j]? = (u16be s.qdcount)[j]? := by
  unfold withCounts
  rw [writeAt_getElem?, if_neg (by rw [u16be_length]; omega), writeAt_getElem?, if_neg (by rw [u16be_length]; omega),
    writeAt_getElem?, if_neg (by rw [u16be_length]; omega), writeAt_getElem?, if_pos (by rw [u16be_length]; omega),
    Nat.add_sub_cancel_left]

/-- **`finish` frames.** If `finish` succeeds on a writer whose records start at `b ≥ 12`, the
    finished message has at least `b` octets; its octets 0, 1 and `12 … b-1` (the question) are the
    buffer's, the flag octets agree on QR/opcode/RD and on RA/Z/AD/CD, and octets 4–5 are QDCOUNT. -/
theorem finish_frame (b : Nat) (hb : 12 ≤ b) (s : State) (macFn : Tsig → List UInt8 → List UInt8)
    (hc : b ≤ s.cursor) (hr : b ≤ s.rrStart) (hsz : b ≤ s.octets.size)
    (bytes : Bytes) (mac : Option (List UInt8)) (h : finish s macFn = .ok (bytes, mac)) :
    b ≤ bytes.size ∧
    (∀ i, i < b → (i < 2 ∨ 12 ≤ i) → bytes[i]? = s.octets[i]?) ∧
    (bytes.getD 2 0 &&& 0xF9 = s.octets.getD 2 0 &&& 0xF9) ∧
    (bytes.getD 3 0 &&& 0xF0 = s.octets.getD 3 0 &&& 0xF0) ∧
    bytes[4]? = (u16be s.qdcount)[0]? ∧ bytes[5]? = (u16be s.qdcount)[1]? := by
  -- the OPT and TSIG records are appended from the state `s4` that holds the counts
  unfold finish at h
  rw [finishWithMac_eq macFn s (by omega)] at h
  generalize hs4 : ({ s with octets := withCounts s } : State) = s4 at h
  have ho4 : s4.octets = withCounts s := by rw [← hs4]
  have hc4 : s4.cursor = s.cursor := by rw [← hs4]
  have hr4 : s4.rrStart = s.rrStart := by rw [← hs4]
  have hfr := framedAt_bind ((framed_finishOpt (k := false) b (by omega) s.edns) s4)
    (fun _ _ s' _ => framed_finishTsig b (by omega) macFn s.tsig s') (by rw [hc4]; exact hc) (by rw [hr4]; exact hr)
  rcases hres : (finishOpt s.edns >>= fun _ => finishTsig macFn s.tsig) s4 with ⟨(r | e | _), s'⟩
  · rw [hres] at h hfr
    obtain ⟨len, mac'⟩ := r
    have hbytes : bytes = s'.octets.extract 0 len := by
      simp only [Out.ok.injEq, Prod.mk.injEq] at h
      exact h.1.symm
    have hfr' : Fr false b s4 s' := hfr
    -- the length returned is the final cursor
    have hlen : len = s'.cursor := by
      obtain ⟨_, _, _, ht⟩ := M.bind_eq_ok.mp hres
      rcases finishTsig_ok_inv ht with ⟨_, rfl, h, _⟩ | ⟨_, _, _, _, h, _⟩ <;> exact h
    have hcur := hfr'.cur
    have hs' : s'.octets.size = s.octets.size := by rw [hfr'.size, ho4, withCounts_size]
    -- below `b` the message is the final buffer
    have hget : ∀ i, i < b → bytes[i]? = s'.octets[i]? := by
      intro i hi
      rw [hbytes, Array.getElem?_extract, if_pos (by omega)]
      simp
    have hgetD : ∀ i, i < b → (i < 4 ∨ 12 ≤ i) → i ≠ 2 → i ≠ 3 → bytes[i]? = s.octets[i]? := by
      intro i hi h4 h2 h3
      rw [hget i hi, hfr'.body i hi h2 h3, ho4, withCounts_getElem? s i h4]
    have hD : ∀ i, i < 4 → ∀ a : Bytes, a.getD i 0 = (a[i]?).getD 0 := fun _ _ a => Array.getD_eq_getD_getElem? ..
    refine ⟨?_, fun i hi hi' => hgetD i hi (by omega) (by omega) (by omega), ?_, ?_, ?_, ?_⟩
    · rw [hbytes, Array.size_extract]; omega
    · rw [hD 2 (by omega), hget 2 (by omega), ← hD 2 (by omega), hfr'.o2, hD 2 (by omega), ho4,
        withCounts_getElem? s 2 (by omega), ← hD 2 (by omega)]
    · rw [hD 3 (by omega), hget 3 (by omega), ← hD 3 (by omega), hfr'.o3, hD 3 (by omega), ho4,
        withCounts_getElem? s 3 (by omega), ← hD 3 (by omega)]
    · rw [hget 4 (by omega), hfr'.body 4 (by omega) (by omega) (by omega), ho4]
      exact withCounts_qd s 0 (by omega) (by omega)
    · rw [hget 5 (by omega), hfr'.body 5 (by omega) (by omega) (by omega), ho4]
      exact withCounts_qd s 1 (by omega) (by omega)
  · rw [hres] at h; cases h
  · rw [hres] at h; cases h

end QV.Writer
