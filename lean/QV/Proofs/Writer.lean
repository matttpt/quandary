/-
  QV.Proofs.Writer — frame, rollback and the numeric invariant of the writer (`QV.Model.Writer`), for C12 / C13.

  The frame relation `Ext` (what no internal write step changes), a record law (`extLaw`), so every
  internal routine is a `Frame`; rollback and `Same`; the numeric invariant `Inv`, kept by every public
  call (`step_inv`, `run_inv`), and from it `finish`'s length bound (`finish_size_le_limit`, by the triples
  `Tri`); the pointer log `LogOK` (by `Hoare`); the extended RCODE; the generated `Rdata::components`
  tables as one decision list (`componentTypes_arms`).
-/
import QV.Proofs.WriterRoutine

namespace QV.Writer
open QV QV.Wire

/-! ### the frame relation -/

/-- the last field of `Ext` when no label start is recorded: with this, `constructor <;> simp` proves `Ext s s'`
    for an `s'` that is `s` with bookkeeping fields changed -/
@[simp] theorem gnew_trivial {g : Nat} {L : List Nat} {c : Nat} : (g ∈ L → g ∈ L ∨ c ≤ g) = True :=
  eq_true fun h => Or.inl h

/-- What no internal write step changes: the buffer below the cursor it started from, the
    buffer size, the limit bookkeeping, the counts and the configuration; the cursor only grows
    and stays below `available` if it was. -/
structure Ext (s s' : State) : Prop where
  size : s'.octets.size = s.octets.size
  cur : s.cursor ≤ s'.cursor
  avail : s.cursor ≤ s.available → s'.cursor ≤ s.available
  pre : ∀ i, i < s.cursor → s'.octets[i]? = s.octets[i]?
  limit : s'.limit = s.limit
  available : s'.available = s.available
  rrStart : s'.rrStart = s.rrStart
  qd : s'.qdcount = s.qdcount
  an : s'.ancount = s.ancount
  ns : s'.nscount = s.nscount
  ar : s'.arcount = s.arcount
  mode : s'.mode = s.mode
  edns : s'.edns = s.edns
  tsig : s'.tsig = s.tsig
  /-- ghost: the set of recorded label starts only grows -/
  glab : ∀ g, g ∈ s.gLabels → g ∈ s'.gLabels
  /-- ghost: label starts are only recorded at or above the cursor of the time -/
  gnew : ∀ g, g ∈ s'.gLabels → g ∈ s.gLabels ∨ s.cursor ≤ g

theorem Ext.refl (s : State) : Ext s s := by constructor <;> simp

theorem Ext.trans {a b c : State} (h1 : Ext a b) (h2 : Ext b c) : Ext a c := by
  constructor
  · rw [h2.size, h1.size]
  · exact Nat.le_trans h1.cur h2.cur
  · intro h
    have h3 := h1.avail h
    have := h2.avail (by rw [h1.available]; exact h3)
    rw [h1.available] at this; exact this
  · intro i hi
    rw [h2.pre i (by have := h1.cur; omega), h1.pre i hi]
  · rw [h2.limit, h1.limit]
  · rw [h2.available, h1.available]
  · rw [h2.rrStart, h1.rrStart]
  · rw [h2.qd, h1.qd]
  · rw [h2.an, h1.an]
  · rw [h2.ns, h1.ns]
  · rw [h2.ar, h1.ar]
  · rw [h2.mode, h1.mode]
  · rw [h2.edns, h1.edns]
  · rw [h2.tsig, h1.tsig]
  · exact fun g hg => h2.glab g (h1.glab g hg)
  · intro g hg
    rcases h2.gnew g hg with h | h
    · exact h1.gnew g h
    · exact Or.inr (Nat.le_trans h1.cur h)

/-- `f` is a frame: whatever its outcome, the state it leaves extends the state it started in -/
def Frame {α} (f : M α) : Prop := ∀ s, Ext s (f s).2

theorem frame_get : Frame M.get := fun s => Ext.refl s

theorem frame_bind {α β} {f : M α} {g : α → M β} (hf : Frame f) (hg : ∀ a, Frame (g a)) :
    Frame (f >>= g) := by
  intro s
  have h1 := hf s
  simp only [M.bind_apply]
  cases hfs : f s with
  | mk r s' =>
    rw [hfs] at h1
    cases r with
    | ok a => exact Ext.trans h1 (hg a s')
    | err e => exact h1
    | panic => exact h1

/-- bind where the continuation may use the value read (`let s ← M.get`) -/
theorem frame_get_bind {β} {g : State → M β} (hg : ∀ a, Frame (g a)) : Frame (M.get >>= g) :=
  frame_bind frame_get hg

theorem frame_modify (f : State → State) (h : ∀ s, Ext s (f s)) : Frame (M.modify f) := h

/-- `Ext` is a record law: every internal routine is a `Frame` -/
theorem extLaw : RecLaw Ext fun _ => True where
  refl := Ext.refl
  trans := Ext.trans
  trunc := trivial
  push s d gl h1 _ hg := ⟨writeAt_size _ _ _, Nat.le_add_right _ _, fun _ => h1, fun i hi => writeAt_get_lt _ _ _ _ hi,
    rfl, rfl, rfl, rfl, rfl, rfl, rfl, rfl, rfl, rfl, fun _ h => List.mem_append_right _ h,
    fun g h => (List.mem_append.mp h).elim (fun h => Or.inr (hg g h)) Or.inl⟩
  ptr s ev := by constructor <;> simp
  ctx s c := by constructor <;> simp
  owner s p := by constructor <;> simp
  inRdata s p := by constructor <;> simp
  qname s p := by constructor <;> simp
  hv s v := by constructor <;> simp
  skip s n h := by constructor <;> simp; omega
  patch pos d h hp _ := ⟨(writeAt_size _ _ _).trans h.size, h.cur, h.avail,
    fun i hi => (writeAt_get_lt _ _ _ _ (by omega)).trans (h.pre i hi), h.limit, h.available, h.rrStart,
    h.qd, h.an, h.ns, h.ar, h.mode, h.edns, h.tsig, h.glab, h.gnew⟩

theorem Steps.frame {α} {f : M α} {E : WriterErr → Prop} (h : Steps Ext E f) : Frame f := fun s => (h s).1

theorem frame_tryPush (d : List UInt8) : Frame (tryPush d) := (extLaw.tryPush d).frame
theorem frame_setCtx (c : NameCtx) : Frame (setCtx c) := (extLaw.setCtx c).frame
theorem frame_hvPush (p : Option Nat) : Frame (hvPush p) := (extLaw.hvPush p).frame
theorem frame_writeUncompressedName (n : WName) : Frame (writeUncompressedName n) := (extLaw.writeUncompressedName n).frame
theorem frame_writeCompressedUnhintedName (n : WName) : Frame (writeCompressedUnhintedName n) :=
  (extLaw.writeCompressedUnhintedName n).frame
theorem frame_writeUnhintedName (n : WName) : Frame (writeUnhintedName n) := (extLaw.writeUnhintedName n).frame
theorem frame_pushHinted (p : Prior) : Frame (pushHinted p) := (extLaw.pushHinted p).frame
theorem frame_writeHintedName (h : Hint) (n : WName) : Frame (writeHintedName h n) := (extLaw.writeHintedName h n).frame
theorem frame_setAnchorRdata (p : Option Prior) :
    Frame (M.modify fun s => { s with mostRecentNameInRdata := p }) := fun s => extLaw.inRdata s p
theorem frame_setOwner (p : Option Prior) :
    Frame (M.modify fun s => { s with mostRecentOwner := p }) := fun s => extLaw.owner s p
theorem frame_writeComponents (ts : List CompType) (rd : List UInt8) : Frame (writeComponents ts rd) :=
  (extLaw.writeComponents trivial ts rd).frame
theorem frame_writeRdata (cls ty : Nat) (rd : List UInt8) : Frame (writeRdata cls ty rd) :=
  (extLaw.writeRdata trivial cls ty rd).frame
theorem ext_write_above {s s2 : State} (h : Ext s s2) (pos : Nat) (d : List UInt8)
    (hp : s.cursor ≤ pos) : Ext s (write pos d s2).2 := (extLaw.writeAbove (E := fun _ => True) h pos d hp).1
theorem frame_addRr (hint : Hint) (owner : WName) (ty cls ttl : Nat) (rd : List UInt8) :
    Frame (addRr hint owner ty cls ttl rd) := (extLaw.addRr trivial hint owner ty cls ttl rd).frame
theorem frame_addRrset (hint : Hint) (owner : WName) (ty cls ttl : Nat) (rds : List (List UInt8))
    (n : Nat) : Frame (addRrset hint owner ty cls ttl rds n) := (extLaw.addRrset trivial hint owner ty cls ttl rds n).frame

/-- `M.get >>= g` where `g` may rely on what it read -/
theorem frame_get_bind' {β} {g : State → M β} (h : ∀ s, Ext s (g s s).2) : Frame (M.get >>= g) := by
  intro s; simpa using h s

/-! ### rollback -/

/-- "The message is unchanged": every field of the writer except the caller's hint vector is
    what it was, and so is every octet below the cursor (the buffer keeps its size; octets at or
    above the cursor are scratch space that no later read depends on). -/
structure Same (s s' : State) : Prop where
  size : s'.octets.size = s.octets.size
  pre : ∀ i, i < s.cursor → s'.octets[i]? = s.octets[i]?
  cursor : s'.cursor = s.cursor
  limit : s'.limit = s.limit
  available : s'.available = s.available
  rrStart : s'.rrStart = s.rrStart
  sect : s'.sect = s.sect
  qd : s'.qdcount = s.qdcount
  an : s'.ancount = s.ancount
  ns : s'.nscount = s.nscount
  ar : s'.arcount = s.arcount
  qname : s'.qname = s.qname
  owner : s'.mostRecentOwner = s.mostRecentOwner
  inRdata : s'.mostRecentNameInRdata = s.mostRecentNameInRdata
  mode : s'.mode = s.mode
  edns : s'.edns = s.edns
  tsig : s'.tsig = s.tsig
  gLabels : s'.gLabels = s.gLabels
  gPtrs : s'.gPtrs = s.gPtrs
  gCtx : s'.gCtx = s.gCtx

theorem Same.refl (s : State) : Same s s := by constructor <;> simp

theorem same_restore {s s' : State} (h : Ext s s') : Same s (restore s s') :=
  ⟨h.size, h.pre, rfl, h.limit, h.available, h.rrStart, rfl, h.qd, h.an, h.ns, h.ar, rfl, rfl, rfl,
    h.mode, h.edns, h.tsig, rfl, rfl, rfl⟩

/-- changing only the section is invisible to `Ext` -/
theorem frame_changeSection (sec : RrSection) : Frame (changeSection sec) := by
  intro s
  rcases changeSection_cases sec s with h | ⟨x, h⟩ <;> rw [h]
  · exact Ext.refl s
  · exact ⟨rfl, Nat.le_refl _, id, fun _ _ => rfl, rfl, rfl, rfl, rfl, rfl, rfl, rfl, rfl, rfl, rfl,
      fun _ h => h, fun _ h => Or.inl h⟩


/-! ### the numeric invariant, outcome analysis of every public operation -/

/-- reserved length of an optional TSIG configuration -/
def tsigReserved : Option Tsig → Nat
  | some t => t.reservedLen
  | none => 0

/-- the numeric invariant of the writer -/
structure Inv (s : State) : Prop where
  hdr : 12 ≤ s.cursor
  cur_av : s.cursor ≤ s.available
  av_lim : s.available ≤ s.limit
  lim_size : s.limit ≤ s.octets.size
  reserved : s.limit - s.available =
    (if s.edns.isSome then Gen.OPT_RECORD_SIZE else 0) + (match s.tsig with | some t => t.reservedLen | none => 0)
  rr_lo : 12 ≤ s.rrStart
  rr_hi : s.rrStart ≤ s.cursor
  qd : s.qdcount ≤ 65535
  an : s.ancount ≤ 65535
  ns : s.nscount ≤ 65535
  ar : s.arcount ≤ 65535
  ar_ge : (if s.edns.isSome then 1 else 0) + (if s.tsig.isSome then 1 else 0) ≤ s.arcount

/-- the numeric fields of a state: all that `Inv` reads -/
def numeric (s : State) :=
  (s.cursor, s.available, s.limit, s.octets.size, s.edns.isSome, s.tsig.isSome, tsigReserved s.tsig,
   s.rrStart, s.qdcount, s.ancount, s.nscount, s.arcount)

theorem inv_congr {s s' : State} (hn : numeric s' = numeric s) (h : Inv s) : Inv s' := by
  simp only [numeric, Prod.mk.injEq] at hn
  obtain ⟨hc, ha, hl, hz, he, ht, hr, hrr, hq, han, hns, har⟩ := hn
  have hres := h.reserved
  refine ⟨by rw [hc]; exact h.hdr, by rw [hc, ha]; exact h.cur_av, by rw [ha, hl]; exact h.av_lim,
    by rw [hl, hz]; exact h.lim_size, ?_, by rw [hrr]; exact h.rr_lo, by rw [hrr, hc]; exact h.rr_hi,
    by rw [hq]; exact h.qd, by rw [han]; exact h.an, by rw [hns]; exact h.ns, by rw [har]; exact h.ar,
    by rw [he, ht, har]; exact h.ar_ge⟩
  show s'.limit - s'.available = _ + tsigReserved s'.tsig
  rw [hl, ha, he, hr]; exact hres

theorem inv_reserved' {s : State} (h : Inv s) :
    s.limit - s.available = (if s.edns.isSome then Gen.OPT_RECORD_SIZE else 0) + tsigReserved s.tsig := by
  have := h.reserved
  cases ht : s.tsig <;> simp [ht, tsigReserved] at this ⊢ <;> exact this

theorem inv_of_same {s s' : State} (h : Inv s) (e : Same s s') : Inv s' :=
  inv_congr (by simp only [numeric, e.cursor, e.available, e.limit, e.size, e.edns, e.tsig, e.rrStart, e.qd,
    e.an, e.ns, e.ar]) h

theorem inv_of_ext {s s' : State} (h : Inv s) (e : Ext s s') : Inv s' := by
  constructor
  · have := e.cur; have := h.hdr; omega
  · rw [e.available]; exact e.avail h.cur_av
  · rw [e.limit, e.available]; exact h.av_lim
  · rw [e.limit, e.size]; exact h.lim_size
  · rw [e.limit, e.available, e.edns, e.tsig]; exact h.reserved
  · rw [e.rrStart]; exact h.rr_lo
  · rw [e.rrStart]; have := e.cur; have := h.rr_hi; omega
  · rw [e.qd]; exact h.qd
  · rw [e.an]; exact h.an
  · rw [e.ns]; exact h.ns
  · rw [e.ar]; exact h.ar
  · rw [e.ar, e.edns, e.tsig]; exact h.ar_ge

/-- outcome analysis of the body of `add_*_rr` -/
theorem addRrOp_cases (sec : RrSection) (hint : Hint) (owner : WName) (ty cls ttl : Nat)
    (rd : List UInt8) (s : State) :
    match addRrOp sec hint owner ty cls ttl rd s with
    | (.ok _, s') => ∃ s1, Ext s s1 ∧ getCount sec s1 + 1 ≤ 65535 ∧
        s' = (setCount sec (getCount sec s1 + 1) s1).2
    | (.err _, s') => Same s s'
    | (.panic, s') => Ext s s' := by
  unfold addRrOp
  rw [withRollback_apply]
  simp only [M.bind_apply]
  cases h1 : changeSection sec s with
  | mk r1 s1 =>
    have e1 : Ext s s1 := by have := frame_changeSection sec s; rwa [h1] at this
    cases r1 with
    | err e => exact same_restore e1
    | panic => exact e1
    | ok u1 =>
      simp only []
      cases h2 : addRr hint owner ty cls (ttlFrom ttl) rd s1 with
      | mk r2 s2 =>
        have e2 : Ext s s2 := by
          have := frame_addRr hint owner ty cls (ttlFrom ttl) rd s1; rw [h2] at this
          exact Ext.trans e1 this
        cases r2 with
        | err e => exact same_restore e2
        | panic => exact e2
        | ok u2 =>
          simp only [M.gets_apply]
          by_cases hc : getCount sec s2 + 1 > 65535
          · rw [if_pos hc]; exact same_restore e2
          · rw [if_neg hc]
            exact ⟨s2, e2, by omega, rfl⟩


/-- outcome analysis of `add_*_rrset` -/
theorem addRrsetOp_cases (sec : RrSection) (hint : Hint) (owner : WName) (ty cls ttl : Nat)
    (rds : List (List UInt8)) (s : State) :
    match addRrsetOp sec hint owner ty cls ttl rds s with
    | (.ok _, s') => ∃ s1 n, Ext s s1 ∧ getCount sec s1 + n ≤ 65535 ∧
        s' = (setCount sec (getCount sec s1 + n) s1).2
    | (.err _, s') => Same s s'
    | (.panic, s') => Ext s s' := by
  unfold addRrsetOp
  rw [withRollback_apply]
  simp only [M.bind_apply]
  cases h1 : changeSection sec s with
  | mk r1 s1 =>
    have e1 : Ext s s1 := by have := frame_changeSection sec s; rwa [h1] at this
    cases r1 with
    | err e => exact same_restore e1
    | panic => exact e1
    | ok u1 =>
      simp only []
      cases h2 : addRrset hint owner ty cls (ttlFrom ttl) rds 0 s1 with
      | mk r2 s2 =>
        have e2 : Ext s s2 := by
          have := frame_addRrset hint owner ty cls (ttlFrom ttl) rds 0 s1; rw [h2] at this
          exact Ext.trans e1 this
        cases r2 with
        | err e => exact same_restore e2
        | panic => exact e2
        | ok n =>
          simp only [M.gets_apply]
          by_cases hn : n > 65535
          · rw [if_pos hn]; exact same_restore e2
          · rw [if_neg hn]
            by_cases hc : getCount sec s2 + n > 65535
            · rw [if_pos hc]; exact same_restore e2
            · rw [if_neg hc]
              exact ⟨s2, n, e2, by omega, rfl⟩

theorem frame_addQuestionBody (qn : WName) (qt qc : Nat) : Frame (addQuestionBody qn qt qc) :=
  (extLaw.addQuestionBody qn qt qc).frame

/-- outcome analysis of `add_question` -/
theorem addQuestion_cases (qn : WName) (qt qc : Nat) (s : State) :
    match addQuestion qn qt qc s with
    | (.ok _, s') => ∃ s1, Ext s s1 ∧ s.qdcount + 1 ≤ 65535 ∧
        s' = { s1 with qdcount := s1.qdcount + 1, rrStart := s1.cursor }
    | (.err _, s') => Same s s'
    | (.panic, s') => Ext s s' := by
  unfold addQuestion
  simp only [M.bind_apply, M.gets_apply]
  by_cases h1 : s.sect ≠ .question
  · rw [if_pos h1]; exact Same.refl s
  · rw [if_neg h1]
    by_cases h2 : s.qdcount + 1 > 65535
    · rw [if_pos h2]; exact Same.refl s
    · rw [if_neg h2]
      simp only [M.bind_apply, withRollback_apply, M.modify_apply]
      have e := frame_addQuestionBody qn qt qc s
      cases hb : addQuestionBody qn qt qc s with
      | mk r s1 =>
        rw [hb] at e
        cases r with
        | err e' => exact same_restore e
        | panic => exact e
        | ok u => exact ⟨s1, e, by omega, rfl⟩


/-! ### every public operation keeps the invariant; a failed one changes nothing -/

theorem inv_octets {s : State} (h : Inv s) (o : Bytes) (ho : o.size = s.octets.size) :
    Inv { s with octets := o } :=
  inv_congr (by simp only [numeric, ho]) h

theorem inv_hv {s : State} (h : Inv s) (v : Option HV) : Inv { s with hv := v } := inv_congr (s := s) rfl h

/-- limit and available moved together -/
theorem inv_relimit {s : State} (h : Inv s) (l a : Nat) (hca : s.cursor ≤ a) (hal : a ≤ l)
    (hlz : l ≤ s.octets.size) (hres : l - a = s.limit - s.available) :
    Inv { s with limit := l, available := a } :=
  ⟨h.hdr, hca, hal, hlz, hres.trans h.reserved, h.rr_lo, h.rr_hi, h.qd, h.an, h.ns, h.ar, h.ar_ge⟩

/-- `k` more octets reserved for one more record of the additional section (`set_edns`, `set_tsig`) -/
theorem inv_reserve {s : State} (h : Inv s) (k : Nat) (e : Option Edns) (t : Option Tsig)
    (hroom : s.cursor + k ≤ s.available) (har : s.arcount + 1 ≤ 65535)
    (hres : (if e.isSome then Gen.OPT_RECORD_SIZE else 0) + tsigReserved t =
      (if s.edns.isSome then Gen.OPT_RECORD_SIZE else 0) + tsigReserved s.tsig + k)
    (hcnt : (if e.isSome then 1 else 0) + (if t.isSome then 1 else 0) ≤
      (if s.edns.isSome then 1 else 0) + (if s.tsig.isSome then 1 else 0) + 1) :
    Inv { s with arcount := s.arcount + 1, available := s.available - k, edns := e, tsig := t } := by
  have := h.av_lim; have hr := inv_reserved' h; have := h.ar_ge
  refine ⟨h.hdr, ?_, ?_, h.lim_size, ?_, h.rr_lo, h.rr_hi, h.qd, h.an, h.ns, har, ?_⟩
  · show s.cursor ≤ s.available - k; omega
  · show s.available - k ≤ s.limit; omega
  · show s.limit - (s.available - k) = (if e.isSome then Gen.OPT_RECORD_SIZE else 0) + tsigReserved t
    omega
  · show (if e.isSome then 1 else 0) + (if t.isSome then 1 else 0) ≤ s.arcount + 1
    omega

theorem same_hv_left {s s' : State} (v : Option HV) (h : Same { s with hv := v } s') : Same s s' :=
  ⟨h.size, h.pre, h.cursor, h.limit, h.available, h.rrStart, h.sect, h.qd, h.an, h.ns, h.ar, h.qname,
    h.owner, h.inRdata, h.mode, h.edns, h.tsig, h.gLabels, h.gPtrs, h.gCtx⟩

theorem same_hv_right {s s' : State} (v : Option HV) (h : Same s s') : Same s { s' with hv := v } :=
  ⟨h.size, h.pre, h.cursor, h.limit, h.available, h.rrStart, h.sect, h.qd, h.an, h.ns, h.ar, h.qname,
    h.owner, h.inRdata, h.mode, h.edns, h.tsig, h.gLabels, h.gPtrs, h.gCtx⟩

/-- a step that can only succeed or panic, and keeps the invariant -/
def Total (f : M Unit) : Prop :=
  ∀ s, (∀ e, (f s).1 ≠ .err e) ∧ (Inv s → Inv (f s).2)

/-- a step whose failures leave the state exactly as it was, and that keeps the invariant -/
def Clean (f : M Unit) : Prop :=
  ∀ s, (∀ e, (f s).1 = .err e → (f s).2 = s) ∧ (Inv s → Inv (f s).2)

theorem total_write (pos : Nat) (d : List UInt8) : Total (write pos d) := by
  intro s
  rcases write_cases pos d s with h | ⟨_, h⟩ <;> rw [h]
  · exact ⟨(fun e h => by cases h), id⟩
  · exact ⟨(fun e h => by cases h), fun h => inv_octets h _ (writeAt_size _ _ _)⟩

theorem total_setHdr (i : Nat) (f : UInt8 → UInt8) : Total (setHdr i f) := by
  intro s
  rcases setHdr_cases i f s with h | ⟨o, ho, h⟩ <;> rw [h]
  · exact ⟨(fun e h => by cases h), id⟩
  · exact ⟨(fun e h => by cases h), fun h => inv_octets h _ ho⟩

theorem total_setBit (b m : Nat) (v : Bool) : Total (setBit b m v) := total_setHdr _ _

theorem inv_edns_upper {s : State} (h : Inv s) (e : Edns) (he : s.edns = some e) (u : Nat) :
    Inv { s with edns := some { e with upper := u } } :=
  inv_congr (by simp only [numeric, he, Option.isSome_some]) h

theorem total_setRcode (v : Nat) : Total (setRcode v) := by
  intro s
  unfold setRcode
  rcases setHdr_cases Gen.RCODE_BYTE (fun b => (b &&& ~~~ (UInt8.ofNat Gen.RCODE_MASK)) ||| UInt8.ofNat v) s
    with h | ⟨o, ho, h⟩ <;> simp only [M.bind_apply, h, M.modify_apply]
  · exact ⟨(fun e h => by cases h), id⟩
  · refine ⟨(fun e h => by cases h), fun hi => ?_⟩
    have h1 := inv_octets hi o ho
    cases he : s.edns with
    | none => rw [he] at h1; exact h1
    | some e => exact inv_edns_upper h1 e he 0

theorem clean_setExtendedRcode (v : Nat) : Clean (setExtendedRcode v) := by
  intro s
  rcases setExtendedRcode_cases v s with ⟨_, h⟩ | ⟨ed, he, ⟨_, h⟩ | ⟨_, r, s1, hs1, ⟨_, _, h⟩ | ⟨rfl, h⟩⟩⟩ <;> rw [h]
  · exact ⟨(fun e h => rfl), fun h => h⟩
  · exact ⟨(fun e h => rfl), fun h => h⟩
  · exact ⟨(fun e h => by cases h), id⟩
  · rcases setHdr_cases Gen.RCODE_BYTE _ s with h' | ⟨o, ho, h'⟩ <;> rw [h'] at hs1 <;> cases hs1
    exact ⟨(fun e h => by cases h), fun hi => inv_edns_upper (inv_octets hi o ho) ed he _⟩

theorem total_setLimit (v : Nat) : Total (setLimit v) := by
  intro s
  rcases setLimit_cases v s with ⟨_, h⟩ | ⟨l, a, h, hb⟩ <;> rw [h]
  · exact ⟨(fun e h => by cases h), id⟩
  · refine ⟨(fun e h => by cases h), fun hi => ?_⟩
    obtain ⟨h1, h2, h3, h4, _⟩ := hb hi.cur_av hi.av_lim hi.lim_size
    exact inv_relimit hi l a h1 h2 h3 h4

theorem total_setCompressionMode (m : CMode) : Total (setCompressionMode m) :=
  fun s => ⟨(fun e h => by cases h), inv_congr (s := s) rfl⟩

theorem total_clearRrs : Total clearRrs := by
  intro s
  refine ⟨(fun e h => by cases h), fun h => ?_⟩
  exact ⟨h.rr_lo, Nat.le_trans h.rr_hi h.cur_av, h.av_lim, h.lim_size, h.reserved, h.rr_lo, Nat.le_refl _,
    h.qd, Nat.zero_le _, Nat.zero_le _, by show _ + _ ≤ 65535; split <;> split <;> omega, Nat.le_refl _⟩

theorem clean_setEdns (p : Nat) : Clean (setEdns p) := by
  intro s
  rcases setEdns_cases p s with ⟨_, h, _⟩ | ⟨hn, _, _, h⟩ <;> rw [h]
  · exact ⟨(fun e h => rfl), id⟩
  · exact ⟨nofun, fun h =>
      inv_reserve h _ (some ⟨p, 0⟩) s.tsig (by omega) (by omega) (by simp [hn]; omega) (by simp [hn]; omega)⟩

theorem clean_setTsig (m : TsigMode) (rr : TsigRr) : Clean (setTsig m rr) := by
  intro s
  rcases setTsig_cases m rr s with ⟨_, h, _⟩ | ⟨hn, _, _, h⟩ <;> rw [h]
  · exact ⟨(fun e h => rfl), id⟩
  · exact ⟨nofun, fun h =>
      inv_reserve h _ s.edns (some ⟨m, reservedLenOf m rr, rr⟩) (by omega) (by omega)
        (by simp only [hn, tsigReserved]; omega) (by simp only [hn, Option.isSome_some]; simp)⟩

theorem clean_updateTimeSigned (t : List UInt8) : Clean (updateTimeSigned t) := by
  intro s
  rcases updateTimeSigned_cases t s with ⟨_, h⟩ | ⟨ts, hts, h⟩ <;> rw [h]
  · exact ⟨fun e h => rfl, fun h => h⟩
  · exact ⟨(fun e h => by cases h),
      inv_congr (s := s) (by simp only [numeric, hts, Option.isSome_some, tsigReserved])⟩


/-! ### templates: a writer re-created from the prefix of another keeps the invariant -/

theorem extract_toList_length (a : Bytes) (n : Nat) (h : n ≤ a.size) :
    (a.extract 0 n).toList.length = n := by
  simp; omega

theorem tryFromTemplateImpl_inv {s s' : State} {t : Template} (buf : Bytes) (ts : Option Tsig)
    (h : Inv s) (ht : intoTemplate s = .ok t) (hr : tsigReserved ts = tsigReserved s.tsig)
    (hsome : ts.isSome = s.tsig.isSome)
    (h' : tryFromTemplateImpl buf t ts = .ok s') : Inv s' := by
  have h1 := h.hdr; have h2 := h.cur_av; have h3 := h.av_lim; have h4 := h.lim_size
  have h5 := inv_reserved' h
  unfold intoTemplate at ht
  rw [if_neg (by omega), if_neg (by omega)] at ht
  cases ht
  unfold tryFromTemplateImpl at h'
  simp only [extract_toList_length _ _ (show s.cursor ≤ s.octets.size by omega)] at h'
  split at h'
  · cases h'
  · split at h'
    · cases h'
    · cases h'
      -- the new buffer holds cursor + reserved octets; the new limit is the old one cut to its size
      refine ⟨h1, ?_, ?_, ?_, ?_, h.rr_lo, h.rr_hi, h.qd, h.an, h.ns, h.ar, by rw [hsome]; exact h.ar_ge⟩
      · show s.cursor ≤ min s.limit buf.size - (s.limit - s.available); omega
      · show min s.limit buf.size - (s.limit - s.available) ≤ min s.limit buf.size; omega
      · show min s.limit buf.size ≤ (writeAt buf 0 _).size; rw [writeAt_size]; exact Nat.min_le_right _ _
      · show min s.limit buf.size - (min s.limit buf.size - (s.limit - s.available)) =
          (if s.edns.isSome then Gen.OPT_RECORD_SIZE else 0) + tsigReserved ts
        omega

theorem tryFromTemplate_same {s s' : State} {t : Template} (fill : UInt8)
    (h : Inv s) (ht : intoTemplate s = .ok t)
    (h' : tryFromTemplate (Array.replicate s.octets.size fill) t = .ok s') : Same s s' := by
  have h1 := h.hdr; have h2 := h.cur_av; have h3 := h.av_lim; have h4 := h.lim_size
  unfold intoTemplate at ht
  rw [if_neg (by omega), if_neg (by omega)] at ht
  cases ht
  unfold tryFromTemplate tryFromTemplateImpl at h'
  simp only [extract_toList_length _ _ (show s.cursor ≤ s.octets.size by omega)] at h'
  split at h'
  · cases h'
  · split at h'
    · cases h'
    · cases h'
      have hsz : (Array.replicate s.octets.size fill).size = s.octets.size := Array.size_replicate
      refine ⟨by show (writeAt _ 0 _).size = _; rw [writeAt_size, hsz], fun i hi => ?_, rfl, ?_, ?_,
        rfl, rfl, rfl, rfl, rfl, rfl, rfl, rfl, rfl, rfl, rfl, rfl, rfl, rfl, rfl⟩
      · have := writeAt_get_in (Array.replicate s.octets.size fill) 0
          (s.octets.extract 0 s.cursor).toList i (by simp; omega) (by simp; omega)
        rw [Nat.zero_add] at this
        show (writeAt _ 0 _)[i]? = _
        rw [this]
        simp [hi]
      · show min s.limit (Array.replicate s.octets.size fill).size = s.limit; rw [hsz]; omega
      · show min s.limit (Array.replicate s.octets.size fill).size - (s.limit - s.available) = s.available
        rw [hsz]; omega

theorem tryFromTemplate_fallback_ok {s : State} {t : Template} (fill : UInt8)
    (h : Inv s) (ht : intoTemplate s = .ok t) :
    ∃ s', tryFromTemplate (Array.replicate s.octets.size fill) t = .ok s' := by
  have h1 := h.hdr; have h2 := h.cur_av; have h3 := h.av_lim; have h4 := h.lim_size
  unfold intoTemplate at ht
  rw [if_neg (by omega), if_neg (by omega)] at ht
  cases ht
  unfold tryFromTemplate tryFromTemplateImpl
  simp only [extract_toList_length _ _ (show s.cursor ≤ s.octets.size by omega)]
  rw [if_neg (by simp; omega), if_neg (by simp; omega)]
  exact ⟨_, rfl⟩

theorem intoTemplate_ok {s : State} (h : Inv s) : ∃ t, intoTemplate s = .ok t := by
  have h1 := h.hdr; have h2 := h.cur_av; have h3 := h.av_lim; have h4 := h.lim_size
  unfold intoTemplate
  rw [if_neg (by omega), if_neg (by omega)]
  exact ⟨_, rfl⟩

theorem intoTemplate_tsig {s : State} {t : Template} (ht : intoTemplate s = .ok t) : t.tsig = s.tsig := by
  unfold intoTemplate at ht
  split at ht
  · cases ht
  · split at ht
    · cases ht
    · cases ht; rfl

/-- the constructors passed to `retemplate` keep the TSIG reservation -/
def KeepsReservation (mk : Bytes → Template → Out WriterErr State) : Prop :=
  ∀ buf t s', mk buf t = .ok s' →
    ∃ ts, tryFromTemplateImpl buf t ts = .ok s' ∧ tsigReserved ts = tsigReserved t.tsig ∧
      ts.isSome = t.tsig.isSome

theorem keeps_tryFromTemplate : KeepsReservation tryFromTemplate := by
  intro buf t s' h
  exact ⟨t.tsig, h, rfl, rfl⟩

theorem keeps_subsequent (mac : List UInt8) :
    KeepsReservation (fun b t => tryFromTemplateAsTsigSubsequent b t mac) := by
  intro buf t s' h
  simp only [tryFromTemplateAsTsigSubsequent] at h
  split at h
  · rename_i ts hts
    split at h
    all_goals first
      | exact ⟨_, h, by simp [tsigReserved, hts], by simp [hts]⟩
      | cases h
  · cases h

theorem retemplate_inv (ss : Session) (n : Nat) (fill : UInt8)
    (mk : Bytes → Template → Out WriterErr State) (hk : KeepsReservation mk) (h : Inv ss.w) :
    Inv (retemplate ss n fill mk).2.w := by
  unfold retemplate
  obtain ⟨t, ht⟩ := intoTemplate_ok h
  rw [ht]
  simp only []
  cases hm : mk (Array.replicate n fill) t with
  | ok s' =>
    simp only []
    obtain ⟨ts, h1, h2, h3⟩ := hk _ _ _ hm
    rw [intoTemplate_tsig ht] at h2 h3
    exact tryFromTemplateImpl_inv _ ts h ht h2 h3 h1
  | err e =>
    simp only []
    obtain ⟨s', hs'⟩ := tryFromTemplate_fallback_ok fill h ht
    rw [hs']
    exact tryFromTemplateImpl_inv _ t.tsig h ht (by rw [intoTemplate_tsig ht])
      (by rw [intoTemplate_tsig ht]) hs'
  | panic =>
    simp only []
    obtain ⟨s', hs'⟩ := tryFromTemplate_fallback_ok fill h ht
    rw [hs']
    exact tryFromTemplateImpl_inv _ t.tsig h ht (by rw [intoTemplate_tsig ht])
      (by rw [intoTemplate_tsig ht]) hs'

theorem retemplate_err_same (ss : Session) (n : Nat) (fill : UInt8)
    (mk : Bytes → Template → Out WriterErr State) (h : Inv ss.w) (e : WriterErr)
    (he : (retemplate ss n fill mk).1 = .err e) : Same ss.w (retemplate ss n fill mk).2.w := by
  unfold retemplate at he ⊢
  obtain ⟨t, ht⟩ := intoTemplate_ok h
  rw [ht] at he ⊢
  simp only [] at he ⊢
  cases hm : mk (Array.replicate n fill) t with
  | ok s' => rw [hm] at he; cases he
  | err e' =>
    simp only []
    obtain ⟨s', hs'⟩ := tryFromTemplate_fallback_ok fill h ht
    rw [hs']
    exact tryFromTemplate_same fill h ht hs'
  | panic =>
    rw [hm] at he
    simp only [] at he
    obtain ⟨s', hs'⟩ := tryFromTemplate_fallback_ok fill h ht
    rw [hs'] at he
    cases he


/-! ### the session step -/

theorem inv_setCount {s : State} (h : Inv s) (sec : RrSection) (n : Nat)
    (hn : getCount sec s + n ≤ 65535) : Inv (setCount sec (getCount sec s + n) s).2 := by
  cases sec
  · exact ⟨h.hdr, h.cur_av, h.av_lim, h.lim_size, h.reserved, h.rr_lo, h.rr_hi, h.qd, hn, h.ns, h.ar, h.ar_ge⟩
  · exact ⟨h.hdr, h.cur_av, h.av_lim, h.lim_size, h.reserved, h.rr_lo, h.rr_hi, h.qd, h.an, hn, h.ar, h.ar_ge⟩
  · exact ⟨h.hdr, h.cur_av, h.av_lim, h.lim_size, h.reserved, h.rr_lo, h.rr_hi, h.qd, h.an, h.ns, hn,
      Nat.le_trans h.ar_ge (Nat.le_add_right _ _)⟩

/-- a `Total` step as a session step -/
theorem liftW_total {f : M Unit} (ht : Total f) (ss : Session) :
    (Inv ss.w → Inv (liftW ss f).2.w) ∧ (∀ e, (liftW ss f).1 ≠ .err e) := by
  rw [liftW_w, liftW_fst]; exact ⟨(ht ss.w).2, (ht ss.w).1⟩

theorem liftW_clean {f : M Unit} (ht : Clean f) (ss : Session) :
    (Inv ss.w → Inv (liftW ss f).2.w) ∧ (∀ e, (liftW ss f).1 = .err e → (liftW ss f).2.w = ss.w) := by
  rw [liftW_w, liftW_fst]; exact ⟨(ht ss.w).2, (ht ss.w).1⟩

/-- an operation wrapped in `with_rollback`, analysed: success extends the state and bumps one
    count; failure changes nothing; a panic leaves an extension of the state -/
def Rolled (f : M Unit) : Prop :=
  ∀ s, match f s with
    | (.ok _, s') => ∃ s1 sec n, Ext s s1 ∧ getCount sec s1 + n ≤ 65535 ∧
        s' = (setCount sec (getCount sec s1 + n) s1).2
    | (.err _, s') => Same s s'
    | (.panic, s') => Ext s s'

theorem rolled_addRrOp (sec : RrSection) (hint : Hint) (owner : WName) (ty cls ttl : Nat)
    (rd : List UInt8) : Rolled (addRrOp sec hint owner ty cls ttl rd) := by
  intro s
  have := addRrOp_cases sec hint owner ty cls ttl rd s
  cases hf : addRrOp sec hint owner ty cls ttl rd s with
  | mk r s1 =>
    rw [hf] at this
    cases r with
    | ok u => obtain ⟨s2, e, hn, rfl⟩ := this; exact ⟨s2, sec, 1, e, hn, rfl⟩
    | err e => exact this
    | panic => exact this

theorem rolled_addRrsetOp (sec : RrSection) (hint : Hint) (owner : WName) (ty cls ttl : Nat)
    (rds : List (List UInt8)) : Rolled (addRrsetOp sec hint owner ty cls ttl rds) := by
  intro s
  have := addRrsetOp_cases sec hint owner ty cls ttl rds s
  cases hf : addRrsetOp sec hint owner ty cls ttl rds s with
  | mk r s1 =>
    rw [hf] at this
    cases r with
    | ok u => obtain ⟨s2, n, e, hn, rfl⟩ := this; exact ⟨s2, sec, n, e, hn, rfl⟩
    | err e => exact this
    | panic => exact this

theorem withHv_rolled {f : M Unit} (hr : Rolled f) (ss : Session) (slot : Option Nat) :
    (Inv ss.w → Inv (withHv ss slot f).2.w) ∧
    (∀ e, (withHv ss slot f).1 = .err e → Same ss.w (withHv ss slot f).2.w) := by
  rw [withHv_fst, withHv_w]
  have hc := hr { ss.w with hv := slot.map (hvGet ss.hvs) }
  cases hf : f { ss.w with hv := slot.map (hvGet ss.hvs) } with
  | mk r s1 =>
    rw [hf] at hc
    cases r with
    | ok u =>
      obtain ⟨s2, sec, n, e2, hn, rfl⟩ := hc
      exact ⟨fun h => inv_hv (inv_setCount (inv_of_ext (inv_hv h _) e2) sec n hn) none,
             fun e he => by cases he⟩
    | err e =>
      exact ⟨fun h => inv_hv (inv_of_same (inv_hv h _) hc) none,
             fun e' _ => same_hv_right none (same_hv_left _ hc)⟩
    | panic =>
      exact ⟨fun h => inv_hv (inv_of_ext (inv_hv h _) hc) none, fun e he => by cases he⟩

theorem addQuestion_step (ss : Session) (qn : WName) (qt qc : Nat) :
    (Inv ss.w → Inv (liftW ss (addQuestion qn qt qc)).2.w) ∧
    (∀ e, (liftW ss (addQuestion qn qt qc)).1 = .err e →
      Same ss.w (liftW ss (addQuestion qn qt qc)).2.w) := by
  unfold liftW
  have hc := addQuestion_cases qn qt qc ss.w
  cases hf : addQuestion qn qt qc ss.w with
  | mk r s1 =>
    rw [hf] at hc
    cases r with
    | ok u =>
      obtain ⟨s2, e2, hn, rfl⟩ := hc
      refine ⟨fun h => ?_, fun e he => by cases he⟩
      have h2 := inv_of_ext h e2
      exact ⟨h2.hdr, h2.cur_av, h2.av_lim, h2.lim_size, h2.reserved, h2.hdr, Nat.le_refl _,
        by show s2.qdcount + 1 ≤ 65535; rw [e2.qd]; exact hn, h2.an, h2.ns, h2.ar, h2.ar_ge⟩
    | err e => exact ⟨fun h => inv_of_same h hc, fun e' _ => hc⟩
    | panic => exact ⟨fun h => inv_of_ext h hc, fun e he => by cases he⟩

/-- every public call keeps the invariant, whatever its outcome -/
theorem step_inv (ss : Session) (op : Op) (h : Inv ss.w) : Inv (step ss op).2.w := by
  cases op with
  | setId v => exact (liftW_total (total_write _ _) ss).1 h
  | setQr b => exact (liftW_total (total_setBit _ _ _) ss).1 h
  | setAa b => exact (liftW_total (total_setBit _ _ _) ss).1 h
  | setTc b => exact (liftW_total (total_setBit _ _ _) ss).1 h
  | setRd b => exact (liftW_total (total_setBit _ _ _) ss).1 h
  | setRa b => exact (liftW_total (total_setBit _ _ _) ss).1 h
  | setOpcode v => exact (liftW_total (total_setHdr _ _) ss).1 h
  | setRcode v => exact (liftW_total (total_setRcode _) ss).1 h
  | setExtendedRcode v => exact (liftW_clean (clean_setExtendedRcode _) ss).1 h
  | setLimit v => exact (liftW_total (total_setLimit _) ss).1 h
  | setMode m => exact (liftW_total (total_setCompressionMode _) ss).1 h
  | addQuestion n t c => exact (addQuestion_step ss n t c).1 h
  | addRr sec hn o ty cls ttl rd hv => exact (withHv_rolled (rolled_addRrOp _ _ _ _ _ _ _) ss hv).1 h
  | addRrset sec hn o ty cls ttl rds hv => exact (withHv_rolled (rolled_addRrsetOp _ _ _ _ _ _ _) ss hv).1 h
  | clearRrs => exact (liftW_total total_clearRrs ss).1 h
  | setEdns p => exact (liftW_clean (clean_setEdns _) ss).1 h
  | setTsig m rr => exact (liftW_clean (clean_setTsig _ _) ss).1 h
  | updateTimeSigned t => exact (liftW_clean (clean_updateTimeSigned _) ss).1 h
  | template n fill => exact retemplate_inv ss n fill _ keeps_tryFromTemplate h
  | templateSubsequent n fill mac => exact retemplate_inv ss n fill _ (keeps_subsequent mac) h
  | getters => exact h

/-- a call that fails leaves the writer as it was (`Same`) -/
theorem step_err_same (ss : Session) (op : Op) (h : Inv ss.w) (e : WriterErr)
    (he : (step ss op).1 = .err e) : Same ss.w (step ss op).2.w := by
  cases op with
  | setId v => exact absurd he ((liftW_total (total_write _ _) ss).2 e)
  | setQr b => exact absurd he ((liftW_total (total_setBit _ _ _) ss).2 e)
  | setAa b => exact absurd he ((liftW_total (total_setBit _ _ _) ss).2 e)
  | setTc b => exact absurd he ((liftW_total (total_setBit _ _ _) ss).2 e)
  | setRd b => exact absurd he ((liftW_total (total_setBit _ _ _) ss).2 e)
  | setRa b => exact absurd he ((liftW_total (total_setBit _ _ _) ss).2 e)
  | setOpcode v => exact absurd he ((liftW_total (total_setHdr _ _) ss).2 e)
  | setRcode v => exact absurd he ((liftW_total (total_setRcode _) ss).2 e)
  | setExtendedRcode v =>
    have := (liftW_clean (clean_setExtendedRcode v) ss).2 e he
    simp only [step]; rw [this]; exact Same.refl _
  | setLimit v => exact absurd he ((liftW_total (total_setLimit _) ss).2 e)
  | setMode m => exact absurd he ((liftW_total (total_setCompressionMode _) ss).2 e)
  | addQuestion n t c => exact (addQuestion_step ss n t c).2 e he
  | addRr sec hn o ty cls ttl rd hv => exact (withHv_rolled (rolled_addRrOp _ _ _ _ _ _ _) ss hv).2 e he
  | addRrset sec hn o ty cls ttl rds hv => exact (withHv_rolled (rolled_addRrsetOp _ _ _ _ _ _ _) ss hv).2 e he
  | clearRrs => exact absurd he ((liftW_total total_clearRrs ss).2 e)
  | setEdns p =>
    have := (liftW_clean (clean_setEdns p) ss).2 e he
    simp only [step]; rw [this]; exact Same.refl _
  | setTsig m rr =>
    have := (liftW_clean (clean_setTsig m rr) ss).2 e he
    simp only [step]; rw [this]; exact Same.refl _
  | updateTimeSigned t =>
    have := (liftW_clean (clean_updateTimeSigned t) ss).2 e he
    simp only [step]; rw [this]; exact Same.refl _
  | template n fill => exact retemplate_err_same ss n fill _ h e he
  | templateSubsequent n fill mac => exact retemplate_err_same ss n fill _ h e he
  | getters => cases he

/-- a session, call by call: a call that does not panic is followed by the rest of the session -/
theorem run_cons {ss : Session} {op : Op} {ops : List Op} (h : (step ss op).1 ≠ .panic) :
    run ss (op :: ops) = ((run (step ss op).2 ops).1, (step ss op).1 :: (run (step ss op).2 ops).2) := by
  conv => lhs; unfold run
  cases hs : step ss op with
  | mk r ss' =>
    rw [hs] at h
    cases r with
    | panic => exact absurd rfl h
    | ok u => rfl
    | err e => rfl

theorem run_cons_panic {ss : Session} {op : Op} {ops : List Op} (h : (step ss op).1 = .panic) :
    run ss (op :: ops) = ((step ss op).2, [.panic]) := by
  unfold run
  cases hs : step ss op with
  | mk r ss' =>
    rw [hs] at h
    simp only at h
    subst h
    rfl

/-- no call of a session panicked: the first did not, and none of the rest -/
theorem run_noPanic_cons {ss : Session} {op : Op} {ops : List Op} (h : ∀ r ∈ (run ss (op :: ops)).2, r ≠ .panic) :
    (step ss op).1 ≠ .panic ∧ ∀ r ∈ (run (step ss op).2 ops).2, r ≠ .panic := by
  have hp : (step ss op).1 ≠ .panic := fun hp => by
    rw [run_cons_panic hp] at h; exact h _ List.mem_cons_self rfl
  rw [run_cons hp] at h
  exact ⟨hp, fun r hr => h r (List.mem_cons_of_mem _ hr)⟩

/-- what every call keeps holds after any sequence of calls (a panic ends the session) -/
theorem run_preserves {P : State → Prop} (hstep : ∀ ss op, P ss.w → P (step ss op).2.w)
    (ss : Session) (ops : List Op) (h : P ss.w) : P (run ss ops).1.w := by
  induction ops generalizing ss with
  | nil => exact h
  | cons op ops ih =>
    by_cases hp : (step ss op).1 = .panic
    · rw [run_cons_panic hp]; exact hstep ss op h
    · rw [run_cons hp]; exact ih _ (hstep ss op h)

theorem run_inv (ss : Session) (ops : List Op) (h : Inv ss.w) : Inv (run ss ops).1.w :=
  run_preserves step_inv ss ops h

/-- `Writer::new` establishes the invariant -/
theorem new_inv (buf : Bytes) (limit : Nat) (s : State) (h : Writer.new buf limit = .ok s) : Inv s := by
  unfold Writer.new at h
  dsimp only at h
  split at h
  · cases h
  · rename_i hl
    have hs := Out.ok.inj h
    subst hs
    have h12 : Gen.HEADER_SIZE = 12 := rfl
    rw [h12] at hl
    have hz : (zeroHeader buf).size = buf.size := by unfold zeroHeader; exact writeAt_size _ _ _
    constructor
    all_goals simp only [h12, hz, Option.isSome_none, Nat.sub_self, Nat.le_refl]
    all_goals first | omega | simp


/-! ### partial-correctness triples, `finish` -/

/-- if `f` starts in a state satisfying `P` and succeeds with `a`, the result satisfies `Q a` -/
def Tri {α} (P : State → Prop) (f : M α) (Q : α → State → Prop) : Prop :=
  ∀ s, P s → ∀ a s', f s = (.ok a, s') → Q a s'

theorem tri_bind {α β} {P : State → Prop} {f : M α} {Q : α → State → Prop} {g : α → M β}
    {R : β → State → Prop} (hf : Tri P f Q) (hg : ∀ a, Tri (Q a) (g a) R) : Tri P (f >>= g) R := by
  intro s hp b s' h
  simp only [M.bind_apply] at h
  cases hfs : f s with
  | mk r s1 =>
    rw [hfs] at h
    cases r with
    | ok a => exact hg a s1 (hf s hp a s1 hfs) b s' h
    | err e => cases h
    | panic => cases h

theorem tri_pure {α} {P : State → Prop} (a : α) : Tri P (pure a : M α) (fun b s => b = a ∧ P s) := by
  intro s hp b s' h; cases h; exact ⟨rfl, hp⟩

theorem tri_get {P : State → Prop} : Tri P M.get (fun a s => a = s ∧ P s) := by
  intro s hp b s' h; cases h; exact ⟨rfl, hp⟩

theorem tri_modify {P : State → Prop} (f : State → State) :
    Tri P (M.modify f) (fun _ s => ∃ s0, P s0 ∧ s = f s0) := by
  intro s hp b s' h; cases h; exact ⟨s, hp, rfl⟩

theorem tri_weaken {α} {P P' : State → Prop} {f : M α} {Q Q' : α → State → Prop}
    (h : Tri P f Q) (hp : ∀ s, P' s → P s) (hq : ∀ a s, Q a s → Q' a s) : Tri P' f Q' :=
  fun s hp' a s' hf => hq a s' (h s (hp s hp') a s' hf)

theorem tri_of_frame {α} {f : M α} (hf : Frame f) (s0 : State) :
    Tri (fun s => s = s0) f (fun _ s => Ext s0 s) := by
  intro s hs a s' h
  subst hs
  have := hf s; rw [h] at this; exact this

/-- room for `k` more reserved octets behind the cursor, within an unchanged limit -/
def Room (s0 : State) (k : Nat) (s : State) : Prop :=
  s.limit = s0.limit ∧ s.octets.size = s0.octets.size ∧ s.cursor ≤ s.available ∧
  s.available + k ≤ s.limit ∧ s.edns = s0.edns

theorem room_frame {α} {f : M α} (hf : Frame f) (s0 : State) (k : Nat) :
    Tri (Room s0 k) f (fun _ => Room s0 k) := by
  intro s hp a s' h
  have e := hf s; rw [h] at e
  refine ⟨by rw [e.limit]; exact hp.1, by rw [e.size]; exact hp.2.1, ?_, ?_, by rw [e.edns]; exact hp.2.2.2.2⟩
  · rw [e.available]; exact e.avail hp.2.2.1
  · rw [e.available, e.limit]; exact hp.2.2.2.1

theorem room_finishOpt' (s : State)
    (hres : s.limit - s.available = (if s.edns.isSome then Gen.OPT_RECORD_SIZE else 0) + tsigReserved s.tsig) :
    Tri (Room s (s.limit - s.available)) (finishOpt s.edns) (fun _ => Room s (tsigReserved s.tsig)) := by
  intro s1 hp _ s2 hh
  have := hp.2.2.1; have := hp.2.2.2.1
  rcases finishOpt_ok_inv hh with ⟨he, rfl⟩ | ⟨e, he, hadd⟩ <;> simp [he] at hres
  · exact ⟨hp.1, hp.2.1, hp.2.2.1, by omega, hp.2.2.2.2⟩
  · exact room_frame (frame_addRr _ _ _ _ _ _) s _ { s1 with available := s1.available + Gen.OPT_RECORD_SIZE }
      ⟨hp.1, hp.2.1, by show s1.cursor ≤ s1.available + _; omega, by show s1.available + _ + _ ≤ s1.limit; omega,
        hp.2.2.2.2⟩ _ _ hadd

theorem room_finishOpt (s : State) (h : Inv s) :
    Tri (Room s (s.limit - s.available)) (finishOpt s.edns) (fun _ => Room s (tsigReserved s.tsig)) :=
  room_finishOpt' s (inv_reserved' h)

theorem room_finishTsig (macFn : Tsig → List UInt8 → List UInt8) (s : State) :
    Tri (Room s (tsigReserved s.tsig)) (finishTsig macFn s.tsig)
      (fun r s2 => r.1 = s2.cursor ∧ Room s 0 s2) := by
  intro s1 hp r s2 hh
  have := hp.2.2.1; have := hp.2.2.2.1
  rcases finishTsig_ok_inv hh with ⟨ht, rfl, hlen, _⟩ | ⟨ts, ht, _, _, hlen, hadd⟩ <;> rw [ht] at hp
  · exact ⟨hlen, hp⟩
  · simp only [ht, tsigReserved] at this
    exact ⟨hlen, room_frame (frame_addRr _ _ _ _ _ _) s 0 { s1 with tsig := none, available := s1.available + ts.reservedLen }
      ⟨hp.1, hp.2.1, by show s1.cursor ≤ s1.available + _; omega, by show s1.available + _ + 0 ≤ s1.limit; omega,
        hp.2.2.2.2⟩ _ _ hadd⟩

/-- the finished message never exceeds the limit in effect -/
theorem finishWithMac_len' (macFn : Tsig → List UInt8 → List UInt8) (s : State)
    (h1 : s.cursor ≤ s.available) (h2 : s.available ≤ s.limit)
    (hres : s.limit - s.available = (if s.edns.isSome then Gen.OPT_RECORD_SIZE else 0) + tsigReserved s.tsig)
    (len : Nat) (mac : Option (List UInt8)) (s' : State)
    (hf : finishWithMac macFn s = (.ok (len, mac), s')) :
    len ≤ s.limit ∧ len = s'.cursor ∧ s'.octets.size = s.octets.size := by
  obtain ⟨_, s1, ho, ht⟩ := finishWithMac_eq_ok.mp hf
  have hz := withCounts_size s
  generalize withCounts s = o at ho hz
  have hroom0 : Room s (s.limit - s.available) { s with octets := o } :=
    ⟨rfl, hz, h1, by show s.available + _ ≤ s.limit; omega, rfl⟩
  obtain ⟨hl, hlim, hsz, hc, ha, _⟩ := room_finishTsig macFn s s1 (room_finishOpt' s hres _ hroom0 _ _ ho) _ _ ht
  exact ⟨by omega, hl, hsz⟩

theorem finishWithMac_len (macFn : Tsig → List UInt8 → List UInt8) (s : State) (h : Inv s)
    (len : Nat) (mac : Option (List UInt8)) (s' : State)
    (hf : finishWithMac macFn s = (.ok (len, mac), s')) :
    len ≤ s.limit ∧ len = s'.cursor ∧ s'.octets.size = s.octets.size :=
  finishWithMac_len' macFn s h.cur_av h.av_lim (inv_reserved' h) len mac s' hf

/-- for `finish`: the message handed back is at most `limit` octets long (only the size
    part of the invariant is needed) -/
theorem finish_size_le_limit' (macFn : Tsig → List UInt8 → List UInt8) (s : State)
    (h1 : s.cursor ≤ s.available) (h2 : s.available ≤ s.limit)
    (hres : s.limit - s.available = (if s.edns.isSome then Gen.OPT_RECORD_SIZE else 0) + tsigReserved s.tsig)
    (m : Bytes) (mac : Option (List UInt8)) (hf : finish s macFn = .ok (m, mac)) :
    m.size ≤ s.limit := by
  obtain ⟨len, s', hw, rfl⟩ := finish_eq_ok.mp hf
  have := finishWithMac_len' macFn s h1 h2 hres len mac s' hw
  simp
  omega

theorem finish_size_le_limit (macFn : Tsig → List UInt8 → List UInt8) (s : State) (h : Inv s)
    (m : Bytes) (mac : Option (List UInt8)) (hf : finish s macFn = .ok (m, mac)) :
    m.size ≤ s.limit :=
  finish_size_le_limit' macFn s h.cur_av h.av_lim (inv_reserved' h) m mac hf


/-! ### where pointers are emitted: only for names that may be compressed, never in `Disabled` mode -/

/-- all-outcome Hoare triple: whatever `f` returns, `Q` holds afterwards -/
def Hoare {α} (P : State → Prop) (f : M α) (Q : State → Prop) : Prop := ∀ s, P s → Q (f s).2

theorem hoare_bind {α β} {P Q R : State → Prop} {f : M α} {g : α → M β}
    (hf : Hoare P f Q) (hg : ∀ a, Hoare Q (g a) R) (hqr : ∀ s, Q s → R s) : Hoare P (f >>= g) R := by
  intro s hp
  have h1 := hf s hp
  simp only [M.bind_apply]
  cases hfs : f s with
  | mk r s' =>
    rw [hfs] at h1
    cases r with
    | ok a => exact hg a s' h1
    | err e => exact hqr _ h1
    | panic => exact hqr _ h1

theorem hoare_weaken {α} {P P' Q Q' : State → Prop} {f : M α} (h : Hoare P f Q)
    (hp : ∀ s, P' s → P s) (hq : ∀ s, Q s → Q' s) : Hoare P' f Q' :=
  fun s h' => hq _ (h s (hp s h'))

theorem hoare_gets_bind {α β} {P R : State → Prop} {f : State → α} {g : α → M β}
    (hg : ∀ s0, Hoare (fun s => P s ∧ s = s0) (g (f s0)) R) : Hoare P (M.gets f >>= g) R := by
  intro s hp
  exact hg s s ⟨hp, rfl⟩

theorem hoare_gets_bind_any {α β} {P R : State → Prop} {f : State → α} {g : α → M β}
    (hg : ∀ a, Hoare P (g a) R) : Hoare P (M.gets f >>= g) R := by
  intro s hp
  exact hg (f s) s hp

theorem hoare_get_bind {β} {P R : State → Prop} {g : State → M β}
    (hg : ∀ s0, Hoare (fun s => P s ∧ s = s0) (g s0) R) : Hoare P (M.get >>= g) R := by
  intro s hp
  exact hg s s ⟨hp, rfl⟩

/-- a pointer may be emitted only for the QNAME, an owner name, or a compressible RDATA name -/
def AllowedCtx (c : NameCtx) : Prop := c = .qname ∨ c = .owner ∨ c = .rdataCompressible

/-- every logged pointer was emitted in an allowed place and not in `Disabled` mode -/
def LogOK (s : State) : Prop := ∀ e ∈ s.gPtrs, e.mode ≠ .disabled ∧ AllowedCtx e.ctx

/-- `LogOK` and the name being written is one that may be compressed -/
def LogOK1 (s : State) : Prop := LogOK s ∧ AllowedCtx s.gCtx

theorem hoare_tryPush (d : List UInt8) (P : State → Prop)
    (hP : ∀ s o c, P s → P { s with octets := o, cursor := c }) : Hoare P (tryPush d) P := by
  intro s hp
  rcases tryPush_cases d s with h | ⟨_, h⟩ | ⟨_, _, h⟩ <;> rw [h]
  · exact hp
  · exact hp
  · exact hP _ _ _ hp

theorem logOK_stable (s : State) (o : Bytes) (c : Nat) (h : LogOK s) :
    LogOK { s with octets := o, cursor := c } := h

theorem logOK1_stable (s : State) (o : Bytes) (c : Nat) (h : LogOK1 s) :
    LogOK1 { s with octets := o, cursor := c } := h

theorem logOK1m_stable (s : State) (o : Bytes) (c : Nat) (h : LogOK1 s ∧ s.mode ≠ .disabled) :
    LogOK1 { s with octets := o, cursor := c } ∧ ({ s with octets := o, cursor := c } : State).mode ≠ .disabled := h

theorem hoare_ghostLabels (p : Nat) (l : List Label) (b : Bool) (P : State → Prop)
    (hP : ∀ s g, P s → P { s with gLabels := g }) : Hoare P (ghostLabels p l b) P := by
  intro s hp; exact hP _ _ hp

theorem logOK_pushPointer (p : Nat) :
    Hoare (fun s => LogOK1 s ∧ s.mode ≠ .disabled) (pushPointer p)
      (fun s => LogOK1 s ∧ s.mode ≠ .disabled) := by
  unfold pushPointer
  refine hoare_gets_bind fun s0 => ?_
  refine hoare_bind (Q := fun s => (LogOK1 s ∧ s.mode ≠ .disabled) ∧ s.gCtx = s0.gCtx ∧ s.mode = s0.mode)
    ?_ ?_ (fun s h => h.1)
  · intro s ⟨hp, he⟩
    subst he
    unfold tryPushU16 tryPush
    split
    · exact ⟨hp, rfl, rfl⟩
    · split
      · split
        · exact ⟨hp, rfl, rfl⟩
        · exact ⟨hp, rfl, rfl⟩
      · exact ⟨hp, rfl, rfl⟩
  · intro _ s ⟨⟨⟨hl, hc⟩, hm⟩, hc0, hm0⟩
    simp only [M.modify_apply]
    refine ⟨⟨?_, hc⟩, hm⟩
    intro e he
    simp only [List.mem_cons] at he
    rcases he with rfl | he
    · exact ⟨by simp only; rw [← hm0]; exact hm, by simp only; rw [← hc0]; exact hc⟩
    · exact hl e he

theorem hoare_writeUncompressedName (n : WName) (P : State → Prop)
    (hP : ∀ s o c, P s → P { s with octets := o, cursor := c })
    (hG : ∀ s g, P s → P { s with gLabels := g }) : Hoare P (writeUncompressedName n) P := by
  unfold writeUncompressedName
  refine hoare_gets_bind fun s0 => ?_
  refine hoare_weaken (P := P) (Q := P) ?_ (fun s h => h.1) (fun s h => h)
  exact hoare_bind (hoare_tryPush _ P hP) (fun _ => hoare_bind (hoare_ghostLabels _ _ _ P hG)
    (fun _ => fun s h => h) (fun s h => h)) (fun s h => h)

theorem logOK_writeCompressedUnhintedName (n : WName) :
    Hoare (fun s => LogOK1 s ∧ s.mode ≠ .disabled) (writeCompressedUnhintedName n)
      (fun s => LogOK1 s ∧ s.mode ≠ .disabled) := by
  unfold writeCompressedUnhintedName
  refine hoare_gets_bind fun s0 => ?_
  refine hoare_weaken (P := fun s => LogOK1 s ∧ s.mode ≠ .disabled) ?_ (fun s h => h.1) (fun s h => h)
  refine hoare_gets_bind fun s1 => ?_
  refine hoare_weaken (P := fun s => LogOK1 s ∧ s.mode ≠ .disabled) ?_ (fun s h => h.1) (fun s h => h)
  split
  · exact fun s h => h
  · exact fun s h => h
  · exact hoare_writeUncompressedName n _ (fun s o c h => h) (fun s g h => h)
  · split
    · exact hoare_bind (logOK_pushPointer _) (fun _ => fun s h => h) (fun s h => h)
    · exact hoare_bind (hoare_tryPush _ _ (fun s o c h => h)) (fun _ =>
        hoare_bind (hoare_ghostLabels _ _ _ _ (fun s g h => h)) (fun _ =>
          hoare_bind (logOK_pushPointer _) (fun _ => fun s h => h) (fun s h => h)) (fun s h => h))
        (fun s h => h)

theorem logOK_writeUnhintedName (n : WName) : Hoare LogOK1 (writeUnhintedName n) LogOK1 := by
  unfold writeUnhintedName
  refine hoare_gets_bind fun s0 => ?_
  split
  · rename_i hm
    intro s ⟨hp, he⟩
    subst he
    exact (logOK_writeCompressedUnhintedName n s ⟨hp, hm.1⟩).1
  · exact hoare_weaken (hoare_writeUncompressedName n LogOK1 (fun s o c h => h) (fun s g h => h))
      (fun s h => h.1) (fun s h => h)

theorem logOK_pushHinted (p : Prior) :
    Hoare (fun s => LogOK1 s ∧ s.mode ≠ .disabled) (pushHinted p) (fun s => LogOK1 s ∧ s.mode ≠ .disabled) :=
  hoare_bind (logOK_pushPointer _) (fun _ => fun s h => h) (fun s h => h)

theorem logOK_writeHintedName (hint : Hint) (n : WName) : Hoare LogOK1 (writeHintedName hint n) LogOK1 := by
  unfold writeHintedName
  refine hoare_gets_bind fun s0 => ?_
  split
  · exact hoare_weaken (hoare_writeUncompressedName n LogOK1 (fun s o c h => h) (fun s g h => h))
      (fun s h => h.1) (fun s h => h)
  · rename_i hm
    have hnd : s0.mode ≠ .disabled := fun h => hm (Or.inl h)
    have lift : ∀ {f : M (Option Prior)},
        Hoare (fun s => LogOK1 s ∧ s.mode ≠ .disabled) f (fun s => LogOK1 s ∧ s.mode ≠ .disabled) →
        Hoare (fun s => LogOK1 s ∧ s = s0) f LogOK1 := by
      intro f hf s ⟨hp, he⟩
      subst he
      exact (hf s ⟨hp, hnd⟩).1
    -- reading an anchor first does not change the state
    have lift2 : ∀ {α} {g : State → α} {k : α → M (Option Prior)},
        (∀ a, Hoare (fun s => LogOK1 s ∧ s.mode ≠ .disabled) (k a) (fun s => LogOK1 s ∧ s.mode ≠ .disabled)) →
        Hoare (fun s => LogOK1 s ∧ s = s0) (M.gets g >>= k) LogOK1 := by
      intro α g k hk s ⟨hp, he⟩
      subst he
      simp only [M.bind_apply, M.gets_apply]
      exact (hk _ s ⟨hp, hnd⟩).1
    have arm : ∀ a : Option Prior, Hoare (fun s => LogOK1 s ∧ s.mode ≠ .disabled)
        (match a with
          | some q => pushHinted q
          | none => writeCompressedUnhintedName n) (fun s => LogOK1 s ∧ s.mode ≠ .disabled) := fun a => by
      cases a with
      | some q => exact logOK_pushHinted q
      | none => exact logOK_writeCompressedUnhintedName n
    split
    · exact lift (logOK_writeCompressedUnhintedName n)
    · split
      · exact lift2 arm
      · exact lift2 arm
      · exact lift2 arm
      · refine lift2 fun a => ?_
        split
        · exact logOK_pushHinted _
        · exact logOK_writeCompressedUnhintedName n
      · exact lift (logOK_writeCompressedUnhintedName n)

theorem logOK_setCtx_allowed (c : NameCtx) (hc : AllowedCtx c) : Hoare LogOK (setCtx c) LogOK1 :=
  fun s h => ⟨h, hc⟩

theorem logOK_setCtx (c : NameCtx) : Hoare LogOK (setCtx c) LogOK := fun s h => h
theorem logOK1_setCtx (c : NameCtx) : Hoare LogOK1 (setCtx c) LogOK := fun s h => h.1

theorem logOK_modify (f : State → State) (hf : ∀ s, (f s).gPtrs = s.gPtrs) : Hoare LogOK (M.modify f) LogOK := by
  intro s h e he
  simp only [M.modify_apply, hf] at he
  exact h e he

theorem logOK_hvPush (p : Option Nat) : Hoare LogOK (hvPush p) LogOK := by
  intro s h
  simp only [hvPush, M.modify_apply]
  split
  · split
    · exact h
    · exact h
  · exact h

theorem logOK_writeComponents (ts : List CompType) (rd : List UInt8) :
    Hoare LogOK (writeComponents ts rd) LogOK := by
  induction ts generalizing rd with
  | nil =>
    unfold writeComponents
    split
    · exact fun s h => h
    · exact hoare_tryPush _ LogOK (fun s o c h => h)
  | cons t ts ih =>
    cases t with
    | compressibleName =>
      unfold writeComponents
      split
      · exact fun s h => h
      · exact hoare_bind (logOK_setCtx_allowed _ (Or.inr (Or.inr rfl))) (fun _ =>
          hoare_bind (logOK_writeUnhintedName _) (fun p =>
            hoare_bind (logOK1_setCtx _) (fun _ =>
              hoare_bind (logOK_modify _ (fun s => rfl)) (fun _ =>
                hoare_bind (logOK_hvPush _) (fun _ => ih _) (fun s h => h)) (fun s h => h))
              (fun s h => h)) (fun s h => h.1)) (fun s h => h.1)
    | uncompressibleName =>
      unfold writeComponents
      split
      · exact fun s h => h
      · exact hoare_bind (logOK_setCtx _) (fun _ =>
          hoare_bind (hoare_writeUncompressedName _ LogOK (fun s o c h => h) (fun s g h => h)) (fun p =>
            hoare_bind (logOK_setCtx _) (fun _ =>
              hoare_bind (logOK_modify _ (fun s => rfl)) (fun _ =>
                hoare_bind (logOK_hvPush _) (fun _ => ih _) (fun s h => h)) (fun s h => h))
              (fun s h => h)) (fun s h => h)) (fun s h => h)
    | fixedLen k =>
      unfold writeComponents
      split
      · exact fun s h => h
      · exact hoare_bind (hoare_tryPush _ LogOK (fun s o c h => h)) (fun _ => ih _) (fun s h => h)

theorem logOK_writeRdata (cls ty : Nat) (rd : List UInt8) : Hoare LogOK (writeRdata cls ty rd) LogOK := by
  unfold writeRdata
  split
  · exact logOK_writeComponents _ _
  · exact fun s h => h

theorem logOK_write (pos : Nat) (d : List UInt8) : Hoare LogOK (write pos d) LogOK := by
  intro s h
  rcases write_cases pos d s with hw | ⟨_, hw⟩ <;> rw [hw] <;> exact h

theorem logOK_addRr (hint : Hint) (owner : WName) (ty cls ttl : Nat) (rd : List UInt8) :
    Hoare LogOK (addRr hint owner ty cls ttl rd) LogOK := by
  unfold addRr
  refine hoare_bind (logOK_setCtx_allowed _ (Or.inr (Or.inl rfl))) (fun _ =>
    hoare_bind (logOK_writeHintedName _ _) (fun p =>
      hoare_bind (logOK1_setCtx _) (fun _ =>
        hoare_bind (logOK_modify _ (fun s => rfl)) (fun _ =>
          hoare_bind (hoare_tryPush _ LogOK (fun s o c h => h)) (fun _ =>
            hoare_bind (hoare_tryPush _ LogOK (fun s o c h => h)) (fun _ =>
              hoare_bind (hoare_tryPush _ LogOK (fun s o c h => h)) (fun _ => ?_)
                (fun s h => h)) (fun s h => h)) (fun s h => h)) (fun s h => h))
        (fun s h => h)) (fun s h => h.1)) (fun s h => h.1)
  refine hoare_gets_bind_any fun av => hoare_gets_bind_any fun st => ?_
  split
  · exact fun s h => h
  · split
    · exact fun s h => h
    · refine hoare_bind (logOK_modify _ (fun s => rfl)) (fun _ =>
        hoare_bind (logOK_writeRdata _ _ _) (fun _ => ?_) (fun s h => h)) (fun s h => h)
      refine hoare_gets_bind_any fun c => ?_
      split
      · exact fun s h => h
      · exact logOK_write _ _


theorem logOK_addRrset (hint : Hint) (owner : WName) (ty cls ttl : Nat) (rds : List (List UInt8))
    (n : Nat) : Hoare LogOK (addRrset hint owner ty cls ttl rds n) LogOK := by
  induction rds generalizing hint n with
  | nil => exact fun s h => h
  | cons rd rds ih =>
    unfold addRrset
    exact hoare_bind (logOK_addRr _ _ _ _ _ _) (fun _ => ih _ _) (fun s h => h)

theorem logOK_withRollback {α} {f : M α} (hf : Hoare LogOK f LogOK) :
    Hoare LogOK (withRollback f) LogOK := by
  intro s h
  rw [withRollback_apply]
  have := hf s h
  cases hfs : f s with
  | mk r s' =>
    rw [hfs] at this
    cases r with
    | ok a => exact this
    | err e => exact h
    | panic => exact this

theorem logOK_changeSection (sec : RrSection) : Hoare LogOK (changeSection sec) LogOK := by
  intro s h
  rcases changeSection_cases sec s with hc | ⟨x, hc⟩ <;> rw [hc] <;> exact h

theorem logOK_setCount (sec : RrSection) (n : Nat) : Hoare LogOK (setCount sec n) LogOK := by
  intro s h
  cases sec <;> exact h

theorem logOK_addRrOp (sec : RrSection) (hint : Hint) (owner : WName) (ty cls ttl : Nat)
    (rd : List UInt8) : Hoare LogOK (addRrOp sec hint owner ty cls ttl rd) LogOK := by
  unfold addRrOp
  refine logOK_withRollback (hoare_bind (logOK_changeSection _) (fun _ =>
    hoare_bind (logOK_addRr _ _ _ _ _ _) (fun _ => hoare_gets_bind_any fun c => ?_) (fun s h => h))
    (fun s h => h))
  split
  · exact fun s h => h
  · exact logOK_setCount _ _

theorem logOK_addRrsetOp (sec : RrSection) (hint : Hint) (owner : WName) (ty cls ttl : Nat)
    (rds : List (List UInt8)) : Hoare LogOK (addRrsetOp sec hint owner ty cls ttl rds) LogOK := by
  unfold addRrsetOp
  refine logOK_withRollback (hoare_bind (logOK_changeSection _) (fun _ =>
    hoare_bind (logOK_addRrset _ _ _ _ _ _ _) (fun n => hoare_gets_bind_any fun c => ?_) (fun s h => h))
    (fun s h => h))
  split
  · exact fun s h => h
  · split
    · exact fun s h => h
    · exact logOK_setCount _ _

theorem logOK_addQuestionBody (qn : WName) (qt qc : Nat) :
    Hoare LogOK (addQuestionBody qn qt qc) LogOK := by
  unfold addQuestionBody
  refine hoare_bind (logOK_setCtx_allowed _ (Or.inl rfl)) (fun _ =>
    hoare_bind (logOK_writeUnhintedName _) (fun p =>
      hoare_bind (logOK1_setCtx _) (fun _ =>
        hoare_bind (logOK_modify _ (fun s => by split <;> rfl)) (fun _ =>
          hoare_bind (hoare_tryPush _ LogOK (fun s o c h => h)) (fun _ =>
            hoare_tryPush _ LogOK (fun s o c h => h)) (fun s h => h)) (fun s h => h))
        (fun s h => h)) (fun s h => h.1)) (fun s h => h.1)

theorem logOK_addQuestion (qn : WName) (qt qc : Nat) : Hoare LogOK (addQuestion qn qt qc) LogOK := by
  unfold addQuestion
  refine hoare_gets_bind_any fun sect => hoare_gets_bind_any fun qd => ?_
  split
  · exact fun s h => h
  · split
    · exact fun s h => h
    · exact hoare_bind (logOK_withRollback (logOK_addQuestionBody _ _ _))
        (fun _ => logOK_modify _ (fun s => rfl)) (fun s h => h)

/-- a step that does not touch the pointer log -/
def KeepsLog (f : M Unit) : Prop := ∀ s, (f s).2.gPtrs = s.gPtrs

theorem logOK_of_keepsLog {f : M Unit} (h : KeepsLog f) : Hoare LogOK f LogOK := by
  intro s hs e he
  rw [h s] at he
  exact hs e he

theorem keepsLog_write (pos : Nat) (d : List UInt8) : KeepsLog (write pos d) := by
  intro s
  rcases write_cases pos d s with h | ⟨_, h⟩ <;> rw [h]

theorem keepsLog_setHdr (i : Nat) (f : UInt8 → UInt8) : KeepsLog (setHdr i f) := by
  intro s
  rcases setHdr_cases i f s with h | ⟨o, _, h⟩ <;> rw [h]

theorem keepsLog_setBit (b m : Nat) (v : Bool) : KeepsLog (setBit b m v) := keepsLog_setHdr _ _

theorem keepsLog_setRcode (v : Nat) : KeepsLog (setRcode v) := by
  intro s
  unfold setRcode
  rcases setHdr_cases Gen.RCODE_BYTE (fun b => (b &&& ~~~ (UInt8.ofNat Gen.RCODE_MASK)) ||| UInt8.ofNat v) s
    with h | ⟨o, _, h⟩ <;> simp only [M.bind_apply, h, M.modify_apply]
  split <;> rfl

theorem keepsLog_setExtendedRcode (v : Nat) : KeepsLog (setExtendedRcode v) := by
  intro s
  rcases setExtendedRcode_cases v s with ⟨_, h⟩ | ⟨_, _, ⟨_, h⟩ | ⟨_, r, s1, hs1, ⟨_, _, h⟩ | ⟨rfl, h⟩⟩⟩ <;> rw [h]
  rcases setHdr_cases Gen.RCODE_BYTE _ s with h' | ⟨o, _, h'⟩ <;> rw [h'] at hs1 <;> cases hs1
  rfl

theorem keepsLog_setLimit (v : Nat) : KeepsLog (setLimit v) := by
  intro s
  rcases setLimit_cases v s with ⟨_, h⟩ | ⟨l, a, h, _⟩ <;> rw [h]

theorem keepsLog_setEdns (p : Nat) : KeepsLog (setEdns p) := by
  intro s; rcases setEdns_cases p s with ⟨_, h, _⟩ | ⟨_, _, _, h⟩ <;> rw [h] <;> rfl

theorem keepsLog_setTsig (m : TsigMode) (rr : TsigRr) : KeepsLog (setTsig m rr) := by
  intro s; rcases setTsig_cases m rr s with ⟨_, h, _⟩ | ⟨_, _, _, h⟩ <;> rw [h] <;> rfl

theorem keepsLog_updateTimeSigned (t : List UInt8) : KeepsLog (updateTimeSigned t) := by
  intro s; rcases updateTimeSigned_cases t s with ⟨_, h⟩ | ⟨_, _, h⟩ <;> rw [h]

theorem logOK_clearRrs : Hoare LogOK clearRrs LogOK := by
  intro s h e he
  simp only [clearRrs, M.modify_apply, List.mem_filter] at he
  exact h e he.1

theorem liftW_logOK {f : M Unit} (hf : Hoare LogOK f LogOK) (ss : Session) (h : LogOK ss.w) :
    LogOK (liftW ss f).2.w := by
  rw [liftW_w]; exact hf ss.w h

theorem withHv_logOK {f : M Unit} (hf : Hoare LogOK f LogOK) (ss : Session) (slot : Option Nat)
    (h : LogOK ss.w) : LogOK (withHv ss slot f).2.w := by
  rw [withHv_w]
  exact hf { ss.w with hv := slot.map (hvGet ss.hvs) } h

theorem tryFromTemplateImpl_gPtrs (b : Bytes) (t : Template) (ts : Option Tsig) (s' : State)
    (h : tryFromTemplateImpl b t ts = .ok s') : s'.gPtrs = t.gPtrs := by
  unfold tryFromTemplateImpl at h
  dsimp only at h
  split at h
  · cases h
  · split at h
    · cases h
    · cases h; rfl

theorem retemplate_logOK (ss : Session) (n : Nat) (fill : UInt8)
    (mk : Bytes → Template → Out WriterErr State)
    (hmk : ∀ b t s', mk b t = .ok s' → s'.gPtrs = t.gPtrs) (h : LogOK ss.w) :
    LogOK (retemplate ss n fill mk).2.w := by
  unfold retemplate
  cases hi : intoTemplate ss.w with
  | ok t =>
    have ht : t.gPtrs = ss.w.gPtrs := by
      unfold intoTemplate at hi
      split at hi
      · cases hi
      · split at hi
        · cases hi
        · cases hi; rfl
    simp only []
    cases hm : mk (Array.replicate n fill) t with
    | ok s' =>
      simp only []
      intro e he; rw [hmk _ _ _ hm, ht] at he; exact h e he
    | err e' =>
      simp only []
      cases hf : tryFromTemplate (Array.replicate ss.w.octets.size fill) t with
      | ok s' =>
        simp only []
        have : s'.gPtrs = t.gPtrs := tryFromTemplateImpl_gPtrs _ _ _ _ hf
        intro e he; rw [this, ht] at he; exact h e he
      | err _ => exact h
      | panic => exact h
    | panic =>
      simp only []
      cases hf : tryFromTemplate (Array.replicate ss.w.octets.size fill) t with
      | ok s' =>
        simp only []
        have : s'.gPtrs = t.gPtrs := tryFromTemplateImpl_gPtrs _ _ _ _ hf
        intro e he; rw [this, ht] at he; exact h e he
      | err _ => exact h
      | panic => exact h
  | err e => exact h
  | panic => exact h

/-- Every call keeps the pointer log clean (C13, the part that needs no invariant). -/
theorem step_logOK (ss : Session) (op : Op) (h : LogOK ss.w) : LogOK (step ss op).2.w := by
  cases op with
  | setId v => exact liftW_logOK (logOK_of_keepsLog (keepsLog_write _ _)) ss h
  | setQr b => exact liftW_logOK (logOK_of_keepsLog (keepsLog_setBit _ _ _)) ss h
  | setAa b => exact liftW_logOK (logOK_of_keepsLog (keepsLog_setBit _ _ _)) ss h
  | setTc b => exact liftW_logOK (logOK_of_keepsLog (keepsLog_setBit _ _ _)) ss h
  | setRd b => exact liftW_logOK (logOK_of_keepsLog (keepsLog_setBit _ _ _)) ss h
  | setRa b => exact liftW_logOK (logOK_of_keepsLog (keepsLog_setBit _ _ _)) ss h
  | setOpcode v => exact liftW_logOK (logOK_of_keepsLog (keepsLog_setHdr _ _)) ss h
  | setRcode v => exact liftW_logOK (logOK_of_keepsLog (keepsLog_setRcode _)) ss h
  | setExtendedRcode v => exact liftW_logOK (logOK_of_keepsLog (keepsLog_setExtendedRcode _)) ss h
  | setLimit v => exact liftW_logOK (logOK_of_keepsLog (keepsLog_setLimit _)) ss h
  | setMode m => exact liftW_logOK (logOK_of_keepsLog (fun s => rfl)) ss h
  | addQuestion n t c => exact liftW_logOK (logOK_addQuestion _ _ _) ss h
  | addRr sec hn o ty cls ttl rd hv => exact withHv_logOK (logOK_addRrOp _ _ _ _ _ _ _) ss hv h
  | addRrset sec hn o ty cls ttl rds hv => exact withHv_logOK (logOK_addRrsetOp _ _ _ _ _ _ _) ss hv h
  | clearRrs => exact liftW_logOK logOK_clearRrs ss h
  | setEdns p => exact liftW_logOK (logOK_of_keepsLog (keepsLog_setEdns _)) ss h
  | setTsig m rr => exact liftW_logOK (logOK_of_keepsLog (keepsLog_setTsig _ _)) ss h
  | updateTimeSigned t => exact liftW_logOK (logOK_of_keepsLog (keepsLog_updateTimeSigned _)) ss h
  | template n fill =>
    exact retemplate_logOK ss n fill _ (fun b t s' hh => tryFromTemplateImpl_gPtrs b t _ s' hh) h
  | templateSubsequent n fill mac =>
    refine retemplate_logOK ss n fill _ (fun b t s' hh => ?_) h
    simp only [tryFromTemplateAsTsigSubsequent] at hh
    split at hh
    · split at hh
      all_goals first
        | exact tryFromTemplateImpl_gPtrs b t _ s' hh
        | cases hh
    · cases hh
  | getters => exact h

theorem run_logOK (ss : Session) (ops : List Op) (h : LogOK ss.w) : LogOK (run ss ops).1.w :=
  run_preserves step_logOK ss ops h

/-- `finish` (the OPT and TSIG records it appends) keeps the pointer log clean as well -/
theorem finishWithMac_logOK (macFn : Tsig → List UInt8 → List UInt8) :
    Hoare LogOK (finishWithMac macFn) LogOK := by
  unfold finishWithMac
  refine hoare_gets_bind_any fun c => ?_
  obtain ⟨qd, an, ns, ar⟩ := c
  refine hoare_gets_bind_any fun edns => hoare_gets_bind_any fun tsig => ?_
  have hunwrap : ∀ {f : M Unit}, Hoare LogOK f LogOK → Hoare LogOK (unwrap f) LogOK := by
    intro f hf s h
    rw [unwrap_snd]; exact hf s h
  refine hoare_bind (Q := LogOK) ?_ (fun _ => hoare_bind (Q := LogOK) ?_ (fun _ => ?_) (fun s h => h))
    (fun s h => h)
  · unfold finishCounts
    exact hoare_bind (logOK_write _ _) (fun _ => hoare_bind (logOK_write _ _) (fun _ =>
      hoare_bind (logOK_write _ _) (fun _ => logOK_write _ _) (fun s h => h)) (fun s h => h))
      (fun s h => h)
  · unfold finishOpt
    split
    · exact hoare_bind (logOK_modify _ (fun s => rfl)) (fun _ => hunwrap (logOK_addRr _ _ _ _ _ _))
        (fun s h => h)
    · exact fun s h => h
  · unfold finishTsig
    split
    · refine hoare_gets_bind_any fun msg => ?_
      split
      · exact fun s h => h
      · exact hoare_bind (logOK_modify _ (fun s => rfl)) (fun _ =>
          hoare_bind (hunwrap (logOK_addRr _ _ _ _ _ _)) (fun _ =>
            hoare_gets_bind_any fun _ => fun s h => h) (fun s h => h))
          (fun s h => h)
    · exact hoare_gets_bind_any fun _ => fun s h => h


/-! ### the extended RCODE -/

theorem mask15 (b c : UInt8) : (((b &&& ~~~ (15 : UInt8)) ||| (c &&& 15)) &&& 15) = c &&& 15 := by
  apply UInt8.eq_of_toBitVec_eq
  simp only [UInt8.toBitVec_and, UInt8.toBitVec_or, UInt8.toBitVec_not]
  ext i hi
  have : i = 0 ∨ i = 1 ∨ i = 2 ∨ i = 3 ∨ i = 4 ∨ i = 5 ∨ i = 6 ∨ i = 7 := by omega
  rcases this with rfl | rfl | rfl | rfl | rfl | rfl | rfl | rfl <;> simp +decide

theorem and15_toNat (c : UInt8) : (c &&& 15).toNat = c.toNat % 16 := by
  rw [UInt8.toNat_and]; exact Nat.and_two_pow_sub_one_eq_mod _ 4

/-- `set_extended_rcode` accepts every value up to 4095 on an EDNS message, and afterwards the
    getter reports exactly that value -/
theorem setExtendedRcode_roundtrip (s : State) (e : Edns) (v : Nat) (he : s.edns = some e)
    (hv : v ≤ 4095) (hs : 12 ≤ s.octets.size) :
    ∃ s', setExtendedRcode v s = (.ok (), s') ∧ getExtendedRcode s' = v ∧
      s'.edns = some ⟨e.payload, v / 16⟩ := by
  unfold setExtendedRcode
  simp only [M.bind_apply, M.get_apply, M.gets_apply, he]
  rw [if_neg (by omega)]
  have h3 : Gen.RCODE_BYTE < s.octets.size := by show 3 < _; omega
  simp only [M.bind_apply, setHdr, h3, dite_true, M.modify_apply]
  refine ⟨_, rfl, ?_, ?_⟩
  · unfold getExtendedRcode getRcode hdr
    simp only [Array.getD_eq_getD_getElem?, Array.getElem?_set, if_true]
    show (v / 16 % 256) * 16 + _ = v
    have hm : (UInt8.ofNat Gen.RCODE_MASK) = 15 := rfl
    rw [hm]
    simp only [Option.getD_some]
    rw [mask15, and15_toNat]
    simp
    omega
  · simp; omega


/-- values above 4095 are rejected and nothing changes -/
theorem setExtendedRcode_rejects (s : State) (v : Nat) (hv : v > 4095) :
    setExtendedRcode v s = (.err (if s.edns.isSome then .ExtendedRcodeOverflow else .NotEdns), s) := by
  unfold setExtendedRcode
  simp only [M.bind_apply, M.get_apply, M.gets_apply]
  cases he : s.edns with
  | none => rfl
  | some e => simp only [Option.isSome_some, if_true]; rw [if_pos hv]; rfl


/-! ### the `Rdata::components` dispatch (generated from the source) against RFC 3597 §4 -/

/-- RFC 3597 §4 / RFC 1035 §3.3: the types whose RDATA may be compressed -/
def rfc1035NameTypes : List Nat := [2, 3, 4, 5, 7, 8, 9, 12, 6, 14, 15]

theorem lookup_cases (arms : List (List Nat × Option Nat × String)) (dflt : String) (c t : Nat) :
    QV.Rdata.lookup arms dflt c t = dflt ∨
    ∃ a ∈ arms, QV.Rdata.lookup arms dflt c t = a.2.2 ∧ a.1.contains t = true := by
  induction arms with
  | nil => left; rfl
  | cons a rest ih =>
    obtain ⟨tys, g, h⟩ := a
    have tail : QV.Rdata.lookup rest dflt c t = dflt ∨
        ∃ a ∈ (tys, g, h) :: rest, QV.Rdata.lookup rest dflt c t = a.2.2 ∧ a.1.contains t = true := by
      rcases ih with h1 | ⟨a, ha, h2, h3⟩
      · left; exact h1
      · right; exact ⟨a, List.mem_cons_of_mem _ ha, h2, h3⟩
    cases g with
    | none =>
      simp only [QV.Rdata.lookup, Bool.and_true]
      by_cases hc : tys.contains t = true
      · rw [if_pos hc]; right; exact ⟨_, List.mem_cons_self, rfl, hc⟩
      · rw [if_neg hc]; exact tail
    | some k =>
      simp only [QV.Rdata.lookup]
      by_cases hc : (tys.contains t && c == k) = true
      · rw [if_pos hc]; right
        refine ⟨_, List.mem_cons_self, rfl, ?_⟩
        simp only [Bool.and_eq_true] at hc; exact hc.1
      · rw [if_neg hc]; exact tail

/-- the types of a handler, converted -/
def handlerTypes (h : String) : Option (List CompType) :=
  match QV.Rdata.componentTypesOf h with
  | some tys => tys.mapM convCompType
  | none => none

theorem componentTypes_eq (cls ty : Nat) :
    componentTypes cls ty =
      handlerTypes (QV.Rdata.lookup Gen.rdataComponentsArms Gen.rdataComponentsDefault cls ty) := rfl

/-- the generated `match rr_type` arms of `Rdata::components`, as a decision list -/
theorem lookup_arms (cls ty : Nat) :
    QV.Rdata.lookup Gen.rdataComponentsArms Gen.rdataComponentsDefault cls ty =
      if ty = 2 ∨ ty = 3 ∨ ty = 4 ∨ ty = 5 ∨ ty = 7 ∨ ty = 8 ∨ ty = 9 ∨ ty = 12 then "for_single_compressible_name"
      else if ty = 1 ∧ cls = 3 then "components_as_ch_a"
      else if ty = 6 then "components_as_soa"
      else if ty = 14 then "components_as_minfo"
      else if ty = 15 then "components_as_mx"
      else if ty = 33 ∧ cls = 1 then "components_as_in_srv"
      else "for_nameless" := by
  simp only [Gen.rdataComponentsArms, Gen.rdataComponentsDefault, QV.Rdata.lookup, List.contains_cons,
    List.contains_nil, Bool.or_false, Bool.and_true, Bool.or_eq_true, beq_iff_eq, Bool.and_eq_true]

/-- the generated `types: &[…]` lists, handler by handler -/
theorem handlerTypes_table :
    handlerTypes "for_single_compressible_name" = some [.compressibleName] ∧
    handlerTypes "components_as_ch_a" = some [.uncompressibleName] ∧
    handlerTypes "components_as_soa" = some [.compressibleName, .compressibleName] ∧
    handlerTypes "components_as_minfo" = some [.compressibleName, .compressibleName] ∧
    handlerTypes "components_as_mx" = some [.fixedLen 2, .compressibleName] ∧
    handlerTypes "components_as_in_srv" = some [.fixedLen 6, .uncompressibleName] ∧
    handlerTypes "for_nameless" = some [] := by decide +kernel

/-- the component list of every (class, type), as a decision list: the two generated tables put
    together. Everything else about `componentTypes` follows from this. -/
theorem componentTypes_arms (cls ty : Nat) :
    componentTypes cls ty = some (
      if ty = 2 ∨ ty = 3 ∨ ty = 4 ∨ ty = 5 ∨ ty = 7 ∨ ty = 8 ∨ ty = 9 ∨ ty = 12 then [.compressibleName]
      else if ty = 1 ∧ cls = 3 then [.uncompressibleName]
      else if ty = 6 then [.compressibleName, .compressibleName]
      else if ty = 14 then [.compressibleName, .compressibleName]
      else if ty = 15 then [.fixedLen 2, .compressibleName]
      else if ty = 33 ∧ cls = 1 then [.fixedLen 6, .uncompressibleName]
      else []) := by
  obtain ⟨h1, h2, h3, h4, h5, h6, h7⟩ := handlerTypes_table
  rw [componentTypes_eq, lookup_arms]
  simp only [apply_ite handlerTypes, apply_ite some, h1, h2, h3, h4, h5, h6, h7]

theorem componentTypes_total (cls ty : Nat) : ∃ ts, componentTypes cls ty = some ts :=
  ⟨_, componentTypes_arms cls ty⟩

/-- the component types as a plain list (the generated table has an entry for every class and type) -/
def compTypes (cls ty : Nat) : List CompType := (componentTypes cls ty).getD []

theorem componentTypes_eq_some (cls ty : Nat) : componentTypes cls ty = some (compTypes cls ty) := by
  unfold compTypes; rw [componentTypes_arms]; rfl

theorem componentTypes_compressible (cls ty : Nat) (ts : List CompType)
    (h : componentTypes cls ty = some ts) (hc : CompType.compressibleName ∈ ts) :
    ty ∈ rfc1035NameTypes := by
  rw [componentTypes_arms, Option.some.injEq] at h
  subst h
  -- membership, arm by arm, turns the decision list into a formula over `ty` and `cls`
  simp only [apply_ite (CompType.compressibleName ∈ ·), List.mem_cons, List.not_mem_nil, reduceCtorEq,
    or_false, false_or, true_or, if_true_left, if_false_left, if_false_right, and_false,
    Decidable.imp_iff_not_or, Decidable.not_not] at hc
  simp only [rfc1035NameTypes, List.mem_cons, List.not_mem_nil, or_false]
  omega

/-- SRV (class IN): six fixed octets and a name that is never compressed -/
theorem componentTypes_srv_in : componentTypes 1 33 = some [.fixedLen 6, .uncompressibleName] :=
  componentTypes_arms 1 33

/-- Chaosnet A: a name that is never compressed, then the address -/
theorem componentTypes_ch_a : componentTypes 3 1 = some [.uncompressibleName] :=
  componentTypes_arms 3 1

/-- any type that no arm of the table mentions is written verbatim -/
theorem componentTypes_unknown (cls ty : Nat)
    (h : ∀ a ∈ Gen.rdataComponentsArms, a.1.contains ty = false) : componentTypes cls ty = some [] := by
  rw [componentTypes_eq]
  rcases lookup_cases Gen.rdataComponentsArms Gen.rdataComponentsDefault cls ty with h1 | ⟨a, ha, h2, h3⟩
  · rw [h1]; exact handlerTypes_table.2.2.2.2.2.2
  · rw [h a ha] at h3; cases h3

end QV.Writer
