/-
  QV.Proofs.ServerNoErr — a structural fact about the server model used by C01's assembly: the
  `M`-level computation of `handle_message_with_context` never *returns* a `writer::Error` (in Rust
  it returns `()`: every fallible writer call is matched on, `?` occurs only inside the
  `ProcessingResult` functions whose errors `handle_non_axfr_query` handles). The model's
  `handleMessage` lumps "the program returned `Err`" with "panic"; that branch is unreachable, for
  every state and input (no invariant is needed). Here: `NoErr` and its closure lemmas, the Hoare rule
  `Rule` for the scan of the additional section, and `NoErr` of the query handlers; `noErr_scanAr` and
  `noErr_handleWithContext` are at the end of QV.Proofs.ServerTsig (they need the TSIG step).

  `NoErr` is closed under `pure`, `>>=` and `if`; the header setters have it because they only
  panic. A handler function given as `fun s => match … with …` is taken pointwise: its branches are
  literal `Ok`/panic results, or `NoErr` programs run from the state reached (`NoErr.at`).
-/
import QV.Model.Server
import QV.Proofs.Writer

namespace QV.Server
open QV QV.Writer

/-- `context.response.add_question(&question)`; failure ⇒ SERVFAIL and stop (`false`) -/
def addQuestionOrServfail (question : Option (WName × Nat × Nat)) : M Bool :=
  match question with
  | some (qn, qt, qc) => fun s =>
    match addQuestion qn qt qc s with
    | (.ok (), s') => (.ok true, s')
    | (.err _, s') => (do setRcode (RC "SERVFAIL"); pure false) s'
    | (.panic, s') => (.panic, s')
  | none => pure true

end QV.Server

namespace QV.ServerSafety
open QV QV.Writer QV.Server

/-- never `Err(_)` (it may be `Ok` or a panic) -/
structure NoErr {α : Type} (f : M α) : Prop where
  h : ∀ s e, (f s).1 ≠ .err e

theorem NoErr.at {α : Type} {f : M α} (h : NoErr f) (s : State) (e : WriterErr) : (f s).1 ≠ .err e := h.h s e

theorem noErr_pure {α : Type} (a : α) : NoErr (pure a : M α) := ⟨fun _ _ => nofun⟩

theorem noErr_panic {α : Type} : NoErr (M.panic : M α) := ⟨fun _ _ => nofun⟩

theorem noErr_bind {α β : Type} {x : M α} {g : α → M β} (hx : NoErr x) (hg : ∀ a, NoErr (g a)) :
    NoErr (x >>= g) := by
  refine ⟨fun s e => ?_⟩
  rw [M.bind_apply]
  have := hx.h s
  split
  · exact (hg _).h _ e
  · rename_i e' _ heq; exact absurd (congrArg Prod.fst heq) (this e')
  · nofun

theorem NoErr.ite {α : Type} {c : Prop} [Decidable c] {x y : M α} (hx : NoErr x) (hy : NoErr y) :
    NoErr (if c then x else y) := by
  split <;> assumption

theorem noErr_modify (f : State → State) : NoErr (M.modify f) := ⟨fun _ _ => nofun⟩

theorem noErr_setHdr (i : Nat) (f : UInt8 → UInt8) : NoErr (setHdr i f) := by
  refine ⟨fun s e => ?_⟩; unfold setHdr; split <;> nofun

theorem noErr_write (pos : Nat) (d : List UInt8) : NoErr (write pos d) := by
  refine ⟨fun s e => ?_⟩; unfold write; split <;> nofun

theorem noErr_setId (v : Nat) : NoErr (setId v) := noErr_write _ _
theorem noErr_setBit (b m : Nat) (v : Bool) : NoErr (setBit b m v) := noErr_setHdr _ _
theorem noErr_setQr (v : Bool) : NoErr (setQr v) := noErr_setBit _ _ _
theorem noErr_setAa (v : Bool) : NoErr (setAa v) := noErr_setBit _ _ _
theorem noErr_setTc (v : Bool) : NoErr (setTc v) := noErr_setBit _ _ _
theorem noErr_setRd (v : Bool) : NoErr (setRd v) := noErr_setBit _ _ _
theorem noErr_setOpcode (v : Nat) : NoErr (setOpcode v) := noErr_setHdr _ _

theorem noErr_setRcode (v : Nat) : NoErr (setRcode v) :=
  noErr_bind (noErr_setHdr _ _) (fun _ => noErr_modify _)

theorem noErr_clearRrs : NoErr clearRrs := noErr_modify _

theorem noErr_setLimit (v : Nat) : NoErr (setLimit v) := by
  refine ⟨fun s e => ?_⟩
  obtain ⟨_, h⟩ | ⟨_, _, h, _⟩ := setLimit_cases v s <;> rw [h] <;> nofun

theorem noErr_unwrap {α : Type} (f : M α) : NoErr (Writer.unwrap f) := ⟨unwrap_ne_err f⟩

/-- `set_rcode(v); return b` -/
theorem noErr_rcode_then {β : Type} (v : Nat) (b : β) : NoErr (do setRcode v; pure b : M β) :=
  noErr_bind (noErr_setRcode v) fun _ => noErr_pure b

/-! ### the additional-section scan, once

  `Rule` lists what one record of the additional section can do to the writer and the reader, as the
  obligations of a Hoare rule; `Rule.scanAr` is the one pass along `Server.scanAr`. Every judgement
  about the scan for arbitrary writer states is an instance: no `Err`, `ScanFrame`, clean TSIG state
  and the TCP invariant (QV.Proofs.ServerTsig: `noErr_scanAr`, `Fr.scanAr`, `scanAr_tsigClean`,
  `scanAr_tcp`), the echo frame (QV.Proofs.FrameServer), absence of panics (QV.Proofs.ServerContext). -/

section rule
open QV.Reader

/-- `Q` holds of the outcome and the final state of `m` run from `s` -/
def Post {α} (m : M α) (s : State) (Q : Out WriterErr α → State → Prop) : Prop := Q (m s).1 (m s).2

theorem Post.of_eq {α} {m : M α} {s : State} {Q : Out WriterErr α → State → Prop} (h : Post m s Q)
    {o : Out WriterErr α} {s' : State} (heq : m s = (o, s')) : Q o s' := by
  unfold Post at h; rw [heq] at h; exact h

/-- the reader calls of one record of the additional section that the model lets panic -/
def ReaderPanics (st : ScanSt) : Prop :=
  peekRr st.r = .panic ∨ ∃ p, peekRr st.r = .ok p ∧
    ((∀ t, p.rrType ≠ .ok t) ∨ (∀ raw, p.rawTtl ≠ .ok raw) ∨ (p.parse rdRead).1 = .panic)

/-- what is asked of the TSIG step: `some r'` lets the scan go on at `r'`, anything else ends it -/
def tsigPost (I : ScanSt → State → Prop) (Q : Out WriterErr (Option ScanSt) → State → Prop) (st : ScanSt) :
    Out WriterErr (Option Reader) → State → Prop
  | .ok (some r'), s => I { st with r := r' } s
  | .ok none, s => Q (.ok none) s
  | .err e, s => Q (.err e) s
  | .panic, s => Q .panic s

/-- `tsigPost` from what is known of the step's outcome `o`: if it says "go on", the invariant; if
    not, `Q` of the scan's outcome `o'`, which is an `Err`, a panic exactly when `o` is and never "go on" -/
theorem tsigPost.intro {I : ScanSt → State → Prop} {Q : Out WriterErr (Option ScanSt) → State → Prop}
    {st : ScanSt} (o : Out WriterErr (Option Reader)) (s1 : State)
    (go : ∀ r', o = .ok (some r') → I { st with r := r' } s1)
    (stop : (∀ r', o ≠ .ok (some r')) → ∀ o' : Out WriterErr (Option ScanSt), (∀ e, o' = .err e ↔ o = .err e) →
      (o' = .panic ↔ o = .panic) → (∀ st', o' ≠ .ok (some st')) → Q o' s1) :
    tsigPost I Q st o s1 := by
  rcases o with (_ | r') | e | _
  · exact stop nofun _ (fun _ => ⟨nofun, nofun⟩) ⟨nofun, nofun⟩ nofun
  · exact go r' rfl
  · exact stop nofun _ (fun _ => ⟨fun h => congrArg Out.err (Out.err.inj h), fun h => congrArg Out.err (Out.err.inj h)⟩)
      ⟨nofun, nofun⟩ nofun
  · exact stop nofun _ (fun _ => ⟨nofun, nofun⟩) ⟨fun _ => rfl, fun _ => rfl⟩ nofun

/-- **What one record of the additional section can do**, as the obligations of a Hoare rule.
    `I i st s`: before record `i`, reader state `st`, writer `s`. `I' i st s`: inside the OPT arm of
    record `i`, after `set_edns` succeeded. `Q`: claimed of every outcome of the scan, panics
    included. `A n i`: the arithmetic between the records left and the index. -/
structure Rule (cfg : Cfg) (tr : Transport) (now arcount : Nat) (A : Nat → Nat → Prop)
    (I I' : Nat → ScanSt → State → Prop) (Q : Out WriterErr (Option ScanSt) → State → Prop) : Prop where
  arith : ∀ n i, A (n + 1) i → A n (i + 1)
  done : ∀ i st s, I i st s → Q (.ok (some st)) s
  weak : ∀ i st s, I' i st s → I i st s
  /-- a reader call panics: nothing has been written for this record but possibly `set_edns` -/
  rpanic : ∀ i st s, I i st s → ReaderPanics st → Q .panic s
  /-- `set_rcode(FORMERR | SERVFAIL); return None` -/
  stop : ∀ i st s v, v < 16 → I i st s → Post (do setRcode v; pure none : M (Option ScanSt)) s Q
  /-- `set_extended_rcode(FORMERR | BADVERS).expect(..); return None`, in the OPT arm -/
  xstop : ∀ i st s v, v ≤ 4095 → I' i st s →
    Post (do Writer.unwrap (setExtendedRcode v); pure none : M (Option ScanSt)) s Q
  edns : ∀ i st s s1, I i st s → setEdns cfg.payload s = (.ok (), s1) → I' i st s1
  /-- `set_limit` to the negotiated size, over UDP: it cannot answer `Err` -/
  limit : tr = .udp → ∀ i st s p opt r', I' i st s → peekRr st.r = .ok p → p.parse rdRead = (.ok opt, r') →
    Post (setLimit (max 512 (min opt.cls cfg.payload))) s fun o s1 =>
      (o = .ok () → I' i st s1) ∧ (o = .panic → Q .panic s1)
  /-- a good OPT has been dealt with -/
  nextOpt : ∀ i st s p opt r', I' i st s → peekRr st.r = .ok p → p.parse rdRead = (.ok opt, r') →
    I (i + 1) { r := r', seenOpt := true } s
  skip : ∀ i st s p, I i st s → peekRr st.r = .ok p → I (i + 1) { st with r := p.skip } s
  tsig : ∀ n i st s p raw, A (n + 1) i → i = arcount - 1 → I i st s → peekRr st.r = .ok p →
    p.rrType = .ok (T "TSIG") → Post (handleTsig cfg now p raw) s (tsigPost (I (i + 1)) Q st)

namespace Rule
variable {cfg : Cfg} {tr : Transport} {now arcount : Nat} {A : Nat → Nat → Prop}
  {I I' : Nat → ScanSt → State → Prop} {Q : Out WriterErr (Option ScanSt) → State → Prop}

theorem scanAr (L : Rule cfg tr now arcount A I I' Q) :
    ∀ (n index : Nat) (st : ScanSt) (s : State), A n index → I index st s →
      Post (Server.scanAr cfg tr now arcount n index st) s Q := by
  intro n
  induction n with
  | zero => intro index st s _ h; exact L.done _ _ _ h
  | succ n ih =>
    intro index st s ha h
    have formErr : ∀ s1, I index st s1 → Post (do setRcode (RC "FORMERR"); pure none : M (Option ScanSt)) s1 Q :=
      fun s1 h1 => L.stop _ _ _ _ (by decide : RC "FORMERR" < 16) h1
    unfold Post Server.scanAr
    cases hp : peekRr st.r with
    | panic => exact L.rpanic _ _ _ h (.inl hp)
    | err e => exact formErr s h
    | ok p =>
      dsimp only
      cases ht : p.rrType with
      | panic => exact L.rpanic _ _ _ h (.inr ⟨p, hp, .inl fun t e => by rw [ht] at e; cases e⟩)
      | err e => exact L.rpanic _ _ _ h (.inr ⟨p, hp, .inl fun t e => by rw [ht] at e; cases e⟩)
      | ok t =>
        dsimp only
        split
        · -- OPT
          split
          · exact formErr s h
          · obtain ⟨e, he⟩ | ⟨s1, he⟩ : (∃ e, setEdns cfg.payload s = (.err e, s)) ∨
                ∃ s1, setEdns cfg.payload s = (.ok (), s1) := (Writer.setEdns_cases cfg.payload s).imp (fun ⟨e, h, _⟩ => ⟨e, h⟩) fun h => ⟨_, h.2.2.2⟩
            · rw [he]; exact L.stop _ _ _ _ (by decide : RC "SERVFAIL" < 16) h
            · rw [he]
              have h1 := L.edns _ _ _ _ h he
              have rp := fun c => L.rpanic _ _ _ (L.weak _ _ _ h1) (.inr ⟨p, hp, c⟩)
              dsimp only
              cases hr : p.rawTtl with
              | panic => exact rp (.inr (.inl fun raw e => by rw [hr] at e; cases e))
              | err e => exact rp (.inr (.inl fun raw e => by rw [hr] at e; cases e))
              | ok raw =>
                dsimp only
                rcases hpr : p.parse rdRead with ⟨(opt | e | _), r'⟩
                · -- `set_limit` over UDP, `validate_opt`, then the next record
                  have tail : ∀ s2, I' index st s2 →
                      Post (if opt.owner ≠ [0] then do
                          Writer.unwrap (setExtendedRcode (XRC "FORMERR"))
                          pure none
                        else if raw / 65536 % 256 ≠ 0 then do
                          Writer.unwrap (setExtendedRcode (XRC "BADVERSBADSIG"))
                          pure none
                        else Server.scanAr cfg tr now arcount n (index + 1) { r := r', seenOpt := true }) s2 Q := by
                    intro s2 h2
                    split
                    · exact L.xstop _ _ _ _ (by decide) h2
                    · split
                      · exact L.xstop _ _ _ _ (by decide) h2
                      · exact ih _ _ _ (L.arith _ _ ha) (L.nextOpt _ _ _ _ _ _ h2 hp hpr)
                  dsimp only
                  split
                  · rename_i hudp
                    have hl := L.limit hudp _ _ _ _ _ _ h1 hp hpr
                    unfold Post at hl
                    rw [M.bind_apply]
                    split <;> rename_i heq <;> rw [heq] at hl
                    · exact tail _ (hl.1 rfl)
                    · exact absurd (congrArg Prod.fst heq) ((noErr_setLimit _).h _ _)
                    · exact hl.2 rfl
                  · exact tail _ h1
                · exact formErr s1 (L.weak _ _ _ h1)
                · exact rp (.inr (.inr (by rw [hpr])))
        · split
          · -- TSIG
            rename_i htsig
            split
            · exact formErr s h
            · rename_i hidx
              cases hr : p.rawTtl with
              | panic => exact L.rpanic _ _ _ h (.inr ⟨p, hp, .inr (.inl fun raw e => by rw [hr] at e; cases e)⟩)
              | err e => exact L.rpanic _ _ _ h (.inr ⟨p, hp, .inr (.inl fun raw e => by rw [hr] at e; cases e)⟩)
              | ok raw =>
                have hT := L.tsig n index st s p raw ha (Classical.not_not.mp hidx) h hp (by rw [ht, htsig])
                unfold Post at hT
                dsimp only
                split <;> rename_i heq <;> rw [heq] at hT
                · exact ih _ _ _ (L.arith _ _ ha) hT
                · exact hT
                · exact hT
                · exact hT
          · exact ih _ _ _ (L.arith _ _ ha) (L.skip _ _ _ _ h hp)

end Rule

/-- the TSIG branch is a reader panic, FORMERR, or the TSIG processing proper (`tsigProcess`) run on
    the same writer: whatever holds of these three holds of the branch -/
theorem handleTsig_cases (cfg : Cfg) (now : Nat) (p : PeekRr) (raw : Nat) (s : State) :
    handleTsig cfg now p raw s = (.panic, s) ∨
    handleTsig cfg now p raw s = (do setRcode (RC "FORMERR"); pure none : M (Option Reader)) s ∨
    ∃ nowT t mw r', Tsig.TimeSigned.tryFromUnix now = some nowT ∧
      handleTsig cfg now p raw s = tsigProcess Tsig.realHmac cfg.keys nowT t mw r' s := by
  unfold handleTsig
  split
  · split
    · split
      · exact .inr (.inl rfl)
      · split
        · exact .inr (.inl rfl)
        · exact .inl rfl
        · exact .inl rfl
        · split
          · exact .inl rfl
          · rename_i nowT hn; exact .inr (.inr ⟨nowT, _, _, _, hn, rfl⟩)
    · exact .inr (.inl rfl)
    · exact .inl rfl
  · exact .inl rfl

end rule

/-- never `Err(_)`, for computations of the answer phase (writer + ghost log) -/
structure NoErrP {α : Type} (f : PM α) : Prop where
  h : ∀ s e, (f s).1 ≠ .err e

theorem noErrP_hdrOp (ev : Ev) {m : M Unit} (hm : NoErr m) : NoErrP (PM.hdrOp ev m) := by
  refine ⟨fun s e => ?_⟩
  unfold PM.hdrOp
  have := hm.h s.w
  split
  · nofun
  · rename_i e' _ heq; exact absurd (congrArg Prod.fst heq) (this e')
  · nofun

theorem noErrP_bind {α β : Type} {x : PM α} {g : α → PM β} (hx : NoErrP x) (hg : ∀ a, NoErrP (g a)) :
    NoErrP (x >>= g) := by
  refine ⟨fun s e => ?_⟩
  show (match x s with
    | (.ok a, s') => g a s'
    | (.err e, s') => (.err e, s')
    | (.panic, s') => (.panic, s')).1 ≠ .err e
  have := hx.h s
  split
  · exact (hg _).h _ e
  · rename_i e' _ heq; exact absurd (congrArg Prod.fst heq) (this e')
  · nofun

/-- the epilogues of `handle_non_axfr_query` turn every `ProcessingError` into a response -/
theorem noErrP_handleNonAxfrQueryL (z : Zone.Zone) (qname : WName) (qtype : Nat) (tr : Transport) :
    NoErrP (handleNonAxfrQueryL z qname qtype tr) := by
  have aa := fun b => noErrP_hdrOp (.aa b) (noErr_setAa b)
  have rc := fun v => noErrP_hdrOp (.rcode v) (noErr_setRcode v)
  have tc := fun b => noErrP_hdrOp (.tc b) (noErr_setTc b)
  have cl := noErrP_hdrOp .clear noErr_clearRrs
  refine ⟨fun s e => ?_⟩
  unfold handleNonAxfrQueryL
  dsimp only
  split
  · nofun
  · exact (noErrP_bind (aa false) fun _ => noErrP_bind (rc _) fun _ => cl).h _ e
  · refine (noErrP_bind cl fun _ => ?_).h _ e
    split
    · exact noErrP_bind (aa false) fun _ => rc _
    · exact tc true
  · nofun

theorem noErr_handleNonAxfrQuery (z : Zone.Zone) (qname : WName) (qtype : Nat) (tr : Transport) :
    NoErr (handleNonAxfrQuery z qname qtype tr) := by
  refine ⟨fun s e => ?_⟩
  unfold handleNonAxfrQuery
  have := (noErrP_handleNonAxfrQueryL z qname qtype tr).h { w := s }
  split
  · nofun
  · rename_i pe _ heq; exact absurd (congrArg Prod.fst heq) (this pe)
  · nofun

theorem noErr_handleQuery (cfg : Cfg) (question : Option (WName × Nat × Nat)) (tr : Transport) :
    NoErr (handleQuery cfg question tr) := by
  unfold handleQuery
  split
  · exact noErr_setRcode _
  · refine .ite (noErr_setRcode _) (.ite (noErr_setRcode _) ?_)
    split
    · split
      · split
        · exact noErr_handleNonAxfrQuery _ _ _ _
        · exact noErr_panic
      · exact noErr_setRcode _
    · exact noErr_setRcode _

end QV.ServerSafety
