/-
  QV.Proofs.WriterNames — the anchor invariant of the writer (C13's semantic half; the writer side
  of C01/C02): every recorded label start and every stored `PriorName` is the start of a name
  stored below the cursor (`NameAt`), every name-writing routine keeps that, never panics on it,
  and returns an anchor that denotes the name it was given.
-/
import QV.Proofs.Writer
import QV.Proofs.Compress
import QV.Proofs.CompressC

namespace QV.Writer
open QV QV.Wire

/-! ### octets at a position -/

/-- the octets `d` are stored at position `c` -/
def BytesAt (oct : Bytes) (c : Nat) (d : List UInt8) : Prop := ∀ i, i < d.length → oct[c + i]? = d[i]?

theorem bytesAt_writeAt (a : Bytes) (c : Nat) (d : List UInt8) (h : c + d.length ≤ a.size) :
    BytesAt (writeAt a c d) c d := fun i hi => writeAt_get_in a c d i hi h

theorem bytesAt_append {oct : Bytes} {c : Nat} {d e : List UInt8} (h : BytesAt oct c (d ++ e)) :
    BytesAt oct c d ∧ BytesAt oct (c + d.length) e := by
  constructor
  · intro i hi
    have := h i (by simp; omega)
    rw [this, List.getElem?_append_left hi]
  · intro i hi
    have := h (d.length + i) (by simp; omega)
    rw [show c + d.length + i = c + (d.length + i) by omega, this, List.getElem?_append_right (by omega)]
    simp

theorem bytesAt_cons {oct : Bytes} {c : Nat} {b : UInt8} {d : List UInt8} (h : BytesAt oct c (b :: d)) :
    oct[c]? = some b ∧ BytesAt oct (c + 1) d := by
  have h1 := h 0 (by simp)
  refine ⟨by simpa using h1, fun i hi => ?_⟩
  have := h (i + 1) (by simp; omega)
  rw [show c + 1 + i = c + (i + 1) by omega, this]
  simp

theorem bytesAt_frame {oct oct' : Bytes} {c : Nat} {d : List UInt8} (h : BytesAt oct c d)
    (hpre : ∀ i, c ≤ i → i < c + d.length → oct'[i]? = oct[i]?) : BytesAt oct' c d := by
  intro i hi
  rw [hpre _ (by omega) (by omega)]
  exact h i hi

theorem bytesAt_extract {oct : Bytes} {c : Nat} {d : List UInt8} (h : BytesAt oct c d) :
    (oct.extract c (c + d.length)).toList = d := by
  apply List.ext_getElem?
  intro i
  by_cases hi : i < d.length
  · have := h i hi
    have hs : c + i < oct.size := by
      rw [List.getElem?_eq_getElem hi] at this
      exact getElem?_some_lt this
    rw [← this]
    simp only [Array.toList_extract, List.getElem?_take, List.getElem?_drop]
    simp [hi, hs]
  · rw [List.getElem?_eq_none (by simp; omega), List.getElem?_eq_none (by omega)]

theorem bytesAt_append_intro {oct : Bytes} {c : Nat} {d1 d2 : List UInt8} (h1 : BytesAt oct c d1)
    (h2 : BytesAt oct (c + d1.length) d2) : BytesAt oct c (d1 ++ d2) := by
  intro i hi
  by_cases hlt : i < d1.length
  · rw [List.getElem?_append_left hlt]; exact h1 i hlt
  · rw [List.getElem?_append_right (by omega)]
    have := h2 (i - d1.length) (by simp at hi; omega)
    rw [show c + d1.length + (i - d1.length) = c + i by omega] at this
    exact this

theorem bytesAt_lt {msg : Bytes} {pos : Nat} {d : List UInt8} (h : BytesAt msg pos d) {i : Nat}
    (hi : i < d.length) : pos + i < msg.size := by
  have := h i hi
  rw [List.getElem?_eq_getElem hi] at this
  exact getElem?_some_lt this

theorem bytesAt_get {msg : Bytes} {pos : Nat} {d : List UInt8} (h : BytesAt msg pos d) {i : Nat}
    (hi : i < d.length) : msg[pos + i]? = some d[i] := by
  rw [h i hi, List.getElem?_eq_getElem hi]

theorem bytesAt_getD {msg : Bytes} {pos : Nat} {d : List UInt8} (h : BytesAt msg pos d) {i : Nat}
    (hi : i < d.length) : msg.getD (pos + i) 0 = d[i] := by
  have := bytesAt_get h hi
  have hl := bytesAt_lt h hi
  simp only [Array.getD, hl, dite_true]
  rw [Array.getElem?_eq_getElem hl] at this
  exact Option.some.inj this

theorem be16_of_bytesAt_mod {msg : Bytes} {pos n : Nat} (h : BytesAt msg pos (u16be n)) :
    be16 msg pos = n % 65536 := by
  have h0 := bytesAt_getD h (i := 0) (by simp [u16be])
  have h1 := bytesAt_getD h (i := 1) (by simp [u16be])
  simp only [Nat.add_zero] at h0
  unfold be16
  rw [h0, h1]
  simp only [u16be, List.getElem_cons_zero, List.getElem_cons_succ, UInt8.toNat_ofNat', Nat.mod_mod]
  omega

theorem be16_of_bytesAt {msg : Bytes} {pos n : Nat} (h : BytesAt msg pos (u16be n)) (hn : n < 65536) :
    be16 msg pos = n := by
  rw [be16_of_bytesAt_mod h, Nat.mod_eq_of_lt hn]

theorem be32_of_bytesAt_mod {msg : Bytes} {pos n : Nat} (h : BytesAt msg pos (u32be n)) :
    be32 msg pos = n % 4294967296 := by
  have h0 := bytesAt_getD h (i := 0) (by simp [u32be])
  have h1 := bytesAt_getD h (i := 1) (by simp [u32be])
  have h2 := bytesAt_getD h (i := 2) (by simp [u32be])
  have h3 := bytesAt_getD h (i := 3) (by simp [u32be])
  simp only [Nat.add_zero] at h0
  unfold be32
  rw [h0, h1, h2, h3]
  simp only [u32be, List.getElem_cons_zero, List.getElem_cons_succ, UInt8.toNat_ofNat', Nat.mod_mod]
  omega

theorem be32_of_bytesAt {msg : Bytes} {pos n : Nat} (h : BytesAt msg pos (u32be n)) (hn : n < 4294967296) :
    be32 msg pos = n := by
  rw [be32_of_bytesAt_mod h, Nat.mod_eq_of_lt hn]

/-! ### a name written literally -/

def encLen (ls : List Label) : Nat := (ls.flatMap WName.encLabel).length

@[simp] theorem encLen_nil : encLen [] = 0 := rfl
@[simp] theorem encLen_cons (l : Label) (ls : List Label) : encLen (l :: ls) = 1 + l.length + encLen ls := by
  simp [encLen, WName.encLabel]; omega

theorem encLen_append (a b : List Label) : encLen (a ++ b) = encLen a + encLen b := by
  simp [encLen]

/-- the octets of literal labels and the octet that ends them -/
theorem chunk_length (pre : List Label) (b : UInt8) : (pre.flatMap WName.encLabel ++ [b]).length = encLen pre + 1 := by
  simp [encLen]

/-- all labels of 1..63 octets -/
def LabelsWF (ls : List Label) : Prop := ∀ l ∈ ls, 1 ≤ l.length ∧ l.length ≤ 63

theorem ofNat_len_notPtr {l : Label} (h : l.length ≤ 63) : isPtr (UInt8.ofNat l.length) = false := by
  apply not_isPtr_of_le63
  rw [UInt8.toNat_ofNat']; omega

theorem labelStartsFrom_ge (c : Nat) (ls : List Label) : ∀ g ∈ labelStartsFrom c ls, c ≤ g ∧ g < c + encLen ls := by
  induction ls generalizing c with
  | nil => intro g hg; simp [labelStartsFrom] at hg
  | cons l ls ih =>
    intro g hg
    simp only [labelStartsFrom, List.mem_cons] at hg
    rcases hg with rfl | hg
    · simp; omega
    · have := ih _ g hg
      simp; omega

/-- Labels `ls` stored literally at `c`, inside a chunk that starts at `a ≤ c`, followed (at
    `c + encLen ls`) by something that `Hop`s to a chunk-disciplined stored name `tail` — in the same
    chunk, or below the start of the chunk. Then from `c` one reads `ls ++ tail` with the chunk
    discipline (in the shape of `ReadsAt`: for `ls = []` the hop is the given one), and every label
    start of the literal part begins such a name, a suffix of the whole. -/
theorem literal_reads {G : Nat → Prop} {oct : Bytes} {cur a : Nat} {tail : List Label} {pe cs' : Nat} :
    ∀ (ls : List Label) (c : Nat), a ≤ c → BytesAt oct c (ls.flatMap WName.encLabel) → LabelsWF ls →
      (∀ g ∈ labelStartsFrom c ls, G g) → Hop oct cur (c + encLen ls) pe →
      ((pe = c + encLen ls ∧ cs' = a) ∨ (pe < a ∧ cs' = pe)) → NameAtC G oct cur cs' pe tail →
      (∃ q cs, Hop oct cur c q ∧ ((q = c ∧ cs = a) ∨ (q < a ∧ cs = q)) ∧ NameAtC G oct cur cs q (ls ++ tail) ∧
        (ls ≠ [] → q = c)) ∧
      ∀ g ∈ labelStartsFrom c ls, ∃ ls', NameAtC G oct cur g g ls' ∧ encLen ls' ≤ encLen ls + encLen tail := by
  intro ls
  induction ls with
  | nil =>
    intro c _ _ _ _ hop hch hn
    exact ⟨⟨pe, cs', by simpa using hop, by simpa using hch, by simpa using hn, fun h => absurd rfl h⟩,
      fun g hg => by simp [labelStartsFrom] at hg⟩
  | cons l ls ih =>
    intro c hac hb hwf hg hop hch hn
    have hl := hwf l List.mem_cons_self
    simp only [List.flatMap_cons, WName.encLabel, List.cons_append] at hb
    obtain ⟨hb0, hb1⟩ := bytesAt_cons hb
    obtain ⟨hb2, hb3⟩ := bytesAt_append hb1
    have hnext : c + 1 + l.length + encLen ls = c + encLen (l :: ls) := by rw [encLen_cons]; omega
    obtain ⟨⟨q, cs, hq, hqc, hqn, _⟩, hall⟩ := ih (c + 1 + l.length) (by omega) hb3
      (fun x hx => hwf x (List.mem_cons_of_mem _ hx))
      (fun g hg' => hg g (by
        simp only [labelStartsFrom, List.mem_cons]
        right; rw [show c + l.length + 1 = c + 1 + l.length by omega]; exact hg'))
      (by rw [hnext]; exact hop) (by rw [hnext]; exact hch) hn
    have hC : NameAtC G oct cur a c (l :: ls ++ tail) :=
      .label hac (hg c (by simp [labelStartsFrom])) hl.1 hl.2 hb0 (bytesAt_extract hb2) hq hqc hqn
    refine ⟨⟨c, a, .here (by have := hop_start_lt hq; omega) hb0 (ofNat_len_notPtr hl.2), Or.inl ⟨rfl, rfl⟩, hC,
      fun _ => rfl⟩, fun g hgm => ?_⟩
    simp only [labelStartsFrom, List.mem_cons] at hgm
    rcases hgm with hgc | hgm
    · rw [hgc]; exact ⟨_, nameAtC_mono hC hac (Nat.le_refl _), Nat.le_of_eq (encLen_append (l :: ls) tail)⟩
    · rw [show c + l.length + 1 = c + 1 + l.length by omega] at hgm
      obtain ⟨ls', h1, h2⟩ := hall g hgm
      exact ⟨ls', h1, by rw [encLen_cons]; omega⟩

/-! ### the anchor invariant -/

/-- the recorded label starts of a state -/
def GL (s : State) : Nat → Prop := fun x => x ∈ s.gLabels

/-- a name with labels `ls` is stored at `p`, below the cursor -/
def StoredAt (s : State) (p : Nat) (ls : List Label) : Prop := NameAt (GL s) s.octets s.cursor p ls

/-- **the hint contract**: `p` is a valid anchor in `s` and the name stored there is `n` up to
    ASCII case (and `p.len` is `n`'s label count) -/
def Den (s : State) (p : Prior) (n : WName) : Prop :=
  0 < p.ptr ∧ p.ptr ≤ Gen.POINTER_MAX ∧ p.len = n.len ∧
  ∃ ls, StoredAt s p.ptr ls ∧ labelsMatch .standard n.labels ls = true

/-- a stored anchor is valid -/
def AnchorOK (s : State) (a : Option Prior) : Prop :=
  ∀ p, a = some p → 0 < p.ptr ∧ p.ptr ≤ Gen.POINTER_MAX ∧ PriorOK (GL s) s.octets s.cursor p

/-- a chunk-disciplined name of at most 255 octets is stored at the recorded label start `g` -/
def CStored (s : State) (g : Nat) : Prop :=
  ∃ ls, NameAtC (GL s) s.octets s.cursor g g ls ∧ encLen ls + 1 ≤ 255

/-- the working invariant of the name-writing routines -/
structure WInv (s : State) : Prop where
  c12 : 12 ≤ s.cursor
  cur_av : s.cursor ≤ s.available
  av_size : s.available ≤ s.octets.size
  g12 : ∀ g ∈ s.gLabels, 12 ≤ g
  labs : ∀ g ∈ s.gLabels, ∃ ls, StoredAt s g ls
  qn : AnchorOK s s.qname
  ow : AnchorOK s s.mostRecentOwner
  rd : AnchorOK s s.mostRecentNameInRdata
  /-- every recorded label start begins a name that the RFC 1035 §4.1.4 decoder can read: pointers
      go below the start of the chunk they end, and the expanded name is at most 255 octets -/
  clabs : ∀ g ∈ s.gLabels, CStored s g

theorem den_priorOK {s : State} {p : Prior} {n : WName} (h : Den s p n) :
    PriorOK (GL s) s.octets s.cursor p := by
  obtain ⟨_, _, hl, ls, hs, hm⟩ := h
  refine ⟨ls, hs, ?_⟩
  have := labelsMatch_length hm
  rw [hl]; unfold WName.len; omega

theorem storedAt_ext {s s' : State} (e : Ext s s') {p : Nat} {ls : List Label}
    (h : StoredAt s p ls) : StoredAt s' p ls :=
  nameAt_frame (lo := 0) h (fun x hx => e.glab x hx) (fun _ _ => Nat.zero_le _)
    (fun i _ hi => e.pre i hi) e.cur

theorem cstored_ext {s s' : State} (e : Ext s s') {g : Nat} (h : CStored s g) : CStored s' g := by
  obtain ⟨ls, h1, h2⟩ := h
  exact ⟨ls, nameAtC_frame (lo := 0) h1 (fun x hx => e.glab x hx) (fun _ _ => Nat.zero_le _)
    (fun i _ hi => e.pre i hi) e.cur, h2⟩

theorem den_ext {s s' : State} (e : Ext s s') {p : Prior} {n : WName} (h : Den s p n) : Den s' p n := by
  obtain ⟨h1, h2, h3, ls, h4, h5⟩ := h
  exact ⟨h1, h2, h3, ls, storedAt_ext e h4, h5⟩

theorem priorOK_ext {s s' : State} (e : Ext s s') {p : Prior}
    (h : PriorOK (GL s) s.octets s.cursor p) : PriorOK (GL s') s'.octets s'.cursor p := by
  obtain ⟨ls, h1, h2⟩ := h
  exact ⟨ls, storedAt_ext e h1, h2⟩

theorem anchorOK_ext {s s' : State} (e : Ext s s') {a : Option Prior} (h : AnchorOK s a) :
    AnchorOK s' a := fun p hp => ⟨(h p hp).1, (h p hp).2.1, priorOK_ext e (h p hp).2.2⟩

theorem cstored_stored {s : State} {g : Nat} (h : CStored s g) : ∃ ls, StoredAt s g ls :=
  ⟨_, nameAtC_forget h.choose_spec.1⟩

/-- an extension that keeps the anchors keeps the invariant, if every label start it records begins a
    name that the RFC decoder can read (the writer's own reading of it is that one with the chunk
    discipline forgotten) -/
theorem winv_grow {s s' : State} (h : WInv s) (e : Ext s s')
    (hq : s'.qname = s.qname) (ho : s'.mostRecentOwner = s.mostRecentOwner)
    (hr : s'.mostRecentNameInRdata = s.mostRecentNameInRdata)
    (hnew : ∀ g ∈ s'.gLabels, g ∉ s.gLabels → 12 ≤ g ∧ CStored s' g) : WInv s' := by
  have hall : ∀ g ∈ s'.gLabels, 12 ≤ g ∧ CStored s' g := fun g hg => by
    by_cases hs : g ∈ s.gLabels
    · exact ⟨h.g12 g hs, cstored_ext e (h.clabs g hs)⟩
    · exact hnew g hg hs
  exact ⟨by have := e.cur; have := h.c12; omega, by rw [e.available]; exact e.avail h.cur_av,
    by rw [e.available, e.size]; exact h.av_size, fun g hg => (hall g hg).1,
    fun g hg => cstored_stored (hall g hg).2,
    by rw [hq]; exact anchorOK_ext e h.qn, by rw [ho]; exact anchorOK_ext e h.ow,
    by rw [hr]; exact anchorOK_ext e h.rd, fun g hg => (hall g hg).2⟩

/-- … in particular if it records no new label start -/
theorem winv_ext {s s' : State} (h : WInv s) (e : Ext s s') (hg : s'.gLabels = s.gLabels)
    (hq : s'.qname = s.qname) (ho : s'.mostRecentOwner = s.mostRecentOwner)
    (hr : s'.mostRecentNameInRdata = s.mostRecentNameInRdata) : WInv s' :=
  winv_grow h e hq ho hr fun g hg' hn => absurd (hg ▸ hg') hn

/-- **the pointer log is sound (C13)**: every compression pointer emitted so far points strictly
    backwards, lies entirely below the cursor, has a target in pointer range that is a recorded
    label start, and a name is stored at that target -/
def PtrLogOK (s : State) : Prop :=
  ∀ e ∈ s.gPtrs, e.target < e.pos ∧ e.pos < s.cursor ∧ 0 < e.target ∧ e.target ≤ Gen.POINTER_MAX ∧
    e.target ∈ s.gLabels ∧ ∃ ls, StoredAt s e.target ls

theorem ptrLog_ext {s s' : State} (h : PtrLogOK s) (e : Ext s s') (hg : s'.gPtrs = s.gPtrs) :
    PtrLogOK s' := by
  intro x hx
  rw [hg] at hx
  obtain ⟨h1, h2, h3, h4, h5, ls, h6⟩ := h x hx
  exact ⟨h1, by have := e.cur; omega, h3, h4, e.glab _ h5, ls, storedAt_ext e h6⟩

/-- a pointer to a stored name, pushed (after some literal labels) at the cursor -/
theorem ptrLog_literal {s s3 : State} (hl : PtrLogOK s) (e : Ext s s3) {tail : List Label} {pp k : Nat}
    (htail : StoredAt s pp tail) (hpos : 0 < pp) (hpp : pp ≤ Gen.POINTER_MAX)
    (hcur : s3.cursor = s.cursor + k + 2) (c : NameCtx) (m : CMode)
    (hlog : s3.gPtrs = ⟨s.cursor + k, pp, c, m⟩ :: s.gPtrs) : PtrLogOK s3 := by
  obtain ⟨hG, hlt, _⟩ := nameAt_start htail
  intro x hx
  rw [hlog] at hx
  simp only [List.mem_cons] at hx
  rcases hx with rfl | hx
  · exact ⟨by show pp < s.cursor + k; omega, by show s.cursor + k < s3.cursor; omega, hpos, hpp,
      e.glab _ hG, tail, storedAt_ext e htail⟩
  · obtain ⟨h1, h2, h3, h4, h5, ls, h6⟩ := hl x hx
    exact ⟨h1, by have := e.cur; omega, h3, h4, e.glab _ h5, ls, storedAt_ext e h6⟩

/-! ### `try_push` under the invariant -/

theorem tryPush_eq (d : List UInt8) (s : State) (h1 : s.cursor ≤ s.available)
    (h2 : s.available ≤ s.octets.size) :
    tryPush d s = if d.length ≤ s.available - s.cursor then (.ok (), pushed s d)
      else (.err .Truncation, s) := by
  unfold tryPush
  rw [if_neg (by omega)]
  by_cases hd : d.length ≤ s.available - s.cursor
  · rw [if_pos hd, if_pos (by omega), if_pos (by omega)]; rfl
  · rw [if_neg hd, if_neg (by omega)]

theorem ext_push (s : State) (d : List UInt8) (hd : s.cursor + d.length ≤ s.available) : Ext s (pushed s d) := by
  unfold pushed
  constructor <;> simp
  · exact fun _ => hd
  · intro i hi; exact writeAt_get_lt _ _ _ _ hi

theorem winv_push {s : State} (h : WInv s) (d : List UInt8) (hd : d.length ≤ s.available - s.cursor) :
    WInv (pushed s d) :=
  winv_ext h (ext_push s d (by have := h.cur_av; omega)) rfl rfl rfl rfl

theorem labelsMatch_refl (mode : CMode) (ls : List Label) : labelsMatch mode ls ls = true := by
  induction ls with
  | nil => rfl
  | cons l ls ih =>
    simp only [labelsMatch, Bool.and_eq_true]
    refine ⟨?_, ih⟩
    unfold labelMatch
    split
    · simp
    · simp [WName.labelEqIgnoreCase]

theorem labelMatch_std {mode : CMode} {a b : Label} (h : labelMatch mode a b = true) :
    labelMatch .standard a b = true := by
  unfold labelMatch at h ⊢
  split at h
  · simp at h; subst h; simp [WName.labelEqIgnoreCase]
  · rename_i hm
    simp only [show (CMode.standard = CMode.casePreserving) = False by simp, if_false]
    exact h

theorem labelsMatch_std {mode : CMode} {a b : List Label} (h : labelsMatch mode a b = true) :
    labelsMatch .standard a b = true :=
  labelsMatch_rec (P := fun a b => labelsMatch .standard a b = true) rfl (fun h1 _ ih => by
    simp only [labelsMatch, Bool.and_eq_true]; exact ⟨labelMatch_std h1, ih⟩) h

theorem labelMatch_length {mode : CMode} {a b : Label} (h : labelMatch mode a b = true) :
    a.length = b.length := by
  unfold labelMatch at h
  split at h
  · simp at h; rw [h]
  · unfold WName.labelEqIgnoreCase at h
    have := congrArg List.length (eq_of_beq h)
    simpa using this

theorem labelsMatch_encLen {mode : CMode} {a b : List Label} (h : labelsMatch mode a b = true) :
    encLen a = encLen b :=
  labelsMatch_rec (P := fun a b => encLen a = encLen b) rfl
    (fun h1 _ ih => by rw [encLen_cons, encLen_cons, ih, labelMatch_length h1]) h

theorem wf_labels {n : WName} (h : n.WF) : LabelsWF n.labels := by
  intro l hl
  have := h.1 l hl
  have h63 : Gen.MAX_LABEL_LEN = 63 := rfl
  omega

theorem wire_length (n : WName) : n.wire.length = encLen n.labels + 1 := by
  simp [WName.wire, encLen]

/-! ### writing a name without compression -/

/-- from position `a` (where a name was just written: a label, or a bare pointer) one reads — with
    the chunk discipline of the RFC 1035 §4.1.4 decoder started at `a` — the labels `ls`; the
    expanded name has at most 255 octets -/
def ReadsAt (s : State) (a : Nat) (ls : List Label) : Prop :=
  ∃ q cs', Hop s.octets s.cursor a q ∧ ((q = a ∧ cs' = a) ∨ (q < a ∧ cs' = q)) ∧
    NameAtC (GL s) s.octets s.cursor cs' q ls ∧ encLen ls + 1 ≤ 255

/-- the contiguous octets a name occupies at `a`: literal labels `pre`, then the root label
    (`k = |pre| + 1`) or the first octet of a pointer (`k = |pre| + 2`) -/
def ChunkAt (oct : Bytes) (a k : Nat) : Prop :=
  ∃ pre b, LabelsWF pre ∧ BytesAt oct a (pre.flatMap WName.encLabel ++ [b]) ∧
    ((b = 0 ∧ k = encLen pre + 1) ∨ (isPtr b = true ∧ k = encLen pre + 2))

/-- how names are compared in a mode: octet for octet in `CasePreserving`, ignoring ASCII case
    otherwise -/
def effMode (m : CMode) : CMode := if m = .standard then .standard else .casePreserving

theorem labelsMatch_eff {m : CMode} {a b : List Label} (hm : m ≠ .disabled) (h : labelsMatch m a b = true) :
    labelsMatch (effMode m) a b = true := by
  unfold effMode
  cases m with
  | standard => simpa using h
  | casePreserving => simpa using h
  | disabled => exact absurd rfl hm

/-- `g` is the first octet of a label of the name that lies physically at `a`: one of its literal
    labels, or its root label -/
def PhysLab (oct : Bytes) (a g : Nat) : Prop :=
  ∃ pre b, LabelsWF pre ∧ BytesAt oct a (pre.flatMap WName.encLabel ++ [b]) ∧ (b = 0 ∨ isPtr b = true) ∧
    (g ∈ labelStartsFrom a pre ∨ (b = 0 ∧ g = a + encLen pre))

/-- what a name-writing routine guarantees when it starts from a valid state `s` and is given the
    name `n`: it does not panic; on success the state is valid again, the anchors it does not
    return are untouched, and the anchor it returns denotes `n` -/
structure NameSpec (s : State) (n : WName) (r : Out WriterErr (Option Prior) × State) : Prop where
  nopanic : r.1 ≠ .panic
  /-- … and what was written at the old cursor reads back — for the RFC decoder — as labels that
      match the name given (octet for octet in `CasePreserving` mode, up to ASCII case otherwise) -/
  ok : ∀ p, r.1 = .ok p → WInv r.2 ∧ (∀ q, p = some q → Den r.2 q n) ∧ r.2.qname = s.qname ∧
    r.2.mostRecentOwner = s.mostRecentOwner ∧ r.2.mostRecentNameInRdata = s.mostRecentNameInRdata ∧
    (∃ ls, ReadsAt r.2 s.cursor ls ∧ labelsMatch (effMode s.mode) n.labels ls = true) ∧
    ChunkAt r.2.octets s.cursor (r.2.cursor - s.cursor) ∧
    -- the label starts recorded are those of the name now lying at the old cursor
    (∀ g, g ∈ r.2.gLabels → g ∈ s.gLabels ∨ PhysLab r.2.octets s.cursor g) ∧
    -- without compression the name is written literally
    (s.mode = .disabled → BytesAt r.2.octets s.cursor n.wire ∧ r.2.cursor = s.cursor + n.wire.length)
  /-- and the pointer log stays sound -/
  log : ∀ p, r.1 = .ok p → PtrLogOK s → PtrLogOK r.2

/-- ghost: more recorded label starts -/
def withLabels (s : State) (g : List Nat) : State := { s with gLabels := g ++ s.gLabels }

theorem writeUncompressedName_eq (n : WName) (s : State) (h1 : s.cursor ≤ s.available)
    (h2 : s.available ≤ s.octets.size) :
    writeUncompressedName n s =
      if n.wire.length ≤ s.available - s.cursor then
        (.ok ((hintPointerNew s.cursor).map fun p => ⟨p, n.len⟩),
         withLabels (pushed s n.wire)
           ([s.cursor + encLen n.labels] ++ (labelStartsFrom s.cursor n.labels).reverse))
      else (.err .Truncation, s) := by
  unfold writeUncompressedName
  simp only [M.bind_apply, M.gets_apply, tryPush_eq _ s h1 h2]
  by_cases hfit : n.wire.length ≤ s.available - s.cursor
  · simp only [hfit, if_true, ghostLabels, M.modify_apply, M.pure_apply, encLen, withLabels, pushed,
      List.append_assoc]
  · simp only [hfit, if_false]

/-- the anchor returned for a name just written at `c` denotes it -/
theorem den_new {s' : State} {c : Nat} {n : WName} {ls : List Label} (hst : StoredAt s' c ls)
    (hm : labelsMatch .standard n.labels ls = true) {q : Prior}
    (hq : (hintPointerNew c).map (fun p => (⟨p, n.len⟩ : Prior)) = some q) : Den s' q n := by
  obtain ⟨c', hh, rfl⟩ := Option.map_eq_some_iff.mp hq
  obtain ⟨rfl, hpos, hmax⟩ := hintPointerNew_some hh
  exact ⟨hpos, hmax, rfl, ls, hst, hm⟩

/-- The state after a name was written at the cursor of a valid state `s`: the labels `pre` literally,
    then an ending octet `b` — the root label, or the first octet of a pointer — behind which one
    hops to a chunk-disciplined stored name `tail` (the root label itself, or a name below the old
    cursor). The state is valid again, from the old cursor one reads `pre ++ tail` with the RFC
    decoder's discipline, the name occupies `encLen pre + k` octets there, and the label starts
    recorded lie in it. Every name writer is an instance. -/
theorem literal_state {s s3 : State} (h : WInv s) (e : Ext s s3) {pre tail : List Label} {b : UInt8}
    {k pe cs' : Nat} (hwf : LabelsWF pre) (hbl : BytesAt s3.octets s.cursor (pre.flatMap WName.encLabel))
    (hbe : s3.octets[s.cursor + encLen pre]? = some b) (hk : (b = 0 ∧ k = 1) ∨ (isPtr b = true ∧ k = 2))
    (hcur : s3.cursor = s.cursor + encLen pre + k)
    (hop : Hop s3.octets s3.cursor (s.cursor + encLen pre) pe)
    (hch : (pe = s.cursor + encLen pre ∧ cs' = s.cursor) ∨ (pe < s.cursor ∧ cs' = pe))
    (htail : NameAtC (GL s3) s3.octets s3.cursor cs' pe tail)
    (hG : ∀ g ∈ labelStartsFrom s.cursor pre, g ∈ s3.gLabels)
    (hnew : ∀ g ∈ s3.gLabels, g ∈ s.gLabels ∨ g ∈ labelStartsFrom s.cursor pre ∨
      (b = 0 ∧ pe = s.cursor + encLen pre ∧ g = pe))
    (hq : s3.qname = s.qname) (ho : s3.mostRecentOwner = s.mostRecentOwner)
    (hr : s3.mostRecentNameInRdata = s.mostRecentNameInRdata)
    (hbound : encLen pre + encLen tail + 1 ≤ 255) :
    WInv s3 ∧ ReadsAt s3 s.cursor (pre ++ tail) ∧ ChunkAt s3.octets s.cursor (s3.cursor - s.cursor) ∧
      (∀ g, g ∈ s3.gLabels → g ∈ s.gLabels ∨ PhysLab s3.octets s.cursor g) ∧
      (pre ≠ [] ∨ pe = s.cursor + encLen pre → StoredAt s3 s.cursor (pre ++ tail)) := by
  obtain ⟨⟨q, cs, hq1, hq2, hq3, hq4⟩, hall⟩ :=
    literal_reads (a := s.cursor) pre s.cursor (Nat.le_refl _) hbl hwf hG hop hch htail
  have hbc : BytesAt s3.octets s.cursor (pre.flatMap WName.encLabel ++ [b]) :=
    bytesAt_append_intro hbl fun i hi => by
      obtain rfl : i = 0 := by simpa using hi
      exact hbe
  have hc : b = 0 ∨ isPtr b = true := hk.imp And.left And.left
  have hc12 := h.c12
  refine ⟨?_, ⟨q, cs, hq1, hq2, hq3, by rw [encLen_append]; omega⟩, ⟨pre, b, hwf, hbc, ?_⟩, fun g hg => ?_,
    fun hs => ?_⟩
  · refine winv_grow h e hq ho hr fun g hg hold => ?_
    rcases hnew g hg with hg | hg | ⟨_, hpe, hgp⟩
    · exact absurd hg hold
    · obtain ⟨ls', h1, h2⟩ := hall g hg
      exact ⟨by have := (labelStartsFrom_ge s.cursor pre g hg).1; omega, ls', h1, by omega⟩
    · rw [hgp]
      exact ⟨by omega, tail, nameAtC_mono htail (nameAtC_cs htail) (Nat.le_refl _), by omega⟩
  · rcases hk with ⟨h0, hk⟩ | ⟨hp, hk⟩
    · exact Or.inl ⟨h0, by omega⟩
    · exact Or.inr ⟨hp, by omega⟩
  · rcases hnew g hg with hg | hg | ⟨h0, hpe, hgp⟩
    · exact Or.inl hg
    · exact Or.inr ⟨pre, b, hwf, hbc, hc, Or.inl hg⟩
    · exact Or.inr ⟨pre, b, hwf, hbc, hc, Or.inr ⟨h0, hgp.trans hpe⟩⟩
  · have hqc : q = s.cursor := by
      by_cases hp : pre = []
      · subst hp
        have := hop_unique hq1 hop
        rcases hs with hs | hs
        · exact absurd rfl hs
        · rw [this, hs]; rfl
      · exact hq4 hp
    rw [hqc] at hq3
    exact nameAtC_forget hq3

theorem writeUncompressedName_spec (n : WName) (s : State) (h : WInv s) (hn : n.WF) :
    NameSpec s n (writeUncompressedName n s) := by
  have e := frame_writeUncompressedName n s
  rw [writeUncompressedName_eq n s h.cur_av h.av_size] at e ⊢
  by_cases hnfit : ¬ n.wire.length ≤ s.available - s.cursor
  · rw [if_neg hnfit]; exact ⟨by simp, (fun p hp => by cases hp), fun p hp => by cases hp⟩
  have hfit : n.wire.length ≤ s.available - s.cursor := Decidable.of_not_not hnfit
  rw [if_pos hfit] at e ⊢
  refine ⟨by simp, fun p hp => ?_, fun p hp hl => ptrLog_ext hl e rfl⟩
  simp only [Out.ok.injEq] at hp
  generalize hs' : withLabels (pushed s n.wire)
      ([s.cursor + encLen n.labels] ++ (labelStartsFrom s.cursor n.labels).reverse) = s' at e ⊢
  replace e : Ext s s' := e
  have hcur : s'.cursor = s.cursor + n.wire.length := by rw [← hs']; rfl
  have hgl : ∀ g, g ∈ s'.gLabels ↔
      g = s.cursor + encLen n.labels ∨ g ∈ labelStartsFrom s.cursor n.labels ∨ g ∈ s.gLabels := by
    intro g
    rw [← hs']
    simp only [withLabels, List.cons_append, List.nil_append, List.mem_cons, List.mem_append, List.mem_reverse]
    exact Iff.rfl
  have hav := h.cur_av; have hsz := h.av_size
  have hwl := wire_length n
  have hb : BytesAt s'.octets s.cursor n.wire := by
    rw [← hs']; exact bytesAt_writeAt _ _ _ (by omega)
  obtain ⟨hbl, hb0⟩ : BytesAt s'.octets s.cursor (n.labels.flatMap WName.encLabel) ∧
      BytesAt s'.octets (s.cursor + encLen n.labels) [0] := bytesAt_append hb
  have h0 : s'.octets[s.cursor + encLen n.labels]? = some 0 := by simpa using hb0 0 (by simp)
  have hlt : s.cursor + encLen n.labels < s'.cursor := by rw [hcur]; omega
  -- the ending is the root label, recorded as a label start
  obtain ⟨hw, hrd, hck, hprov, hst⟩ := literal_state (tail := []) (k := 1) h e (wf_labels hn) hbl h0
    (Or.inl ⟨rfl, rfl⟩) (by omega) (.here hlt h0 (by decide)) (Or.inl ⟨rfl, rfl⟩)
    (.root (Nat.le_add_right _ _) ((hgl _).mpr (Or.inl rfl)) hlt h0)
    (fun g hg => (hgl g).mpr (Or.inr (Or.inl hg)))
    (fun g hg => ((hgl g).mp hg).elim (fun hg => .inr (.inr ⟨rfl, rfl, hg⟩))
      (fun hg => hg.elim (fun hg => .inr (.inl hg)) .inl))
    (by rw [← hs']; rfl) (by rw [← hs']; rfl) (by rw [← hs']; rfl)
    (by have : n.wire.length ≤ 255 := hn.2; rw [encLen_nil]; omega)
  rw [List.append_nil] at hrd hst
  refine ⟨hw, ?_, by rw [← hs']; rfl, by rw [← hs']; rfl, by rw [← hs']; rfl,
    ⟨n.labels, hrd, labelsMatch_refl _ _⟩, hck, hprov, fun _ => ⟨hb, hcur⟩⟩
  exact fun q hq => den_new (hst (Or.inr rfl)) (labelsMatch_refl _ _) (hp ▸ hq)


/-! ### writing a name with compression -/

/-- the two octets of a compression pointer to `pp` -/
def ptrBytes (pp : Nat) : List UInt8 := u16be (49152 + pp)

theorem ptrBytes_spec (pp : Nat) (h : pp ≤ 16383) :
    ∃ b1 b2, ptrBytes pp = [b1, b2] ∧ isPtr b1 = true ∧ ptrOf b1 b2 = pp := by
  refine ⟨UInt8.ofNat ((49152 + pp) / 256 % 256), UInt8.ofNat ((49152 + pp) % 256), rfl, ?_, ?_⟩
  · rw [isPtr_iff]; unfold Spec.specIsPtr; rw [UInt8.toNat_ofNat']; omega
  · unfold ptrOf; rw [UInt8.toNat_ofNat', UInt8.toNat_ofNat']; omega

theorem pushPointer_eq (pp : Nat) (s : State) (h1 : s.cursor ≤ s.available)
    (h2 : s.available ≤ s.octets.size) :
    pushPointer pp s = if 2 ≤ s.available - s.cursor then
        (.ok (), { pushed s (ptrBytes pp) with gPtrs := ⟨s.cursor, pp, s.gCtx, s.mode⟩ :: s.gPtrs })
      else (.err .Truncation, s) := by
  unfold pushPointer tryPushU16
  simp only [M.bind_apply, M.gets_apply, tryPush_eq _ s h1 h2]
  have : (u16be (49152 + pp)).length = 2 := rfl
  rw [this]
  by_cases hfit : 2 ≤ s.available - s.cursor
  · simp only [hfit, if_true, M.modify_apply, pushed, ptrBytes, this]
  · simp only [hfit, if_false]

/-- `literal_state` for an ending that is a pointer to `pp`, where a name `tail` is stored in `s` -/
theorem literal_ptr_state {s s3 : State} (h : WInv s) (e : Ext s s3) {pre tail : List Label} {pp : Nat}
    (hwf : LabelsWF pre) (htail : StoredAt s pp tail) (hpp : pp ≤ 16383)
    (hb : BytesAt s3.octets s.cursor (pre.flatMap WName.encLabel ++ ptrBytes pp))
    (hcur : s3.cursor = s.cursor + encLen pre + 2)
    (hgl : s3.gLabels = (labelStartsFrom s.cursor pre).reverse ++ s.gLabels)
    (hq : s3.qname = s.qname) (ho : s3.mostRecentOwner = s.mostRecentOwner)
    (hr : s3.mostRecentNameInRdata = s.mostRecentNameInRdata)
    (hbound : pre ≠ [] → encLen pre + encLen tail + 1 ≤ 255) :
    WInv s3 ∧ ReadsAt s3 s.cursor (pre ++ tail) ∧ ChunkAt s3.octets s.cursor (s3.cursor - s.cursor) ∧
      (∀ g, g ∈ s3.gLabels → g ∈ s.gLabels ∨ PhysLab s3.octets s.cursor g) ∧
      (pre ≠ [] → StoredAt s3 s.cursor (pre ++ tail)) := by
  obtain ⟨hG0, hpplt, b3, hb3, hnp3⟩ := nameAt_start htail
  obtain ⟨b1, b2, hpb, hisp, hptr⟩ := ptrBytes_spec pp hpp
  obtain ⟨hbl, hbp⟩ := bytesAt_append hb
  rw [hpb, show (pre.flatMap WName.encLabel).length = encLen pre from rfl] at hbp
  have h1 : s3.octets[s.cursor + encLen pre]? = some b1 := by simpa using hbp 0 (by simp)
  have h2 : s3.octets[s.cursor + encLen pre + 1]? = some b2 := by simpa using hbp 1 (by simp)
  have hhop : Hop s3.octets s3.cursor (s.cursor + encLen pre) pp := by
    have := Hop.jump (oct := s3.octets) (cur := s3.cursor) (q := s.cursor + encLen pre)
      (by rw [hcur]; omega) h1 h2 hisp (by rw [hptr]; omega) (by rw [hptr, e.pre pp hpplt]; exact hb3) hnp3
    rw [hptr] at this; exact this
  -- the chunk-disciplined reading of the target, in the new state
  obtain ⟨lsT, hcT, hbT⟩ := h.clabs pp hG0
  obtain rfl := nameAtC_unique hcT htail
  obtain ⟨hw, hrd, hck, hprov, hst⟩ := literal_state (k := 2) h e hwf hbl h1 (Or.inr ⟨hisp, rfl⟩) hcur hhop
    (Or.inr ⟨hpplt, rfl⟩)
    (nameAtC_frame (lo := 0) hcT (fun x hx => e.glab x hx) (fun _ _ => Nat.zero_le _) (fun i _ hi => e.pre i hi) e.cur)
    (fun g hg => by rw [hgl]; exact List.mem_append_left _ (List.mem_reverse.mpr hg))
    (fun g hg => by
      rw [hgl] at hg
      exact (List.mem_append.mp hg).elim (fun hg => .inr (.inl (List.mem_reverse.mp hg))) .inl)
    hq ho hr (by
      by_cases hp : pre = []
      · subst hp; simpa using hbT
      · exact hbound hp)
  exact ⟨hw, hrd, hck, hprov, fun hne => hst (Or.inl hne)⟩


theorem ghostLabels_false (p : Nat) (l : List Label) (s : State) :
    ghostLabels p l false s = (.ok (), withLabels s (labelStartsFrom p l).reverse) := by
  simp [ghostLabels, withLabels]

theorem bytesAt_two (a : Bytes) (c : Nat) (d1 d2 : List UInt8) (h : c + d1.length + d2.length ≤ a.size) :
    BytesAt (writeAt (writeAt a c d1) (c + d1.length) d2) c (d1 ++ d2) := by
  rw [writeAt_append]
  exact bytesAt_writeAt _ _ _ (by rw [List.length_append]; omega)

theorem wireTo_lt (n : WName) (k : Nat) (h : k < n.labels.length) :
    n.wireTo k = (n.labels.take k).flatMap WName.encLabel := by
  unfold WName.wireTo WName.len
  rw [if_neg (by omega)]

/-- a bare pointer to a stored name that matches `n`, returned with an anchor that denotes `n` -/
theorem barePointer_spec (a : Prior) (n : WName) (s : State) (h : WInv s) (hd : Den s a n) {ls : List Label}
    (hst : StoredAt s a.ptr ls) (hmt : labelsMatch (effMode s.mode) n.labels ls = true)
    (hnd : s.mode ≠ .disabled) :
    NameSpec s n ((do pushPointer a.ptr; pure (some a) : M (Option Prior)) s) := by
  have hav := h.cur_av; have hsz := h.av_size
  have e : Ext s ((do pushPointer a.ptr; pure (some a) : M (Option Prior)) s).2 := frame_pushHinted a s
  simp only [M.bind_apply, pushPointer_eq _ s hav hsz] at e ⊢
  by_cases hfit : 2 ≤ s.available - s.cursor
  · simp only [hfit, if_true, M.pure_apply] at e ⊢
    refine ⟨by simp, fun p hp => ?main, fun p hp hl => ?lg⟩
    case lg =>
      exact ptrLog_literal (k := 0) hl e hst hd.1 hd.2.1 (by simp [pushed]; rfl) s.gCtx s.mode (by simp [pushed])
    simp only [Out.ok.injEq] at hp
    obtain ⟨hw, hrd, hck, hprov, _⟩ := literal_ptr_state (pre := []) h e (fun _ hl => by cases hl) hst hd.2.1
      (by simpa [pushed] using bytesAt_writeAt s.octets s.cursor (ptrBytes a.ptr)
            (by have : (ptrBytes a.ptr).length = 2 := rfl; omega))
      (by simp [pushed, encLen]; rfl) (by simp [pushed, labelStartsFrom]) rfl rfl rfl (fun hne => absurd rfl hne)
    refine ⟨hw, ?_, rfl, rfl, rfl, ⟨ls, by simpa using hrd, hmt⟩, hck, hprov, fun hd => absurd hd hnd⟩
    intro q' hq'
    rw [← hp] at hq'
    cases hq'
    exact den_ext e hd
  · simp only [hfit, if_false] at e ⊢
    exact ⟨by simp, (fun p hp => by cases hp), fun p hp => by cases hp⟩

theorem pushHinted_spec (q : Prior) (n : WName) (s : State) (h : WInv s) (hd : Den s q n)
    (hm : s.mode = .standard) :
    NameSpec s n (pushHinted q s) := by
  obtain ⟨_, _, _, ls, hst, hmt⟩ := id hd
  exact barePointer_spec q n s h hd hst (by unfold effMode; rw [if_pos hm]; exact hmt) (by rw [hm]; exact nofun)

/-- the two anchors the scan is given are valid -/
theorem anchors_ok {s : State} (h : WInv s) :
    (∀ p, (s.mostRecentOwner.orElse fun _ => s.qname) = some p → PriorOK (GL s) s.octets s.cursor p) ∧
    (∀ p, s.mostRecentNameInRdata = some p → PriorOK (GL s) s.octets s.cursor p) := by
  refine ⟨fun p hp => ?_, fun p hp => (h.rd p hp).2.2⟩
  cases ho : s.mostRecentOwner with
  | some o => rw [ho] at hp; simp at hp; subst hp; exact (h.ow o ho).2.2
  | none => rw [ho] at hp; simp at hp; exact (h.qn p hp).2.2

theorem writeCompressedUnhintedName_spec (n : WName) (s : State) (h : WInv s) (hn : n.WF)
    (hnd : s.mode ≠ .disabled) :
    NameSpec s n (writeCompressedUnhintedName n s) := by
  have hav := h.cur_av; have hsz := h.av_size
  obtain ⟨hA, hB⟩ := anchors_ok h
  obtain ⟨r, hr, hprop⟩ := compressDecision_ok (mode := s.mode) (n := n) hA hB
  have e := frame_writeCompressedUnhintedName n s
  unfold writeCompressedUnhintedName at e ⊢
  simp only [M.bind_apply, M.gets_apply, hr] at e ⊢
  cases r with
  | none => exact writeUncompressedName_spec n s h hn
  | some m =>
    obtain ⟨hk, hpos, hmax, ls, hst, hmatch⟩ := hprop m rfl
    have hmax' : m.priorPointer ≤ 16383 := hmax
    simp only [] at e ⊢
    by_cases hk0 : m.startColumn = 0
    · -- the whole name is replaced by a pointer
      rw [hk0] at hmatch
      simp only [hk0, if_true]
      exact barePointer_spec ⟨m.priorPointer, n.len⟩ n s h
        ⟨hpos, hmax, rfl, ls, hst, labelsMatch_std (by simpa using hmatch)⟩ hst
        (labelsMatch_eff hnd (by simpa using hmatch)) hnd
    · -- a literal prefix, then a pointer
      have hwt := wireTo_lt n m.startColumn hk
      simp only [hk0, if_false, M.bind_apply, tryPush_eq _ s hav hsz] at e ⊢
      by_cases hfit1 : (n.wireTo m.startColumn).length ≤ s.available - s.cursor
      · simp only [hfit1, if_true, ghostLabels_false] at e ⊢
        generalize hs2 : withLabels (pushed s (n.wireTo m.startColumn))
            (labelStartsFrom s.cursor (List.take m.startColumn n.labels)).reverse = s2 at e ⊢
        have c2 : s2.cursor = s.cursor + (n.wireTo m.startColumn).length := by rw [← hs2]; rfl
        have a2 : s2.available = s.available := by rw [← hs2]; rfl
        have o2 : s2.octets = writeAt s.octets s.cursor (n.wireTo m.startColumn) := by rw [← hs2]; rfl
        have g2 : s2.gLabels = (labelStartsFrom s.cursor (List.take m.startColumn n.labels)).reverse ++ s.gLabels := by
          rw [← hs2]; rfl
        rw [pushPointer_eq _ s2 (by rw [c2, a2]; omega) (by rw [a2, o2, writeAt_size]; exact hsz)] at e ⊢
        by_cases hfit2 : 2 ≤ s2.available - s2.cursor
        · have hfit2' : s.cursor + (n.wireTo m.startColumn).length + 2 ≤ s.available := by
            have := hfit2; rw [a2, c2] at this; omega
          simp only [hfit2, if_true, M.pure_apply] at e ⊢
          refine ⟨by simp, fun p hp => ?main2, fun p hp hl => ?lg2⟩
          case lg2 =>
            have hgp : s2.gPtrs = s.gPtrs := by rw [← hs2]; rfl
            exact ptrLog_literal (k := (n.wireTo m.startColumn).length) hl e hst hpos hmax
              (by simp only [pushed, c2]; rfl) s2.gCtx s2.mode (by simp only [pushed, c2, hgp])
          simp only [Out.ok.injEq] at hp
          have hlen1 : (n.wireTo m.startColumn).length = encLen (List.take m.startColumn n.labels) := by
            rw [hwt]; rfl
          have hwfpre : LabelsWF (List.take m.startColumn n.labels) :=
            fun l hl => wf_labels hn l (List.mem_of_mem_take hl)
          obtain ⟨hw, hrd, hck, hprov, hst'⟩ := literal_ptr_state (pre := List.take m.startColumn n.labels) h e
            hwfpre hst hmax'
            (by
              simp only [pushed, o2, c2, ← hwt]
              exact bytesAt_two s.octets s.cursor _ _ (by
                have : (ptrBytes m.priorPointer).length = 2 := rfl
                omega))
            (by simp only [pushed, c2, hlen1]; rfl) (by simp only [pushed, g2])
            (by simp only [pushed]; rw [← hs2]; rfl) (by simp only [pushed]; rw [← hs2]; rfl)
            (by simp only [pushed]; rw [← hs2]; rfl)
            (fun _ => by
              have h255 : n.wire.length ≤ 255 := hn.2
              have hw := wire_length n
              have hsplit : encLen n.labels = encLen (List.take m.startColumn n.labels) +
                  encLen (List.drop m.startColumn n.labels) := by
                rw [← encLen_append, List.take_append_drop]
              have := labelsMatch_encLen hmatch
              omega)
          have hne : List.take m.startColumn n.labels ≠ [] := by
            intro hnil
            have := congrArg List.length hnil
            rw [List.length_take, List.length_nil] at this
            omega
          have hq2 := hst' hne
          refine ⟨hw, ?_, by simp only [pushed]; rw [← hs2]; rfl, by simp only [pushed]; rw [← hs2]; rfl,
            by simp only [pushed]; rw [← hs2]; rfl, ⟨_, hrd, by
              have := labelsMatch_append (mode := effMode s.mode)
                (labelsMatch_refl _ (List.take m.startColumn n.labels)) (labelsMatch_eff hnd hmatch)
              rwa [List.take_append_drop] at this⟩, hck, hprov, fun hd => absurd hd hnd⟩
          refine fun q' hq' => den_new hq2 ?_ (hp ▸ hq')
          have := labelsMatch_append (labelsMatch_refl .standard (List.take m.startColumn n.labels))
            (labelsMatch_std hmatch)
          rwa [List.take_append_drop] at this
        · simp only [hfit2, if_false] at e ⊢
          exact ⟨by simp, (fun p hp => by cases hp), fun p hp => by cases hp⟩
      · simp only [hfit1, if_false] at e ⊢
        exact ⟨by simp, (fun p hp => by cases hp), fun p hp => by cases hp⟩


theorem writeUnhintedName_spec (n : WName) (s : State) (h : WInv s) (hn : n.WF) :
    NameSpec s n (writeUnhintedName n s) := by
  unfold writeUnhintedName
  simp only [M.bind_apply, M.gets_apply]
  split
  · rename_i hc; exact writeCompressedUnhintedName_spec n s h hn hc.1
  · exact writeUncompressedName_spec n s h hn

/-- the hint that accompanies a name is valid: the anchor it resolves to (if any) denotes that name -/
def HintOK (s : State) : Hint → WName → Prop
  | .qname, n => ∀ q, s.qname = some q → Den s q n
  | .mostRecentOwner, n => ∀ q, s.mostRecentOwner = some q → Den s q n
  | .mostRecentNameInRdata, n => ∀ q, s.mostRecentNameInRdata = some q → Den s q n
  | .explicit p, n => p < s.cursor → Den s ⟨p, n.len⟩ n
  | .none, _ => True

theorem writeHintedName_spec (hint : Hint) (n : WName) (s : State) (h : WInv s) (hn : n.WF)
    (hh : HintOK s hint n) : NameSpec s n (writeHintedName hint n s) := by
  unfold writeHintedName
  simp only [M.bind_apply, M.gets_apply]
  split
  · exact writeUncompressedName_spec n s h hn
  · rename_i hnd0
    have hnd : s.mode ≠ .disabled := fun hc => hnd0 (Or.inl hc)
    split
    · exact writeCompressedUnhintedName_spec n s h hn hnd
    · rename_i hncp0
      have hncp : s.mode = .standard := by
        cases hmm : s.mode with
        | standard => rfl
        | casePreserving => exact absurd hmm hncp0
        | disabled => exact absurd hmm hnd
      cases hint with
      | qname =>
        simp only [M.bind_apply, M.gets_apply]
        cases hq : s.qname with
        | none => exact writeCompressedUnhintedName_spec n s h hn hnd
        | some q => exact pushHinted_spec q n s h (hh q hq) hncp
      | mostRecentOwner =>
        simp only [M.bind_apply, M.gets_apply]
        cases hq : s.mostRecentOwner with
        | none => exact writeCompressedUnhintedName_spec n s h hn hnd
        | some q => exact pushHinted_spec q n s h (hh q hq) hncp
      | mostRecentNameInRdata =>
        simp only [M.bind_apply, M.gets_apply]
        cases hq : s.mostRecentNameInRdata with
        | none => exact writeCompressedUnhintedName_spec n s h hn hnd
        | some q => exact pushHinted_spec q n s h (hh q hq) hncp
      | explicit p =>
        simp only [M.bind_apply, M.gets_apply]
        split
        · rename_i hp; exact pushHinted_spec _ n s h (hh hp) hncp
        · exact writeCompressedUnhintedName_spec n s h hn hnd
      | none => exact writeCompressedUnhintedName_spec n s h hn hnd


end QV.Writer
