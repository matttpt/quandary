/-
  QV.Proofs.WriterRoutine — the record writer's routines described syntactically, once.

  `Routine rec inv b B f`: `f` is built by `>>=` from the leaves the routines of `add_rr` really use —
  the reads `Read`, the bookkeeping updates, `tryPush`, a name part pushed with its label starts
  recorded (`pushLabels`), and the RDLENGTH block (`backpatch`); `b`, `B`: octets the cursor advances
  at least when `f` succeeds, and at most. Each routine is such a program; the walk is the shape of
  the `do` bodies, and for `B` the sizes of what is pushed (a name never more than its wire form).
  A judgement follows for all of them by one induction: `Routine.steps` for every law of WriterLaw
  (then stated routine by routine, `L.writeHintedName … L.addRrsetOp`). There are three more inductions
  over `Routine`: `Routine.bud` (QV.Proofs.WriterBudget: `B` is a budget), and in the answer phase
  `Routine.nice` (QV.Proofs.ServerAnswerCap, with the lower bound `b`) and `Routine.foot`
  (QV.Proofs.ServerAnswerFoot).
-/
import QV.Proofs.WriterLaw
import QV.Proofs.Compress
import QV.Proofs.WNameParse

namespace QV.Writer
open QV QV.Wire

/-- what the routines read of the state (besides the room, which only `tryPush` and `backpatch` look at) -/
inductive Read : {α : Type} → (State → α) → Prop
  | cursor : Read (·.cursor)
  | mode : Read (·.mode)
  | qname : Read (·.qname)
  | owner : Read (·.mostRecentOwner)
  | inRdata : Read (·.mostRecentNameInRdata)
  | decision (n : WName) : Read fun s => compressDecision s.octets s.mode (s.mostRecentOwner.orElse fun _ => s.qname)
      s.mostRecentNameInRdata n
  | ptrEv (p : Nat) : Read fun s => (⟨s.cursor, p, s.gCtx, s.mode⟩ : PtrEv)

/-- `f` is built by `>>=` (and case distinctions on values read) from the leaves below; when it succeeds
    the cursor has advanced by at least `b`, and it never advances it by more than `B`. `rec`: the leaves that only `add_rr`, the component loop and
    `add_question` use are allowed (the name writers need none); `inv`: so is `InvalidRdata` (only the
    component loop reports it). -/
inductive Routine (rec inv : Prop) : Nat → Nat → {α : Type} → M α → Prop
  | pure {α} (a : α) : Routine rec inv 0 0 (Pure.pure a : M α)
  | invalid {α} (h : inv) (b B : Nat) : Routine rec inv b B (M.fail .InvalidRdata : M α)
  | panic {α} (b B : Nat) : Routine rec inv b B (M.panic : M α)
  | bind {α β} {f : M α} {g : α → M β} {b1 b2 B1 B2 : Nat} :
      Routine rec inv b1 B1 f → (∀ a, Routine rec inv b2 B2 (g a)) → Routine rec inv (b1 + b2) (B1 + B2) (f >>= g)
  | mono {α} {f : M α} {b b' B B' : Nat} : Routine rec inv b B f → b' ≤ b → B ≤ B' → Routine rec inv b' B' f
  | gets {α} {f : State → α} : Read f → Routine rec inv 0 0 (M.gets f)
  | setCtx (h : rec) (c : NameCtx) : Routine rec inv 0 0 (Writer.setCtx c)
  | logPtr (ev : PtrEv) : Routine rec inv 0 0 (M.modify fun s => { s with gPtrs := ev :: s.gPtrs })
  | setOwner (h : rec) (p : Option Prior) : Routine rec inv 0 0 (M.modify fun s => { s with mostRecentOwner := p })
  | setInRdata (h : rec) (p : Option Prior) :
      Routine rec inv 0 0 (M.modify fun s => { s with mostRecentNameInRdata := p })
  | setQname (h : rec) (p : Option Prior) :
      Routine rec inv 0 0 (M.modify fun s => if s.qdcount = 0 then { s with qname := p } else s)
  | hvPush (h : rec) (p : Option Nat) : Routine rec inv 0 0 (Writer.hvPush p)
  | tryPush (d : List UInt8) : Routine rec inv d.length d.length (Writer.tryPush d)
  /-- octets pushed and the label starts among them recorded, relative to the cursor they were pushed at -/
  | pushLabels {α} (d : List UInt8) (ls : List Label) (wr : Bool) {b B : Nat} {k : Nat → M α} :
      (∀ c, Routine rec inv b B (k c)) → Routine rec inv (d.length + b) (d.length + B) (do
        let cur ← M.gets (·.cursor)
        Writer.tryPush d
        ghostLabels cur ls wr
        k cur)
  /-- two octets left free, `body`, then its length written into them -/
  | backpatch (h : rec) {body : M Unit} {b B : Nat} : Routine rec inv b B body →
      Routine rec inv (2 + b) (2 + B) (do
        let av ← M.gets (·.available)
        let st ← M.gets (·.cursor)
        if av < st then M.panic
        else if av - st < 2 then M.fail .Truncation
        else do
          M.modify fun s => { s with cursor := s.cursor + 2 }
          body
          let cur' ← M.gets (·.cursor)
          if cur' < st + 2 then M.panic
          else Writer.write st (u16be ((cur' - st - 2) % 65536)))

/-! ### sizes: a name parsed from RDATA, a prefix of a name -/

theorem wireLen_take_add (ls : List Label) (k : Nat) :
    ((ls.take k).flatMap WName.encLabel).length + ((ls.drop k).flatMap WName.encLabel).length =
      (ls.flatMap WName.encLabel).length := by
  rw [← List.length_append, ← List.flatMap_append, List.take_append_drop]

theorem wireLen_pos {ls : List Label} (h : ls ≠ []) : 1 ≤ (ls.flatMap WName.encLabel).length := by
  cases ls with
  | nil => exact absurd rfl h
  | cons l ls => simp [WName.encLabel]

/-- a proper prefix of a name and a pointer take no more room than the name -/
theorem wireTo_add_two {n : WName} {k : Nat} (hk : k < n.labels.length) : (n.wireTo k).length + 2 ≤ n.wire.length := by
  have hwl : n.wire.length = (n.labels.flatMap WName.encLabel).length + 1 := by simp [WName.wire]
  have hwt : n.wireTo k = (n.labels.take k).flatMap WName.encLabel := by
    unfold WName.wireTo WName.len; rw [if_neg (by omega)]
  have hsum := wireLen_take_add n.labels k
  have hdrop : 1 ≤ ((n.labels.drop k).flatMap WName.encLabel).length :=
    wireLen_pos fun hnil => by have := congrArg List.length hnil; simp at this; omega
  rw [hwt]; omega

namespace Routine
variable {rec inv : Prop}

/-- `>>=`, with the two bounds given -/
theorem seq {α β} {f : M α} {g : α → M β} {b1 b2 B1 B2 b B : Nat} (hf : Routine rec inv b1 B1 f)
    (hg : ∀ a, Routine rec inv b2 B2 (g a)) (hb : b ≤ b1 + b2) (hB : B1 + B2 ≤ B) : Routine rec inv b B (f >>= g) :=
  .mono (.bind hf hg) hb hB

/-- `>>=` after a step that does not move the cursor -/
theorem bind0 {α β} {f : M α} {g : α → M β} {b B : Nat} (hf : Routine rec inv 0 0 f) (hg : ∀ a, Routine rec inv b B (g a)) :
    Routine rec inv b B (f >>= g) := seq hf hg (Nat.le_of_eq (Nat.zero_add b).symm) (Nat.le_of_eq (Nat.zero_add B))

theorem getsBind {α β} {f : State → α} {g : α → M β} {b B : Nat} (hf : Read f) (hg : ∀ a, Routine rec inv b B (g a)) :
    Routine rec inv b B (M.gets f >>= g) := bind0 (.gets hf) hg

/-- `tryPush`, when the octets need not be counted from below -/
theorem push (d : List UInt8) : Routine rec inv 0 d.length (Writer.tryPush d) := .mono (.tryPush d) (Nat.zero_le _) (Nat.le_refl _)

theorem ite {α} {b B : Nat} {c : Prop} [Decidable c] {x y : M α} (hx : c → Routine rec inv b B x)
    (hy : ¬c → Routine rec inv b B y) : Routine rec inv b B (if c then x else y) := by
  by_cases h : c
  · rw [if_pos h]; exact hx h
  · rw [if_neg h]; exact hy h

/-- nothing is claimed from below, anything larger from above -/
theorem upTo {α} {b B B' : Nat} {f : M α} (h : Routine rec inv b B f) (hB : B ≤ B') : Routine rec inv 0 B' f :=
  .mono h (Nat.zero_le _) hB

/-! ### the routines -/

theorem pushPointer (p : Nat) : Routine rec inv 0 2 (Writer.pushPointer p) :=
  getsBind (.ptrEv p) fun ev => seq (push (u16be (49152 + p))) (fun _ => .logPtr ev) (Nat.zero_le _) (Nat.le_refl 2)

theorem pushHinted (q : Prior) : Routine rec inv 0 2 (Writer.pushHinted q) :=
  seq (pushPointer _) (fun _ => .pure _) (Nat.zero_le _) (Nat.le_refl 2)

theorem writeUncompressedName (n : WName) : Routine rec inv 0 n.wire.length (Writer.writeUncompressedName n) :=
  (Routine.pushLabels n.wire n.labels true fun _ => .pure _).upTo (Nat.le_refl _)

/-- the cursor is read before the scan's result is looked at — reading it where it is used is the same —, and
    the scan never returns a column beyond the name (`compressDecision_col`): the test says so to the walk -/
theorem writeCompressedUnhintedName_eq (n : WName) : Writer.writeCompressedUnhintedName n = (do
    let d ← M.gets fun s => compressDecision s.octets s.mode (s.mostRecentOwner.orElse fun _ => s.qname)
      s.mostRecentNameInRdata n
    match d with
    | .panic => M.panic
    | .err _ => M.panic
    | .ok none => Writer.writeUncompressedName n
    | .ok (some m) =>
      if m.startColumn < n.labels.length then
        if m.startColumn = 0 then do
          Writer.pushPointer m.priorPointer
          Pure.pure (some ⟨m.priorPointer, n.len⟩)
        else do
          let cur ← M.gets (·.cursor)
          Writer.tryPush (n.wireTo m.startColumn)
          ghostLabels cur (n.labels.take m.startColumn) false
          Writer.pushPointer m.priorPointer
          Pure.pure ((hintPointerNew cur).map fun p => ⟨p, n.len⟩)
      else M.panic) := by
  funext s
  unfold Writer.writeCompressedUnhintedName
  simp only [M.bind_apply, M.gets_apply]
  cases hd : compressDecision s.octets s.mode (s.mostRecentOwner.orElse fun _ => s.qname) s.mostRecentNameInRdata n with
  | panic => rfl
  | err e => rfl
  | ok r =>
    cases r with
    | none => rfl
    | some m => simp only [if_pos (compressDecision_col hd)]; split <;> rfl

theorem writeCompressedUnhintedName (n : WName) :
    Routine rec inv 0 n.wire.length (Writer.writeCompressedUnhintedName n) := by
  rw [writeCompressedUnhintedName_eq]
  refine getsBind (.decision n) fun d => ?_
  cases d with
  | panic => exact .panic _ _
  | err e => exact .panic _ _
  | ok r =>
    cases r with
    | none => exact writeUncompressedName n
    | some m =>
      refine ite (fun hk => ite (fun _ => ?_) fun _ => ?_) fun _ => .panic _ _
      · have := wireTo_add_two (k := m.startColumn) hk
        exact seq (pushPointer _) (fun _ => .pure _) (Nat.zero_le _) (by omega)
      · exact (Routine.pushLabels _ _ false fun _ => seq (pushPointer _) (fun _ => .pure _) (Nat.zero_le _) (Nat.le_refl 2)).upTo
          (wireTo_add_two hk)

theorem writeUnhintedName (n : WName) : Routine rec inv 0 n.wire.length (Writer.writeUnhintedName n) :=
  getsBind .mode fun _ => ite (fun _ => writeCompressedUnhintedName n) fun _ => writeUncompressedName n

theorem writeHintedName (h : Hint) (n : WName) : Routine rec inv 0 n.wire.length (Writer.writeHintedName h n) := by
  unfold Writer.writeHintedName
  refine getsBind .mode fun m => ite (fun _ => writeUncompressedName n) fun h1 =>
    ite (fun _ => writeCompressedUnhintedName n) fun _ => ?_
  -- a bare pointer is written only for a name longer than the root
  have hH : ∀ q, Routine rec inv 0 n.wire.length (Writer.pushHinted q) := fun q => (pushHinted q).upTo (by omega)
  have arm : ∀ a : Option Prior, Routine rec inv 0 n.wire.length (match a with
      | some q => Writer.pushHinted q
      | none => Writer.writeCompressedUnhintedName n) := fun a => by
    cases a with
    | some q => exact hH q
    | none => exact writeCompressedUnhintedName n
  cases h with
  | qname => exact getsBind .qname arm
  | mostRecentOwner => exact getsBind .owner arm
  | mostRecentNameInRdata => exact getsBind .inRdata arm
  | explicit p => exact getsBind .cursor fun _ => ite (fun _ => hH _) fun _ => writeCompressedUnhintedName n
  | none => exact writeCompressedUnhintedName n

/-- the component loop pushes no more than the RDATA it is given -/
theorem writeComponents (ts : List CompType) (rd : List UInt8) :
    Routine True True 0 rd.length (Writer.writeComponents ts rd) := by
  induction ts generalizing rd with
  | nil =>
    unfold Writer.writeComponents
    exact ite (fun _ => (Routine.pure _).upTo (Nat.zero_le _)) fun _ => push _
  | cons t ts ih =>
    have name : ∀ (c : NameCtx) (w : M (Option Prior)) (n : WName) (rest : List UInt8), WName.parse rd = some (n, rest) →
        Routine True True 0 n.wire.length w → Routine True True 0 rd.length (do
          Writer.setCtx c
          let p ← w
          Writer.setCtx .none
          M.modify fun s => { s with mostRecentNameInRdata := p }
          Writer.hvPush (p.map (·.ptr))
          Writer.writeComponents ts rest) := fun c w n rest hp hw =>
      bind0 (.setCtx ⟨⟩ _) fun _ => seq hw (fun p => bind0 (.setCtx ⟨⟩ _) fun _ => bind0 (.setInRdata ⟨⟩ p) fun _ =>
        bind0 (.hvPush ⟨⟩ _) fun _ => ih rest) (Nat.zero_le _) (Nat.le_of_eq (parse_length hp).symm)
    cases t with
    | compressibleName =>
      unfold Writer.writeComponents
      cases hp : WName.parse rd with
      | none => exact .invalid ⟨⟩ _ _
      | some p => exact name _ _ p.1 p.2 hp (writeUnhintedName p.1)
    | uncompressibleName =>
      unfold Writer.writeComponents
      cases hp : WName.parse rd with
      | none => exact .invalid ⟨⟩ _ _
      | some p => exact name _ _ p.1 p.2 hp (writeUncompressedName p.1)
    | fixedLen k =>
      unfold Writer.writeComponents
      refine ite (fun _ => .invalid ⟨⟩ _ _) fun hk => seq (push _) (fun _ => ih _) (Nat.zero_le _) ?_
      rw [List.length_take, List.length_drop]; omega

theorem writeRdata (cls ty : Nat) (rd : List UInt8) : Routine True True 0 rd.length (Writer.writeRdata cls ty rd) := by
  unfold Writer.writeRdata
  cases componentTypes cls ty with
  | none => exact .panic _ _
  | some ts => exact writeComponents ts rd

/-- every record occupies at least 10 octets (TYPE, CLASS, TTL, RDLENGTH), and no more than uncompressed -/
theorem addRr (hint : Hint) (owner : WName) (ty cls ttl : Nat) (rd : List UInt8) :
    Routine True True 10 (owner.wire.length + 10 + rd.length) (Writer.addRr hint owner ty cls ttl rd) :=
  bind0 (.setCtx ⟨⟩ _) fun _ => seq (writeHintedName hint owner) (fun p => bind0 (.setCtx ⟨⟩ _) fun _ =>
    bind0 (.setOwner ⟨⟩ p) fun _ => (.bind (.tryPush (u16be ty)) fun _ => .bind (.tryPush (u16be cls)) fun _ =>
      .bind (.tryPush (u32be ttl)) fun _ => .backpatch ⟨⟩ (writeRdata cls ty rd) :
        Routine True True (2 + (2 + (4 + (2 + 0)))) (2 + (2 + (4 + (2 + rd.length)))) _))
    (Nat.le_refl _) (by omega)

theorem addRrset (owner : WName) (ty cls ttl : Nat) (rds : List (List UInt8)) (hint : Hint) (n : Nat) :
    Routine True True (10 * rds.length) ((rds.map fun rd => owner.wire.length + 10 + rd.length).sum)
      (Writer.addRrset hint owner ty cls ttl rds n) := by
  induction rds generalizing hint n with
  | nil => exact .pure _
  | cons rd rest ih =>
    unfold Writer.addRrset
    exact seq (addRr hint owner ty cls ttl rd) (fun _ => ih _ _) (by simp only [List.length_cons]; omega)
      (by simp only [List.map_cons, List.sum_cons]; exact Nat.le_refl _)

/-- the closure `add_question` hands to `with_rollback`: a name and two fixed fields -/
theorem addQuestionBody (qn : WName) (qt qc : Nat) :
    Routine True inv 4 (qn.wire.length + 4) (Writer.addQuestionBody qn qt qc) :=
  bind0 (.setCtx ⟨⟩ _) fun _ => seq (writeUnhintedName qn) (fun p => bind0 (.setCtx ⟨⟩ _) fun _ =>
    bind0 (.setQname ⟨⟩ p) fun _ =>
      (.bind (.tryPush (u16be qt)) fun _ => .tryPush (u16be qc) : Routine True inv (2 + 2) (2 + 2) _))
    (Nat.le_refl _) (Nat.le_refl _)

/-! ### what holds of every routine under a law -/

/-- every judgement "ends `R`-related, errors in `E`" whose `R`, `E` form a law holds of every routine: of the
    name writers for a name law, of the rest for a record law -/
theorem steps {R : State → State → Prop} {E : WriterErr → Prop} (L : NameLaw R E) (LR : rec → RecLaw R E)
    (hI : inv → E .InvalidRdata) {b B : Nat} {α} {f : M α} (h : Routine rec inv b B f) : Steps R E f := by
  induction h with
  | pure a => exact L.pure a
  | invalid h => exact L.fail (hI h)
  | panic => exact L.panic
  | bind _ _ ih1 ih2 => exact L.bind ih1 ih2
  | mono _ _ _ ih => exact ih
  | gets _ => exact L.gets _
  | setCtx h c => exact (LR h).setCtx c
  | logPtr ev => exact .modify _ fun s => L.ptr s ev
  | setOwner h p => exact .modify _ fun s => (LR h).owner s p
  | setInRdata h p => exact .modify _ fun s => (LR h).inRdata s p
  | setQname h p => exact .modify _ fun s => by split; exact (LR h).qname s p; exact L.refl s
  | hvPush h p => exact (LR h).hvPush p
  | tryPush d => exact L.tryPush d
  | pushLabels d ls wr _ ih =>
    refine Pre.getsBind fun s => ?_
    rw [← M.bind_assoc]
    exact L.bindAt (L.pushLabels _ _ _ s) fun _ s' _ => ih _ s'
  | backpatch h _ ih => exact (LR h).backpatch ih

theorem stepsRec {R : State → State → Prop} {E : WriterErr → Prop} (L : RecLaw R E) (hI : inv → E .InvalidRdata)
    {b B : Nat} {α} {f : M α} (h : Routine True inv b B f) : Steps R E f := h.steps L.toNameLaw (fun _ => L) hI

theorem stepsName {R : State → State → Prop} {E : WriterErr → Prop} (L : NameLaw R E) {b B : Nat} {α} {f : M α}
    (h : Routine False False b B f) : Steps R E f := h.steps L False.elim False.elim

end Routine

/-! ### … routine by routine -/

section
variable {R : State → State → Prop} {E : WriterErr → Prop}

namespace NameLaw
variable (L : NameLaw R E)
include L

theorem pushPointer (p : Nat) : Steps R E (Writer.pushPointer p) := (Routine.pushPointer p).stepsName L
theorem pushHinted (q : Prior) : Steps R E (Writer.pushHinted q) := (Routine.pushHinted q).stepsName L
theorem writeUncompressedName (n : WName) : Steps R E (Writer.writeUncompressedName n) :=
  (Routine.writeUncompressedName n).stepsName L
theorem writeCompressedUnhintedName (n : WName) : Steps R E (Writer.writeCompressedUnhintedName n) :=
  (Routine.writeCompressedUnhintedName n).stepsName L
theorem writeUnhintedName (n : WName) : Steps R E (Writer.writeUnhintedName n) := (Routine.writeUnhintedName n).stepsName L
theorem writeHintedName (h : Hint) (n : WName) : Steps R E (Writer.writeHintedName h n) :=
  (Routine.writeHintedName h n).stepsName L

end NameLaw

namespace RecLaw
variable (L : RecLaw R E)
include L

theorem writeComponents (hI : E .InvalidRdata) (ts : List CompType) (rd : List UInt8) :
    Steps R E (Writer.writeComponents ts rd) := (Routine.writeComponents ts rd).stepsRec L fun _ => hI
theorem writeRdata (hI : E .InvalidRdata) (cls ty : Nat) (rd : List UInt8) : Steps R E (Writer.writeRdata cls ty rd) :=
  (Routine.writeRdata cls ty rd).stepsRec L fun _ => hI
theorem addRr (hI : E .InvalidRdata) (hint : Hint) (owner : WName) (ty cls ttl : Nat) (rd : List UInt8) :
    Steps R E (Writer.addRr hint owner ty cls ttl rd) := (Routine.addRr hint owner ty cls ttl rd).stepsRec L fun _ => hI
theorem addRrset (hI : E .InvalidRdata) (hint : Hint) (owner : WName) (ty cls ttl : Nat) (rds : List (List UInt8))
    (n : Nat) : Steps R E (Writer.addRrset hint owner ty cls ttl rds n) :=
  (Routine.addRrset owner ty cls ttl rds hint n).stepsRec L fun _ => hI
theorem addQuestionBody (qn : WName) (qt qc : Nat) : Steps R E (Writer.addQuestionBody qn qt qc) :=
  (Routine.addQuestionBody (inv := False) qn qt qc).stepsRec L False.elim

end RecLaw

namespace OpLaw
variable (L : OpLaw R E)
include L

theorem addRrsetOp (sec : RrSection) (hint : Hint) (owner : WName) (ty cls ttl : Nat) (rds : List (List UInt8)) :
    Steps R E (Writer.addRrsetOp sec hint owner ty cls ttl rds) :=
  L.withRollback <| L.bind (L.changeSection sec) fun _ => L.bind (L.addRrset L.invalid _ _ _ _ _ _ _) fun _ =>
    L.bind (L.gets _) fun _ => .ite (L.fail L.overflow) (.ite (L.fail L.overflow) (L.setCount _ _))

theorem addRrOp (sec : RrSection) (hint : Hint) (owner : WName) (ty cls ttl : Nat) (rd : List UInt8) :
    Steps R E (Writer.addRrOp sec hint owner ty cls ttl rd) :=
  L.withRollback <| L.bind (L.changeSection sec) fun _ => L.bind (L.addRr L.invalid _ _ _ _ _ _) fun _ =>
    L.bind (L.gets _) fun _ => .ite (L.fail L.overflow) (L.setCount _ _)

/-- `add_question` also counts the question -/
theorem addQuestion (hc : ∀ s, R s { s with qdcount := s.qdcount + 1, rrStart := s.cursor }) (qn : WName) (qt qc : Nat) :
    Steps R E (Writer.addQuestion qn qt qc) :=
  L.bind (L.gets _) fun _ => L.bind (L.gets _) fun _ =>
    .ite (L.fail L.order) (.ite (L.fail L.overflow)
      (L.bind (L.withRollback (L.addQuestionBody _ _ _)) fun _ => .modify _ hc))

end OpLaw
end

end QV.Writer
