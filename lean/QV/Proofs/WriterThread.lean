/-
  QV.Proofs.WriterThread — threading "the two writers agree below the cursor" through the writes
  of `add_rr` / `add_rrset`: the second writer is the first with other octets (`wo s o`), the
  octets agree below the cursor except inside a reserved two-octet hole (`Rl`), and every routine
  has the same outcome on both and leaves them related (`Cg`). The only read of octets is
  `compressDecision` (`QV.Proofs.WriterScratch`): a name writer does the same on both writers as
  soon as the scan does at the state it starts in (`Routine.cg`, one induction over
  `QV.Proofs.WriterRoutine`); between the name blocks of a record that is had from the invariant
  (`decOK`), so the record-level lemmas walk in step with the `sp_*` lemmas of `QV.Proofs.WriterRecords`.
-/
import QV.Proofs.WriterScratch
import QV.Proofs.WriterRdPos
import QV.Proofs.WriterSafe
import QV.Proofs.WriterSingle

namespace QV.Writer
open QV QV.Wire QV.ServerSafety

/-- the writer `s` with other octets -/
def wo (s : State) (o : Bytes) : State := { s with octets := o }

/-- the other octets agree with the writer's below the cursor, outside the hole -/
structure Rl (a : Option Nat) (s : State) (o : Bytes) : Prop where
  size : o.size = s.octets.size
  pre : ∀ i, i < s.cursor → Outside a i → o[i]? = s.octets[i]?

theorem outside_none (i : Nat) : Outside none i := fun _ h => by cases h

/-- `f` does the same on both writers (when the precondition `P` holds of the first) -/
def Cg {α} (a a' : Option Nat) (P : State → Prop) (f : M α) : Prop :=
  ∀ s o, P s → Rl a s o → ∃ o', f (wo s o) = ((f s).1, wo (f s).2 o') ∧ Rl a' (f s).2 o'

theorem cg_mono {α} {a a' : Option Nat} {P P' : State → Prop} {f : M α} (h : Cg a a' P f)
    (hp : ∀ s, P' s → P s) : Cg a a' P' f := fun s o hs hr => h s o (hp s hs) hr

theorem cg_bind {α β} {a : Option Nat} {P : State → Prop} {Q : α → State → Prop} {f : M α} {g : α → M β}
    (hf : Cg a a P f) (hpres : ∀ s x s1, P s → f s = (.ok x, s1) → Q x s1) (hg : ∀ x, Cg a a (Q x) (g x)) :
    Cg a a P (f >>= g) := by
  intro s o hs hr
  obtain ⟨o1, e1, r1⟩ := hf s o hs hr
  simp only [M.bind_apply, e1]
  cases hfs : f s with
  | mk r s1 =>
    rw [hfs] at r1
    cases r with
    | ok x =>
      simp only []
      exact hg x s1 o1 (hpres s x s1 hs hfs) r1
    | err e => exact ⟨o1, rfl, r1⟩
    | panic => exact ⟨o1, rfl, r1⟩

/-- `bind` when nothing is needed of the intermediate state -/
theorem cg_bind' {α β} {a : Option Nat} {P : State → Prop} {f : M α} {g : α → M β}
    (hf : Cg a a P f) (hg : ∀ x, Cg a a (fun _ => True) (g x)) : Cg a a P (f >>= g) :=
  cg_bind (Q := fun _ _ => True) hf (fun _ _ _ _ _ => trivial) hg

theorem cg_pure {α} (a : Option Nat) (P : State → Prop) (x : α) : Cg a a P (pure x : M α) :=
  fun s o _ hr => ⟨o, rfl, hr⟩

theorem cg_fail {α} (a : Option Nat) (P : State → Prop) (e : WriterErr) : Cg a a P (M.fail e : M α) :=
  fun s o _ hr => ⟨o, rfl, hr⟩

theorem cg_panic {α} (a : Option Nat) (P : State → Prop) : Cg a a P (M.panic : M α) :=
  fun s o _ hr => ⟨o, rfl, hr⟩

theorem cg_gets {α} (a : Option Nat) (P : State → Prop) (φ : State → α) (hφ : ∀ s o, φ (wo s o) = φ s) :
    Cg a a P (M.gets φ) := fun s o _ hr => ⟨o, by simp only [M.gets_apply, hφ], hr⟩

/-- a field update that neither reads nor moves the octets and the cursor -/
theorem cg_modify (a : Option Nat) (P : State → Prop) (u : State → State)
    (hu : ∀ s o, u (wo s o) = wo (u s) o) (hc : ∀ s, (u s).cursor = s.cursor) (ho : ∀ s, (u s).octets = s.octets) :
    Cg a a P (M.modify u) := by
  intro s o _ hr
  refine ⟨o, by simp only [M.modify_apply, hu], ?_⟩
  simp only [M.modify_apply]
  exact ⟨by rw [ho]; exact hr.size, fun i hi ho' => by rw [ho]; exact hr.pre i (by rw [← hc]; exact hi) ho'⟩

theorem cg_tryPush (a : Option Nat) (P : State → Prop) (d : List UInt8) : Cg a a P (tryPush d) := by
  intro s o _ hr
  unfold tryPush
  show ∃ o', (if (wo s o).available < (wo s o).cursor then _ else _) = _ ∧ _
  have e1 : (wo s o).available = s.available := rfl
  have e2 : (wo s o).cursor = s.cursor := rfl
  have e3 : (wo s o).octets.size = s.octets.size := hr.size
  simp only [e1, e2, e3]
  by_cases h1 : s.available < s.cursor
  · simp only [if_pos h1]; exact ⟨o, rfl, hr⟩
  · simp only [if_neg h1]
    by_cases h2 : s.available - s.cursor ≥ d.length
    · simp only [if_pos h2]
      by_cases h3 : s.cursor + d.length ≤ s.octets.size
      · simp only [if_pos h3]
        refine ⟨writeAt o s.cursor d, rfl, by simp [hr.size], fun i hi ho' => ?_⟩
        show (writeAt o s.cursor d)[i]? = (writeAt s.octets s.cursor d)[i]?
        by_cases hlt : i < s.cursor
        · rw [writeAt_get_lt _ _ _ _ hlt, writeAt_get_lt _ _ _ _ hlt]; exact hr.pre i hlt ho'
        · have hi' : i < s.cursor + d.length := hi
          have := writeAt_get_in o s.cursor d (i - s.cursor) (by omega) (by rw [hr.size]; exact h3)
          have := writeAt_get_in s.octets s.cursor d (i - s.cursor) (by omega) h3
          rw [show s.cursor + (i - s.cursor) = i by omega] at *
          simp_all
      · simp only [if_neg h3]; exact ⟨o, rfl, hr⟩
    · simp only [if_neg h2]; exact ⟨o, rfl, hr⟩

theorem cg_ite {α} {a : Option Nat} {P : State → Prop} {c : Prop} [Decidable c] {A B : M α}
    (hA : Cg a a P A) (hB : Cg a a P B) : Cg a a P (if c then A else B) := by
  by_cases h : c
  · rw [if_pos h]; exact hA
  · rw [if_neg h]; exact hB

theorem cg_true {α} {a : Option Nat} {P : State → Prop} {f : M α} (h : Cg a a (fun _ => True) f) : Cg a a P f :=
  cg_mono h (fun _ _ => trivial)

/-! ### the header calls of the answering phase -/

/-- a header octet rewritten: the header lies below the cursor, where the two writers agree -/
theorem cg_setHdr (P : State → Prop) (i : Nat) (f : UInt8 → UInt8) (hi : ∀ s, P s → i < s.cursor) :
    Cg none none P (setHdr i f) := by
  intro s o hs hr
  have hic := hi s hs
  by_cases hsz : i < s.octets.size
  · have ht : i < o.size := by rw [hr.size]; exact hsz
    have hb : o[i] = s.octets[i] := by
      have := hr.pre i hic (outside_none i)
      rw [Array.getElem?_eq_getElem ht, Array.getElem?_eq_getElem hsz] at this
      exact Option.some.inj this
    have e1 : setHdr i f s = (.ok (), { s with octets := s.octets.set i (f s.octets[i]) }) := by
      unfold setHdr; rw [dif_pos hsz]
    have e2 : setHdr i f (wo s o) = (.ok (), wo { s with octets := s.octets.set i (f s.octets[i]) } (o.set i (f s.octets[i]))) := by
      unfold setHdr
      rw [dif_pos (show i < (wo s o).octets.size from ht)]
      show (_, { wo s o with octets := o.set i (f o[i]) }) = _
      rw [hb]; rfl
    rw [e1, e2]
    refine ⟨_, rfl, by simp [hr.size], fun j hj _ => ?_⟩
    show (o.set i _ ht)[j]? = (s.octets.set i _ hsz)[j]?
    rw [Array.getElem?_set, Array.getElem?_set]
    by_cases hij : i = j
    · simp [hij]
    · simp only [hij, if_false]
      exact hr.pre j hj (outside_none j)
  · have e1 : setHdr i f s = (.panic, s) := by unfold setHdr; rw [dif_neg hsz]
    have e2 : setHdr i f (wo s o) = (.panic, wo s o) := by
      unfold setHdr; rw [dif_neg (show ¬ i < (wo s o).octets.size by rw [show (wo s o).octets = o from rfl, hr.size]; exact hsz)]
    rw [e1, e2]
    exact ⟨o, rfl, hr⟩

/-- `set_aa` (the cursor of a writer is at least 12) -/
theorem scratch_setAa (b : Bool) : Cg none none (fun s => 12 ≤ s.cursor) (setAa b) := by
  unfold setAa setBit
  exact cg_setHdr _ _ _ fun s h => by
    have : Gen.AA_BYTE < 12 := by decide
    omega

/-- `set_rcode` -/
theorem scratch_setRcode (v : Nat) : Cg none none (fun s => 12 ≤ s.cursor) (setRcode v) := by
  unfold setRcode
  refine cg_bind' (cg_setHdr (fun s => 12 ≤ s.cursor) Gen.RCODE_BYTE _ fun s h => by
    have : Gen.RCODE_BYTE < 12 := by decide
    omega) fun _ => ?_
  refine cg_modify none _ _ (fun s o => ?_) (fun s => ?_) (fun s => ?_)
  · show (match s.edns with | some e => _ | none => _) = _
    cases s.edns <;> rfl
  · cases h : s.edns <;> simp only [h]
  · cases h : s.edns <;> simp only [h]

/-! ### the name writers -/

theorem cg_setCtx (a : Option Nat) (P : State → Prop) (c : NameCtx) : Cg a a P (setCtx c) :=
  cg_modify a P _ (fun _ _ => rfl) (fun _ => rfl) (fun _ => rfl)

theorem cg_ghostLabels (a : Option Nat) (P : State → Prop) (pos : Nat) (ls : List Label) (r : Bool) :
    Cg a a P (ghostLabels pos ls r) :=
  cg_modify a P _ (fun _ _ => rfl) (fun _ => rfl) (fun _ => rfl)

theorem cg_hvPush (a : Option Nat) (P : State → Prop) (p : Option Nat) : Cg a a P (hvPush p) := by
  refine cg_modify a P _ (fun s o => ?_) (fun s => ?_) (fun s => ?_)
  · show (match (wo s o).hv with | some v => _ | none => _) = _
    have : (wo s o).hv = s.hv := rfl
    rw [this]
    cases s.hv with
    | none => rfl
    | some v => simp only []; split <;> rfl
  · cases h : s.hv with
    | none => simp only [h]
    | some v => simp only [h]; split <;> rfl
  · cases h : s.hv with
    | none => simp only [h]
    | some v => simp only [h]; split <;> rfl

/-- the compression scan takes the same decision on the other octets -/
def DecOK (a : Option Nat) (s : State) : Prop :=
  ∀ o n, Rl a s o →
    compressDecision o s.mode (s.mostRecentOwner.orElse fun _ => s.qname) s.mostRecentNameInRdata n =
      compressDecision s.octets s.mode (s.mostRecentOwner.orElse fun _ => s.qname) s.mostRecentNameInRdata n

/-- `DecOK` speaks of the octets below the cursor, the mode and the anchors only, and a name writer
    changes none of them: it keeps `DecOK` at every step -/
theorem decLaw (a : Option Nat) : NameLaw (fun s s' => DecOK a s → DecOK a s') fun _ => True where
  refl _ h := h
  trans h1 h2 h := h2 (h1 h)
  trunc := trivial
  ptr _ _ h := fun o n hr => h o n ⟨hr.size, hr.pre⟩
  push s d gl _ _ _ h := fun o n hr => by
    have hlt : ∀ i, i < s.cursor → (writeAt s.octets s.cursor d)[i]? = s.octets[i]? :=
      fun i hi => writeAt_get_lt _ _ _ _ hi
    exact (h o n ⟨hr.size.trans (writeAt_size _ _ _), fun i hi ho =>
      (hr.pre i (Nat.lt_of_lt_of_le hi (Nat.le_add_right _ _)) ho).trans (hlt i hi)⟩).trans
      (h _ n ⟨writeAt_size _ _ _, fun i hi _ => hlt i hi⟩).symm

theorem gets_pres {α} (φ : State → α) (P : State → Prop) : ∀ s x s1, P s → M.gets φ s = (.ok x, s1) → P s1 := by
  intro s x s1 hs h
  simp only [M.gets_apply, Prod.mk.injEq] at h
  rw [← h.2]; exact hs

/-- **a name writer does the same on both writers** when the scan does at the state it starts in: the
    scan's decision is the only thing it reads of the octets -/
theorem Routine.cg {inv : Prop} (a : Option Nat) {b B : Nat} {α} {f : M α} (h : Routine False inv b B f) :
    Cg a a (DecOK a) f := by
  have pres : ∀ {b B : Nat} {α} {f : M α}, Routine False inv b B f →
      ∀ s x s1, DecOK a s → f s = (.ok x, s1) → DecOK a s1 := fun hf s x s1 hs e => by
    have := (hf.steps (decLaw a) False.elim (fun _ => trivial) s).1 hs
    rw [e] at this; exact this
  induction h with
  | pure x => exact cg_pure a _ x
  | invalid _ => exact cg_fail a _ _
  | panic => exact cg_panic a _
  | bind hf _ ih1 ih2 => exact cg_bind (Q := fun _ s => DecOK a s) ih1 (pres hf) ih2
  | mono _ _ _ ih => exact ih
  | gets r =>
    cases r with
    | decision n =>
      intro s o hs hr
      refine ⟨o, ?_, hr⟩
      simp only [M.gets_apply]
      show (Out.ok (compressDecision o s.mode (s.mostRecentOwner.orElse fun _ => s.qname)
        s.mostRecentNameInRdata n), wo s o) = _
      rw [hs o n hr]
    | _ => exact cg_gets a _ _ fun _ _ => rfl
  | logPtr ev => exact cg_modify a _ _ (fun _ _ => rfl) (fun _ => rfl) (fun _ => rfl)
  | tryPush d => exact cg_tryPush a _ d
  | pushLabels d ls wr _ ih =>
    refine cg_bind (Q := fun _ s => DecOK a s) (cg_gets a _ _ fun _ _ => rfl) (gets_pres _ _) fun cur => ?_
    refine cg_bind (Q := fun _ s => DecOK a s) (cg_tryPush a _ d) (pres (.tryPush d)) fun _ => ?_
    refine cg_bind (Q := fun _ s => DecOK a s) (cg_ghostLabels a _ _ _ _) ?_ fun _ => ih cur
    intro s x s1 hs e
    simp only [ghostLabels, M.modify_apply, Prod.mk.injEq] at e
    rw [← e.2]
    exact fun o n hr => hs o n ⟨hr.size, hr.pre⟩
  | setCtx h | setOwner h | setInRdata h | setQname h | hvPush h | backpatch h => exact h.elim

/-- a name block: context, the name, context off, the anchor, the hint vector -/
theorem cg_nameBlock (a : Option Nat) (c : NameCtx) (wr : M (Option Prior)) (hwr : Cg a a (DecOK a) wr)
    (upd : Option Prior → State → State) (hu : ∀ p s o, upd p (wo s o) = wo (upd p s) o)
    (hc : ∀ p s, (upd p s).cursor = s.cursor) (ho : ∀ p s, (upd p s).octets = s.octets)
    (tail : Option Prior → M Unit) (htail : ∀ p, Cg a a (fun _ => True) (tail p)) :
    Cg a a (DecOK a) (do setCtx c
                         let p ← wr
                         setCtx .none
                         M.modify (upd p)
                         tail p) := by
  refine cg_bind (Q := fun _ s => DecOK a s) (cg_setCtx a _ c) ?_ (fun _ => ?_)
  · intro s x s1 hs h
    simp only [setCtx, M.modify_apply, Prod.mk.injEq] at h
    rw [← h.2]
    exact fun o n hr => hs o n ⟨hr.size, hr.pre⟩
  · refine cg_bind' hwr (fun p => ?_)
    refine cg_bind' (cg_setCtx a _ _) (fun _ => ?_)
    refine cg_bind' (cg_modify a _ _ (hu p) (hc p) (ho p)) (fun _ => ?_)
    exact htail p

/-! ### the scan takes the same decision: from the invariant -/

theorem decOK {a : Option Nat} {s : State} (h : WInv s) (hg : ∀ x, a = some x → GapOK x s) : DecOK a s := by
  intro o n hr
  obtain ⟨hA, hB⟩ := anchors_ok h
  exact compressDecision_agree hA hB (fun x e => (hg x e).2 x rfl) hr.pre

/-! ### the RDATA components -/

/-- a name component of the RDATA followed by the remaining components: the name block keeps the
    record state (`sp_nameComp`) and, extending the writer, the gap condition (`gapOK_ext`) -/
theorem cg_nameComp {track : Prop} {s0 : State} {x : Nat} {names loc : List WName} {o : Option Prior}
    {on : Option WName} (c : NameCtx) (wr : M (Option Prior)) (n : WName) (tail : M Unit)
    (hwr : Cg (some x) (some x) (DecOK (some x)) wr) (hspec : ∀ s, WInv s → NameSpec s n (wr s))
    (hfr : Frame wr) (hk : KeepsHv wr)
    (htail : Cg (some x) (some x) (fun s => RecSt track s0 s (names ++ [n]) (loc ++ [n]) o on ∧ GapOK x s) tail) :
    Cg (some x) (some x) (fun s => RecSt track s0 s names loc o on ∧ GapOK x s)
      (do setCtx c
          let p ← wr
          setCtx .none
          M.modify fun s => { s with mostRecentNameInRdata := p }
          hvPush (p.map (·.ptr))
          tail) := by
  rw [nameBlock_assoc]
  refine cg_bind ?_ ?_ (fun _ => htail)
  · -- stated first: elaborated against the goal, the unifier unfolds the name writers to find `c` and `wr`
    have := cg_nameBlock (some x) c wr hwr (fun p s => { s with mostRecentNameInRdata := p })
      (fun _ _ _ => rfl) (fun _ _ => rfl) (fun _ _ => rfl) (fun p => hvPush (p.map (·.ptr)))
      (fun p => cg_hvPush _ _ _)
    exact cg_mono this (fun s hs => decOK hs.1.winv fun _ e => Option.some.inj e ▸ hs.2)
  · intro s u s1 hs h1
    obtain ⟨_, _, _, _, _, _, hext⟩ := nameBlock_inv c wr hfr h1
    exact ⟨((sp_nameComp wr n c hspec hfr hk) s hs.1).2 _ s1 h1, gapOK_ext hs.2 hext⟩

theorem cg_writeComponents {track : Prop} {s0 : State} (x : Nat) :
    ∀ (ts : List CompType) (rd : List UInt8) (names loc : List WName) (o : Option Prior) (on : Option WName),
      Cg (some x) (some x) (fun s => RecSt track s0 s names loc o on ∧ GapOK x s) (writeComponents ts rd) := by
  intro ts
  induction ts with
  | nil =>
    intro rd names loc o on
    unfold writeComponents
    split
    · exact cg_pure _ _ _
    · exact cg_tryPush _ _ _
  | cons c ts ih =>
    intro rd names loc o on
    cases c with
    | compressibleName =>
      unfold writeComponents
      cases hp : WName.parse rd with
      | none => exact cg_fail _ _ _
      | some pr =>
        obtain ⟨n, rest⟩ := pr
        exact cg_nameComp .rdataCompressible (writeUnhintedName n) n _ ((Routine.writeUnhintedName (inv := False) n).cg _)
          (fun s hw => writeUnhintedName_spec n s hw (parse_wf hp)) (frame_writeUnhintedName n)
          (keepsHv_writeUnhintedName n) (ih rest _ _ _ _)
    | uncompressibleName =>
      unfold writeComponents
      cases hp : WName.parse rd with
      | none => exact cg_fail _ _ _
      | some pr =>
        obtain ⟨n, rest⟩ := pr
        exact cg_nameComp .rdataUncompressible (writeUncompressedName n) n _ ((Routine.writeUncompressedName (inv := False) n).cg _)
          (fun s hw => writeUncompressedName_spec n s hw (parse_wf hp)) (frame_writeUncompressedName n)
          (keepsHv_writeUncompressedName n) (ih rest _ _ _ _)
    | fixedLen k =>
      unfold writeComponents
      split
      · exact cg_fail _ _ _
      · refine cg_bind (Q := fun _ s => RecSt track s0 s names loc o on ∧ GapOK x s) (cg_tryPush _ _ _) ?_
          (fun _ => ih _ _ _ _ _)
        intro s u s1 hs h1
        have hext : Ext s s1 := by
          have := frame_tryPush (rd.take k) s
          rw [h1] at this; exact this
        exact ⟨((sp_tryPush_rec (rd.take k)) s hs.1).2 _ s1 h1, gapOK_ext hs.2 hext⟩

/-! ### whole records: on failure the two writers agree below the cursor the call started at -/

def CgW {α} (P : State → Prop) (f : M α) : Prop :=
  ∀ s o, P s → Rl none s o → ∃ o', f (wo s o) = ((f s).1, wo (f s).2 o') ∧ o'.size = (f s).2.octets.size ∧
    (∀ i, i < s.cursor → o'[i]? = (f s).2.octets[i]?) ∧ (∀ x, (f s).1 = .ok x → Rl none (f s).2 o')

theorem cgw_of_cg {α} {P : State → Prop} {f : M α} (h : Cg none none P f) (hmono : ∀ s, s.cursor ≤ (f s).2.cursor) :
    CgW P f := by
  intro s o hs hr
  obtain ⟨o', e, r⟩ := h s o hs hr
  exact ⟨o', e, r.size, fun i hi => r.pre i (by have := hmono s; omega) (outside_none i), fun _ _ => r⟩

theorem cgw_bind {α β} {P : State → Prop} {Q : α → State → Prop} {f : M α} {g : α → M β}
    (hf : CgW P f) (hmono : ∀ s x s1, f s = (.ok x, s1) → s.cursor ≤ s1.cursor)
    (hpres : ∀ s x s1, P s → f s = (.ok x, s1) → Q x s1) (hg : ∀ x, CgW (Q x) (g x)) : CgW P (f >>= g) := by
  intro s o hs hr
  obtain ⟨o1, e1, z1, b1, r1⟩ := hf s o hs hr
  simp only [M.bind_apply, e1]
  cases hfs : f s with
  | mk r s1 =>
    rw [hfs] at r1 b1 z1
    cases r with
    | ok x =>
      simp only []
      obtain ⟨o2, e2, z2, b2, r2⟩ := hg x s1 o1 (hpres s x s1 hs hfs) (r1 x rfl)
      exact ⟨o2, e2, z2, fun i hi => b2 i (by have := hmono s x s1 hfs; omega), r2⟩
    | err e => exact ⟨o1, rfl, z1, b1, fun x hx => by cases hx⟩
    | panic => exact ⟨o1, rfl, z1, b1, fun x hx => by cases hx⟩

theorem rl_write_close {s : State} {o : Bytes} {x : Nat} (d : List UInt8) (hd : d.length = 2)
    (hr : Rl (some x) s o) (hx : x + 2 ≤ s.cursor) (hsz : s.cursor ≤ s.octets.size) :
    Rl none { s with octets := writeAt s.octets x d } (writeAt o x d) := by
  refine ⟨by simp [hr.size], fun i hi _ => ?_⟩
  show (writeAt o x d)[i]? = (writeAt s.octets x d)[i]?
  have hi' : i < s.cursor := hi
  by_cases h1 : i < x
  · rw [writeAt_get_lt _ _ _ _ h1, writeAt_get_lt _ _ _ _ h1]
    exact hr.pre i hi' (fun y hy => by cases hy; exact Or.inl h1)
  · by_cases h2 : x + 2 ≤ i
    · rw [writeAt_get_ge _ _ _ _ (by omega), writeAt_get_ge _ _ _ _ (by omega)]
      exact hr.pre i hi' (fun y hy => by cases hy; exact Or.inr h2)
    · have a1 := writeAt_get_in o x d (i - x) (by omega) (by rw [hr.size]; omega)
      have a2 := writeAt_get_in s.octets x d (i - x) (by omega) (by omega)
      rw [show x + (i - x) = i by omega] at a1 a2
      rw [a1, a2]

/-- RDLENGTH reserved, the RDATA, RDLENGTH written back -/
theorem cgw_rdataBlock {track : Prop} {s0 : State} {names : List WName} {po : Option Prior} {on : Option WName}
    (cls ty : Nat) (rd : List UInt8) :
    CgW (fun s => RecSt track s0 s names [] po on)
      (do let av ← M.gets (·.available)
          let rdlengthStart ← M.gets (·.cursor)
          if av < rdlengthStart then M.panic
          else if av - rdlengthStart < 2 then M.fail .Truncation
          else do
            M.modify fun s => { s with cursor := s.cursor + 2 }
            writeRdata cls ty rd
            let cur' ← M.gets (·.cursor)
            if cur' < rdlengthStart + 2 then M.panic
            else write rdlengthStart (u16be ((cur' - rdlengthStart - 2) % 65536))) := by
  intro s o h hr
  have hav := h.winv.cur_av; have hsz := h.winv.av_size
  have ea : (wo s o).available = s.available := rfl
  have ec : (wo s o).cursor = s.cursor := rfl
  simp only [M.bind_apply, M.gets_apply, ea, ec]
  by_cases hfit1 : s.available < s.cursor
  · rw [if_pos hfit1]
    exact ⟨o, rfl, hr.size, fun i hi => hr.pre i hi (outside_none i), fun x hx => by cases hx⟩
  · rw [if_neg hfit1]
    by_cases hfit : s.available - s.cursor < 2
    · rw [if_pos hfit]
      exact ⟨o, rfl, hr.size, fun i hi => hr.pre i hi (outside_none i), fun x hx => by cases hx⟩
    · rw [if_neg hfit]
      simp only [M.bind_apply, M.modify_apply]
      have h1 : RecSt track s0 { s with cursor := s.cursor + 2 } names [] po on := recSt_reserve h (by omega)
      have hr5 : Rl (some s.cursor) { s with cursor := s.cursor + 2 } o := by
        refine ⟨hr.size, fun i hi ho => ?_⟩
        rcases ho s.cursor rfl with hlt | hge
        · exact hr.pre i hlt (outside_none i)
        · exfalso; have : i < s.cursor + 2 := hi; omega
      have hwo : ({ wo s o with cursor := (wo s o).cursor + 2 } : State) = wo { s with cursor := s.cursor + 2 } o := rfl
      rw [hwo]
      -- the RDATA
      have hC : ∃ o6, writeRdata cls ty rd (wo { s with cursor := s.cursor + 2 } o) =
          ((writeRdata cls ty rd { s with cursor := s.cursor + 2 }).1,
            wo (writeRdata cls ty rd { s with cursor := s.cursor + 2 }).2 o6) ∧
          Rl (some s.cursor) (writeRdata cls ty rd { s with cursor := s.cursor + 2 }).2 o6 := by
        unfold writeRdata
        cases hct : componentTypes cls ty with
        | none => exact ⟨o, rfl, hr5⟩
        | some ts =>
          exact cg_writeComponents (track := track) (s0 := s0) s.cursor ts rd names [] po on _ o
            ⟨h1, gapOK_init h.winv⟩ hr5
      obtain ⟨o6, e6, r6⟩ := hC
      rw [e6]
      have hfr : Ext { s with cursor := s.cursor + 2 } (writeRdata cls ty rd { s with cursor := s.cursor + 2 }).2 := by
        unfold writeRdata
        cases componentTypes cls ty with
        | none => exact Ext.refl _
        | some ts => exact frame_writeComponents ts rd _
      cases hw : writeRdata cls ty rd { s with cursor := s.cursor + 2 } with
      | mk r s6 =>
        rw [hw] at r6 hfr
        simp only [] at r6 hfr ⊢
        have hbelow : ∀ i, i < s.cursor → o6[i]? = s6.octets[i]? := fun i hi =>
          r6.pre i (by have := hfr.cur; have : s.cursor + 2 ≤ s6.cursor := this; omega)
            (fun y hy => by cases hy; exact Or.inl hi)
        cases r with
        | err e => exact ⟨o6, rfl, r6.size, hbelow, fun x hx => by cases hx⟩
        | panic => exact ⟨o6, rfl, r6.size, hbelow, fun x hx => by cases hx⟩
        | ok u =>
          have ec6 : (wo s6 o6).cursor = s6.cursor := rfl
          simp only [M.gets_apply, ec6]
          split
          · exact ⟨o6, rfl, r6.size, hbelow, fun x hx => by cases hx⟩
          · rename_i hcur
            unfold write
            have es6 : (wo s6 o6).octets.size = s6.octets.size := r6.size
            simp only [es6]
            split
            · have hcl := rl_write_close (u16be ((s6.cursor - s.cursor - 2) % 65536)) rfl r6 (by omega)
                (by
                  have h9 : s6.cursor ≤ s.available := hfr.avail (by show s.cursor + 2 ≤ s.available; omega)
                  have h8 : s6.octets.size = s.octets.size := hfr.size
                  omega)
              refine ⟨writeAt o6 s.cursor (u16be ((s6.cursor - s.cursor - 2) % 65536)), rfl, hcl.size, fun i hi => ?_,
                fun _ _ => hcl⟩
              exact hcl.pre i (by show i < s6.cursor; omega) (outside_none i)
            · exact ⟨o6, rfl, r6.size, hbelow, fun x hx => by cases hx⟩

/-! ### `add_rr` -/

theorem ownerBlock_frame (hint : Hint) (owner : WName) :
    Frame (do setCtx .owner
              let p ← writeHintedName hint owner
              setCtx .none
              M.modify fun s => { s with mostRecentOwner := p }) :=
  frame_bind (frame_setCtx _) fun _ => frame_bind (frame_writeHintedName hint owner) fun p =>
    frame_bind (frame_setCtx _) fun _ => frame_modify _ (fun s => by constructor <;> simp)

theorem cgw_addRr {track : Prop} {s0 : State} {names : List WName} (hint : Hint) (owner : WName)
    (ty cls ttl : Nat) (rd : List UInt8) (hwf : owner.WF) :
    CgW (fun s => ∃ loc o on, RecSt track s0 s names loc o on ∧ HintOK s hint owner)
      (addRr hint owner ty cls ttl rd) := by
  rw [addRr_eq]
  have mono : ∀ {α} {f : M α}, Frame f → ∀ s x s1, f s = (.ok x, s1) → s.cursor ≤ s1.cursor := by
    intro α f hf s x s1 h
    have := hf s
    rw [h] at this
    exact this.cur
  have hT : ∀ d : List UInt8, CgW (fun s => ∃ po, RecSt track s0 s names [] po (some owner)) (tryPush d) :=
    fun d => cgw_of_cg (cg_tryPush none _ d) (fun s => (frame_tryPush d s).cur)
  have hTp : ∀ (d : List UInt8) s (x : Unit) s1, (∃ po, RecSt track s0 s names [] po (some owner)) →
      tryPush d s = (.ok x, s1) → ∃ po, RecSt track s0 s1 names [] po (some owner) := by
    intro d s x s1 ⟨po, h⟩ h1
    exact ⟨po, ((sp_tryPush_rec (track := track) (s0 := s0) (names := names) (loc := []) (o := po)
      (on := some owner) d) s h).2 _ s1 h1⟩
  refine cgw_bind (Q := fun _ s => ∃ po, RecSt track s0 s names [] po (some owner)) ?_
    (mono (ownerBlock_frame hint owner)) ?_ (fun _ => ?_)
  · -- the owner block
    refine cgw_of_cg ?_ (fun s => (ownerBlock_frame hint owner s).cur)
    refine cg_bind (Q := fun _ s => DecOK none s) (cg_setCtx none _ _) ?_ (fun _ => ?_)
    · intro s x s1 ⟨loc, o, on, h, _⟩ h1
      simp only [setCtx, M.modify_apply, Prod.mk.injEq] at h1
      rw [← h1.2]
      have := decOK (a := none) h.winv nofun
      exact fun o n hr => this o n ⟨hr.size, hr.pre⟩
    · refine cg_bind' ((Routine.writeHintedName (inv := False) hint owner).cg none) (fun p => ?_)
      refine cg_bind' (cg_setCtx none _ _) (fun _ => ?_)
      exact cg_modify none _ _ (fun _ _ => rfl) (fun _ => rfl) (fun _ => rfl)
  · intro s x s1 ⟨loc, o, on, h, hh⟩ h1
    exact ((sp_ownerBlock (track := track) (s0 := s0) (names := names) (loc := loc) (o := o) (on := on)
      hint owner hwf) s ⟨h, hh⟩).2 _ s1 h1
  · unfold tryPushU16 tryPushU32
    refine cgw_bind (hT _) (mono (frame_tryPush _)) (hTp _) (fun _ => ?_)
    refine cgw_bind (hT _) (mono (frame_tryPush _)) (hTp _) (fun _ => ?_)
    refine cgw_bind (hT _) (mono (frame_tryPush _)) (hTp _) (fun _ => ?_)
    intro s o ⟨po, h⟩ hr
    exact cgw_rdataBlock (track := track) (s0 := s0) (names := names) (po := po) (on := some owner) cls ty rd s o h hr

/-! ### the section calls -/

theorem cg_changeSection (P : State → Prop) (sec : RrSection) : Cg none none P (changeSection sec) := by
  intro s o _ hr
  have hsect : (wo s o).sect = s.sect := rfl
  unfold changeSection
  rw [hsect]
  cases sec <;> cases s.sect <;> first
    | exact ⟨o, rfl, hr⟩
    | exact ⟨o, rfl, ⟨hr.size, hr.pre⟩⟩

theorem cg_setCount (P : State → Prop) (sec : RrSection) (n : Nat) : Cg none none P (setCount sec n) := by
  unfold setCount
  refine cg_modify none P _ (fun s o => ?_) (fun s => ?_) (fun s => ?_) <;> cases sec <;> rfl

/-- what a rolled-back call leaves: the same outcome, and agreement below the cursor -/
theorem rollback_scratch {α} {f : M α} {s : State} {o : Bytes}
    (h : ∃ o', f (wo s o) = ((f s).1, wo (f s).2 o') ∧ o'.size = (f s).2.octets.size ∧
      (∀ i, i < s.cursor → o'[i]? = (f s).2.octets[i]?) ∧ (∀ x, (f s).1 = .ok x → Rl none (f s).2 o'))
    (hnp : (f s).1 ≠ .panic) :
    ∃ o', withRollback f (wo s o) = ((withRollback f s).1, wo (withRollback f s).2 o') ∧
      Rl none (withRollback f s).2 o' := by
  obtain ⟨o', e, z, b, r⟩ := h
  rw [withRollback_apply, withRollback_apply, e]
  cases hfs : f s with
  | mk res s' =>
    rw [hfs] at z b r hnp
    cases res with
    | ok x => exact ⟨o', rfl, r x rfl⟩
    | err er => exact ⟨o', rfl, ⟨z, fun i hi _ => b i hi⟩⟩
    | panic => exact absurd rfl hnp

/-! ### `add_*_rrset` -/

theorem cgw_addRrset {track : Prop} {s0 : State} (owner : WName) (ty cls ttl : Nat) (hwf : owner.WF) :
    ∀ (rds : List (List UInt8)) (hint : Hint) (n : Nat) (names : List WName),
      CgW (fun s => ∃ loc o on, RecSt track s0 s names loc o on ∧ HintOK s hint owner)
        (addRrset hint owner ty cls ttl rds n) := by
  intro rds
  induction rds with
  | nil =>
    intro hint n names
    unfold addRrset
    exact cgw_of_cg (cg_pure none _ _) (fun s => Nat.le_refl _)
  | cons rd rds ih =>
    intro hint n names
    unfold addRrset
    refine cgw_bind (Q := fun _ s => ∃ loc o on, RecSt track s0 s (names ++ rdataNames cls ty rd) loc o on ∧
        HintOK s .mostRecentOwner owner) (cgw_addRr hint owner ty cls ttl rd hwf)
      (fun s x s1 h => by have := frame_addRr hint owner ty cls ttl rd s; rw [h] at this; exact this.cur) ?_
      (fun _ => ih .mostRecentOwner (n + 1) _)
    intro s x s1 hs h1
    obtain ⟨p, hrec⟩ := ((sp_addRr (track := track) (s0 := s0) (names := names) hint owner ty cls ttl rd hwf) s hs).2 x s1 h1
    exact ⟨_, p, _, hrec, recSt_ownerHint hrec⟩

theorem addRrsetOp_scratch (sec : RrSection) (hint : Hint) (owner : WName) (ty cls ttl : Nat)
    (rds : List (List UInt8)) (s : State) (o : Bytes) (hw : WInv s) (hl : PtrLogOK s) (hwf : owner.WF)
    (hh : HintOK s hint owner) (hr : Rl none s o) :
    ∃ o', addRrsetOp sec hint owner ty cls ttl rds (wo s o) =
        ((addRrsetOp sec hint owner ty cls ttl rds s).1, wo (addRrsetOp sec hint owner ty cls ttl rds s).2 o') ∧
      Rl none (addRrsetOp sec hint owner ty cls ttl rds s).2 o' := by
  unfold addRrsetOp
  have hafter : ∀ s1, changeSection sec s = (.ok (), s1) →
      ∃ loc po on, RecSt (s.hv = some []) s s1 [] loc po on ∧ HintOK s1 hint owner := by
    intro s1 h1
    obtain ⟨hr1, hh1⟩ := recSt_changeSection hw hl sec hh
    rw [h1] at hr1 hh1
    exact ⟨[], _, none, hr1, hh1⟩
  apply rollback_scratch
  · have hcs : CgW (fun s' => s' = s) (changeSection sec) :=
      cgw_of_cg (cg_changeSection _ sec) (fun s' => (frame_changeSection sec s').cur)
    have hcount : ∀ n : Nat, CgW (fun _ => True) (do
        let c ← M.gets (getCount sec)
        if n > 65535 then M.fail .CountOverflow
        else if c + n > 65535 then M.fail .CountOverflow
        else setCount sec (c + n)) := by
      intro n
      refine cgw_of_cg (cg_bind' (cg_gets none _ _ (fun s o => by cases sec <;> rfl)) (fun c => ?_)) (fun s' => ?_)
      · exact cg_ite (cg_fail none _ _) (cg_ite (cg_fail none _ _) (cg_setCount _ sec _))
      · simp only [M.bind_apply, M.gets_apply]
        split
        · exact Nat.le_refl _
        · split
          · exact Nat.le_refl _
          · cases sec <;> exact Nat.le_refl _
    have := cgw_bind (Q := fun _ s1 => ∃ loc po on, RecSt (s.hv = some []) s s1 [] loc po on ∧ HintOK s1 hint owner)
      hcs (fun s' x s1 h => by have := frame_changeSection sec s'; rw [h] at this; exact this.cur)
      (fun s' x s1 hs h => by subst hs; cases x; exact hafter s1 h)
      (fun _ => cgw_bind (Q := fun _ _ => True)
        (cgw_addRrset (track := s.hv = some []) (s0 := s) owner ty cls (ttlFrom ttl) hwf rds hint 0 [])
        (fun s' x s1 h => by
          have := frame_addRrset hint owner ty cls (ttlFrom ttl) rds 0 s'; rw [h] at this; exact this.cur)
        (fun _ _ _ _ _ => trivial) hcount)
    exact this s o rfl hr
  · simp only [M.bind_apply]
    have c1 := (changeSection_spec sec s).1
    cases hcs : changeSection sec s with
    | mk r1 s1 =>
      rw [hcs] at c1
      cases r1 with
      | panic => exact absurd rfl c1
      | err e => simp
      | ok u =>
        simp only []
        obtain ⟨loc, po, on, hrec, hh1⟩ := hafter s1 (by cases u; exact hcs)
        have hnp := ((sp_addRrset (track := s.hv = some []) (s0 := s) owner ty cls (ttlFrom ttl) hwf rds hint 0 []
          loc on) s1 ⟨po, hrec, hh1⟩).1
        cases ha : addRrset hint owner ty cls (ttlFrom ttl) rds 0 s1 with
        | mk r2 s2 =>
          rw [ha] at hnp
          cases r2 with
          | panic => exact absurd rfl hnp
          | err e => simp
          | ok u2 =>
            simp only [M.gets_apply]
            split
            · simp [M.fail]
            · split
              · simp [M.fail]
              · rw [setCount_apply]; simp

/-! ### `add_*_rr` -/

theorem addRrOp_scratch (sec : RrSection) (hint : Hint) (owner : WName) (ty cls ttl : Nat) (rd : List UInt8)
    (s : State) (o : Bytes) (hw : WInv s) (hl : PtrLogOK s) (hwf : owner.WF) (hh : HintOK s hint owner)
    (hr : Rl none s o) :
    ∃ o', addRrOp sec hint owner ty cls ttl rd (wo s o) =
        ((addRrOp sec hint owner ty cls ttl rd s).1, wo (addRrOp sec hint owner ty cls ttl rd s).2 o') ∧
      Rl none (addRrOp sec hint owner ty cls ttl rd s).2 o' := by
  rw [addRrOp_eq_addRrsetOp]
  exact addRrsetOp_scratch sec hint owner ty cls ttl [rd] s o hw hl hwf hh hr

end QV.Writer
