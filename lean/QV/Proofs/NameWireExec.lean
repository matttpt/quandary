/-
  QV.Proofs.NameWireExec — the executable RFC 1035 §4.1.4 decoder of the specification
  (`QV.Spec.specDecodeName`, fuel-based, used as oracle by every message-level audit) is *exactly*
  the declarative relation `DecodesName`:

      specDecodeName msg s = some (w, n, k)  ↔  DecodesName msg s w n k

  Soundness is an induction on the fuel; completeness needs that the fuel the decoder gives itself
  (`size² + size + 2`) always suffices: every step either advances inside the message or moves to a
  strictly earlier chunk, so a derivation at `(pos, cs)` has at most
  `cs·(size+1) + (size − pos) + 1` steps.

  Corollary: the executable spec decoder and the model of the Rust parser (C14) agree everywhere.
-/
import QV.Spec.NameWire
import QV.Properties.C14

namespace QV.Spec
open QV

/-- **soundness**: whatever the executable walk returns is a derivation of the RFC relation -/
theorem specWalk_sound (msg : Bytes) : ∀ (fuel pos cs : Nat) (ls : List (List UInt8)) (k : Nat),
    specWalk msg fuel pos cs = some (ls, k) → Decodes msg pos cs ls.flatten ls.length k := by
  intro fuel
  induction fuel with
  | zero => intro pos cs ls k h; simp [specWalk] at h
  | succ f ih =>
    intro pos cs ls k h
    unfold specWalk at h
    cases hb : msg[pos]? with
    | none => rw [hb] at h; cases h
    | some b =>
      rw [hb] at h
      obtain ⟨hlt, hbe⟩ := Array.getElem?_eq_some_iff.mp hb
      simp only at h
      by_cases h0 : b = 0
      · simp only [h0, if_true] at h
        cases h
        exact Decodes.null hlt (by rw [hbe, h0])
      · simp only [h0, if_false] at h
        by_cases h63 : b.toNat ≤ 63
        · simp only [h63, if_true] at h
          by_cases hin : pos + b.toNat + 1 ≤ msg.size
          · simp only [hin, if_true] at h
            cases hr : specWalk msg f (pos + b.toNat + 1) cs with
            | none => rw [hr] at h; cases h
            | some r =>
              obtain ⟨ls', k'⟩ := r
              rw [hr] at h
              cases h
              have hd := ih _ _ _ _ hr
              subst hbe
              simp only [List.flatten_cons, List.length_cons]
              exact Decodes.label hlt h0 h63 hin hd
          · simp only [hin, if_false] at h; cases h
        · simp only [h63, if_false] at h
          by_cases hp : 192 ≤ b.toNat
          · simp only [hp, if_true] at h
            cases hb2 : msg[pos + 1]? with
            | none => rw [hb2] at h; cases h
            | some b2 =>
              rw [hb2] at h
              obtain ⟨hlt2, hbe2⟩ := Array.getElem?_eq_some_iff.mp hb2
              simp only at h
              by_cases ht : (b.toNat - 192) * 256 + b2.toNat < cs
              · simp only [ht, if_true] at h
                cases hr : specWalk msg f ((b.toNat - 192) * 256 + b2.toNat) ((b.toNat - 192) * 256 + b2.toNat) with
                | none => rw [hr] at h; cases h
                | some r =>
                  obtain ⟨ls', k'⟩ := r
                  rw [hr] at h
                  cases h
                  have hd := ih _ _ _ _ hr
                  subst hbe hbe2
                  exact Decodes.ptr hlt2 hp ht hd
              · simp only [ht, if_false] at h; cases h
          · simp only [hp, if_false] at h; cases h

/-- **completeness with fuel**: a derivation at `(pos, cs)` is found by the walk as soon as the fuel
    covers `cs·(size+1) + (size − pos) + 1` steps -/
theorem specWalk_complete (msg : Bytes) {pos cs : Nat} {w : List UInt8} {n k : Nat}
    (hd : Decodes msg pos cs w n k) :
    ∀ fuel, cs ≤ msg.size → cs * (msg.size + 1) + (msg.size - pos) + 1 ≤ fuel →
      ∃ ls, specWalk msg fuel pos cs = some (ls, k) ∧ ls.flatten = w ∧ ls.length = n := by
  induction hd with
  | @null pos cs h h0 =>
    intro fuel hcs hf
    obtain ⟨f, rfl⟩ : ∃ f, fuel = f + 1 := ⟨fuel - 1, by omega⟩
    refine ⟨[[0]], ?_, rfl, rfl⟩
    unfold specWalk
    rw [Array.getElem?_eq_getElem h]
    simp [h0]
  | @label pos cs w n k h h0 h63 hin rest ih =>
    intro fuel hcs hf
    obtain ⟨f, rfl⟩ : ∃ f, fuel = f + 1 := ⟨fuel - 1, by omega⟩
    obtain ⟨ls, hw, hfl, hlen⟩ := ih f hcs (by omega)
    refine ⟨(msg.extract pos (pos + msg[pos].toNat + 1)).toList :: ls, ?_, by simp [hfl], by simp [hlen]⟩
    unfold specWalk
    rw [Array.getElem?_eq_getElem h]
    simp only [h0, if_false, h63, if_true, hin, hw]
  | @ptr pos cs w n k h hp hb rest ih =>
    intro fuel hcs hf
    obtain ⟨f, rfl⟩ : ∃ f, fuel = f + 1 := ⟨fuel - 1, by omega⟩
    have hlt : pos < msg.size := by omega
    unfold specIsPtr at hp
    unfold specPtr at hb ih
    have hmul : (((msg[pos]'hlt).toNat - 192) * 256 + (msg[pos + 1]'h).toNat + 1) * (msg.size + 1) ≤ cs * (msg.size + 1) :=
      Nat.mul_le_mul_right _ (by omega)
    rw [Nat.add_mul, Nat.one_mul] at hmul
    obtain ⟨ls, hw, hfl, hlen⟩ := ih f (by omega) (by omega)
    refine ⟨ls, ?_, hfl, hlen⟩
    unfold specWalk
    rw [Array.getElem?_eq_getElem hlt, Array.getElem?_eq_getElem h]
    have e0 : ¬ (msg[pos]'hlt) = 0 := by
      intro e
      have : (msg[pos]'hlt).toNat = 0 := by rw [e]; rfl
      omega
    have e63 : ¬ (msg[pos]'hlt).toNat ≤ 63 := by omega
    simp only [e0, if_false, e63, hp, if_true, hb, hw]

theorem decodes_pos_lt {msg : Bytes} {pos cs : Nat} {w : List UInt8} {n k : Nat}
    (hd : Decodes msg pos cs w n k) : pos < msg.size := by
  cases hd <;> omega

/-- **the executable spec decoder is exactly the RFC relation** -/
theorem specDecodeName_iff (msg : Bytes) (start : Nat) (w : List UInt8) (n k : Nat) :
    specDecodeName msg start = some (w, n, k) ↔ DecodesName msg start w n k := by
  unfold specDecodeName DecodesName
  constructor
  · intro h
    cases hr : specWalk msg (msg.size * msg.size + msg.size + 2) start start with
    | none => rw [hr] at h; cases h
    | some r =>
      obtain ⟨ls, k'⟩ := r
      rw [hr] at h
      simp only at h
      by_cases hl : ls.flatten.length ≤ 255
      · simp only [hl, if_true, Option.some.injEq, Prod.mk.injEq] at h
        obtain ⟨rfl, rfl, rfl⟩ := h
        exact ⟨specWalk_sound _ _ _ _ _ _ hr, hl⟩
      · simp only [hl, if_false] at h; cases h
  · intro ⟨hd, hl⟩
    have hlt := decodes_pos_lt hd
    have hm : start * msg.size ≤ msg.size * msg.size := Nat.mul_le_mul_right _ (by omega)
    have hs : start * (msg.size + 1) = start * msg.size + start := Nat.mul_succ _ _
    obtain ⟨ls, hw, hfl, hlen⟩ := specWalk_complete msg hd (msg.size * msg.size + msg.size + 2) (by omega)
      (by omega)
    rw [hw]
    simp only [hfl, hl, if_true, hlen]

/-- … hence it agrees with the model of the Rust parser on every buffer and offset (C14) -/
theorem specDecodeName_eq_parse (msg : Bytes) (s : Nat) :
    specDecodeName msg s =
      match Wire.parseCompressed msg s with
      | .ok p => some (p.wire, p.nlabels, p.len)
      | _ => none := by
  cases hp : Wire.parseCompressed msg s with
  | ok p =>
    exact (specDecodeName_iff _ _ _ _ _).mpr ((C14.C14_parse_ok_iff msg s p).mp hp)
  | err e =>
    cases hs : specDecodeName msg s with
    | none => rfl
    | some r =>
      obtain ⟨w, n, k⟩ := r
      have := (C14.C14_parse_ok_iff msg s ⟨w, n, k⟩).mpr ((specDecodeName_iff _ _ _ _ _).mp hs)
      rw [hp] at this; cases this
  | panic => exact absurd hp (C14.C14_no_panic _ _)

end QV.Spec
