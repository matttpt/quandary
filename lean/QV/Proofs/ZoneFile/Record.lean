/-
  QV.Proofs.ZoneFile.Record — the record layer: every typed RDATA parser builds RDATA its
  validator accepts; the RFC 3597 form is validated explicitly; the generated dispatch table of
  `parse_rdata` agrees with the dispatch table of `Rdata::validate`.
-/
import QV.Proofs.ZoneFile.Valid

namespace QV.ZF
open QV QV.Wire QV.Rdata

/-- `rd` passes the validator named `v` (a `Rdata::validate_as_*` function of the RDATA model) -/
def AcceptedBy (v : String) (rd : List UInt8) : Prop :=
  ∃ f, validateHandler v = some f ∧ f rd.toArray = .ok ()

/-- the names in a parse context are well-formed absolute names -/
def CtxWF (ctx : Ctx) : Prop :=
  (∀ o, ctx.origin = some o → NameWF o) ∧ (∀ o, ctx.prevOwner = some o → NameWF o)

theorem CtxWF_default : CtxWF {} := ⟨by simp, by simp⟩

/-! ### facts about the std parsers -/

theorem digitsVal_le {max : Nat} {s : List UInt8} {acc v : Nat} (hacc : acc ≤ max)
    (h : digitsVal max s acc = some v) : v ≤ max := by
  induction s generalizing acc with
  | nil => simp [digitsVal] at h; omega
  | cons c rest ih =>
    unfold digitsVal at h
    split at h
    · dsimp only at h
      split at h
      · cases h
      · exact ih (by omega) h
    · cases h

theorem parseUInt_le {max : Nat} {s : List UInt8} {v : Nat} (h : parseUInt max s = some v) : v ≤ max := by
  unfold parseUInt at h
  repeat' split at h
  all_goals first | (cases h; done) | exact digitsVal_le (Nat.zero_le _) ‹_›

theorem parseUInt_nil (max : Nat) : parseUInt max [] = none := rfl

theorem readIpv4_length {s a r : List UInt8} (h : readIpv4 s = some (a, r)) : a.length = 4 := by
  unfold readIpv4 at h
  dsimp only at h
  split at h
  · cases h
  · split at h
    · cases h
    · split at h
      · cases h
      · split at h
        · cases h
        · simp at h; obtain ⟨rfl, _⟩ := h; rfl

theorem parseIpv4_length {s a : List UInt8} (h : parseIpv4 s = some a) : a.length = 4 := by
  unfold parseIpv4 at h
  split at h
  · cases h
  · split at h
    · next a' heq => cases h; exact readIpv4_length heq
    · cases h

theorem readGroups_length (limit : Nat) (n i : Nat) (s : List UInt8) (hni : n + i = limit) :
    (readGroups limit n i s).1.length ≤ n := by
  induction n generalizing i s with
  | zero => simp [readGroups]
  | succ n ih =>
    unfold readGroups
    dsimp only
    split
    · next o r hv4 =>
      simp
      split at hv4
      · omega
      · cases hv4
    · split
      · next g r hg =>
        have := ih (i + 1) r (by omega)
        simp; omega
      · simp

theorem flatMap_u16be_length (gs : List Nat) : (gs.flatMap u16be').length = 2 * gs.length := by
  induction gs with
  | nil => simp
  | cons g gs ih => simp [List.flatMap_cons, u16be', ih]; omega

theorem parseIpv6_length {s a : List UInt8} (h : parseIpv6 s = some a) : a.length = 16 := by
  unfold parseIpv6 at h
  have hh := readGroups_length 8 8 0 s rfl
  revert h
  generalize readGroups 8 8 0 s = res at hh
  obtain ⟨head, headV4, r⟩ := res
  simp only
  intro h
  split at h
  · next h8 =>
    split at h
    · cases h; simp at h8; rw [flatMap_u16be_length, h8]
    · cases h
  · next h8 =>
    split at h
    · cases h
    · split at h
      · cases h
      · split at h
        · cases h
        · next r2 _ =>
          have ht := readGroups_length (8 - (head.length + 1)) (8 - (head.length + 1)) 0 r2 rfl
          revert h
          generalize readGroups (8 - (head.length + 1)) (8 - (head.length + 1)) 0 r2 = res2 at ht
          obtain ⟨tail, tv4, r3⟩ := res2
          simp only
          intro h
          split at h
          · cases h
            rw [flatMap_u16be_length]
            simp at hh ht h8 ⊢
            omega
          · cases h

theorem u32be_length (n : Nat) : (u32be n).length = 4 := rfl

/-! ### small parsers -/

theorem T_mkRdata {l : List UInt8} {Q : List UInt8 → Prop} (hl : l.length ≤ 65535) (hq : Q l) :
    T (mkRdata l) Q := by
  intro st
  unfold mkRdata
  have : ¬ (l.length > 65535) := by omega
  simp [this, Good, hq]

theorem T_pName {ctx : Ctx} (h : CtxWF ctx) : T (pName ctx) NameWF := T_parseName _ h.1

theorem T_readU16 (k : Kind) (hk : k ≠ .ModelStuck) : T (readField parseU16 k) (fun v => v ≤ 65535) :=
  (T_readField parseU16 k hk).weaken (fun _ ⟨_, h⟩ => parseUInt_le h)

theorem T_readU32 (k : Kind) (hk : k ≠ .ModelStuck) : T (readField parseU32 k) (fun _ => True) :=
  (T_readField parseU32 k hk).weaken (fun _ _ => trivial)

theorem T_readIpv4 (k : Kind) (hk : k ≠ .ModelStuck) : T (readField parseIpv4 k) (fun a => a.length = 4) :=
  (T_readField parseIpv4 k hk).weaken (fun _ ⟨_, h⟩ => parseIpv4_length h)

theorem T_readIpv6 (k : Kind) (hk : k ≠ .ModelStuck) : T (readField parseIpv6 k) (fun a => a.length = 16) :=
  (T_readField parseIpv6 k hk).weaken (fun _ ⟨_, h⟩ => parseIpv6_length h)

/-- a field, the gap after it, and then the rest of the parser -/
theorem T_then_gap {α β} {p : P α} {Q : α → Prop} (hp : T p Q) {kd : Kind} (hk : kd ≠ .ModelStuck)
    {f : α → P β} {R : β → Prop} (hf : ∀ a, Q a → T (f a) R) :
    T (do let a ← p; skipToNextField kd; f a) R :=
  T_bind hp fun a ha => T_bind (T_skipToNextField kd hk) fun _ _ => hf a ha

/-! ### typed RDATA parsers -/

theorem T_nameRdataBody {ctx : Ctx} (h : CtxWF ctx) :
    T (nameRdataBody ctx) (AcceptedBy "validate_name") := by
  unfold nameRdataBody
  refine T_bind (T_pName h) ?_; intro name hn
  refine T_bind T_expectEol ?_; intro _ _
  exact T_mkRdata (by have := hn.length_le; omega) ⟨validateName, by simp [validateHandler], name_valid hn⟩

theorem T_inARdataBody : T inARdataBody (AcceptedBy "validate_as_in_a") := by
  unfold inARdataBody
  refine T_bind (T_readIpv4 _ (by decide)) ?_; intro a ha
  refine T_bind T_expectEol ?_; intro _ _
  exact T_mkRdata (by omega) ⟨validateAsInA, by simp [validateHandler], inA_valid ha⟩

theorem T_inAaaaRdataBody : T inAaaaRdataBody (AcceptedBy "validate_as_in_aaaa") := by
  unfold inAaaaRdataBody
  refine T_bind (T_readIpv6 _ (by decide)) ?_; intro a ha
  refine T_bind T_expectEol ?_; intro _ _
  exact T_mkRdata (by omega) ⟨validateAsInAaaa, by simp [validateHandler], inAaaa_valid ha⟩

/-- outcome of a list-level loop returning `(value, rest)`: at most `n` octets left -/
def GoodT {α} (r : Out Err (α × List UInt8)) (n : Nat) : Prop := GoodO r fun x => x.2.length ≤ n

theorem chaosLoop_good (startLine : Nat) (l : List UInt8) (addr : Nat) :
    GoodT (chaosLoop startLine l addr) l.length := by
  induction l generalizing addr with
  | nil => simp [chaosLoop, GoodT, GoodO]
  | cons c rest ih =>
    unfold chaosLoop
    split
    · simp [GoodT, GoodO]
    · split
      · split
        · simp [fail, GoodT, GoodO]
        · have := ih (addr * 8 + (c.toNat - 48))
          unfold GoodT GoodO at this ⊢
          split <;> simp_all
          omega
      · simp [fail, GoodT, GoodO]

theorem T_parseChaosnetAddress : T parseChaosnetAddress (fun _ => True) := by
  intro st
  unfold parseChaosnetAddress
  have := chaosLoop_good st.line st.inp 0
  unfold GoodT GoodO at this
  split at this <;> simp_all [Good]

theorem T_chARdataBody {ctx : Ctx} (h : CtxWF ctx) :
    T (chARdataBody ctx) (AcceptedBy "validate_as_ch_a") := by
  unfold chARdataBody
  refine T_then_gap (T_pName h) (by decide) ?_; intro lan hl
  refine T_bind T_parseChaosnetAddress ?_; intro addr _
  refine T_bind T_expectEol ?_; intro _ _
  exact T_mkRdata (by have := hl.length_le; simp [u16be_length]; omega)
    ⟨validateAsChA, by simp [validateHandler], chA_valid hl (u16be_length _)⟩

theorem T_soaRdataBody {ctx : Ctx} (h : CtxWF ctx) :
    T (soaRdataBody ctx) (AcceptedBy "validate_as_soa") := by
  unfold soaRdataBody
  refine T_then_gap (T_pName h) (by decide) ?_; intro m hm
  refine T_then_gap (T_pName h) (by decide) ?_; intro r hr
  refine T_then_gap (T_readU32 _ (by decide)) (by decide) ?_; intro a1 _
  refine T_then_gap (T_readU32 _ (by decide)) (by decide) ?_; intro a2 _
  refine T_then_gap (T_readU32 _ (by decide)) (by decide) ?_; intro a3 _
  refine T_then_gap (T_readU32 _ (by decide)) (by decide) ?_; intro a4 _
  refine T_bind (T_readU32 _ (by decide)) ?_; intro a5 _
  refine T_bind T_expectEol ?_; intro _ _
  have e : m ++ r ++ u32be a1 ++ u32be a2 ++ u32be a3 ++ u32be a4 ++ u32be a5
      = m ++ r ++ (u32be a1 ++ u32be a2 ++ u32be a3 ++ u32be a4 ++ u32be a5) := by simp
  rw [e]
  refine T_mkRdata ?_ ⟨validateAsSoa, by simp [validateHandler], soa_valid hm hr (by simp [u32be_length])⟩
  have := hm.length_le; have := hr.length_le
  simp [u32be_length]; omega

theorem T_minfoRdataBody {ctx : Ctx} (h : CtxWF ctx) :
    T (minfoRdataBody ctx) (AcceptedBy "validate_as_minfo") := by
  unfold minfoRdataBody
  refine T_then_gap (T_pName h) (by decide) ?_; intro r hr
  refine T_bind (T_pName h) ?_; intro e he
  refine T_bind T_expectEol ?_; intro _ _
  refine T_mkRdata ?_ ⟨validateAsMinfo, by simp [validateHandler], minfo_valid hr he⟩
  have := he.length_le; have := hr.length_le
  simp; omega

theorem T_mxRdataBody {ctx : Ctx} (h : CtxWF ctx) :
    T (mxRdataBody ctx) (AcceptedBy "validate_as_mx") := by
  unfold mxRdataBody
  refine T_then_gap (T_readU16 _ (by decide)) (by decide) ?_; intro p _
  refine T_bind (T_pName h) ?_; intro ex hex
  refine T_bind T_expectEol ?_; intro _ _
  refine T_mkRdata ?_ ⟨validateAsMx, by simp [validateHandler], mx_valid (u16be_length _) hex⟩
  have := hex.length_le
  simp [u16be_length]; omega

theorem T_inSrvRdataBody {ctx : Ctx} (h : CtxWF ctx) :
    T (inSrvRdataBody ctx) (AcceptedBy "validate_as_in_srv") := by
  unfold inSrvRdataBody
  refine T_then_gap (T_readU16 _ (by decide)) (by decide) ?_; intro p _
  refine T_then_gap (T_readU16 _ (by decide)) (by decide) ?_; intro w _
  refine T_then_gap (T_readU16 _ (by decide)) (by decide) ?_; intro port _
  refine T_bind (T_pName h) ?_; intro t ht
  refine T_bind T_expectEol ?_; intro _ _
  have e : u16be p ++ u16be w ++ u16be port ++ t = (u16be p ++ u16be w ++ u16be port) ++ t := by simp
  rw [e]
  refine T_mkRdata ?_ ⟨validateAsInSrv, by simp [validateHandler], inSrv_valid (by simp [u16be_length]) ht⟩
  have := ht.length_le
  simp [u16be_length]; omega

theorem T_hinfoRdataBody : T hinfoRdataBody (AcceptedBy "validate_as_hinfo") := by
  unfold hinfoRdataBody
  refine T_then_gap T_parseCharacterString (by decide) ?_; intro c hc
  refine T_bind T_parseCharacterString ?_; intro o ho
  refine T_bind T_expectEol ?_; intro _ _
  have e : UInt8.ofNat c.length :: c ++ UInt8.ofNat o.length :: o = encCS c ++ encCS o := by simp [encCS]
  rw [e]
  refine T_mkRdata ?_ ⟨validateAsHinfo, by simp [validateHandler], hinfo_valid hc ho⟩
  simp [encCS]; omega

/-! ### WKS -/

theorem foldl_modify_size (ports : List Nat) (a : Array UInt8) (f : Nat → UInt8 → UInt8) :
    (ports.foldl (fun (a : Array UInt8) p => a.modify (p / 8) (f p)) a).size = a.size := by
  induction ports generalizing a with
  | nil => simp
  | cons p ps ih => simp [ih]

theorem foldl_max_le (ports : List Nat) (init : Option Nat) (hi : Nat)
    (hinit : ∀ x, init = some x → x ≤ 65535) (hp : ∀ p ∈ ports, p ≤ 65535)
    (h : ports.foldl (fun (m : Option Nat) p => some (match m with | some x => max x p | none => p)) init = some hi) :
    hi ≤ 65535 := by
  induction ports generalizing init with
  | nil => simp at h; exact hinit hi h
  | cons p ps ih =>
    simp only [List.foldl_cons] at h
    refine ih _ ?_ (fun q hq => hp q (by simp [hq])) h
    intro x hx
    have hp' := hp p (by simp)
    cases init with
    | none => simp at hx; omega
    | some y => have := hinit y rfl; simp at hx; omega

theorem newInWks_length (addr : List UInt8) (proto : Nat) (ports : List Nat) (h4 : addr.length = 4)
    (hp : ∀ p ∈ ports, p ≤ 65535) :
    5 ≤ (newInWks addr proto ports).length ∧ (newInWks addr proto ports).length ≤ 65535 := by
  unfold newInWks newInWksWith
  simp only [List.length_append, List.length_cons, Array.length_toList, foldl_modify_size, Array.size_replicate, h4]
  split
  · next hi heq =>
    have := foldl_max_le ports none hi (by simp) hp heq
    have h8 : hi / 8 ≤ 8191 := by
      have := Nat.div_le_div_right (c := 8) this
      omega
    refine ⟨by omega, ?_⟩
    calc 4 + (hi / 8 + 1 + 1) ≤ 4 + (8191 + 1 + 1) := by omega
      _ ≤ 65535 := by omega
  · omega

theorem parseU16_nil : parseU16 [] = none := rfl


theorem wksLoop_good (startLine : Nat) (st : St) (ports : List Nat) (n : Nat)
    (hports : ∀ p ∈ ports, p ≤ 65535) :
    Good (wksLoop startLine st ports n) st.inp.length (fun ps => ∀ p ∈ ps, p ≤ 65535) := by
  fun_induction wksLoop startLine st ports n
  case case2 => exact (by decide : Kind.WksTooLong ≠ .ModelStuck)
  case case1 st ports n st1 h =>
    exact ⟨by simpa using hports, fieldOrEol_le h⟩
  case case3 st ports n st1 hf hn p st2 hr hlt ih =>
    have hp : p ≤ 65535 := by
      have g := T_readU16 .InvalidInt (by decide) st1
      rw [hr] at g; exact g.1
    refine (ih ?_).weaken (by omega) (fun _ h => h)
    intro q hq
    simp at hq
    rcases hq with rfl | hq
    · exact hp
    · exact hports q hq
  case case4 st ports n st1 hf hn p st2 hr hnlt =>
    -- a round that consumed nothing: impossible
    have h1 := fieldOrEol_le hf
    have g := TS_readField parseU16 .InvalidInt (by decide) parseU16_nil st1
    rw [hr] at g
    have := g.2
    omega
  case case5 st ports n st1 hf hn e hr =>
    have g := T_readU16 .InvalidInt (by decide) st1
    rw [hr] at g; exact g
  case case6 st ports n st1 hf hn hr =>
    have g := T_readU16 .InvalidInt (by decide) st1
    rw [hr] at g; exact g
  case case7 st ports n e h =>
    have g := fieldOrEol_good true st.inp st.line st.paren
    rw [h] at g; exact g
  case case8 st ports n h =>
    have g := fieldOrEol_good true st.inp st.line st.paren
    rw [h] at g; exact g

theorem T_expectCI (f : List UInt8) : T (liftB (expectFieldCI f)) (fun _ => True) :=
  T_liftB (expectFieldImpl_le eqIgnoreCase f)

theorem T_expectExact (f : List UInt8) : T (liftB (expectField f)) (fun _ => True) :=
  T_liftB (expectFieldImpl_le (· == ·) f)

theorem T_inWksRdataBody : T inWksRdataBody (AcceptedBy "validate_as_in_wks") := by
  unfold inWksRdataBody
  refine T_bind T_getLine ?_; intro startLine _
  refine T_then_gap (T_readIpv4 _ (by decide)) (by decide) ?_; intro addr ha
  have jp : ∀ proto : Nat, T (do
      let ports ← fun st => wksLoop startLine st [] 0
      mkRdata (newInWks addr proto ports)) (AcceptedBy "validate_as_in_wks") := by
    intro proto
    refine T_bind (Q := fun (ps : List Nat) => ∀ p ∈ ps, p ≤ 65535)
      (fun st => wksLoop_good startLine st [] 0 (by simp)) ?_
    intro ports hp
    have := newInWks_length addr proto ports ha hp
    exact T_mkRdata this.2 ⟨validateAsInWks, by simp [validateHandler], inWks_valid this.1⟩
  refine T_bind (T_expectCI _) ?_; intro b _
  dsimp only
  split
  · refine T_bind (T_pure (Q := fun _ => True) trivial) ?_; intro proto _; exact jp proto
  · refine T_bind (T_expectCI _) ?_; intro b2 _
    split
    · refine T_bind (T_pure (Q := fun _ => True) trivial) ?_; intro proto _; exact jp proto
    · refine T_bind ((T_readField parseU8 _ (by decide)).weaken (fun _ _ => trivial)) ?_
      intro proto _; exact jp proto

/-! ### TXT -/

theorem atFieldEnd_quote (rest : List UInt8) : atFieldEnd (34 :: rest) = false := by
  simp [atFieldEnd, eolLen, endsField, isWs]

/-- a string read at a field end is empty and consumes nothing -/
theorem parseString_at_field_end {max : Nat} {tooLong eofKind : Kind} {st st' : St} {s : List UInt8}
    (hfe : atFieldEnd st.inp = true) (h : parseString max tooLong eofKind st = .ok (s, st')) :
    st'.inp = st.inp := by
  unfold parseString at h
  split at h
  · next rest heq => rw [heq, atFieldEnd_quote] at hfe; cases hfe
  · unfold unquotedLoop at h
    simp [hfe] at h
    obtain ⟨_, rfl⟩ := h
    rfl

theorem txtLoop_good (startLine : Nat) (st : St) (acc : List UInt8)
    (hacc : ∃ es, (∀ e ∈ es, e.length ≤ 255) ∧ acc.reverse = flatCS es) :
    Good (txtLoop startLine st acc) st.inp.length
      (fun rd => rd.length ≤ 65535 ∧ ∃ es, es ≠ [] ∧ (∀ e ∈ es, e.length ≤ 255) ∧ rd = flatCS es) := by
  fun_induction txtLoop startLine st acc
  case case1 => exact (by decide : Kind.TxtTooLong ≠ .ModelStuck)
  case case2 st acc cs st1 hs hlen acc' st2 hf =>
    -- the last string
    obtain ⟨es, hes, hrev⟩ := hacc
    have g := T_parseCharacterString st
    rw [hs] at g
    have h1 := fieldOrEol_le hf
    refine ⟨⟨?_, es ++ [cs], by simp, ?_, ?_⟩, by have := g.2; omega⟩
    · simp [acc']; omega
    · intro e he
      simp at he
      rcases he with he | rfl
      · exact hes e he
      · exact g.1
    · simp [acc', hrev, flatCS, encCS]
  case case3 st acc cs st1 hs hlen acc' st2 hf hlt ih =>
    obtain ⟨es, hes, hrev⟩ := hacc
    have g := T_parseCharacterString st
    rw [hs] at g
    refine (ih ⟨es ++ [cs], ?_, ?_⟩).weaken (by omega) (fun _ h => h)
    · intro e he
      simp at he
      rcases he with he | rfl
      · exact hes e he
      · exact g.1
    · simp [acc', hrev, flatCS, encCS]
  case case4 st acc cs st1 hs hlen st2 hf hnlt =>
    -- a round that consumed nothing: impossible
    have h1 := fieldOrEol_le hf
    have g := T_parseCharacterString st
    rw [hs] at g
    have hle := g.2
    cases hfe : atFieldEnd st.inp
    · have := parseString_strict (by decide) (by decide) hfe hs
      omega
    · have e := parseString_at_field_end hfe hs
      have := fieldOrEol_field_strict (by rw [e]; exact hfe) hf
      rw [e] at this
      omega
  case case5 st acc cs st1 hs hlen e h =>
    have g := fieldOrEol_good true st1.inp st1.line st1.paren
    rw [h] at g; exact g
  case case6 st acc cs st1 hs hlen h =>
    have g := fieldOrEol_good true st1.inp st1.line st1.paren
    rw [h] at g; exact g
  case case7 st acc e h =>
    have g := T_parseCharacterString st
    rw [h] at g; exact g
  case case8 st acc h =>
    have g := T_parseCharacterString st
    rw [h] at g; exact g

theorem T_txtRdataBody : T txtRdataBody (AcceptedBy "validate_as_txt") := by
  unfold txtRdataBody
  refine T_bind T_getLine ?_; intro startLine _
  refine T_bind (fun st => txtLoop_good startLine st [] ⟨[], by simp, by simp [flatCS]⟩) ?_
  intro rd ⟨hlen, es, hne, hes, he⟩
  subst he
  exact T_mkRdata hlen ⟨validateAsTxt, by simp [validateHandler], txt_valid hne hes⟩

/-! ### RFC 3597 generic form -/

theorem readFieldOctet_lt {st st' : St} {d : UInt8} (h : readFieldOctet st = some (d, st')) :
    st'.inp.length < st.inp.length := by
  unfold readFieldOctet at h
  split at h
  · cases h
  · split at h
    · cases h
    · next c rest heq => cases h; simp [heq]

theorem T_parseHexDigit : T parseHexDigit (fun _ => True) := by
  intro st
  unfold parseHexDigit
  cases h : readFieldOctet st with
  | none => simp [Good, fail]
  | some p =>
    obtain ⟨d, st'⟩ := p
    have := readFieldOctet_lt h
    simp only
    split
    · simp [Good]; omega
    · simp [Good, fail]

theorem T_hexDigits (n : Nat) (acc : List UInt8) :
    T (hexDigits n acc) (fun rd => rd.length = acc.length + n) := by
  induction n generalizing acc with
  | zero => unfold hexDigits; exact T_pure (by simp)
  | succ n ih =>
    unfold hexDigits
    refine T_bind T_parseHexDigit ?_; intro hi _
    refine T_bind T_parseHexDigit ?_; intro lo _
    exact (ih _).weaken (fun rd h => by simp at h; omega)

theorem T_parseUnknownRdataImpl : T parseUnknownRdataImpl (fun r => r.2.length ≤ 65535) := by
  unfold parseUnknownRdataImpl
  refine T_bind (T_skipToNextField _ (by decide)) ?_; intro _ _
  refine T_bind (T_readU16 _ (by decide)) ?_; intro len hlen
  have jp : ∀ res : Nat × List UInt8, res.2.length ≤ 65535 → T (do
      expectEol
      pure res) (fun r => r.2.length ≤ 65535) := by
    intro res hres
    refine T_bind T_expectEol ?_; intro _ _
    exact T_pure hres
  dsimp only
  split
  · refine T_bind (Q := fun (r : Nat × List UInt8) => r.2.length ≤ 65535) ?_ jp
    refine T_bind T_getLine ?_; intro l _
    exact T_pure (by simp)
  · refine T_bind (T_skipToNextField _ (by decide)) ?_; intro _ _
    refine T_bind T_getLine ?_; intro l _
    refine T_bind (T_hexDigits len []) ?_; intro rd hrd
    refine T_bind (T_mkRdata (Q := fun r => r.length ≤ 65535) (by simp at hrd; omega) (by simp at hrd; omega)) ?_
    intro rd' hrd'
    refine T_bind (T_pure (Q := fun (r : Nat × List UInt8) => r.2.length ≤ 65535) hrd') jp

theorem T_parseUnknownRdata : T parseUnknownRdata (fun rd => rd.length ≤ 65535) := by
  unfold parseUnknownRdata
  refine T_bind T_parseUnknownRdataImpl ?_; intro r hr
  exact T_pure hr

/-- the `\#` form: the RDATA is checked by the handler's validator -/
theorem T_parseUnknownRdataWithValidation {v : String} (hv : v ∈ knownValidators) :
    T (parseUnknownRdataWithValidation v) (AcceptedBy v) := by
  unfold parseUnknownRdataWithValidation
  refine T_bind T_parseUnknownRdataImpl ?_; intro r hr
  obtain ⟨f, hf⟩ := knownValidators_some hv
  simp only [hf]
  cases hres : f r.2.toArray with
  | ok u => exact T_pure ⟨f, hf, by cases u; exact hres⟩
  | err e => exact T_failAt (by decide)
  | panic => exact absurd hres (validateHandler_ne_panic hv hf _)

theorem T_checkBackslashHash (k : Kind) (hk : k ≠ .ModelStuck) : T (checkBackslashHash k) (fun _ => True) := by
  unfold checkBackslashHash
  refine T_bind (T_skipToNextField k hk) ?_; intro _ _
  exact T_expectExact _

/-! ### handlers and dispatch -/

/-- the validator a handler applies to RDATA in `\#` form (generated table `rdataHandlers`) -/
def validatorFor (h : String) : String :=
  match Gen.rdataHandlers.find? (fun x => x.1 == h) with
  | some x => x.2.2
  | none => ""

/-- the handlers named in the generated `parse_rdata` table -/
def handlerNames : List String := Gen.parseRdataArms.map (·.2.2)

/-- the two facts about the generated tables on which the dispatch rests: every handler that
    `parse_rdata` names has a row in `rdataHandlers`, and every row names a validator of the RDATA
    model and an error kind of the parser -/
theorem handlers_found : ∀ h ∈ handlerNames, (Gen.rdataHandlers.find? (fun x => x.1 == h)).isSome = true := by
  decide +kernel

theorem handlers_known :
    ∀ x ∈ Gen.rdataHandlers, x.2.2 ∈ knownValidators ∧ kindOfString x.2.1 ≠ .ModelStuck := by decide +kernel

/-- the row of a handler named in the `parse_rdata` table -/
theorem handler_lookup {h : String} (hh : h ∈ handlerNames) :
    ∃ e, Gen.rdataHandlers.find? (fun x => x.1 == h) = some (h, e, validatorFor h) ∧
      validatorFor h ∈ knownValidators ∧ kindOfString e ≠ .ModelStuck := by
  have hsome := handlers_found h hh
  cases hf : Gen.rdataHandlers.find? (fun x => x.1 == h) with
  | none => rw [hf] at hsome; cases hsome
  | some x =>
    obtain ⟨n, e, v⟩ := x
    obtain rfl : n = h := by simpa using List.find?_some hf
    have hv : validatorFor n = v := by simp [validatorFor, hf]
    exact ⟨e, by rw [hv], hv ▸ handlers_known _ (List.mem_of_find?_eq_some hf)⟩

/-! `handlerBody` on the handler names of the source -/

theorem handlerBody_name (ctx : Ctx) : handlerBody "parse_name_rdata" ctx = nameRdataBody ctx := by simp [handlerBody]
theorem handlerBody_inA (ctx : Ctx) : handlerBody "parse_in_a_rdata" ctx = inARdataBody := by simp [handlerBody]
theorem handlerBody_chA (ctx : Ctx) : handlerBody "parse_ch_a_rdata" ctx = chARdataBody ctx := by simp [handlerBody]
theorem handlerBody_soa (ctx : Ctx) : handlerBody "parse_soa_rdata" ctx = soaRdataBody ctx := by simp [handlerBody]
theorem handlerBody_inWks (ctx : Ctx) : handlerBody "parse_in_wks_rdata" ctx = inWksRdataBody := by simp [handlerBody]
theorem handlerBody_hinfo (ctx : Ctx) : handlerBody "parse_hinfo_rdata" ctx = hinfoRdataBody := by simp [handlerBody]
theorem handlerBody_minfo (ctx : Ctx) : handlerBody "parse_minfo_rdata" ctx = minfoRdataBody ctx := by simp [handlerBody]
theorem handlerBody_mx (ctx : Ctx) : handlerBody "parse_mx_rdata" ctx = mxRdataBody ctx := by simp [handlerBody]
theorem handlerBody_txt (ctx : Ctx) : handlerBody "parse_txt_rdata" ctx = txtRdataBody := by simp [handlerBody]
theorem handlerBody_inAaaa (ctx : Ctx) : handlerBody "parse_in_aaaa_rdata" ctx = inAaaaRdataBody := by simp [handlerBody]
theorem handlerBody_inSrv (ctx : Ctx) : handlerBody "parse_in_srv_rdata" ctx = inSrvRdataBody ctx := by simp [handlerBody]

/-- the typed body of each handler builds RDATA that the validator of its row accepts -/
theorem T_handlerBody {row : String × String × String} (hrow : row ∈ Gen.rdataHandlers) {ctx : Ctx}
    (hctx : CtxWF ctx) : T (handlerBody row.1 ctx) (AcceptedBy row.2.2) := by
  simp only [Gen.rdataHandlers, List.mem_cons, List.mem_nil_iff, or_false] at hrow
  rcases hrow with rfl | rfl | rfl | rfl | rfl | rfl | rfl | rfl | rfl | rfl | rfl
  all_goals dsimp only
  · rw [handlerBody_chA]; exact T_chARdataBody hctx
  · rw [handlerBody_hinfo]; exact T_hinfoRdataBody
  · rw [handlerBody_inA]; exact T_inARdataBody
  · rw [handlerBody_inAaaa]; exact T_inAaaaRdataBody
  · rw [handlerBody_inSrv]; exact T_inSrvRdataBody hctx
  · rw [handlerBody_inWks]; exact T_inWksRdataBody
  · rw [handlerBody_minfo]; exact T_minfoRdataBody hctx
  · rw [handlerBody_mx]; exact T_mxRdataBody hctx
  · rw [handlerBody_name]; exact T_nameRdataBody hctx
  · rw [handlerBody_soa]; exact T_soaRdataBody hctx
  · rw [handlerBody_txt]; exact T_txtRdataBody

/-- every handler of the dispatch table yields RDATA its validator accepts, in typed and in
    generic form -/
theorem T_runHandler {name : String} (hname : name ∈ handlerNames) {ctx : Ctx} (hctx : CtxWF ctx) :
    T (runHandler name ctx) (AcceptedBy (validatorFor name)) := by
  obtain ⟨e, hfind, hv, hk⟩ := handler_lookup hname
  unfold runHandler
  rw [hfind]
  refine T_bind (T_checkBackslashHash _ hk) ?_
  intro b _
  split
  · exact T_parseUnknownRdataWithValidation hv
  · exact T_handlerBody (List.mem_of_find?_eq_some hfind) hctx

/-- two generated dispatch tables agree arm by arm: same type patterns, same class guards, and
    the second table's handler is the image of the first's under `vOf` -/
def agree (vOf : String → String) :
    List (List Nat × Option Nat × String) → List (List Nat × Option Nat × String) → Bool
  | [], _ => true
  | _ :: _, [] => false
  | x :: xs, y :: ys => x.1 == y.1 && x.2.1 == y.2.1 && vOf x.2.2 == y.2.2 && agree vOf xs ys

/-- the class guard of a dispatch arm admits class `c` -/
def guardOK (g : Option Nat) (c : Nat) : Bool :=
  match g with
  | none => true
  | some k => c == k

theorem lookup_cons (tys : List Nat) (g : Option Nat) (h : String)
    (rest : List (List Nat × Option Nat × String)) (dflt : String) (c t : Nat) :
    Rdata.lookup ((tys, g, h) :: rest) dflt c t =
      if (tys.contains t && guardOK g c) = true then h
      else Rdata.lookup rest dflt c t := by
  cases g <;> rfl

theorem lookup_agree (vOf : String → String) (dflt : String) (cls ty : Nat)
    (a1 a2 : List (List Nat × Option Nat × String)) (h : agree vOf a1 a2 = true) :
    match a1.find? (armMatches cls ty) with
    | some a => Rdata.lookup a2 dflt cls ty = vOf a.2.2
    | none => Rdata.lookup a2 dflt cls ty = Rdata.lookup (a2.drop a1.length) dflt cls ty := by
  induction a1 generalizing a2 with
  | nil => simp
  | cons x xs ih =>
    cases a2 with
    | nil => simp [agree] at h
    | cons y ys =>
      simp only [agree, Bool.and_eq_true, beq_iff_eq] at h
      obtain ⟨⟨⟨h1, h2⟩, h3⟩, h4⟩ := h
      obtain ⟨ty1, g1, n1⟩ := x
      obtain ⟨ty2, g2, n2⟩ := y
      simp only at h1 h2 h3
      subst h1 h2
      have hguard : armMatches cls ty (ty1, g1, n1) = (ty1.contains ty && guardOK g1 cls) := by
        unfold armMatches guardOK
        cases g1 with
        | none => rfl
        | some g => simp only; rw [Bool.beq_comm]
      rw [List.find?_cons, hguard, lookup_cons]
      generalize (ty1.contains ty && guardOK g1 cls) = b
      cases b
      · simp only [List.length_cons, List.drop_succ_cons, Bool.false_eq_true, ↓reduceIte]
        exact ih ys h4
      · simp only [↓reduceIte]
        exact h3.symm

theorem tables_agree : agree validatorFor Gen.parseRdataArms Gen.rdataValidateArms = true := by decide +kernel

theorem findArm_mem {cls ty : Nat} {h : String} (hf : findArm cls ty = some h) : h ∈ handlerNames := by
  unfold findArm at hf
  split at hf
  · next a ha =>
    cases hf
    exact List.mem_map.mpr ⟨a, List.mem_of_find?_eq_some ha, rfl⟩
  · cases hf

/-- the `parse_rdata` dispatch and the `Rdata::validate` dispatch select matching
    handler / validator pairs for every class and type -/
theorem dispatch_agree {cls ty : Nat} {h : String} (hf : findArm cls ty = some h) :
    Rdata.lookup Gen.rdataValidateArms Gen.rdataValidateDefault cls ty = validatorFor h := by
  have := lookup_agree validatorFor Gen.rdataValidateDefault cls ty _ _ tables_agree
  unfold findArm at hf
  split at hf
  · next a ha => cases hf; rw [ha] at this; exact this
  · cases hf

theorem dispatch_default {cls ty : Nat} (hf : findArm cls ty = none) (h41 : ty ≠ 41) (h250 : ty ≠ 250) :
    Rdata.lookup Gen.rdataValidateArms Gen.rdataValidateDefault cls ty = "ok" := by
  have := lookup_agree validatorFor Gen.rdataValidateDefault cls ty _ _ tables_agree
  unfold findArm at hf
  split at hf
  · cases hf
  · next ha =>
    rw [ha] at this
    rw [this]
    simp [Gen.parseRdataArms, Gen.rdataValidateArms, Rdata.lookup, Gen.rdataValidateDefault, h41, h250]

/-- `parse_rdata`: the RDATA it returns passes `Rdata::validate` for the record's class and type -/
theorem T_parseRdata {ctx : Ctx} (hctx : CtxWF ctx) (cls ty : Nat) (h41 : ty ≠ 41) (h250 : ty ≠ 250) :
    T (parseRdata ctx cls ty) (fun rd => validate cls ty rd = .ok ()) := by
  unfold parseRdata
  split
  · next h hf =>
    refine (T_runHandler (findArm_mem hf) hctx).weaken ?_
    intro rd ⟨f, hfv, hok⟩
    unfold validate Rdata.validate
    rw [dispatch_agree hf, hfv]
    exact hok
  · next hf =>
    refine T_bind (T_checkBackslashHash _ (by decide)) ?_; intro b _
    split
    · exact T_fail (by decide)
    · refine T_parseUnknownRdata.weaken ?_
      intro rd _
      unfold validate Rdata.validate
      rw [dispatch_default hf h41 h250]
      simp [validateHandler]

end QV.ZF
