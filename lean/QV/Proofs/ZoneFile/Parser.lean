/-
  QV.Proofs.ZoneFile.Parser — records, directives, lines, the iterator: totality (no panic, no
  `ModelStuck`), progress, validity of everything yielded, the error latch.
-/
import QV.Proofs.ZoneFile.Force
import QV.Proofs.ZoneFile.Record

namespace QV.ZF
open QV QV.Wire QV.Rdata

/-- what C24 demands of a yielded item -/
def ItemOK : Item → Prop
  | .record _ r => NameWF r.owner ∧ r.ty ≠ 10 ∧ r.ty ≠ 41 ∧ r.ty ≠ 250 ∧ validate r.cls r.ty r.rdata = .ok ()
  | .incl _ _ origin => ∀ o, origin = some o → NameWF o

/-! ### TTL / class / type -/

theorem T_parseTtl : T parseTtl (fun _ => True) := by
  unfold parseTtl
  refine T_bind (T_readU32 _ (by decide)) ?_; intro _ _
  exact T_pure trivial

theorem T_parseClassField : T parseClassField (fun _ => True) :=
  (T_readField parseClass _ (by decide)).weaken (fun _ _ => trivial)

theorem T_parseTtlAndClass (ctx : Ctx) : T (parseTtlAndClass ctx) (fun _ => True) := by
  unfold parseTtlAndClass
  refine T_bind (T_tryP T_parseTtl) ?_; intro o _
  split
  · refine T_bind (T_skipToNextField _ (by decide)) ?_; intro _ _
    refine T_bind (T_tryP T_parseClassField) ?_; intro o2 _
    split
    · exact T_pure trivial
    · split
      · exact T_pure trivial
      · exact T_fail (by decide)
  · refine T_bind (T_tryP T_parseClassField) ?_; intro o2 _
    split
    · refine T_bind (T_skipToNextField _ (by decide)) ?_; intro _ _
      refine T_bind (T_tryP T_parseTtl) ?_; intro o3 _
      split
      · exact T_pure trivial
      · split
        · exact T_pure trivial
        · exact T_fail (by decide)
    · split
      · exact T_pure trivial
      · exact T_fail (by decide)
      · exact T_fail (by decide)

theorem parseType_nil : parseType [] = none := by decide +kernel

theorem parseTypeRejected_kinds : ∀ r ∈ Gen.parseTypeRejected, kindOfString r.2 ≠ .ModelStuck := by decide +kernel

/-- `parse_type`: consumes at least one octet and never returns NULL, OPT or TSIG -/
theorem TS_parseTypeField : TS parseTypeField (fun ty => ty ≠ 10 ∧ ty ≠ 41 ∧ ty ≠ 250) := by
  unfold parseTypeField
  refine TS_bind_right T_getLine ?_; intro line _
  refine TS_bind_left (TS_readField parseType _ (by decide) parseType_nil) ?_; intro ty _
  split
  · next r hr => exact T_failAt (parseTypeRejected_kinds r (List.mem_of_find?_eq_some hr))
  · next hnone =>
    -- no row of the table of rejected types has this type
    have hrow : ∀ r ∈ Gen.parseTypeRejected, r.1 ≠ ty := fun r hr => by
      simpa using List.find?_eq_none.mp hnone r hr
    exact T_pure ⟨fun e => hrow (10, "NullNotAllowed") (by decide) e.symm,
      fun e => hrow (41, "OptNotAllowed") (by decide) e.symm, fun e => hrow (250, "TsigNotAllowed") (by decide) e.symm⟩

/-! ### records -/

theorem TS_parseRecordRest {ctx : Ctx} (hctx : CtxWF ctx) (startLine : Nat) (lw : Bool) :
    TS (parseRecordRest ctx startLine lw)
      (fun r => (∃ it, r.1 = some it ∧ ItemOK it) ∧ CtxWF r.2) := by
  unfold parseRecordRest
  have jp : ∀ owner, NameWF owner → TS (recordRest ctx startLine owner)
      (fun r => (∃ it, r.1 = some it ∧ ItemOK it) ∧ CtxWF r.2) := by
    intro owner hown
    unfold recordRest
    refine TS_bind_right (T_skipToNextField _ (by decide)) ?_; intro _ _
    refine TS_bind_right (T_parseTtlAndClass ctx) ?_; intro tc _
    obtain ⟨ttl, cls⟩ := tc
    simp only
    refine TS_bind_right (T_skipToNextField _ (by decide)) ?_; intro _ _
    refine TS_bind_left TS_parseTypeField ?_; intro ty hty
    refine T_bind (T_parseRdata hctx cls ty hty.2.1 hty.2.2) ?_; intro rd hrd
    refine T_pure ⟨⟨_, rfl, hown, hty.1, hty.2.1, hty.2.2, hrd⟩, ?_, ?_⟩
    · exact hctx.1
    · intro o ho; simp at ho; subst ho; exact hown
  dsimp only
  split
  · split
    · next o ho =>
      refine TS_bind_right (T_pure (Q := NameWF) (hctx.2 o ho)) ?_
      intro owner hown; exact jp owner hown
    · refine TS_bind_right (T_failAt (Q := NameWF) (by decide)) ?_
      intro owner hown; exact jp owner hown
  · refine TS_bind_right (T_pName hctx) ?_
    intro owner hown; exact jp owner hown

theorem parseRecordOrEmpty_eq (ctx : Ctx) (st : St) :
    parseRecordOrEmpty ctx st =
      match fieldOrEol true (skipWhitespace st).2.inp (skipWhitespace st).2.line (skipWhitespace st).2.paren with
      | .ok (r, st2) =>
        (if (r == FieldOrEol.Eol) = true then (pure (none, ctx) : P (Option Item × Ctx))
         else parseRecordRest ctx st.line (skipWhitespace st).1) st2
      | .err e => .err e
      | .panic => .panic := by
  unfold parseRecordOrEmpty
  simp only [bind, P.bind, getLine, liftB, skipToNextFieldOrThroughEol]
  cases fieldOrEol true (skipWhitespace st).2.inp (skipWhitespace st).2.line (skipWhitespace st).2.paren <;> rfl

theorem skipWhitespace_nonempty {st : St} (hne : st.inp ≠ []) :
    (skipWhitespace st).2.inp ≠ [] ∨ (skipWhitespace st).2.inp.length < st.inp.length := by
  cases h : (skipWhitespace st).2.inp with
  | nil => right; cases hi : st.inp with
    | nil => exact absurd hi hne
    | cons c r => simp
  | cons c r => left; simp

/-- a line that is not a directive: progress and validity -/
theorem parseRecordOrEmpty_good {ctx : Ctx} (hctx : CtxWF ctx) (st : St) (hne : st.inp ≠ []) :
    GoodS (parseRecordOrEmpty ctx st) st.inp.length
      (fun r => (∀ it, r.1 = some it → ItemOK it) ∧ CtxWF r.2) := by
  rw [parseRecordOrEmpty_eq]
  have hws := skipWhitespace_le st
  cases hf : fieldOrEol true (skipWhitespace st).2.inp (skipWhitespace st).2.line (skipWhitespace st).2.paren with
  | ok p =>
    obtain ⟨r, st2⟩ := p
    simp only
    have hle := fieldOrEol_le hf
    cases r with
    | Eol =>
      simp only [beq_self_eq_true, ↓reduceIte, pure, P.pure, GoodS]
      refine ⟨⟨by simp, hctx⟩, ?_⟩
      rcases skipWhitespace_nonempty hne with h1 | h1
      · cases hi : (skipWhitespace st).2.inp with
        | nil => exact absurd hi h1
        | cons c rest =>
          rw [hi] at hf
          have := fieldOrEol_eol_strict hf
          rw [hi] at hws; simp at this hws; omega
      · omega
    | Field =>
      have hb : ((FieldOrEol.Field == FieldOrEol.Eol) = true) = False := by simp
      simp only [hb, ↓reduceIte]
      have g := TS_parseRecordRest hctx st.line (skipWhitespace st).1 st2
      unfold GoodS at g ⊢
      split
      · next a st' heq =>
        rw [heq] at g
        refine ⟨⟨?_, g.1.2⟩, by have := g.2; omega⟩
        intro it hit
        obtain ⟨it', h1, h2⟩ := g.1.1
        rw [hit] at h1; cases h1; exact h2
      · next e heq => rw [heq] at g; exact g
      · next heq => rw [heq] at g; exact g
  | err e =>
    have g := fieldOrEol_good true (skipWhitespace st).2.inp (skipWhitespace st).2.line (skipWhitespace st).2.paren
    rw [hf] at g
    simpa [GoodS, Good] using g
  | panic =>
    have g := fieldOrEol_good true (skipWhitespace st).2.inp (skipWhitespace st).2.line (skipWhitespace st).2.paren
    rw [hf] at g
    simp [Good] at g

/-! ### directives -/

theorem T_parseOriginDirective {ctx : Ctx} (hctx : CtxWF ctx) : T (parseOriginDirective ctx) CtxWF := by
  unfold parseOriginDirective
  refine T_bind (T_skipToNextField _ (by decide)) ?_; intro _ _
  refine T_bind (T_pName hctx) ?_; intro name hn
  refine T_bind T_expectEol ?_; intro _ _
  refine T_pure ⟨?_, hctx.2⟩
  intro o ho; simp at ho; subst ho; exact hn

theorem T_parseTtlDirective {ctx : Ctx} (hctx : CtxWF ctx) : T (parseTtlDirective ctx) CtxWF := by
  unfold parseTtlDirective
  refine T_bind (T_skipToNextField _ (by decide)) ?_; intro _ _
  refine T_bind (T_readU32 _ (by decide)) ?_; intro ttl _
  refine T_bind T_expectEol ?_; intro _ _
  exact T_pure ⟨hctx.1, hctx.2⟩

theorem T_parseIncludeDirective {ctx : Ctx} (hctx : CtxWF ctx) : T (parseIncludeDirective ctx) ItemOK := by
  unfold parseIncludeDirective
  refine T_bind T_getLine ?_; intro line _
  refine T_bind (T_skipToNextField _ (by decide)) ?_; intro _ _
  refine T_bind ((T_parseString _ _ _ (by decide) (by decide)).weaken (fun _ _ => trivial)) ?_; intro path _
  refine T_bind T_skipThrough ?_; intro r _
  split
  · exact T_pure hctx.1
  · refine T_bind (T_pName hctx) ?_; intro origin ho
    refine T_bind T_expectEol ?_; intro _ _
    refine T_pure ?_
    intro o h; simp at h; subst h; exact ho

/-- `if expect_field_case_insensitive(f)? { A } else { B }`: a match consumes `f` -/
theorem TS_expect_ite {α} {f : List UInt8} (hf : 0 < f.length) {A B : P α} {Q : α → Prop}
    (hA : T A Q) (hB : TS B Q) :
    TS (liftB (expectFieldCI f) >>= fun b => if b = true then A else B) Q := by
  intro st
  simp only [bind, P.bind, liftB]
  have hle := expectFieldImpl_le eqIgnoreCase f st
  cases hb : (expectFieldCI f st).1
  · simp only [Bool.false_eq_true, ↓reduceIte]
    have g := hB (expectFieldCI f st).2
    unfold GoodS at g ⊢
    unfold expectFieldCI at g ⊢
    split <;> simp_all
    omega
  · simp only [↓reduceIte]
    have hlt := expectFieldImpl_true_lt eqIgnoreCase f st hf hb
    have g := hA (expectFieldCI f st).2
    unfold Good at g
    unfold GoodS
    unfold expectFieldCI at g ⊢
    split <;> simp_all
    omega

theorem TS_parseDirective {ctx : Ctx} (hctx : CtxWF ctx) :
    TS (parseDirective ctx) (fun r => (∀ it, r.1 = some it → ItemOK it) ∧ CtxWF r.2) := by
  unfold parseDirective
  refine TS_expect_ite (by decide +kernel) ?_ ?_
  · refine T_bind (T_parseOriginDirective hctx) ?_; intro ctx' h'
    exact T_pure ⟨by simp, h'⟩
  · refine TS_expect_ite (by decide +kernel) ?_ ?_
    · refine T_bind (T_parseTtlDirective hctx) ?_; intro ctx' h'
      exact T_pure ⟨by simp, h'⟩
    · refine TS_expect_ite (by decide +kernel) ?_ ?_
      · refine T_bind (T_parseIncludeDirective hctx) ?_; intro item hi
        refine T_pure ⟨?_, hctx⟩
        intro it h; simp at h; subst h; exact hi
      · exact TS_fail (by decide)

/-! ### lines -/

theorem parseLine_good {ctx : Ctx} (hctx : CtxWF ctx) (st : St) (hne : st.inp ≠ []) :
    GoodS (parseLine ctx st) st.inp.length (fun r => (∀ it, r.1 = some it → ItemOK it) ∧ CtxWF r.2) := by
  unfold parseLine
  split
  · split
    · exact TS_parseDirective hctx st
    · exact parseRecordOrEmpty_good hctx st hne
  · next h => exact absurd h hne

/-- outcome of `parse_lines_until_returnable_data_found`: at most `n` octets left, fewer if an item was found -/
def UGood (r : R (Option Item × Ctx)) (n : Nat) : Prop :=
  GoodO r fun x => CtxWF x.1.2 ∧ x.2.inp.length ≤ n ∧ ∀ it, x.1.1 = some it → ItemOK it ∧ x.2.inp.length < n

theorem UGood.weaken {r : R (Option Item × Ctx)} {n m : Nat} (h : UGood r n) (hnm : n ≤ m) : UGood r m :=
  h.imp fun _ hb => ⟨hb.1, Nat.le_trans hb.2.1 hnm, fun it hit => ⟨(hb.2.2 it hit).1, Nat.lt_of_lt_of_le (hb.2.2 it hit).2 hnm⟩⟩

theorem untilData_good (ctx : Ctx) (hctx : CtxWF ctx) (st : St) : UGood (untilData ctx st) st.inp.length := by
  fun_induction untilData ctx st
  case case1 ctx st h =>
    simp only [UGood, GoodO]
    exact ⟨hctx, Nat.le_refl _, by simp⟩
  case case2 ctx st c rest h item ctx' st' hp =>
    have g := parseLine_good hctx st (by simp [h])
    rw [hp] at g
    simp only [UGood, GoodO]
    exact ⟨g.1.2, by have := g.2; omega, fun it hit => by cases hit; exact ⟨g.1.1 _ rfl, g.2⟩⟩
  case case3 ctx st c rest h ctx' st' hp hlt ih =>
    have g := parseLine_good hctx st (by simp [h])
    rw [hp] at g
    exact (ih g.1.2).weaken (by omega)
  case case4 ctx st c rest h ctx' st' hp hnlt =>
    have g := parseLine_good hctx st (by simp [h])
    rw [hp] at g
    exact absurd g.2 hnlt
  case case5 ctx st c rest h e hp =>
    have g := parseLine_good hctx st (by simp [h])
    rw [hp] at g
    exact g
  case case6 ctx st c rest h hp =>
    have g := parseLine_good hctx st (by simp [h])
    rw [hp] at g
    exact g

/-! ### the iterator -/

/-- the shape of everything a parser may yield: valid items, then at most one error (which is
    not the model's `ModelStuck` marker) as the very last element; never a panic -/
inductive Run : List Yield → Prop
  | nil : Run []
  | item {it : Item} {rest : List Yield} : ItemOK it → Run rest → Run (.item it :: rest)
  | err {e : Err} : e.kind ≠ .ModelStuck → Run [.err e]

/-- `Parser::next` after the error latch is set -/
theorem next_latched {p : Parser} (h : p.error = true) : p.next = (none, p) := by
  unfold Parser.next; simp [h]

/-- `Parser::next` while the latch is open, by what `parse_lines_until_returnable_data_found` returns -/
theorem next_eq {p : Parser} (h : p.error = false) : p.next =
    match untilData p.ctx p.st with
    | .ok ((o, ctx'), st') => (o.map .item, ⟨false, st', ctx'⟩)
    | .err e => (some (.err e), ⟨true, p.st, p.ctx⟩)
    | .panic => (some .panic, ⟨true, p.st, p.ctx⟩) := by
  obtain ⟨e, st, ctx⟩ := p
  cases h
  simp only [Parser.next, Bool.false_eq_true, ↓reduceIte]
  cases untilData ctx st with
  | ok r => obtain ⟨⟨_ | _, _⟩, _⟩ := r <;> rfl
  | err e => rfl
  | panic => rfl

/-- what one call of `Parser::next` may return -/
def NextOK (p : Parser) (r : Option Yield × Parser) : Prop :=
  match r with
  | (none, p') => CtxWF p'.ctx
  | (some (.item it), p') => ItemOK it ∧ CtxWF p'.ctx ∧ p'.st.inp.length < p.st.inp.length
  | (some (.err e), p') => e.kind ≠ .ModelStuck ∧ p'.error = true
  | (some .panic, _) => False

theorem next_spec {p : Parser} (hctx : CtxWF p.ctx) : NextOK p p.next := by
  cases he : p.error
  · rw [next_eq he]
    have g := untilData_good p.ctx hctx p.st
    cases hu : untilData p.ctx p.st with
    | ok r =>
      obtain ⟨⟨it?, ctx'⟩, st'⟩ := r
      rw [hu] at g
      cases it? with
      | none => exact g.1
      | some item => exact ⟨(g.2.2 item rfl).1, g.1, (g.2.2 item rfl).2⟩
    | err e => rw [hu] at g; exact ⟨g, rfl⟩
    | panic => rw [hu] at g; exact g
  · rw [next_latched he]; exact hctx

/-- every context a parser reaches is well formed (on an error the context is the one before the call) -/
theorem next_ctxWF (p : Parser) (hctx : CtxWF p.ctx) : CtxWF p.next.2.ctx := by
  cases he : p.error
  · rw [next_eq he]
    have g := untilData_good p.ctx hctx p.st
    cases hu : untilData p.ctx p.st with
    | ok r => rw [hu] at g; exact g.1
    | err e => exact hctx
    | panic => exact hctx
  · rw [next_latched he]; exact hctx

/-- everything the iterator yields, for any input and any well-formed initial context -/
theorem collect_run (p : Parser) (hctx : CtxWF p.ctx) : Run (collect p) := by
  fun_induction collect p
  case case1 p p' h => exact Run.nil
  case case2 p i p' h hlt ih =>
    have g := next_spec hctx
    rw [h] at g
    exact Run.item g.1 (ih g.2.1)
  case case3 p i p' h hnlt =>
    have g := next_spec hctx
    rw [h] at g
    exact absurd g.2.2 hnlt
  case case4 p y p' hni h =>
    have g := next_spec hctx
    rw [h] at g
    cases y with
    | item i => exact absurd rfl (hni i)
    | err e =>
      simp only [NextOK] at g
      rw [next_latched g.2]
      exact Run.err g.1
    | panic => exact absurd g (by simp [NextOK])

theorem Run.no_panic {ys : List Yield} (h : Run ys) : Yield.panic ∉ ys := by
  induction h with
  | nil => simp
  | item _ _ ih => simpa using ih
  | err _ => simp

theorem Run.no_stuck {ys : List Yield} (h : Run ys) : ∀ e, Yield.err e ∈ ys → e.kind ≠ .ModelStuck := by
  induction h with
  | nil => simp
  | item _ _ ih => intro e he; simp at he; exact ih e he
  | err hk => intro e he; simp at he; subst he; exact hk

theorem Run.items_ok {ys : List Yield} (h : Run ys) : ∀ it, Yield.item it ∈ ys → ItemOK it := by
  induction h with
  | nil => simp
  | item hi _ ih =>
    intro it hit
    simp at hit
    rcases hit with rfl | hit
    · exact hi
    · exact ih it hit
  | err _ => simp

theorem Run.err_last {ys : List Yield} (h : Run ys) :
    ∀ (pre : List Yield) (e : Err) (post : List Yield), ys = pre ++ .err e :: post → post = [] := by
  induction h with
  | nil => intro pre e post h; simp at h
  | item _ _ ih =>
    intro pre e post h
    cases pre with
    | nil => simp at h
    | cons y pre' => simp at h; exact ih pre' e post h.2
  | err _ =>
    intro pre e post h
    cases pre with
    | nil => simp at h; exact h.2
    | cons y pre' => simp at h

/-! ### `RecordsOnly` -/

theorem recordsOnlyNext_latched {p : Parser} (h : p.error = true) : recordsOnlyNext p = (none, p) := by
  unfold recordsOnlyNext; rw [next_latched h]

/-- the `RecordsOnly` iterator: the same guarantees, and it never yields an `$INCLUDE` item -/
theorem collectRecordsOnly_run (p : Parser) (hctx : CtxWF p.ctx) :
    Run (collectRecordsOnly p) ∧ ∀ l path o, Yield.item (.incl l path o) ∉ collectRecordsOnly p := by
  fun_induction collectRecordsOnly p
  case case1 => exact ⟨Run.nil, by simp⟩
  case case2 p i p' h hlt ih =>
    have g := next_spec hctx
    unfold recordsOnlyNext at h
    split at h
    · cases h
    · next hne =>
      rw [h] at g
      obtain ⟨ih1, ih2⟩ := ih g.2.1
      refine ⟨Run.item g.1 ih1, ?_⟩
      intro l path o hmem
      simp at hmem
      rcases hmem with rfl | hmem
      · exact hne l path o p' h
      · exact ih2 l path o hmem
  case case3 p i p' h hnlt =>
    have g := next_spec hctx
    unfold recordsOnlyNext at h
    split at h
    · cases h
    · rw [h] at g; exact absurd g.2.2 hnlt
  case case4 p y p' hni h =>
    have g := next_spec hctx
    unfold recordsOnlyNext at h
    split at h
    · next line path o p'' hn =>
      simp only [Prod.mk.injEq, Option.some.injEq] at h
      obtain ⟨rfl, rfl⟩ := h
      rw [recordsOnlyNext_latched rfl]
      exact ⟨Run.err (by simp), by simp⟩
    · rw [h] at g
      cases y with
      | item i => exact absurd rfl (hni i)
      | err e =>
        simp only [NextOK] at g
        rw [recordsOnlyNext_latched g.2]
        exact ⟨Run.err g.1, by simp⟩
      | panic => exact absurd g (by simp [NextOK])

end QV.ZF
