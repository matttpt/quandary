/-
  QV.Proofs.ZoneFile.Fields — single fields of typed RDATA read back (C23): IPv4 addresses,
  `<character-string>`s, IPv6 addresses (groups in full, with `::`, with a dotted quad at the
  end) and the octal Chaosnet address.
-/
import QV.Proofs.ZoneFile.Mnemonic

namespace QV.ZF
open QV QV.Spec.ZF

/-! ### IPv4 addresses -/

theorem spanDigits_append {radix : Nat} (ds rest : List UInt8) (hds : ∀ c ∈ ds, (toDigit radix c).isSome = true)
    (hrest : ∀ c t, rest = c :: t → toDigit radix c = none) :
    spanDigits radix (ds ++ rest) = (ds.map fun c => (toDigit radix c).getD 0, rest) := by
  induction ds with
  | nil =>
    cases rest with
    | nil => rfl
    | cons c t => simp [spanDigits, hrest c t rfl]
  | cons c ds ih =>
    obtain ⟨d, hd⟩ := Option.isSome_iff_exists.mp (hds c (by simp))
    simp [spanDigits, hd, ih (fun x hx => hds x (by simp [hx]))]

/-- `read_number` reads a number written without leading zeros in its radix (at most `maxD + 1`
    digits, value at most `max`) up to the first octet that is not a digit -/
theorem readNumber_digits {b : Nat} {dig : Nat → UInt8} {n : Nat} {l : List UInt8} (h : Digits b dig n l) (hb : 1 < b)
    (hdig : ∀ d, d < b → toDigit b (dig d) = some d) {maxD max : Nat} (hlen : n < b ^ (maxD + 1)) (hmax : n ≤ max)
    (azp : Bool) (rest : List UInt8) (hrest : ∀ c t, rest = c :: t → toDigit b c = none) :
    readNumber b (maxD + 1) max azp (l ++ rest) = some (n, rest) := by
  have hsome : ∀ c ∈ l, (toDigit b c).isSome = true := fun c hc => by
    obtain ⟨d, hd, rfl⟩ := h.mem (by omega) c hc
    simp [hdig d hd]
  obtain ⟨vs, hvs, hvl, hv, hz⟩ : ∃ vs, spanDigits b (l ++ rest) = (vs, rest) ∧ vs.length = l.length ∧
      vs.foldl (fun a d => a * b + d) 0 = n ∧ (vs.head? == some 0 && decide (vs.length > 1)) = false := by
    refine ⟨_, spanDigits_append _ _ hsome hrest, by simp, ?_, ?_⟩
    · rw [List.foldl_map, h.fold (by omega) _ (fun d hd => by simp [hdig d hd])]; simp
    · obtain ⟨d, t, rfl, hd, h0⟩ := h.head
      by_cases hd0 : d = 0
      · simp [(h0 hd0).2]
      · simp [hdig d hd, hd0]
  have hl := h.length_le hb maxD hlen
  have e1 : (vs.length == 0) = false := by simpa [hvl] using h.ne_nil
  have e2 : ¬ vs.length > maxD + 1 := by omega
  have e4 : ¬ n > max := by omega
  unfold readNumber
  rw [hvs]
  simp only [e1, e2, hz, hv, e4, Bool.false_eq_true, ↓reduceIte, Bool.and_assoc, Bool.and_false]

theorem toDigit_digitOctet (radix : Nat) {d : Nat} (hd : d < 10) : toDigit radix (digitOctet d) = some d := by
  obtain ⟨h1, h2⟩ := digit_octet hd
  unfold isDigit at h1
  simp [toDigit, h1, h2]

theorem readNumber_decimal (n : Nat) (hn : n < 256) (rest : List UInt8)
    (hrest : ∀ c t, rest = c :: t → toDigit 10 c = none) :
    readNumber 10 3 255 false (decimal n ++ rest) = some (n, rest) :=
  readNumber_digits (decimal_digitsOf n) (by decide) (fun _ => toDigit_digitOctet 10) (by omega) (by omega) _ rest hrest

theorem quadText_length (a b c d : Nat) (ha : a ≤ 255) (hb : b ≤ 255) (hc : c ≤ 255) (hd : d ≤ 255) :
    (quadText a b c d).length ≤ 15 ∧ quadText a b c d ≠ [] := by
  have hlen : ∀ n, n ≤ 255 → (decimal n).length ≤ 3 := fun n hn =>
    (decimal_digitsOf n).length_le (by decide) 2 (by omega)
  have := hlen a ha; have := hlen b hb; have := hlen c hc; have := hlen d hd
  refine ⟨by simp [quadText]; omega, ?_⟩
  have := decimal_ne_nil a
  simp [quadText, this]

theorem readIpv4_quad (a b c d : Nat) (ha : a < 256) (hb : b < 256) (hc : c < 256) (hd : d < 256) :
    readIpv4 (quadText a b c d) = some ([UInt8.ofNat a, UInt8.ofNat b, UInt8.ofNat c, UInt8.ofNat d], []) := by
  have hdot : ∀ X c t, (46 : UInt8) :: X = c :: t → toDigit 10 c = none := by
    intro X c t h; cases h; decide
  have hnil : ∀ c t, ([] : List UInt8) = c :: t → toDigit 10 c = none := by intro c t h; cases h
  have hd' := readNumber_decimal d hd [] hnil
  simp only [List.append_nil] at hd'
  simp [quadText, readIpv4, readSep, readChar, readNumber_decimal a ha _ (hdot _), readNumber_decimal b hb _ (hdot _),
    readNumber_decimal c hc _ (hdot _), hd']

theorem parseIpv4_render (a b c d : Nat) (ha : a < 256) (hb : b < 256) (hc : c < 256) (hd : d < 256) :
    parseIpv4 (decimal a ++ 46 :: (decimal b ++ 46 :: (decimal c ++ 46 :: decimal d))) =
      some [UInt8.ofNat a, UInt8.ofNat b, UInt8.ofNat c, UInt8.ofNat d] := by
  have hl := (quadText_length a b c d (by omega) (by omega) (by omega) (by omega)).1
  show parseIpv4 (quadText a b c d) = _
  unfold parseIpv4
  rw [if_neg (by omega), readIpv4_quad a b c d ha hb hc hd]

/-! ### character-strings -/

/-- the line after reading an octet of a string written in the given form: raw newlines (inside
    quotes) and `\` + newline are counted -/
def strLineAfter (line : Nat) (b : UInt8) (f : OctetForm) : Nat :=
  if b = 10 ∧ f ≠ .dec then line + 1 else line

theorem strLineAfter_of_escaped {f : OctetForm} (h : f ≠ .raw) (line : Nat) (b : UInt8) :
    strLineAfter line b f = lineAfter line b f := by
  cases f <;> simp_all [strLineAfter, lineAfter]

theorem quotedLoop_octet (max : Nat) (tl ek : Kind) (sl : Nat) (b : UInt8) (f : OctetForm)
    (hf : stringFormOK true b f = true) (rest : List UInt8) (line : Nat) (acc : List UInt8) (n : Nat)
    (hn : n < max) :
    quotedLoop max tl ek sl (renderOctet b f ++ rest) line acc n =
      quotedLoop max tl ek sl rest (strLineAfter line b f) (b :: acc) (n + 1) := by
  have hn' : ¬ n ≥ max := by omega
  by_cases hraw : f = .raw
  · subst hraw
    simp only [stringFormOK, ↓reduceIte, Bool.and_eq_true, bne_iff_ne, ne_eq] at hf
    have h34 : (b == 34) = false := by simpa using hf.1
    have h92 : (b == 92) = false := by simpa using hf.2
    rw [renderOctet, List.singleton_append, quotedLoop.eq_def]
    simp only [h92, h34, Bool.false_eq_true, ↓reduceIte, hn', strLineAfter]
    congr 1
    simp
  · obtain ⟨X, hX, hp⟩ := parseEscapeL_render b f hraw
      (by rintro rfl; simpa [stringFormOK, isDigit_eq] using hf) rest line
    rw [hX, List.cons_append, quotedLoop.eq_def]
    simp only [beq_self_eq_true, ↓reduceIte]
    rw [hp]
    simp only [hn', ↓reduceIte, strLineAfter_of_escaped hraw]

theorem unquotedLoop_octet (max : Nat) (tl : Kind) (sl : Nat) (b : UInt8) (f : OctetForm)
    (hf : stringFormOK false b f = true) (rest : List UInt8) (line : Nat) (acc : List UInt8) (n : Nat)
    (hn : n < max) :
    unquotedLoop max tl sl (renderOctet b f ++ rest) line acc n =
      unquotedLoop max tl sl rest (strLineAfter line b f) (b :: acc) (n + 1) := by
  have hn' : ¬ n ≥ max := by omega
  by_cases hraw : f = .raw
  · subst hraw
    simp only [stringFormOK, Bool.false_eq_true, ↓reduceIte, Bool.and_eq_true, Bool.not_eq_true', bne_iff_ne,
      ne_eq] at hf
    have hs : special b = false := hf.1
    have h92 : (b == 92) = false := by
      simp only [special, Bool.or_eq_false_iff] at hs; exact hs.2
    have h10 : b ≠ 10 := by
      simp only [special, Bool.or_eq_false_iff] at hs
      simpa using hs.1.1.2
    rw [renderOctet, List.singleton_append, unquotedLoop.eq_def]
    simp [atFieldEnd_plain rest hs, h92, hn', strLineAfter, h10]
  · obtain ⟨X, hX, hp⟩ := parseEscapeL_render b f hraw
      (by rintro rfl; simpa [stringFormOK, isDigit_eq] using hf) rest line
    rw [hX, List.cons_append, unquotedLoop.eq_def]
    simp only [atFieldEnd_backslash, Bool.false_eq_true, ↓reduceIte, beq_self_eq_true]
    rw [hp]
    simp only [hn', ↓reduceIte, strLineAfter_of_escaped hraw]

def octetsText (os : List (UInt8 × OctetForm)) : List UInt8 := os.flatMap fun x => renderOctet x.1 x.2

def octetsLines (os : List (UInt8 × OctetForm)) : Nat := (os.filter fun x => x.1 = 10 ∧ x.2 ≠ .dec).length

theorem octetsLines_cons (x : UInt8 × OctetForm) (os : List (UInt8 × OctetForm)) (line : Nat) :
    strLineAfter line x.1 x.2 + octetsLines os = line + octetsLines (x :: os) := by
  unfold strLineAfter octetsLines
  by_cases h : x.1 = 10 ∧ x.2 ≠ .dec
  · simp only [h, and_self, ↓reduceIte, List.filter_cons, ne_eq, not_false_eq_true, decide_true,
      List.length_cons]
    omega
  · simp [h]

theorem quotedLoop_render (max : Nat) (tl ek : Kind) (sl : Nat) (os : List (UInt8 × OctetForm))
    (hforms : ∀ x ∈ os, stringFormOK true x.1 x.2 = true) (rest : List UInt8) (line : Nat)
    (acc : List UInt8) (n : Nat) (hn : n + os.length ≤ max) :
    quotedLoop max tl ek sl (octetsText os ++ 34 :: rest) line acc n =
      .ok (acc.reverse ++ os.map (·.1), rest, line + octetsLines os) := by
  induction os generalizing line acc n with
  | nil =>
    rw [quotedLoop.eq_def]
    simp [octetsText, octetsLines]
  | cons x os ih =>
    have e : octetsText (x :: os) ++ 34 :: rest = renderOctet x.1 x.2 ++ (octetsText os ++ 34 :: rest) := by
      simp [octetsText]
    rw [e, quotedLoop_octet max tl ek sl x.1 x.2 (hforms x (by simp)) _ line acc n (by simp at hn; omega),
      ih (fun y hy => hforms y (by simp [hy])) _ _ _ (by simp at hn; omega), octetsLines_cons]
    simp

theorem unquotedLoop_render (max : Nat) (tl : Kind) (sl : Nat) (os : List (UInt8 × OctetForm))
    (hforms : ∀ x ∈ os, stringFormOK false x.1 x.2 = true) (rest : List UInt8)
    (hrest : atFieldEnd rest = true) (line : Nat) (acc : List UInt8) (n : Nat) (hn : n + os.length ≤ max) :
    unquotedLoop max tl sl (octetsText os ++ rest) line acc n =
      .ok (acc.reverse ++ os.map (·.1), rest, line + octetsLines os) := by
  induction os generalizing line acc n with
  | nil =>
    rw [unquotedLoop.eq_def]
    simp [octetsText, octetsLines, hrest]
  | cons x os ih =>
    have e : octetsText (x :: os) ++ rest = renderOctet x.1 x.2 ++ (octetsText os ++ rest) := by
      simp [octetsText]
    rw [e, unquotedLoop_octet max tl sl x.1 x.2 (hforms x (by simp)) _ line acc n (by simp at hn; omega),
      ih (fun y hy => hforms y (by simp [hy])) _ _ _ (by simp at hn; omega), octetsLines_cons]
    simp

/-- what the writer of a `<character-string>` must respect: at most 255 octets; inside quotes
    `"` and `\` escaped; without quotes, not empty and everything special escaped -/
structure WFString (s : PString) : Prop where
  forms : ∀ x ∈ s.octets, stringFormOK s.quoted x.1 x.2 = true
  len : s.octets.length ≤ 255
  ne : s.quoted = false → s.octets ≠ []

instance (s : PString) : Decidable (WFString s) :=
  decidable_of_iff (_ ∧ _ ∧ _) ⟨fun ⟨a, b, c⟩ => ⟨a, b, c⟩, fun ⟨a, b, c⟩ => ⟨a, b, c⟩⟩

theorem octetsText_head {os : List (UInt8 × OctetForm)} (hne : os ≠ [])
    (hforms : ∀ x ∈ os, stringFormOK false x.1 x.2 = true) :
    ∃ c t, octetsText os = c :: t ∧ fieldStart c ∧ c ≠ 34 := by
  cases os with
  | nil => exact absurd rfl hne
  | cons x os =>
    obtain ⟨b, f⟩ := x
    have hf := hforms (b, f) (by simp)
    cases f with
    | raw =>
      simp only [stringFormOK, Bool.false_eq_true, ↓reduceIte, Bool.and_eq_true, Bool.not_eq_true', bne_iff_ne,
        ne_eq] at hf
      exact ⟨b, octetsText os, by simp [octetsText, renderOctet], .inr hf.1, hf.2⟩
    | esc => exact ⟨92, b :: octetsText os, by simp [octetsText, renderOctet], .inl rfl, by decide⟩
    | dec => exact ⟨92, _, by simp [octetsText, renderOctet]; rfl, .inl rfl, by decide⟩

theorem stringText_starts_of (s : PString) (hforms : ∀ x ∈ s.octets, stringFormOK s.quoted x.1 x.2 = true)
    (hne : s.quoted = false → s.octets ≠ []) : Starts (stringText s) := by
  unfold stringText
  cases hq : s.quoted with
  | true => exact ⟨34, _, by simp only [↓reduceIte]; rfl, .inr (by decide)⟩
  | false =>
    obtain ⟨c, t, hct, hc, _⟩ := octetsText_head (hne hq) (by rwa [hq] at hforms)
    exact ⟨c, t, by simpa [octetsText] using hct, hc⟩

theorem stringText_starts (s : PString) (hwf : WFString s) : Starts (stringText s) :=
  stringText_starts_of s hwf.forms hwf.ne

/-- a string field with the length limit `max` -/
theorem parseString_render (max : Nat) (tl ek : Kind) (s : PString)
    (hforms : ∀ x ∈ s.octets, stringFormOK s.quoted x.1 x.2 = true) (hlen : s.octets.length ≤ max)
    (hne : s.quoted = false → s.octets ≠ []) (rest : List UInt8)
    (hrest : atFieldEnd rest = true) (line : Nat) (paren : Bool) :
    parseString max tl ek ⟨stringText s ++ rest, line, paren⟩ =
      .ok (stringOctets s, ⟨rest, line + stringLines s, paren⟩) := by
  unfold parseString stringText
  cases hq : s.quoted with
  | true =>
    rw [hq] at hforms
    have := quotedLoop_render max tl ek line s.octets hforms rest line [] 0 (by omega)
    simp only [octetsText] at this
    simp [this, stringOctets, stringLines, octetsLines]
  | false =>
    rw [hq] at hforms
    obtain ⟨c, t, hct, _, h34⟩ := octetsText_head (hne hq) hforms
    have := unquotedLoop_render max tl line s.octets hforms rest hrest line [] 0 (by omega)
    simp only [Bool.false_eq_true, ↓reduceIte]
    have hct' : (s.octets.flatMap fun x => renderOctet x.1 x.2) = c :: t := hct
    rw [hct'] at *
    rw [hct] at this
    simp only [List.cons_append] at this ⊢
    split
    · next heq => simp at heq; exact absurd heq.1 h34
    · simp [this, stringOctets, stringLines, octetsLines]

/-- **Character-strings**, quoted or not, in any mix of raw / `\X` / `\DDD` octets -/
theorem parseCharacterString_render (s : PString) (hwf : WFString s) (rest : List UInt8)
    (hrest : atFieldEnd rest = true) (line : Nat) (paren : Bool) :
    parseCharacterString ⟨stringText s ++ rest, line, paren⟩ =
      .ok (stringOctets s, ⟨rest, line + stringLines s, paren⟩) :=
  parseString_render 255 _ _ s hwf.forms hwf.len hwf.ne rest hrest line paren

/-! ### IPv6 addresses: hexadecimal groups -/

def hexVal (c : UInt8) : Nat := if 48 ≤ c.toNat ∧ c.toNat ≤ 57 then c.toNat - 48 else c.toNat - 87

theorem hexDigit_facts : ∀ n, n < 16 →
    toDigit 16 (hexDigitOctet n) = some n ∧ plainOctet (hexDigitOctet n) = true ∧ hexDigitOctet n ≠ 46 ∧
    hexDigitOctet n ≠ 92 := by decide +kernel

theorem toDigit16_ne_colon : toDigit 16 58 = none ∧ toDigit 10 58 = none := by decide

theorem hexText_digitsOf (n : Nat) : Digits 16 hexDigitOctet n (hexText n) := by
  fun_induction hexText n
  case case1 n h => exact .one h
  case case2 n h ih => exact .more h ih

theorem hexText_digits (n : Nat) : ∀ c ∈ hexText n, ∃ d, d < 16 ∧ c = hexDigitOctet d := (hexText_digitsOf n).mem (by decide)

theorem hexText_ne_nil (n : Nat) : hexText n ≠ [] := (hexText_digitsOf n).ne_nil

theorem hexText_length (n : Nat) (k : Nat) (h : n < 16 ^ (k + 1)) : (hexText n).length ≤ k + 1 :=
  (hexText_digitsOf n).length_le (by decide) k h

theorem readNumber_hex (g : Nat) (hg : g < 65536) (rest : List UInt8)
    (hrest : ∀ c t, rest = c :: t → toDigit 16 c = none) :
    readNumber 16 4 65535 true (hexText g ++ rest) = some (g, rest) :=
  readNumber_digits (hexText_digitsOf g) (by decide) (fun d hd => (hexDigit_facts d hd).1) (by omega) (by omega) _ rest hrest

/-! ### Chaosnet addresses: octal digits -/

/-- value of octal digit octets, read left to right from `acc` -/
def octVal (ds : List UInt8) (acc : Nat) : Nat := ds.foldl (fun a c => a * 8 + (c.toNat - 48)) acc

theorem octVal_ge (ds : List UInt8) (acc : Nat) : acc ≤ octVal ds acc := by
  induction ds generalizing acc with
  | nil => exact Nat.le_refl _
  | cons c ds ih =>
    simp only [octVal, List.foldl_cons] at ih ⊢
    have := ih (acc * 8 + (c.toNat - 48))
    omega

theorem octalText_digitsOf (n : Nat) : Digits 8 digitOctet n (octalText n) := by
  fun_induction octalText n
  case case1 n h => exact .one h
  case case2 n h ih => exact .more h ih

theorem octalText_digits (n : Nat) : ∀ c ∈ octalText n, ∃ d, d < 8 ∧ c = digitOctet d := (octalText_digitsOf n).mem (by decide)

theorem octalText_ne_nil (n : Nat) : octalText n ≠ [] := (octalText_digitsOf n).ne_nil

/-- the loop of `parse_chaosnet_address` on octal digits followed by a field end -/
theorem chaosLoop_digits (sl : Nat) (ds rest : List UInt8) (hds : ∀ c ∈ ds, ∃ d, d < 8 ∧ c = digitOctet d)
    (hrest : atFieldEnd rest = true) (acc : Nat) (hv : octVal ds acc ≤ 65535) :
    chaosLoop sl (ds ++ rest) acc = .ok (octVal ds acc, rest) := by
  induction ds generalizing acc with
  | nil =>
    cases rest with
    | nil => rfl
    | cons c t => simp [chaosLoop, hrest, octVal]
  | cons c ds ih =>
    obtain ⟨d, hd, rfl⟩ := hds c (by simp)
    have hdo := digit_octet (d := d) (by omega)
    have hplain : atFieldEnd (digitOctet d :: (ds ++ rest)) = false :=
      atFieldEnd_plain _ (by
        have := digit_plain hdo.1
        simp only [plainOctet, Bool.and_eq_true, Bool.not_eq_true'] at this
        exact this.1)
    have hoct : (48 ≤ digitOctet d && digitOctet d ≤ 55) = true := by
      simp only [Bool.and_eq_true, decide_eq_true_eq, UInt8.le_iff_toNat_le, hdo.2]
      have h48 : (48 : UInt8).toNat = 48 := rfl
      have h55 : (55 : UInt8).toNat = 55 := rfl
      exact ⟨by omega, by omega⟩
    have hstep : octVal (digitOctet d :: ds) acc = octVal ds (acc * 8 + d) := by
      simp [octVal, hdo.2]
    have hacc : ¬ acc * 8 > 65535 := by
      have := octVal_ge ds (acc * 8 + d)
      rw [hstep] at hv
      omega
    simp only [List.cons_append, chaosLoop, hplain, Bool.false_eq_true, ↓reduceIte, hoct, hacc, hdo.2]
    have : 48 + d - 48 = d := by omega
    rw [this, ih (fun x hx => hds x (by simp [hx])) _ (by rw [← hstep]; exact hv), hstep]

/-! ### IPv6 addresses with `::` -/

/-- the text after a run of groups: nothing, or a colon (the `::`, or the separator) -/
def ColonOrEnd (R : List UInt8) : Prop := R = [] ∨ ∃ X, R = 58 :: X

theorem spanDigits10_head (H R : List UInt8) (hH : ∀ c ∈ H, c ≠ 46) (hR : ColonOrEnd R) :
    (spanDigits 10 (H ++ R)).2.head? ≠ some 46 := by
  induction H with
  | nil =>
    rcases hR with rfl | ⟨X, rfl⟩
    · simp [spanDigits]
    · simp [spanDigits, toDigit16_ne_colon.2]
  | cons c H ih =>
    have ih' := ih (fun x hx => hH x (by simp [hx]))
    cases hd : toDigit 10 c with
    | some d => simpa [spanDigits, hd] using ih'
    | none => simpa [spanDigits, hd] using hH c (by simp)

theorem readIpv4_none_of_span (s : List UInt8) (h : (spanDigits 10 s).2.head? ≠ some 46) : readIpv4 s = none := by
  unfold readIpv4
  simp only [readSep, Nat.lt_irrefl, ↓reduceIte]
  cases hn : readNumber 10 3 255 false s with
  | none => rfl
  | some ar =>
    obtain ⟨a, s1⟩ := ar
    have hs1 : s1 = (spanDigits 10 s).2 := by
      unfold readNumber at hn
      simp only at hn
      split at hn
      · cases hn
      · split at hn
        · cases hn
        · split at hn
          · cases hn
          · split at hn
            · cases hn
            · simp only [Option.some.injEq, Prod.mk.injEq] at hn; exact hn.2.symm
    subst hs1
    cases hr : (spanDigits 10 s).2 with
    | nil => simp [readChar]
    | cons c t =>
      rw [hr] at h
      have hc : (c == 46) = false := by simpa using h
      simp [readChar, hc]

theorem readIpv4_group (g : Nat) (R : List UInt8) (hR : ColonOrEnd R) : readIpv4 (hexText g ++ R) = none :=
  readIpv4_none_of_span _ (spanDigits10_head _ R (by
    intro c hc
    obtain ⟨d, hd, rfl⟩ := hexText_digits g c hc
    exact (hexDigit_facts d hd).2.2.1) hR)

theorem readIpv4_stop (R : List UInt8) (hR : ColonOrEnd R) : readIpv4 R = none := by
  have := readIpv4_none_of_span R (by simpa using spanDigits10_head [] R (by simp) hR)
  exact this

theorem readNumber16_stop (R : List UInt8) (hR : ColonOrEnd R) : readNumber 16 4 65535 true R = none := by
  rcases hR with rfl | ⟨X, rfl⟩
  · simp [readNumber, spanDigits]
  · simp [readNumber, spanDigits, toDigit16_ne_colon.1]

theorem ColonOrEnd.hex {R : List UInt8} (hR : ColonOrEnd R) : ∀ c t, R = c :: t → toDigit 16 c = none := by
  intro c t h
  rcases hR with rfl | ⟨X, rfl⟩
  · cases h
  · cases h; exact toDigit16_ne_colon.1

/-- the text of groups read from group index `i` on — a separating colon before each but the one at
    index 0 — and then `E j`, where `j` is the index reached -/
def runE (E : Nat → List UInt8) : Nat → List Nat → List UInt8
  | i, [] => E i
  | i, g :: gs => (if i > 0 then [58] else []) ++ (hexText g ++ runE E (i + 1) gs)

theorem runE_colon (E : Nat → List UInt8) (hE : ∀ j, ColonOrEnd (E (j + 1))) (i : Nat) (gs : List Nat) :
    ColonOrEnd (runE E (i + 1) gs) := by
  cases gs with
  | nil => exact hE i
  | cons g gs => exact .inr ⟨hexText g ++ runE E (i + 1 + 1) gs, by simp [runE]⟩

/-- the same text through `groupsText` -/
theorem runE_eq (E : Nat → List UInt8) (i : Nat) (g : Nat) (gs : List Nat) :
    runE E i (g :: gs) = (if i > 0 then [58] else []) ++ (groupsText (g :: gs) ++ E (i + (g :: gs).length)) := by
  induction gs generalizing i g with
  | nil => simp [runE, groupsText]
  | cons g2 gs ih =>
    rw [runE, ih (i + 1) g2]
    simp [groupsText, Nat.add_assoc, Nat.add_comm 1]

/-- `read_groups` reads a run of rendered groups and goes on with what follows it -/
theorem readGroups_groups (L : Nat) (E : Nat → List UInt8) (hE : ∀ j, ColonOrEnd (E (j + 1))) (gs : List Nat)
    (hgs : ∀ g ∈ gs, g < 65536) (m i : Nat) :
    readGroups L (gs.length + m) i (runE E i gs) =
      (gs ++ (readGroups L m (i + gs.length) (E (i + gs.length))).1,
        (readGroups L m (i + gs.length) (E (i + gs.length))).2) := by
  induction gs generalizing i with
  | nil => simp [runE]
  | cons g gs ih =>
    have hg := hgs g (by simp)
    have hF := runE_colon E hE i gs
    have e1 : (g :: gs).length + m = gs.length + m + 1 := by simp; omega
    have e2 : i + (g :: gs).length = i + 1 + gs.length := by simp; omega
    rw [e1, e2, readGroups]
    have hv4 : (if i + 1 < L then readSep 58 i readIpv4 (runE E i (g :: gs)) else none) = none := by
      split
      · simp only [runE]
        unfold readSep
        by_cases h0 : i > 0
        · simp [h0, readChar, readIpv4_group g _ hF]
        · simp [h0, readIpv4_group g _ hF]
      · rfl
    have hnum : readSep 58 i (readNumber 16 4 65535 true) (runE E i (g :: gs)) = some (g, runE E (i + 1) gs) := by
      simp only [runE]
      unfold readSep
      by_cases h0 : i > 0
      · simp [h0, readChar, readNumber_hex g hg _ hF.hex]
      · simp [h0, readNumber_hex g hg _ hF.hex]
    simp only [hv4, hnum]
    rw [ih (fun x hx => hgs x (by simp [hx])) (i + 1)]
    simp

/-- at the end of the text, or before `::`, `read_groups` reads nothing more -/
theorem readGroups_stop (L : Nat) (R : List UInt8) (hR : R = [] ∨ ∃ X, R = 58 :: 58 :: X) (m j : Nat) :
    readGroups L m j R = ([], false, R) := by
  have hRc : ColonOrEnd R := by
    rcases hR with h | ⟨X, h⟩
    · exact .inl h
    · exact .inr ⟨_, h⟩
  cases m with
  | zero => rfl
  | succ m =>
    rw [readGroups]
    have hv4 : (if j + 1 < L then readSep 58 j readIpv4 R else none) = none := by
      split
      · unfold readSep
        split
        · rcases hR with rfl | ⟨X, rfl⟩
          · rfl
          · simp [readChar, readIpv4_stop (58 :: X) (.inr ⟨X, rfl⟩)]
        · exact readIpv4_stop R hRc
      · rfl
    have hnum : readSep 58 j (readNumber 16 4 65535 true) R = none := by
      unfold readSep
      split
      · rcases hR with rfl | ⟨X, rfl⟩
        · rfl
        · simp [readChar, readNumber16_stop (58 :: X) (.inr ⟨X, rfl⟩)]
      · exact readNumber16_stop R hRc
    simp only [hv4, hnum]

/-- a run of groups up to the end of the text, or up to `::` -/
theorem readGroups_run (L : Nat) (gs : List Nat) (hgs : ∀ g ∈ gs, g < 65536) (R : List UInt8)
    (hR : R = [] ∨ ∃ X, R = 58 :: 58 :: X) (m : Nat) :
    readGroups L (gs.length + m) 0 (groupsText gs ++ R) = (gs, false, R) := by
  have hRc : ColonOrEnd R := by
    rcases hR with h | ⟨X, h⟩
    · exact .inl h
    · exact .inr ⟨_, h⟩
  have h := readGroups_groups L (fun _ => R) (fun _ => hRc) gs hgs m 0
  rw [readGroups_stop L R hR] at h
  cases gs with
  | nil => simpa [runE, groupsText] using h
  | cons g gs => simpa [runE_eq] using h

def zeros (n : Nat) : List Nat := List.replicate n 0

theorem parseIpv6_compressed (hd tl : List Nat) (hlen : hd.length + tl.length ≤ 7)
    (hhd : ∀ g ∈ hd, g < 65536) (htl : ∀ g ∈ tl, g < 65536) :
    parseIpv6 (groupsText hd ++ (58 :: 58 :: groupsText tl)) =
      some ((hd ++ List.replicate (8 - hd.length - tl.length) 0 ++ tl).flatMap u16be') := by
  have h1 := readGroups_run 8 hd hhd (58 :: 58 :: groupsText tl) (.inr ⟨_, rfl⟩) (8 - hd.length)
  have h2 := readGroups_run (7 - hd.length) tl htl [] (.inl rfl) (7 - hd.length - tl.length)
  rw [show hd.length + (8 - hd.length) = 8 by omega] at h1
  rw [show tl.length + (7 - hd.length - tl.length) = 7 - hd.length by omega, List.append_nil] at h2
  unfold parseIpv6
  have hne : (hd.length == 8) = false := by simp; omega
  have e3 : 8 - (hd.length + 1) = 7 - hd.length := by omega
  simp [h1, hne, readChar, e3, h2]

/-- eight groups written in full -/
theorem parseIpv6_render (gs : List Nat) (hlen : gs.length = 8) (hgs : ∀ g ∈ gs, g < 65536) :
    parseIpv6 (groupsText gs) = some (gs.flatMap u16be') := by
  have h := readGroups_run 8 gs hgs [] (.inl rfl) 0
  rw [List.append_nil, Nat.add_zero, hlen] at h
  unfold parseIpv6
  simp [h, hlen]

/-! ### IPv6 addresses ending in a dotted quad -/

/-- a dotted quad where a group could stand ends the groups -/
theorem readGroups_quad (L : Nat) (a b c d : Nat) (ha : a < 256) (hb : b < 256) (hc : c < 256) (hd : d < 256)
    (m j : Nat) (hj : j + 1 < L) :
    readGroups L (m + 1) j ((if j > 0 then [58] else []) ++ quadText a b c d) =
      ([a * 256 + b, c * 256 + d], true, []) := by
  rw [readGroups]
  have hq := readIpv4_quad a b c d ha hb hc hd
  have hv4 : (if j + 1 < L then readSep 58 j readIpv4 ((if j > 0 then [58] else []) ++ quadText a b c d) else none) =
      some ([UInt8.ofNat a, UInt8.ofNat b, UInt8.ofNat c, UInt8.ofNat d], []) := by
    simp only [hj, ↓reduceIte]
    unfold readSep
    by_cases h0 : j > 0
    · simp [h0, readChar, hq]
    · simp [h0, hq]
  simp only [hv4]
  have e : ∀ x, x < 256 → (UInt8.ofNat x).toNat = x := by
    intro x hx; simp [UInt8.toNat_ofNat']; omega
  simp [e a ha, e b hb, e c hc, e d hd]

/-- a run of groups and then a dotted quad -/
theorem readGroups_run_v4 (L : Nat) (a b c d : Nat) (ha : a < 256) (hb : b < 256) (hc : c < 256) (hd : d < 256)
    (gs : List Nat) (hgs : ∀ g ∈ gs, g < 65536) (m : Nat) (hv : gs.length + 1 < L) :
    readGroups L (gs.length + (m + 1)) 0 (groupsThenQuad gs (quadText a b c d)) =
      (gs ++ [a * 256 + b, c * 256 + d], true, []) := by
  have h := readGroups_groups L (fun j => (if j > 0 then [58] else []) ++ quadText a b c d)
    (fun j => .inr ⟨quadText a b c d, by simp⟩) gs hgs (m + 1) 0
  rw [readGroups_quad L a b c d ha hb hc hd m _ (by omega)] at h
  cases gs with
  | nil => simpa [runE, groupsThenQuad] using h
  | cons g gs => simpa [runE_eq, groupsThenQuad] using h

theorem u16be'_v4 (a b : Nat) (hb : b < 256) :
    u16be' (a * 256 + b) = [UInt8.ofNat a, UInt8.ofNat b] := by
  have h1 : (a * 256 + b) / 256 = a := by omega
  have h2 : (a * 256 + b) % 256 = b := by omega
  simp [u16be', h1, h2]

/-- `h1:…:h6:a.b.c.d` -/
theorem parseIpv6_full_v4 (hd : List Nat) (hlen : hd.length = 6) (hhd : ∀ g ∈ hd, g < 65536)
    (a b c d : Nat) (ha : a < 256) (hb : b < 256) (hc : c < 256) (hdd : d < 256) :
    parseIpv6 (groupsThenQuad hd (quadText a b c d)) =
      some (hd.flatMap u16be' ++ [UInt8.ofNat a, UInt8.ofNat b, UInt8.ofNat c, UInt8.ofNat d]) := by
  have h := readGroups_run_v4 8 a b c d ha hb hc hdd hd hhd 1 (by omega)
  rw [hlen] at h
  unfold parseIpv6
  simp [h, hlen, u16be'_v4 a b hb, u16be'_v4 c d hdd]

/-- `hd::tl:a.b.c.d` -/
theorem parseIpv6_compressed_v4 (hd tl : List Nat) (hlen : hd.length + tl.length + 2 ≤ 7)
    (hhd : ∀ g ∈ hd, g < 65536) (htl : ∀ g ∈ tl, g < 65536)
    (a b c d : Nat) (ha : a < 256) (hb : b < 256) (hc : c < 256) (hdd : d < 256) :
    parseIpv6 (groupsText hd ++ (58 :: 58 :: groupsThenQuad tl (quadText a b c d))) =
      some ((hd ++ List.replicate (8 - hd.length - (tl.length + 2)) 0 ++ tl).flatMap u16be' ++
        [UInt8.ofNat a, UInt8.ofNat b, UInt8.ofNat c, UInt8.ofNat d]) := by
  have h1 := readGroups_run 8 hd hhd (58 :: 58 :: groupsThenQuad tl (quadText a b c d)) (.inr ⟨_, rfl⟩) (8 - hd.length)
  have h2 := readGroups_run_v4 (7 - hd.length) a b c d ha hb hc hdd tl htl (7 - hd.length - tl.length - 1) (by omega)
  rw [show hd.length + (8 - hd.length) = 8 by omega] at h1
  rw [show tl.length + (7 - hd.length - tl.length - 1 + 1) = 7 - hd.length by omega] at h2
  unfold parseIpv6
  have hne : (hd.length == 8) = false := by simp; omega
  have e3 : 8 - (hd.length + 1) = 7 - hd.length := by omega
  simp [h1, hne, readChar, e3, h2, u16be'_v4 a b hb, u16be'_v4 c d hdd]

end QV.ZF
