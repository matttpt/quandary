/-
  QV.Proofs.ZoneFile.Mnemonic — TYPE and CLASS fields written as mnemonics (any case) or in
  RFC 3597 form, through `FromStr for Type` / `FromStr for Class` and `read_field` (C23).
-/
import QV.Proofs.ZoneFile.Assemble
import QV.Proofs.Codes
import QV.Proofs.Wire

namespace QV.ZF
open QV QV.Spec.ZF

/-! ### fields that do not parse; `TYPEnnn` / `CLASSnnn` as plain fields; TTL fields -/

theorem readField_plain_none {α} (parse : List UInt8 → Option α) (k : Kind) (f rest : List UInt8)
    (hf : ∀ c ∈ f, plainOctet c = true) (hlen : f.length ≤ 65536) (hrest : atFieldEnd rest = true)
    (hp : parse f = none) (line : Nat) (paren : Bool) :
    readField parse k ⟨f ++ rest, line, paren⟩ = .err ⟨k, line⟩ := by
  unfold readField
  simp only [fieldLen_plain f rest hf hrest, Gen.MAX_READ_FIELD_SIZE]
  have : ¬ (f.length > 65536) := by omega
  simp [this, utf8Valid_ascii f hf, hp, fail]

theorem renderType_not_u32 (ty : Nat) : parseU32 (renderType ty) = none :=
  parseUInt_letter _ 84 _ (by decide) (by decide)

theorem renderClass_not_u32 (k : Nat) : parseU32 (renderClass k) = none :=
  parseUInt_letter _ 67 _ (by decide) (by decide)

theorem renderType_start (ty : Nat) (rest : List UInt8) :
    ∃ t, renderType ty ++ rest = 84 :: t ∧ fieldStart 84 := ⟨_, rfl, .inr (by decide)⟩

theorem renderClass_start (k : Nat) (rest : List UInt8) :
    ∃ t, renderClass k ++ rest = 67 :: t ∧ fieldStart 67 := ⟨_, rfl, .inr (by decide)⟩

/-- `parse_ttl` on a decimal TTL -/
theorem parseTtl_decimal (t : Nat) (ht : t ≤ 4294967295) (rest : List UInt8) (hrest : atFieldEnd rest = true)
    (line : Nat) (paren : Bool) :
    parseTtl ⟨decimal t ++ rest, line, paren⟩ = .ok (ttlFrom t, ⟨rest, line, paren⟩) := by
  unfold parseTtl
  simp only [bind, P.bind, show parseU32 = parseUInt 4294967295 from rfl,
    readField_decimal 4294967295 t ht (by omega) _ rest hrest line paren]
  rfl

/-- `parse_ttl` on a field that starts with a letter fails without consuming -/
theorem parseTtl_fails (f rest : List UInt8) (hf : ∀ c ∈ f, plainOctet c = true) (hlen : f.length ≤ 65536)
    (hrest : atFieldEnd rest = true) (hp : parseU32 f = none) (line : Nat) (paren : Bool) :
    tryP parseTtl ⟨f ++ rest, line, paren⟩ = .ok (none, ⟨f ++ rest, line, paren⟩) := by
  apply tryP_err (e := ⟨.InvalidTtl, line⟩)
  unfold parseTtl
  simp only [bind, P.bind, readField_plain_none parseU32 _ f rest hf hlen hrest hp line paren]

/-! ### case folding -/

theorem upperOctet_eq : upperOctet = upperU8 := rfl

/-- the zone-file model's copy of `to_ascii_uppercase` is that of the codes model -/
theorem upperU8_eq : upperU8 = Codes.upperU8 := rfl

theorem map_upper_of_eqIgnoreCase {a b : List UInt8} (h : eqIgnoreCase a b = true) :
    a.map upperU8 = b.map upperU8 :=
  Codes.map_upper_of_lower (by simpa [eqIgnoreCase] using h)

/-- an octet whose upper-case form is an ASCII capital letter is a letter -/
theorem letter_of_upper (c : UInt8) (h : 65 ≤ (upperU8 c).toNat ∧ (upperU8 c).toNat ≤ 90) :
    plainOctet c = true ∧ isDigit c = false ∧ (c == 43) = false := by
  revert c
  apply QV.forall_uint8
  decide +kernel

/-! ### a field that is one plain word -/

/-- a text that `read_field` takes whole: plain octets, not empty, within the field size limit -/
structure FieldText (T : List UInt8) : Prop where
  plain : ∀ c ∈ T, plainOctet c = true
  len : T.length ≤ 65536
  ne : T ≠ []

theorem FieldText.head {T : List UInt8} (h : FieldText T) (rest : List UInt8) : Starts (T ++ rest) :=
  (Starts.of_plain h.ne h.plain).1.append rest

/-- a short word of plain octets and then a 16-bit number in decimal (`TYPEnnn`, `CLASSnnn`) is a field -/
theorem FieldText.prefixed {p : List UInt8} (hp : ∀ c ∈ p, plainOctet c = true) (hl : p.length ≤ 8) (n : Nat)
    (hn : n ≤ 65535) : FieldText (p ++ decimal n) := by
  have := decimal_length_le n (by omega)
  refine ⟨fun c hc => ?_, by simp only [List.length_append]; omega, by simp [decimal_ne_nil]⟩
  rcases List.mem_append.mp hc with h | h
  · exact hp c h
  · exact decimal_plain n c h

theorem readField_word {α} (parse : List UInt8 → Option α) (k : Kind) {T : List UInt8} (hT : FieldText T)
    (rest : List UInt8) (hrest : atFieldEnd rest = true) (line : Nat) (paren : Bool) :
    readField parse k ⟨T ++ rest, line, paren⟩ =
      match parse T with
      | some v => .ok (v, ⟨rest, line, paren⟩)
      | none => .err ⟨k, line⟩ := by
  cases hp : parse T with
  | some v => exact readField_plain parse k T rest v hT.plain hT.len hrest hp line paren
  | none =>
    unfold readField
    simp only [fieldLen_plain T rest hT.plain hrest, Gen.MAX_READ_FIELD_SIZE]
    have : ¬ (T.length > 65536) := by have := hT.len; omega
    simp [this, utf8Valid_ascii T hT.plain, hp, fail]

/-! ### mnemonics -/

/-- the upper-cased text of a mnemonic consists of capital letters -/
def allCaps (tbl : List (String × Nat)) : Bool :=
  tbl.all fun r => r.1.toUTF8.toList.all fun c => 65 ≤ c.toNat && c.toNat ≤ 90

theorem mnemonic_word {tbl : List (String × Nat)} (hcaps : allCaps tbl = true) {text : List UInt8} {m : String}
    {n : Nat} (hm : (m, n) ∈ tbl) (hne : m.toUTF8.toList ≠ []) (hlen : m.toUTF8.toList.length ≤ 16)
    (hu : text.map upperU8 = m.toUTF8.toList) :
    FieldText text ∧ ∀ max, parseUInt max text = none := by
  have hall : ∀ c ∈ text, 65 ≤ (upperU8 c).toNat ∧ (upperU8 c).toNat ≤ 90 := by
    intro c hc
    have hmem : upperU8 c ∈ m.toUTF8.toList := by rw [← hu]; exact List.mem_map.mpr ⟨c, hc, rfl⟩
    simp only [allCaps, List.all_eq_true, Bool.and_eq_true, decide_eq_true_eq] at hcaps
    exact hcaps (m, n) hm (upperU8 c) hmem
  have hl : text.length = m.toUTF8.toList.length := by rw [← hu]; simp
  refine ⟨⟨fun c hc => (letter_of_upper c (hall c hc)).1, by omega, ?_⟩, ?_⟩
  · intro h; subst h; exact hne (by rw [← hu]; rfl)
  · intro max
    cases ht : text with
    | nil => rfl
    | cons c rest =>
      have := letter_of_upper c (hall c (by rw [ht]; simp))
      exact parseUInt_letter max c rest this.2.1 this.2.2

/-- names of a table are pairwise different unless their values agree -/
def functionalTbl (tbl : List (String × Nat)) : Bool :=
  tbl.all fun r => tbl.all fun r' => !(r.1.toUTF8.toList == r'.1.toUTF8.toList) || r.2 == r'.2

/-- a mnemonic in any case is found in the table -/
theorem lookupCaseless_mnemonic {tbl : List (String × Nat)} (hf : functionalTbl tbl = true) {text : List UInt8}
    {m : String} {n : Nat} (hm : (m, n) ∈ tbl) (hu : text.map upperU8 = m.toUTF8.toList) :
    lookupCaseless tbl text = some n := by
  unfold lookupCaseless
  cases hfind : tbl.find? (fun row => row.1.toUTF8.toList == text.map upperU8) with
  | none =>
    rw [List.find?_eq_none] at hfind
    have := hfind (m, n) hm
    simp [hu] at this
  | some r =>
    have hr := List.mem_of_find?_eq_some hfind
    have hb := List.find?_some hfind
    simp only [beq_iff_eq] at hb
    simp only [functionalTbl, List.all_eq_true, Bool.or_eq_true, Bool.not_eq_true', beq_eq_false_iff_ne, ne_eq,
      beq_iff_eq] at hf
    rcases hf r hr (m, n) hm with h | h
    · exact absurd (by rw [hb, hu]) h
    · simp only at h; simp [h]

/-- no row of `tbl` is the (upper-cased) text, and the text does not start with the prefix -/
theorem parseCode_none {tbl : List (String × Nat)} {pfx : String} {text : List UInt8}
    (hrows : ∀ r ∈ tbl, r.1.toUTF8.toList ≠ text.map upperU8)
    (hpfx : (text.map upperU8).take pfx.toUTF8.toList.length ≠ pfx.toUTF8.toList.map upperU8) :
    parseCode tbl pfx text = none := by
  unfold parseCode lookupCaseless
  have : tbl.find? (fun row => row.1.toUTF8.toList == text.map upperU8) = none := by
    rw [List.find?_eq_none]; intro r hr; simpa using hrows r hr
  rw [this]
  simp only
  split
  · next h =>
    exfalso
    simp only [Bool.and_eq_true] at h
    have := map_upper_of_eqIgnoreCase h.2
    apply hpfx
    rw [← this]; simp [List.map_take]
  · rfl

/-! ### TYPE and CLASS fields -/

/-- what the record parser needs of a type field -/
structure TypeTextOK (T : List UInt8) (ty : Nat) : Prop where
  field : FieldText T
  notU32 : parseU32 T = none
  notClass : parseClass T = none
  parse : parseType T = some ty

/-- what the record parser needs of a class field -/
structure ClassTextOK (T : List UInt8) (k : Nat) : Prop where
  field : FieldText T
  notU32 : parseU32 T = none
  parse : parseClass T = some k

/-- well-formed TYPE field: `TYPEnnn` with a 16-bit value, or a mnemonic of the table in any case -/
def WFType : PCode → Prop
  | .generic n => n ≤ 65535
  | .mnemonic t n => mnemonicFor typeMnemonics t n

/-- well-formed CLASS field: `CLASSnnn` with a 16-bit value, or `IN` / `CH` / `HS` in any case -/
def WFClass : PCode → Prop
  | .generic n => n ≤ 65535
  | .mnemonic t n => mnemonicFor classMnemonics t n

/-- a mnemonic is a row of the table: decidable by going through the rows -/
theorem mnemonicFor_iff (tbl : List (String × Nat)) (t : List UInt8) (n : Nat) :
    mnemonicFor tbl t n ↔ ∃ r ∈ tbl, r.2 = n ∧ t.map upperOctet = r.1.toUTF8.toList :=
  ⟨fun ⟨m, hm, h⟩ => ⟨(m, n), hm, rfl, h⟩, fun ⟨r, hr, hn, h⟩ => ⟨r.1, hn ▸ hr, h⟩⟩

instance (tbl : List (String × Nat)) (t : List UInt8) (n : Nat) : Decidable (mnemonicFor tbl t n) :=
  decidable_of_iff _ (mnemonicFor_iff tbl t n).symm

instance : (c : PCode) → Decidable (WFType c)
  | .generic _ | .mnemonic .. => by unfold WFType; infer_instance

instance : (c : PCode) → Decidable (WFClass c)
  | .generic _ | .mnemonic .. => by unfold WFClass; infer_instance

theorem typeMnemonics_sub : ∀ r ∈ typeMnemonics, r ∈ Gen.typeParse := by decide +kernel
theorem classMnemonics_sub : ∀ r ∈ classMnemonics, r ∈ Gen.classParse := by decide +kernel

theorem type_tables_ok :
    allCaps typeMnemonics = true ∧ functionalTbl Gen.typeParse = true ∧
    (typeMnemonics.all fun r => r.1.toUTF8.toList.length ≤ 16 && !r.1.toUTF8.toList.isEmpty &&
      (Gen.classParse.all fun c => !(c.1.toUTF8.toList == r.1.toUTF8.toList)) &&
      !(r.1.toUTF8.toList.take Gen.classDisplayPrefix.toUTF8.toList.length ==
          Gen.classDisplayPrefix.toUTF8.toList.map upperU8)) = true := by
  decide +kernel

theorem class_tables_ok :
    allCaps classMnemonics = true ∧ functionalTbl Gen.classParse = true ∧
    (classMnemonics.all fun r => r.1.toUTF8.toList.length ≤ 16 && !r.1.toUTF8.toList.isEmpty) = true := by
  decide +kernel

theorem typeText_ok (c : PCode) (h : WFType c) : TypeTextOK (typeText c) c.value := by
  cases c with
  | generic n =>
    exact ⟨.prefixed (by decide) (by decide) n h, renderType_not_u32 n,
      parseClass_type n, parseType_render n h⟩
  | mnemonic t n =>
    obtain ⟨m, hm, hu⟩ := h
    rw [upperOctet_eq] at hu
    obtain ⟨hcaps, hfun, hrows⟩ := type_tables_ok
    have hrow := (List.all_eq_true.mp hrows) (m, n) hm
    simp only [Bool.and_eq_true, decide_eq_true_eq, Bool.not_eq_true',
      List.all_eq_true, beq_eq_false_iff_ne, ne_eq] at hrow
    obtain ⟨⟨⟨hlen, hne⟩, hcls⟩, hpfx⟩ := hrow
    have hne' : m.toUTF8.toList ≠ [] := by intro h0; rw [h0] at hne; simp at hne
    obtain ⟨hfield, hnum⟩ := mnemonic_word hcaps hm hne' hlen hu
    refine ⟨hfield, hnum _, ?_, ?_⟩
    · show parseCode Gen.classParse Gen.classDisplayPrefix t = none
      exact parseCode_none (fun r hr => by rw [hu]; exact hcls r hr) (by rw [hu]; exact hpfx)
    · show parseCode Gen.typeParse Gen.typeDisplayPrefix t = some n
      unfold parseCode
      rw [lookupCaseless_mnemonic hfun (typeMnemonics_sub _ hm) hu]

theorem classText_ok (c : PCode) (h : WFClass c) : ClassTextOK (classText c) c.value := by
  cases c with
  | generic n =>
    exact ⟨.prefixed (by decide) (by decide) n h, renderClass_not_u32 n,
      parseClass_render n h⟩
  | mnemonic t n =>
    obtain ⟨m, hm, hu⟩ := h
    rw [upperOctet_eq] at hu
    obtain ⟨hcaps, hfun, hrows⟩ := class_tables_ok
    have hrow := (List.all_eq_true.mp hrows) (m, n) hm
    simp only [Bool.and_eq_true, decide_eq_true_eq, Bool.not_eq_true'] at hrow
    have hne' : m.toUTF8.toList ≠ [] := by intro h0; rw [h0] at hrow; simp at hrow
    obtain ⟨hfield, hnum⟩ := mnemonic_word hcaps hm hne' hrow.1 hu
    refine ⟨hfield, hnum _, ?_⟩
    show parseCode Gen.classParse Gen.classDisplayPrefix t = some n
    unfold parseCode
    rw [lookupCaseless_mnemonic hfun (classMnemonics_sub _ hm) hu]

end QV.ZF
