/-
  QV.Proofs.ZoneFile.RoundTrip — per-field round trips for C23: what the parser reads back from
  the presentation forms of QV.Spec.ZoneFile (integers, escapes, names, `TYPEnnn`/`CLASSnnn`).
  `plainOctet` (an octet `read_field` takes as it stands) is defined here and used by all later
  zone-file proofs.
-/
import QV.Proofs.ZoneFile.Name
import QV.Spec.ZoneFile

namespace QV.ZF
open QV QV.Spec.ZF

/-! ### integers -/

theorem digit_octet {d : Nat} (hd : d < 10) :
    isDigit (digitOctet d) = true ∧ (digitOctet d).toNat = 48 + d := by
  have : (digitOctet d).toNat = 48 + d := by unfold digitOctet; simp [UInt8.toNat_ofNat']; omega
  refine ⟨?_, this⟩
  unfold isDigit
  simp only [UInt8.le_iff_toNat_le, this, Bool.and_eq_true, decide_eq_true_eq]
  exact ⟨by decide +revert, by have : (57 : UInt8).toNat = 57 := rfl; omega⟩

/-- `l` is `n` written in base `b` with the digit octets `dig`, most significant first and without
    leading zeros: what `decimal`, `octalText` and `hexText` compute -/
inductive Digits (b : Nat) (dig : Nat → UInt8) : Nat → List UInt8 → Prop
  | one {n : Nat} (h : n < b) : Digits b dig n [dig n]
  | more {n : Nat} {l : List UInt8} (h : ¬ n < b) (hl : Digits b dig (n / b) l) : Digits b dig n (l ++ [dig (n % b)])

namespace Digits
variable {b : Nat} {dig : Nat → UInt8} {n : Nat} {l : List UInt8}

theorem ne_nil (h : Digits b dig n l) : l ≠ [] := by cases h <;> simp

theorem mem (hb : 0 < b) (h : Digits b dig n l) : ∀ c ∈ l, ∃ d, d < b ∧ c = dig d := by
  induction h with
  | one h => intro c hc; exact ⟨_, h, by simpa using hc⟩
  | @more n l _ _ ih =>
    intro c hc
    rcases List.mem_append.mp hc with hc | hc
    · exact ih c hc
    · exact ⟨n % b, Nat.mod_lt _ hb, by simpa using hc⟩

/-- reading the digits back, left to right, with any `val` that inverts `dig` -/
theorem fold (hb : 0 < b) (val : UInt8 → Nat) (hval : ∀ d, d < b → val (dig d) = d) (h : Digits b dig n l) (acc : Nat) :
    l.foldl (fun a c => a * b + val c) acc = acc * b ^ l.length + n := by
  induction h generalizing acc with
  | one h => simp [hval _ h]
  | @more n l _ _ ih =>
    rw [List.foldl_append, ih]
    simp only [List.foldl_cons, List.foldl_nil, hval _ (Nat.mod_lt _ hb), List.length_append, List.length_cons,
      List.length_nil]
    rw [Nat.pow_succ, ← Nat.mul_assoc, Nat.add_mul, Nat.add_assoc, Nat.mul_comm (n / b) b, Nat.div_add_mod]

theorem length_le (hb : 1 < b) (h : Digits b dig n l) : ∀ k, n < b ^ (k + 1) → l.length ≤ k + 1 := by
  induction h with
  | one _ => intro k _; simp
  | @more n l h _ ih =>
    intro k hk
    cases k with
    | zero => exact absurd (by simpa using hk) h
    | succ k =>
      have := ih k (by rw [Nat.div_lt_iff_lt_mul (by omega)]; rw [Nat.pow_succ] at hk; exact hk)
      simp only [List.length_append, List.length_cons, List.length_nil]; omega

/-- no leading zero: the first digit is `0` only for the number `0`, which is that digit alone -/
theorem head (h : Digits b dig n l) : ∃ d t, l = dig d :: t ∧ d < b ∧ (d = 0 → n = 0 ∧ t = []) := by
  induction h with
  | one h => exact ⟨_, [], rfl, h, fun h0 => ⟨h0, rfl⟩⟩
  | @more n l h _ ih =>
    obtain ⟨d, t, rfl, hd, h0⟩ := ih
    refine ⟨d, t ++ [dig (n % b)], rfl, hd, fun hd0 => absurd ?_ h⟩
    exact Nat.lt_of_div_eq_zero (by omega) (h0 hd0).1

end Digits

theorem decimal_digitsOf (n : Nat) : Digits 10 digitOctet n (decimal n) := by
  fun_induction decimal n
  case case1 n h => exact .one h
  case case2 n h ih => exact .more h ih

theorem digitsVal_append_digit (max : Nat) (l : List UInt8) (d : Nat) (hd : d < 10) (acc : Nat) :
    digitsVal max (l ++ [digitOctet d]) acc =
      (digitsVal max l acc).bind (fun v => if v * 10 + d > max then none else some (v * 10 + d)) := by
  induction l generalizing acc with
  | nil =>
    have ⟨h1, h2⟩ := digit_octet hd
    simp [digitsVal, h1, h2]
  | cons c rest ih =>
    simp only [List.cons_append, digitsVal]
    split
    · split
      · simp
      · exact ih _
    · simp

theorem decimal_digits (n : Nat) : ∀ c ∈ decimal n, isDigit c = true := fun c hc => by
  obtain ⟨d, hd, rfl⟩ := (decimal_digitsOf n).mem (by decide) c hc
  exact (digit_octet hd).1

theorem decimal_ne_nil (n : Nat) : decimal n ≠ [] := (decimal_digitsOf n).ne_nil

theorem digitsVal_decimal (max n : Nat) (h : n ≤ max) : digitsVal max (decimal n) 0 = some n := by
  fun_induction decimal n
  case case1 n hn =>
    have ⟨h1, h2⟩ := digit_octet hn
    simp [digitsVal, h1, h2]
    omega
  case case2 n hn ih =>
    rw [digitsVal_append_digit _ _ _ (Nat.mod_lt _ (by omega)), ih (by omega)]
    simp
    have := Nat.div_add_mod n 10
    constructor <;> omega

/-- **Integer fields**: the decimal form of `n ≤ max` parses to `n` (`u8/u16/u32::from_str`) -/
theorem parseUInt_decimal (max n : Nat) (h : n ≤ max) : parseUInt max (decimal n) = some n := by
  have hd := decimal_digits n
  have hv := digitsVal_decimal max n h
  cases hl : decimal n with
  | nil => exact absurd hl (decimal_ne_nil n)
  | cons c rest =>
    rw [hl] at hd hv
    have hc : isDigit c = true := hd c (by simp)
    have hne : (c == 43) = false ∧ (c == 45) = false := by
      unfold isDigit at hc
      simp [UInt8.le_iff_toNat_le] at hc
      constructor <;> (simp; intro h; subst h; simp at hc)
    unfold parseUInt
    cases rest with
    | nil => simp [hne.1, hne.2]; exact hv
    | cons c2 r2 => simp [hne.1]; exact hv

/-! ### escapes -/

theorem digit_not_10 {d : Nat} (hd : d < 10) : (digitOctet d == 10) = false := by
  have := (digit_octet hd).2
  cases h : (digitOctet d == 10)
  · rfl
  · simp at h; rw [h] at this; simp at this; omega

/-- `\X` for a non-digit octet reads back as `X` (a newline written this way is counted) -/
theorem parseEscapeL_esc (b : UInt8) (rest : List UInt8) (line : Nat) (hb : isDigit b = false) :
    parseEscapeL (b :: rest) line = .ok (b, rest, if b == 10 then line + 1 else line) := by
  simp [parseEscapeL, hb]

/-- `\DDD` reads back as the octet with that decimal value -/
theorem parseEscapeL_dec (b : UInt8) (rest : List UInt8) (line : Nat) :
    parseEscapeL (digitOctet (b.toNat / 100) :: digitOctet (b.toNat / 10 % 10) :: digitOctet (b.toNat % 10) :: rest) line
      = .ok (b, rest, line) := by
  have hb : b.toNat < 256 := b.toNat_lt
  have hv : UInt8.ofNat b.toNat = b := by simp
  generalize b.toNat = x at hb hv
  have h1 := digit_octet (d := x / 100) (Nat.div_lt_of_lt_mul (by omega))
  have h2 := digit_octet (d := x / 10 % 10) (Nat.mod_lt _ (by decide))
  have h3 := digit_octet (d := x % 10) (Nat.mod_lt _ (by decide))
  -- the three digits give back the value
  have e : 100 * (48 + x / 100 - 48) + 10 * (48 + x / 10 % 10 - 48) + (48 + x % 10 - 48) = x := by
    simp only [Nat.add_sub_cancel_left]
    omega
  have hle : ¬ x > 255 := by omega
  unfold parseEscapeL
  simp only [h1.1, h2.1, h3.1, h1.2, h2.2, h3.2, ↓reduceIte, Bool.and_self, Bool.not_true, Bool.false_eq_true, e, hle, hv]

theorem isDigit_eq (b : UInt8) : isDigit b = isDigitOctet b := rfl

/-- the line after reading an octet of a name written in the given form: only `\` + newline
    counts (a raw newline cannot occur in a name; for strings see `strLineAfter`) -/
def lineAfter (line : Nat) (b : UInt8) (f : OctetForm) : Nat :=
  if f = .esc ∧ b = 10 then line + 1 else line

/-- an octet written as `\X` or `\DDD`: a backslash, and what `parse_escape` reads back as the octet -/
theorem parseEscapeL_render (b : UInt8) (f : OctetForm) (hraw : f ≠ .raw) (hesc : f = .esc → isDigit b = false)
    (rest : List UInt8) (line : Nat) :
    ∃ X, renderOctet b f = 92 :: X ∧ parseEscapeL (X ++ rest) line = .ok (b, rest, lineAfter line b f) := by
  cases f with
  | raw => exact absurd rfl hraw
  | esc => exact ⟨[b], rfl, by simp [parseEscapeL_esc b rest line (hesc rfl), lineAfter]⟩
  | dec => exact ⟨_, rfl, by simpa [lineAfter] using parseEscapeL_dec b rest line⟩

/-! ### names -/

theorem atFieldEnd_plain {c : UInt8} (r : List UInt8) (hc : special c = false) : atFieldEnd (c :: r) = false := by
  simp only [special, Bool.or_eq_false_iff] at hc
  obtain ⟨⟨⟨⟨⟨⟨⟨h32, h9⟩, h40⟩, h41⟩, h59⟩, h10⟩, h13⟩, h92⟩ := hc
  simp [atFieldEnd, eolLen, endsField, isWs, h32, h9, h40, h41, h59, h10, h13]

theorem atFieldEnd_backslash (r : List UInt8) : atFieldEnd (92 :: r) = false := by
  simp [atFieldEnd, eolLen, endsField, isWs]

/-- one octet of a label, in any admissible form, is pushed onto the builder -/
theorem nameLoop_octet (origin : Option (List UInt8)) (nl : Nat) (b : UInt8) (f : OctetForm)
    (hf : nameFormOK b f = true) (rest : List UInt8) (line ll : Nat) (paren : Bool) (bld bld' : Builder)
    (hpush : bld.tryPush b = .ok bld') :
    nameLoop origin nl (renderOctet b f ++ rest) line ll paren bld =
      nameLoop origin nl rest (lineAfter line b f) ll paren bld' := by
  by_cases hraw : f = .raw
  · subst hraw
    simp only [nameFormOK, Bool.and_eq_true, Bool.not_eq_true', bne_iff_ne, ne_eq] at hf
    have hs : special b = false := hf.1
    have h92 : (b == 92) = false := by
      simp only [special, Bool.or_eq_false_iff] at hs; exact hs.2
    have h46 : (b == 46) = false := by simpa using hf.2
    rw [renderOctet, List.singleton_append, nameLoop.eq_def]
    simp [atFieldEnd_plain rest hs, h92, h46, hpush, lineAfter]
  · obtain ⟨X, hX, hp⟩ := parseEscapeL_render b f hraw
      (by rintro rfl; simpa [nameFormOK, isDigit_eq] using hf) rest line
    rw [hX, List.cons_append, nameLoop.eq_def]
    simp only [atFieldEnd_backslash, Bool.false_eq_true, ↓reduceIte, beq_self_eq_true]
    rw [hp]
    simp only [hpush]

/-- newlines written as `\` + newline inside a label: the reader counts them -/
def escNewlines (l : PLabel) : Nat := (l.filter fun x => x.2 = .esc ∧ x.1 = 10).length

theorem tryPush_ok_of_room (bld : Builder) (b : UInt8) (h1 : bld.cur.length < 63) (h2 : bld.wireLen < 255) :
    bld.tryPush b = .ok { bld with cur := bld.cur ++ [b] } := by
  unfold Builder.tryPush
  have e1 : ¬ (bld.cur.length ≥ Gen.MAX_LABEL_LEN) := by simp [Gen.MAX_LABEL_LEN]; omega
  have e2 : ¬ (bld.wireLen ≥ Gen.MAX_WIRE_LEN) := by simp [Gen.MAX_WIRE_LEN]; omega
  simp [e1, e2]

/-- a whole label, octet by octet -/
theorem nameLoop_label (origin : Option (List UInt8)) (nl : Nat) (l : PLabel)
    (hl : ∀ x ∈ l, nameFormOK x.1 x.2 = true) (rest : List UInt8) (line ll : Nat) (paren : Bool)
    (bld : Builder) (h1 : bld.cur.length + l.length ≤ 63) (h2 : bld.wireLen + l.length ≤ 255) :
    nameLoop origin nl (renderLabel l ++ rest) line ll paren bld =
      nameLoop origin nl rest (line + escNewlines l) ll paren { bld with cur := bld.cur ++ labelOctets l } := by
  induction l generalizing bld line with
  | nil => simp [renderLabel, escNewlines, labelOctets]
  | cons x l ih =>
    have hx := hl x (by simp)
    have hl' : ∀ y ∈ l, nameFormOK y.1 y.2 = true := fun y hy => hl y (by simp [hy])
    simp only [List.length_cons] at h1 h2
    have e : renderLabel (x :: l) ++ rest = renderOctet x.1 x.2 ++ (renderLabel l ++ rest) := by
      simp [renderLabel]
    rw [e, nameLoop_octet origin nl x.1 x.2 hx _ line ll paren bld _
      (tryPush_ok_of_room bld x.1 (by omega) (by omega))]
    rw [ih hl' _ { bld with cur := bld.cur ++ [x.1] } (by simp; omega) (by simp [Builder.wireLen] at h2 ⊢; omega)]
    congr 1
    · by_cases hc : x.2 = .esc ∧ x.1 = 10
      · simp [lineAfter, escNewlines, hc]; omega
      · simp [lineAfter, escNewlines, hc]
    · simp [labelOctets]

/-- the dot that ends a label -/
theorem nameLoop_dot (origin : Option (List UInt8)) (nl : Nat) (rest : List UInt8) (line ll : Nat)
    (paren : Bool) (bld : Builder) (hne : bld.cur ≠ []) (hw : bld.wireLen < 255) (hnl : bld.nl < 128) :
    nameLoop origin nl (46 :: rest) line ll paren bld =
      nameLoop origin nl rest line line paren
        ⟨bld.done ++ UInt8.ofNat bld.cur.length :: bld.cur, [], bld.nl + 1⟩ := by
  rw [nameLoop.eq_def]
  have hfe : atFieldEnd (46 :: rest) = false := atFieldEnd_plain rest (by decide)
  have hnext : bld.nextLabel = .ok ⟨bld.done ++ UInt8.ofNat bld.cur.length :: bld.cur, [], bld.nl + 1⟩ := by
    unfold Builder.nextLabel
    have e0 : bld.cur.isEmpty = false := by cases h : bld.cur <;> simp_all
    have e1 : ¬ (bld.wireLen ≥ Gen.MAX_WIRE_LEN) := by simp [Gen.MAX_WIRE_LEN]; omega
    have e2 : ¬ (bld.nl ≥ Gen.MAX_N_LABELS) := by simp [Gen.MAX_N_LABELS]; omega
    simp [e0, e1, e2]
  simp [hfe, hnext]

theorem labelOctets_length (l : PLabel) : (labelOctets l).length = l.length := by simp [labelOctets]

def nameNewlines (ls : List PLabel) : Nat := (ls.map escNewlines).sum

/-- labels each followed by a dot, then anything: the builder takes the labels in -/
theorem nameLoop_dotted (origin : Option (List UInt8)) (nl : Nat) (ls : List PLabel)
    (hforms : ∀ l ∈ ls, ∀ x ∈ l, nameFormOK x.1 x.2 = true)
    (rest : List UInt8) (paren : Bool) (done : List UInt8) (n line ll : Nat)
    (hLs : LabelsOK (ls.map labelOctets))
    (htotal : done.length + (flatLabels (ls.map labelOctets)).length + 1 ≤ 255) (hn : n + ls.length ≤ 128) :
    ∃ ll', nameLoop origin nl ((ls.flatMap fun l => renderLabel l ++ [46]) ++ rest) line ll paren ⟨done, [], n⟩ =
      nameLoop origin nl rest (line + nameNewlines ls) ll' paren
        ⟨done ++ flatLabels (ls.map labelOctets), [], n + ls.length⟩ := by
  induction ls generalizing done n line ll with
  | nil => exact ⟨ll, by simp [nameNewlines, flatLabels]⟩
  | cons l ls ih =>
    have hlok := hLs (labelOctets l) (by simp)
    rw [labelOctets_length] at hlok
    have hflat : flatLabels ((l :: ls).map labelOctets) =
        UInt8.ofNat (labelOctets l).length :: labelOctets l ++ flatLabels (ls.map labelOctets) := by
      simp [flatLabels, encLabel]
    rw [hflat] at htotal ⊢
    simp only [List.length_append, List.length_cons, labelOctets_length] at htotal hn
    have e : ((l :: ls).flatMap fun l => renderLabel l ++ [46]) ++ rest =
        renderLabel l ++ (46 :: ((ls.flatMap fun l => renderLabel l ++ [46]) ++ rest)) := by simp
    rw [e, nameLoop_label origin nl l (hforms l (by simp)) _ line ll paren _ (by simp; omega)
      (by simp [Builder.wireLen]; omega)]
    rw [nameLoop_dot origin nl _ _ ll paren _ (by
        intro h; simp [labelOctets] at h; subst h; simp at hlok)
      (by simp [Builder.wireLen, labelOctets_length]; omega) (by simp only; omega)]
    obtain ⟨ll', h'⟩ := ih (fun l' h' => hforms l' (by simp [h']))
      (done ++ UInt8.ofNat (labelOctets l).length :: labelOctets l) (n + 1) (line + escNewlines l)
      (line + escNewlines l) (fun x hx => hLs x (by simp [hx])) (by simp [labelOctets_length]; omega) (by omega)
    refine ⟨ll', ?_⟩
    simp only [List.nil_append]
    rw [h', List.append_assoc, show n + 1 + ls.length = n + (l :: ls).length by simp; omega,
      show line + escNewlines l + nameNewlines ls = line + nameNewlines (l :: ls) by simp [nameNewlines]; omega]

/-- **Absolute names**: labels written in any mix of raw / `\X` / `\DDD` forms, each followed by
    a dot, up to a field end, read back as the wire-form name with exactly those labels. -/
theorem nameLoop_abs (origin : Option (List UInt8)) (nl : Nat) (ls : List PLabel)
    (hforms : ∀ l ∈ ls, ∀ x ∈ l, nameFormOK x.1 x.2 = true)
    (rest : List UInt8) (hrest : atFieldEnd rest = true) (paren : Bool) (line ll : Nat)
    (hLs : LabelsOK (ls.map labelOctets))
    (htotal : (flatLabels (ls.map labelOctets)).length + 1 ≤ 255) :
    nameLoop origin nl ((ls.flatMap fun l => renderLabel l ++ [46]) ++ rest) line ll paren Builder.new =
      .ok (flatLabels (ls.map labelOctets) ++ [0], ⟨rest, line + nameNewlines ls, paren⟩) := by
  have hge := flatLabels_length_ge hLs
  obtain ⟨ll', h⟩ := nameLoop_dotted origin nl ls hforms rest paren [] 1 line ll hLs (by simpa using htotal)
    (by simp at hge; omega)
  rw [show Builder.new = ⟨[], [], 1⟩ from rfl, h, nameLoop.eq_def]
  simp [hrest, Builder.finish]

/-! ### `parse_name` on absolute names -/

/-- the first octet of a rendered non-empty label is a plain octet or a backslash: never `.`,
    and if it is `@` then something that is not a field end follows (inside an absolute name) -/
theorem renderLabel_head {l : PLabel} (hne : l ≠ []) (hl : ∀ x ∈ l, nameFormOK x.1 x.2 = true) :
    ∃ c t, renderLabel l = c :: t ∧ (c == 46) = false ∧ (c = 92 ∨ special c = false) := by
  cases l with
  | nil => exact absurd rfl hne
  | cons x l' =>
    have hx := hl x (by simp)
    obtain ⟨b, f⟩ := x
    cases f with
    | raw =>
      simp only [nameFormOK, Bool.and_eq_true, Bool.not_eq_true', bne_iff_ne, ne_eq] at hx
      exact ⟨b, renderLabel l', by simp [renderLabel, renderOctet], by simpa using hx.2, .inr hx.1⟩
    | esc => exact ⟨92, b :: renderLabel l', by simp [renderLabel, renderOctet], by decide, .inl rfl⟩
    | dec => exact ⟨92, _, by simp [renderLabel, renderOctet]; rfl, by decide, .inl rfl⟩

theorem atFieldEnd_of_head {c : UInt8} (t : List UInt8) (h : c = 92 ∨ special c = false) :
    atFieldEnd (c :: t) = false := by
  rcases h with rfl | h
  · exact atFieldEnd_backslash t
  · exact atFieldEnd_plain t h

/-- `expect_field`: the text is `field` as `cmp` sees it and a field end follows — consumed -/
theorem expectFieldImpl_match {cmp : List UInt8 → List UInt8 → Bool} {field T X : List UInt8}
    (hl : T.length = field.length) (hc : cmp T field = true) (hX : atFieldEnd X = true) (line : Nat) (p : Bool) :
    expectFieldImpl cmp field ⟨T ++ X, line, p⟩ = (true, ⟨X, line, p⟩) := by
  unfold expectFieldImpl
  simp [← hl, hc, hX]

/-- … or it is not: nothing is consumed -/
theorem expectFieldImpl_ne {cmp : List UInt8 → List UInt8 → Bool} {field : List UInt8} {st : St}
    (h : (cmp (st.inp.take field.length) field && atFieldEnd (st.inp.drop field.length)) = false) :
    expectFieldImpl cmp field st = (false, st) := by
  unfold expectFieldImpl
  split
  · rfl
  · rw [h]; rfl

theorem expectField_fail_of_not_end (f : List UInt8) (st : St) (h : atFieldEnd (st.inp.drop f.length) = false) :
    expectField f st = (false, st) :=
  expectFieldImpl_ne (by simp [h])

theorem expectField_fail_of_head {f0 : UInt8} (st : St) {c : UInt8} {t : List UInt8} (hinp : st.inp = c :: t)
    (hc : (c == f0) = false) : expectField [f0] st = (false, st) :=
  expectFieldImpl_ne (by simp [hinp, hc])

/-- a text that begins with a label is neither the field `@` nor the field `.` (unless the label
    is the lone `@` and a field end follows) -/
theorem expectField_at_dot_label {l : PLabel} (hne : l ≠ []) (hl : ∀ x ∈ l, nameFormOK x.1 x.2 = true)
    (tail : List UInt8) (hnotat : renderLabel l = [64] → atFieldEnd tail = false) (line : Nat) (paren : Bool) :
    expectField [64] ⟨renderLabel l ++ tail, line, paren⟩ = (false, ⟨renderLabel l ++ tail, line, paren⟩) ∧
    expectField [46] ⟨renderLabel l ++ tail, line, paren⟩ = (false, ⟨renderLabel l ++ tail, line, paren⟩) := by
  constructor
  · cases l with
    | nil => exact absurd rfl hne
    | cons x l' =>
      obtain ⟨b, f⟩ := x
      cases f with
      | raw =>
        by_cases hb : (b == 64) = true
        · apply expectField_fail_of_not_end
          show atFieldEnd (renderLabel l' ++ tail) = false
          cases l' with
          | nil => exact hnotat (by simp at hb; simp [renderLabel, renderOctet, hb])
          | cons y l'' =>
            obtain ⟨c, t, hct, _, hend⟩ := renderLabel_head (l := y :: l'') (by simp)
              (fun z hz => hl z (by simp [hz]))
            rw [hct]
            exact atFieldEnd_of_head _ hend
        · exact expectField_fail_of_head _ (c := b) rfl (by simpa using hb)
      | esc => exact expectField_fail_of_head _ (c := 92) rfl (by decide)
      | dec => exact expectField_fail_of_head _ (c := 92) rfl (by decide)
  · obtain ⟨c, t, hct, hc46, _⟩ := renderLabel_head hne hl
    rw [hct]
    exact expectField_fail_of_head _ (c := c) rfl hc46

/-- **Absolute names through `parse_name`**: the text of an absolute name with at least one
    label, in any admissible mix of forms, followed by a field end, parses to its wire form
    (whatever the origin is), consuming exactly the name and counting escaped newlines. -/
theorem parseName_abs (origin : Option (List UInt8)) (ls : List PLabel) (hne : ls ≠ [])
    (hforms : ∀ l ∈ ls, ∀ x ∈ l, nameFormOK x.1 x.2 = true)
    (hLs : LabelsOK (ls.map labelOctets))
    (htotal : (flatLabels (ls.map labelOctets)).length + 1 ≤ 255)
    (rest : List UInt8) (hrest : atFieldEnd rest = true) (line : Nat) (paren : Bool) :
    parseName origin ⟨renderAbsName ls ++ rest, line, paren⟩ =
      .ok (wireName (ls.map labelOctets), ⟨rest, line + nameNewlines ls, paren⟩) := by
  cases ls with
  | nil => exact absurd rfl hne
  | cons l ls' =>
    have hlne : l ≠ [] := by
      have := (hLs (labelOctets l) (by simp)).1
      intro h; subst h; simp [labelOctets] at this
    have hfl := hforms l (by simp)
    let tail := (ls'.flatMap fun l => renderLabel l ++ [46]) ++ rest
    have htext : renderAbsName (l :: ls') ++ rest = renderLabel l ++ 46 :: tail := by
      simp [renderAbsName, tail]
    obtain ⟨hat, hdot⟩ := expectField_at_dot_label hlne hfl (46 :: tail)
      (fun _ => atFieldEnd_plain tail (by decide)) line paren
    rw [← htext] at hat hdot
    unfold parseName
    simp only [hat, hdot, Bool.false_eq_true, ↓reduceIte]
    simp only [renderAbsName, List.isEmpty_cons, Bool.false_eq_true, ↓reduceIte]
    rw [nameLoop_abs origin line (l :: ls') hforms rest hrest paren line line hLs htotal]
    simp [wireName, flatLabels, encLabel]
    rfl

/-! ### plain fields (numbers, `CLASSnnn`, `TYPEnnn`) through `read_field` -/

/-- octets that may appear raw in a `read_field` field: not special, 7-bit -/
def plainOctet (c : UInt8) : Bool := !special c && c < 0x80

theorem fieldLen_plain (f rest : List UInt8) (hf : ∀ c ∈ f, plainOctet c = true)
    (hrest : atFieldEnd rest = true) : fieldLen (f ++ rest) = f.length := by
  induction f with
  | nil => simpa using fieldLen_zero hrest
  | cons c f ih =>
    have hc := hf c (by simp)
    simp only [plainOctet, Bool.and_eq_true, Bool.not_eq_true'] at hc
    simp only [List.cons_append, fieldLen, atFieldEnd_plain _ hc.1, Bool.false_eq_true, ↓reduceIte,
      List.length_cons]
    rw [ih (fun x hx => hf x (by simp [hx]))]

theorem utf8Valid_ascii (f : List UInt8) (hf : ∀ c ∈ f, plainOctet c = true) : utf8Valid f = true := by
  induction f with
  | nil => rfl
  | cons c f ih =>
    have hc := hf c (by simp)
    simp only [plainOctet, Bool.and_eq_true, decide_eq_true_eq] at hc
    unfold utf8Valid
    rw [if_pos hc.2]
    exact ih (fun x hx => hf x (by simp [hx]))

/-- **`read_field`** on a plain field followed by a field end: the field is parsed as a whole and
    consumed -/
theorem readField_plain {α} (parse : List UInt8 → Option α) (k : Kind) (f rest : List UInt8) (v : α)
    (hf : ∀ c ∈ f, plainOctet c = true) (hlen : f.length ≤ 65536) (hrest : atFieldEnd rest = true)
    (hp : parse f = some v) (line : Nat) (paren : Bool) :
    readField parse k ⟨f ++ rest, line, paren⟩ = .ok (v, ⟨rest, line, paren⟩) := by
  unfold readField
  simp only [fieldLen_plain f rest hf hrest, Gen.MAX_READ_FIELD_SIZE]
  have : ¬ (f.length > 65536) := by omega
  simp [this, utf8Valid_ascii f hf, hp]

theorem digit_plain {c : UInt8} (h : isDigit c = true) : plainOctet c = true := by
  unfold isDigit at h
  simp only [Bool.and_eq_true, decide_eq_true_eq, UInt8.le_iff_toNat_le] at h
  have h1 : (48 : UInt8).toNat = 48 := rfl
  have h2 : (57 : UInt8).toNat = 57 := rfl
  rw [h1, h2] at h
  have hb : c = UInt8.ofNat c.toNat := by simp
  have : ∀ n, 48 ≤ n → n ≤ 57 → plainOctet (UInt8.ofNat n) = true := by
    intro n h48 h57
    have : n = 48 ∨ n = 49 ∨ n = 50 ∨ n = 51 ∨ n = 52 ∨ n = 53 ∨ n = 54 ∨ n = 55 ∨ n = 56 ∨ n = 57 := by omega
    rcases this with rfl | rfl | rfl | rfl | rfl | rfl | rfl | rfl | rfl | rfl <;> decide
  rw [hb]; exact this _ h.1 h.2

theorem decimal_plain (n : Nat) : ∀ c ∈ decimal n, plainOctet c = true :=
  fun c hc => digit_plain (decimal_digits n c hc)

theorem decimal_length_le (n : Nat) (h : n < 10 ^ 10) : (decimal n).length ≤ 10 :=
  (decimal_digitsOf n).length_le (by decide) 9 h

/-- **Integer fields through `read_field`**: `decimal n` for `n ≤ max` reads back as `n` -/
theorem readField_decimal (max n : Nat) (hn : n ≤ max) (hmax : max < 10 ^ 10) (k : Kind)
    (rest : List UInt8) (hrest : atFieldEnd rest = true) (line : Nat) (paren : Bool) :
    readField (parseUInt max) k ⟨decimal n ++ rest, line, paren⟩ = .ok (n, ⟨rest, line, paren⟩) :=
  readField_plain _ k _ rest n (decimal_plain n)
    (by have := decimal_length_le n (by omega); omega) hrest (parseUInt_decimal max n hn) line paren

/-! ### `CLASSnnn` and `TYPEnnn` -/

theorem upperU8_digit {c : UInt8} (h : isDigit c = true) : upperU8 c = c := by
  unfold isDigit at h
  simp only [Bool.and_eq_true, decide_eq_true_eq, UInt8.le_iff_toNat_le] at h
  have h2 : (57 : UInt8).toNat = 57 := rfl
  rw [h2] at h
  unfold upperU8
  have : ¬ (97 ≤ c.toNat ∧ c.toNat ≤ 122) := by omega
  simp [this]

theorem map_upper_digits (ds : List UInt8) (h : ∀ c ∈ ds, isDigit c = true) : ds.map upperU8 = ds := by
  induction ds with
  | nil => rfl
  | cons c ds ih => simp [upperU8_digit (h c (by simp)), ih (fun x hx => h x (by simp [hx]))]

/-- no mnemonic of the table starts with the prefix: the table arms do not fire -/
theorem lookupCaseless_none (tbl : List (String × Nat)) (p ds : List UInt8)
    (hrows : tbl.all (fun r => !(r.1.toUTF8.toList.take p.length == p)) = true)
    (hp : p.map upperU8 = p) (hds : ∀ c ∈ ds, isDigit c = true) :
    lookupCaseless tbl (p ++ ds) = none := by
  unfold lookupCaseless
  have : tbl.find? (fun row => row.1.toUTF8.toList == (p ++ ds).map upperU8) = none := by
    rw [List.find?_eq_none]
    intro row hrow
    rw [List.all_eq_true] at hrows
    have := hrows row hrow
    simp only [Bool.not_eq_true', beq_eq_false_iff_ne, ne_eq] at this
    simp only [List.map_append, hp, map_upper_digits ds hds, beq_iff_eq]
    intro heq
    apply this
    rw [heq]; simp
  rw [this]

theorem parseCode_prefixed (tbl : List (String × Nat)) (pfx : String) (p : List UInt8)
    (hpfx : pfx.toUTF8.toList = p)
    (hrows : tbl.all (fun r => !(r.1.toUTF8.toList.take p.length == p)) = true)
    (hp : p.map upperU8 = p) (n : Nat) (hn : n ≤ 65535) :
    parseCode tbl pfx (p ++ decimal n) = some n := by
  unfold parseCode
  rw [lookupCaseless_none tbl p (decimal n) hrows hp (decimal_digits n), hpfx]
  simp [eqIgnoreCase, parseU16, parseUInt_decimal 65535 n hn]

/-- **`CLASSnnn`** reads back as class `nnn` -/
theorem parseClass_render (n : Nat) (hn : n ≤ 65535) : parseClass (renderClass n) = some n :=
  parseCode_prefixed Gen.classParse Gen.classDisplayPrefix [67, 76, 65, 83, 83] (by decide +kernel)
    (by decide +kernel) (by decide) n hn

/-- **`TYPEnnn`** reads back as type `nnn` -/
theorem parseType_render (n : Nat) (hn : n ≤ 65535) : parseType (renderType n) = some n :=
  parseCode_prefixed Gen.typeParse Gen.typeDisplayPrefix [84, 89, 80, 69] (by decide +kernel)
    (by decide +kernel) (by decide) n hn

/-- a field starting with a letter is not an integer -/
theorem parseUInt_letter (max : Nat) (c : UInt8) (rest : List UInt8) (hc : isDigit c = false)
    (h43 : (c == 43) = false) : parseUInt max (c :: rest) = none := by
  unfold parseUInt
  cases rest with
  | nil => simp [digitsVal, hc]
  | cons c2 r => simp [h43, digitsVal, hc]

/-- `TYPEnnn` is not a class -/
theorem parseClass_type (n : Nat) : parseClass (renderType n) = none := by
  unfold parseClass parseCode renderType
  rw [lookupCaseless_none Gen.classParse [84, 89, 80, 69] (decimal n) (by decide +kernel) (by decide)
    (decimal_digits n)]
  have hpfx : Gen.classDisplayPrefix.toUTF8.toList = [67, 76, 65, 83, 83] := by decide +kernel
  rw [hpfx]
  cases hd : decimal n with
  | nil => exact absurd hd (decimal_ne_nil n)
  | cons d ds => simp [eqIgnoreCase, lowerU8]

/-! ### relative names and `@` -/

theorem nameNewlines_snoc (ls : List PLabel) (l : PLabel) :
    nameNewlines (ls ++ [l]) = nameNewlines ls + escNewlines l := by
  simp [nameNewlines]

theorem renderLabels_snoc (ls : List PLabel) (l : PLabel) :
    renderLabels (ls ++ [l]) = (ls.flatMap fun x => renderLabel x ++ [46]) ++ renderLabel l := by
  induction ls with
  | nil => simp [renderLabels]
  | cons x ls ih =>
    cases hls : ls ++ [l] with
    | nil => simp at hls
    | cons y ys =>
      simp only [List.cons_append, hls, renderLabels]
      rw [← hls, ih]
      simp

/-- **Relative names**: labels separated by dots (no trailing dot), followed by a field end, are
    completed with the origin -/
theorem nameLoop_rel (o : List UInt8) (nl : Nat) (ls : List PLabel) (l : PLabel)
    (hforms : ∀ l' ∈ ls ++ [l], ∀ x ∈ l', nameFormOK x.1 x.2 = true)
    (rest : List UInt8) (hrest : atFieldEnd rest = true) (paren : Bool) (line : Nat)
    (hLs : LabelsOK ((ls ++ [l]).map labelOctets)) (ho : NameWF o)
    (htotal : (flatLabels ((ls ++ [l]).map labelOctets)).length + o.length ≤ 255) :
    nameLoop (some o) nl (renderLabels (ls ++ [l]) ++ rest) line line paren Builder.new =
      .ok (flatLabels ((ls ++ [l]).map labelOctets) ++ o,
           ⟨rest, line + nameNewlines (ls ++ [l]), paren⟩) := by
  have hol : 1 ≤ o.length := by
    obtain ⟨lo, _, rfl, _⟩ := ho; simp [encodeName]
  have hsplitAll : flatLabels ((ls ++ [l]).map labelOctets) =
      flatLabels (ls.map labelOctets) ++ (UInt8.ofNat l.length :: labelOctets l) := by
    simp [flatLabels, encLabel, labelOctets_length]
  have hLs' : LabelsOK (ls.map labelOctets) := fun x hx => hLs x (by simp at hx ⊢; exact .inl hx)
  have hge := flatLabels_length_ge hLs'
  have hlok := hLs (labelOctets l) (by simp)
  rw [labelOctets_length] at hlok
  have hlenAll : (flatLabels (ls.map labelOctets)).length + 1 + l.length + o.length ≤ 255 := by
    rw [hsplitAll] at htotal; simp [labelOctets_length] at htotal; omega
  obtain ⟨ll', hd⟩ := nameLoop_dotted (some o) nl ls (fun l' h' => hforms l' (by simp [h']))
    (renderLabel l ++ rest) paren [] 1 line line hLs' (by simp; omega) (by simp at hge; omega)
  rw [renderLabels_snoc, List.append_assoc]
  rw [List.nil_append, show 1 + ls.length = (ls.map labelOctets).length + 1 by simp; omega] at hd
  simp only [flatLabels] at hd
  rw [show Builder.new = ⟨[], [], 1⟩ from rfl, hd]
  rw [nameLoop_label (some o) nl l (hforms l (by simp)) rest _ ll' paren _ (by simp; omega)
    (by simp [Builder.wireLen, flatLabels] at hlenAll ⊢; omega)]
  rw [nameLoop.eq_def]
  have hne : (labelOctets l).isEmpty = false := by
    have := hlok.1
    cases hl : labelOctets l with
    | nil => simp [labelOctets] at hl; subst hl; simp at this
    | cons _ _ => rfl
  simp only [hrest, ↓reduceIte, List.nil_append, hne, Bool.false_eq_true]
  -- finish_with_suffix
  have hb : BInv ⟨List.flatMap encLabel (ls.map labelOctets), labelOctets l, (ls.map labelOctets).length + 1⟩ :=
    ⟨ls.map labelOctets, hLs', rfl, rfl, by simp [labelOctets_length]; omega,
      by simp [Builder.wireLen, labelOctets_length, flatLabels] at hlenAll ⊢; omega⟩
  have hfit : ¬ (Builder.wireLen ⟨List.flatMap encLabel (ls.map labelOctets), labelOctets l, (ls.map labelOctets).length + 1⟩
      + o.length > Gen.MAX_WIRE_LEN) := by
    simp [Builder.wireLen, labelOctets_length, flatLabels, Gen.MAX_WIRE_LEN] at hlenAll ⊢; omega
  have haux := finishWithSuffix_aux hb ho (by simp [hne]) hfit
  unfold Builder.finishWithSuffix
  have hnl : ¬ ((ls.map labelOctets).length + 1 + countLabels 256 o > Gen.MAX_N_LABELS) := by
    have h2 : (ls.map labelOctets).length + 1 + countLabels 256 o ≤ 128 := haux.2
    simp only [Gen.MAX_N_LABELS]; omega
  simp only [hne, Bool.false_eq_true, ↓reduceIte, hfit, hnl]
  rw [nameNewlines_snoc, hsplitAll, labelOctets_length]
  simp [flatLabels, Nat.add_assoc]

/-- **`@`** stands for the origin -/
theorem parseName_at (o : List UInt8) (rest : List UInt8) (hrest : atFieldEnd rest = true) (line : Nat)
    (paren : Bool) : parseName (some o) ⟨64 :: rest, line, paren⟩ = .ok (o, ⟨rest, line, paren⟩) := by
  unfold parseName
  simp [expectField, expectFieldImpl, hrest]

theorem label_nonempty {l : PLabel} (h : 0 < (labelOctets l).length) : l ≠ [] := by
  intro hl; subst hl; simp [labelOctets] at h

/-- **Relative names through `parse_name`**: completed with the origin -/
theorem parseName_rel (o : List UInt8) (ho : NameWF o) (ls : List PLabel) (l : PLabel)
    (hforms : ∀ l' ∈ ls ++ [l], ∀ x ∈ l', nameFormOK x.1 x.2 = true)
    (hLs : LabelsOK ((ls ++ [l]).map labelOctets))
    (htotal : (flatLabels ((ls ++ [l]).map labelOctets)).length + o.length ≤ 255)
    (hnotat : renderLabels (ls ++ [l]) ≠ [64])
    (rest : List UInt8) (hrest : atFieldEnd rest = true) (line : Nat) (paren : Bool) :
    parseName (some o) ⟨renderLabels (ls ++ [l]) ++ rest, line, paren⟩ =
      .ok (flatLabels ((ls ++ [l]).map labelOctets) ++ o, ⟨rest, line + nameNewlines (ls ++ [l]), paren⟩) := by
  have hloop := nameLoop_rel o line ls l hforms rest hrest paren line hLs ho htotal
  -- the first label and what follows it
  obtain ⟨l1, tail, htext, hl1mem, htail⟩ : ∃ l1 tail, renderLabels (ls ++ [l]) ++ rest = renderLabel l1 ++ tail ∧
      l1 ∈ ls ++ [l] ∧ ((∃ t', tail = 46 :: t') ∨ (tail = rest ∧ ls = [] ∧ l1 = l)) := by
    rw [renderLabels_snoc]
    cases ls with
    | nil => exact ⟨l, rest, by simp, by simp, .inr ⟨rfl, rfl, rfl⟩⟩
    | cons x ls' => exact ⟨x, _, by simp; rfl, by simp, .inl ⟨_, rfl⟩⟩
  have hl1ok := hLs (labelOctets l1) (List.mem_map.mpr ⟨l1, hl1mem, rfl⟩)
  have hl1ne : l1 ≠ [] := label_nonempty hl1ok.1
  have hl1forms := hforms l1 hl1mem
  obtain ⟨hat, hdot⟩ := expectField_at_dot_label hl1ne hl1forms tail (by
    intro h64
    rcases htail with ⟨t', rfl⟩ | ⟨_, hls, hl1l⟩
    · exact atFieldEnd_plain t' (by decide)
    · subst hls hl1l
      exact absurd (by simpa [renderLabels] using h64) hnotat) line paren
  rw [← htext] at hat hdot
  unfold parseName
  simp only [hat, hdot, Bool.false_eq_true, ↓reduceIte]
  exact hloop

end QV.ZF
