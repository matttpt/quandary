/-
  QV.Proofs.ZoneFile.Force — a trap.  The `match` of `collect` has overlapping patterns, and the
  first `fun_induction collect` in a module adds the auxiliary constants of that matcher
  (`collect.match_3.congr_eq_1…`) to the module.  `Parser` (C24) and `Line` (C25) both use it; met in
  one importer they would each bring their own copy ("environment already contains …").  Creating
  the constants here, below both, lets the chains for C23, C24 and C25 be imported side by side.
-/
import QV.Proofs.ZoneFile.Lex

namespace QV.ZF

theorem collect_force (p : Parser) : True := by
  fun_induction collect p <;> trivial

end QV.ZF
