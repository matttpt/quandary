/-
  QV.Proofs.ZoneFile.Line — the three line invariances (C25) from the RDATA parsers up to
  `parse_line` and the iterator: framed at line ends (`Frame`), independent of the line counter
  (`Shift`), outside parentheses after a line (`EL`).  The lexical layer and the loops are in
  `Frame`, `Shift`, `Paren`; here the composite functions follow from the closure lemmas.  Where a
  function saves no line number the three facts are stated and proved together (`Inside`,
  `Closes`).
-/
import QV.Proofs.ZoneFile.Paren

namespace QV.ZF
open QV

/-! ### readers inside a line, readers that end it -/

/-- a reader that stays inside the line and does not look at the line counter -/
structure Inside {α} (f : P α) : Prop where
  frame : Frame f fun _ => True
  shift : Shift f noSh

/-- a reader that ends the line, outside parentheses -/
structure Ends {α} (f : P α) : Prop where
  frame : Frame f fun _ => False
  paren : EL f

/-- … and does not look at the line counter -/
structure Closes {α} (f : P α) : Prop extends Ends f where
  shift : Shift f noSh

theorem Inside.bind {α β} {f : P α} {g : α → P β} (hf : Inside f) (hg : ∀ a, Inside (g a)) : Inside (P.bind f g) :=
  ⟨Frame_bindT hf.frame fun a => (hg a).frame, Shift_bindN hf.shift fun a => (hg a).shift⟩

/-- the line is ended by what comes after a reader that stays inside it -/
theorem Ends.after {α β} {f : P α} {g : α → P β} (hf : Frame f fun _ => True) (hg : ∀ a, Ends (g a)) :
    Ends (P.bind f g) :=
  ⟨Frame_bindT hf fun a => (hg a).frame, EL_bind_right fun a => (hg a).paren⟩

/-- … or by a reader that is followed by something that leaves the reader state alone -/
theorem Ends.andThen {α β} {f : P α} {g : α → P β} (hf : Ends f) (hg : ∀ a, Indep (g a)) : Ends (P.bind f g) :=
  ⟨Frame_bindE hf.frame hg, EL_bind_left hf.paren hg⟩

/-- after `skip_to_next_field_or_through_eol`: the line has ended, or what follows ends it -/
theorem Ends_skipThrough {β} {g : FieldOrEol → P β} (hF : Ends (g .Field)) (hE : Indep (g .Eol)) :
    Ends (P.bind skipToNextFieldOrThroughEol g) :=
  ⟨Frame_skip_bind hF.frame hE fun _ _ _ _ h => h, EL_skipThrough_bind hE hF.paren⟩

theorem Inside.closes {α β} {f : P α} {g : α → P β} (hf : Inside f) (hg : ∀ a, Closes (g a)) : Closes (P.bind f g) :=
  ⟨Ends.after hf.frame fun a => (hg a).toEnds, Shift_bindN hf.shift fun a => (hg a).shift⟩

theorem Ends_fail {α} (k : Kind) : Ends (P.fail k : P α) := ⟨Frame_fail _ _, EL_fail _⟩

theorem Ends_panic {α} : Ends (P.panic : P α) := ⟨Frame_panic _, EL_panic⟩

theorem Ends_expectEol : Ends expectEol := ⟨Frame_expectEol, EL_expectEol⟩

theorem Inside_pure {α} (a : α) : Inside (P.pure a) := ⟨Frame_pure a _, Shift_pure a⟩

theorem Inside_fail {α} (k : Kind) : Inside (P.fail k : P α) := ⟨Frame_fail _ _, Shift_fail _ _⟩

theorem Closes_fail {α} (k : Kind) : Closes (P.fail k : P α) := ⟨Ends_fail k, Shift_fail _ _⟩

theorem Closes_panic {α} : Closes (P.panic : P α) := ⟨Ends_panic, Shift_panic _⟩

/-- the common ending of the RDATA parsers: `expect_eol`, then build the RDATA -/
theorem Closes_eol_mk (l : List UInt8) : Closes (P.bind expectEol fun _ => mkRdata l) :=
  ⟨Ends_expectEol.andThen fun _ => Indep_mkRdata l, Shift_bindN Shift_expectEol fun _ => Shift_mkRdata l⟩

theorem Closes_eol_pure {α} (a : α) : Closes (P.bind expectEol fun _ => P.pure a) :=
  ⟨Ends_expectEol.andThen fun _ => Indep_pure _, Shift_bindN Shift_expectEol fun _ => Shift_pure _⟩

theorem Inside_pName (ctx : Ctx) : Inside (pName ctx) := ⟨Frame_pName ctx, Shift_pName ctx⟩

theorem Inside_readField {α} (parse : List UInt8 → Option α) (k : Kind) : Inside (readField parse k) :=
  ⟨Frame_readField _ _, Shift_readField _ _⟩

theorem Inside_skipToNextField (k : Kind) : Inside (skipToNextField k) :=
  ⟨Frame_skipToNextField k, Shift_skipToNextField k⟩

theorem Inside_parseCharacterString : Inside parseCharacterString :=
  ⟨Frame_parseCharacterString, Shift_parseCharacterString⟩

theorem Inside_tryP {α} {f : P α} (hs : Stable f) (hf : Inside f) : Inside (tryP f) :=
  ⟨Frame_tryP hs hf.frame, Shift_tryP hf.shift⟩

/-! ### the typed RDATA parsers -/

theorem Closes_nameRdataBody (ctx : Ctx) : Closes (nameRdataBody ctx) := by
  unfold nameRdataBody
  exact (Inside_pName ctx).closes fun _ => Closes_eol_mk _

theorem Closes_inARdataBody : Closes inARdataBody := by
  unfold inARdataBody
  exact (Inside_readField _ _).closes fun _ => Closes_eol_mk _

theorem Closes_inAaaaRdataBody : Closes inAaaaRdataBody := by
  unfold inAaaaRdataBody
  exact (Inside_readField _ _).closes fun _ => Closes_eol_mk _

theorem Closes_chARdataBody (ctx : Ctx) : Closes (chARdataBody ctx) := by
  unfold chARdataBody
  exact (Inside_pName ctx).closes fun _ => (Inside_skipToNextField _).closes fun _ =>
    Inside.closes ⟨Frame_parseChaosnetAddress, Shift_parseChaosnetAddress⟩ fun _ => Closes_eol_mk _

theorem Closes_soaRdataBody (ctx : Ctx) : Closes (soaRdataBody ctx) := by
  unfold soaRdataBody
  exact (Inside_pName ctx).closes fun _ => (Inside_skipToNextField _).closes fun _ =>
    (Inside_pName ctx).closes fun _ => (Inside_skipToNextField _).closes fun _ =>
    (Inside_readField _ _).closes fun _ => (Inside_skipToNextField _).closes fun _ =>
    (Inside_readField _ _).closes fun _ => (Inside_skipToNextField _).closes fun _ =>
    (Inside_readField _ _).closes fun _ => (Inside_skipToNextField _).closes fun _ =>
    (Inside_readField _ _).closes fun _ => (Inside_skipToNextField _).closes fun _ =>
    (Inside_readField _ _).closes fun _ => Closes_eol_mk _

theorem Closes_hinfoRdataBody : Closes hinfoRdataBody := by
  unfold hinfoRdataBody
  exact Inside_parseCharacterString.closes fun _ => (Inside_skipToNextField _).closes fun _ =>
    Inside_parseCharacterString.closes fun _ => Closes_eol_mk _

theorem Closes_minfoRdataBody (ctx : Ctx) : Closes (minfoRdataBody ctx) := by
  unfold minfoRdataBody
  exact (Inside_pName ctx).closes fun _ => (Inside_skipToNextField _).closes fun _ =>
    (Inside_pName ctx).closes fun _ => Closes_eol_mk _

theorem Closes_mxRdataBody (ctx : Ctx) : Closes (mxRdataBody ctx) := by
  unfold mxRdataBody
  exact (Inside_readField _ _).closes fun _ => (Inside_skipToNextField _).closes fun _ =>
    (Inside_pName ctx).closes fun _ => Closes_eol_mk _

theorem Closes_inSrvRdataBody (ctx : Ctx) : Closes (inSrvRdataBody ctx) := by
  unfold inSrvRdataBody
  exact (Inside_readField _ _).closes fun _ => (Inside_skipToNextField _).closes fun _ =>
    (Inside_readField _ _).closes fun _ => (Inside_skipToNextField _).closes fun _ =>
    (Inside_readField _ _).closes fun _ => (Inside_skipToNextField _).closes fun _ =>
    (Inside_pName ctx).closes fun _ => Closes_eol_mk _

/-! TXT and WKS save the line they start on (for their "too long" errors): their three facts
    are proved one by one. -/

theorem Ends_txtRdataBody : Ends txtRdataBody := by
  unfold txtRdataBody
  exact Ends.after Frame_getLine fun sl =>
    Ends.andThen ⟨Frame_txtLoop sl, fun st v st' h => txtLoop_paren sl st [] v st' h⟩ fun _ => Indep_mkRdata _

theorem tcp_udp_ok : (∀ c ∈ "TCP".toUTF8.toList, lowerU8 c ≠ lowerU8 10) ∧
    (∀ c ∈ "UDP".toUTF8.toList, lowerU8 c ≠ lowerU8 10) := by decide +kernel

theorem Ends_inWksRdataBody : Ends inWksRdataBody := by
  unfold inWksRdataBody
  refine Ends.after Frame_getLine fun sl => Ends.after (Frame_readField _ _) fun addr =>
    Ends.after (Frame_skipToNextField _) fun _ => ?_
  have hjp : ∀ proto : Nat, Ends (P.bind (fun st => wksLoop sl st [] 0) fun ports => mkRdata (newInWks addr proto ports)) :=
    fun proto => Ends.andThen ⟨Frame_wksLoop sl, fun st v st' h => wksLoop_paren sl st [] 0 v st' h⟩ fun _ => Indep_mkRdata _
  dsimp only
  refine Ends.after (Frame_expectFieldCI _ tcp_udp_ok.1) fun t => ?_
  cases t with
  | true => exact hjp _
  | false =>
    simp only [Bool.false_eq_true, ↓reduceIte]
    refine Ends.after (Frame_expectFieldCI _ tcp_udp_ok.2) fun t2 => ?_
    cases t2 with
    | true => exact hjp _
    | false =>
      simp only [Bool.false_eq_true, ↓reduceIte]
      exact Ends.after (Frame_readField _ _) fun _ => hjp _

/-- `Shift` for a parser that takes a saved line number: the parameter shifts with the counter -/
abbrev ShiftP {β} (G : Nat → P β) (sb : Nat → β → β) : Prop := ShiftF G (fun k l => l + k) sb

theorem ShiftP_bindN {α β} {f : P α} {H : Nat → α → P β} {sb : Nat → β → β}
    (hf : Shift f noSh) (hH : ∀ a, ShiftP (fun l => H l a) sb) : ShiftP (fun l => P.bind f (H l)) sb := by
  intro l x line p k
  simp only [P.bind, hf x line p k]
  cases f ⟨x, line, p⟩ with
  | ok r =>
    obtain ⟨a, ⟨y, l', q⟩⟩ := r
    simp only [shiftR, shiftSt, noSh]
    exact hH a l y l' q k
  | err e => rfl
  | panic => rfl

theorem ShiftP_const {β} {f : P β} {sb : Nat → β → β} (hf : Shift f sb) : ShiftP (fun _ => f) sb :=
  fun _ x line p k => hf x line p k

theorem ShiftP_ite {β} {c : Prop} [Decidable c] {F G : Nat → P β} {sb : Nat → β → β} (hF : ShiftP F sb)
    (hG : ShiftP G sb) : ShiftP (fun l => if c then F l else G l) sb := by
  by_cases h : c
  · simpa [h] using hF
  · simpa [h] using hG

/-- a loop that saves the line it started on, then something that does not -/
theorem ShiftP_bind {α β} {F : Nat → P α} {g : α → P β} {sb : Nat → β → β}
    (hF : ∀ sl st k, F (sl + k) (shiftSt k st) = shiftR noSh k (F sl st)) (hg : ∀ a, Shift (g a) sb) :
    ShiftP (fun sl => P.bind (F sl) g) sb := by
  intro sl x line p k
  simp only [P.bind, show F (sl + k) ⟨x, line + k, p⟩ = _ from hF sl ⟨x, line, p⟩ k]
  cases F sl ⟨x, line, p⟩ with
  | ok r => exact hg r.1 r.2.inp r.2.line r.2.paren k
  | err e => rfl
  | panic => rfl

theorem Shift_txtRdataBody : Shift txtRdataBody noSh := by
  unfold txtRdataBody
  exact Shift_bind Shift_getLine (ShiftP_bind (fun sl st k => txtLoop_shift sl st [] k) fun _ => Shift_mkRdata _)

theorem ShiftP_wksTail (addr : List UInt8) (proto : Nat) :
    ShiftP (fun sl => P.bind (fun st => wksLoop sl st [] 0) fun ports => mkRdata (newInWks addr proto ports)) noSh :=
  ShiftP_bind (fun sl st k => wksLoop_shift sl st [] 0 k) fun _ => Shift_mkRdata _

theorem Shift_inWksRdataBody : Shift inWksRdataBody noSh := by
  unfold inWksRdataBody
  refine Shift_bind Shift_getLine ?_
  refine ShiftP_bindN (Shift_readField _ _) fun addr => ShiftP_bindN (Shift_skipToNextField _) fun _ => ?_
  dsimp only
  refine ShiftP_bindN (Shift_expectFieldCI _) fun t => ?_
  cases t with
  | true => exact ShiftP_wksTail addr 6
  | false =>
    simp only [Bool.false_eq_true, ↓reduceIte]
    refine ShiftP_bindN (Shift_expectFieldCI _) fun t2 => ?_
    cases t2 with
    | true => exact ShiftP_wksTail addr 17
    | false =>
      simp only [Bool.false_eq_true, ↓reduceIte]
      exact ShiftP_bindN (Shift_readField _ _) fun pr => ShiftP_wksTail addr pr

theorem Closes_handlerBody (name : String) (ctx : Ctx) : Closes (handlerBody name ctx) := by
  unfold handlerBody
  split
  · exact Closes_nameRdataBody ctx
  · exact Closes_inARdataBody
  · exact Closes_chARdataBody ctx
  · exact Closes_soaRdataBody ctx
  · exact ⟨Ends_inWksRdataBody, Shift_inWksRdataBody⟩
  · exact Closes_hinfoRdataBody
  · exact Closes_minfoRdataBody ctx
  · exact Closes_mxRdataBody ctx
  · exact ⟨Ends_txtRdataBody, Shift_txtRdataBody⟩
  · exact Closes_inAaaaRdataBody
  · exact Closes_inSrvRdataBody ctx
  · exact Closes_panic

/-! ### RFC 3597 generic RDATA (it saves the line of the hex digits) -/

theorem Ends_parseUnknownRdataImpl : Ends parseUnknownRdataImpl := by
  unfold parseUnknownRdataImpl
  refine Ends.after (Frame_skipToNextField _) fun _ => Ends.after (Frame_readField _ _) fun len => ?_
  have hjp : ∀ res : Nat × List UInt8, Ends (P.bind expectEol fun _ => P.pure res) :=
    fun res => Ends_expectEol.andThen fun _ => Indep_pure _
  dsimp only
  split
  · exact Ends.after (Frame_bindT Frame_getLine fun _ => Frame_pure _ _) fun _ => hjp _
  · exact Ends.after (Frame_skipToNextField _) fun _ => Ends.after Frame_getLine fun _ =>
      Ends.after (Frame_hexDigits _ _) fun rd => Ends.after (Frame_mkRdata _) fun _ =>
        Ends.after (Frame_pure _ _) fun _ => hjp _

theorem Ends_parseUnknownRdata : Ends parseUnknownRdata := by
  unfold parseUnknownRdata
  exact Ends_parseUnknownRdataImpl.andThen fun _ => Indep_pure _

theorem Ends_parseUnknownRdataWithValidation (v : String) : Ends (parseUnknownRdataWithValidation v) := by
  unfold parseUnknownRdataWithValidation
  refine Ends_parseUnknownRdataImpl.andThen fun r => ?_
  obtain ⟨line, rd⟩ := r
  dsimp only
  split
  · split
    · exact Indep_pure _
    · exact Indep_of_not_ok (by intro st r; simp [P.failAt, fail])
    · exact Indep_of_not_ok (by intro st r; simp [P.panic])
  · exact Indep_of_not_ok (by intro st r; simp [P.panic])

/-- the saved line of the hex digits, shifted -/
def shL (k : Nat) (r : Nat × List UInt8) : Nat × List UInt8 := (r.1 + k, r.2)

theorem Shift_parseUnknownRdataImpl : Shift parseUnknownRdataImpl shL := by
  unfold parseUnknownRdataImpl
  refine Shift_bindN (Shift_skipToNextField _) fun _ => Shift_bindN (Shift_readField _ _) fun len => ?_
  have hjp : ShiftF (fun res : Nat × List UInt8 => P.bind expectEol fun _ => P.pure res) shL shL := by
    intro res x line p k
    simp only [P.bind, Shift_expectEol x line p k]
    cases expectEol ⟨x, line, p⟩ with
    | ok r => rfl
    | err e => rfl
    | panic => rfl
  dsimp only
  split
  · refine Shift_bind (sa := shL) ?_ hjp
    exact Shift_bind Shift_getLine fun _ _ _ _ _ => rfl
  · refine Shift_bindN (Shift_skipToNextField _) fun _ => Shift_bind Shift_getLine ?_
    refine ShiftP_bindN (Shift_hexDigits _ _) fun rd => ?_
    intro l x line p k
    simp only [bind, P.bind, mkRdata, pure, P.pure]
    by_cases hl : rd.length > 65535
    · simp only [hl, ↓reduceIte]; rfl
    · simp only [hl, ↓reduceIte]
      exact hjp (l, rd) x line p k

theorem Shift_parseUnknownRdata : Shift parseUnknownRdata noSh := by
  unfold parseUnknownRdata
  exact Shift_bind Shift_parseUnknownRdataImpl fun _ _ _ _ _ => rfl

theorem Shift_parseUnknownRdataWithValidation (v : String) : Shift (parseUnknownRdataWithValidation v) noSh := by
  unfold parseUnknownRdataWithValidation
  refine Shift_bind Shift_parseUnknownRdataImpl ?_
  intro r x line p k
  obtain ⟨l, rd⟩ := r
  simp only [shL]
  cases Rdata.validateHandler v with
  | none => rfl
  | some f =>
    simp only
    cases f rd.toArray <;> rfl

/-! ### `parse_rdata`, TTL, class, type -/

theorem Inside_checkBackslashHash (k : Kind) : Inside (checkBackslashHash k) := by
  unfold checkBackslashHash
  exact (Inside_skipToNextField _).bind fun _ => ⟨Frame_expectField _ (by decide), Shift_expectField _⟩

theorem Closes_runHandler (name : String) (ctx : Ctx) : Closes (runHandler name ctx) := by
  unfold runHandler
  split
  · refine (Inside_checkBackslashHash _).closes fun t => ?_
    cases t with
    | true => exact ⟨Ends_parseUnknownRdataWithValidation _, Shift_parseUnknownRdataWithValidation _⟩
    | false => exact Closes_handlerBody _ _
  · exact Closes_panic

theorem Closes_parseRdata (ctx : Ctx) (cls ty : Nat) : Closes (parseRdata ctx cls ty) := by
  unfold parseRdata
  split
  · exact Closes_runHandler _ _
  · refine (Inside_checkBackslashHash _).closes fun t => ?_
    cases t with
    | true => exact ⟨Ends_parseUnknownRdata, Shift_parseUnknownRdata⟩
    | false => exact Closes_fail _

theorem Frame_parseTypeField : Frame parseTypeField fun _ => True := by
  unfold parseTypeField
  refine Frame_bindT Frame_getLine fun line => Frame_bindT (Frame_readField _ _) fun ty => ?_
  split
  · exact Frame_failAt _ _ _
  · exact Frame_pure _ _

theorem Shift_parseTypeField : Shift parseTypeField noSh := by
  unfold parseTypeField
  refine Shift_bind Shift_getLine ?_
  refine ShiftP_bindN (Shift_readField _ _) fun ty => ?_
  split
  · exact ShiftF_failAt _ _
  · exact ShiftP_const (Shift_pure _)

theorem Inside_tryTtl : Inside (tryP parseTtl) :=
  Inside_tryP (Stable_bind_pure (Stable_readField _ _) _) ((Inside_readField _ _).bind fun _ => Inside_pure _)

theorem Inside_tryClass : Inside (tryP parseClassField) := Inside_tryP (Stable_readField _ _) (Inside_readField _ _)

theorem Inside_parseTtlAndClass (ctx : Ctx) : Inside (parseTtlAndClass ctx) := by
  unfold parseTtlAndClass
  refine Inside_tryTtl.bind fun t => ?_
  cases t with
  | some ttl =>
    refine (Inside_skipToNextField _).bind fun _ => Inside_tryClass.bind fun c => ?_
    cases c with
    | some cls => exact Inside_pure _
    | none =>
      dsimp only
      split
      · exact Inside_pure _
      · exact Inside_fail _
  | none =>
    refine Inside_tryClass.bind fun c => ?_
    cases c with
    | some cls =>
      refine (Inside_skipToNextField _).bind fun _ => Inside_tryTtl.bind fun t => ?_
      cases t with
      | some ttl => exact Inside_pure _
      | none =>
        dsimp only
        split
        · exact Inside_pure _
        · exact Inside_fail _
    | none =>
      dsimp only
      split
      · exact Inside_pure _
      · exact Inside_fail _
      · exact Inside_fail _

/-! ### lines -/

theorem Closes_parseOriginDirective (ctx : Ctx) : Closes (parseOriginDirective ctx) := by
  unfold parseOriginDirective
  exact (Inside_skipToNextField _).closes fun _ => (Inside_pName ctx).closes fun _ => Closes_eol_pure _

theorem Closes_parseTtlDirective (ctx : Ctx) : Closes (parseTtlDirective ctx) := by
  unfold parseTtlDirective
  exact (Inside_skipToNextField _).closes fun _ => (Inside_readField _ _).closes fun _ => Closes_eol_pure _

theorem directive_names_ok : (∀ c ∈ "$ORIGIN".toUTF8.toList, lowerU8 c ≠ lowerU8 10) ∧
    (∀ c ∈ "$TTL".toUTF8.toList, lowerU8 c ≠ lowerU8 10) ∧
    (∀ c ∈ "$INCLUDE".toUTF8.toList, lowerU8 c ≠ lowerU8 10) := by decide +kernel

theorem Ends_parseRecordRest (ctx : Ctx) (sl : Nat) (lw : Bool) : Ends (parseRecordRest ctx sl lw) := by
  unfold parseRecordRest
  have hjp : ∀ owner : List UInt8, Ends (recordRest ctx sl owner) := by
    intro owner
    unfold recordRest
    refine Ends.after (Frame_skipToNextField _) fun _ => Ends.after (Inside_parseTtlAndClass ctx).frame fun tc => ?_
    obtain ⟨ttl, cls⟩ := tc
    exact Ends.after (Frame_skipToNextField _) fun _ => Ends.after Frame_parseTypeField fun ty =>
      (Closes_parseRdata ctx cls ty).toEnds.andThen fun _ => Indep_pure _
  dsimp only
  split
  · split
    · exact Ends.after (Frame_pure _ _) fun _ => hjp _
    · exact Ends.after (Frame_failAt _ _ _) fun _ => hjp _
  · exact Ends.after (Frame_pName ctx) fun _ => hjp _

theorem Ends_parseRecordOrEmpty (ctx : Ctx) : Ends (parseRecordOrEmpty ctx) := by
  unfold parseRecordOrEmpty
  exact Ends.after Frame_getLine fun sl => Ends.after Frame_skipWhitespace fun lw =>
    Ends_skipThrough (Ends_parseRecordRest ctx sl lw) (Indep_pure _)

theorem Ends_parseIncludeDirective (ctx : Ctx) : Ends (parseIncludeDirective ctx) := by
  unfold parseIncludeDirective
  exact Ends.after Frame_getLine fun line => Ends.after (Frame_skipToNextField _) fun _ =>
    Ends.after (Frame_parseString _ _ _) fun path =>
      Ends_skipThrough (Ends.after (Frame_pName ctx) fun _ => Ends_expectEol.andThen fun _ => Indep_pure _) (Indep_pure _)

theorem Ends_parseDirective (ctx : Ctx) : Ends (parseDirective ctx) := by
  unfold parseDirective
  refine Ends.after (Frame_expectFieldCI _ directive_names_ok.1) fun t => ?_
  cases t with
  | true => exact (Closes_parseOriginDirective ctx).toEnds.andThen fun _ => Indep_pure _
  | false =>
    simp only [Bool.false_eq_true, ↓reduceIte]
    refine Ends.after (Frame_expectFieldCI _ directive_names_ok.2.1) fun t2 => ?_
    cases t2 with
    | true => exact (Closes_parseTtlDirective ctx).toEnds.andThen fun _ => Indep_pure _
    | false =>
      simp only [Bool.false_eq_true, ↓reduceIte]
      refine Ends.after (Frame_expectFieldCI _ directive_names_ok.2.2) fun t3 => ?_
      cases t3 with
      | true => exact (Ends_parseIncludeDirective ctx).andThen fun _ => Indep_pure _
      | false => exact Ends_fail _

/-- **One line.**  On an input that ends with an unescaped newline, a successful `parse_line`
    is unchanged by whatever follows that input; and it ends outside parentheses. -/
theorem Ends_parseLine (ctx : Ctx) : Ends (parseLine ctx) := by
  constructor
  · intro x b line p v y line' p' hx hrun
    obtain ⟨c, rest, rfl⟩ := hx.exists_cons
    unfold parseLine at hrun ⊢
    simp only [List.cons_append] at hrun ⊢
    by_cases h36 : (c == 36) = true
    · simp only [h36, ↓reduceIte] at hrun ⊢
      exact (Ends_parseDirective ctx).frame (c :: rest) b line p v y line' p' hx hrun
    · simp only [h36, Bool.false_eq_true, ↓reduceIte] at hrun ⊢
      exact (Ends_parseRecordOrEmpty ctx).frame (c :: rest) b line p v y line' p' hx hrun
  · intro st v st' h
    unfold parseLine at h
    split at h
    · split at h
      · exact (Ends_parseDirective ctx).paren st v st' h
      · exact (Ends_parseRecordOrEmpty ctx).paren st v st' h
    · exact (Ends_parseRecordOrEmpty ctx).paren st v st' h

/-- an item with its line number `k` higher -/
def shItem (k : Nat) : Item → Item
  | .record l r => .record (l + k) r
  | .incl l path o => .incl (l + k) path o

/-- the result of `parse_line`, its item shifted -/
def shIC (k : Nat) (r : Option Item × Ctx) : Option Item × Ctx := (r.1.map (shItem k), r.2)

theorem ShiftP_parseRecordRest (ctx : Ctx) (lw : Bool) : ShiftP (fun sl => parseRecordRest ctx sl lw) shIC := by
  unfold parseRecordRest
  have hjp : ∀ owner : List UInt8, ShiftP (fun sl => recordRest ctx sl owner) shIC := by
    intro owner
    unfold recordRest
    refine ShiftP_bindN (Shift_skipToNextField _) fun _ => ShiftP_bindN ((Inside_parseTtlAndClass ctx).shift) fun tc => ?_
    obtain ⟨ttl, cls⟩ := tc
    refine ShiftP_bindN (Shift_skipToNextField _) fun _ => ShiftP_bindN Shift_parseTypeField fun ty =>
      ShiftP_bindN ((Closes_parseRdata ctx cls ty).shift) fun rd => ?_
    intro sl x line p k
    rfl
  dsimp only
  split
  · split
    · exact ShiftP_bindN (Shift_pure _) fun _ => hjp _
    · intro sl x line p k
      rfl
  · exact ShiftP_bindN (Shift_pName ctx) fun _ => hjp _

theorem Shift_parseRecordOrEmpty (ctx : Ctx) : Shift (parseRecordOrEmpty ctx) shIC := by
  unfold parseRecordOrEmpty
  refine Shift_bind Shift_getLine ?_
  refine ShiftP_bindN Shift_skipWhitespace fun lw => ShiftP_bindN Shift_skipThrough fun r => ?_
  split
  · intro sl x line p k
    rfl
  · exact ShiftP_parseRecordRest ctx lw

theorem Shift_parseIncludeDirective (ctx : Ctx) : Shift (parseIncludeDirective ctx) shItem := by
  unfold parseIncludeDirective
  refine Shift_bind Shift_getLine ?_
  refine ShiftP_bindN (Shift_skipToNextField _) fun _ => ShiftP_bindN (Shift_parseString _ _ _) fun path =>
    ShiftP_bindN Shift_skipThrough fun r => ?_
  split
  · intro l x line p k
    rfl
  · refine ShiftP_bindN (Shift_pName ctx) fun o => ShiftP_bindN Shift_expectEol fun _ => ?_
    intro l x line p k
    rfl

theorem Shift_parseDirective (ctx : Ctx) : Shift (parseDirective ctx) shIC := by
  unfold parseDirective
  refine Shift_bindN (Shift_expectFieldCI _) fun t => ?_
  cases t with
  | true =>
    exact Shift_bind ((Closes_parseOriginDirective ctx).shift) fun _ _ _ _ _ => rfl
  | false =>
    simp only [Bool.false_eq_true, ↓reduceIte]
    refine Shift_bindN (Shift_expectFieldCI _) fun t2 => ?_
    cases t2 with
    | true =>
      exact Shift_bind ((Closes_parseTtlDirective ctx).shift) fun _ _ _ _ _ => rfl
    | false =>
      simp only [Bool.false_eq_true, ↓reduceIte]
      refine Shift_bindN (Shift_expectFieldCI _) fun t3 => ?_
      cases t3 with
      | true =>
        exact Shift_bind (Shift_parseIncludeDirective ctx) fun _ _ _ _ _ => rfl
      | false => exact Shift_fail _ _

theorem Shift_parseLine (ctx : Ctx) : Shift (parseLine ctx) shIC := by
  intro x line p k
  unfold parseLine
  cases x with
  | nil => exact Shift_parseRecordOrEmpty ctx [] line p k
  | cons c rest =>
    simp only
    split
    · exact Shift_parseDirective ctx (c :: rest) line p k
    · exact Shift_parseRecordOrEmpty ctx (c :: rest) line p k

/-! ### the iterator -/

theorem untilData_shift (ctx : Ctx) (st : St) (k : Nat) :
    untilData ctx (shiftSt k st) = shiftR shIC k (untilData ctx st) := by
  fun_induction untilData ctx st
  all_goals rw [untilData.eq_def]
  all_goals simp only [shiftSt_inp, (Shift_parseLine _).st, *, shiftR, shIC, Option.map_none, Option.map_some]
  case case3 hx ctx' st' hl hlt ih => rw [hx] at hlt; simp only [hlt, ↓reduceIte]
  case case4 hx ctx' st' hl hlt => rw [hx] at hlt; simp only [hlt, ↓reduceIte]; rfl
  all_goals rfl

/-- a yield of the iterator with its line number `k` higher -/
def shiftY (k : Nat) : Yield → Yield
  | .item i => .item (shItem k i)
  | .err e => .err (shiftErr k e)
  | .panic => .panic

/-- the parser with the reader's line counter `k` higher -/
def shiftParser (k : Nat) (p : Parser) : Parser := { p with st := shiftSt k p.st }

theorem next_shift (p : Parser) (k : Nat) :
    (shiftParser k p).next = ((p.next).1.map (shiftY k), shiftParser k (p.next).2) := by
  obtain ⟨e, st, ctx⟩ := p
  unfold Parser.next shiftParser
  cases e with
  | true => rfl
  | false =>
    simp only [Bool.false_eq_true, ↓reduceIte, untilData_shift]
    cases untilData ctx st with
    | ok r =>
      obtain ⟨⟨it?, ctx'⟩, st'⟩ := r
      cases it? <;> rfl
    | err e => rfl
    | panic => rfl

@[simp] theorem shiftParser_inp (k : Nat) (p : Parser) : (shiftParser k p).st.inp = p.st.inp := rfl

theorem collect_shift (p : Parser) (k : Nat) : collect (shiftParser k p) = (collect p).map (shiftY k) := by
  fun_induction collect p
  all_goals rw [collect.eq_def]
  all_goals simp only [next_shift, *, Option.map_some, Option.map_none, shiftY, List.map_cons, List.map_nil,
    shiftParser_inp, ↓reduceIte]
  case case3 => rfl
  case case4 y p' hy hn =>
    -- an error or a panic: one more call of `next`, which the latch answers
    cases y with
    | item i => exact absurd rfl (hy i)
    | err e => simp only [next_shift]; cases p'.next with | mk y2 p2 => cases y2 <;> rfl
    | panic => simp only [next_shift]; cases p'.next with | mk y2 p2 => cases y2 <;> rfl

theorem untilData_paren (ctx : Ctx) (st : St) (r : Option Item × Ctx) (st' : St)
    (h : untilData ctx st = .ok (r, st')) (hp : st.paren = false) : st'.paren = false := by
  fun_induction untilData ctx st
  case case1 => cases h; exact hp
  case case2 ctx st c rest hinp item ctx' st1 hl => cases h; exact (Ends_parseLine ctx).paren st _ _ hl
  case case3 ctx st c rest hinp ctx' st1 hl hlt ih => exact ih h ((Ends_parseLine ctx).paren st _ _ hl)
  all_goals cases h

end QV.ZF
