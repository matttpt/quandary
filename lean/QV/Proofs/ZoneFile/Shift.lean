/-
  QV.Proofs.ZoneFile.Shift — the parser does not depend on where the line counter starts (C25):
  reading a text from line `l + k` gives what reading it from line `l` gives, with every line
  number (of records, include requests, errors, and of the reader) increased by `k`.  Here: the
  property `Shift`, its closure lemmas, the lexical layer and the loops; the composite functions
  and the iterator (`collect_shift`) are in `Line`.
-/
import QV.Proofs.ZoneFile.Force

namespace QV.ZF
open QV

/-! ### shifting results -/

/-- an error reported `k` lines further down -/
def shiftErr (k : Nat) (e : Err) : Err := ⟨e.kind, e.line + k⟩

/-- the reader state with the line counter `k` higher -/
def shiftSt (k : Nat) (st : St) : St := ⟨st.inp, st.line + k, st.paren⟩

/-- a result with all its line numbers increased by `k`; `sh` shifts the value -/
def shiftR {α} (sh : Nat → α → α) (k : Nat) : R α → R α
  | .ok (v, st) => .ok (sh k v, shiftSt k st)
  | .err e => .err (shiftErr k e)
  | .panic => .panic

/-- values without line numbers -/
def noSh {α} : Nat → α → α := fun _ a => a

/-- `f` commutes with shifting the line counter -/
def Shift {α} (f : P α) (sh : Nat → α → α) : Prop :=
  ∀ (x : List UInt8) (line : Nat) (p : Bool) (k : Nat), f ⟨x, line + k, p⟩ = shiftR sh k (f ⟨x, line, p⟩)

/-- a continuation commutes with shifting, its argument included -/
def ShiftF {α β} (g : α → P β) (sa : Nat → α → α) (sb : Nat → β → β) : Prop :=
  ∀ (a : α) (x : List UInt8) (line : Nat) (p : Bool) (k : Nat),
    g (sa k a) ⟨x, line + k, p⟩ = shiftR sb k (g a ⟨x, line, p⟩)

@[simp] theorem shiftSt_inp (k : Nat) (st : St) : (shiftSt k st).inp = st.inp := rfl
@[simp] theorem shiftSt_line (k : Nat) (st : St) : (shiftSt k st).line = st.line + k := rfl
@[simp] theorem shiftSt_paren (k : Nat) (st : St) : (shiftSt k st).paren = st.paren := rfl

/-- `Shift` on a reader state that is not taken apart -/
theorem Shift.st {α} {f : P α} {sh : Nat → α → α} (h : Shift f sh) (st : St) (k : Nat) :
    f (shiftSt k st) = shiftR sh k (f st) := h st.inp st.line st.paren k

theorem Shift_bind {α β} {f : P α} {g : α → P β} {sa : Nat → α → α} {sb : Nat → β → β}
    (hf : Shift f sa) (hg : ShiftF g sa sb) : Shift (P.bind f g) sb := by
  intro x line p k
  simp only [P.bind, hf x line p k]
  cases f ⟨x, line, p⟩ with
  | ok r =>
    obtain ⟨a, ⟨y, l, q⟩⟩ := r
    simp only [shiftR, shiftSt]
    exact hg a y l q k
  | err e => rfl
  | panic => rfl

theorem ShiftF_of {α β} {g : α → P β} {sb : Nat → β → β} (h : ∀ a, Shift (g a) sb) : ShiftF g noSh sb :=
  fun a x line p k => h a x line p k

theorem Shift_bindN {α β} {f : P α} {g : α → P β} {sb : Nat → β → β}
    (hf : Shift f noSh) (hg : ∀ a, Shift (g a) sb) : Shift (P.bind f g) sb :=
  Shift_bind hf (ShiftF_of hg)

theorem Shift_pure {α} (a : α) : Shift (P.pure a) noSh := fun _ _ _ _ => rfl

theorem Shift_pure' {α} (a : α) (sh : Nat → α → α) (h : ∀ k, sh k a = a) : Shift (P.pure a) sh := by
  intro x line p k
  simp [P.pure, shiftR, shiftSt, h]

theorem Shift_fail {α} (kind : Kind) (sh : Nat → α → α) : Shift (P.fail kind : P α) sh :=
  fun _ _ _ _ => rfl

theorem Shift_panic {α} (sh : Nat → α → α) : Shift (P.panic : P α) sh := fun _ _ _ _ => rfl

/-- `Err(Error::new(saved_position, kind))` with the saved position shifted -/
theorem ShiftF_failAt {α} (kind : Kind) (sh : Nat → α → α) :
    ShiftF (fun l => (P.failAt kind l : P α)) (fun k l => l + k) sh := fun _ _ _ _ _ => rfl

theorem Shift_getLine : Shift getLine (fun k l => l + k) := fun _ _ _ _ => rfl

theorem Shift_ite {α} {c : Prop} [Decidable c] {f g : P α} {sh : Nat → α → α} (hf : Shift f sh) (hg : Shift g sh) :
    Shift (if c then f else g) sh := by
  split <;> assumption

theorem Shift_mkRdata (l : List UInt8) : Shift (mkRdata l) noSh := by
  intro x line p k
  unfold mkRdata
  split <;> rfl

/-- functions on the reader that neither read nor write the line counter -/
theorem Shift_liftB (f : St → Bool × St)
    (hf : ∀ x line p k, f ⟨x, line + k, p⟩ = ((f ⟨x, line, p⟩).1, shiftSt k (f ⟨x, line, p⟩).2)) :
    Shift (liftB f) noSh := by
  intro x line p k
  simp [liftB, hf x line p k, shiftR, noSh]

/-! ### the lexical layer -/

theorem expectFieldImpl_shift (cmp : List UInt8 → List UInt8 → Bool) (field : List UInt8) (st : St) (k : Nat) :
    expectFieldImpl cmp field (shiftSt k st) =
      ((expectFieldImpl cmp field st).1, shiftSt k (expectFieldImpl cmp field st).2) := by
  obtain ⟨x, line, p⟩ := st
  show expectFieldImpl cmp field ⟨x, line + k, p⟩ = _
  unfold expectFieldImpl
  simp only
  split
  · rfl
  · split <;> rfl

theorem Shift_expectField (field : List UInt8) : Shift (liftB (expectField field)) noSh :=
  Shift_liftB _ fun x line p k => expectFieldImpl_shift _ field ⟨x, line, p⟩ k

theorem Shift_expectFieldCI (field : List UInt8) : Shift (liftB (expectFieldCI field)) noSh :=
  Shift_liftB _ fun x line p k => expectFieldImpl_shift _ field ⟨x, line, p⟩ k

theorem Shift_skipWhitespace : Shift (liftB skipWhitespace) noSh :=
  Shift_liftB _ (by
    intro x line p k
    unfold skipWhitespace
    cases x <;> rfl)

theorem Shift_readField {α} (parse : List UInt8 → Option α) (kind : Kind) : Shift (readField parse kind) noSh := by
  intro x line p k
  unfold readField
  simp only
  split
  · rfl
  · split
    · rfl
    · split <;> rfl

theorem takeEol_shift (l : List UInt8) (line k : Nat) :
    takeEol l (line + k) = ((takeEol l line).1, (takeEol l line).2 + k) := by
  unfold takeEol
  split
  · rfl
  · simp only [Prod.mk.injEq, true_and]; omega
  · rfl

theorem fieldOrEol_shift (thr : Bool) (x : List UInt8) (line : Nat) (p : Bool) (k : Nat) :
    fieldOrEol thr x (line + k) p = shiftR noSh k (fieldOrEol thr x line p) := by
  -- in every branch: one step of the shifted call takes the same branch (its conditions are
  -- among the hypotheses); a recursive call is the induction hypothesis, the rest is `rfl`
  fun_induction fieldOrEol thr x line p
  all_goals rw [fieldOrEol_eq]
  all_goals simp only [*, takeEol_shift, Nat.add_right_comm _ k 1, Bool.false_eq_true, ↓reduceIte]
  all_goals rfl

theorem Shift_fieldOrEol (thr : Bool) : Shift (fun st => fieldOrEol thr st.inp st.line st.paren) noSh :=
  fun x line p k => fieldOrEol_shift thr x line p k

theorem Shift_skipThrough : Shift skipToNextFieldOrThroughEol noSh := Shift_fieldOrEol true
theorem Shift_skipTo : Shift skipToNextFieldOrToEol noSh := Shift_fieldOrEol false

theorem Shift_skipToNextField (kind : Kind) : Shift (skipToNextField kind) noSh := by
  unfold skipToNextField
  exact Shift_bindN Shift_skipTo fun r => Shift_ite (Shift_fail _ _) (Shift_pure _)

theorem Shift_expectEol : Shift expectEol noSh := by
  unfold expectEol
  exact Shift_bindN Shift_skipThrough fun r => Shift_ite (Shift_fail _ _) (Shift_pure _)

theorem Shift_tryP {α} {f : P α} (hf : Shift f noSh) : Shift (tryP f) noSh := by
  intro x line p k
  simp only [tryP, hf x line p k]
  cases f ⟨x, line, p⟩ with
  | ok r => rfl
  | err e => rfl
  | panic => rfl

/-! ### escapes, names, strings -/

/-- a result of the escape and string loops, `(value, rest, line)`, shifted -/
def shiftL {α} (k : Nat) : Out Err (α × List UInt8 × Nat) → Out Err (α × List UInt8 × Nat)
  | .ok (a, r, l) => .ok (a, r, l + k)
  | .err e => .err (shiftErr k e)
  | .panic => .panic

theorem parseEscapeL_shift (l : List UInt8) (line k : Nat) :
    parseEscapeL l (line + k) = shiftL k (parseEscapeL l line) := by
  unfold parseEscapeL
  split
  · rfl
  · split
    · split
      · split
        · rfl
        · simp only; split <;> rfl
      · rfl
    · simp only [shiftL]
      split <;> simp <;> omega

theorem labelErr_shift {α} (er : NErr) (nl ll k : Nat) :
    (labelErr er (nl + k) (ll + k) : R α) = shiftR noSh k (labelErr er nl ll) := by
  unfold labelErr; split <;> rfl

theorem nameLoop_shift (origin : Option (List UInt8)) (nl : Nat) (x : List UInt8) (line ll : Nat) (p : Bool)
    (b : Builder) (k : Nat) :
    nameLoop origin (nl + k) x (line + k) (ll + k) p b = shiftR noSh k (nameLoop origin nl x line ll p b) := by
  fun_induction nameLoop origin nl x line ll p b
  all_goals rw [nameLoop_eq]
  all_goals simp only [*, nameEnd, parseEscapeL_shift, shiftL, labelErr_shift, Bool.false_eq_true, ↓reduceIte]
  all_goals rfl

theorem Shift_parseName (origin : Option (List UInt8)) : Shift (parseName origin) noSh := by
  rw [parseName_eq]
  refine Shift_bindN (Shift_expectField _) fun isAt => ?_
  cases isAt with
  | true =>
    cases origin with
    | none => exact Shift_fail _ _
    | some o => exact Shift_pure _
  | false =>
    simp only [Bool.false_eq_true, ↓reduceIte]
    refine Shift_bindN (Shift_expectField _) fun isRoot => ?_
    cases isRoot with
    | true => exact Shift_pure _
    | false => exact fun x line p k => nameLoop_shift origin line x line line p Builder.new k

theorem quotedLoop_shift (max : Nat) (tl ek : Kind) (sl : Nat) (x : List UInt8) (line : Nat) (acc : List UInt8)
    (n k : Nat) :
    quotedLoop max tl ek (sl + k) x (line + k) acc n = shiftL k (quotedLoop max tl ek sl x line acc n) := by
  fun_induction quotedLoop max tl ek sl x line acc n
  all_goals rw [quotedLoop_eq]
  all_goals simp only [*, parseEscapeL_shift, shiftL, Bool.false_eq_true, ↓reduceIte]
  case case8 ih =>
    -- an ordinary octet: the line counter goes up at a newline
    split at ih
    · next h10 => simp only [h10, ↓reduceIte, Nat.add_right_comm _ k 1]; exact ih
    · next h10 => simp only [h10]; exact ih
  all_goals rfl

theorem unquotedLoop_shift (max : Nat) (tl : Kind) (sl : Nat) (x : List UInt8) (line : Nat) (acc : List UInt8)
    (n k : Nat) :
    unquotedLoop max tl (sl + k) x (line + k) acc n = shiftL k (unquotedLoop max tl sl x line acc n) := by
  fun_induction unquotedLoop max tl sl x line acc n
  all_goals rw [unquotedLoop_eq]
  all_goals simp only [*, parseEscapeL_shift, shiftL, Bool.false_eq_true, ↓reduceIte]
  all_goals rfl

theorem Shift_parseString (max : Nat) (tl ek : Kind) : Shift (parseString max tl ek) noSh := by
  intro x line p k
  unfold parseString
  simp only
  split
  · next rest =>
    rw [quotedLoop_shift]
    cases quotedLoop max tl ek line rest line [] 0 with
    | ok r => rfl
    | err e => rfl
    | panic => rfl
  · rw [unquotedLoop_shift]
    cases unquotedLoop max tl line x line [] 0 with
    | ok r => rfl
    | err e => rfl
    | panic => rfl

theorem Shift_parseCharacterString : Shift parseCharacterString noSh := Shift_parseString _ _ _

theorem Shift_pName (ctx : Ctx) : Shift (pName ctx) noSh := Shift_parseName _

/-! ### records -/

theorem Shift_parseHexDigit : Shift parseHexDigit noSh := by
  intro x line p k
  unfold parseHexDigit readFieldOctet
  simp only
  by_cases h : atFieldEnd x = true
  · simp [h, shiftR, fail, shiftErr]
  · cases x with
    | nil => simp [atFieldEnd] at h
    | cons c rest =>
      simp only [h, Bool.false_eq_true, ↓reduceIte]
      cases hexNibble c <;> rfl

theorem Shift_hexDigits (n : Nat) (acc : List UInt8) : Shift (hexDigits n acc) noSh := by
  induction n generalizing acc with
  | zero => exact Shift_pure _
  | succ n ih =>
    unfold hexDigits
    exact Shift_bindN Shift_parseHexDigit fun _ => Shift_bindN Shift_parseHexDigit fun _ => ih _

theorem chaosLoop_shift (sl : Nat) (x : List UInt8) (addr k : Nat) :
    chaosLoop (sl + k) x addr =
      (match chaosLoop sl x addr with
       | .ok r => .ok r
       | .err e => .err (shiftErr k e)
       | .panic => .panic) := by
  induction x generalizing addr with
  | nil => rfl
  | cons c rest ih =>
    simp only [chaosLoop]
    split
    · rfl
    · split
      · split
        · rfl
        · exact ih _
      · rfl

theorem Shift_parseChaosnetAddress : Shift parseChaosnetAddress noSh := by
  intro x line p k
  unfold parseChaosnetAddress
  simp only [chaosLoop_shift]
  cases chaosLoop line x 0 with
  | ok r => rfl
  | err e => rfl
  | panic => rfl

theorem wksLoop_shift (sl : Nat) (st : St) (ports : List Nat) (n k : Nat) :
    wksLoop (sl + k) (shiftSt k st) ports n = shiftR noSh k (wksLoop sl st ports n) := by
  fun_induction wksLoop sl st ports n
  all_goals rw [wksLoop.eq_def]
  all_goals simp only [shiftSt_inp, shiftSt_line, shiftSt_paren, fieldOrEol_shift, (Shift_readField _ _).st, *,
    shiftR, noSh, ↓reduceIte]
  all_goals rfl

theorem txtLoop_shift (sl : Nat) (st : St) (acc : List UInt8) (k : Nat) :
    txtLoop (sl + k) (shiftSt k st) acc = shiftR noSh k (txtLoop sl st acc) := by
  fun_induction txtLoop sl st acc
  all_goals rw [txtLoop.eq_def]
  all_goals simp only [shiftSt_inp, shiftSt_line, shiftSt_paren, fieldOrEol_shift, Shift_parseCharacterString.st, *,
    shiftR, noSh, ↓reduceIte]
  case case3 ih => exact ih
  all_goals rfl

end QV.ZF
