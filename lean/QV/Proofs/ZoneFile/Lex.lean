/-
  QV.Proofs.ZoneFile.Lex — the proof vocabulary for the zone-file parser model and the lemmas
  about the lexical layer (`QV.Model.ZoneFile.Lex`).

  `T p Q`  : parser `p` never panics, never reports `ModelStuck`, never grows the remaining input,
             and every value it returns satisfies `Q`.
  `TS p Q` : the same, and a successful run consumes at least one octet.
-/
import QV.Model.ZoneFile.Parser

namespace QV.ZF
open QV

/-! ### triples -/

/-- a result that is not a panic and not `ModelStuck`; on success the value satisfies `Q` and at most `n`
    octets remain -/
def Good {α} (r : R α) (n : Nat) (Q : α → Prop) : Prop :=
  match r with
  | .ok (a, st') => Q a ∧ st'.inp.length ≤ n
  | .err e => e.kind ≠ .ModelStuck
  | .panic => False

/-- `Good`, with fewer than `n` octets remaining on success -/
def GoodS {α} (r : R α) (n : Nat) (Q : α → Prop) : Prop :=
  match r with
  | .ok (a, st') => Q a ∧ st'.inp.length < n
  | .err e => e.kind ≠ .ModelStuck
  | .panic => False

/-- an outcome of any shape that is not a panic and not `ModelStuck`, and on success satisfies `ok` -/
def GoodO {β} (r : Out Err β) (ok : β → Prop) : Prop :=
  match r with
  | .ok b => ok b
  | .err e => e.kind ≠ .ModelStuck
  | .panic => False

theorem GoodO.imp {β} {r : Out Err β} {p q : β → Prop} (h : GoodO r p) (hpq : ∀ b, p b → q b) : GoodO r q := by
  cases r with
  | ok b => exact hpq b h
  | err e => exact h
  | panic => exact h

/-- `p` never panics, never reports `ModelStuck`, never lengthens the remaining input, and returns values with `Q` -/
def T {α} (p : P α) (Q : α → Prop) : Prop := ∀ st, Good (p st) st.inp.length Q

/-- `T`, and a successful run consumes at least one octet -/
def TS {α} (p : P α) (Q : α → Prop) : Prop := ∀ st, GoodS (p st) st.inp.length Q

theorem GoodS.good {α} {r : R α} {n : Nat} {Q : α → Prop} (h : GoodS r n Q) : Good r n Q := by
  unfold GoodS at h; unfold Good
  split <;> simp_all <;> omega

theorem TS.t {α} {p : P α} {Q : α → Prop} (h : TS p Q) : T p Q := fun st => (h st).good

theorem Good.weaken {α} {r : R α} {n m : Nat} {Q Q' : α → Prop} (h : Good r n Q) (hnm : n ≤ m)
    (hq : ∀ a, Q a → Q' a) : Good r m Q' := by
  unfold Good at *
  split
  · exact ⟨hq _ h.1, by have := h.2; omega⟩
  · exact h
  · exact h

theorem T.weaken {α} {p : P α} {Q Q' : α → Prop} (h : T p Q) (hq : ∀ a, Q a → Q' a) : T p Q' :=
  fun st => (h st).weaken (Nat.le_refl _) hq

theorem TS.weaken {α} {p : P α} {Q Q' : α → Prop} (h : TS p Q) (hq : ∀ a, Q a → Q' a) : TS p Q' := by
  intro st
  have h1 := h st
  unfold GoodS at *
  split
  · next heq => rw [heq] at h1; exact ⟨hq _ h1.1, h1.2⟩
  · next heq => rw [heq] at h1; exact h1
  · next heq => rw [heq] at h1; exact h1

theorem T_pure {α} {a : α} {Q : α → Prop} (h : Q a) : T (pure a : P α) Q := by
  intro st; simp [pure, P.pure, Good, h]

theorem T_bind {α β} {p : P α} {f : α → P β} {Q : α → Prop} {R : β → Prop}
    (hp : T p Q) (hf : ∀ a, Q a → T (f a) R) : T (p >>= f) R := by
  intro st
  have h1 := hp st
  simp only [bind, P.bind]
  unfold Good at h1
  split at h1
  · next a st' heq =>
    rw [heq]; simp only
    have h2 := hf a h1.1 st'
    exact h2.weaken h1.2 (fun _ h => h)
  · next e heq => rw [heq]; simp_all [Good]
  · next heq => rw [heq]; simp_all [Good]

theorem TS_bind_left {α β} {p : P α} {f : α → P β} {Q : α → Prop} {R : β → Prop}
    (hp : TS p Q) (hf : ∀ a, Q a → T (f a) R) : TS (p >>= f) R := by
  intro st
  have h1 := hp st
  simp only [bind, P.bind]
  unfold GoodS at h1
  split at h1
  · next a st' heq =>
    rw [heq]; simp only
    have h2 := hf a h1.1 st'
    unfold Good at h2; unfold GoodS
    split <;> simp_all
    omega
  · next e heq => rw [heq]; simp_all [GoodS]
  · next heq => rw [heq]; simp_all [GoodS]

theorem TS_bind_right {α β} {p : P α} {f : α → P β} {Q : α → Prop} {R : β → Prop}
    (hp : T p Q) (hf : ∀ a, Q a → TS (f a) R) : TS (p >>= f) R := by
  intro st
  have h1 := hp st
  simp only [bind, P.bind]
  unfold Good at h1
  split at h1
  · next a st' heq =>
    rw [heq]; simp only
    have h2 := hf a h1.1 st'
    unfold GoodS at h2 ⊢
    split <;> simp_all
    omega
  · next e heq => rw [heq]; simp_all [GoodS]
  · next heq => rw [heq]; simp_all [GoodS]

theorem T_fail {α} {k : Kind} {Q : α → Prop} (h : k ≠ .ModelStuck) : T (P.fail k : P α) Q := by
  intro st; simp [P.fail, fail, Good, h]

theorem TS_fail {α} {k : Kind} {Q : α → Prop} (h : k ≠ .ModelStuck) : TS (P.fail k : P α) Q := by
  intro st; simp [P.fail, fail, GoodS, h]

theorem T_failAt {α} {k : Kind} {l : Nat} {Q : α → Prop} (h : k ≠ .ModelStuck) :
    T (P.failAt k l : P α) Q := by
  intro st; simp [P.failAt, fail, Good, h]

theorem T_getLine : T getLine (fun _ => True) := by
  intro st; simp [getLine, Good]

theorem T_tryP {α} {p : P α} {Q : α → Prop} (h : T p Q) :
    T (tryP p) (fun o => ∀ a, o = some a → Q a) := by
  intro st
  have h1 := h st
  unfold tryP
  unfold Good at h1 ⊢
  split at h1 <;> simp_all

theorem tryP_ok {α} {p : P α} {st st' : St} {a : α} (h : p st = .ok (a, st')) :
    tryP p st = .ok (some a, st') := by simp [tryP, h]

theorem tryP_err {α} {p : P α} {st : St} {e : Err} (h : p st = .err e) :
    tryP p st = .ok (none, st) := by simp [tryP, h]

/-! ### the lexical layer -/

theorem fieldLen_le (l : List UInt8) : fieldLen l ≤ l.length := by
  induction l with
  | nil => simp [fieldLen]
  | cons c rest ih => unfold fieldLen; split <;> simp <;> omega

theorem fieldLen_pos {l : List UInt8} (h : atFieldEnd l = false) : 0 < fieldLen l := by
  cases l with
  | nil => simp [atFieldEnd] at h
  | cons c rest => unfold fieldLen; simp [h]

theorem fieldLen_zero {l : List UInt8} (h : atFieldEnd l = true) : fieldLen l = 0 := by
  cases l with
  | nil => simp [fieldLen]
  | cons c rest => unfold fieldLen; simp [h]

/-- `read_field`: returns a parsed value; a parser that rejects the empty string makes it strict -/
theorem T_readField {α} (parse : List UInt8 → Option α) (k : Kind) (hk : k ≠ .ModelStuck) :
    T (readField parse k) (fun v => ∃ s, parse s = some v) := by
  intro st
  unfold readField
  simp only
  split
  · simp [fail, Good]
  · split
    · simp [fail, Good]
    · split
      · next v hv => simp only [Good, List.length_drop]; exact ⟨⟨_, hv⟩, by omega⟩
      · simp [fail, Good, hk]

theorem TS_readField {α} (parse : List UInt8 → Option α) (k : Kind) (hk : k ≠ .ModelStuck)
    (hempty : parse [] = none) : TS (readField parse k) (fun v => ∃ s, parse s = some v) := by
  intro st
  unfold readField
  simp only
  split
  · simp [fail, GoodS]
  · split
    · simp [fail, GoodS]
    · split
      · next v hv =>
        simp only [GoodS, List.length_drop]
        refine ⟨⟨_, hv⟩, ?_⟩
        have hl := fieldLen_le st.inp
        have : 0 < fieldLen st.inp := by
          rcases Nat.eq_zero_or_pos (fieldLen st.inp) with h0 | h0
          · rw [h0] at hv; simp [hempty] at hv
          · exact h0
        omega
      · simp [fail, GoodS, hk]

theorem expectFieldImpl_le (cmp : List UInt8 → List UInt8 → Bool) (f : List UInt8) (st : St) :
    (expectFieldImpl cmp f st).2.inp.length ≤ st.inp.length := by
  unfold expectFieldImpl
  split
  · simp
  · split <;> simp

theorem expectFieldImpl_true_lt (cmp : List UInt8 → List UInt8 → Bool) (f : List UInt8) (st : St)
    (hf : 0 < f.length) (h : (expectFieldImpl cmp f st).1 = true) :
    (expectFieldImpl cmp f st).2.inp.length < st.inp.length := by
  unfold expectFieldImpl at h ⊢
  split
  · next h1 => simp [h1] at h
  · next h1 =>
    split
    · simp; omega
    · next h2 => simp [h1, h2] at h

theorem T_liftB {f : St → Bool × St} (h : ∀ st, (f st).2.inp.length ≤ st.inp.length) :
    T (liftB f) (fun _ => True) := by
  intro st; simp [liftB, Good, h]

/-- `expect_field_impl`, lifted: it never lengthens the remaining input -/
theorem T_liftB_expect (cmp : List UInt8 → List UInt8 → Bool) (f : List UInt8) :
    T (liftB (expectFieldImpl cmp f)) (fun _ => True) :=
  T_liftB (expectFieldImpl_le cmp f)

theorem skipWhitespace_le (st : St) : (skipWhitespace st).2.inp.length ≤ st.inp.length := by
  unfold skipWhitespace
  split
  · simp
  · simp only; exact (List.dropWhile_sublist _).length_le

theorem takeEol_skipToEol_le (rest : List UInt8) (line : Nat) :
    (takeEol (skipToEol rest) line).1.length ≤ rest.length :=
  Nat.le_trans (takeEol_length_le _ _) (skipToEol_length_le _)

/-- the outcome of `field_or_eol_skipping_impl` never grows the input, never panics -/
theorem drop_eol_lt {c : UInt8} {rest : List UInt8} {n : Nat} (h : eolLen (c :: rest) = some n) :
    ((c :: rest).drop n).length < (c :: rest).length := by
  have := eolLen_cons_pos h
  simp only [List.length_drop, List.length_cons]; omega

/-- a `Good` outcome from a `GoodO` one -/
theorem GoodO.good {α} {r : R α} {n : Nat} {Q : α → Prop} (h : GoodO r fun x => Q x.1 ∧ x.2.inp.length ≤ n) :
    Good r n Q := by
  cases r with
  | ok x => exact h
  | err e => exact h
  | panic => exact h

/-- What a successful `field_or_eol_skipping_impl` on `inp` leaves behind: not more than `inp`, and less
    unless it stood at field data already, or before a line end it was not asked to pass, or at the end of
    input; and it reports an end of line outside parentheses only. -/
def Skipped (through : Bool) (inp : List UInt8) (x : FieldOrEol × St) : Prop :=
  x.2.inp.length ≤ inp.length ∧
  (x.2.inp.length = inp.length →
    match x.1 with
    | .Field => atFieldEnd inp = false
    | .Eol => through = false ∨ inp = []) ∧
  (x.1 = .Eol → x.2.paren = false)

theorem Skipped.of_lt {through : Bool} {inp : List UInt8} {r : FieldOrEol} {st' : St} (h : st'.inp.length < inp.length)
    (hp : r = .Eol → st'.paren = false) : Skipped through inp (r, st') :=
  ⟨Nat.le_of_lt h, fun e => absurd e (Nat.ne_of_lt h), hp⟩

/-- what is left of a shorter input is shorter than the input -/
theorem Skipped.of_shorter {through : Bool} {z inp : List UInt8} {x : FieldOrEol × St} (hz : z.length < inp.length)
    (h : Skipped through z x) : Skipped through inp x :=
  .of_lt (Nat.lt_of_le_of_lt h.1 hz) h.2.2

/-- `field_or_eol_skipping_impl` never panics, never gets stuck, and leaves the reader as `Skipped` says -/
theorem fieldOrEol_spec (through : Bool) (inp : List UInt8) (line : Nat) (paren : Bool) :
    GoodO (fieldOrEol through inp line paren) (Skipped through inp) := by
  fun_induction fieldOrEol through inp line paren
  case case1 => exact fun h => nomatch h
  case case2 hp => exact ⟨Nat.le_refl _, fun _ => .inr rfl, fun _ => by simpa using hp⟩
  case case3 ih => exact ih.imp fun _ => .of_shorter (Nat.lt_succ_self _)
  case case4 hn ih => exact ih.imp fun _ => .of_shorter (drop_eol_lt hn)
  case case5 hn hp _ => exact .of_lt (drop_eol_lt hn) fun _ => by simpa using hp
  case case6 hp ht => exact ⟨Nat.le_refl _, fun _ => .inl (by simpa using ht), fun _ => by simpa using hp⟩
  case case7 ih => exact ih.imp fun _ => .of_shorter (Nat.lt_succ_of_le (takeEol_skipToEol_le _ _))
  case case8 hp _ => exact .of_lt (Nat.lt_succ_of_le (takeEol_skipToEol_le _ _)) fun _ => by simpa using hp
  case case9 hp ht =>
    exact ⟨Nat.le_succ_of_le (skipToEol_length_le _), fun _ => .inl (by simpa using ht), fun _ => by simpa using hp⟩
  case case10 => exact fun h => nomatch h
  case case11 ih => exact ih.imp fun _ => .of_shorter (Nat.lt_succ_self _)
  case case12 => exact fun h => nomatch h
  case case13 ih => exact ih.imp fun _ => .of_shorter (Nat.lt_succ_self _)
  case case14 c rest hws hel h59 h40 h41 =>
    -- the octet is field data
    exact ⟨Nat.le_refl _, fun _ => by simp_all [atFieldEnd, endsField], fun h => nomatch h⟩

/-- the outcome of `field_or_eol_skipping_impl` never grows the input, never panics -/
theorem fieldOrEol_good (through : Bool) (inp : List UInt8) (line : Nat) (paren : Bool) :
    Good (fieldOrEol through inp line paren) inp.length (fun _ => True) :=
  ((fieldOrEol_spec through inp line paren).imp fun _ h => ⟨trivial, h.1⟩).good

theorem fieldOrEol_skipped {through : Bool} {inp : List UInt8} {line : Nat} {paren : Bool}
    {r : FieldOrEol} {st' : St} (h : fieldOrEol through inp line paren = .ok (r, st')) :
    Skipped through inp (r, st') := by
  have g := fieldOrEol_spec through inp line paren
  rwa [h] at g

theorem fieldOrEol_le {through : Bool} {inp : List UInt8} {line : Nat} {paren : Bool}
    {r : FieldOrEol} {st' : St} (h : fieldOrEol through inp line paren = .ok (r, st')) :
    st'.inp.length ≤ inp.length :=
  (fieldOrEol_skipped h).1

/-- a successful skip *through* a line ending consumes at least one octet (unless at EOF) -/
theorem fieldOrEol_eol_strict {c : UInt8} {rest : List UInt8} {line : Nat} {paren : Bool} {st' : St}
    (h : fieldOrEol true (c :: rest) line paren = .ok (.Eol, st')) :
    st'.inp.length < (c :: rest).length := by
  obtain ⟨hle, hne, _⟩ := fieldOrEol_skipped h
  exact Nat.lt_of_le_of_ne hle fun e => by rcases hne e with h | h <;> cases h

/-- skipping to the next field from a position that is a field end consumes at least one octet -/
theorem fieldOrEol_field_strict {through : Bool} {inp : List UInt8} {line : Nat} {paren : Bool}
    {st' : St} (hfe : atFieldEnd inp = true)
    (h : fieldOrEol through inp line paren = .ok (.Field, st')) :
    st'.inp.length < inp.length := by
  obtain ⟨hle, hne, _⟩ := fieldOrEol_skipped h
  exact Nat.lt_of_le_of_ne hle fun e => by have := hne e; simp only [hfe] at this; cases this

/-! ### the loops of the reader, one step each

  The recursive functions of the model scrutinise the result of `eolLen` / `parseEscapeL` with
  `match h : …` (the equation feeds their termination proofs).  The equations below state the
  same bodies with plain `match`es, so that proofs can rewrite a call by one step and then split
  on, or rewrite, the scrutinee. -/

theorem fieldOrEol_eq (through : Bool) (inp : List UInt8) (line : Nat) (paren : Bool) :
    fieldOrEol through inp line paren =
      match inp with
      | [] => if paren then fail .EofBeforeCloseParen line else .ok (.Eol, ⟨[], line, paren⟩)
      | c :: rest =>
        if isWs c then fieldOrEol through rest line paren
        else match eolLen (c :: rest) with
          | some n =>
            if paren then fieldOrEol through ((c :: rest).drop n) (line + 1) paren
            else if through then .ok (.Eol, ⟨(c :: rest).drop n, line + 1, paren⟩)
            else .ok (.Eol, ⟨c :: rest, line, paren⟩)
          | none =>
            if c == 59 then
              if paren then
                fieldOrEol through (takeEol (skipToEol rest) line).1 (takeEol (skipToEol rest) line).2 paren
              else if through then
                .ok (.Eol, ⟨(takeEol (skipToEol rest) line).1, (takeEol (skipToEol rest) line).2, paren⟩)
              else .ok (.Eol, ⟨skipToEol rest, line, paren⟩)
            else if c == 40 then
              if paren then fail .NestedParens line else fieldOrEol through rest line true
            else if c == 41 then
              if !paren then fail .UnmatchedCloseParen line else fieldOrEol through rest line false
            else .ok (.Field, ⟨c :: rest, line, paren⟩) := by
  cases inp with
  | nil => rw [fieldOrEol]
  | cons c rest =>
    rw [fieldOrEol]
    cases h : eolLen (c :: rest) <;> simp only [h]

theorem quotedLoop_eq (max : Nat) (tl ek : Kind) (sl : Nat) (inp : List UInt8) (line : Nat)
    (acc : List UInt8) (n : Nat) :
    quotedLoop max tl ek sl inp line acc n =
      match inp with
      | [] => fail ek line
      | c :: rest =>
        if c == 92 then
          match parseEscapeL rest line with
          | .ok (e, rest', line') =>
            if n ≥ max then fail tl sl else quotedLoop max tl ek sl rest' line' (e :: acc) (n + 1)
          | .err er => .err er
          | .panic => .panic
        else if c == 34 then .ok (acc.reverse, rest, line)
        else if n ≥ max then fail tl sl
        else quotedLoop max tl ek sl rest (if c == 10 then line + 1 else line) (c :: acc) (n + 1) := by
  cases inp with
  | nil => rw [quotedLoop]
  | cons c rest =>
    rw [quotedLoop]
    rcases h : parseEscapeL rest line with ⟨e, rest', line'⟩ | er | _ <;> simp only [h]

theorem unquotedLoop_eq (max : Nat) (tl : Kind) (sl : Nat) (inp : List UInt8) (line : Nat)
    (acc : List UInt8) (n : Nat) :
    unquotedLoop max tl sl inp line acc n =
      if atFieldEnd inp then .ok (acc.reverse, inp, line)
      else match inp with
        | [] => .panic
        | c :: rest =>
          if c == 92 then
            match parseEscapeL rest line with
            | .ok (e, rest', line') =>
              if n ≥ max then fail tl sl else unquotedLoop max tl sl rest' line' (e :: acc) (n + 1)
            | .err er => .err er
            | .panic => .panic
          else if n ≥ max then fail tl sl
          else unquotedLoop max tl sl rest line (c :: acc) (n + 1) := by
  rw [unquotedLoop.eq_def]
  cases inp with
  | nil => rfl
  | cons c rest =>
    by_cases h92 : (c == 92) = true
    · simp only [h92, ↓reduceIte]
      split
      · rfl
      · split <;> simp only [*]
    · simp only [h92, Bool.false_eq_true, ↓reduceIte]

/-- the end of `parse_non_root_name`: the builder is finished, with the origin appended to a
    relative name -/
def nameEnd (origin : Option (List UInt8)) (nameLine : Nat) (b : Builder) : Out Err (List UInt8) :=
  if b.cur.isEmpty then
    match b.finish with
    | .ok w => .ok w
    | .err _ => fail .InvalidName nameLine
    | .panic => .panic
  else match origin with
    | some o =>
      match b.finishWithSuffix o with
      | .ok w => .ok w
      | .err _ => fail .InvalidName nameLine
      | .panic => .panic
    | none => fail .PqdnWhenOriginNotSet nameLine

theorem nameLoop_eq (origin : Option (List UInt8)) (nl : Nat) (inp : List UInt8) (line ll : Nat)
    (p : Bool) (b : Builder) :
    nameLoop origin nl inp line ll p b =
      if atFieldEnd inp then
        match nameEnd origin nl b with
        | .ok w => .ok (w, ⟨inp, line, p⟩)
        | .err e => .err e
        | .panic => .panic
      else match inp with
        | [] => .panic
        | c :: rest =>
          if c == 92 then
            match parseEscapeL rest line with
            | .ok (e, rest', line') =>
              match b.tryPush e with
              | .ok b' => nameLoop origin nl rest' line' ll p b'
              | .err er => labelErr er nl ll
              | .panic => .panic
            | .err er => .err er
            | .panic => .panic
          else if c == 46 then
            match b.nextLabel with
            | .ok b' => nameLoop origin nl rest line line p b'
            | .err er => labelErr er nl ll
            | .panic => .panic
          else
            match b.tryPush c with
            | .ok b' => nameLoop origin nl rest line ll p b'
            | .err er => labelErr er nl ll
            | .panic => .panic := by
  rw [nameLoop.eq_def]
  by_cases hend : atFieldEnd inp = true
  · simp only [hend, ↓reduceIte, nameEnd]
    split
    · cases b.finish <;> rfl
    · cases origin with
      | none => rfl
      | some o => simp only; cases b.finishWithSuffix o <;> rfl
  · simp only [hend, Bool.false_eq_true, ↓reduceIte]
    cases inp with
    | nil => rfl
    | cons c rest =>
      by_cases h92 : (c == 92) = true
      · simp only [h92, ↓reduceIte]
        split <;> simp only [*]
        rfl
      · simp only [h92, Bool.false_eq_true, ↓reduceIte]
        rfl

theorem expectField_line (f : List UInt8) (st : St) : (expectField f st).2.line = st.line := by
  unfold expectField expectFieldImpl
  split
  · rfl
  · split <;> rfl

/-- `parse_name` as a composition of its three readers -/
theorem parseName_eq (origin : Option (List UInt8)) : parseName origin =
    P.bind (liftB (expectField [64])) fun isAt =>
      if isAt then
        match origin with
        | some o => P.pure o
        | none => P.fail .AtWhenOriginNotSet
      else P.bind (liftB (expectField [46])) fun isRoot =>
        if isRoot then P.pure [0]
        else fun st => nameLoop origin st.line st.inp st.line st.line st.paren Builder.new := by
  funext st
  have hl := expectField_line [64] st
  unfold parseName
  simp only [P.bind, liftB]
  rcases h1 : expectField [64] st with ⟨isAt, st1⟩
  rw [h1] at hl
  cases isAt with
  | false =>
    simp only [Bool.false_eq_true, ↓reduceIte]
    rcases h2 : expectField [46] st1 with ⟨isRoot, st2⟩
    cases isRoot <;> simp only [P.bind, liftB, h2] <;> rfl
  | true =>
    cases origin with
    | none => simp only [↓reduceIte, P.fail]; rw [← hl]
    | some o => rfl

/-- `parse_record_or_empty` once the owner is known: TTL, class, type and RDATA, then the record and
    the context it leaves behind (the part of `parseRecordRest` after its first step, under a name) -/
def recordRest (ctx : Ctx) (startLine : Nat) (owner : List UInt8) : P (Option Item × Ctx) := do
  skipToNextField .ExpectedTtlClassOrType
  let (ttl, cls) ← parseTtlAndClass ctx
  skipToNextField .ExpectedType
  let ty ← parseTypeField
  let rdata ← parseRdata ctx cls ty
  pure (some (.record startLine ⟨owner, ttl, cls, ty, rdata⟩),
        { ctx with prevOwner := some owner, prevTtl := some ttl, prevClass := some cls })

/-! ### triples of the skipping readers -/

theorem T_skipThrough : T skipToNextFieldOrThroughEol (fun _ => True) :=
  fun st => fieldOrEol_good true st.inp st.line st.paren

theorem T_skipTo : T skipToNextFieldOrToEol (fun _ => True) :=
  fun st => fieldOrEol_good false st.inp st.line st.paren

theorem T_skipToNextField (k : Kind) (hk : k ≠ .ModelStuck) : T (skipToNextField k) (fun _ => True) := by
  unfold skipToNextField
  refine T_bind T_skipTo ?_
  intro r _
  split
  · exact T_fail hk
  · exact T_pure trivial

theorem T_expectEol : T expectEol (fun _ => True) := by
  unfold expectEol
  refine T_bind T_skipThrough ?_
  intro r _
  split
  · exact T_fail (by decide)
  · exact T_pure trivial

end QV.ZF
