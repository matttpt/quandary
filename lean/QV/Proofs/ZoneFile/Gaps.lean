/-
  QV.Proofs.ZoneFile.Gaps — the lexical layer on general gaps between fields (blanks,
  parentheses, line ends and comments inside parentheses) and on LF / CRLF line ends (C23);
  `Reads`: fields in sequence.  A trailing `G` in a lemma's name (`fieldOrEol_gapG`,
  `fieldOrEol_eolG`, …) says "with general gaps", not blanks alone.
-/
import QV.Proofs.ZoneFile.Fields

namespace QV.ZF
open QV QV.Spec.ZF

/-! ### line ends -/

theorem eolLen_eolText (crlf : Bool) (r : List UInt8) :
    eolLen (eolText crlf ++ r) = some (eolText crlf).length ∧
      (eolText crlf ++ r).drop (eolText crlf).length = r ∧ 0 < (eolText crlf).length := by
  cases crlf <;> simp [eolText, eolLen]

@[simp] theorem eolText_ne_nil (crlf : Bool) : (eolText crlf = []) = False := by
  cases crlf <;> simp [eolText]

/-- the body of a comment is passed over -/
theorem skipToEol_body (body X : List UInt8) (h : ∀ x ∈ body, x ≠ 10 ∧ x ≠ 13) : skipToEol (body ++ X) = skipToEol X := by
  induction body with
  | nil => rfl
  | cons x body ih =>
    have hx := h x (by simp)
    rw [List.cons_append, skipToEol]
    have : eolLen (x :: (body ++ X)) = none := by simp [eolLen, hx.1, hx.2]
    simp only [this, Option.isSome_none, Bool.false_eq_true, ↓reduceIte]
    exact ih (fun y hy => h y (by simp [hy]))

theorem skipToEol_eolText (crlf : Bool) (r : List UInt8) : skipToEol (eolText crlf ++ r) = eolText crlf ++ r := by
  cases crlf <;> simp [skipToEol, eolLen, eolText]

theorem takeEol_eolText (crlf : Bool) (r : List UInt8) (line : Nat) :
    takeEol (eolText crlf ++ r) line = (r, line + 1) := by
  cases crlf <;> simp [takeEol, eolText, eolLen]

/-! ### gaps -/

/-- comments inside a gap are comments -/
def GapWF (g : PGap) : Prop := ∀ c crlf, GapItem.newline c crlf ∈ g → commentOK c

/-- a non-empty, well-formed gap that leads from state `p` to state `p'` -/
structure GapOK (g : PGap) (p p' : Bool) : Prop where
  ne : g ≠ []
  wf : GapWF g
  run : gapRun p g = some p'

theorem GapWF.tail {x : GapItem} {g : PGap} (h : GapWF (x :: g)) : GapWF g :=
  fun c crlf hm => h c crlf (by simp [hm])

/-- a comment and a line end as `field_or_eol_skipping` sees them: inside parentheses the scan
    goes on with the next line; outside, the line ends here (and is consumed if asked for) -/
theorem fieldOrEol_commentEol (thr : Bool) (c : List UInt8) (hc : commentOK c) (crlf : Bool) (rest : List UInt8)
    (line : Nat) (p : Bool) :
    fieldOrEol thr (c ++ eolText crlf ++ rest) line p =
      if p then fieldOrEol thr rest (line + 1) true
      else if thr then .ok (.Eol, ⟨rest, line + 1, false⟩)
      else .ok (.Eol, ⟨eolText crlf ++ rest, line, false⟩) := by
  obtain ⟨he, hd, hpos⟩ := eolLen_eolText crlf rest
  rcases hc with rfl | ⟨body, rfl, hb⟩
  · rw [List.nil_append]
    obtain ⟨x, t, hxt⟩ : ∃ x t, eolText crlf ++ rest = x :: t := by cases crlf <;> simp [eolText]
    have hws : isWs x = false := by
      cases crlf <;> simp [eolText] at hxt <;> (obtain ⟨rfl, _⟩ := hxt; decide)
    rw [fieldOrEol.eq_def, hxt]
    simp only [hws, Bool.false_eq_true, ↓reduceIte]
    rw [← hxt]
    split
    · next n hn =>
      rw [he] at hn
      cases hn
      rw [hd]
      cases p <;> rfl
    · next hn => rw [he] at hn; cases hn
  · rw [List.cons_append, List.cons_append, fieldOrEol.eq_def]
    have : eolLen (59 :: (body ++ eolText crlf ++ rest)) = none := by simp [eolLen]
    simp only [show isWs 59 = false from by decide, Bool.false_eq_true, ↓reduceIte]
    split
    · next n hn => rw [this] at hn; cases hn
    · simp only [beq_self_eq_true, ↓reduceIte, List.append_assoc, skipToEol_body body _ hb, skipToEol_eolText,
        takeEol_eolText]
      cases p <;> rfl

theorem fieldOrEol_blank (thr tab : Bool) (rest : List UInt8) (line : Nat) (p : Bool) :
    fieldOrEol thr ((if tab then 9 else 32) :: rest) line p = fieldOrEol thr rest line p := by
  rw [fieldOrEol.eq_def]; cases tab <;> simp [isWs]

/-- `field_or_eol_skipping` passes over leading blanks itself -/
theorem fieldOrEol_dropWhile (thr : Bool) (T : List UInt8) (line : Nat) (p : Bool) :
    fieldOrEol thr (T.dropWhile isWs) line p = fieldOrEol thr T line p := by
  induction T with
  | nil => rfl
  | cons c t ih =>
    by_cases hc : isWs c = true
    · rw [List.dropWhile_cons_of_pos hc, ih, eq_comm, fieldOrEol.eq_def]; simp only [hc, ↓reduceIte]
    · rw [List.dropWhile_cons_of_neg hc]

theorem fieldOrEol_open (thr : Bool) (rest : List UInt8) (line : Nat) :
    fieldOrEol thr (40 :: rest) line false = fieldOrEol thr rest line true := by
  rw [fieldOrEol.eq_def]; simp [isWs, eolLen]

theorem fieldOrEol_close (thr : Bool) (rest : List UInt8) (line : Nat) :
    fieldOrEol thr (41 :: rest) line true = fieldOrEol thr rest line false := by
  rw [fieldOrEol.eq_def]; simp [isWs, eolLen]

/-- a gap is skipped whatever follows it; the line count and the parenthesis state follow -/
theorem fieldOrEol_gapText (thr : Bool) (g : PGap) (p p' : Bool) (hwf : GapWF g) (hrun : gapRun p g = some p')
    (Y : List UInt8) (line : Nat) :
    fieldOrEol thr (gapText g ++ Y) line p = fieldOrEol thr Y (line + gapLines g) p' := by
  induction g generalizing p line with
  | nil =>
    simp only [gapRun, Option.some.injEq] at hrun
    subst hrun
    rfl
  | cons x g ih =>
    have e : gapText (x :: g) ++ Y = gapItemText x ++ (gapText g ++ Y) := by simp [gapText]
    rw [e]
    cases x with
    | blank tab =>
      rw [gapItemText, List.singleton_append, fieldOrEol_blank]
      exact ih p hwf.tail hrun line
    | openParen =>
      cases p with
      | true => simp [gapRun] at hrun
      | false =>
        rw [gapItemText, List.singleton_append, fieldOrEol_open]
        exact ih true hwf.tail hrun line
    | closeParen =>
      cases p with
      | false => simp [gapRun] at hrun
      | true =>
        rw [gapItemText, List.singleton_append, fieldOrEol_close]
        exact ih false hwf.tail hrun line
    | newline c crlf =>
      cases p with
      | false => simp [gapRun] at hrun
      | true =>
        rw [gapItemText, fieldOrEol_commentEol thr c (hwf c crlf (by simp)) crlf _ line true,
          if_pos rfl, ih true hwf.tail hrun (line + 1), gapLines, Nat.add_right_comm, Nat.add_assoc]

/-- **Gaps**: blanks, parentheses, and line ends with comments inside parentheses are skipped up
    to the next field; the line count and the parenthesis state follow -/
theorem fieldOrEol_gapG (thr : Bool) (g : PGap) (p p' : Bool) (hwf : GapWF g) (hrun : gapRun p g = some p')
    (X : List UInt8) (hX : Starts X) (line : Nat) :
    fieldOrEol thr (gapText g ++ X) line p = .ok (.Field, ⟨X, line + gapLines g, p'⟩) := by
  obtain ⟨c, t, rfl, hc⟩ := hX
  rw [fieldOrEol_gapText thr g p p' hwf hrun]
  exact fieldOrEol_at_field thr c t hc _ p'

theorem gapItemText_atEnd (x : GapItem) (hx : ∀ c crlf, x = .newline c crlf → commentOK c) (r : List UInt8) :
    atFieldEnd (gapItemText x ++ r) = true := by
  cases x with
  | blank tab => cases tab <;> simp [gapItemText, atFieldEnd, endsField, isWs]
  | openParen => simp [gapItemText, atFieldEnd, endsField]
  | closeParen => simp [gapItemText, atFieldEnd, endsField]
  | newline c crlf =>
    rcases hx c crlf rfl with rfl | ⟨body, rfl, _⟩
    · cases crlf <;> simp [gapItemText, eolText, atFieldEnd, eolLen]
    · simp [gapItemText, atFieldEnd, endsField]

/-- whatever follows a field and begins a non-empty gap ends the field -/
theorem atFieldEnd_gapText (g : PGap) (hne : g ≠ []) (hwf : GapWF g) (X : List UInt8) :
    atFieldEnd (gapText g ++ X) = true := by
  cases g with
  | nil => exact absurd rfl hne
  | cons x g =>
    have e : gapText (x :: g) ++ X = gapItemText x ++ (gapText g ++ X) := by simp [gapText]
    rw [e]
    exact gapItemText_atEnd x (fun c crlf h => hwf c crlf (by simp [h])) _

theorem GapOK.atEnd {g : PGap} {p p' : Bool} (h : GapOK g p p') (X : List UInt8) :
    atFieldEnd (gapText g ++ X) = true := atFieldEnd_gapText g h.ne h.wf X

/-- `skip_to_next_field` over a (possibly empty) gap in front of a field -/
theorem skipToNextField_gapText (k : Kind) (g : PGap) (p p' : Bool) (hwf : GapWF g) (hrun : gapRun p g = some p')
    (X : List UInt8) (hX : Starts X) (line : Nat) :
    skipToNextField k ⟨gapText g ++ X, line, p⟩ = .ok ((), ⟨X, line + gapLines g, p'⟩) := by
  unfold skipToNextField skipToNextFieldOrToEol
  simp only [bind, P.bind]
  rw [fieldOrEol_gapG false g p p' hwf hrun X hX line]
  rfl

theorem GapOK.skip {g : PGap} {p p' : Bool} (h : GapOK g p p') (k : Kind) (X : List UInt8) (hX : Starts X)
    (line : Nat) :
    skipToNextField k ⟨gapText g ++ X, line, p⟩ = .ok ((), ⟨X, line + gapLines g, p'⟩) :=
  skipToNextField_gapText k g p p' h.wf h.run X hX line

/-! ### the end of a record or line: a gap that leaves the parentheses, a comment, LF or CRLF -/

/-- the text after the last field: a (possibly empty) gap that ends outside parentheses, an
    optional comment and a line end -/
structure TailOK (g : PGap) (cmt : List UInt8) (p : Bool) : Prop where
  wf : GapWF g
  run : gapRun p g = some false
  comment : commentOK cmt

def tailText (g : PGap) (cmt : List UInt8) (eol : PEol) : List UInt8 := gapText g ++ (cmt ++ lineEnd eol)

/-- the end of the file as the end of a line: an optional comment, then nothing -/
theorem fieldOrEol_endOfFile (cmt : List UInt8) (hc : commentOK cmt) (line : Nat) :
    fieldOrEol true cmt line false = .ok (.Eol, ⟨[], line, false⟩) := by
  rcases hc with rfl | ⟨body, rfl, hb⟩
  · rw [fieldOrEol.eq_def]; rfl
  · rw [fieldOrEol.eq_def]
    have : eolLen (59 :: body) = none := by simp [eolLen]
    simp only [show isWs 59 = false from by decide, Bool.false_eq_true, ↓reduceIte]
    split
    · next n hn => rw [this] at hn; cases hn
    · have := skipToEol_body body [] hb
      rw [List.append_nil] at this
      simp [this, skipToEol, takeEol, eolLen]

/-- a line end of any kind, read outside parentheses -/
theorem fieldOrEol_lineEnd (cmt : List UInt8) (hc : commentOK cmt) (eol : PEol) (r : List UInt8)
    (he : eol = .eof → r = []) (line : Nat) :
    fieldOrEol true (cmt ++ lineEnd eol ++ r) line false = .ok (.Eol, ⟨r, line + eolLines eol, false⟩) := by
  cases eol with
  | lf => exact fieldOrEol_commentEol true cmt hc false r line false
  | crlf => exact fieldOrEol_commentEol true cmt hc true r line false
  | eof =>
    have := he rfl
    subst this
    simpa [lineEnd, eolLines] using fieldOrEol_endOfFile cmt hc line

theorem fieldOrEol_tail (g : PGap) (cmt : List UInt8) (p : Bool) (h : TailOK g cmt p) (eol : PEol)
    (r : List UInt8) (he : eol = .eof → r = []) (line : Nat) :
    fieldOrEol true (tailText g cmt eol ++ r) line p = .ok (.Eol, ⟨r, line + gapLines g + eolLines eol, false⟩) := by
  rw [tailText, List.append_assoc, fieldOrEol_gapText true g p false h.wf h.run]
  exact fieldOrEol_lineEnd cmt h.comment eol r he _

theorem atFieldEnd_tail (g : PGap) (cmt : List UInt8) (p : Bool) (h : TailOK g cmt p) (eol : PEol)
    (r : List UInt8) (he : eol = .eof → r = []) : atFieldEnd (tailText g cmt eol ++ r) = true := by
  unfold tailText
  cases g with
  | cons x g =>
    have := atFieldEnd_gapText (x :: g) (by simp) h.wf ((cmt ++ lineEnd eol) ++ r)
    simpa using this
  | nil =>
    cases eol with
    | lf =>
      have := gapItemText_atEnd (.newline cmt false) (by intro c crlf' hh; cases hh; exact h.comment) r
      simpa [gapText, gapItemText, lineEnd, eolText] using this
    | crlf =>
      have := gapItemText_atEnd (.newline cmt true) (by intro c crlf' hh; cases hh; exact h.comment) r
      simpa [gapText, gapItemText, lineEnd, eolText] using this
    | eof =>
      have := he rfl
      subst this
      rcases h.comment with rfl | ⟨body, rfl, _⟩
      · simp [gapText, lineEnd, atFieldEnd]
      · simp [gapText, lineEnd, atFieldEnd, endsField]

theorem expectEol_tail (g : PGap) (cmt : List UInt8) (p : Bool) (h : TailOK g cmt p) (eol : PEol)
    (r : List UInt8) (he : eol = .eof → r = []) (line : Nat) :
    expectEol ⟨tailText g cmt eol ++ r, line, p⟩ = .ok ((), ⟨r, line + gapLines g + eolLines eol, false⟩) := by
  unfold expectEol skipToNextFieldOrThroughEol
  simp only [bind, P.bind]
  rw [fieldOrEol_tail g cmt p h eol r he line]
  rfl

/-! ### fields in sequence -/

/-- the parser `p` reads the text `T` as the value `v`, crossing `k` line ends, whenever a field
    end follows -/
def Reads {α} (p : P α) (T : List UInt8) (v : α) (k : Nat) : Prop :=
  ∀ rest line paren, atFieldEnd rest = true → p ⟨T ++ rest, line, paren⟩ = .ok (v, ⟨rest, line + k, paren⟩)

theorem getLine_bind {β} (f : Nat → P β) (st : St) : (getLine >>= f) st = f st.line st := rfl

/-- a field, the gap after it, and then the rest of the parser on the next field -/
theorem Reads.then_gap {α β} {p : P α} {T : List UInt8} {v : α} {k : Nat} (hp : Reads p T v k)
    {g : PGap} {q q' : Bool} (hg : GapOK g q q') (kd : Kind) {X : List UInt8} (hX : Starts X)
    (f : α → P β) (line : Nat) :
    (do let a ← p; skipToNextField kd; f a) ⟨T ++ (gapText g ++ X), line, q⟩ =
      f v ⟨X, line + k + gapLines g, q'⟩ := by
  simp only [bind, P.bind, hp _ _ _ (hg.atEnd X), hg.skip kd X hX]

/-- the last field, the end of the record, and the RDATA built from the field -/
theorem Reads.then_eol {α} {p : P α} {T : List UInt8} {v : α} {k : Nat} (hp : Reads p T v k)
    {tg : PGap} {cmt : List UInt8} {q : Bool} (hT : TailOK tg cmt q) {eol : PEol} {r : List UInt8}
    (he : eol = .eof → r = []) (f : α → List UInt8) {rd : List UInt8} (hrd : f v = rd) (hlen : rd.length ≤ 65535)
    {line L : Nat} (hL : line + k + gapLines tg + eolLines eol = L) :
    (do let a ← p; expectEol; mkRdata (f a)) ⟨T ++ (tailText tg cmt eol ++ r), line, q⟩ =
      .ok (rd, ⟨r, L, false⟩) := by
  subst hrd hL
  have hmk : ¬ (f v).length > 65535 := by omega
  simp only [bind, P.bind, hp _ _ _ (atFieldEnd_tail tg cmt q hT eol r he), expectEol_tail tg cmt q hT eol r he,
    mkRdata, hmk, ↓reduceIte]

theorem reads_decimal {max n : Nat} (hn : n ≤ max) (hmax : max < 10 ^ 10) (kd : Kind) :
    Reads (readField (parseUInt max) kd) (decimal n) n 0 :=
  fun rest line paren h => readField_decimal max n hn hmax kd rest h line paren

theorem reads_u16 {n : Nat} (hn : n ≤ 65535) (kd : Kind) : Reads (readField parseU16 kd) (decimal n) n 0 :=
  reads_decimal hn (by omega) kd

theorem reads_u32 {n : Nat} (hn : n ≤ 4294967295) (kd : Kind) : Reads (readField parseU32 kd) (decimal n) n 0 :=
  reads_decimal hn (by omega) kd

/-- a field of plain octets that `parse` accepts -/
theorem reads_plain {α} {parse : List UInt8 → Option α} {T : List UInt8} {v : α}
    (hplain : ∀ c ∈ T, plainOctet c = true) (hlen : T.length ≤ 65536) (hp : parse T = some v) (kd : Kind) :
    Reads (readField parse kd) T v 0 :=
  fun rest line paren h => readField_plain parse kd T rest v hplain hlen h hp line paren

theorem reads_string {s : PString} (hwf : WFString s) :
    Reads parseCharacterString (stringText s) (stringOctets s) (stringLines s) :=
  fun rest line paren h => parseCharacterString_render s hwf rest h line paren

/-- blanks are a gap -/
def blanksOf (ws : List UInt8) : PGap := ws.map fun c => .blank (c == 9)

theorem gapText_blanks (ws : List UInt8) (h : ∀ x ∈ ws, isWs x = true) : gapText (blanksOf ws) = ws := by
  induction ws with
  | nil => rfl
  | cons x ws ih =>
    have hx := h x (by simp)
    have ih' := ih (fun y hy => h y (by simp [hy]))
    simp only [gapText, blanksOf, List.map_cons, List.flatMap_cons] at ih' ⊢
    rw [ih']
    simp only [isWs, Bool.or_eq_true, beq_iff_eq] at hx
    rcases hx with rfl | rfl <;> rfl

theorem gapLines_blanks (ws : List UInt8) : gapLines (blanksOf ws) = 0 := by
  induction ws with
  | nil => rfl
  | cons x ws ih => simpa [blanksOf, gapLines] using ih

theorem gapRun_blanks (ws : List UInt8) (p : Bool) : gapRun p (blanksOf ws) = some p := by
  induction ws with
  | nil => rfl
  | cons x ws ih => simpa [blanksOf, gapRun] using ih

theorem TailOK_blanks (ws cmt : List UInt8) (hc : commentOK cmt) : TailOK (blanksOf ws) cmt false :=
  ⟨by intro c crlf h; simp [blanksOf] at h, gapRun_blanks ws false, hc⟩

theorem GapOK_blanks {ws : List UInt8} (hne : ws ≠ []) (p : Bool) : GapOK (blanksOf ws) p p :=
  ⟨by simpa [blanksOf] using hne, by intro c crlf h; simp [blanksOf] at h, gapRun_blanks ws p⟩

theorem tailText_blanks (ws cmt : List UInt8) (hws : ∀ x ∈ ws, isWs x = true) (eol : PEol) (r : List UInt8) :
    tailText (blanksOf ws) cmt eol ++ r = ws ++ (cmt ++ (lineEnd eol ++ r)) := by
  simp [tailText, gapText_blanks ws hws]

/-- the end of a line outside parentheses: blanks, an optional comment, a line end -/
theorem fieldOrEol_eolG (ws cmt : List UInt8) (hws : ∀ x ∈ ws, isWs x = true) (hc : commentOK cmt) (eol : PEol)
    (r : List UInt8) (he : eol = .eof → r = []) (line : Nat) :
    fieldOrEol true (ws ++ (cmt ++ (lineEnd eol ++ r))) line false = .ok (.Eol, ⟨r, line + eolLines eol, false⟩) := by
  have := fieldOrEol_tail (blanksOf ws) cmt false (TailOK_blanks ws cmt hc) eol r he line
  rwa [tailText_blanks ws cmt hws, gapLines_blanks] at this

theorem atFieldEnd_eolG (ws cmt : List UInt8) (hws : ∀ x ∈ ws, isWs x = true) (hc : commentOK cmt) (eol : PEol)
    (r : List UInt8) (he : eol = .eof → r = []) : atFieldEnd (ws ++ (cmt ++ (lineEnd eol ++ r))) = true := by
  have := atFieldEnd_tail (blanksOf ws) cmt false (TailOK_blanks ws cmt hc) eol r he
  rwa [tailText_blanks ws cmt hws] at this

theorem expectEol_eolG (ws cmt : List UInt8) (hws : ∀ x ∈ ws, isWs x = true) (hc : commentOK cmt) (eol : PEol)
    (r : List UInt8) (he : eol = .eof → r = []) (line : Nat) :
    expectEol ⟨ws ++ (cmt ++ (lineEnd eol ++ r)), line, false⟩ = .ok ((), ⟨r, line + eolLines eol, false⟩) := by
  have := expectEol_tail (blanksOf ws) cmt false (TailOK_blanks ws cmt hc) eol r he line
  rwa [tailText_blanks ws cmt hws, gapLines_blanks] at this

/-- a line end (after an optional comment) does not begin with `$` -/
theorem lineEnd_head (cmt : List UInt8) (hc : commentOK cmt) (eol : PEol) (r : List UInt8) (he : eol = .eof → r = []) :
    (cmt ++ (lineEnd eol ++ r)).head? ≠ some 36 := by
  rcases hc with rfl | ⟨body, rfl, _⟩
  · cases eol with
    | eof => simp [he rfl, lineEnd]
    | _ => simp [lineEnd]
  · simp

end QV.ZF
