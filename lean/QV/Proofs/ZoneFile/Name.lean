/-
  QV.Proofs.ZoneFile.Name — escapes, the name builder, `parse_name`, character-strings.

  `NameWF w`: `w` is the wire form of an absolute domain name — labels of 1..63 octets, each
  preceded by its length, terminated by the root label, at most 255 octets in all.
-/
import QV.Proofs.ZoneFile.Lex
import QV.Proofs.Bytes

namespace QV.ZF
open QV

/-! ### well-formed names -/

/-- one label in wire form -/
def encLabel (l : List UInt8) : List UInt8 := UInt8.ofNat l.length :: l

/-- labels in wire form, without the root label -/
def flatLabels (ls : List (List UInt8)) : List UInt8 := ls.flatMap encLabel

/-- every label has 1 to 63 octets -/
def LabelsOK (ls : List (List UInt8)) : Prop := ∀ l ∈ ls, 0 < l.length ∧ l.length ≤ 63

/-- the wire form of an absolute name with the given non-root labels -/
def encodeName (ls : List (List UInt8)) : List UInt8 := flatLabels ls ++ [0]

/-- `w` is the wire form of an absolute name: well-formed labels, the root label, at most 255 octets -/
def NameWF (w : List UInt8) : Prop := ∃ ls, LabelsOK ls ∧ w = encodeName ls ∧ w.length ≤ 255

theorem NameWF_root : NameWF [0] := ⟨[], by simp [LabelsOK], by simp [encodeName, flatLabels], by simp⟩

theorem flatLabels_append (a b : List (List UInt8)) : flatLabels (a ++ b) = flatLabels a ++ flatLabels b := by
  simp [flatLabels]

theorem flatLabels_length_ge {ls : List (List UInt8)} (h : LabelsOK ls) : 2 * ls.length ≤ (flatLabels ls).length := by
  induction ls with
  | nil => simp [flatLabels]
  | cons l ls ih =>
    have h1 := h l (by simp)
    have h2 : LabelsOK ls := fun x hx => h x (by simp [hx])
    have := ih h2
    simp [flatLabels, encLabel] at this ⊢
    omega

theorem countLabels_encode {ls : List (List UInt8)} (h : LabelsOK ls) (fuel : Nat) (hf : ls.length < fuel) :
    countLabels fuel (encodeName ls) = ls.length + 1 := by
  induction ls generalizing fuel with
  | nil =>
    cases fuel with
    | zero => omega
    | succ f => simp [encodeName, flatLabels, countLabels]
  | cons l ls ih =>
    have h1 := h l (by simp)
    have h2 : LabelsOK ls := fun x hx => h x (by simp [hx])
    cases fuel with
    | zero => omega
    | succ f =>
      have e : encodeName (l :: ls) = UInt8.ofNat l.length :: (l ++ encodeName ls) := by
        simp [encodeName, flatLabels, encLabel]
      rw [e, countLabels]
      simp only [beq_eq_false_iff_ne.mpr (ofNat_len_ne_zero h1.1 h1.2), ofNat_len_toNat h1.2]
      have : (l ++ encodeName ls).drop l.length = encodeName ls := by simp
      rw [this, ih h2 f (by simp at hf; omega)]
      simp; omega

/-! ### escapes -/

/-- `parse_escape` never panics and reports no `ModelStuck` -/
theorem parseEscapeL_good (l : List UInt8) (line : Nat) : GoodO (parseEscapeL l line) fun _ => True := by
  unfold parseEscapeL
  split
  · exact fun h => nomatch h
  · split
    · split
      · split
        · exact fun h => nomatch h
        · dsimp only
          split
          · exact fun h => nomatch h
          · trivial
      · exact fun h => nomatch h
    · trivial

theorem parseEscapeL_ne_panic (l : List UInt8) (line : Nat) : parseEscapeL l line ≠ .panic :=
  fun h => by have g := parseEscapeL_good l line; rwa [h] at g

theorem parseEscapeL_err {l : List UInt8} {line : Nat} {e : Err} (h : parseEscapeL l line = .err e) :
    e.kind ≠ .ModelStuck := by
  have g := parseEscapeL_good l line; rwa [h] at g

/-! ### the name builder -/

/-- the builder's invariant: `done` is the wire form of well-formed labels, `nl` counts them and
    the root, the label being written and the whole name still fit -/
def BInv (b : Builder) : Prop :=
  ∃ ls : List (List UInt8), LabelsOK ls ∧ b.done = flatLabels ls ∧ b.nl = ls.length + 1 ∧
    b.cur.length ≤ 63 ∧ b.wireLen ≤ 255

theorem BInv_new : BInv Builder.new :=
  ⟨[], by simp [LabelsOK], by simp [Builder.new, flatLabels], by simp [Builder.new], by simp [Builder.new],
    by simp [Builder.new, Builder.wireLen]⟩

/-- an outcome of a builder operation that is not a panic and on success satisfies `Q` -/
def BOk {β} (r : Out NErr β) (Q : β → Prop) : Prop :=
  match r with
  | .ok b => Q b
  | .err _ => True
  | .panic => False

theorem BOk.ok {β} {r : Out NErr β} {Q : β → Prop} {b : β} (h : BOk r Q) (e : r = .ok b) : Q b := by
  rwa [e] at h

theorem BOk.ne_panic {β} {r : Out NErr β} {Q : β → Prop} (h : BOk r Q) : r ≠ .panic :=
  fun e => by rwa [e] at h

theorem BInv.tryPush {b : Builder} (hb : BInv b) (o : UInt8) : BOk (b.tryPush o) BInv := by
  unfold Builder.tryPush
  split
  · trivial
  · split
    · trivial
    · obtain ⟨ls, ok, de, ne, cl, wl⟩ := hb
      simp only [Gen.MAX_LABEL_LEN, Gen.MAX_WIRE_LEN] at *
      refine ⟨ls, ok, de, ne, ?_, ?_⟩
      · simp; omega
      · simp [Builder.wireLen] at *; omega

theorem cur_pos_of_not_empty {l : List UInt8} (h : ¬ l.isEmpty = true) : 0 < l.length := by
  cases l with
  | nil => simp at h
  | cons _ _ => simp

theorem BInv.nextLabel {b : Builder} (hb : BInv b) : BOk b.nextLabel BInv := by
  obtain ⟨ls, ok, de, ne, cl, wl⟩ := hb
  unfold Builder.nextLabel
  split
  · trivial
  · next hne =>
    have hcur := cur_pos_of_not_empty hne
    split
    · trivial
    · next hfull =>
      -- `label_offsets` cannot overflow: every label so far takes at least two octets
      have hge := flatLabels_length_ge ok
      simp only [Gen.MAX_WIRE_LEN] at hfull
      simp [Builder.wireLen] at hfull wl
      split
      · next hnl => simp only [Gen.MAX_N_LABELS] at hnl; rw [ne] at hnl; rw [de] at hfull; omega
      · refine ⟨ls ++ [b.cur], ?_, ?_, ?_, by simp, ?_⟩
        · intro l hl
          simp at hl
          rcases hl with hl | hl
          · exact ok l hl
          · subst hl; exact ⟨hcur, cl⟩
        · simp [de, flatLabels, encLabel]
        · simp [ne]
        · simp [Builder.wireLen]; omega

theorem BInv.finish {b : Builder} (hb : BInv b) : BOk b.finish NameWF := by
  obtain ⟨ls, ok, de, ne, cl, wl⟩ := hb
  unfold Builder.finish
  split
  · trivial
  · next hc =>
    refine ⟨ls, ok, by simp [encodeName, de], ?_⟩
    have : b.cur = [] := by
      cases hcur : b.cur with
      | nil => rfl
      | cons _ _ => simp [hcur] at hc
    simp [Builder.wireLen, this] at wl
    simp; omega

theorem finishWithSuffix_aux {b : Builder} (hb : BInv b) {o : List UInt8} (ho : NameWF o)
    (hne : ¬ b.cur.isEmpty = true) (hfit : ¬ b.wireLen + o.length > Gen.MAX_WIRE_LEN) :
    NameWF (b.done ++ UInt8.ofNat b.cur.length :: b.cur ++ o) ∧ b.nl + countLabels 256 o ≤ 128 := by
  obtain ⟨ls, ok, de, ne, cl, wl⟩ := hb
  obtain ⟨lo, oko, eo, lenO⟩ := ho
  simp only [Gen.MAX_WIRE_LEN] at hfit
  have hcur := cur_pos_of_not_empty hne
  have okAll : LabelsOK (ls ++ [b.cur] ++ lo) := by
    intro l hl
    simp at hl
    rcases hl with hl | hl | hl
    · exact ok l hl
    · subst hl; exact ⟨hcur, cl⟩
    · exact oko l hl
  have hwire : b.done ++ UInt8.ofNat b.cur.length :: b.cur ++ o = encodeName (ls ++ [b.cur] ++ lo) := by
    simp [encodeName, de, eo, flatLabels, encLabel]
  have hlen : (b.done ++ UInt8.ofNat b.cur.length :: b.cur ++ o).length ≤ 255 := by
    simp [Builder.wireLen] at hfit ⊢; omega
  refine ⟨⟨_, okAll, hwire, hlen⟩, ?_⟩
  -- label_offsets cannot overflow: every non-root label takes at least two octets
  have hge := flatLabels_length_ge okAll
  rw [hwire] at hlen
  simp [encodeName] at hlen
  have hc : countLabels 256 o = lo.length + 1 := by
    rw [eo]; apply countLabels_encode oko
    have := flatLabels_length_ge oko
    rw [eo] at lenO; simp [encodeName] at lenO; omega
  rw [hc, ne]
  simp at hge
  omega

theorem BInv.finishWithSuffix {b : Builder} (hb : BInv b) {o : List UInt8} (ho : NameWF o) :
    BOk (b.finishWithSuffix o) NameWF := by
  unfold Builder.finishWithSuffix
  split
  · trivial
  · next hne =>
    split
    · trivial
    · next hfit =>
      have h := finishWithSuffix_aux hb ho hne hfit
      split
      · next hnl => simp only [Gen.MAX_N_LABELS] at hnl; omega
      · exact h.1

/-! ### parse_name -/

theorem labelErr_good {α} (e : NErr) (a b n : Nat) (Q : α → Prop) :
    Good (labelErr e a b : R α) n Q := by
  unfold labelErr; split <;> simp [Good, fail]

theorem nameLoop_good (origin : Option (List UInt8)) (horigin : ∀ o, origin = some o → NameWF o)
    (nameLine : Nat) (inp : List UInt8) (line labelLine : Nat) (paren : Bool) (b : Builder) (hb : BInv b) :
    Good (nameLoop origin nameLine inp line labelLine paren b) inp.length NameWF := by
  fun_induction nameLoop origin nameLine inp line labelLine paren b
  -- at a field end: the name is finished, alone or with the origin
  case case1 hfin => exact ⟨hb.finish.ok hfin, Nat.le_refl _⟩
  case case2 => simp [Good, fail]
  case case3 hfin => exact hb.finish.ne_panic hfin
  case case4 o ho w hfin => exact ⟨(hb.finishWithSuffix (horigin o ho)).ok hfin, Nat.le_refl _⟩
  case case5 => simp [Good, fail]
  case case6 o ho hfin => exact (hb.finishWithSuffix (horigin o ho)).ne_panic hfin
  case case7 => simp [Good, fail]
  case case8 h => exact absurd rfl h
  -- an escape
  case case9 hesc b' hpush _ ih =>
    have := parseEscapeL_length hesc
    exact (ih ((hb.tryPush _).ok hpush)).weaken (by simp; omega) (fun _ h => h)
  case case10 => exact labelErr_good _ _ _ _ _
  case case11 hpush _ => exact (hb.tryPush _).ne_panic hpush
  case case12 hesc _ => exact parseEscapeL_err hesc
  case case13 hesc _ => exact parseEscapeL_ne_panic _ _ hesc
  -- a dot
  case case14 b' hnext _ ih => exact (ih (hb.nextLabel.ok hnext)).weaken (by simp) (fun _ h => h)
  case case15 => exact labelErr_good _ _ _ _ _
  case case16 hnext _ => exact hb.nextLabel.ne_panic hnext
  -- any other octet
  case case17 b' hpush _ ih => exact (ih ((hb.tryPush _).ok hpush)).weaken (by simp) (fun _ h => h)
  case case18 => exact labelErr_good _ _ _ _ _
  case case19 hpush _ => exact (hb.tryPush _).ne_panic hpush

/-- `parse_name` returns a well-formed absolute name (given a well-formed origin) -/
theorem T_parseName (origin : Option (List UInt8)) (horigin : ∀ o, origin = some o → NameWF o) :
    T (parseName origin) NameWF := by
  intro st
  unfold parseName
  simp only
  split
  · next hat =>
    have hle := expectFieldImpl_le (· == ·) [64] st
    split
    · exact ⟨horigin _ rfl, hle⟩
    · simp [Good, fail]
  · split
    · have h1 := expectFieldImpl_le (· == ·) [64] st
      have h2 := expectFieldImpl_le (· == ·) [46] (expectField [64] st).2
      exact ⟨NameWF_root, Nat.le_trans h2 h1⟩
    · have h1 := expectFieldImpl_le (· == ·) [64] st
      have h2 := expectFieldImpl_le (· == ·) [46] (expectField [64] st).2
      exact (nameLoop_good origin horigin _ _ _ _ _ _ BInv_new).weaken (Nat.le_trans h2 h1) (fun _ h => h)

/-! ### character-strings and include paths -/

/-- outcome of the string loops, `(string, rest, line)`: at most `max` octets read, at most `n` left -/
def GoodL (r : Out Err (List UInt8 × List UInt8 × Nat)) (n max : Nat) : Prop :=
  GoodO r fun x => x.1.length ≤ max ∧ x.2.1.length ≤ n

theorem GoodL.weaken {r : Out Err (List UInt8 × List UInt8 × Nat)} {n m max : Nat}
    (h : GoodL r n max) (hnm : n ≤ m) : GoodL r m max :=
  h.imp fun _ hb => ⟨hb.1, Nat.le_trans hb.2 hnm⟩

theorem quotedLoop_good (max : Nat) (tooLong eofKind : Kind) (h1 : tooLong ≠ .ModelStuck)
    (h2 : eofKind ≠ .ModelStuck) (startLine : Nat) (inp : List UInt8) (line : Nat) (acc : List UInt8)
    (n : Nat) (hacc : acc.length = n) (hn : n ≤ max) :
    GoodL (quotedLoop max tooLong eofKind startLine inp line acc n) inp.length max := by
  fun_induction quotedLoop max tooLong eofKind startLine inp line acc n
  case case1 => exact h2
  case case2 => exact h1
  case case3 hesc hlt ih =>
    have := parseEscapeL_length hesc
    exact (ih (by simp [hacc]) (by omega)).weaken (by simp; omega)
  case case4 hesc => exact parseEscapeL_err hesc
  case case5 hesc => exact parseEscapeL_ne_panic _ _ hesc
  case case6 => exact ⟨by simp; omega, by simp⟩
  case case7 => exact h1
  case case8 hlt ih => exact (ih (by simp [hacc]) (by omega)).weaken (by simp)

/-- the unquoted loop leaves at most the input, and less than that unless the input stood at a field end -/
theorem unquotedLoop_good (max : Nat) (tooLong : Kind) (h1 : tooLong ≠ .ModelStuck)
    (startLine : Nat) (inp : List UInt8) (line : Nat) (acc : List UInt8)
    (n : Nat) (hacc : acc.length = n) (hn : n ≤ max) :
    GoodL (unquotedLoop max tooLong startLine inp line acc n)
      (if atFieldEnd inp then inp.length else inp.length - 1) max := by
  fun_induction unquotedLoop max tooLong startLine inp line acc n
  case case1 hend => simp only [hend, ↓reduceIte]; exact ⟨by simp; omega, Nat.le_refl _⟩
  case case2 h => exact absurd rfl h
  case case3 => exact h1
  case case4 c rest _ e rest' line' hesc hlt hend ih =>
    have := parseEscapeL_length hesc
    exact (ih (by simp [hacc]) (by omega)).weaken (by simp only [hend]; split <;> simp <;> omega)
  case case5 hesc _ => exact parseEscapeL_err hesc
  case case6 hesc _ => exact parseEscapeL_ne_panic _ _ hesc
  case case7 => exact h1
  case case8 c rest _ hlt hend ih =>
    exact (ih (by simp [hacc]) (by omega)).weaken (by simp only [hend]; split <;> simp <;> omega)

theorem T_parseString (max : Nat) (tooLong eofKind : Kind) (h1 : tooLong ≠ .ModelStuck)
    (h2 : eofKind ≠ .ModelStuck) : T (parseString max tooLong eofKind) (fun s => s.length ≤ max) := by
  intro st
  unfold parseString
  split
  · next rest heq =>
    have g := quotedLoop_good max tooLong eofKind h1 h2 st.line rest st.line [] 0 rfl (Nat.zero_le _)
    unfold GoodL GoodO at g
    split <;> simp_all [Good]
    omega
  · have g := (unquotedLoop_good max tooLong h1 st.line st.inp st.line [] 0 rfl (Nat.zero_le _)).weaken
      (m := st.inp.length) (by split <;> omega)
    unfold GoodL GoodO at g
    split <;> simp_all [Good]

/-- a string that does not start at a field end consumes at least one octet -/
theorem parseString_strict {max : Nat} {tooLong eofKind : Kind} (h1 : tooLong ≠ .ModelStuck)
    (h2 : eofKind ≠ .ModelStuck) {st st' : St} {s : List UInt8} (hfe : atFieldEnd st.inp = false)
    (h : parseString max tooLong eofKind st = .ok (s, st')) : st'.inp.length < st.inp.length := by
  unfold parseString at h
  split at h
  · next rest heq =>
    have g := quotedLoop_good max tooLong eofKind h1 h2 st.line rest st.line [] 0 rfl (Nat.zero_le _)
    unfold GoodL GoodO at g
    split at h
    · next s' i' l' hq => rw [hq] at g; cases h; simp [heq]; have : i'.length ≤ rest.length := g.2; omega
    · cases h
    · cases h
  · split at h
    · next s' i' l' hq =>
      have g := unquotedLoop_good max tooLong h1 st.line st.inp st.line [] 0 rfl (Nat.zero_le _)
      rw [hq, hfe] at g
      cases h
      have := Nat.lt_of_lt_of_le (fieldLen_pos hfe) (fieldLen_le st.inp)
      exact Nat.lt_of_le_of_lt g.2 (by simp; omega)
    · cases h
    · cases h

theorem T_parseCharacterString : T parseCharacterString (fun s => s.length ≤ 255) :=
  T_parseString 255 _ _ (by decide) (by decide)

end QV.ZF
