/-
  QV.Proofs.ZoneFile.Compose — `parse (a ++ b)` from `parse a` (C25): when `a` ends with an
  unescaped newline and parses without error, the items of `a ++ b` are the items of `a`
  followed by the items of `b` read from the line and context where `a` ended.  A reading without
  errors is a chain of calls of `next` that yield items (`Yields`); `Yields.append` carries the chain
  of `a` over to `a ++ b` once, and each consumer of `next` (`collect`, `Parser.finish`, the tree
  reading of `Flatten`) has one lemma saying what it does along a chain.
-/
import QV.Proofs.ZoneFile.Line
import QV.Proofs.ZoneFile.Files

namespace QV.ZF
open QV

/-- `parse_lines_until_returnable_data_found` on `x ++ b`, `x` empty or ending with an unescaped newline:
    an item found in `x` is found in `x ++ b`, with `b` appended to what remains; if `x` runs out, the
    search goes on in `b`. -/
theorem untilData_append (b : List UInt8) (ctx : Ctx) (st : St) : (st.inp = [] ∨ Term st.inp) →
    ∀ r, untilData ctx st = .ok r →
    match r with
    | ((some item, ctx'), st') =>
      untilData ctx ⟨st.inp ++ b, st.line, st.paren⟩ = .ok ((some item, ctx'), ⟨st'.inp ++ b, st'.line, st'.paren⟩) ∧
        (st'.inp = [] ∨ Term st'.inp)
    | ((none, ctx'), st') =>
      st'.inp = [] ∧ untilData ctx ⟨st.inp ++ b, st.line, st.paren⟩ = untilData ctx' ⟨b, st'.line, st'.paren⟩ := by
  fun_induction untilData ctx st <;> intro hx r hr
  case case1 hnil => cases hr; exact ⟨hnil, by rw [hnil]; rfl⟩
  -- one line of `x`, framed
  case case2 ctx st c t hinp item ctx' st' hl =>
    have hx := hx.resolve_left (by simp [hinp])
    cases hr
    obtain ⟨y1, l1, p1⟩ := st'
    obtain ⟨f1, f2, _⟩ := (Ends_parseLine ctx).frame st.inp b st.line st.paren _ y1 l1 p1 hx hl
    refine ⟨?_, hx.suffix_or_nil f2.choose_spec⟩
    rw [untilData.eq_def]
    simp only [hinp, List.cons_append] at f1 ⊢
    simp only [f1]
  case case3 ctx st c t hinp ctx' st' hl hlt ih =>
    have hx := hx.resolve_left (by simp [hinp])
    obtain ⟨y1, l1, p1⟩ := st'
    obtain ⟨f1, f2, _⟩ := (Ends_parseLine ctx).frame st.inp b st.line st.paren _ y1 l1 p1 hx hl
    have hstep : untilData ctx ⟨st.inp ++ b, st.line, st.paren⟩ = untilData ctx' ⟨y1 ++ b, l1, p1⟩ := by
      have hlt' : (y1 ++ b).length < (st.inp ++ b).length := by
        simp only [List.length_append]; simp only at hlt; omega
      rw [untilData.eq_def]
      simp only [hinp, List.cons_append] at f1 hlt' ⊢
      simp only [f1, hlt', ↓reduceIte]
    have := ih (hx.suffix_or_nil f2.choose_spec) r hr
    obtain ⟨⟨it2, ctx2⟩, st2⟩ := r
    cases it2 with
    | some item => exact ⟨hstep.trans this.1, this.2⟩
    | none => exact ⟨this.1, hstep.trans this.2⟩
  all_goals cases hr

/-- the parser after everything has been read (`next` called until it returns `None`) -/
def Parser.finish (p : Parser) : Parser :=
  match p.next with
  | (none, p') => p'
  | (some (.item _), p') => if p'.st.inp.length < p.st.inp.length then Parser.finish p' else p'
  | (some _, p') => p'
termination_by p.st.inp.length

theorem finish_of_none {p p' : Parser} (hn : p.next = (none, p')) : p.finish = p' := by
  rw [Parser.finish, hn]

theorem finish_of_item {p p' : Parser} {i : Item} (hn : p.next = (some (.item i), p'))
    (hlt : p'.st.inp.length < p.st.inp.length) : p.finish = p'.finish := by
  rw [Parser.finish, hn]; simp [hlt]

/-! ### the end of a reading: outside parentheses; independent of the line counter -/

/-- what every call of `next` preserves holds where the reading ends -/
theorem finish_inv {I : Parser → Prop} (hI : ∀ p, I p → I p.next.2) (p : Parser) : I p → I p.finish := by
  have step : ∀ {p p' : Parser} {y : Option Yield}, p.next = (y, p') → I p → I p' :=
    fun hn h => by have := hI _ h; rwa [hn] at this
  fun_induction Parser.finish p <;> intro h
  case case2 hn _ ih => exact ih (step hn h)
  all_goals exact step ‹_› h

theorem next_paren (p p' : Parser) (y : Option Yield) (h : p.next = (y, p')) (hp : p.st.paren = false) :
    p'.st.paren = false := by
  have e : p' = p.next.2 := by rw [h]
  subst e
  cases he : p.error
  · rw [next_eq he]
    cases hu : untilData p.ctx p.st with
    | ok r => exact untilData_paren p.ctx p.st _ _ hu hp
    | err e => exact hp
    | panic => exact hp
  · rw [next_latched he]; exact hp

theorem finish_paren (p : Parser) : p.st.paren = false → p.finish.st.paren = false :=
  finish_inv (fun p => next_paren p _ _ rfl) p

/-- the records among what the iterator yields, without their line numbers -/
def recsOfY (ys : List Yield) : List Rec :=
  ys.filterMap fun y => match y with
    | .item (.record _ r) => some r
    | _ => none

theorem recsOfY_shift (ys : List Yield) (k : Nat) : recsOfY (ys.map (shiftY k)) = recsOfY ys := by
  unfold recsOfY
  rw [List.filterMap_map]
  congr 1
  funext y
  rcases y with (_ | _) | _ | _ <;> rfl

/-- the records of a text do not depend on the line at which reading starts -/
theorem recsOfY_line (x : List UInt8) (l1 l2 : Nat) (q : Bool) (ctx : Ctx) :
    recsOfY (collect ⟨false, ⟨x, l1, q⟩, ctx⟩) = recsOfY (collect ⟨false, ⟨x, l2, q⟩, ctx⟩) := by
  have h1 := collect_shift ⟨false, ⟨x, 0, q⟩, ctx⟩ l1
  have h2 := collect_shift ⟨false, ⟨x, 0, q⟩, ctx⟩ l2
  simp only [shiftParser, shiftSt, Nat.zero_add] at h1 h2
  rw [h1, h2, recsOfY_shift, recsOfY_shift]

/-- a call of `next` without error while the latch is open: the latch stays open, and what is returned came
    out of `parse_lines_until_returnable_data_found` -/
theorem next_ok {p p' : Parser} {o : Option Item} (he : p.error = false) (h : p.next = (o.map .item, p')) :
    p'.error = false ∧ untilData p.ctx p.st = .ok ((o, p'.ctx), p'.st) := by
  rw [next_eq he] at h
  cases hu : untilData p.ctx p.st with
  | ok r =>
    obtain ⟨⟨o', ctx'⟩, st'⟩ := r
    rw [hu] at h
    obtain rfl : o' = o := by cases o <;> cases o' <;> simp_all
    cases h
    exact ⟨rfl, rfl⟩
  | err e => rw [hu] at h; cases o <;> cases h
  | panic => rw [hu] at h; cases o <;> cases h

/-- a call of `next` that yields an item: the latch was and stays open -/
theorem next_item {p p' : Parser} {i : Item} (h : p.next = (some (.item i), p')) :
    p.error = false ∧ p'.error = false ∧ untilData p.ctx p.st = .ok ((some i, p'.ctx), p'.st) :=
  have he : p.error = false := Bool.not_eq_true _ |>.mp fun he => by rw [next_latched he] at h; cases h
  ⟨he, next_ok (o := some i) he h⟩

/-- the context in which a reading ends is well formed -/
theorem finish_ctxWF (q : Parser) : CtxWF q.ctx → CtxWF q.finish.ctx :=
  finish_inv (I := fun p => CtxWF p.ctx) next_ctxWF q

theorem finish_shift (p : Parser) (k : Nat) : (shiftParser k p).finish = shiftParser k p.finish := by
  fun_induction Parser.finish p
  all_goals rw [Parser.finish.eq_def]
  all_goals simp only [next_shift, *, Option.map_some, Option.map_none, shiftY, shiftParser_inp, ↓reduceIte]
  case case4 y p' hy hn =>
    cases y with
    | item i => exact absurd rfl (hy i)
    | err e => rfl
    | panic => rfl

/-- the context in which a reading ends does not depend on the line at which it starts -/
theorem finish_ctx_line (x : List UInt8) (l1 l2 : Nat) (q : Bool) (ctx : Ctx) :
    (Parser.finish ⟨false, ⟨x, l1, q⟩, ctx⟩).ctx = (Parser.finish ⟨false, ⟨x, l2, q⟩, ctx⟩).ctx := by
  have h1 := finish_shift ⟨false, ⟨x, 0, q⟩, ctx⟩ l1
  have h2 := finish_shift ⟨false, ⟨x, 0, q⟩, ctx⟩ l2
  simp only [shiftParser, shiftSt, Nat.zero_add] at h1 h2
  rw [h1, h2]

theorem Term_append {a b : List UInt8} (ha : a = [] ∨ Term a) (hb : b = [] ∨ Term b) :
    a ++ b = [] ∨ Term (a ++ b) := by
  rcases hb with rfl | hb
  · simpa using ha
  · right
    obtain ⟨b0, rfl, h92⟩ := hb
    refine ⟨a ++ b0, by simp, ?_⟩
    cases b0 with
    | nil =>
      rcases ha with rfl | ⟨a0, rfl, ha92⟩
      · simpa using h92
      · simp
    | cons c t =>
      rw [List.getLast?_append]
      simpa using h92

/-! ### readings without errors, and what comes after them -/

/-- `p` yields the items `is`, each call of `next` consuming input, and is then `pe` -/
inductive Yields : Parser → List Item → Parser → Prop
  | nil (p : Parser) : Yields p [] p
  | cons {p p' pe : Parser} {i : Item} {is : List Item} : p.next = (some (.item i), p') →
      p'.st.inp.length < p.st.inp.length → Yields p' is pe → Yields p (i :: is) pe

theorem Yields.collect {p pe : Parser} {is : List Item} (h : Yields p is pe) :
    collect p = is.map .item ++ collect pe := by
  induction h with
  | nil => rfl
  | cons hn hlt _ ih => rw [collect_item hn hlt, ih]; rfl

theorem Yields.finish {p pe : Parser} {is : List Item} (h : Yields p is pe) : p.finish = pe.finish := by
  induction h with
  | nil => rfl
  | cons hn hlt _ ih => rw [finish_of_item hn hlt, ih]

/-- a reading that yields items only is such a chain, up to a parser whose `next` returns `None` -/
theorem yields_of_ok (p : Parser) : (∀ y ∈ collect p, ∃ i, y = .item i) →
    ∃ is pe q, Yields p is pe ∧ pe.next = (none, q) := by
  fun_induction collect p <;> intro hok
  case case1 p p' hn => exact ⟨[], p, p', .nil p, hn⟩
  case case2 p i p' hn hlt ih =>
    obtain ⟨is, pe, q, hy, hq⟩ := ih fun y hy => hok y (List.mem_cons_of_mem _ hy)
    exact ⟨i :: is, pe, q, .cons hn hlt hy, hq⟩
  case case3 => obtain ⟨_, h⟩ := hok _ (List.mem_cons_of_mem _ (List.mem_cons_self ..)); cases h
  case case4 y p' hy hn => obtain ⟨i, h⟩ := hok y (List.mem_cons_self ..); exact absurd h (hy i)

/-- the chain of a reading of `x`, `x` empty or ending with an unescaped newline, is a chain of the
    reading of `x ++ b` -/
theorem Yields.append (b : List UInt8) {p pe : Parser} {is : List Item} (h : Yields p is pe) :
    p.error = false → (p.st.inp = [] ∨ Term p.st.inp) →
    Yields ⟨false, ⟨p.st.inp ++ b, p.st.line, p.st.paren⟩, p.ctx⟩ is ⟨false, ⟨pe.st.inp ++ b, pe.st.line, pe.st.paren⟩, pe.ctx⟩ ∧
      pe.error = false ∧ (pe.st.inp = [] ∨ Term pe.st.inp) := by
  induction h with
  | nil p => exact fun he hx => ⟨.nil _, he, hx⟩
  | @cons p p' pe i is hn hlt _ ih =>
    intro _ hx
    obtain ⟨_, he', hu⟩ := next_item hn
    obtain ⟨k1, k2⟩ := untilData_append b p.ctx p.st hx _ hu
    obtain ⟨j1, j2⟩ := ih he' k2
    exact ⟨.cons (next_of_untilData k1) (by simp only [List.length_append]; omega) j1, j2⟩

/-- **Reading `x ++ b`.**  If `x`, the input of `p`, is empty or ends with an unescaped newline and reading
    it yields no error, then `x` and `x ++ b` are read by the same chain of calls of `next`; where `x` has
    run out, the reading of `x ++ b` goes on as the reading of `b` from the line and context where `x` ended. -/
theorem yields_append (b : List UInt8) {p : Parser} (he : p.error = false) (hx : p.st.inp = [] ∨ Term p.st.inp)
    (hok : ∀ y ∈ collect p, ∃ i, y = .item i) :
    ∃ is pe, Yields p is pe ∧ pe.next = (none, p.finish) ∧
      Yields ⟨false, ⟨p.st.inp ++ b, p.st.line, p.st.paren⟩, p.ctx⟩ is ⟨false, ⟨pe.st.inp ++ b, pe.st.line, pe.st.paren⟩, pe.ctx⟩ ∧
      untilData pe.ctx ⟨pe.st.inp ++ b, pe.st.line, pe.st.paren⟩ =
        untilData p.finish.ctx ⟨b, p.finish.st.line, p.finish.st.paren⟩ := by
  obtain ⟨is, pe, q, hy, hq⟩ := yields_of_ok _ hok
  obtain ⟨hyb, hee, hxe⟩ := hy.append b he hx
  rw [hy.finish, finish_of_none hq]
  exact ⟨is, pe, hy, hq, hyb, (untilData_append b pe.ctx pe.st hxe _ (next_ok (o := none) hee hq).2).2⟩

/-- **Compositionality.**  If the input `x` of `p` is empty or ends with an unescaped newline, and reading it
    yields no error, then reading `x ++ b` yields the items of `x` followed by what reading `b` yields from
    the line and context where `x` ended. -/
theorem collect_append (b : List UInt8) {p : Parser} (he : p.error = false) (hx : p.st.inp = [] ∨ Term p.st.inp)
    (hctx : CtxWF p.ctx) (hok : ∀ y ∈ collect p, ∃ i, y = .item i) :
    collect ⟨false, ⟨p.st.inp ++ b, p.st.line, p.st.paren⟩, p.ctx⟩ =
      collect p ++ collect ⟨false, ⟨b, p.finish.st.line, p.finish.st.paren⟩, p.finish.ctx⟩ := by
  obtain ⟨is, pe, hy, hq, hyb, k⟩ := yields_append b he hx hok
  rw [hyb.collect, hy.collect, collect_none hq, List.append_nil,
    collect_of_untilData_eq k (finish_ctxWF _ hctx) (by simp)]

/-- two reader states from which `parse_lines_until_returnable_data_found` behaves the same: a call of
    `next` that returns no error returns the same from both -/
theorem next_of_untilData_eq {ctx1 ctx2 : Ctx} {st1 st2 : St} (h : untilData ctx1 st1 = untilData ctx2 st2)
    {o : Option Item} {q : Parser} (hn : (⟨false, st2, ctx2⟩ : Parser).next = (o.map .item, q)) :
    (⟨false, st1, ctx1⟩ : Parser).next = (o.map .item, q) := by
  obtain ⟨_, hu⟩ := next_ok rfl hn
  rw [next_eq rfl, h, hu]
  cases q
  simp_all

/-- … and, without error, they end in the same state -/
theorem finish_of_untilData_eq {ctx1 ctx2 : Ctx} {st1 st2 : St} (h : untilData ctx1 st1 = untilData ctx2 st2)
    (hlen : st2.inp.length ≤ st1.inp.length)
    (hok : ∀ y ∈ collect ⟨false, st2, ctx2⟩, ∃ i, y = .item i) :
    Parser.finish ⟨false, st1, ctx1⟩ = Parser.finish ⟨false, st2, ctx2⟩ := by
  obtain ⟨is, pe, q, hy, hq⟩ := yields_of_ok _ hok
  cases hy with
  | nil => rw [finish_of_none hq, finish_of_none (next_of_untilData_eq h (o := none) hq)]
  | cons hn hlt _ =>
    rw [finish_of_item hn hlt, finish_of_item (next_of_untilData_eq h (o := some _) hn) (by simp only at hlt ⊢; omega)]

/-- the end of reading `x ++ b` is the end of reading `b` from where `x` ended (no errors) -/
theorem finish_append (b : List UInt8) {p : Parser} (he : p.error = false) (hx : p.st.inp = [] ∨ Term p.st.inp)
    (hok : ∀ y ∈ collect p, ∃ i, y = .item i)
    (hokb : ∀ y ∈ collect ⟨false, ⟨b, p.finish.st.line, p.finish.st.paren⟩, p.finish.ctx⟩, ∃ i, y = .item i) :
    Parser.finish ⟨false, ⟨p.st.inp ++ b, p.st.line, p.st.paren⟩, p.ctx⟩ =
      Parser.finish ⟨false, ⟨b, p.finish.st.line, p.finish.st.paren⟩, p.finish.ctx⟩ := by
  obtain ⟨is, pe, hy, hq, hyb, k⟩ := yields_append b he hx hok
  rw [hyb.finish, finish_of_untilData_eq k (by simp) hokb]

end QV.ZF
