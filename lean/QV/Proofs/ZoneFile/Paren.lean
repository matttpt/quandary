/-
  QV.Proofs.ZoneFile.Paren — after a line has been read successfully the reader is outside
  parentheses (C25): every successful `parse_line` ends with an end of line that was recognised
  outside parentheses.  Here: the property `EL`, its closure lemmas, `expect_eol` and the loops; the
  composite functions up to `parse_line` are in `Line`.
-/
import QV.Proofs.ZoneFile.Frame

namespace QV.ZF
open QV

/-- `EL f` ("`f` ends the line"): a successful run of `f` ends outside parentheses -/
def EL {α} (f : P α) : Prop := ∀ st v st', f st = .ok (v, st') → st'.paren = false

theorem EL_bind_right {α β} {f : P α} {g : α → P β} (hg : ∀ a, EL (g a)) : EL (P.bind f g) := by
  intro st v st' h
  simp only [P.bind] at h
  cases hf : f st with
  | ok r => obtain ⟨a, st1⟩ := r; rw [hf] at h; exact hg a st1 v st' h
  | err e => rw [hf] at h; cases h
  | panic => rw [hf] at h; cases h

theorem EL_bind_left {α β} {f : P α} {g : α → P β} (hf : EL f) (hg : ∀ a, Indep (g a)) : EL (P.bind f g) := by
  intro st v st' h
  simp only [P.bind] at h
  cases hfx : f st with
  | ok r =>
    obtain ⟨a, st1⟩ := r
    rw [hfx] at h
    rw [(hg a st1 v st' h).1]
    exact hf st a st1 hfx
  | err e => rw [hfx] at h; cases h
  | panic => rw [hfx] at h; cases h

theorem EL_of_not_ok {α} {f : P α} (h : ∀ st r, f st ≠ .ok r) : EL f :=
  fun st v st' hrun => absurd hrun (h _ _)

theorem EL_fail {α} (k : Kind) : EL (P.fail k : P α) := EL_of_not_ok (by intro st r; simp [P.fail, fail])
theorem EL_failAt {α} (k : Kind) (l : Nat) : EL (P.failAt k l : P α) :=
  EL_of_not_ok (by intro st r; simp [P.failAt, fail])
theorem EL_panic {α} : EL (P.panic : P α) := EL_of_not_ok (by intro st r; simp [P.panic])

/-- After `skip_to_next_field_or_through_eol`: at an end of line the reader is outside
    parentheses, and stays there if what follows leaves it alone; at a field, what follows has to
    end the line itself. -/
theorem EL_skipThrough_bind {β} {g : FieldOrEol → P β} (hE : Indep (g .Eol)) (hF : EL (g .Field)) :
    EL (P.bind skipToNextFieldOrThroughEol g) := by
  intro st v st' h
  simp only [P.bind, skipToNextFieldOrThroughEol] at h
  cases hf : fieldOrEol true st.inp st.line st.paren with
  | ok r =>
    obtain ⟨fe, st1⟩ := r
    rw [hf] at h
    cases fe with
    | Eol => rw [(hE st1 v st' h).1]; exact (fieldOrEol_skipped hf).2.2 rfl
    | Field => exact hF st1 v st' h
  | err e => rw [hf] at h; cases h
  | panic => rw [hf] at h; cases h

theorem EL_expectEol : EL expectEol :=
  EL_skipThrough_bind (Indep_pure ()) (EL_fail _)

/-- `expect_eol`, then something that does not touch the reader -/
theorem EL_eol_then {β} {g : Unit → P β} (hg : ∀ a, Indep (g a)) : EL (P.bind expectEol g) :=
  EL_bind_left EL_expectEol hg

/-- the common ending of the RDATA parsers -/
theorem EL_eol_mk {α} (f : P α) (g : α → List UInt8) : EL (P.bind f fun a => P.bind expectEol fun _ => mkRdata (g a)) :=
  EL_bind_right fun _ => EL_eol_then fun _ => Indep_mkRdata _

theorem wksLoop_paren (sl : Nat) (st : St) (ports : List Nat) (n : Nat) (v : List Nat) (st' : St)
    (h : wksLoop sl st ports n = .ok (v, st')) : st'.paren = false := by
  fun_induction wksLoop sl st ports n
  all_goals try simp_all [fail]
  case case1 st ports n st1 hf =>
    obtain ⟨_, rfl⟩ := h
    exact (fieldOrEol_skipped hf).2.2 rfl

theorem txtLoop_paren (sl : Nat) (st : St) (acc : List UInt8) (v : List UInt8) (st' : St)
    (h : txtLoop sl st acc = .ok (v, st')) : st'.paren = false := by
  fun_induction txtLoop sl st acc
  all_goals try simp_all [fail]
  case case2 st acc cs st1 hs acc' st2 hk hf =>
    obtain ⟨_, rfl⟩ := h
    exact (fieldOrEol_skipped hf).2.2 rfl

end QV.ZF
