/-
  QV.Proofs.ZoneFile.Records — the part of a record between owner and RDATA on rendered text
  (C23): TTL and class written or omitted in either order, the type field, and the record
  assembled from them and from what `parse_rdata` makes of the rest (`recordTail_eval`).
-/
import QV.Proofs.ZoneFile.Gaps

namespace QV.ZF
open QV QV.Spec.ZF

/-! ### TTL and class, written or omitted -/

/-- the TTL value: the written one (RFC 2181 clamp), else `default_or_previous_ttl` -/
def ttlChoice (ctx : Ctx) : Option Nat → Option Nat
  | some t => some (ttlFrom t)
  | none => defaultOrPreviousTtl ctx

/-- the class value: the written one, else the previous record's -/
def clsChoice (ctx : Ctx) : Option Nat → Option Nat
  | some k => some k
  | none => ctx.prevClass

/-- TTL and class texts, each present or not, in either order; `gA` after the first that is
    present, `gB` after the second -/
def tcText (gA gB : List UInt8) (ttl : Option Nat) (clsT : Option (List UInt8)) (cf : Bool) : List UInt8 :=
  match ttl, clsT with
  | some t, some c => if cf then c ++ (gA ++ (decimal t ++ gB)) else decimal t ++ (gA ++ (c ++ gB))
  | some t, none => decimal t ++ gA
  | none, some c => c ++ gA
  | none, none => []

theorem ttlClassText_eq (gA gB : List UInt8) (ttl : Option Nat) (cls : Option PCode) (cf : Bool) :
    ttlClassText gA gB ttl cls cf = tcText gA gB ttl (cls.map classText) cf := by
  cases ttl <;> cases cls <;> rfl

/-- parenthesis state after the TTL and class fields -/
def tcEnd {α β} (q1 q2 q3 : Bool) (ttl : Option α) (cls : Option β) : Bool :=
  match ttl, cls with
  | some _, some _ => q3
  | none, none => q1
  | _, _ => q2

/-- line ends in the gaps after the TTL and class fields -/
def tcLines {α β} (a b : Nat) (ttl : Option α) (cls : Option β) : Nat :=
  match ttl, cls with
  | some _, some _ => a + b
  | none, none => 0
  | _, _ => a

theorem skipTo_nil (k : Kind) (X : List UInt8) (hX : ∃ c t, X = c :: t ∧ fieldStart c) (line : Nat)
    (paren : Bool) : skipToNextField k ⟨X, line, paren⟩ = .ok ((), ⟨X, line, paren⟩) :=
  skipToNextField_gapText k [] paren paren (fun _ _ h => nomatch h) rfl X hX line

/-- The TTL, class and type fields of a record line as written: TTL and class each present or not
    (the class with its text), `cf` = class first; the gaps after the first and after the second
    of them, with the parenthesis states before, between and after; the text of the type — and
    what the fields stand for (`tv`, `cv`: the written values, or those the context supplies). -/
structure Mid where
  /-- the gap after the first of the TTL and class fields that is present -/
  gA : PGap
  /-- the gap after the second, when both are present -/
  gB : PGap
  /-- inside parentheses before the fields -/
  q1 : Bool
  /-- … after `gA` -/
  q2 : Bool
  /-- … after `gB` -/
  q3 : Bool
  /-- the TTL as written, if written -/
  ttl : Option Nat
  /-- the class as written (text and value), if written -/
  cls : Option (List UInt8 × Nat)
  /-- the class stands before the TTL -/
  cf : Bool
  /-- the text of the type field -/
  tyT : List UInt8
  /-- the type it denotes -/
  ty : Nat
  /-- the record's TTL: the written one, clamped, or the context's -/
  tv : Nat
  /-- the record's class: the written one or the context's -/
  cv : Nat

/-- the text from the TTL and class fields on; `R0` is what follows the type field (gap, RDATA,
    end of line) -/
def Mid.body (m : Mid) (R0 : List UInt8) : List UInt8 :=
  tcText (gapText m.gA) (gapText m.gB) m.ttl (m.cls.map (·.1)) m.cf ++ (m.tyT ++ R0)

/-- line ends between the TTL/class fields and the type field -/
def Mid.lines (m : Mid) : Nat := tcLines (gapLines m.gA) (gapLines m.gB) m.ttl m.cls

/-- parenthesis state at the type field -/
def Mid.paren (m : Mid) : Bool := tcEnd m.q1 m.q2 m.q3 m.ttl m.cls

/-- what the writer of these fields must respect, and that they denote `tv`, `cv` and `ty` in `ctx` -/
structure Mid.OK (ctx : Ctx) (m : Mid) : Prop where
  ttl_le : ∀ t, m.ttl = some t → t ≤ 4294967295
  cls_ok : ∀ T k, m.cls = some (T, k) → ClassTextOK T k
  gapA : m.ttl.isSome = true ∨ m.cls.isSome = true → GapOK m.gA m.q1 m.q2
  gapB : m.ttl.isSome = true → m.cls.isSome = true → GapOK m.gB m.q2 m.q3
  ty_ok : TypeTextOK m.tyT m.ty
  ty_ne : m.ty ≠ 10 ∧ m.ty ≠ 41 ∧ m.ty ≠ 250
  tv_eq : ttlChoice ctx m.ttl = some m.tv
  cv_eq : clsChoice ctx (m.cls.map (·.2)) = some m.cv

/-- **TTL and class fields**: each written or omitted, in either order, with general gaps after
    them, followed by the type field: the values are the written ones, or the context's defaults -/
theorem ttlClass_eval {ctx : Ctx} {m : Mid} (hm : m.OK ctx) (R : List UInt8) (hR : atFieldEnd R = true) (line : Nat) :
    ∃ st1, parseTtlAndClass ctx ⟨m.body R, line, m.q1⟩ = .ok ((m.tv, m.cv), st1) ∧
      skipToNextField .ExpectedType st1 = .ok ((), ⟨m.tyT ++ R, line + m.lines, m.paren⟩) := by
  obtain ⟨gA, gB, q1, q2, q3, ttl, cls, cf, tyT, ty, tv, cv⟩ := m
  obtain ⟨ht, hk, hA, hB, hty, _, htv, hcv⟩ := hm
  simp only [Mid.body, Mid.lines, Mid.paren] at ht hk hA hB hty htv hcv ⊢
  have hTstart : Starts (tyT ++ R) := hty.field.head R
  have hTfail := fun l q => parseTtl_fails tyT R hty.field.plain hty.field.len hR hty.notU32 l q
  have hCfail : ∀ l q, tryP parseClassField ⟨tyT ++ R, l, q⟩ = .ok (none, ⟨tyT ++ R, l, q⟩) := fun l q =>
    tryP_err (readField_plain_none parseClass _ _ R hty.field.plain hty.field.len hR hty.notClass l q)
  cases ttl with
  | some t =>
    have ht' := ht t rfl
    simp only [ttlChoice, Option.some.injEq] at htv
    subst htv
    have gAok := hA (.inl rfl)
    cases cls with
    | some ck =>
      obtain ⟨cT, k⟩ := ck
      have hk' := hk cT k rfl
      have gBok := hB rfl rfl
      simp only [clsChoice, Option.map_some, Option.some.injEq] at hcv
      subst hcv
      refine ⟨⟨gapText gB ++ (tyT ++ R), line + gapLines gA, q2⟩, ?_, by
        simpa [tcLines, tcEnd, Nat.add_assoc] using gBok.skip .ExpectedType _ hTstart (line + gapLines gA)⟩
      unfold parseTtlAndClass
      have hcls : ∀ rest l q, atFieldEnd rest = true →
          parseClassField ⟨cT ++ rest, l, q⟩ = .ok (k, ⟨rest, l, q⟩) := fun rest l q hrest =>
        readField_plain parseClass _ _ rest k hk'.field.plain hk'.field.len hrest hk'.parse l q
      cases cf with
      | false =>
        simp only [tcText, Option.map_some, Bool.false_eq_true, ↓reduceIte, List.append_assoc]
        simp only [bind, P.bind, tryP_ok (parseTtl_decimal t ht' _ (gAok.atEnd _) line q1),
          gAok.skip .ExpectedClassOrType _ (hk'.field.head _) line,
          tryP_ok (hcls _ _ _ (gBok.atEnd _)), pure, P.pure]
      | true =>
        simp only [tcText, Option.map_some, ↓reduceIte, List.append_assoc]
        have h1 := parseTtl_fails cT _ hk'.field.plain hk'.field.len (gAok.atEnd (decimal t ++ (gapText gB ++ (tyT ++ R))))
          hk'.notU32 line q1
        simp only [bind, P.bind, h1, tryP_ok (hcls _ _ _ (gAok.atEnd _)),
          gAok.skip .ExpectedTtlOrType _ ((starts_decimal t).append _) line,
          tryP_ok (parseTtl_decimal t ht' _ (gBok.atEnd _) _ _), pure, P.pure]
    | none =>
      refine ⟨⟨tyT ++ R, line + gapLines gA, q2⟩, ?_, by
        simpa [tcLines, tcEnd] using skipTo_nil .ExpectedType _ hTstart (line + gapLines gA) q2⟩
      unfold parseTtlAndClass
      simp only [tcText, Option.map_none, List.append_assoc]
      simp only [clsChoice, Option.map_none] at hcv
      simp only [bind, P.bind, tryP_ok (parseTtl_decimal t ht' _ (gAok.atEnd _) line q1),
        gAok.skip .ExpectedClassOrType _ hTstart line, hCfail, hcv, pure, P.pure]
  | none =>
    simp only [ttlChoice] at htv
    cases cls with
    | some ck =>
      obtain ⟨cT, k⟩ := ck
      have hk' := hk cT k rfl
      have gAok := hA (.inr rfl)
      simp only [clsChoice, Option.map_some, Option.some.injEq] at hcv
      subst hcv
      refine ⟨⟨tyT ++ R, line + gapLines gA, q2⟩, ?_, by
        simpa [tcLines, tcEnd] using skipTo_nil .ExpectedType _ hTstart (line + gapLines gA) q2⟩
      unfold parseTtlAndClass
      simp only [tcText, Option.map_some, List.append_assoc]
      have h1 := parseTtl_fails cT _ hk'.field.plain hk'.field.len (gAok.atEnd (tyT ++ R)) hk'.notU32 line q1
      have hcls : parseClassField ⟨cT ++ (gapText gA ++ (tyT ++ R)), line, q1⟩ =
          .ok (k, ⟨gapText gA ++ (tyT ++ R), line, q1⟩) :=
        readField_plain parseClass _ _ _ k hk'.field.plain hk'.field.len (gAok.atEnd _) hk'.parse line q1
      simp only [bind, P.bind, h1, tryP_ok hcls, gAok.skip .ExpectedTtlOrType _ hTstart line,
        hTfail, htv, pure, P.pure]
    | none =>
      simp only [clsChoice, Option.map_none] at hcv
      refine ⟨⟨tyT ++ R, line, q1⟩, ?_, by
        simpa [tcLines, tcEnd] using skipTo_nil .ExpectedType _ hTstart line q1⟩
      unfold parseTtlAndClass
      simp only [tcText, Option.map_none, List.nil_append]
      simp only [bind, P.bind, hTfail, hCfail, htv, hcv, pure, P.pure]

/-! ### the type field and the rest of a record -/

theorem parseTypeField_eval (tyT : List UInt8) (ty : Nat) (hty : TypeTextOK tyT ty) (h10 : ty ≠ 10)
    (h41 : ty ≠ 41) (h250 : ty ≠ 250) (rest : List UInt8) (hrest : atFieldEnd rest = true) (line : Nat)
    (paren : Bool) : parseTypeField ⟨tyT ++ rest, line, paren⟩ = .ok (ty, ⟨rest, line, paren⟩) := by
  unfold parseTypeField
  simp only [bind, P.bind, getLine,
    readField_plain parseType _ _ rest ty hty.field.plain hty.field.len hrest hty.parse line paren]
  have : Gen.parseTypeRejected.find? (fun r => r.1 == ty) = none := by
    have e10 : (10 == ty) = false := by simp; omega
    have e41 : (41 == ty) = false := by simp; omega
    have e250 : (250 == ty) = false := by simp; omega
    simp [Gen.parseTypeRejected, List.find?, e10, e41, e250]
  simp [this, pure, P.pure]

theorem Mid.OK.body_starts {ctx : Ctx} {m : Mid} (hm : m.OK ctx) (R0 : List UInt8) : Starts (m.body R0) := by
  obtain ⟨gA, gB, q1, q2, q3, ttl, cls, cf, tyT, ty, tv, cv⟩ := m
  have hty := hm.ty_ok.field
  have hk := hm.cls_ok
  simp only [Mid.body] at hty hk ⊢
  cases ttl with
  | some t =>
    cases cls with
    | some ck =>
      cases cf
      · exact ((starts_decimal t).append _).append _
      · exact Starts.append ((hk _ _ rfl).field.head _) _
    | none => exact ((starts_decimal t).append _).append _
  | none =>
    cases cls with
    | some ck => exact Starts.append ((hk _ _ rfl).field.head _) _
    | none => exact hty.head R0

/-- the record parser from the TTL/class/type fields on: values, RDATA, and the new context;
    `hrd` says what `parse_rdata` makes of the text after the type field -/
theorem recordTail_eval {ctx : Ctx} {m : Mid} (hm : m.OK ctx) (owner : List UInt8) (startLine : Nat)
    (R0 : List UInt8) (hR0 : atFieldEnd R0 = true) (rd r : List UInt8) (line line' : Nat)
    (hrd : parseRdata ctx m.cv m.ty ⟨R0, line + m.lines, m.paren⟩ = .ok (rd, ⟨r, line', false⟩)) :
    recordRest ctx startLine owner ⟨m.body R0, line, m.q1⟩ =
    .ok ((some (.record startLine ⟨owner, m.tv, m.cv, m.ty, rd⟩),
          { ctx with prevOwner := some owner, prevTtl := some m.tv, prevClass := some m.cv }),
         ⟨r, line', false⟩) := by
  obtain ⟨st1, h1, h2⟩ := ttlClass_eval hm R0 hR0 line
  simp only [recordRest, bind, P.bind, skipTo_nil .ExpectedTtlClassOrType _ (hm.body_starts R0) line m.q1, h1, h2,
    parseTypeField_eval m.tyT m.ty hm.ty_ok hm.ty_ne.1 hm.ty_ne.2.1 hm.ty_ne.2.2 _ hR0, hrd, pure, P.pure]

end QV.ZF
