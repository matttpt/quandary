/-
  QV.Proofs.ZoneFile.Frame — the frame property of the parser's functions (C25).  On an input that
  ends with an unescaped newline (`Term`), a successful run of a function is unchanged by appending
  more input, and what remains is a suffix of what it was given (`Frame`).  Beside it: `Indep`
  (a successful run neither reads nor changes the reader state) and `Stable` (success and failure
  alike are unchanged by appending input; needed under `tryP`).  This file has the lexical layer and
  the loops; the composite functions are in `Line`, and `Compose.collect_append` draws the
  conclusion for whole inputs.
-/
import QV.Proofs.ZoneFile.Shift

namespace QV.ZF
open QV

/-! ### inputs that end with an unescaped newline -/

/-- the text ends with a newline that is not preceded by a backslash -/
def Term (x : List UInt8) : Prop := ∃ x0, x = x0 ++ [10] ∧ x0.getLast? ≠ some 92

theorem Term.ne_nil {x : List UInt8} (h : Term x) : x ≠ [] := by
  obtain ⟨x0, rfl, _⟩ := h; simp

theorem Term.exists_cons {x : List UInt8} (h : Term x) : ∃ c rest, x = c :: rest :=
  List.exists_cons_of_ne_nil h.ne_nil

theorem Term.suffix {x u y : List UInt8} (h : Term x) (e : x = u ++ y) (hy : y ≠ []) : Term y := by
  obtain ⟨x0, hx, h92⟩ := h
  obtain ⟨y0, c, rfl⟩ : ∃ y0 c, y = y0 ++ [c] := ⟨y.dropLast, y.getLast hy, (List.dropLast_concat_getLast hy).symm⟩
  rw [hx, ← List.append_assoc] at e
  obtain ⟨e1, e2⟩ := List.append_inj' e rfl
  simp only [List.cons.injEq, and_true] at e2
  subst e2
  refine ⟨y0, rfl, ?_⟩
  subst e1
  cases y0 with
  | nil => simp
  | cons a t =>
    rw [List.getLast?_append] at h92
    simpa using h92

theorem suffix_trans {x z y : List UInt8} (u0 : List UInt8) (hx : x = u0 ++ z) :
    (∃ u, z = u ++ y) → ∃ u, x = u ++ y
  | ⟨u, hu⟩ => ⟨u0 ++ u, by rw [hx, hu, List.append_assoc]⟩

theorem Term.suffix_or_nil {x u y : List UInt8} (h : Term x) (e : x = u ++ y) : y = [] ∨ Term y := by
  by_cases hy : y = []
  · exact .inl hy
  · exact .inr (h.suffix e hy)

/-- the first octet of such a text and what follows -/
theorem Term.cons {c : UInt8} {rest : List UInt8} (h : Term (c :: rest)) :
    (rest = [] ∧ c = 10) ∨ (rest ≠ [] ∧ Term rest) := by
  cases rest with
  | nil =>
    obtain ⟨x0, hx, _⟩ := h
    cases x0 with
    | nil => simp at hx; exact .inl ⟨rfl, hx⟩
    | cons a t => simp at hx
  | cons d t => exact .inr ⟨by simp, h.suffix (u := [c]) rfl (by simp)⟩

theorem Term.after_backslash {rest : List UInt8} (h : Term (92 :: rest)) :
    ∃ c r, rest = c :: r ∧ r ≠ [] ∧ Term r := by
  obtain ⟨x0, hx, h92⟩ := h
  cases x0 with
  | nil => simp at hx
  | cons a t =>
    simp only [List.cons_append, List.cons.injEq] at hx
    obtain ⟨rfl, rfl⟩ := hx
    cases t with
    | nil => simp at h92
    | cons c t' =>
      refine ⟨c, t' ++ [10], rfl, by simp, ⟨t', rfl, ?_⟩⟩
      cases t' with
      | nil => simp
      | cons e t'' =>
        simp only [List.getLast?_cons_cons] at h92 ⊢
        exact h92

theorem eolLen_append {y : List UInt8} (h : Term y) (b : List UInt8) : eolLen (y ++ b) = eolLen y := by
  cases y with
  | nil => exact absurd rfl h.ne_nil
  | cons c rest =>
    rcases h.cons with ⟨rfl, rfl⟩ | ⟨hne, _⟩
    · simp [eolLen]
    · cases rest with
      | nil => exact absurd rfl hne
      | cons d t => simp [eolLen]

theorem atFieldEnd_append {y : List UInt8} (h : Term y) (b : List UInt8) : atFieldEnd (y ++ b) = atFieldEnd y := by
  cases y with
  | nil => exact absurd rfl h.ne_nil
  | cons c rest =>
    have := eolLen_append h b
    simp only [List.cons_append] at this
    simp [atFieldEnd, this]

/-! ### the frame property -/

/-- On an input ending with an unescaped newline, a successful run of `f` is unchanged by
    appending `b`; what remains is a suffix of the input, and non-empty when `ne` holds of the
    result (everything except the functions that consume the end of the line). -/
def Frame {α} (f : P α) (ne : α → Prop) : Prop :=
  ∀ (x b : List UInt8) (line : Nat) (p : Bool) (v : α) (y : List UInt8) (line' : Nat) (p' : Bool),
    Term x → f ⟨x, line, p⟩ = .ok (v, ⟨y, line', p'⟩) →
    f ⟨x ++ b, line, p⟩ = .ok (v, ⟨y ++ b, line', p'⟩) ∧ (∃ u, x = u ++ y) ∧ (ne v → y ≠ [])

/-- a successful run does not depend on the state and leaves it alone -/
def Indep {α} (g : P α) : Prop :=
  ∀ st v st1, g st = .ok (v, st1) → st1 = st ∧ ∀ st', g st' = .ok (v, st')

theorem Frame.weaken {α} {f : P α} {n n' : α → Prop} (h : Frame f n) (hn : ∀ v, n' v → n v) : Frame f n' :=
  fun x b line p v y line' p' hx hf =>
    let ⟨h1, h2, h3⟩ := h x b line p v y line' p' hx hf
    ⟨h1, h2, fun hv => h3 (hn v hv)⟩

theorem Frame_bind {α β} {f : P α} {g : α → P β} {nf : α → Prop} {n : β → Prop}
    (hf : Frame f nf) (hg : ∀ a, nf a → Frame (g a) n)
    (hi : ∀ a, ¬ nf a → Indep (g a) ∧ ∀ st w st1, g a st = .ok (w, st1) → ¬ n w) :
    Frame (P.bind f g) n := by
  intro x b line p w y2 line2 p2 hx hrun
  simp only [P.bind] at hrun ⊢
  cases hfx : f ⟨x, line, p⟩ with
  | err e => simp [hfx] at hrun
  | panic => simp [hfx] at hrun
  | ok r =>
    obtain ⟨a, ⟨y1, l1, p1⟩⟩ := r
    simp only [hfx] at hrun
    obtain ⟨h1, ⟨u, hu⟩, h3⟩ := hf x b line p a y1 l1 p1 hx hfx
    simp only [h1]
    by_cases ha : nf a
    · have hy1 := h3 ha
      obtain ⟨g1, ⟨u', hu'⟩, g3⟩ := hg a ha y1 b l1 p1 w y2 line2 p2 (hx.suffix hu hy1) hrun
      exact ⟨g1, ⟨u ++ u', by rw [hu, hu', List.append_assoc]⟩, g3⟩
    · obtain ⟨hind, hn⟩ := hi a ha
      obtain ⟨e, hall⟩ := hind _ _ _ hrun
      cases e
      exact ⟨hall _, ⟨u, hu⟩, fun hw => absurd hw (hn _ w _ hrun)⟩

/-- sequencing after a function that never consumes the end of the line -/
theorem Frame_bindT {α β} {f : P α} {g : α → P β} {n : β → Prop}
    (hf : Frame f fun _ => True) (hg : ∀ a, Frame (g a) n) : Frame (P.bind f g) n :=
  Frame_bind hf (fun a _ => hg a) (fun a h => absurd trivial h)

theorem Frame_pure {α} (a : α) (n : α → Prop) : Frame (P.pure a) n := by
  intro x b line p v y line' p' hx hrun
  simp only [P.pure, Out.ok.injEq, Prod.mk.injEq, St.mk.injEq] at hrun ⊢
  obtain ⟨rfl, rfl, rfl, rfl⟩ := hrun
  exact ⟨⟨rfl, rfl, rfl, rfl⟩, ⟨[], rfl⟩, fun _ => hx.ne_nil⟩

theorem Frame_mkRdata (l : List UInt8) : Frame (mkRdata l) fun _ => True := by
  intro x b line p v y line' p' hx hrun
  unfold mkRdata at hrun ⊢
  split at hrun
  · cases hrun
  · cases hrun
    exact ⟨by simp [*], ⟨[], rfl⟩, fun _ => hx.ne_nil⟩

theorem Frame_of_not_ok {α} {f : P α} (n : α → Prop) (h : ∀ st r, f st ≠ .ok r) : Frame f n :=
  fun x b line p v y line' p' _ hrun => absurd hrun (h _ _)

theorem Frame_fail {α} (k : Kind) (n : α → Prop) : Frame (P.fail k : P α) n :=
  Frame_of_not_ok n (by intro st r; simp [P.fail, fail])

theorem Frame_failAt {α} (k : Kind) (l : Nat) (n : α → Prop) : Frame (P.failAt k l : P α) n :=
  Frame_of_not_ok n (by intro st r; simp [P.failAt, fail])

theorem Frame_panic {α} (n : α → Prop) : Frame (P.panic : P α) n :=
  Frame_of_not_ok n (by intro st r; simp [P.panic])

theorem Frame_getLine : Frame getLine fun _ => True := by
  intro x b line p v y line' p' hx hrun
  simp only [getLine, Out.ok.injEq, Prod.mk.injEq, St.mk.injEq] at hrun ⊢
  obtain ⟨rfl, rfl, rfl, rfl⟩ := hrun
  exact ⟨⟨rfl, rfl, rfl, rfl⟩, ⟨[], rfl⟩, fun _ => hx.ne_nil⟩

theorem Indep_pure {α} (a : α) : Indep (P.pure a) := by
  intro st v st1 h
  simp only [P.pure, Out.ok.injEq, Prod.mk.injEq] at h
  obtain ⟨rfl, rfl⟩ := h
  exact ⟨rfl, fun _ => rfl⟩

theorem Indep_of_not_ok {α} {g : P α} (h : ∀ st r, g st ≠ .ok r) : Indep g :=
  fun st v st1 hrun => absurd hrun (h _ _)

theorem Indep_mkRdata (l : List UInt8) : Indep (mkRdata l) := by
  intro st v st1 h
  unfold mkRdata at h ⊢
  split at h
  · cases h
  · simp only [Out.ok.injEq, Prod.mk.injEq] at h
    obtain ⟨rfl, rfl⟩ := h
    exact ⟨rfl, fun st' => by simp [*]⟩

theorem Indep_bind {α β} {f : P α} {g : α → P β} (hf : Indep f) (hg : ∀ a, Indep (g a)) : Indep (P.bind f g) := by
  intro st w st2 hrun
  simp only [P.bind] at hrun
  cases hfx : f st with
  | err e => simp [hfx] at hrun
  | panic => simp [hfx] at hrun
  | ok r =>
    obtain ⟨a, st1⟩ := r
    simp only [hfx] at hrun
    obtain ⟨e1, h1⟩ := hf _ _ _ hfx
    subst e1
    obtain ⟨e2, h2⟩ := hg a _ _ _ hrun
    subst e2
    exact ⟨rfl, fun st' => by simp [P.bind, h1 st', h2 st']⟩

/-- a frame for a function given by cases on a Boolean -/
theorem Frame_ite {α} {c : Prop} [Decidable c] {f g : P α} {n : α → Prop} (hf : c → Frame f n)
    (hg : ¬ c → Frame g n) : Frame (if c then f else g) n := by
  split
  · exact hf ‹_›
  · exact hg ‹_›

theorem Indep_ite {α} {c : Prop} [Decidable c] {f g : P α} (hf : Indep f) (hg : Indep g) :
    Indep (if c then f else g) := by
  split <;> assumption

/-! ### the lexical layer -/

theorem Term.drop_pos {x : List UInt8} (h : Term x) {n : Nat} (hn : n < x.length) : Term (x.drop n) :=
  h.suffix (u := x.take n) (List.take_append_drop n x).symm (by
    intro e
    have := congrArg List.length e
    simp at this; omega)

theorem fieldLen_append {x : List UInt8} (h : Term x) (b : List UInt8) :
    fieldLen (x ++ b) = fieldLen x ∧ fieldLen x < x.length := by
  induction x with
  | nil => exact absurd rfl h.ne_nil
  | cons c rest ih =>
    have ha := atFieldEnd_append h b
    simp only [List.cons_append] at ha
    simp only [List.cons_append, fieldLen, ha]
    by_cases hfe : atFieldEnd (c :: rest) = true
    · simp [hfe]
    · simp only [hfe, Bool.false_eq_true, ↓reduceIte, List.length_cons, Nat.add_lt_add_iff_right,
        Nat.add_right_cancel_iff]
      rcases h.cons with ⟨rfl, rfl⟩ | ⟨_, hr⟩
      · simp [atFieldEnd, eolLen] at hfe
      · exact ih hr

/-- comparisons used by `expect_field`: equality after mapping each octet -/
def cmpg (g : UInt8 → UInt8) (a b : List UInt8) : Bool := a.map g == b.map g

theorem cmpg_newline {g : UInt8 → UInt8} {field x0 t : List UInt8} (hf : ∀ c ∈ field, g c ≠ g 10)
    (hlen : x0.length < field.length) : cmpg g ((x0 ++ 10 :: t).take field.length) field = false := by
  cases h : cmpg g ((x0 ++ 10 :: t).take field.length) field with
  | false => rfl
  | true =>
    exfalso
    simp only [cmpg, beq_iff_eq] at h
    have h1 : (((x0 ++ 10 :: t).take field.length).map g)[x0.length]? = some (g 10) := by
      simp [List.getElem?_take, hlen]
    rw [h] at h1
    simp only [List.getElem?_map, Option.map_eq_some_iff] at h1
    obtain ⟨c, hc, hgc⟩ := h1
    exact hf c (List.mem_of_getElem? hc) hgc

theorem expectFieldImpl_frame (g : UInt8 → UInt8) (field : List UInt8) (hf : ∀ c ∈ field, g c ≠ g 10)
    (x b : List UInt8) (hx : Term x) (line : Nat) (p : Bool) :
    ∃ y, (expectFieldImpl (cmpg g) field ⟨x, line, p⟩).2 = ⟨y, line, p⟩ ∧
      expectFieldImpl (cmpg g) field ⟨x ++ b, line, p⟩ =
        ((expectFieldImpl (cmpg g) field ⟨x, line, p⟩).1, ⟨y ++ b, line, p⟩) ∧
      (∃ u, x = u ++ y) ∧ y ≠ [] := by
  obtain ⟨x0, rfl, h92⟩ := id hx
  by_cases hlen : field.length ≤ x0.length
  · -- the field, if it is there, ends before the newline
    have hle : field.length ≤ (x0 ++ [10]).length := by simp; omega
    have hT := hx.drop_pos (n := field.length) (by simp; omega)
    have h1 : ¬ (x0 ++ [10]).length < field.length := by omega
    have h2 : ¬ (x0 ++ [10] ++ b).length < field.length := by simp at hle ⊢; omega
    simp only [expectFieldImpl, h1, h2, ↓reduceIte, List.take_append_of_le_length hle,
      List.drop_append_of_le_length hle, atFieldEnd_append hT b]
    split
    · exact ⟨_, rfl, rfl, ⟨_, (List.take_append_drop _ _).symm⟩, hT.ne_nil⟩
    · exact ⟨_, rfl, rfl, ⟨[], rfl⟩, by simp⟩
  · -- the field would reach the newline: no match, whatever follows
    have c1 := cmpg_newline (g := g) (t := []) hf (Nat.lt_of_not_le hlen)
    have c2 := cmpg_newline (g := g) (t := b) hf (Nat.lt_of_not_le hlen)
    simp only [List.append_assoc, List.singleton_append] at c2 ⊢
    refine ⟨x0 ++ [10], ?_, ?_, ⟨[], rfl⟩, by simp⟩
    · simp only [expectFieldImpl, c1, Bool.false_and, Bool.false_eq_true, ↓reduceIte, ite_self]
    · simp only [expectFieldImpl, c1, c2, Bool.false_and, Bool.false_eq_true, ↓reduceIte, ite_self, List.append_assoc, List.singleton_append]
theorem expectField_eq (field : List UInt8) : expectField field = expectFieldImpl (cmpg id) field := by
  funext st
  simp [expectField, expectFieldImpl, cmpg]

theorem expectFieldCI_eq (field : List UInt8) : expectFieldCI field = expectFieldImpl (cmpg lowerU8) field := by
  funext st
  simp [expectFieldCI, expectFieldImpl, cmpg, eqIgnoreCase]

theorem Frame_liftB_expect (g : UInt8 → UInt8) (field : List UInt8) (hf : ∀ c ∈ field, g c ≠ g 10) :
    Frame (liftB (expectFieldImpl (cmpg g) field)) fun _ => True := by
  intro x b line p v y line' p' hx hrun
  obtain ⟨y0, h2, hb, hu, hne⟩ := expectFieldImpl_frame g field hf x b hx line p
  simp only [liftB, Out.ok.injEq] at hrun ⊢
  rw [hb]
  have : (expectFieldImpl (cmpg g) field ⟨x, line, p⟩) = (v, ⟨y, line', p'⟩) := hrun
  rw [this] at h2 ⊢
  simp only [St.mk.injEq] at h2
  obtain ⟨rfl, rfl, rfl⟩ := h2
  exact ⟨rfl, hu, fun _ => hne⟩

theorem Frame_expectField (field : List UInt8) (hf : ∀ c ∈ field, c ≠ 10) :
    Frame (liftB (expectField field)) fun _ => True := by
  rw [expectField_eq]; exact Frame_liftB_expect id field hf

theorem Frame_expectFieldCI (field : List UInt8) (hf : ∀ c ∈ field, lowerU8 c ≠ lowerU8 10) :
    Frame (liftB (expectFieldCI field)) fun _ => True := by
  rw [expectFieldCI_eq]; exact Frame_liftB_expect lowerU8 field hf

theorem dropWhile_ws_append {x : List UInt8} (h : Term x) (b : List UInt8) :
    (x ++ b).dropWhile isWs = x.dropWhile isWs ++ b ∧ x.dropWhile isWs ≠ [] ∧ ∃ u, x = u ++ x.dropWhile isWs := by
  induction x with
  | nil => exact absurd rfl h.ne_nil
  | cons c rest ih =>
    by_cases hc : isWs c = true
    · rcases h.cons with ⟨_, rfl⟩ | ⟨_, hr⟩
      · simp [isWs] at hc
      · obtain ⟨i1, i2, u, i3⟩ := ih hr
        simp only [List.cons_append, List.dropWhile_cons, hc, ↓reduceIte]
        exact ⟨i1, i2, c :: u, by rw [List.cons_append, ← i3]⟩
    · simp only [List.cons_append, List.dropWhile_cons, hc, Bool.false_eq_true, ↓reduceIte]
      exact ⟨trivial, by simp, [], rfl⟩

theorem Frame_skipWhitespace : Frame (liftB skipWhitespace) fun _ => True := by
  intro x b line p v y line' p' hx hrun
  obtain ⟨h1, h2, u, h3⟩ := dropWhile_ws_append hx b
  obtain ⟨c, rest, rfl⟩ := hx.exists_cons
  simp only [liftB, skipWhitespace, Out.ok.injEq, Prod.mk.injEq, St.mk.injEq, List.cons_append] at hrun ⊢
  obtain ⟨rfl, rfl, rfl, rfl⟩ := hrun
  simp only [List.cons_append] at h1
  exact ⟨⟨rfl, h1, rfl, rfl⟩, ⟨u, h3⟩, fun _ => h2⟩

theorem skipToEol_append {x : List UInt8} (h : Term x) (b : List UInt8) :
    skipToEol (x ++ b) = skipToEol x ++ b ∧ Term (skipToEol x) ∧ (∃ u, x = u ++ skipToEol x) ∧
      (eolLen (skipToEol x)).isSome = true := by
  induction x with
  | nil => exact absurd rfl h.ne_nil
  | cons c rest ih =>
    have he := eolLen_append h b
    simp only [List.cons_append] at he
    simp only [List.cons_append, skipToEol, he]
    by_cases hs : (eolLen (c :: rest)).isSome = true
    · simp only [hs, ↓reduceIte]
      exact ⟨rfl, h, ⟨[], rfl⟩, trivial⟩
    · simp only [hs, Bool.false_eq_true, ↓reduceIte]
      rcases h.cons with ⟨rfl, rfl⟩ | ⟨_, hr⟩
      · simp [eolLen] at hs
      · obtain ⟨i1, i2, ⟨u, i3⟩, i4⟩ := ih hr
        exact ⟨i1, i2, ⟨c :: u, by rw [List.cons_append, ← i3]⟩, i4⟩

/-- a line ending at the head of an input that ends with a newline lies inside it -/
theorem eolLen_le {y : List UInt8} (h : Term y) {n : Nat} (he : eolLen y = some n) : 1 ≤ n ∧ n ≤ y.length := by
  cases y with
  | nil => exact absurd rfl h.ne_nil
  | cons c rest =>
    simp only [eolLen] at he
    by_cases h10 : (c == 10) = true
    · simp only [h10, ↓reduceIte, Option.some.injEq] at he; subst he; simp
    · simp only [h10, Bool.false_eq_true, ↓reduceIte] at he
      by_cases h13 : (c == 13) = true
      · simp only [h13, ↓reduceIte] at he
        cases rest with
        | nil => simp at he
        | cons d t =>
          simp only at he
          by_cases hd : (d == 10) = true
          · simp only [hd, ↓reduceIte, Option.some.injEq] at he; subst he; simp
          · simp [hd] at he
      · simp [h13] at he

theorem takeEol_append {y : List UInt8} (h : Term y) (b : List UInt8) (line : Nat) :
    takeEol (y ++ b) line = ((takeEol y line).1 ++ b, (takeEol y line).2) ∧ ∃ u, y = u ++ (takeEol y line).1 := by
  unfold takeEol
  rw [eolLen_append h b]
  cases he : eolLen y with
  | none => exact ⟨rfl, [], rfl⟩
  | some n =>
    obtain ⟨h1, h2⟩ := eolLen_le h he
    cases n with
    | zero => omega
    | succ m =>
      simp only [List.drop_append_of_le_length h2]
      exact ⟨trivial, y.take (m + 1), (List.take_append_drop _ _).symm⟩

theorem Term.tail_of_eol_none {c : UInt8} {rest : List UInt8} (hx : Term (c :: rest)) (h : eolLen (c :: rest) = none) :
    Term rest := by
  rcases hx.cons with ⟨_, rfl⟩ | ⟨_, hr⟩
  · simp [eolLen] at h
  · exact hr

/-- **`field_or_eol_skipping`** is framed: blanks, parentheses, comments and line ends up to the
    next field or the end of the line are inside the input, whatever follows it -/
theorem fieldOrEol_frame (thr : Bool) (x : List UInt8) (line : Nat) (p : Bool) (b : List UInt8) (r : FieldOrEol)
    (y : List UInt8) (line' : Nat) (p' : Bool) : Term x →
    fieldOrEol thr x line p = .ok (r, ⟨y, line', p'⟩) →
    fieldOrEol thr (x ++ b) line p = .ok (r, ⟨y ++ b, line', p'⟩) ∧ (∃ u, x = u ++ y) ∧ (r = .Field → y ≠ []) := by
  -- a recursive call inside parentheses on a suffix `z` of the input: `z` ends with the same
  -- newline, or it is empty and the call has failed
  have inParens : ∀ {x z : List UInt8} (u : List UInt8) {l : Nat}, Term x → x = u ++ z →
      (Term z → fieldOrEol thr z l true = .ok (r, ⟨y, line', p'⟩) →
        fieldOrEol thr (z ++ b) l true = .ok (r, ⟨y ++ b, line', p'⟩) ∧ (∃ u, z = u ++ y) ∧ (r = .Field → y ≠ [])) →
      fieldOrEol thr z l true = .ok (r, ⟨y, line', p'⟩) →
      fieldOrEol thr (z ++ b) l true = .ok (r, ⟨y ++ b, line', p'⟩) ∧ (∃ u, x = u ++ y) ∧ (r = .Field → y ≠ []) := by
    intro x z u l hx e ih hrun
    by_cases hz : z = []
    · subst hz; rw [fieldOrEol_eq] at hrun; cases hrun
    · obtain ⟨g1, g2, g3⟩ := ih (hx.suffix e hz) hrun
      exact ⟨g1, suffix_trans u e g2, g3⟩
  fun_induction fieldOrEol thr x line p <;> intro hx hrun
  case case1 => cases hrun
  case case2 => exact absurd rfl hx.ne_nil
  all_goals have he := eolLen_append hx b
  all_goals rw [List.cons_append] at he ⊢
  all_goals rw [fieldOrEol_eq]
  case case3 c rest hws ih =>
    simp only [hws, ↓reduceIte]
    rcases hx.cons with ⟨_, rfl⟩ | ⟨_, hr⟩
    · simp [isWs] at hws
    · obtain ⟨g1, g2, g3⟩ := ih hr hrun
      exact ⟨g1, suffix_trans [c] rfl g2, g3⟩
  case case4 c rest hws n hel ih =>
    have hn := (eolLen_le hx hel).2
    simp only [hws, he, hel, Bool.false_eq_true, ↓reduceIte]
    rw [← List.cons_append, List.drop_append_of_le_length hn]
    exact inParens _ hx (List.take_append_drop n _).symm ih hrun
  case case5 c rest hws n hel hp ht =>
    have hn := (eolLen_le hx hel).2
    cases hrun
    simp only [hws, he, hel, hp, ht, Bool.false_eq_true, ↓reduceIte]
    rw [← List.cons_append, List.drop_append_of_le_length hn]
    exact ⟨rfl, ⟨_, (List.take_append_drop n _).symm⟩, fun h => nomatch h⟩
  case case6 c rest hws n hel hp ht =>
    cases hrun
    simp only [hws, he, hel, hp, ht, Bool.false_eq_true, ↓reduceIte]
    exact ⟨rfl, ⟨[], rfl⟩, fun h => nomatch h⟩
  case case7 line c rest hws hel h59 ih =>
    obtain ⟨s1, s2, ⟨us, s3⟩, _⟩ := skipToEol_append (hx.tail_of_eol_none hel) b
    obtain ⟨t1, ⟨ut, t2⟩⟩ := takeEol_append s2 b line
    simp only [hws, he, hel, h59, Bool.false_eq_true, ↓reduceIte, s1]
    rw [t1]
    exact inParens (c :: (us ++ ut)) hx (by rw [List.cons_append, List.append_assoc, ← t2, ← s3]) ih hrun
  case case8 line _ c rest hws hel h59 hp ht =>
    obtain ⟨s1, s2, ⟨us, s3⟩, _⟩ := skipToEol_append (hx.tail_of_eol_none hel) b
    obtain ⟨t1, ⟨ut, t2⟩⟩ := takeEol_append s2 b line
    cases hrun
    simp only [hws, he, hel, h59, hp, ht, Bool.false_eq_true, ↓reduceIte, s1]
    rw [t1]
    exact ⟨rfl, ⟨c :: (us ++ ut), by rw [List.cons_append, List.append_assoc, ← t2, ← s3]⟩, fun h => nomatch h⟩
  case case9 c rest hws hel h59 hp ht =>
    obtain ⟨s1, _, ⟨us, s3⟩, _⟩ := skipToEol_append (hx.tail_of_eol_none hel) b
    cases hrun
    simp only [hws, he, hel, h59, hp, ht, Bool.false_eq_true, ↓reduceIte, s1]
    exact ⟨trivial, ⟨c :: us, by rw [List.cons_append, ← s3]⟩, fun h => nomatch h⟩
  case case10 => cases hrun
  case case11 c rest hws hel h59 h40 hp ih =>
    simp only [hws, he, hel, h59, h40, hp, Bool.false_eq_true, ↓reduceIte]
    obtain ⟨g1, g2, g3⟩ := ih (hx.tail_of_eol_none hel) hrun
    exact ⟨g1, suffix_trans [c] rfl g2, g3⟩
  case case12 => cases hrun
  case case13 c rest hws hel h59 h40 h41 hp ih =>
    simp only [hws, he, hel, h59, h40, h41, hp, Bool.false_eq_true, ↓reduceIte]
    obtain ⟨g1, g2, g3⟩ := ih (hx.tail_of_eol_none hel) hrun
    exact ⟨g1, suffix_trans [c] rfl g2, g3⟩
  case case14 c rest hws hel h59 h40 h41 =>
    cases hrun
    simp only [hws, he, hel, h59, h40, h41, Bool.false_eq_true, ↓reduceIte]
    exact ⟨rfl, ⟨[], rfl⟩, fun _ => List.cons_ne_nil _ _⟩

theorem Frame_fieldOrEol (thr : Bool) :
    Frame (fun st => fieldOrEol thr st.inp st.line st.paren) fun r => r = .Field :=
  fun x b line p v y line' p' hx hrun => fieldOrEol_frame thr x line p b v y line' p' hx hrun

/-- After a skip: at a field the rest of the line is still to come; at an end of line nothing
    more is read. -/
theorem Frame_skip_bind {β} {thr : Bool} {g : FieldOrEol → P β} {n : β → Prop} (hF : Frame (g .Field) n)
    (hE : Indep (g .Eol)) (hn : ∀ st w st1, g .Eol st = .ok (w, st1) → ¬ n w) :
    Frame (P.bind (fun st => fieldOrEol thr st.inp st.line st.paren) g) n :=
  Frame_bind (Frame_fieldOrEol thr) (fun a ha => ha ▸ hF) fun a ha => by
    have : a = .Eol := by cases a <;> simp at ha ⊢
    subst this
    exact ⟨hE, hn⟩

theorem Frame_skipToNextField (k : Kind) : Frame (skipToNextField k) fun _ => True :=
  Frame_skip_bind (Frame_pure () _) (Indep_of_not_ok (by intro st r; simp [P.fail, fail]))
    (by intro st w st1 h; simp [P.fail, fail] at h)

theorem Frame_expectEol : Frame expectEol fun _ => False :=
  Frame_skip_bind (Frame_fail _ _) (Indep_pure ()) fun _ _ _ _ h => h

/-- `read_field` behaves the same — success or failure — whatever follows the line -/
theorem readField_append {α} (parse : List UInt8 → Option α) (k : Kind) {x : List UInt8} (hx : Term x)
    (b : List UInt8) (line : Nat) (p : Bool) :
    readField parse k ⟨x ++ b, line, p⟩ =
      match readField parse k ⟨x, line, p⟩ with
      | .ok (v, st) => .ok (v, ⟨st.inp ++ b, st.line, st.paren⟩)
      | .err e => .err e
      | .panic => .panic := by
  obtain ⟨hfl, hlt⟩ := fieldLen_append hx b
  unfold readField
  simp only [hfl]
  have htake : (x ++ b).take (fieldLen x) = x.take (fieldLen x) := by
    rw [List.take_append_of_le_length (by omega)]
  have hdrop : (x ++ b).drop (fieldLen x) = x.drop (fieldLen x) ++ b := by
    rw [List.drop_append_of_le_length (by omega)]
  simp only [htake, hdrop]
  split
  · rfl
  · split
    · rfl
    · split <;> rfl

/-- success and failure alike are unchanged by appending input -/
def Stable {α} (f : P α) : Prop :=
  ∀ (x b : List UInt8) (line : Nat) (p : Bool), Term x →
    f ⟨x ++ b, line, p⟩ =
      match f ⟨x, line, p⟩ with
      | .ok (v, st) => .ok (v, ⟨st.inp ++ b, st.line, st.paren⟩)
      | .err e => .err e
      | .panic => .panic

theorem Stable_readField {α} (parse : List UInt8 → Option α) (k : Kind) : Stable (readField parse k) :=
  fun x b line p hx => readField_append parse k hx b line p

theorem readField_rest {α} {parse : List UInt8 → Option α} {k : Kind} {st st' : St} {v : α}
    (h : readField parse k st = .ok (v, st')) : st' = { st with inp := st.inp.drop (fieldLen st.inp) } := by
  unfold readField at h
  simp only at h
  split at h
  · cases h
  · split at h
    · cases h
    · split at h
      · cases h; rfl
      · cases h

theorem Frame_readField {α} (parse : List UInt8 → Option α) (k : Kind) :
    Frame (readField parse k) fun _ => True := by
  intro x b line p v y line' p' hx hrun
  have ha := readField_append parse k hx b line p
  rw [hrun] at ha
  cases readField_rest hrun
  exact ⟨ha, ⟨_, (List.take_append_drop _ _).symm⟩, fun _ => (hx.drop_pos (fieldLen_append hx b).2).ne_nil⟩

theorem Stable_bind_pure {α β} {f : P α} (hf : Stable f) (g : α → β) : Stable (P.bind f fun v => P.pure (g v)) := by
  intro x b line p hx
  simp only [P.bind, P.pure, hf x b line p hx]
  cases f ⟨x, line, p⟩ with
  | ok r => rfl
  | err e => rfl
  | panic => rfl

theorem Frame_bind_pure {α β} {f : P α} {n : α → Prop} (hf : Frame f n) (g : α → β) :
    Frame (P.bind f fun v => P.pure (g v)) fun _ => ∀ v, n v :=
  Frame_bind hf (fun _ _ => Frame_pure _ _) fun a ha => ⟨Indep_pure _, fun _ _ _ _ hall => ha (hall a)⟩

/-- `if let Ok(x) = p`: framed when `p` is stable -/
theorem Frame_tryP {α} {f : P α} (hs : Stable f) (hf : Frame f fun _ => True) : Frame (tryP f) fun _ => True := by
  intro x b line p v y line' p' hx hrun
  have ha := hs x b line p hx
  simp only [tryP] at hrun ⊢
  rw [ha]
  cases hr : f ⟨x, line, p⟩ with
  | ok r =>
    obtain ⟨a, st⟩ := r
    have hfr := hf x b line p a st.inp st.line st.paren hx (by rw [hr])
    simp only [hr, Out.ok.injEq, Prod.mk.injEq] at hrun ⊢
    obtain ⟨rfl, hst⟩ := hrun
    cases hst
    exact ⟨⟨rfl, rfl⟩, hfr.2.1, hfr.2.2⟩
  | err e =>
    simp only [hr, Out.ok.injEq, Prod.mk.injEq, St.mk.injEq] at hrun ⊢
    obtain ⟨rfl, rfl, rfl, rfl⟩ := hrun
    exact ⟨⟨rfl, rfl, rfl, rfl⟩, ⟨[], rfl⟩, fun _ => hx.ne_nil⟩
  | panic => simp [hr] at hrun

/-! ### escapes, names, strings -/

theorem labelErr_ne_ok {α} (er : NErr) (nl ll : Nat) (r : α) : (labelErr er nl ll : Out Err α) ≠ .ok r := by
  unfold labelErr; split <;> exact fun h => nomatch h

/-- an escape whose backslash stood before the last newline is inside the input -/
theorem parseEscapeL_frame {rest : List UInt8} (hx : Term (92 :: rest)) (b : List UInt8) (line : Nat)
    {e : UInt8} {y : List UInt8} {l' : Nat} (h : parseEscapeL rest line = .ok (e, y, l')) :
    parseEscapeL (rest ++ b) line = .ok (e, y ++ b, l') ∧ Term y ∧ ∃ u, 92 :: rest = u ++ y := by
  obtain ⟨c2, r, rfl, _, hr⟩ := hx.after_backslash
  unfold parseEscapeL at h ⊢
  simp only [List.cons_append] at h ⊢
  by_cases hd : isDigit c2 = true
  · simp only [hd, ↓reduceIte] at h ⊢
    match r, hr, h with
    | [], hr, _ => exact absurd rfl hr.ne_nil
    | [d1], _, h => simp [fail] at h
    | d1 :: d2 :: rest2, hr, h =>
      simp only [List.cons_append] at h ⊢
      split at h
      · simp [fail] at h
      · next hdig =>
        simp only [hdig, ↓reduceIte] at ⊢
        split at h
        · simp [fail] at h
        · next hv =>
          simp only [hv, ↓reduceIte, Out.ok.injEq, Prod.mk.injEq] at h ⊢
          obtain ⟨rfl, rfl, rfl⟩ := h
          -- the second digit is not the last newline
          rcases hr.cons with ⟨h0, _⟩ | ⟨_, hr1⟩
          · cases h0
          · rcases hr1.cons with ⟨_, rfl⟩ | ⟨_, hr2⟩
            · simp [isDigit] at hdig
            · exact ⟨rfl, hr2, ⟨[92, c2, d1, d2], rfl⟩⟩
  · simp only [hd, Bool.false_eq_true, ↓reduceIte, Out.ok.injEq, Prod.mk.injEq] at h ⊢
    obtain ⟨rfl, rfl, rfl⟩ := h
    exact ⟨⟨rfl, rfl, rfl⟩, hr, ⟨[92, c2], rfl⟩⟩

theorem not_atFieldEnd_cons {c : UInt8} {rest : List UInt8} (hx : Term (c :: rest))
    (h : ¬ atFieldEnd (c :: rest) = true) : rest ≠ [] ∧ Term rest := by
  rcases hx.cons with ⟨_, rfl⟩ | h'
  · simp [atFieldEnd, eolLen] at h
  · exact h'

theorem nameLoop_frame (origin : Option (List UInt8)) (nl : Nat) (x : List UInt8) (line ll : Nat) (p : Bool)
    (bld : Builder) (b w y : List UInt8) (line' : Nat) (p' : Bool) : Term x →
    nameLoop origin nl x line ll p bld = .ok (w, ⟨y, line', p'⟩) →
    nameLoop origin nl (x ++ b) line ll p bld = .ok (w, ⟨y ++ b, line', p'⟩) ∧ (∃ u, x = u ++ y) ∧ y ≠ [] := by
  fun_induction nameLoop origin nl x line ll p bld <;> intro hx hrun
  -- the end of the name: nothing of `b` is looked at
  case case1 =>
    cases hrun
    rw [nameLoop_eq, atFieldEnd_append hx b]
    simp only [*, ↓reduceIte, nameEnd]
    exact ⟨trivial, ⟨[], rfl⟩, hx.ne_nil⟩
  case case4 =>
    cases hrun
    rw [nameLoop_eq, atFieldEnd_append hx b]
    simp only [*, ↓reduceIte, nameEnd, Bool.false_eq_true]
    exact ⟨trivial, ⟨[], rfl⟩, hx.ne_nil⟩
  -- an escape: it ends before the last newline
  case case9 c rest h92 e rest' line1 hesc b' hp hend ih =>
    obtain rfl : c = 92 := by simpa using h92
    obtain ⟨e1, e2, e3⟩ := parseEscapeL_frame hx b _ hesc
    obtain ⟨g1, g2, g3⟩ := ih e2 hrun
    rw [nameLoop_eq, atFieldEnd_append hx b]
    simp only [List.cons_append, hend, h92, e1, hp, Bool.false_eq_true, ↓reduceIte]
    exact ⟨g1, suffix_trans _ e3.choose_spec g2, g3⟩
  -- a dot, an ordinary octet
  case case14 c rest h92 h46 b' hp hend ih =>
    obtain ⟨g1, g2, g3⟩ := ih (not_atFieldEnd_cons hx hend).2 hrun
    rw [nameLoop_eq, atFieldEnd_append hx b]
    simp only [List.cons_append, hend, h92, h46, hp]
    exact ⟨g1, suffix_trans [c] rfl g2, g3⟩
  case case17 c rest h92 h46 b' hp hend ih =>
    obtain ⟨g1, g2, g3⟩ := ih (not_atFieldEnd_cons hx hend).2 hrun
    rw [nameLoop_eq, atFieldEnd_append hx b]
    simp only [List.cons_append, hend, h92, h46, hp]
    exact ⟨g1, suffix_trans [c] rfl g2, g3⟩
  case case10 => exact absurd hrun (labelErr_ne_ok _ _ _ _)
  case case15 => exact absurd hrun (labelErr_ne_ok _ _ _ _)
  case case18 => exact absurd hrun (labelErr_ne_ok _ _ _ _)
  -- the remaining branches fail
  all_goals cases hrun

theorem Frame_parseName (origin : Option (List UInt8)) : Frame (parseName origin) fun _ => True := by
  rw [parseName_eq]
  refine Frame_bindT (Frame_expectField [64] (by decide)) fun isAt => ?_
  cases isAt with
  | true =>
    cases origin with
    | none => exact Frame_fail _ _
    | some o => exact Frame_pure _ _
  | false =>
    simp only [Bool.false_eq_true, ↓reduceIte]
    refine Frame_bindT (Frame_expectField [46] (by decide)) fun isRoot => ?_
    cases isRoot with
    | true => exact Frame_pure _ _
    | false =>
      intro x b line p w y line' p' hx hrun
      obtain ⟨g1, g2, g3⟩ := nameLoop_frame origin line x line line p Builder.new b w y line' p' hx hrun
      exact ⟨g1, g2, fun _ => g3⟩

theorem quotedLoop_frame (max : Nat) (tl ek : Kind) (sl : Nat) (x : List UInt8) (line : Nat) (acc : List UInt8)
    (k : Nat) (b w y : List UInt8) (line' : Nat) : Term x →
    quotedLoop max tl ek sl x line acc k = .ok (w, y, line') →
    quotedLoop max tl ek sl (x ++ b) line acc k = .ok (w, y ++ b, line') ∧ (∃ u, x = u ++ y) ∧ y ≠ [] := by
  fun_induction quotedLoop max tl ek sl x line acc k <;> intro hx hrun
  case case3 c rest h92 e rest' line1 hesc hk ih =>
    obtain rfl : c = 92 := by simpa using h92
    obtain ⟨e1, e2, e3⟩ := parseEscapeL_frame hx b _ hesc
    obtain ⟨g1, g2, g3⟩ := ih e2 hrun
    rw [List.cons_append, quotedLoop_eq]
    simp only [h92, e1, hk, ↓reduceIte]
    exact ⟨g1, suffix_trans _ e3.choose_spec g2, g3⟩
  -- the closing quote is not the last newline
  case case6 c rest h92 h34 =>
    cases hrun
    rw [List.cons_append, quotedLoop_eq]
    simp only [h92, h34, ↓reduceIte]
    refine ⟨rfl, ⟨[c], rfl⟩, ?_⟩
    rcases hx.cons with ⟨_, rfl⟩ | ⟨h, _⟩
    · simp at h34
    · exact h
  -- an ordinary octet; if it was the last newline, the string is not closed and the loop fails
  case case8 c rest h92 h34 hk ih =>
    rw [List.cons_append, quotedLoop_eq]
    simp only [h92, h34, hk, ↓reduceIte]
    rcases hx.cons with ⟨rfl, _⟩ | ⟨_, hr⟩
    · rw [quotedLoop_eq] at hrun; cases hrun
    · obtain ⟨g1, g2, g3⟩ := ih hr hrun
      exact ⟨g1, suffix_trans [c] rfl g2, g3⟩
  all_goals cases hrun

theorem unquotedLoop_frame (max : Nat) (tl : Kind) (sl : Nat) (x : List UInt8) (line : Nat) (acc : List UInt8)
    (k : Nat) (b w y : List UInt8) (line' : Nat) : Term x →
    unquotedLoop max tl sl x line acc k = .ok (w, y, line') →
    unquotedLoop max tl sl (x ++ b) line acc k = .ok (w, y ++ b, line') ∧ (∃ u, x = u ++ y) ∧ y ≠ [] := by
  fun_induction unquotedLoop max tl sl x line acc k <;> intro hx hrun
  case case1 hend =>
    cases hrun
    rw [unquotedLoop_eq, atFieldEnd_append hx b]
    simp only [hend, ↓reduceIte]
    exact ⟨trivial, ⟨[], rfl⟩, hx.ne_nil⟩
  case case4 c rest h92 e rest' line1 hesc hk hend ih =>
    obtain rfl : c = 92 := by simpa using h92
    obtain ⟨e1, e2, e3⟩ := parseEscapeL_frame hx b _ hesc
    obtain ⟨g1, g2, g3⟩ := ih e2 hrun
    rw [unquotedLoop_eq, atFieldEnd_append hx b]
    simp only [List.cons_append, hend, h92, e1, hk, Bool.false_eq_true, ↓reduceIte]
    exact ⟨g1, suffix_trans _ e3.choose_spec g2, g3⟩
  case case8 c rest h92 hk hend ih =>
    obtain ⟨g1, g2, g3⟩ := ih (not_atFieldEnd_cons hx hend).2 hrun
    rw [unquotedLoop_eq, atFieldEnd_append hx b]
    simp only [List.cons_append, hend, h92, hk, Bool.false_eq_true, ↓reduceIte]
    exact ⟨g1, suffix_trans [c] rfl g2, g3⟩
  all_goals cases hrun

theorem Frame_parseString (max : Nat) (tl ek : Kind) : Frame (parseString max tl ek) fun _ => True := by
  intro x b line p w y line' p' hx hrun
  obtain ⟨c, rest, rfl⟩ := hx.exists_cons
  unfold parseString at hrun ⊢
  simp only [List.cons_append] at hrun ⊢
  by_cases h34 : c = 34
  · subst h34
    simp only at hrun ⊢
    cases hq : quotedLoop max tl ek line rest line [] 0 with
    | ok r =>
      obtain ⟨s, inp', l'⟩ := r
      simp only [hq, Out.ok.injEq, Prod.mk.injEq, St.mk.injEq] at hrun
      obtain ⟨rfl, rfl, rfl, rfl⟩ := hrun
      have hrest : rest ≠ [] ∧ Term rest := by
        rcases hx.cons with ⟨_, h⟩ | h
        · cases h
        · exact h
      obtain ⟨g1, ⟨u, hu⟩, g3⟩ := quotedLoop_frame max tl ek line rest line [] 0 b _ _ _ hrest.2 hq
      simp only [g1]
      exact ⟨trivial, ⟨34 :: u, by rw [List.cons_append, ← hu]⟩, fun _ => g3⟩
    | err e => simp [hq] at hrun
    | panic => simp [hq] at hrun
  · split at hrun
    · next r heq => simp at heq; exact absurd heq.1 h34
    · split
      · next r heq => simp at heq; exact absurd heq.1 h34
      · cases hq : unquotedLoop max tl line (c :: rest) line [] 0 with
        | ok r =>
          obtain ⟨s, inp', l'⟩ := r
          simp only [hq, Out.ok.injEq, Prod.mk.injEq, St.mk.injEq] at hrun
          obtain ⟨rfl, rfl, rfl, rfl⟩ := hrun
          obtain ⟨g1, hu, g3⟩ := unquotedLoop_frame max tl line (c :: rest) line [] 0 b _ _ _ hx hq
          simp only [List.cons_append] at g1
          simp only [g1]
          exact ⟨trivial, hu, fun _ => g3⟩
        | err e => simp [hq] at hrun
        | panic => simp [hq] at hrun

/-! ### records: the RDATA parsers -/

theorem Frame_bindE {α β} {f : P α} {g : α → P β} (hf : Frame f fun _ => False) (hg : ∀ a, Indep (g a)) :
    Frame (P.bind f g) fun _ => False :=
  Frame_bind hf (fun a h => absurd h id) (fun a _ => ⟨hg a, fun _ _ _ _ h => h⟩)

theorem Frame_parseCharacterString : Frame parseCharacterString fun _ => True := Frame_parseString _ _ _

theorem Frame_pName (ctx : Ctx) : Frame (pName ctx) fun _ => True := Frame_parseName _

theorem Frame_parseHexDigit : Frame parseHexDigit fun _ => True := by
  intro x b line p v y line' p' hx hrun
  have hfe := atFieldEnd_append hx b
  unfold parseHexDigit readFieldOctet at hrun ⊢
  simp only [hfe] at hrun ⊢
  obtain ⟨c, rest, rfl⟩ := hx.exists_cons
  by_cases hend : atFieldEnd (c :: rest) = true
  · simp [hend, fail] at hrun
  · obtain ⟨hrne, _⟩ := not_atFieldEnd_cons hx hend
    simp only [Bool.not_eq_true _ |>.mp hend, Bool.false_eq_true, ↓reduceIte, List.cons_append] at hrun ⊢
    cases hn : hexNibble c with
    | none => simp [hn, fail] at hrun
    | some k =>
      simp only [hn, Out.ok.injEq, Prod.mk.injEq, St.mk.injEq] at hrun ⊢
      obtain ⟨rfl, rfl, rfl, rfl⟩ := hrun
      exact ⟨⟨rfl, rfl, rfl, rfl⟩, ⟨[c], rfl⟩, fun _ => hrne⟩

theorem Frame_hexDigits (n : Nat) (acc : List UInt8) : Frame (hexDigits n acc) fun _ => True := by
  induction n generalizing acc with
  | zero => exact Frame_pure _ _
  | succ n ih =>
    unfold hexDigits
    exact Frame_bindT Frame_parseHexDigit fun hi => Frame_bindT Frame_parseHexDigit fun lo => ih _

theorem chaosLoop_frame (sl : Nat) : ∀ (x : List UInt8), Term x → ∀ (b : List UInt8) (addr a : Nat) (y : List UInt8),
    chaosLoop sl x addr = .ok (a, y) →
    chaosLoop sl (x ++ b) addr = .ok (a, y ++ b) ∧ (∃ u, x = u ++ y) ∧ y ≠ [] := by
  intro x
  induction x with
  | nil => intro hx; exact absurd rfl hx.ne_nil
  | cons c rest ih =>
    intro hx b addr a y hrun
    have hfe := atFieldEnd_append hx b
    simp only [List.cons_append] at hfe
    simp only [List.cons_append, chaosLoop, hfe] at hrun ⊢
    by_cases hend : atFieldEnd (c :: rest) = true
    · simp only [hend, ↓reduceIte, Out.ok.injEq, Prod.mk.injEq] at hrun ⊢
      obtain ⟨rfl, rfl⟩ := hrun
      exact ⟨⟨rfl, rfl⟩, ⟨[], rfl⟩, by simp⟩
    · obtain ⟨_, hrT⟩ := not_atFieldEnd_cons hx hend
      simp only [Bool.not_eq_true _ |>.mp hend, Bool.false_eq_true, ↓reduceIte] at hrun ⊢
      split at hrun
      · next hoct =>
        simp only [hoct, ↓reduceIte]
        split at hrun
        · simp [fail] at hrun
        · next hov =>
          simp only [hov, ↓reduceIte]
          obtain ⟨g1, ⟨u, hu⟩, g3⟩ := ih hrT b _ a y hrun
          exact ⟨g1, ⟨c :: u, by rw [List.cons_append, ← hu]⟩, g3⟩
      · simp [fail] at hrun

theorem Frame_parseChaosnetAddress : Frame parseChaosnetAddress fun _ => True := by
  intro x b line p v y line' p' hx hrun
  unfold parseChaosnetAddress at hrun ⊢
  simp only at hrun ⊢
  cases hc : chaosLoop line x 0 with
  | ok r =>
    obtain ⟨a, rest⟩ := r
    simp only [hc, Out.ok.injEq, Prod.mk.injEq, St.mk.injEq] at hrun
    obtain ⟨rfl, rfl, rfl, rfl⟩ := hrun
    obtain ⟨g1, hu, g3⟩ := chaosLoop_frame line x hx b 0 _ _ hc
    simp only [g1]
    exact ⟨trivial, hu, fun _ => g3⟩
  | err e => simp [hc] at hrun
  | panic => simp [hc] at hrun

theorem wksLoop_frame (sl : Nat) (st : St) (ports : List Nat) (k : Nat) (b : List UInt8) (w : List Nat)
    (y : List UInt8) (line' : Nat) (p' : Bool) : Term st.inp →
    wksLoop sl st ports k = .ok (w, ⟨y, line', p'⟩) →
    wksLoop sl ⟨st.inp ++ b, st.line, st.paren⟩ ports k = .ok (w, ⟨y ++ b, line', p'⟩) ∧ (∃ u, st.inp = u ++ y) := by
  fun_induction wksLoop sl st ports k <;> intro hx hrun
  case case1 st ports k st1 hf =>
    cases hrun
    obtain ⟨f1, f2, _⟩ := fieldOrEol_frame true st.inp st.line st.paren b _ _ _ _ hx hf
    rw [wksLoop.eq_def]
    simp only [f1]
    exact ⟨trivial, f2⟩
  case case3 st ports k st1 hf hk pt st2 hr hlt ih =>
    obtain ⟨y1, l1, p1⟩ := st1
    obtain ⟨y2, l2, p2⟩ := st2
    obtain ⟨f1, f2, f3⟩ := fieldOrEol_frame true st.inp st.line st.paren b _ _ _ _ hx hf
    have hT1 := hx.suffix f2.choose_spec (f3 rfl)
    obtain ⟨r1, r2, r3⟩ := Frame_readField parseU16 .InvalidInt y1 b l1 p1 pt y2 l2 p2 hT1 hr
    obtain ⟨g1, g2⟩ := ih (hT1.suffix r2.choose_spec (r3 trivial)) hrun
    have hlt' : (y2 ++ b).length < (st.inp ++ b).length := by
      simp only [List.length_append]; simp only at hlt; omega
    rw [wksLoop.eq_def]
    simp only [f1, hk, r1, hlt', ↓reduceIte]
    exact ⟨g1, suffix_trans _ f2.choose_spec (suffix_trans _ r2.choose_spec g2)⟩
  all_goals cases hrun

theorem Frame_wksLoop (sl : Nat) : Frame (fun st => wksLoop sl st [] 0) fun _ => False := by
  intro x b line p v y line' p' hx hrun
  obtain ⟨g1, g2⟩ := wksLoop_frame sl ⟨x, line, p⟩ [] 0 b v y line' p' hx hrun
  exact ⟨g1, g2, fun h => absurd h id⟩

theorem txtLoop_frame (sl : Nat) (st : St) (acc : List UInt8) (b : List UInt8) (w : List UInt8)
    (y : List UInt8) (line' : Nat) (p' : Bool) : Term st.inp →
    txtLoop sl st acc = .ok (w, ⟨y, line', p'⟩) →
    txtLoop sl ⟨st.inp ++ b, st.line, st.paren⟩ acc = .ok (w, ⟨y ++ b, line', p'⟩) ∧ (∃ u, st.inp = u ++ y) := by
  fun_induction txtLoop sl st acc <;> intro hx hrun
  case case2 st acc cs st1 hs hk acc' st2 hf =>
    cases hrun
    obtain ⟨y1, l1, p1⟩ := st1
    obtain ⟨s1, s2, s3⟩ := Frame_parseCharacterString st.inp b st.line st.paren cs y1 l1 p1 hx hs
    obtain ⟨f1, f2, _⟩ := fieldOrEol_frame true y1 l1 p1 b _ _ _ _ (hx.suffix s2.choose_spec (s3 trivial)) hf
    rw [txtLoop.eq_def]
    simp only [s1, hk, f1, ↓reduceIte]
    exact ⟨rfl, suffix_trans _ s2.choose_spec f2⟩
  case case3 st acc cs st1 hs hk acc' st2 hf hlt ih =>
    obtain ⟨y1, l1, p1⟩ := st1
    obtain ⟨y2, l2, p2⟩ := st2
    obtain ⟨s1, s2, s3⟩ := Frame_parseCharacterString st.inp b st.line st.paren cs y1 l1 p1 hx hs
    have hT1 := hx.suffix s2.choose_spec (s3 trivial)
    obtain ⟨f1, f2, f3⟩ := fieldOrEol_frame true y1 l1 p1 b _ _ _ _ hT1 hf
    obtain ⟨g1, g2⟩ := ih (hT1.suffix f2.choose_spec (f3 rfl)) hrun
    have hlt' : (y2 ++ b).length < (st.inp ++ b).length := by
      simp only [List.length_append]; simp only at hlt; omega
    rw [txtLoop.eq_def]
    simp only [s1, hk, f1, hlt', ↓reduceIte]
    exact ⟨g1, suffix_trans _ s2.choose_spec (suffix_trans _ f2.choose_spec g2)⟩
  all_goals cases hrun

theorem Frame_txtLoop (sl : Nat) : Frame (fun st => txtLoop sl st []) fun _ => False := by
  intro x b line p v y line' p' hx hrun
  obtain ⟨g1, g2⟩ := txtLoop_frame sl ⟨x, line, p⟩ [] b v y line' p' hx hrun
  exact ⟨g1, g2, fun h => absurd h id⟩

end QV.ZF
