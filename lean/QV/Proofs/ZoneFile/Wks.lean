/-
  QV.Proofs.ZoneFile.Wks — the WKS bit map (C23): `serialize_in_wks` against RFC 1035 §3.4.2.

  `newInWksWith msb` is the model of `serialize_in_wks` with the bit order inside an octet as a
  parameter (the repository's order is the extracted `Gen.wksMaskMsbFirst`).  With `msb` it is
  the RFC's bit map (`Spec.ZF.wksBitmap`, defined arithmetically from port membership, no folds
  or bit operations); without, every octet of the bit map has its bits in reverse order
  (known finding D18).
-/
import QV.Proofs.ZoneFile.Record
import QV.Spec.ZoneFile

namespace QV.ZF
open QV QV.Spec.ZF

private def pick (c0 c1 c2 c3 c4 c5 c6 c7 : Bool) : Nat → Bool
  | 0 => c0 | 1 => c1 | 2 => c2 | 3 => c3 | 4 => c4 | 5 => c5 | 6 => c6 | 7 => c7 | _ => false

private theorem bits8 : ∀ c0 c1 c2 c3 c4 c5 c6 c7 : Bool, ∀ k : Fin 8,
    (UInt8.ofNat ((if c0 then 128 else 0) + ((if c1 then 64 else 0) + ((if c2 then 32 else 0) + ((if c3 then 16 else 0) +
      ((if c4 then 8 else 0) + ((if c5 then 4 else 0) + ((if c6 then 2 else 0) + ((if c7 then 1 else 0) + 0))))))))).toNat.testBit k.val
      = pick c0 c1 c2 c3 c4 c5 c6 c7 (7 - k.val) := by
  decide +kernel

/-- bit `k` (from the least significant) of `octetOfBits c` is `c (7 - k)` -/
theorem octetOfBits_testBit (c : Nat → Bool) (k : Nat) :
    (octetOfBits c).toNat.testBit k = (decide (k < 8) && c (7 - k)) := by
  by_cases hk : k < 8
  · have := bits8 (c 0) (c 1) (c 2) (c 3) (c 4) (c 5) (c 6) (c 7) ⟨k, hk⟩
    simp only [hk, decide_true, Bool.true_and]
    unfold octetOfBits
    have e : (List.range 8) = [0,1,2,3,4,5,6,7] := by decide
    rw [e]
    simp only [List.map_cons, List.map_nil, List.sum_cons, List.sum_nil]
    refine this.trans ?_
    have h7 : 7 - k < 8 := by omega
    generalize 7 - k = m at h7
    match m, h7 with
    | 0, _ | 1, _ | 2, _ | 3, _ | 4, _ | 5, _ | 6, _ | 7, _ => rfl
  · simp only [hk, decide_false, Bool.false_and]
    apply Nat.testBit_lt_two_pow
    calc (octetOfBits c).toNat < 2 ^ 8 := (octetOfBits c).toNat_lt
      _ ≤ 2 ^ k := Nat.pow_le_pow_right (by decide) (by omega)

theorem wksOctet_testBit (ports : List Nat) (i k : Nat) :
    (wksOctet ports i).toNat.testBit k = (decide (k < 8) && decide (8 * i + (7 - k) ∈ ports)) :=
  octetOfBits_testBit _ k

theorem revBits_testBit (b : UInt8) (k : Nat) :
    (revBits b).toNat.testBit k = (decide (k < 8) && b.toNat.testBit (7 - k)) :=
  octetOfBits_testBit _ k

/-- reversing twice gives the octet back -/
theorem revBits_revBits (b : UInt8) : revBits (revBits b) = b := by
  apply UInt8.toNat_inj.mp
  apply Nat.eq_of_testBit_eq
  intro k
  rw [revBits_testBit, revBits_testBit]
  by_cases hk : k < 8
  · have : 7 - (7 - k) = k := by omega
    simp [hk, this]; omega
  · simp only [hk, decide_false, Bool.false_and]
    symm
    apply Nat.testBit_lt_two_pow
    calc b.toNat < 2 ^ 8 := b.toNat_lt
      _ ≤ 2 ^ k := Nat.pow_le_pow_right (by decide) (by omega)

theorem wksMask_toNat (msb : Bool) (p : Nat) :
    (wksMask msb p).toNat = if msb then 2 ^ (7 - p % 8) else 2 ^ (p % 8) := by
  have h : p % 8 < 8 := Nat.mod_lt _ (by decide)
  unfold wksMask
  generalize p % 8 = r at h
  have : ∀ r : Fin 8, ((0x80 : UInt8) >>> UInt8.ofNat r.val).toNat = 2 ^ (7 - r.val) ∧
      ((1 : UInt8) <<< UInt8.ofNat r.val).toNat = 2 ^ r.val := by decide
  have := this ⟨r, h⟩
  cases msb <;> simp [this]

theorem wksFold_testBit (msb : Bool) (ports : List Nat) (a : Array UInt8) (i k : Nat) (hi : i < a.size) :
    ((ports.foldl (fun (a : Array UInt8) p => a.modify (p / 8) (fun b => b ||| wksMask msb p)) a)[i]?.getD 0).toNat.testBit k
      = ((a[i]?.getD 0).toNat.testBit k || ports.any fun p => p / 8 == i && (wksMask msb p).toNat.testBit k) := by
  induction ports generalizing a with
  | nil => simp
  | cons p ps ih =>
    simp only [List.foldl_cons, List.any_cons]
    rw [ih _ (by simpa using hi)]
    rw [Array.getElem?_modify]
    by_cases e : p / 8 = i
    · simp [e, hi, UInt8.toNat_or, Nat.testBit_or, Bool.or_assoc]
    · have e' : (p / 8 == i) = false := by simpa using e
      simp [e, e']

theorem wksMaxFold (ports : List Nat) (x : Nat) :
    ports.foldl (fun (m : Option Nat) p => some (match m with | some x => max x p | none => p)) (some x)
      = some (ports.foldl max x) := by
  induction ports generalizing x with
  | nil => rfl
  | cons p ps ih => simp only [List.foldl_cons]; exact ih _

theorem wksMax_eq (ports : List Nat) :
    ports.foldl (fun (m : Option Nat) p => some (match m with | some x => max x p | none => p)) none = ports.max? := by
  cases ports with
  | nil => rfl
  | cons p ps => rw [List.max?_cons']; simp only [List.foldl_cons]; exact wksMaxFold ps p

/-- **`serialize_in_wks` against RFC 1035 §3.4.2**: with the most significant bit first it is the
    RFC's bit map; with the least significant bit first (`1 << (port % 8)`, the repository's code:
    known finding D18) every octet of the bit map comes out with its bits reversed. -/
theorem newInWksWith_eq (msb : Bool) (addr : List UInt8) (proto : Nat) (ports : List Nat) :
    newInWksWith msb addr proto ports =
      addr ++ UInt8.ofNat proto :: (wksBitmap ports).map (if msb then id else revBits) := by
  unfold newInWksWith wksBitmap
  dsimp only
  congr 2
  split
  case h_2 heq =>
    have hmax : ports.max? = none := (wksMax_eq ports).symm.trans heq
    simp [List.max?_eq_none_iff.mp hmax]
  case h_1 hi heq =>
    have hmax : ports.max? = some hi := (wksMax_eq ports).symm.trans heq
    rw [hmax]
    simp only
    apply List.ext_getElem?
    intro i
    rw [Array.getElem?_toList]
    by_cases hlt : i < hi / 8 + 1
    · have hsz : i < (ports.foldl (fun (a : Array UInt8) p => a.modify (p / 8) (fun b => b ||| wksMask msb p))
          (Array.replicate (hi / 8 + 1) 0)).size := by
        rw [foldl_modify_size ports _ (fun p b => b ||| wksMask msb p)]; simpa using hlt
      rw [Array.getElem?_eq_getElem hsz]
      simp only [List.getElem?_map, List.getElem?_range hlt, Option.map_some]
      congr 1
      apply UInt8.toNat_inj.mp
      apply Nat.eq_of_testBit_eq
      intro k
      have hf := wksFold_testBit msb ports (Array.replicate (hi / 8 + 1) 0) i k (by simpa using hlt)
      rw [Array.getElem?_eq_getElem hsz] at hf
      simp only [Option.getD_some] at hf
      rw [hf]
      simp only [Array.getElem?_replicate, hlt, if_true, Option.getD_some, UInt8.toNat_zero, Nat.zero_testBit,
        Bool.false_or, wksMask_toNat]
      cases msb
      · -- least significant bit first
        simp only [Bool.false_eq_true, if_false, Nat.testBit_two_pow, revBits_testBit, wksOctet_testBit]
        rw [Bool.eq_iff_iff]
        simp only [List.any_eq_true, Bool.and_eq_true, beq_iff_eq, decide_eq_true_eq]
        constructor
        · rintro ⟨p, hp, rfl, rfl⟩
          have h8 : p % 8 < 8 := Nat.mod_lt _ (by decide)
          refine ⟨h8, by omega, ?_⟩
          have : 8 * (p / 8) + (7 - (7 - p % 8)) = p := by omega
          rw [this]; exact hp
        · rintro ⟨h8, _, hm⟩
          exact ⟨_, hm, by omega, by omega⟩
      · -- most significant bit first
        simp only [if_true, Nat.testBit_two_pow, id, wksOctet_testBit]
        rw [Bool.eq_iff_iff]
        simp only [List.any_eq_true, Bool.and_eq_true, beq_iff_eq, decide_eq_true_eq]
        constructor
        · rintro ⟨p, hp, rfl, rfl⟩
          have h8 : p % 8 < 8 := Nat.mod_lt _ (by decide)
          refine ⟨by omega, ?_⟩
          have : 8 * (p / 8) + (7 - (7 - p % 8)) = p := by omega
          rw [this]; exact hp
        · rintro ⟨h8, hm⟩
          exact ⟨_, hm, by omega, by omega⟩
    · have hsz : ¬ i < (ports.foldl (fun (a : Array UInt8) p => a.modify (p / 8) (fun b => b ||| wksMask msb p))
          (Array.replicate (hi / 8 + 1) 0)).size := by
        rw [foldl_modify_size ports _ (fun p b => b ||| wksMask msb p)]; simpa using hlt
      rw [Array.getElem?_eq_none (by omega)]
      symm
      apply List.getElem?_eq_none
      simp; omega

end QV.ZF
