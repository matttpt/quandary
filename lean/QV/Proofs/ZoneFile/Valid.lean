/-
  QV.Proofs.ZoneFile.Valid — RDATA built by the typed zone-file parsers passes the validators of
  the shared RDATA model (`QV.Rdata.validateAs*` of `QV.Model.Rdata`), and those
  validators never panic.  Both facts are read off the characterisation of the validators by the
  formats of the RFCs (`QV.Rdata.validateFmt_iff`, `validateFmt_no_panic`): what is shown here is
  that a name the parser builds (`NameWF`) is a wire-form name of the specification.
-/
import QV.Proofs.ZoneFile.Name
import QV.Proofs.Wire
import QV.Proofs.Rdata
import QV.Model.Rdata

namespace QV.ZF
open QV QV.Wire QV.Rdata QV.Spec

/-! ### names -/

theorem lname_encode {ls : List (List UInt8)} (h : LabelsOK ls) : LName (encodeName ls) (ls.length + 1) := by
  induction ls with
  | nil => exact .root
  | cons l ls ih =>
    have h1 := h l (by simp)
    have e : encodeName (l :: ls) = UInt8.ofNat l.length :: (l ++ encodeName ls) := by
      simp [encodeName, flatLabels, encLabel]
    rw [e]
    exact .label (ofNat_len_ne_zero h1.1 h1.2) (by rw [ofNat_len_toNat h1.2]; exact h1.2)
      (ofNat_len_toNat h1.2).symm (ih fun x hx => h x (by simp [hx]))

/-- a name the zone-file parser builds is a wire-form name of the specification -/
theorem NameWF.wire {w : List UInt8} (hw : NameWF w) : WireName w := by
  obtain ⟨ls, ok, rfl, hl⟩ := hw
  exact (wireName_iff _).mpr ⟨_, lname_encode ok, hl⟩

/-- a well-formed name validates as a whole buffer (`Name::validate_uncompressed_all`) -/
theorem validate_all {w : List UInt8} (hw : NameWF w) :
    validateUncompressed w.toArray true = .ok w.length :=
  (validateU_true_iff w.toArray w.length).mpr ⟨by simpa using hw.wire, by simp⟩

theorem NameWF.length_le {w : List UInt8} (hw : NameWF w) : w.length ≤ 255 := hw.choose_spec.2.2

theorem vNameAll_of_WF {w : List UInt8} (hw : NameWF w) : vNameAll w = true := by
  simp [vNameAll, validate_all hw, Out.isOk]

/-! ### the validators accept what the typed parsers build -/

/-- RDATA of a format is accepted by the format's validator -/
theorem accepted {f : Fmt} {rd : List UInt8} (h : FmtSpec f rd) : validateFmt f rd.toArray = .ok () :=
  (validateFmt_iff f rd.toArray).mpr (by simpa using h)

theorem name_valid {w : List UInt8} (hw : NameWF w) : validateName w.toArray = .ok () :=
  accepted (f := .name) ⟨_, by simpa using Splits.name hw.wire .nil⟩

theorem inA_valid {a : List UInt8} (h : a.length = 4) : validateAsInA a.toArray = .ok () := accepted (f := .inA) h

theorem inAaaa_valid {a : List UInt8} (h : a.length = 16) : validateAsInAaaa a.toArray = .ok () :=
  accepted (f := .aaaa) h

theorem inWks_valid {a : List UInt8} (h : 5 ≤ a.length) : validateAsInWks a.toArray = .ok () := accepted (f := .wks) h

theorem chA_valid {lan t : List UInt8} (hl : NameWF lan) (ht : t.length = 2) :
    validateAsChA (lan ++ t).toArray = .ok () :=
  accepted (f := .chA) ⟨_, .name hl.wire (by simpa using Splits.fixed ht .nil)⟩

theorem soa_valid {m r t : List UInt8} (hm : NameWF m) (hr : NameWF r) (ht : t.length = 20) :
    validateAsSoa (m ++ r ++ t).toArray = .ok () :=
  accepted (f := .soa) ⟨_, by simpa using Splits.name hm.wire (.name hr.wire (.fixed ht .nil))⟩

theorem minfo_valid {r e : List UInt8} (hr : NameWF r) (he : NameWF e) :
    validateAsMinfo (r ++ e).toArray = .ok () :=
  accepted (f := .minfo) ⟨_, .name hr.wire (by simpa using Splits.name he.wire .nil)⟩

theorem mx_valid {p ex : List UInt8} (hp : p.length = 2) (hex : NameWF ex) :
    validateAsMx (p ++ ex).toArray = .ok () :=
  accepted (f := .mx) ⟨_, .fixed hp (by simpa using Splits.name hex.wire .nil)⟩

theorem inSrv_valid {p t : List UInt8} (hp : p.length = 6) (ht : NameWF t) :
    validateAsInSrv (p ++ t).toArray = .ok () :=
  accepted (f := .srv) ⟨_, .fixed hp (by simpa using Splits.name ht.wire .nil)⟩

/-- one `<character-string>` in wire form -/
def encCS (s : List UInt8) : List UInt8 := UInt8.ofNat s.length :: s

theorem charStr_encCS {s : List UInt8} (hs : s.length ≤ 255) : CharStr (encCS s) :=
  ⟨_, _, rfl, by simp [UInt8.toNat_ofNat']; omega⟩

theorem hinfo_valid {c o : List UInt8} (hc : c.length ≤ 255) (ho : o.length ≤ 255) :
    validateAsHinfo (encCS c ++ encCS o).toArray = .ok () :=
  accepted (f := .hinfo) ⟨_, _, charStr_encCS hc, charStr_encCS ho, rfl⟩

/-- several `<character-string>`s in wire form -/
def flatCS (es : List (List UInt8)) : List UInt8 := es.flatMap encCS

theorem txt_valid {es : List (List UInt8)} (hne : es ≠ []) (hes : ∀ e ∈ es, e.length ≤ 255) :
    validateAsTxt (flatCS es).toArray = .ok () :=
  accepted (f := .txt) ⟨es.map encCS, by simpa using hne,
    by simpa using fun e he => charStr_encCS (hes e he), by simp [flatCS, List.flatMap]⟩

/-! ### the validators never panic -/

/-- the validator names used by the zone-file parser's handlers -/
def knownValidators : List String :=
  ["validate_name", "validate_as_in_a", "validate_as_ch_a", "validate_as_soa", "validate_as_in_wks",
   "validate_as_hinfo", "validate_as_minfo", "validate_as_mx", "validate_as_txt", "validate_as_in_aaaa",
   "validate_as_in_srv", "ok"]

/-- each of them is the validator of a format: the formats, in the order of the names -/
theorem knownValidators_map : knownValidators.map validateHandler =
    [Fmt.name, .inA, .chA, .soa, .wks, .hinfo, .minfo, .mx, .txt, .aaaa, .srv, .opaque].map fun f => some (validateFmt f) := by
  simp [knownValidators, validateHandler, validateFmt]

theorem knownValidators_fmt {name : String} (hname : name ∈ knownValidators) :
    ∃ f, validateHandler name = some (validateFmt f) := by
  have := List.mem_map_of_mem (f := validateHandler) hname
  rw [knownValidators_map] at this
  obtain ⟨f, _, hf⟩ := List.mem_map.mp this
  exact ⟨f, hf.symm⟩

theorem knownValidators_some {v : String} (hv : v ∈ knownValidators) : ∃ f, validateHandler v = some f :=
  let ⟨_, h⟩ := knownValidators_fmt hv
  ⟨_, h⟩

theorem validateHandler_ne_panic {name : String} {f : Bytes → Out RErr Unit} (hname : name ∈ knownValidators)
    (hf : validateHandler name = some f) (r : Bytes) : f r ≠ .panic := by
  obtain ⟨g, h⟩ := knownValidators_fmt hname
  rw [h] at hf
  cases hf
  exact validateFmt_no_panic g r

end QV.ZF
