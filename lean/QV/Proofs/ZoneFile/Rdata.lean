/-
  QV.Proofs.ZoneFile.Rdata — `parse_rdata` on the typed presentation of RDATA (C23).  Each typed
  body is a chain of fields (`Reads`) separated by gaps; `parseRdata_render` puts the kinds together.
-/
import QV.Proofs.ZoneFile.Gaps
import QV.Proofs.ZoneFile.Wks

namespace QV.ZF
open QV QV.Spec.ZF

/-! ### names as fields -/

/-- a text that `parse_name` reads as `w`, crossing `k` newlines -/
structure NameTextOK (origin : Option (List UInt8)) (T w : List UInt8) (k : Nat) : Prop where
  starts : Starts T
  len : w.length ≤ 255
  parse : ∀ rest line paren, atFieldEnd rest = true →
    parseName origin ⟨T ++ rest, line, paren⟩ = .ok (w, ⟨rest, line + k, paren⟩)

/-- what the writer of a name must respect (RFC 1035 §2.3.4, §5.1): labels of 1–63 octets, at
    most 255 octets in all, specials escaped, a relative name not the single octet `@` -/
def WFName : PName → Prop
  | .abs ls => ls ≠ [] ∧ (∀ l ∈ ls, ∀ x ∈ l, nameFormOK x.1 x.2 = true) ∧ LabelsOK (ls.map labelOctets) ∧
      (flatLabels (ls.map labelOctets)).length + 1 ≤ 255
  | .rel ls l => (∀ l' ∈ ls ++ [l], ∀ x ∈ l', nameFormOK x.1 x.2 = true) ∧
      LabelsOK ((ls ++ [l]).map labelOctets) ∧ renderLabels (ls ++ [l]) ≠ [64]
  | .atSign => True

instance (ls : List (List UInt8)) : Decidable (LabelsOK ls) := by unfold LabelsOK; infer_instance

instance : (n : PName) → Decidable (WFName n)
  | .abs _ | .rel .. | .atSign => by unfold WFName; infer_instance

theorem nameNewlines_eq (ls : List PLabel) : nameNewlines ls = labelLines ls := rfl

theorem wireLabels_eq (ls : List (List UInt8)) : wireLabels ls = flatLabels ls := rfl

/-- a text that begins with a non-empty label starts a field -/
theorem starts_label {l : PLabel} (hl : ∀ x ∈ l, nameFormOK x.1 x.2 = true) (hlen : 0 < (labelOctets l).length)
    (tail : List UInt8) : Starts (renderLabel l ++ tail) := by
  obtain ⟨c, t, hct, _, hend⟩ := renderLabel_head (label_nonempty hlen) hl
  exact ⟨c, t ++ tail, by rw [hct]; rfl, hend⟩

theorem labels_head {ls : List PLabel} {l : PLabel} (hforms : ∀ l' ∈ ls ++ [l], ∀ x ∈ l', nameFormOK x.1 x.2 = true)
    (hLs : LabelsOK ((ls ++ [l]).map labelOctets)) : Starts (renderLabels (ls ++ [l])) := by
  rw [renderLabels_snoc]
  cases ls with
  | nil => simpa using starts_label (hforms l (by simp)) (hLs (labelOctets l) (by simp)).1 []
  | cons x ls' => simpa using starts_label (hforms x (by simp)) (hLs (labelOctets x) (by simp)).1 _

theorem abs_head {ls : List PLabel} (hne : ls ≠ []) (hforms : ∀ l ∈ ls, ∀ x ∈ l, nameFormOK x.1 x.2 = true)
    (hLs : LabelsOK (ls.map labelOctets)) : Starts (renderAbsName ls) := by
  cases ls with
  | nil => exact absurd rfl hne
  | cons l ls' => simpa [renderAbsName] using starts_label (hforms l (by simp)) (hLs (labelOctets l) (by simp)).1 _

/-- **Names**: a well-formed name text is read by `parse_name` as the name it denotes -/
theorem nameText_ok (origin : Option (List UInt8)) (hO : ∀ o, origin = some o → NameWF o) (n : PName)
    (hwf : WFName n) (w : List UInt8) (hw : nameWire origin n = some w) :
    NameTextOK origin (nameText n) w (nameLines n) := by
  cases n with
  | abs ls =>
    obtain ⟨hne, hforms, hLs, htotal⟩ := hwf
    simp only [nameWire, Option.some.injEq] at hw
    subst hw
    refine ⟨abs_head hne hforms hLs, ?_, fun rest line paren hrest => ?_⟩
    · have : (wireName (ls.map labelOctets)).length = (flatLabels (ls.map labelOctets)).length + 1 := by
        simp [wireName, flatLabels, encLabel]
      omega
    · exact parseName_abs origin ls hne hforms hLs htotal rest hrest line paren
  | rel ls l =>
    obtain ⟨hforms, hLs, hnotat⟩ := hwf
    cases ho : origin with
    | none => simp [nameWire, ho] at hw
    | some o =>
      simp only [nameWire, ho] at hw
      split at hw
      · next hfit =>
        simp only [Option.some.injEq] at hw
        subst hw
        refine ⟨labels_head hforms hLs, by simpa using hfit, fun rest line paren hrest => ?_⟩
        exact parseName_rel o (hO o ho) ls l hforms hLs hfit hnotat rest hrest line paren
      · cases hw
  | atSign =>
    simp only [nameWire] at hw
    subst hw
    obtain ⟨_, _, _, hlen⟩ := hO w rfl
    exact ⟨⟨64, [], rfl, .inr (by decide)⟩, hlen, fun rest line paren hrest => parseName_at w rest hrest line paren⟩

theorem NameTextOK.reads {ctx : Ctx} {T w : List UInt8} {k : Nat} (h : NameTextOK ctx.origin T w k) :
    Reads (pName ctx) T w k := h.parse

/-! ### from `parse_rdata` to the typed body -/

theorem expectBh_false (T rest : List UInt8) (hne : T ≠ []) (hnb : ¬ [92, 35] <+: T)
    (hrest : atFieldEnd rest = true) (line : Nat) (paren : Bool) :
    expectField [92, 35] ⟨T ++ rest, line, paren⟩ = (false, ⟨T ++ rest, line, paren⟩) := by
  unfold expectField expectFieldImpl
  split
  · rfl
  · split
    · next h =>
      exfalso
      simp only [Bool.and_eq_true, beq_iff_eq] at h
      obtain ⟨h1, h2⟩ := h
      match T, hne, hnb with
      | [c], _, _ =>
        cases rest with
        | nil => simp at h1
        | cons d r =>
          simp at h1
          obtain ⟨_, rfl⟩ := h1
          simp [atFieldEnd, eolLen, endsField, isWs] at hrest
      | c :: d :: t, _, hnb =>
        simp at h1
        obtain ⟨rfl, rfl⟩ := h1
        exact hnb ⟨t, rfl⟩
    · rfl

theorem checkBackslashHash_false (k : Kind) (g : PGap) (p p' : Bool) (hg : GapOK g p p')
    (T rest : List UInt8) (hT : Starts T) (hnb : ¬ [92, 35] <+: T) (hrest : atFieldEnd rest = true)
    (line : Nat) :
    checkBackslashHash k ⟨gapText g ++ (T ++ rest), line, p⟩ = .ok (false, ⟨T ++ rest, line + gapLines g, p'⟩) := by
  unfold checkBackslashHash
  simp only [bind, P.bind, hg.skip k _ (hT.append rest) line]
  simp [liftB, expectBh_false T rest hT.ne_nil hnb hrest]

theorem checkBackslashHash_true (k : Kind) (g : PGap) (p p' : Bool) (hg : GapOK g p p')
    (r : List UInt8) (hr : atFieldEnd r = true) (line : Nat) :
    checkBackslashHash k ⟨gapText g ++ 92 :: 35 :: r, line, p⟩ = .ok (true, ⟨r, line + gapLines g, p'⟩) := by
  unfold checkBackslashHash
  simp only [bind, P.bind, hg.skip k (92 :: 35 :: r) ⟨92, _, rfl, .inl rfl⟩ line]
  simp [liftB, expectField, expectFieldImpl, hr]

/-- a typed text (not `\#`) goes to the typed body of the handler for its class and type -/
theorem parseRdata_typed (ctx : Ctx) (cls ty : Nat) (name : String) (harm : findArm cls ty = some name)
    {body : P (List UInt8)} (hbody : handlerBody name ctx = body)
    {g : PGap} {p p' : Bool} (hg : GapOK g p p') {T : List UInt8} (rest : List UInt8) (hT : Starts T)
    (hnb : ¬ [92, 35] <+: T) (hrest : atFieldEnd rest = true) (line : Nat) :
    parseRdata ctx cls ty ⟨gapText g ++ (T ++ rest), line, p⟩ = body ⟨T ++ rest, line + gapLines g, p'⟩ := by
  obtain ⟨e, hfind, _⟩ := handler_lookup (findArm_mem harm)
  subst hbody
  unfold parseRdata
  simp only [harm, runHandler, hfind, bind, P.bind,
    checkBackslashHash_false _ g p p' hg T rest hT hnb hrest line]
  rfl

theorem decimal_not_bh (n : Nat) : ¬ [92, 35] <+: decimal n := (Starts.of_plain (decimal_ne_nil n) (decimal_plain n)).2

/-- RDATA that is a single field -/
theorem parseRdata_oneField (ctx : Ctx) (cls ty : Nat) (name : String) (harm : findArm cls ty = some name)
    {p : P (List UInt8)} (hbody : handlerBody name ctx = do let a ← p; expectEol; mkRdata a)
    {T w : List UInt8} {k : Nat} (hp : Reads p T w k) (hT : Starts T) (hnb : ¬ [92, 35] <+: T)
    (hlen : w.length ≤ 65535) {g tg : PGap} {q q' : Bool} (hg : GapOK g q q') {cmt : List UInt8}
    (hTl : TailOK tg cmt q') {eol : PEol} {r : List UInt8} (he : eol = .eof → r = []) (line : Nat) :
    parseRdata ctx cls ty ⟨gapText g ++ (T ++ (tailText tg cmt eol ++ r)), line, q⟩ =
      .ok (w, ⟨r, line + gapLines g + k + gapLines tg + eolLines eol, false⟩) := by
  refine (parseRdata_typed ctx cls ty name harm hbody hg _ hT hnb (atFieldEnd_tail tg cmt q' hTl eol r he) line).trans ?_
  exact hp.then_eol hTl he (fun a => a) (by rfl) hlen (by rfl)

/-- RDATA that is a single field of plain octets, read with `read_field` -/
theorem parseRdata_plainField (ctx : Ctx) (cls ty : Nat) (name : String) (harm : findArm cls ty = some name)
    {parse : List UInt8 → Option (List UInt8)} {kd : Kind}
    (hbody : handlerBody name ctx = do let a ← readField parse kd; expectEol; mkRdata a)
    {T w : List UInt8} (hplain : ∀ x ∈ T, plainOctet x = true) (hne : T ≠ []) (hl : T.length ≤ 65536)
    (hparse : parse T = some w) (hlen : w.length ≤ 65535) {g tg : PGap} {q q' : Bool} (hg : GapOK g q q')
    {cmt : List UInt8} (hTl : TailOK tg cmt q') {eol : PEol} {r : List UInt8} (he : eol = .eof → r = [])
    (line : Nat) :
    parseRdata ctx cls ty ⟨gapText g ++ (T ++ (tailText tg cmt eol ++ r)), line, q⟩ =
      .ok (w, ⟨r, line + gapLines g + gapLines tg + eolLines eol, false⟩) := by
  obtain ⟨hS, hnb⟩ := Starts.of_plain hne hplain
  exact parseRdata_oneField ctx cls ty name harm hbody (reads_plain hplain hl hparse kd) hS hnb hlen hg hTl he line

/-- IN AAAA, any way of writing the address: a plain text that `Ipv6Addr::from_str` accepts -/
theorem parseRdata_aaaa_text (ctx : Ctx) {T w : List UInt8} (hplain : ∀ x ∈ T, plainOctet x = true) (hne : T ≠ [])
    (hl : T.length ≤ 65536) (hparse : parseIpv6 T = some w) {g tg : PGap} {q q' : Bool} (hg : GapOK g q q')
    {cmt : List UInt8} (hTl : TailOK tg cmt q') {eol : PEol} {r : List UInt8} (he : eol = .eof → r = [])
    (line : Nat) :
    parseRdata ctx 1 28 ⟨gapText g ++ (T ++ (tailText tg cmt eol ++ r)), line, q⟩ =
      .ok (w, ⟨r, line + gapLines g + gapLines tg + eolLines eol, false⟩) :=
  parseRdata_plainField ctx 1 28 _ (by decide) (handlerBody_inAaaa ctx) hplain hne hl hparse
    (by have := parseIpv6_length hparse; omega) hg hTl he line

theorem mkRdata_ok (l : List UInt8) (h : l.length ≤ 65535) (st : St) : mkRdata l st = .ok (l, st) := by
  unfold mkRdata
  have : ¬ l.length > 65535 := by omega
  simp [this]

/-! ### RFC 3597 form with general gaps -/

theorem parseUnknownRdataImpl_render (g1 g2 : PGap) (p0 p1 p2 : Bool) (rd : List UInt8)
    (h1 : GapOK g1 p0 p1) (h2 : rd ≠ [] → GapOK g2 p1 p2) (hp : rd = [] → p2 = p1)
    (tg : PGap) (cmt : List UInt8) (hT : TailOK tg cmt p2) (eol : PEol) (r : List UInt8) (he : eol = .eof → r = [])
    (hlen : rd.length ≤ 65535) (line : Nat) :
    ∃ l, parseUnknownRdataImpl
      ⟨gapText g1 ++ (decimal rd.length ++ ((if rd.isEmpty then [] else gapText g2 ++ renderHex rd) ++
        (tailText tg cmt eol ++ r))), line, p0⟩ =
      .ok ((l, rd), ⟨r, line + gapLines g1 + (if rd.isEmpty then 0 else gapLines g2) + gapLines tg + eolLines eol, false⟩) := by
  have hEnd := atFieldEnd_tail tg cmt p2 hT eol r he
  unfold parseUnknownRdataImpl
  cases rd with
  | nil =>
    have := hp rfl
    subst this
    refine ⟨line + gapLines g1, ?_⟩
    simp only [List.length_nil, List.isEmpty_nil, ↓reduceIte, List.nil_append, bind, P.bind,
      h1.skip _ _ ((starts_decimal 0).append _) line, show parseU16 = parseUInt 65535 from rfl,
      readField_decimal 65535 0 (by omega) (by omega) _ _ hEnd, beq_self_eq_true, getLine, pure, P.pure,
      expectEol_tail tg cmt p2 hT eol r he, Nat.add_zero]
  | cons b rd' =>
    have h2' := h2 (by simp)
    obtain ⟨h, t, hh, hhstart⟩ := renderHex_head b rd'
    have hlen' : rd'.length + 1 ≤ 65535 := by simpa using hlen
    have hne0 : ((rd'.length + 1) == 0) = false := by simp
    have hHexStarts : Starts (renderHex (b :: rd') ++ (tailText tg cmt eol ++ r)) :=
      ⟨h, t ++ (tailText tg cmt eol ++ r), by rw [hh]; rfl, hhstart⟩
    refine ⟨line + gapLines g1 + gapLines g2, ?_⟩
    have hd3 := hexDigits_render (b :: rd') [] (tailText tg cmt eol ++ r) (line + gapLines g1 + gapLines g2) p2
    simp only [List.length_cons] at hd3
    have hmk : ∀ st, mkRdata ([].reverse ++ b :: rd') st = .ok (b :: rd', st) := by
      intro st
      unfold mkRdata
      have : ¬ (([].reverse ++ b :: rd').length > 65535) := by simp; omega
      rw [if_neg this]; simp
    simp only [List.length_cons, List.isEmpty_cons, Bool.false_eq_true, ↓reduceIte, List.append_assoc, bind, P.bind,
      h1.skip _ _ ((starts_decimal (rd'.length + 1)).append _) line, show parseU16 = parseUInt 65535 from rfl,
      readField_decimal 65535 _ hlen' (by omega) _ _ (h2'.atEnd _), hne0,
      h2'.skip _ _ hHexStarts, getLine, hd3, hmk, pure, P.pure, expectEol_tail tg cmt p2 hT eol r he]

/-- **RFC 3597 RDATA** `\# len hex`, for any class and type, with general gaps -/
theorem parseRdata_generic_gaps (ctx : Ctx) (cls ty : Nat)
    (g0 g1 g2 : PGap) (q p0 p1 p2 : Bool) (rd : List UInt8) (h0 : GapOK g0 q p0)
    (h1 : GapOK g1 p0 p1) (h2 : rd ≠ [] → GapOK g2 p1 p2) (hp : rd = [] → p2 = p1)
    (tg : PGap) (cmt : List UInt8) (hT : TailOK tg cmt p2) (eol : PEol) (r : List UInt8) (he : eol = .eof → r = [])
    (hlen : rd.length ≤ 65535) (hvalid : validate cls ty rd = .ok ()) (line : Nat) :
    parseRdata ctx cls ty
      ⟨gapText g0 ++ ((92 :: 35 :: (gapText g1 ++ (decimal rd.length ++
        (if rd.isEmpty then [] else gapText g2 ++ renderHex rd)))) ++ (tailText tg cmt eol ++ r)), line, q⟩ =
      .ok (rd, ⟨r, line + gapLines g0 + (gapLines g1 + (if rd.isEmpty then 0 else gapLines g2)) + gapLines tg +
        eolLines eol, false⟩) := by
  simp only [List.cons_append, List.append_assoc, ← Nat.add_assoc]
  have hfe := h1.atEnd (decimal rd.length ++ ((if rd.isEmpty then [] else gapText g2 ++ renderHex rd) ++
        (tailText tg cmt eol ++ r)))
  obtain ⟨l, himpl⟩ := parseUnknownRdataImpl_render g1 g2 p0 p1 p2 rd h1 h2 hp tg cmt hT eol r he hlen (line + gapLines g0)
  generalize hX : gapText g1 ++ (decimal rd.length ++ ((if rd.isEmpty then [] else gapText g2 ++ renderHex rd) ++
        (tailText tg cmt eol ++ r))) = X at hfe himpl ⊢
  generalize hL : (line + gapLines g0 + gapLines g1 + if rd.isEmpty then 0 else gapLines g2) = L at himpl ⊢
  unfold parseRdata
  cases hf : findArm cls ty with
  | none =>
    simp only [bind, P.bind, checkBackslashHash_true _ g0 q p0 h0 _ hfe line]
    simp [parseUnknownRdata, bind, P.bind, himpl, pure, P.pure]
  | some h =>
    obtain ⟨e, hfind, hknown, _⟩ := handler_lookup (findArm_mem hf)
    obtain ⟨f, hfv⟩ := knownValidators_some hknown
    have hok : f rd.toArray = .ok () := by
      unfold validate Rdata.validate at hvalid
      rw [dispatch_agree hf, hfv] at hvalid
      exact hvalid
    simp only [runHandler, hfind, bind, P.bind, checkBackslashHash_true _ g0 q p0 h0 _ hfe line]
    simp [parseUnknownRdataWithValidation, bind, P.bind, himpl, hfv, hok, pure, P.pure]

/-- **RDATA in `\# len hex` form** for any class and type (other than OPT, TSIG): the RDATA is
    read back exactly — provided it is valid for the class and type, which the parser checks for
    the types it knows.  Blanks between the fields, an optional comment, a newline. -/
theorem parseRdata_generic (ctx : Ctx) (cls ty : Nat) (h41 : ty ≠ 41) (h250 : ty ≠ 250)
    (sep rd ws cmt r : List UInt8) (hne : sep ≠ []) (hsep : ∀ x ∈ sep, isWs x = true)
    (hlen : rd.length ≤ 65535) (hvalid : validate cls ty rd = .ok ())
    (hws : ∀ x ∈ ws, isWs x = true) (hc : commentOK cmt) (line : Nat) :
    parseRdata ctx cls ty ⟨sep ++ 92 :: 35 :: (genericTail sep rd ++ (ws ++ (cmt ++ 10 :: r))), line, false⟩ =
      .ok (rd, ⟨r, line + 1, false⟩) := by
  have hg := GapOK_blanks hne false
  have := parseRdata_generic_gaps ctx cls ty _ _ _ false false false false rd hg hg (fun _ => hg) (fun _ => rfl)
    (blanksOf ws) cmt (TailOK_blanks ws cmt hc) .lf r (by intro h; cases h) hlen hvalid line
  simpa [gapText_blanks sep hsep, gapLines_blanks, tailText_blanks ws cmt hws, genericTail, lineEnd, eolLines] using this

theorem gapText_pos {g : PGap} (h : g ≠ []) : 0 < (gapText g).length := by
  cases g with
  | nil => exact absurd rfl h
  | cons y ys =>
    have : 0 < (gapItemText y).length := by
      cases y with
      | blank tab => simp [gapItemText]
      | openParen => simp [gapItemText]
      | closeParen => simp [gapItemText]
      | newline c cr => cases cr <;> simp [gapItemText, eolText]
    simp only [gapText, List.flatMap_cons, List.length_append]
    omega

/-! ### WKS: protocol field -/

theorem eqIgnoreCase_of_upper {a b : List UInt8} (h : a.map upperU8 = b.map upperU8) : eqIgnoreCase a b = true := by
  unfold eqIgnoreCase
  rw [upperU8_eq] at h
  rw [← Codes.map_lower_upper a, h, Codes.map_lower_upper]
  simp

/-- the field is the keyword in some mix of upper and lower case: consumed -/
theorem expectFieldCI_match (kw t X : List UInt8) (hu : t.map upperU8 = kw.map upperU8) (hX : atFieldEnd X = true)
    (line : Nat) (p : Bool) : expectFieldCI kw ⟨t ++ X, line, p⟩ = (true, ⟨X, line, p⟩) :=
  expectFieldImpl_match (by simpa using congrArg List.length hu) (eqIgnoreCase_of_upper hu) hX line p

/-- the first octets differ even without case: nothing consumed -/
theorem expectFieldCI_head_ne (k : UInt8) (ks : List UInt8) (c : UInt8) (t : List UInt8) (h : lowerU8 c ≠ lowerU8 k)
    (line : Nat) (p : Bool) : expectFieldCI (k :: ks) ⟨c :: t, line, p⟩ = (false, ⟨c :: t, line, p⟩) :=
  expectFieldImpl_ne (by simp [eqIgnoreCase, h])

theorem tcp_bytes : "TCP".toUTF8.toList = [84, 67, 80] := by decide +kernel
theorem udp_bytes : "UDP".toUTF8.toList = [85, 68, 80] := by decide +kernel

theorem lowerU8_digit {c : UInt8} (h : isDigit c = true) : lowerU8 c = c := by
  unfold isDigit at h
  simp only [Bool.and_eq_true, decide_eq_true_eq, UInt8.le_iff_toNat_le] at h
  have h2 : (57 : UInt8).toNat = 57 := rfl
  rw [h2] at h
  unfold lowerU8
  rw [if_neg (by omega)]

theorem digit_not_t_u (c : UInt8) (h : isDigit c = true) : lowerU8 c ≠ lowerU8 84 ∧ lowerU8 c ≠ lowerU8 85 := by
  rw [lowerU8_digit h]
  constructor <;> (rintro rfl; revert h; decide)

theorem upperU_not_t (c : UInt8) (h : upperU8 c = 85) : lowerU8 c ≠ lowerU8 84 := by
  rw [upperU8_eq] at h
  rw [← Codes.lower_upper c, h]
  decide

/-- the protocol field of WKS as the writer may put it: `TCP` / `UDP` in any mix of upper and
    lower case, or a number up to 255 -/
def WFProto : PCode → Prop
  | .generic n => n ≤ 255
  | .mnemonic t n => mnemonicFor protoMnemonics t n

instance : (c : PCode) → Decidable (WFProto c)
  | .generic _ | .mnemonic .. => by unfold WFProto; infer_instance

/-- `TCP` or `UDP` in some mix of upper and lower case -/
theorem protoMnemonic_cases {t : List UInt8} {v : Nat} (h : mnemonicFor protoMnemonics t v) :
    (t.map upperU8 = [84, 67, 80] ∧ v = 6) ∨ (t.map upperU8 = [85, 68, 80] ∧ v = 17) := by
  obtain ⟨m, hm, hu⟩ := h
  rw [upperOctet_eq] at hu
  simp only [protoMnemonics, List.mem_cons, Prod.mk.injEq, List.not_mem_nil, or_false] at hm
  rcases hm with ⟨rfl, rfl⟩ | ⟨rfl, rfl⟩
  · exact .inl ⟨by rw [hu, tcp_bytes], rfl⟩
  · exact .inr ⟨by rw [hu, udp_bytes], rfl⟩

theorem starts_protoText {pr : PCode} (hpr : WFProto pr) : Starts (protoText pr) := by
  cases pr with
  | generic n => exact starts_decimal n
  | mnemonic t v =>
    -- the first octet is a letter
    cases t with
    | nil => rcases protoMnemonic_cases hpr with ⟨h, _⟩ | ⟨h, _⟩ <;> cases h
    | cons c t =>
      have hc : 65 ≤ (upperU8 c).toNat ∧ (upperU8 c).toNat ≤ 90 := by
        rcases protoMnemonic_cases hpr with ⟨h, _⟩ | ⟨h, _⟩ <;>
          (rw [(List.cons.inj h).1]; decide)
      exact ⟨c, t, rfl, (plain_head (letter_of_upper c hc).1).1⟩

/-- the protocol field of `parse_in_wks_rdata` (`TCP`, `UDP`, or a number) and what the body does
    with it, in the shape the `do` block of the body unfolds to -/
theorem wksProto_then {β} (jp : Nat → P β) {pr : PCode} (hpr : WFProto pr) {rest : List UInt8}
    (hrest : atFieldEnd rest = true) (line : Nat) (q : Bool) :
    (do let proto ← do
          if ← liftB (expectFieldCI "TCP".toUTF8.toList) then pure 6
          else do
            if ← liftB (expectFieldCI "UDP".toUTF8.toList) then pure 17
            else readField parseU8 .InvalidInt
        jp proto) ⟨protoText pr ++ rest, line, q⟩ = jp pr.value ⟨rest, line, q⟩ := by
  cases pr with
  | generic n =>
    obtain ⟨dd, ds, hdd, _⟩ := starts_decimal n
    have hdig := digit_not_t_u dd (decimal_digits n dd (by rw [hdd]; simp))
    have h1 : expectFieldCI [84, 67, 80] ⟨decimal n ++ rest, line, q⟩ = (false, ⟨decimal n ++ rest, line, q⟩) := by
      rw [hdd]; exact expectFieldCI_head_ne _ _ _ _ hdig.1 line q
    have h2 : expectFieldCI [85, 68, 80] ⟨decimal n ++ rest, line, q⟩ = (false, ⟨decimal n ++ rest, line, q⟩) := by
      rw [hdd]; exact expectFieldCI_head_ne _ _ _ _ hdig.2 line q
    simp only [protoText, PCode.value, bind, P.bind, liftB, tcp_bytes, udp_bytes, h1, h2, Bool.false_eq_true,
      ↓reduceIte, show parseU8 = parseUInt 255 from rfl, readField_decimal 255 n hpr (by omega) _ rest hrest]
  | mnemonic t v =>
    rcases protoMnemonic_cases hpr with ⟨hu, rfl⟩ | ⟨hu, rfl⟩
    · have h1 := expectFieldCI_match [84, 67, 80] t rest hu hrest line q
      simp only [protoText, PCode.value, bind, P.bind, pure, P.pure, liftB, tcp_bytes, h1, ↓reduceIte]
    · have h2 := expectFieldCI_match [85, 68, 80] t rest hu hrest line q
      have h1 : expectFieldCI [84, 67, 80] ⟨t ++ rest, line, q⟩ = (false, ⟨t ++ rest, line, q⟩) := by
        cases t with
        | nil => cases hu
        | cons c0 t0 => exact expectFieldCI_head_ne _ _ _ _ (upperU_not_t c0 (List.cons.inj hu).1) line q
      simp only [protoText, PCode.value, bind, P.bind, pure, P.pure, liftB, tcp_bytes, udp_bytes, h1, h2,
        Bool.false_eq_true, ↓reduceIte]

/-! ### address texts -/

theorem u16be'_eq : u16be' = u16Wire := by
  funext n
  simp [u16be', u16Wire, ← UInt8.toNat_inj, UInt8.toNat_ofNat']

theorem hexText_plain (g : Nat) : ∀ x ∈ hexText g, plainOctet x = true := by
  intro x hx
  obtain ⟨d, hd, rfl⟩ := hexText_digits g x hx
  exact (hexDigit_facts d hd).2.1

theorem groupsText_plain (gs : List Nat) : ∀ x ∈ groupsText gs, plainOctet x = true := by
  induction gs with
  | nil => intro x hx; cases hx
  | cons g gs ih =>
    cases gs with
    | nil => exact hexText_plain g
    | cons g2 gs' =>
      intro x hx
      simp only [groupsText, List.mem_append, List.mem_cons] at hx
      rcases hx with h | rfl | h
      · exact hexText_plain g x h
      · decide
      · exact ih x h

theorem groupsText_ne_nil {gs : List Nat} (hne : gs ≠ []) : groupsText gs ≠ [] := by
  match gs, hne with
  | [g], _ => exact hexText_ne_nil g
  | g :: g2 :: gs, _ => simp [groupsText, hexText_ne_nil]

theorem groupsText_length (gs : List Nat) (h : ∀ g ∈ gs, g < 65536) : (groupsText gs).length ≤ 5 * gs.length := by
  have hh : ∀ g ∈ gs, (hexText g).length ≤ 4 := fun g hg => hexText_length g 3 (by simpa using h g hg)
  induction gs with
  | nil => simp [groupsText]
  | cons g l ih =>
    cases l with
    | nil => have := hh g (by simp); simp [groupsText]; omega
    | cons g2 l' =>
      have := hh g (by simp)
      have := ih (fun x hx => h x (by simp [hx])) (fun x hx => hh x (by simp [hx]))
      simp only [groupsText, List.length_append, List.length_cons] at this ⊢
      omega

theorem quadText_plain (a b c d : Nat) : ∀ x ∈ quadText a b c d, plainOctet x = true := by
  intro x hx
  simp only [quadText, List.mem_append, List.mem_cons] at hx
  rcases hx with h | rfl | h | rfl | h | rfl | h
  all_goals first | exact decimal_plain _ _ h | decide

theorem starts_quadText (a b c d : Nat) : Starts (quadText a b c d) := (starts_decimal a).append _

theorem quadText_not_bh (a b c d : Nat) : ¬ [92, 35] <+: quadText a b c d :=
  (Starts.of_plain (starts_quadText a b c d).ne_nil (quadText_plain a b c d)).2

/-- groups on both sides of `::` -/
theorem compressed_plain {A B : List UInt8} (hA : ∀ x ∈ A, plainOctet x = true) (hB : ∀ x ∈ B, plainOctet x = true) :
    ∀ x ∈ A ++ (58 :: 58 :: B), plainOctet x = true := by
  intro x hx
  simp only [List.mem_append, List.mem_cons] at hx
  rcases hx with h | rfl | rfl | h
  · exact hA x h
  · decide
  · decide
  · exact hB x h

theorem groupsThenQuad_facts (gs : List Nat) (hgs : ∀ g ∈ gs, g < 65536) (Q : List UInt8)
    (hQ : ∀ x ∈ Q, plainOctet x = true) (hQne : Q ≠ []) :
    (∀ x ∈ groupsThenQuad gs Q, plainOctet x = true) ∧ groupsThenQuad gs Q ≠ [] ∧
      (groupsThenQuad gs Q).length ≤ 5 * gs.length + 1 + Q.length := by
  cases gs with
  | nil => exact ⟨by simpa [groupsThenQuad] using hQ, by simpa [groupsThenQuad] using hQne, by simp [groupsThenQuad]⟩
  | cons g gs =>
    have hl := groupsText_length (g :: gs) hgs
    refine ⟨?_, by simp [groupsThenQuad], by simp only [groupsThenQuad, List.length_append, List.length_cons] at hl ⊢; omega⟩
    intro x hx
    simp only [groupsThenQuad, List.mem_append, List.mem_cons] at hx
    rcases hx with h | rfl | h
    · exact groupsText_plain _ x h
    · decide
    · exact hQ x h

/-! ### Chaosnet addresses -/

theorem starts_octalText (a : Nat) : Starts (octalText a) :=
  (Starts.of_plain (octalText_ne_nil a) fun c hc => by
    obtain ⟨d, hd, rfl⟩ := octalText_digits a c hc
    exact digit_plain (digit_octet (d := d) (by omega)).1).1

theorem reads_chaosnetAddress {a : Nat} (ha : a ≤ 65535) : Reads parseChaosnetAddress (octalText a) a 0 := by
  intro rest line paren hrest
  have hval : octVal (octalText a) 0 = a := by
    rw [octVal, (octalText_digitsOf a).fold (by decide) (fun c => c.toNat - 48)
      (fun d hd => by rw [(digit_octet (d := d) (by omega)).2]; omega)]
    simp
  unfold parseChaosnetAddress
  simp only [chaosLoop_digits line (octalText a) rest (octalText_digits a) hrest 0 (by rw [hval]; exact ha), hval,
    Nat.add_zero]

/-! ### TXT and WKS: the kinds with loops -/

section kinds
variable (ctx : Ctx) (G : Nat → PGap) (S : Nat → Bool) (tg : PGap) (cmt : List UInt8) (eol : PEol)
  (r : List UInt8) (he : eol = .eof → r = []) (line : Nat)
include he

/-- the loop of TXT: one or more character-strings -/
theorem txtLoop_render (sl : Nat) (H : Nat → PGap) (Q : Nat → Bool) (s : PString) (ss : List PString) (i : Nat)
    (hwf : ∀ x ∈ s :: ss, WFString x)
    (hH : ∀ j, i ≤ j → j < i + ss.length → GapOK (H j) (Q j) (Q (j + 1)))
    (hT : TailOK tg cmt (Q (i + ss.length)))
    (acc : List UInt8) (hlen : acc.length + ((s :: ss).flatMap stringWire).length ≤ 65535) (line' : Nat) :
    txtLoop sl ⟨stringText s ++ (txtRest H i ss ++ (tailText tg cmt eol ++ r)), line', Q i⟩ acc =
      .ok (acc.reverse ++ (s :: ss).flatMap stringWire,
           ⟨r, line' + stringLines s + txtLines H i ss + gapLines tg + eolLines eol, false⟩) := by
  induction ss generalizing s acc line' i with
  | nil =>
    have hT' : TailOK tg cmt (Q i) := by simpa using hT
    have hEnd := atFieldEnd_tail tg cmt _ hT' eol r he
    have hs := hwf s (by simp)
    rw [txtLoop.eq_def]
    simp only [txtRest, List.nil_append, parseCharacterString_render s hs _ hEnd]
    have e : ¬ acc.length + (stringOctets s).length + 1 > 65535 := by
      simp [stringWire] at hlen; omega
    simp only [e, ↓reduceIte, fieldOrEol_tail tg cmt _ hT' eol r he]
    simp [stringWire, stringOctets, txtLines]
  | cons x ss ih =>
    have hs := hwf s (by simp)
    have hx := hwf x (by simp)
    have hg := hH i (by omega) (by simp)
    rw [txtLoop.eq_def]
    simp only [txtRest, List.append_assoc, parseCharacterString_render s hs _ (hg.atEnd _)]
    have e : ¬ acc.length + (stringOctets s).length + 1 > 65535 := by
      simp [stringWire] at hlen; omega
    have hXs : Starts (stringText x ++ (txtRest H (i + 1) ss ++ (tailText tg cmt eol ++ r))) :=
      (stringText_starts x hx).append _
    simp only [e, ↓reduceIte, fieldOrEol_gapG true (H i) (Q i) (Q (i + 1)) hg.wf hg.run _ hXs]
    have hgl : 0 < (gapText (H i)).length := gapText_pos hg.ne
    have hprog : (stringText x ++ (txtRest H (i + 1) ss ++ (tailText tg cmt eol ++ r))).length <
        (stringText s ++ (gapText (H i) ++ (stringText x ++ (txtRest H (i + 1) ss ++ (tailText tg cmt eol ++ r))))).length := by
      simp only [List.length_append]; omega
    simp only [hprog, ↓reduceIte]
    rw [ih x (i + 1) (fun y hy => hwf y (by simp [hy]))
      (fun j h1 h2 => hH j (by omega) (by simp; omega))
      (by have : i + 1 + ss.length = i + (x :: ss).length := by simp; omega
          rw [this]; exact hT) _ (by
      simp [stringWire] at hlen ⊢; omega)]
    simp only [txtLines, List.flatMap_cons, stringWire, stringOctets, List.reverse_append, List.reverse_cons,
      List.reverse_reverse, List.append_assoc, List.cons_append, List.nil_append, List.length_map]
    congr 3
    omega

/-- the port loop of WKS -/
theorem wksLoop_render (sl : Nat) (H : Nat → PGap) (Q : Nat → Bool) (ports : List Nat) (i : Nat)
    (hp : ∀ p ∈ ports, p ≤ 65535)
    (hH : ∀ j, i ≤ j → j < i + ports.length → GapOK (H j) (Q j) (Q (j + 1)))
    (hT : TailOK tg cmt (Q (i + ports.length)))
    (acc : List Nat) (n : Nat) (hn : n + ports.length ≤ 65535) (line' : Nat) :
    wksLoop sl ⟨portsText H i ports ++ (tailText tg cmt eol ++ r), line', Q i⟩ acc n =
      .ok (acc.reverse ++ ports, ⟨r, line' + portsLines H i ports + gapLines tg + eolLines eol, false⟩) := by
  induction ports generalizing acc n line' i with
  | nil =>
    have hT' : TailOK tg cmt (Q i) := by simpa using hT
    rw [wksLoop.eq_def]
    simp only [portsText, List.nil_append, fieldOrEol_tail tg cmt _ hT' eol r he]
    simp [portsLines]
  | cons p ps ih =>
    have hg := hH i (by omega) (by simp)
    have hpp := hp p (by simp)
    have hE : atFieldEnd (portsText H (i + 1) ps ++ (tailText tg cmt eol ++ r)) = true := by
      cases ps with
      | nil =>
        have hT' : TailOK tg cmt (Q (i + 1)) := by simpa using hT
        simpa [portsText] using atFieldEnd_tail tg cmt _ hT' eol r he
      | cons x xs =>
        simp only [portsText, List.append_assoc]
        exact (hH (i + 1) (by omega) (by simp)).atEnd _
    have hXs : Starts (decimal p ++ (portsText H (i + 1) ps ++ (tailText tg cmt eol ++ r))) :=
      (starts_decimal p).append _
    rw [wksLoop.eq_def]
    simp only [portsText, List.append_assoc,
      fieldOrEol_gapG true (H i) (Q i) (Q (i + 1)) hg.wf hg.run _ hXs]
    have e : ¬ n ≥ 65535 := by simp at hn; omega
    simp only [e, ↓reduceIte, show parseU16 = parseUInt 65535 from rfl,
      readField_decimal 65535 p hpp (by omega) _ _ hE]
    have hgl : 0 < (gapText (H i)).length := gapText_pos hg.ne
    have hprog : (portsText H (i + 1) ps ++ (tailText tg cmt eol ++ r)).length <
        (gapText (H i) ++ (decimal p ++ (portsText H (i + 1) ps ++ (tailText tg cmt eol ++ r)))).length := by
      simp only [List.length_append]; omega
    simp only [hprog, ↓reduceIte]
    rw [ih (i + 1) (fun q hq => hp q (by simp [hq]))
      (fun j h1 h2 => hH j (by omega) (by simp; omega))
      (by have : i + 1 + ps.length = i + (p :: ps).length := by simp; omega
          rw [this]; exact hT) _ _ (by simp at hn ⊢; omega)]
    simp only [portsLines, List.reverse_cons, List.append_assoc, List.cons_append, List.nil_append]
    congr 3
    omega

/-- IN WKS: address, protocol, ports — whatever `serialize_in_wks` makes of them (`newInWks`) -/
theorem parseRdata_wks_text (a b c d : Nat) (ha : a ≤ 255) (hb : b ≤ 255) (hcc : c ≤ 255) (hd : d ≤ 255)
    (pr : PCode) (hpr : WFProto pr) (ports : List Nat) (hp : ∀ p ∈ ports, p ≤ 65535) (hlen : ports.length ≤ 65535)
    (hG : ∀ i, i ≤ 1 + ports.length → GapOK (G i) (S i) (S (i + 1))) (hT : TailOK tg cmt (S (1 + ports.length + 1))) :
    parseRdata ctx 1 11 ⟨gapText (G 0) ++ ((quadText a b c d ++ (gapText (G 1) ++ (protoText pr ++
        portsText (fun i => G (i + 1)) 1 ports))) ++ (tailText tg cmt eol ++ r)), line, S 0⟩ =
      .ok (newInWks [UInt8.ofNat a, UInt8.ofNat b, UInt8.ofNat c, UInt8.ofNat d] pr.value ports,
        ⟨r, line + gapLines (G 0) + (gapLines (G 1) + portsLines (fun i => G (i + 1)) 1 ports) + gapLines tg +
          eolLines eol, false⟩) := by
  have hE : atFieldEnd (portsText (fun i => G (i + 1)) 1 ports ++ (tailText tg cmt eol ++ r)) = true := by
    cases ports with
    | nil => simpa [portsText] using atFieldEnd_tail tg cmt _ (by simpa using hT) eol r he
    | cons x xs =>
      simp only [portsText, List.append_assoc]
      exact (hG 2 (by simp; omega)).atEnd _
  have hloop := fun sl l => wksLoop_render tg cmt eol r he sl (fun i => G (i + 1)) (fun i => S (i + 1)) ports 1 hp
    (fun j _ h2 => hG (j + 1) (by omega)) (by simpa [Nat.add_comm, Nat.add_left_comm] using hT) [] 0 (by omega) l
  have hmk := (newInWks_length [UInt8.ofNat a, UInt8.ofNat b, UInt8.ofNat c, UInt8.ofNat d] pr.value ports rfl hp).2
  have hq := quadText_length a b c d ha hb hcc hd
  simp only [List.append_assoc]
  refine (parseRdata_typed ctx 1 11 "parse_in_wks_rdata" (by decide) (handlerBody_inWks ctx) (hG 0 (by omega)) _
    (starts_quadText a b c d) (quadText_not_bh a b c d) ((hG 1 (by omega)).atEnd _) line).trans ?_
  unfold inWksRdataBody
  refine (getLine_bind _ _).trans ?_
  refine ((reads_plain (quadText_plain a b c d) (by omega)
    (parseIpv4_render a b c d (by omega) (by omega) (by omega) (by omega)) _).then_gap (hG 1 (by omega)) _
    ((starts_protoText hpr).append _) _ _).trans ?_
  refine (wksProto_then _ hpr hE _ _).trans ?_
  simp only [bind, P.bind, hloop, List.reverse_nil, List.nil_append, mkRdata_ok _ hmk, Nat.add_zero, Nat.add_assoc]

end kinds

/-! ### all kinds together -/

/-- the text does not begin with the RFC 3597 marker `\#` (write a leading `#` as `\035`) -/
abbrev notBh (T : List UInt8) : Prop := ¬ [92, 35] <+: T

/-- WKS and known finding D18: the bit map the parser builds is the RFC's when the repository
    sets the bits most significant first; with the other order (`1 << (port % 8)`) only when
    every octet of the bit map reads the same in both directions (no ports at all; ports 0 and 7
    together; …) — see `newInWksWith_eq` for what it is otherwise -/
def WksOrderOK (ports : List Nat) : Prop :=
  Gen.wksMaskMsbFirst = true ∨ ∀ o ∈ wksBitmap ports, revBits o = o

instance (ports : List Nat) : Decidable (WksOrderOK ports) := by unfold WksOrderOK; infer_instance

theorem newInWks_of_orderOK (addr : List UInt8) (proto : Nat) (ports : List Nat) (h : WksOrderOK ports) :
    newInWks addr proto ports = wksWire addr proto ports := by
  unfold newInWks wksWire
  rw [newInWksWith_eq]
  rcases h with h | h
  · simp [h]
  · cases Gen.wksMaskMsbFirst
    · simp only [Bool.false_eq_true, ↓reduceIte]
      rw [List.map_congr_left h, List.map_id']
    · simp

/-- what the writer of RDATA must respect: numbers in range, names and strings well formed -/
def WFRdata : PRdata → Prop
  | .generic rd => rd.length ≤ 65535
  | .a a b c d => a ≤ 255 ∧ b ≤ 255 ∧ c ≤ 255 ∧ d ≤ 255
  | .name n => WFName n ∧ notBh (nameText n)
  | .mx p n => p ≤ 65535 ∧ WFName n
  | .soa m r s1 s2 s3 s4 s5 => WFName m ∧ WFName r ∧ notBh (nameText m) ∧ s1 ≤ 4294967295 ∧ s2 ≤ 4294967295 ∧
      s3 ≤ 4294967295 ∧ s4 ≤ 4294967295 ∧ s5 ≤ 4294967295
  | .minfo r e => WFName r ∧ WFName e ∧ notBh (nameText r)
  | .srv p w port n => p ≤ 65535 ∧ w ≤ 65535 ∧ port ≤ 65535 ∧ WFName n
  | .txt s ss => (∀ x ∈ s :: ss, WFString x) ∧ notBh (stringText s) ∧ ((s :: ss).flatMap stringWire).length ≤ 65535
  | .hinfo c o => WFString c ∧ WFString o ∧ notBh (stringText c)
  | .aaaa gs => gs.length = 8 ∧ ∀ g ∈ gs, g < 65536
  | .chA n a => WFName n ∧ notBh (nameText n) ∧ a ≤ 65535
  | .aaaaC hd tl => hd.length + tl.length ≤ 7 ∧ (∀ g ∈ hd, g < 65536) ∧ ∀ g ∈ tl, g < 65536
  | .aaaaV4 hd none a b c d => hd.length = 6 ∧ (∀ g ∈ hd, g < 65536) ∧ a ≤ 255 ∧ b ≤ 255 ∧ c ≤ 255 ∧ d ≤ 255
  | .aaaaV4 hd (some tl) a b c d => hd.length + tl.length + 2 ≤ 7 ∧ (∀ g ∈ hd, g < 65536) ∧ (∀ g ∈ tl, g < 65536) ∧
      a ≤ 255 ∧ b ≤ 255 ∧ c ≤ 255 ∧ d ≤ 255
  | .wks a b c d pr ports => a ≤ 255 ∧ b ≤ 255 ∧ c ≤ 255 ∧ d ≤ 255 ∧ WFProto pr ∧ (∀ p ∈ ports, p ≤ 65535) ∧
      ports.length ≤ 65535 ∧ WksOrderOK ports

instance : (rd : PRdata) → Decidable (WFRdata rd)
  | .generic _ | .a .. | .name _ | .mx .. | .soa .. | .minfo .. | .srv .. | .txt .. | .hinfo .. | .aaaa _ | .chA ..
  | .aaaaC .. | .aaaaV4 _ none .. | .aaaaV4 _ (some _) .. | .wks .. => by unfold WFRdata notBh; infer_instance

/-- **RDATA.**  The text of well-formed RDATA of the right kind for `(cls, ty)`, with any
    well-formed gaps before, inside and after it, is read back by `parse_rdata` as the RDATA it
    denotes (RFC 3597 form: provided that is valid for the type) -/
theorem parseRdata_render (ctx : Ctx) (hctx : CtxWF ctx) (cls ty : Nat) (h41 : ty ≠ 41) (h250 : ty ≠ 250)
    (G : Nat → PGap) (S : Nat → Bool) (tg : PGap) (cmt : List UInt8) (eol : PEol) (r : List UInt8) (he : eol = .eof → r = [])
    (rd : PRdata) (hG : ∀ i, i ≤ rdataGaps rd → GapOK (G i) (S i) (S (i + 1)))
    (hT : TailOK tg cmt (S (rdataGaps rd + 1))) (hwf : WFRdata rd)
    (hk : kindOK cls ty rd = true) (w : List UInt8) (hw : rdataWire ctx.origin rd = some w)
    (hv : ∀ g, rd = .generic g → validate cls ty g = .ok ()) (line : Nat) :
    parseRdata ctx cls ty
      ⟨gapText (G 0) ++ (rdataText (fun i => G (i + 1)) rd ++ (tailText tg cmt eol ++ r)), line, S 0⟩ =
      .ok (w, ⟨r, line + gapLines (G 0) + rdataLines (fun i => G (i + 1)) rd + gapLines tg + eolLines eol, false⟩) := by
  have hname := fun n hn w hw => nameText_ok ctx.origin hctx.1 n hn w hw
  -- kind by kind, with the definitions of the presentation unfolded
  cases rd <;>
    simp only [kindOK, rdataWire, rdataGaps, rdataText, rdataLines, Bool.and_eq_true, beq_iff_eq, Option.some.injEq,
      Option.map_eq_some_iff, Nat.zero_add, Nat.reduceAdd] at hk hw hG hT ⊢
  case generic g =>
    subst hw
    refine parseRdata_generic_gaps ctx cls ty (G 0) (G 1) (G 2) (S 0) (S 1) (S 2) _ g (hG 0 (Nat.zero_le _))
      (hG 1 (by split <;> omega)) ?_ ?_ tg cmt hT eol r he hwf (hv g rfl) line
    · intro hne
      rw [if_neg (by simpa using hne)] at hG ⊢
      exact hG 2 (by omega)
    · rintro rfl
      rfl
  case a a b c d =>
    obtain ⟨ha, hb, hcc, hd⟩ := hwf
    obtain ⟨rfl, rfl⟩ := hk
    subst hw
    obtain ⟨q1, q2⟩ := quadText_length a b c d ha hb hcc hd
    exact parseRdata_plainField ctx 1 1 "parse_in_a_rdata" (by decide) (handlerBody_inA ctx)
      (quadText_plain a b c d) q2 (by omega) (parseIpv4_render a b c d (by omega) (by omega) (by omega) (by omega))
      (by simp) (hG 0 (by omega)) hT he line
  case name n =>
    obtain ⟨hn, hnb⟩ := hwf
    -- the first arm of the dispatch table
    have harm : findArm cls ty = some "parse_name_rdata" := by
      have : armMatches cls ty ([2, 3, 4, 5, 7, 8, 9, 12], none, "parse_name_rdata") = true := by
        simp only [armMatches, Bool.and_true]; exact hk
      simp only [findArm, Gen.parseRdataArms, List.find?, this]
    have hN := hname n hn w hw
    exact parseRdata_oneField ctx cls ty _ harm (handlerBody_name ctx) hN.reads hN.starts hnb (by have := hN.len; omega)
      (hG 0 (by omega)) hT he line
  case mx p n =>
    obtain ⟨hp, hn⟩ := hwf
    subst hk
    obtain ⟨wn, hwn, rfl⟩ := hw
    have hN := hname n hn wn hwn
    have harm : findArm cls 15 = some "parse_mx_rdata" := by
      simp [findArm, Gen.parseRdataArms, armMatches, List.find?]
    simp only [List.append_assoc]
    refine (parseRdata_typed ctx cls 15 _ harm (handlerBody_mx ctx) (hG 0 (by omega)) _ (starts_decimal p)
      (decimal_not_bh p) ((hG 1 (by omega)).atEnd _) line).trans ?_
    unfold mxRdataBody
    refine ((reads_u16 hp _).then_gap (hG 1 (by omega)) _ (hN.starts.append _) _ _).trans ?_
    exact hN.reads.then_eol hT he _ (by rfl) (by have := hN.len; simp [u16Wire]; omega) (by omega)
  case soa m rn s1 s2 s3 s4 s5 =>
    obtain ⟨hm, hr, hnb, b1, b2, b3, b4, b5⟩ := hwf
    subst hk
    split at hw
    · next wm wr hwm hwr =>
      cases hw
      have hM := hname m hm wm hwm
      have hR := hname rn hr wr hwr
      have harm : findArm cls 6 = some "parse_soa_rdata" := by
        simp [findArm, Gen.parseRdataArms, armMatches, List.find?]
      simp only [List.append_assoc]
      refine (parseRdata_typed ctx cls 6 _ harm (handlerBody_soa ctx) (hG 0 (by omega)) _ hM.starts hnb
        ((hG 1 (by omega)).atEnd _) line).trans ?_
      unfold soaRdataBody
      refine (hM.reads.then_gap (hG 1 (by omega)) _ (hR.starts.append _) _ _).trans ?_
      refine (hR.reads.then_gap (hG 2 (by omega)) _ ((starts_decimal s1).append _) _ _).trans ?_
      refine ((reads_u32 b1 _).then_gap (hG 3 (by omega)) _ ((starts_decimal s2).append _) _ _).trans ?_
      refine ((reads_u32 b2 _).then_gap (hG 4 (by omega)) _ ((starts_decimal s3).append _) _ _).trans ?_
      refine ((reads_u32 b3 _).then_gap (hG 5 (by omega)) _ ((starts_decimal s4).append _) _ _).trans ?_
      refine ((reads_u32 b4 _).then_gap (hG 6 (by omega)) _ ((starts_decimal s5).append _) _ _).trans ?_
      exact (reads_u32 b5 _).then_eol hT he _ (by simp only [List.append_assoc]; rfl)
        (by have := hM.len; have := hR.len; simp [u32Wire]; omega) (by omega)
    · cases hw
  case minfo rn e =>
    obtain ⟨hr, hwe, hnb⟩ := hwf
    subst hk
    split at hw
    · next wr we hwr hwe' =>
      cases hw
      have hR := hname rn hr wr hwr
      have hE := hname e hwe we hwe'
      have harm : findArm cls 14 = some "parse_minfo_rdata" := by
        simp [findArm, Gen.parseRdataArms, armMatches, List.find?]
      simp only [List.append_assoc]
      refine (parseRdata_typed ctx cls 14 _ harm (handlerBody_minfo ctx) (hG 0 (by omega)) _ hR.starts hnb
        ((hG 1 (by omega)).atEnd _) line).trans ?_
      unfold minfoRdataBody
      refine (hR.reads.then_gap (hG 1 (by omega)) _ (hE.starts.append _) _ _).trans ?_
      exact hE.reads.then_eol hT he _ (by rfl) (by have := hR.len; have := hE.len; simp; omega) (by omega)
    · cases hw
  case srv p wt port n =>
    obtain ⟨hp, hwt, hport, hn⟩ := hwf
    obtain ⟨rfl, rfl⟩ := hk
    obtain ⟨wn, hwn, rfl⟩ := hw
    have hN := hname n hn wn hwn
    simp only [List.append_assoc]
    refine (parseRdata_typed ctx 1 33 _ (by decide) (handlerBody_inSrv ctx) (hG 0 (by omega)) _ (starts_decimal p)
      (decimal_not_bh p) ((hG 1 (by omega)).atEnd _) line).trans ?_
    unfold inSrvRdataBody
    refine ((reads_u16 hp _).then_gap (hG 1 (by omega)) _ ((starts_decimal wt).append _) _ _).trans ?_
    refine ((reads_u16 hwt _).then_gap (hG 2 (by omega)) _ ((starts_decimal port).append _) _ _).trans ?_
    refine ((reads_u16 hport _).then_gap (hG 3 (by omega)) _ (hN.starts.append _) _ _).trans ?_
    exact hN.reads.then_eol hT he _ (by simp only [List.append_assoc]; rfl)
      (by have := hN.len; simp [u16Wire]; omega) (by omega)
  case txt s ss =>
    obtain ⟨hss, hnb, hlen⟩ := hwf
    subst hk hw
    have harm : findArm cls 16 = some "parse_txt_rdata" := by
      simp [findArm, Gen.parseRdataArms, armMatches, List.find?]
    have hE : atFieldEnd (txtRest (fun i => G (i + 1)) 0 ss ++ (tailText tg cmt eol ++ r)) = true := by
      cases ss with
      | nil => simpa [txtRest] using atFieldEnd_tail tg cmt _ hT eol r he
      | cons x ss =>
        simp only [txtRest, List.append_assoc]
        exact (hG 1 (by simp)).atEnd _
    have hloop := txtLoop_render tg cmt eol r he (line + gapLines (G 0)) (fun i => G (i + 1)) (fun i => S (i + 1)) s ss 0
      hss (fun j _ h2 => hG (j + 1) (by omega)) (by simpa [Nat.add_comm] using hT) [] (by simpa using hlen)
      (line + gapLines (G 0))
    simp only [List.append_assoc]
    refine (parseRdata_typed ctx cls 16 _ harm (handlerBody_txt ctx) (hG 0 (by omega)) _
      (stringText_starts s (hss s (by simp))) hnb hE line).trans ?_
    simp only [txtRdataBody, bind, P.bind, getLine, hloop, List.reverse_nil, List.nil_append, mkRdata_ok _ hlen,
      Nat.add_assoc]
  case hinfo c o =>
    obtain ⟨h1, h2, hnb⟩ := hwf
    subst hk hw
    have harm : findArm cls 13 = some "parse_hinfo_rdata" := by
      simp [findArm, Gen.parseRdataArms, armMatches, List.find?]
    have hl1 := h1.len
    have hl2 := h2.len
    simp only [List.append_assoc]
    refine (parseRdata_typed ctx cls 13 _ harm (handlerBody_hinfo ctx) (hG 0 (by omega)) _ (stringText_starts c h1) hnb
      ((hG 1 (by omega)).atEnd _) line).trans ?_
    unfold hinfoRdataBody
    refine ((reads_string h1).then_gap (hG 1 (by omega)) _ ((stringText_starts o h2).append _) _ _).trans ?_
    exact (reads_string h2).then_eol hT he _ (by simp [stringWire, stringOctets])
      (by simp [stringWire, stringOctets]; omega) (by omega)
  case aaaa gs =>
    obtain ⟨hlen, hgs⟩ := hwf
    obtain ⟨rfl, rfl⟩ := hk
    subst hw
    have hl := groupsText_length gs hgs
    exact parseRdata_aaaa_text ctx (groupsText_plain gs) (groupsText_ne_nil (by intro h; simp [h] at hlen)) (by omega)
      (u16be'_eq ▸ parseIpv6_render gs hlen hgs) (hG 0 (by omega)) hT he line
  case chA n a =>
    obtain ⟨hn, hnb, ha⟩ := hwf
    obtain ⟨rfl, rfl⟩ := hk
    obtain ⟨wn, hwn, rfl⟩ := hw
    have hN := hname n hn wn hwn
    simp only [List.append_assoc]
    refine (parseRdata_typed ctx 3 1 _ (by decide) (handlerBody_chA ctx) (hG 0 (by omega)) _ hN.starts hnb
      ((hG 1 (by omega)).atEnd _) line).trans ?_
    unfold chARdataBody
    refine (hN.reads.then_gap (hG 1 (by omega)) _ ((starts_octalText a).append _) _ _).trans ?_
    exact (reads_chaosnetAddress ha).then_eol hT he _ (by rfl) (by have := hN.len; simp [u16Wire]; omega) (by omega)
  case aaaaC hd tl =>
    obtain ⟨hlen, hhd, htl⟩ := hwf
    obtain ⟨rfl, rfl⟩ := hk
    subst hw
    have h1 := groupsText_length hd hhd
    have h2 := groupsText_length tl htl
    exact parseRdata_aaaa_text ctx (compressed_plain (groupsText_plain hd) (groupsText_plain tl)) (by simp)
      (by simp only [List.length_append, List.length_cons]; omega)
      (u16be'_eq ▸ parseIpv6_compressed hd tl hlen hhd htl) (hG 0 (by omega)) hT he line
  case aaaaV4 hd tlo a b c d =>
    obtain ⟨rfl, rfl⟩ := hk
    cases tlo with
    | none =>
      obtain ⟨hlen, hhd, ha, hb, hc, hdq⟩ := hwf
      cases hw
      obtain ⟨q1, q2⟩ := quadText_length a b c d ha hb hc hdq
      obtain ⟨f1, f2, f3⟩ := groupsThenQuad_facts hd hhd (quadText a b c d) (quadText_plain a b c d) q2
      exact parseRdata_aaaa_text ctx f1 f2 (by omega)
        (u16be'_eq ▸ parseIpv6_full_v4 hd hlen hhd a b c d (by omega) (by omega) (by omega) (by omega))
        (hG 0 (by omega)) hT he line
    | some tl =>
      obtain ⟨hlen, hhd, htl, ha, hb, hc, hdq⟩ := hwf
      cases hw
      obtain ⟨q1, q2⟩ := quadText_length a b c d ha hb hc hdq
      obtain ⟨f1, f2, f3⟩ := groupsThenQuad_facts tl htl (quadText a b c d) (quadText_plain a b c d) q2
      have hl1 := groupsText_length hd hhd
      exact parseRdata_aaaa_text ctx (compressed_plain (groupsText_plain hd) f1) (by simp)
        (by simp only [List.length_append, List.length_cons]; omega)
        (u16be'_eq ▸ parseIpv6_compressed_v4 hd tl hlen hhd htl a b c d (by omega) (by omega) (by omega) (by omega))
        (hG 0 (by omega)) hT he line
  case wks a b c d pr ports =>
    obtain ⟨ha, hb, hcc, hd, hpr, hp, hlen, hord⟩ := hwf
    obtain ⟨rfl, rfl⟩ := hk
    subst hw
    rw [← newInWks_of_orderOK _ _ _ hord]
    exact parseRdata_wks_text ctx G S tg cmt eol r he line a b c d ha hb hcc hd pr hpr ports hp hlen hG hT

end QV.ZF
