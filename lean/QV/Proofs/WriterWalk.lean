/-
  QV.Proofs.WriterWalk — the walk of the executable specification (`QV.Spec.Message.walk`) over the
  calls of a segment (a session without `clear_rrs`): run on the statuses the
  model reports and the decoded finished message, it never rejects — every successful call is
  accepted by `absOk`, every failure is `justified` — and arrives at the final check `checkSegment`
  in an abstract state that describes the final writer state.

  `Desc ss a b mb`: the abstract state `a` describes the writer of `ss` whose layout holds `b` / `mb`; it stands
  after a failed call (`Desc.same`) and after a successful one (`desc_step`: one `Did.*` lemma per component).
  `walk_segment_k` is the induction over the calls, with whatever `walk` goes on with afterwards (`rest`, `sts`) as
  parameters; `segment_walk` puts it on the message `finish` returns.
-/
import QV.Proofs.WriterExtents
import QV.Proofs.WriterCfg
import QV.Proofs.WriterGetters

namespace QV.Writer
open QV QV.Wire QV.Spec QV.ServerSafety

/-- the item counter of the abstract state counts the items -/
def IdxOK (a : Message.AState) : Prop :=
  a.itemIdx = a.questions.length + a.an.length + a.ns.length + a.ar.length

theorem IdxOK.congr {a a' : Message.AState} (h : IdxOK a) (g1 : a'.questions = a.questions) (g2 : a'.an = a.an)
    (g3 : a'.ns = a.ns) (g4 : a'.ar = a.ar) (g5 : a'.itemIdx = a.itemIdx) : IdxOK a' := by
  unfold IdxOK at h ⊢
  rw [g1, g2, g3, g4, g5]; exact h

/-- how many items (questions, records) a successful call adds to the message -/
def added : Op → Nat
  | .addQuestion _ _ _ => 1
  | .addRr _ _ _ _ _ _ _ _ => 1
  | .addRrset _ _ _ _ _ _ rds _ => rds.length
  | _ => 0

def bodyLen (b : Body) : Nat := b.qs.length + b.an.length + b.ns.length + b.ar.length

theorem bodyLen_step (b : Body) (op : Op) (hnc : op ≠ .clearRrs) : bodyLen (bodyStep b op) = bodyLen b + added op := by
  cases op <;> try rfl
  · simp [bodyStep, bodyLen, added]; omega
  · rename_i sec _ _ _ _ _ _ _; cases sec <;> simp [bodyStep, Body.add, bodyLen, added] <;> omega
  · rename_i sec _ _ _ _ _ _ _; cases sec <;> simp [bodyStep, Body.add, bodyLen, added] <;> omega
  · exact absurd rfl hnc

theorem statusStr_err_ne_ok (e : WriterErr) : (Driver.statusStr (.err e) == "ok") = false := by
  cases e <;> decide

theorem sameAbs_keep {s s' : State} {a : Message.AState} (h : AbsNum s a) (e : Same s s') : AbsNum s' a :=
  absNum_of h ⟨by rw [e.edns], e.tsig, e.sect, e.qd, e.an, e.ns, e.ar, e.limit, e.available, e.cursor, e.size, e.mode⟩
    (SameAbs.refl a)


theorem absOk_idx (op : Op) (a a' : Message.AState) (d : Message.Decoded) (hnc : op ≠ .clearRrs)
    (habs : Message.absOk a d (Driver.toSpecOp op) = .ok a') (hi : IdxOK a) :
    IdxOK a' ∧ a'.itemIdx = a.itemIdx + added op := by
  unfold IdxOK at hi ⊢
  cases op with
  | clearRrs => exact absurd rfl hnc
  | addQuestion n t c =>
    obtain ⟨_, _, rfl⟩ := absOk_question_eq habs
    refine ⟨?_, rfl⟩
    show a.itemIdx + 1 = (_ :: a.questions).length + a.an.length + a.ns.length + a.ar.length
    rw [List.length_cons]; omega
  | addRr sec hn o ty cls ttl rd hv =>
    obtain ⟨g1, g2, g3⟩ := absOk_addRrs_total habs
    exact ⟨by rw [g1, g2]; omega, g2⟩
  | addRrset sec hn o ty cls ttl rds hv =>
    obtain ⟨g1, g2, g3⟩ := absOk_addRrs_total habs
    exact ⟨by rw [g1, g2]; omega, g2⟩
  | _ =>
    obtain ⟨g1, g2, g3, g4, g5, _⟩ := absOk_still habs rfl
    exact ⟨IdxOK.congr hi g1 g2 g3 g4 g5, g5⟩


theorem walk_default (a : Message.AState) (sop : Message.SOp) (sops : List Message.SOp) (st : String)
    (sts : List String) (msgs : List Bytes) (d : Message.Decoded) (mac : Option (List UInt8))
    (h1 : sop ≠ .getters) (h2 : sop ≠ .clearRrs) :
    Message.walk false a (sop :: sops) (st :: sts) msgs (some d) mac =
      (if st == "ok" then do
        let s' ← Message.absOk a d sop
        Message.walk false s' sops sts msgs (some d) mac
      else if false || Message.justified a sop st then Message.walk false a sops sts msgs (some d) mac
      else throw s!"failure {st} is not justified (remaining space {Message.remaining a})") := by
  cases sop with
  | getters => exact absurd rfl h1
  | clearRrs => exact absurd rfl h2
  | _ => first | rfl | simp only [Message.walk]


/-- the abstract state lists the questions and records given, and the mode of every item, in the
    order of the message -/
structure AbsContent (a : Message.AState) (b : Body) (mb : MBody) : Prop where
  qs : a.questions.reverse = b.qs.map specQ
  an : a.an.reverse = b.an.map specR
  ns : a.ns.reverse = b.ns.map specR
  ar : a.ar.reverse = b.ar.map specR
  modes : a.itemModes.reverse = (mb.qs ++ mb.an ++ mb.ns ++ mb.ar).map Driver.toSpecMode

theorem AbsContent.congr {a a' : Message.AState} {b : Body} {mb : MBody} (h : AbsContent a b mb)
    (g1 : a'.questions = a.questions) (g2 : a'.an = a.an) (g3 : a'.ns = a.ns) (g4 : a'.ar = a.ar)
    (g5 : a'.itemModes = a.itemModes) : AbsContent a' b mb :=
  ⟨by rw [g1]; exact h.qs, by rw [g2]; exact h.an, by rw [g3]; exact h.ns, by rw [g4]; exact h.ar,
    by rw [g5]; exact h.modes⟩

theorem mapM_given_specR (o : WName) (ty cls ttl : Nat) : ∀ (rds : List (List UInt8)) (fss : List (List Message.Field)),
    rds.mapM (Message.givenRdata ty cls) = some fss →
    fss.map (fun fs => (⟨o.wire, ty, cls, Message.ttlOf ttl, fs⟩ : Message.Record)) =
      (rds.map fun rd => (⟨o, ty, cls, ttlFrom ttl, rd⟩ : RRec)).map specR := by
  intro rds
  induction rds with
  | nil => intro fss h; simp at h; subst h; rfl
  | cons rd rds ih =>
    intro fss h
    simp only [List.mapM_cons] at h
    cases hx : Message.givenRdata ty cls rd with
    | none => rw [hx] at h; cases h
    | some fs =>
      rw [hx] at h
      cases hxs : rds.mapM (Message.givenRdata ty cls) with
      | none => rw [hxs] at h; cases h
      | some fss' =>
        rw [hxs] at h
        cases h
        simp only [List.map_cons, ih fss' hxs]
        congr 1
        simp only [specR, hx, Option.getD_some]
        rfl

theorem nil_of_len {α β : Type} {l : List α} {l' : List β} (hl : l.length = l'.length) (hn : l' = []) : l = [] := by
  rw [hn] at hl; exact List.eq_nil_of_length_eq_zero hl

/-- the content of the abstract state follows the successful calls -/
theorem Did.content {P : CMode → Prop} {ss : Session} {op : Op} {s' : State} {a a' : Message.AState}
    {d : Message.Decoded} {b : Body} {mb : MBody} (h : Did ss op s') (hL : CLay P ss.w b mb) (hA : AbsNum ss.w a)
    (hC : AbsContent a b mb) (hnc : op ≠ .clearRrs) (habs : Message.absOk a d (Driver.toSpecOp op) = .ok a') :
    AbsContent a' (bodyStep b op) (mbodyStep ss.w.mode mb op) := by
  obtain ⟨ml1, ml2, ml3⟩ := hL.ml
  have hmode := hA.mode
  induction h with
  | hdr hop' => rw [bodyStep_hdr hop', mbodyStep_hdr hop', absOk_hdr_eq hop' habs]; exact hC.congr rfl rfl rfl rfl rfl
  | template hop' =>
    rw [absOk_template_eq hop' habs]
    rcases hop' with ⟨rfl, _⟩ | ⟨_, _, _, _, rfl, _⟩ <;> exact hC.congr rfl rfl rfl rfl rfl
  | clear => exact absurd rfl hnc
  | @question n t c s' hq =>
    obtain ⟨s3, hsq, _, _⟩ := addQuestion_ok_inv n t c ss.w s' hq
    obtain ⟨_, e1, e2, e3⟩ := hL.sq hsq
    have m1 := nil_of_len ml1 e1; have m2 := nil_of_len ml2 e2; have m3 := nil_of_len ml3 e3
    obtain ⟨_, _, rfl⟩ := absOk_question_eq habs
    refine ⟨?_, hC.an, hC.ns, hC.ar, ?_⟩
    · show (_ :: a.questions).reverse = _
      rw [List.reverse_cons, hC.qs]; simp [bodyStep, specQ]
    · show (a.mode :: a.itemModes).reverse = _
      rw [List.reverse_cons, hC.modes, hmode]
      simp [mbodyStep, m1, m2, m3]
  | @records sec hn o ty cls ttl rds hv s1 hq =>
    obtain ⟨s1', _, _, h1, _⟩ := addRrsetOp_ok_inv sec _ o ty cls ttl rds _ s1 hq
    obtain ⟨_, hA1, hB1⟩ := changeSection_ok_inv sec _ s1' h1
    obtain ⟨fss, e, hm, _, _, rfl⟩ := absOk_records_eq habs
    have hrecs := mapM_given_specR o ty cls ttl rds fss hm
    have hmodes : (List.replicate rds.length a.mode ++ a.itemModes).reverse =
        (mb.qs ++ mb.an ++ mb.ns ++ mb.ar).map Driver.toSpecMode ++
          (List.replicate rds.length ss.w.mode).map Driver.toSpecMode := by
      rw [List.reverse_append, hC.modes, List.reverse_replicate, hmode, List.map_replicate]
    -- `change_section_to_*` succeeded: the sections after the one written to are empty
    cases sec with
    | answer =>
      obtain ⟨e1, e2⟩ : b.ns = [] ∧ b.ar = [] := by
        rcases hA1 rfl with h | h
        · exact ⟨(hL.sq h).2.2.1, (hL.sq h).2.2.2⟩
        · exact hL.sa h
      have m1 := nil_of_len ml2 e1; have m2 := nil_of_len ml3 e2
      refine ⟨hC.qs, ?_, hC.ns, hC.ar, ?_⟩
      · show (_ ++ a.an).reverse = _
        rw [List.reverse_append, List.reverse_reverse, hC.an, hrecs]; simp [bodyStep, Body.add]
      · show (List.replicate rds.length a.mode ++ a.itemModes).reverse = _
        rw [hmodes]; simp [mbodyStep, MBody.add, m1, m2]
    | authority =>
      have e2 : b.ar = [] := by
        cases hsx : ss.w.sect with
        | question => exact (hL.sq hsx).2.2.2
        | answer => exact (hL.sa hsx).2
        | authority => exact hL.su hsx
        | additional => exact absurd hsx (hB1 rfl)
      have m2 := nil_of_len ml3 e2
      refine ⟨hC.qs, hC.an, ?_, hC.ar, ?_⟩
      · show (_ ++ a.ns).reverse = _
        rw [List.reverse_append, List.reverse_reverse, hC.ns, hrecs]; simp [bodyStep, Body.add]
      · show (List.replicate rds.length a.mode ++ a.itemModes).reverse = _
        rw [hmodes]; simp [mbodyStep, MBody.add, m2]
    | additional =>
      refine ⟨hC.qs, hC.an, hC.ns, ?_, ?_⟩
      · show (_ ++ a.ar).reverse = _
        rw [List.reverse_append, List.reverse_reverse, hC.ar, hrecs]; simp [bodyStep, Body.add]
      · show (List.replicate rds.length a.mode ++ a.itemModes).reverse = _
        rw [hmodes]; simp [mbodyStep, MBody.add]
  | record _ ih => exact ih (fun h => by cases h) habs
  | limit | mode | edns | tsig | time | getters =>
    obtain ⟨g1, g2, g3, g4, _, g6, _⟩ := absOk_still habs rfl
    exact hC.congr g1 g2 g3 g4 g6

def NonEmptySet : Op → Prop
  | .addRrset _ _ _ _ _ _ rds _ => rds ≠ []
  | _ => True

/-- the arguments of a call are values of the types of the Rust API: `Name`s, 16-bit types / classes /
    IDs / payload sizes, 4-bit opcodes and RCODEs, RDATA of at most 65535 octets, non-empty `RdataSet`s -/
def ApiTyped (op : Op) : Prop := op.Typed ∧ ApiBounds op ∧ NonEmptySet op

theorem toSpecOp_ne (op : Op) (h1 : op ≠ .clearRrs) (h2 : op ≠ .getters) :
    Driver.toSpecOp op ≠ .getters ∧ Driver.toSpecOp op ≠ .clearRrs := by
  cases op with
  | clearRrs => exact absurd rfl h1
  | getters => exact absurd rfl h2
  | _ => constructor <;> (intro h; simp only [Driver.toSpecOp] at h; try cases h)

/-- where `absOk` reads the new `cur`: at the end of the last item the call added -/
theorem absOk_cur {op : Op} {a a' : Message.AState} {d : Message.Decoded}
    (habs : Message.absOk a d (Driver.toSpecOp op) = .ok a') (hnc : op ≠ .clearRrs) (hne : NonEmptySet op)
    (hm : movesCursor op = true) : 0 < added op ∧ Message.endOf d (a.itemIdx + added op - 1) = some a'.cur := by
  cases op with
  | addQuestion n t c => obtain ⟨e, he, rfl⟩ := absOk_question_eq habs; exact ⟨Nat.zero_lt_one, he⟩
  | addRr sec hn o ty cls ttl rd hv =>
    obtain ⟨_, e, _, _, he, rfl⟩ := absOk_records_eq habs
    exact ⟨Nat.zero_lt_one, by cases sec <;> exact he⟩
  | addRrset sec hn o ty cls ttl rds hv =>
    obtain ⟨_, e, _, _, he, rfl⟩ := absOk_records_eq habs
    exact ⟨List.length_pos_iff.mpr hne, by cases sec <;> exact he⟩
  | clearRrs => exact absurd rfl hnc
  | _ => cases hm

/-- the items a call adds are in the decoded message when the last of them is -/
theorem absPre_of_end {op : Op} {a : Message.AState} {d : Message.Decoded} (hne : NonEmptySet op)
    (hend : 0 < added op → (Message.endOf d (a.itemIdx + added op - 1)).isSome = true) : AbsPre a d op := by
  cases op with
  | addQuestion n t c => exact hend Nat.zero_lt_one
  | addRr sec hn o ty cls ttl rd hv => exact hend Nat.zero_lt_one
  | addRrset sec hn o ty cls ttl rds hv => exact ⟨hne, hend (List.length_pos_iff.mpr hne)⟩
  | _ => trivial

theorem absOk_hdr (op : Op) (a a' : Message.AState) (d : Message.Decoded)
    (habs : Message.absOk a d (Driver.toSpecOp op) = .ok a') : a'.hdr = hdrStep a.hdr op := by
  cases op <;> simp only [Driver.toSpecOp, Message.absOk] at habs <;> (repeat' split at habs) <;> first
    | (simp only [Except.ok.injEq] at habs; subst habs; rfl)
    | cases habs

theorem hdrStep_z (h : Message.Header) (op : Op) : (hdrStep h op).z = h.z := by cases op <;> rfl

/-- what the driver records for every call: the status, or for `getters` what they report -/
def obs (ss : Session) : List Op → List String
  | [] => []
  | op :: ops =>
    (match op with
      | .getters => Driver.gettersStr ss.w
      | _ => Driver.statusStr (step ss op).1) :: obs (step ss op).2 ops

theorem obs_ne (ss : Session) (op : Op) (ops : List Op) (h : op ≠ .getters) :
    obs ss (op :: ops) = Driver.statusStr (step ss op).1 :: obs (step ss op).2 ops := by
  cases op with
  | getters => exact absurd rfl h
  | _ => rfl

/-- the abstract state `a` describes the writer of the session `ss`, whose layout holds `b` / `mb` -/
structure Desc (ss : Session) (a : Message.AState) (b : Body) (mb : MBody) : Prop where
  i : I ss.w
  lay : CLay (fun _ => True) ss.w b mb
  num : AbsNum ss.w a
  idx : IdxOK a
  len : a.itemIdx = bodyLen b
  hdr : a.hdr = specHeader ss.w.octets
  z : a.hdr.z = 0
  content : AbsContent a b mb
  cfg : AbsCfg ss.w a
  typed : b.Typed

/-- a failed call leaves the writer as it was: the description stands -/
theorem Desc.same {ss ss' : Session} {a : Message.AState} {b : Body} {mb : MBody} (h : Desc ss a b mb)
    (e : Same ss.w ss'.w) (hI' : I ss'.w) : Desc ss' a b mb :=
  ⟨hI', clay_same h.lay h.i e, sameAbs_keep h.num e, h.idx, h.len,
    by rw [h.hdr]; exact (specHeader_hdr4 (hdr4_of_pre h.i.inv.hdr e.pre)).symm, h.z, h.content, absCfg_same h.cfg e,
    h.typed⟩

/-- **one successful call, on both sides**: the abstract state `absOk` computes — with `cur` the cursor, where the
    call wrote items — describes the writer the call leaves -/
theorem desc_step {ss : Session} {op : Op} {a a' : Message.AState} {b : Body} {mb : MBody} {d : Message.Decoded}
    (h : Desc ss a b mb) (hop : OpOK ss op) (ht : op.Typed ∧ ApiBounds op) (hnc : op ≠ .clearRrs)
    (hok : (step ss op).1 = .ok ()) (habs : Message.absOk a d (Driver.toSpecOp op) = .ok a')
    (hcur : movesCursor op = true → a'.cur = (step ss op).2.w.cursor) :
    Desc (step ss op).2 a' (bodyStep b op) (mbodyStep ss.w.mode mb op) := by
  have hL := clay_step ss op b mb h.i h.lay hop (fun _ _ => trivial)
  have hh := hdr_step ss op h.i hop ht.1
  simp only [if_pos hok] at hL hh
  obtain ⟨hidx, hidxeq⟩ := absOk_idx op a a' d hnc habs h.idx
  have hah := absOk_hdr op a a' d habs
  exact ⟨(step_I ss op h.i hop).2, hL, absNum_step ss op a a' d h.i hop h.num hok habs hcur, hidx,
    by rw [hidxeq, bodyLen_step b op hnc, h.len], by rw [hh, hah, h.hdr], by rw [hah, hdrStep_z]; exact h.z,
    (step_did ss op h.i hok).content h.lay h.num h.content hnc habs,
    cfg_step ss op a a' d h.i h.cfg ht.2 hok habs, typed_step ss op b h.typed ht.1 hok⟩

/-- **the walk of the specification over the calls of a segment**: on the statuses the model reports, `walk`
    accepts every call and goes on with what follows (`rest`, `sts`) from an abstract state that describes the
    writer the calls leave. `d` is the decoding of the message finished at `sR`, the end of the segment; `hpre`: it
    tells where the items of every earlier state of the segment end -/
theorem walk_segment_k {sR : State} (hcurR : sR.cursor ≤ 65535) (d : Message.Decoded)
    (mac' : Option (List UInt8)) (rest : List Message.SOp) (sts : List String) (msgs : List Bytes)
    (hpre : ∀ s, WInv s → s.rrStart ≤ s.cursor → Seg s sR → ∀ qs rs, QChainC s qs 12 s.rrStart →
      RChainC s rs s.rrStart s.cursor →
      (d.extents.map (·.2)).take (qs.length + rs.length) = qs.map qEnd ++ rs.map rEnd) :
    ∀ (ops : List Op) (ss : Session) (b : Body) (mb : MBody) (a : Message.AState), Desc ss a b mb →
      (∀ op ∈ ops, op.Typed ∧ ApiBounds op) →
      Respects ss ops → (∀ op ∈ ops, op ≠ .clearRrs ∧ NonEmptySet op) → (run ss ops).1.w = sR →
      ∃ aF, Desc (run ss ops).1 aF (bodyRun b ops (run ss ops).2) (mrun ss mb ops) ∧
        Message.walk false a (ops.map Driver.toSpecOp ++ rest) (obs ss ops ++ sts) msgs (some d) mac' =
          Message.walk false aF rest sts msgs (some d) mac' := by
  intro ops
  induction ops with
  | nil =>
    intro ss b mb a hD _ _ _ _
    exact ⟨a, hD, by simp [obs]⟩
  | cons op ops ih =>
    intro ss b mb a hD ht hr hno hfin
    obtain ⟨hop, hrest⟩ := hr
    have hI := hD.i
    obtain ⟨hnp, hI'⟩ := step_I ss op hI hop
    have ht' : ∀ op' ∈ ops, op'.Typed ∧ ApiBounds op' := fun op' h => ht op' (List.mem_cons_of_mem _ h)
    have hno' : ∀ op' ∈ ops, op' ≠ .clearRrs ∧ NonEmptySet op' :=
      fun op' h => hno op' (List.mem_cons_of_mem _ h)
    obtain ⟨hnc, hnes⟩ := hno op List.mem_cons_self
    rw [run_cons hnp] at hfin ⊢
    simp only [bodyRun, mrun, List.map_cons, List.cons_append]
    by_cases hng : op = .getters
    · -- `getters`: nothing changes; what they report is what the specification expects
      subst hng
      obtain ⟨aF, hDF, hw⟩ := ih ss b mb a hD ht' hrest hno' hfin
      refine ⟨aF, hDF, ?_⟩
      have hg := gettersStr_eq ss.w a hD.num hD.hdr hD.cfg
      simp only [Driver.toSpecOp, obs, List.cons_append, Message.walk, hg, beq_self_eq_true, Bool.or_true, if_true]
      exact hw
    obtain ⟨hs1, hs2⟩ := toSpecOp_ne op hnc hng
    rw [obs_ne ss op ops hng, List.cons_append, walk_default _ _ _ _ _ _ _ _ hs1 hs2]
    rcases step_cases ss op hI hop with ⟨e, he, hsame⟩ | ⟨hok, _⟩
    · -- a failed call: nothing changed, and the failure is justified
      rw [he] at hfin ⊢
      simp only [reduceCtorEq, if_false]
      obtain ⟨aF, hDF, hw⟩ := ih _ b mb a (hD.same hsame hI') ht' hrest hno' hfin
      refine ⟨aF, hDF, ?_⟩
      rw [statusStr_err_ne_ok]
      simp only [Bool.false_eq_true, if_false, Bool.false_or, step_justified ss op a hI hop hD.num e he, if_true]
      exact hw
    · rw [hok] at hfin ⊢
      simp only [if_true]
      -- the rest of the segment keeps what this call wrote: the decoded message tells where it ends
      have hL' := clay_step ss op b mb hI hD.lay hop (fun _ _ => trivial)
      simp only [if_pos hok] at hL'
      have hseg : Seg (step ss op).2.w sR := by
        rw [← hfin]; exact run_seg _ ops hI' hL' hrest (fun h => (hno' _ h).1 rfl)
      have hc65 : (step ss op).2.w.cursor ≤ 65535 := by have := hseg.pres.cur; omega
      obtain ⟨qs', hq', hqm', _, _⟩ := hL'.q
      obtain ⟨rs', hr', hrm', _, _⟩ := hL'.r hc65
      have hN : qs'.length + rs'.length = a.itemIdx + added op := by
        have h1 := congrArg List.length hqm'
        have h2 := congrArg List.length hrm'
        simp only [List.length_map, List.length_append] at h1 h2
        have := bodyLen_step b op hnc
        have hlen := hD.len
        unfold bodyLen at this hlen
        omega
      have hend : 0 < added op → Message.endOf d (a.itemIdx + added op - 1) = some (step ss op).2.w.cursor := by
        intro hpos
        have := endOf_last hq' hr' (by omega) (hpre _ hI'.winv hI'.inv.rr_hi hseg qs' rs' hq' hr')
        rw [hN] at this; exact this
      -- `absOk` goes through, and reads the cursor off the decoded message
      obtain ⟨a', habs⟩ := absOk_succeeds ss op a d hI hD.num hok (absPre_of_end hnes fun hp => by rw [hend hp]; rfl)
      have hcur : movesCursor op = true → a'.cur = (step ss op).2.w.cursor := fun hm => by
        obtain ⟨hp, h1⟩ := absOk_cur habs hnc hnes hm
        rw [hend hp] at h1
        exact (Option.some.inj h1).symm
      obtain ⟨aF, hDF, hw⟩ := ih _ _ _ a' (desc_step hD hop (ht op List.mem_cons_self) hnc hok habs hcur)
        ht' hrest hno' hfin
      refine ⟨aF, hDF, ?_⟩
      have hokstr : (Driver.statusStr (.ok ()) == "ok") = true := by decide
      rw [hokstr]
      simp only [if_true, habs]
      exact hw


/-- a fresh writer (in any compression mode) is described by the initial abstract state -/
theorem desc_new (buf : Bytes) (limit : Nat) (s0 : State) (hnew : Writer.new buf limit = .ok s0) (mode : CMode) :
    Desc { w := { s0 with mode := mode } }
      { mode := Driver.toSpecMode mode, buflen := buf.size, limit := min limit buf.size } {} {} := by
  have he : s0.edns = none ∧ s0.tsig = none := by
    unfold Writer.new at hnew
    dsimp only at hnew
    split at hnew
    · cases hnew
    · have hs := Out.ok.inj hnew
      constructor <;> (rw [← hs])
  exact ⟨new_mode_i hnew mode, clay_new buf limit s0 hnew mode trivial,
    absNum_new buf limit s0 hnew mode, rfl, rfl, by show _ = specHeader s0.octets; rw [hdr_new buf limit s0 hnew], rfl,
    ⟨rfl, rfl, rfl, rfl, rfl⟩,
    ⟨by show none = Option.map _ s0.edns; rw [he.1]; rfl, by show none = Option.map _ s0.tsig; rw [he.2]; rfl,
      (fun e h => by have h' : s0.edns = some e := h; rw [he.1] at h'; cases h'),
      (fun ts h => by have h' : s0.tsig = some ts := h; rw [he.2] at h'; cases h')⟩,
    Body.Typed.empty⟩

/-- **a segment, walked**: from a writer the abstract state describes, over calls without `clear_rrs` and with
    limits of at most 65535, `finish` succeeds, its message `m` decodes, and on that decoding `walk` passes the
    calls of the segment and goes on — with whatever follows (`rest`, `sts`, the messages `msgs m`) — from an
    abstract state that describes the writer the segment leaves -/
theorem segment_walk (macFn : Tsig → List UInt8 → List UInt8) (hmac : MacLenOK macFn) (mac' : Option (List UInt8))
    (rest : List Message.SOp) (sts : List String) (msgs : Bytes → List Bytes)
    {ss : Session} {a : Message.AState} {b : Body} {mb : MBody} (hD : Desc ss a b mb) (ops : List Op)
    (ht : ∀ op ∈ ops, op.Typed ∧ ApiBounds op) (hr : Respects ss ops)
    (hno : ∀ op ∈ ops, op ≠ .clearRrs ∧ NonEmptySet op) (hl : ss.w.limit ≤ 65535)
    (hv : ∀ v, Op.setLimit v ∈ ops → v ≤ 65535) :
    ∃ m mac d aF, finish (run ss ops).1.w macFn = .ok (m, mac) ∧ m.size ≤ 65535 ∧
      Message.specDecodeMsg m = some d ∧
      Desc (run ss ops).1 aF (bodyRun b ops (run ss ops).2) (mrun ss mb ops) ∧ (run ss ops).1.w.limit ≤ 65535 ∧
      Message.walk false a (ops.map Driver.toSpecOp ++ rest) (obs ss ops ++ sts) (msgs m) (some d) mac' =
        Message.walk false aF rest sts (msgs m) (some d) mac' := by
  have hIR := (run_I ss ops hD.i hr).2
  have hLR := clay_run ss ops b mb hD.i hD.lay hr (fun _ _ => trivial)
  have hst := layoutStable_typed (typed_run ops ss b hD.typed (fun op h => (ht op h).1))
  obtain ⟨m, mac, hf⟩ := finish_ok macFn hmac _ hIR
  have hsz : m.size ≤ 65535 := by
    have := finish_size_le_limit macFn _ hIR.inv m mac hf
    have := run_limit ss ops hD.i hr hl hv
    omega
  have hcurR : (run ss ops).1.w.cursor ≤ 65535 := by
    have := hIR.inv.cur_av; have := hIR.inv.av_lim; have := run_limit ss ops hD.i hr hl hv; omega
  obtain ⟨d, hd, _⟩ := extents_prefix macFn hIR.winv hIR.inv.rr_hi (Seg.refl _) hIR hLR hst m mac hf hsz
  -- the decoded message tells where the items of every earlier state of the segment end
  obtain ⟨aF, hDF, hw⟩ := walk_segment_k hcurR d mac' rest sts (msgs m) (fun s hw hrr hseg qs rs hq hr' => by
    obtain ⟨d', hd', h⟩ := extents_prefix macFn hw hrr hseg hIR hLR hst m mac hf hsz
    rw [hd] at hd'
    cases hd'
    exact h qs rs hq hr') ops ss b mb a hD ht hr hno rfl
  exact ⟨m, mac, d, aF, hf, hsz, hd, hDF, run_limit ss ops hD.i hr hl hv, hw⟩

/-- **the walk of `checkSession` from a fresh writer**, for sessions without `clear_rrs`
    whose limits are at most 65535: run on the statuses of the model and on the decoded finished
    message, `walk` accepts every call (successful calls by `absOk`, failed calls because they are
    `justified`) and equals the final check `checkSegment` in an abstract state describing the final
    writer state -/
theorem walk_from_new (macFn : Tsig → List UInt8 → List UInt8) (hmac : MacLenOK macFn)
    (buf : Bytes) (limit : Nat) (s0 : State) (hnew : Writer.new buf limit = .ok s0) (hlim : limit ≤ 65535)
    (mode : CMode) (ops : List Op) (ht : ∀ op ∈ ops, op.Typed) (hb : ∀ op ∈ ops, ApiBounds op)
    (hr : Respects { w := { s0 with mode := mode } } ops) (hv : ∀ v, Op.setLimit v ∈ ops → v ≤ 65535)
    (hno : ∀ op ∈ ops, op ≠ .clearRrs ∧ NonEmptySet op) (mac' : Option (List UInt8)) :
    ∃ m mac d aF, finish (run { w := { s0 with mode := mode } } ops).1.w macFn = .ok (m, mac) ∧
      Message.specDecodeMsg m = some d ∧ AbsNum (run { w := { s0 with mode := mode } } ops).1.w aF ∧
      aF.hdr = d.msg.header ∧ aF.hdr.z = 0 ∧
      AbsContent aF (bodyRun {} ops (run { w := { s0 with mode := mode } } ops).2)
        (mrun { w := { s0 with mode := mode } } {} ops) ∧
      AbsCfg (run { w := { s0 with mode := mode } } ops).1.w aF ∧
      Message.walk false
          { mode := Driver.toSpecMode mode, buflen := buf.size, limit := min limit buf.size }
          (ops.map Driver.toSpecOp)
          (obs { w := { s0 with mode := mode } } ops ++ ["ok"]) [m] (some d) mac' =
        Message.checkSegment false aF d m.size mac' := by
  obtain ⟨m, mac, d, aF, hf, hsz, hd, hDF, _, hw⟩ := segment_walk macFn hmac mac' [] ["ok"] (fun m => [m])
    (desc_new buf limit s0 hnew mode) ops (fun op h => ⟨ht op h, hb op h⟩) hr hno (new_limit buf limit s0 hnew hlim) hv
  obtain ⟨d2, _, _, _, _, hd2, hh2, _⟩ := finish_refines macFn _ _ _ hDF.i hDF.lay (layoutStable_typed hDF.typed) m mac hf hsz
  rw [hd] at hd2
  cases hd2
  simp only [List.append_nil, Message.walk] at hw
  exact ⟨m, mac, d, aF, hf, hd, hDF.num, by rw [hDF.hdr, hh2], hDF.z, hDF.content, hDF.cfg, hw⟩

end QV.Writer
