/-
  QV.Proofs.PoolInv — the task, wake-up and counting invariants hold in every reachable state of the
  pool transition system (C29).  One analysis of the step function; every case says what it means for
  each of the three: for the tasks by the expectation of the thread that moved, for the counts by
  the profiles of its old and new local state.

  Shape of every analysis: `cases l` on the local state of the moving thread; the constructors at
  which the step is not enabled make the step hypothesis `none = some s'` and go at once (`cases hn` /
  `injection hn`); each remaining one is a `case` named after the constructor, where the guards are
  read off with `of_ite…` and the new state is substituted.  Where a step changes a group of wake-up
  clauses, that group is re-proved clause by clause with `split_thread hg` (PoolWake: every count
  before and after the move of thread `t` through the count over the other threads) and `omega`.
-/
import QV.Proofs.PoolTasks
import QV.Proofs.PoolWake

namespace QV.Pool

/-- the three invariants; only the counting invariant's clause about the queue needs the fix of commit
    a7b63db (`cfg.fixed`, defect D11) -/
structure Inv (cfg : Cfg) (s : State) : Prop where
  tasks : TInv s
  wake : WInv s
  count : CInv cfg.fixed s

variable {cfg : Cfg} {s s' : State} {t : Nat}

theorem of_ite {α} {c : Prop} [Decidable c] {p : Option α} {y : α} (h : (if c then p else none) = some y) :
    c ∧ p = some y := by
  split at h
  · exact ⟨‹_›, h⟩
  · cases h

theorem of_ite_some {α} {c : Prop} [Decidable c] {x y : α} (h : (if c then some x else none) = some y) :
    c ∧ x = y :=
  ⟨(of_ite h).1, Option.some.inj (of_ite h).2⟩

theorem of_ite_else {α} {c : Prop} [Decidable c] {p : Option α} {y : α} (h : (if c then none else p) = some y) :
    ¬ c ∧ p = some y := by
  split at h
  · cases h
  · exact ⟨‹_›, h⟩

/-- thread `t` moves between local states that no invariant tells apart; nothing else changes that
    an invariant looks at -/
theorem Inv.move {a b : Local} (h : Inv cfg s) (hg : s.threads[t]? = some a) (he : expect t b = expect t a)
    (hw : profile wakePreds b = profile wakePreds a) (hc : profile countPreds b = profile countPreds a) :
    Inv cfg { s with threads := s.threads.set t b } :=
  ⟨h.tasks.move hg he, h.wake.move hg hw, h.count.move hg hc⟩

theorem inv_acq (h : Inv cfg s) (hn : nextAcq s t = some s') : Inv cfg s' := by
  unfold nextAcq at hn
  cases hg : s.threads[t]? with
  | none => simp [hg] at hn
  | some l =>
    simp only [hg] at hn
    cases l <;> first | cases hn | dsimp only at hn
    case shInG =>
      -- `shut_down` marks the group as shutting down and takes the pool out of it; it will `notify_all`
      obtain ⟨hc, rfl⟩ := of_ite_some hn
      have hgd := (Bool.and_eq_true _ _ ▸ hc).2
      obtain ⟨f1, f2, f3, f4, f5⟩ := h.wake.calls
      refine ⟨h.tasks.move hg rfl, ⟨h.wake.work.congr (sameCounts_set hg rfl), ⟨?_⟩, ⟨?_, ?_, ?_, ?_, ?_⟩⟩,
        h.count.takeP hgd hg rfl rfl rfl⟩ <;> split_thread hg <;> omega
    case spWantG _ | sosWantG _ | shWantG | pshWantG | awWantG | endWantG | rhWantG _ =>
      obtain ⟨hgd, rfl⟩ := of_ite_some hn
      exact ⟨h.tasks.move hg rfl, h.wake.move hg rfl, h.count.takeG hgd hg rfl rfl rfl⟩
    -- subWantP, sosWantP, pshWantP, wWantP, wWoken: the others take the pool mutex
    all_goals (
      obtain ⟨hgd, rfl⟩ := of_ite_some hn
      exact ⟨h.tasks.move hg rfl, h.wake.move hg rfl, h.count.takeP hgd hg rfl rfl rfl⟩)

/-- thread `t` starts a permanent worker, which carries no task -/
theorem Inv.spawnWorker {a b : Local} (h : Inv cfg s) (hg : s.threads[t]? = some a) (he : expect t b = expect t a)
    (hw : profile wakePreds b = profile wakePreds a) (hc : profile countPreds b = profile countPreds a) :
    Inv cfg { s with threads := s.threads.set t b ++ [.wWantP .perm], threadCount := s.threadCount + 1 } :=
  ⟨tinv_neutral (h.tasks.move hg he) (E_append_none fun _ => rfl),
   h.wake.spawn ((sameCounts_set hg hw).trans (sameCounts_append rfl _)),
   (h.count.move hg hc).spawn _ rfl⟩

theorem inv_spawn {fails : Bool} (h : Inv cfg s) (hn : nextSpawn s t fails = some s') : Inv cfg s' := by
  unfold nextSpawn at hn
  cases hg : s.threads[t]? with
  | none => simp [hg] at hn
  | some l =>
    simp only [hg] at hn
    cases l <;> first | cases hn | dsimp only at hn | skip
    case spInG n =>
      cases n <;> first | cases hn | skip
      obtain ⟨_, hn⟩ := of_ite_else hn
      cases hn
      exact h.spawnWorker hg rfl rfl rfl
    case sosInG k =>
      obtain ⟨_, hn⟩ := of_ite_else hn
      cases fails <;> cases hn
      · -- the auxiliary thread is created and gets the task
        exact ⟨h.tasks.handAux hg rfl rfl rfl,
          h.wake.spawn ((sameCounts_set hg (by rfl)).trans (sameCounts_append rfl _)),
          (h.count.congr (sameCounts_set hg (by rfl))).spawn (.auxStart k) rfl⟩
      · -- the OS refuses the thread: the task is rejected
        exact ⟨h.tasks.reject hg rfl rfl, h.wake.move hg rfl, h.count.move hg rfl⟩
    case rhInG f =>
      obtain ⟨_, hn⟩ := of_ite_else hn
      cases fails <;> cases hn
      · exact h.spawnWorker hg rfl rfl rfl   -- respawned
      · exact h.move hg rfl rfl rfl          -- the OS refuses the thread

/-- a worker sleeping on `task_wakeup` wakes up (timeout, spuriously) -/
theorem Inv.wakeWorker {w : WKind} (h : Inv cfg s) (hg : s.threads[t]? = some (.wWait w)) (to : Bool) :
    Inv cfg (s.setT t (.wWoken w to)) :=
  ⟨h.tasks.move hg rfl, h.wake.withWork (sameCounts_set hg rfl) (h.wake.work.wakeWorker hg to),
   h.count.awaken hg rfl rfl⟩

theorem inv_simple (h : Inv cfg s)
    (hn : nextTimeout s t = some s' ∨ nextSpurious s t = some s' ∨ nextRun s t = some s' ∨
      nextFin cfg s t = some s') : Inv cfg s' := by
  cases hg : s.threads[t]? with
  | none => rcases hn with hn | hn | hn | hn <;> simp [nextTimeout, nextSpurious, nextRun, nextFin, hg] at hn
  | some l =>
    -- `injection hn` discards the local states at which the step is not enabled and gives the new state at the others
    rcases hn with hn | hn | hn | hn
    · -- timeout
      unfold nextTimeout at hn
      rw [hg] at hn
      cases l <;> try (injection hn <;> subst_vars)
      case wWait w =>
        cases w <;> injection hn
        subst_vars
        exact h.wakeWorker hg true
      case rhWait => exact h.move hg rfl rfl rfl
    · -- spurious wake-up
      unfold nextSpurious at hn
      rw [hg] at hn
      cases l <;> injection hn <;> subst_vars
      case wWait w => exact h.wakeWorker hg false
      case subWait k =>
        obtain ⟨w1, w2, w3⟩ := h.wake.work
        refine ⟨h.tasks.move hg rfl, h.wake.withWork (sameCounts_set hg rfl) ⟨?_, ?_, ?_⟩,
          h.count.move hg rfl⟩ <;> split_thread hg <;> omega
      case awWait =>
        obtain ⟨w4⟩ := h.wake.await
        refine ⟨h.tasks.move hg rfl, h.wake.withAwait (sameCounts_set hg rfl) ⟨?_⟩, h.count.move hg rfl⟩
        split_thread hg
        omega
      case rhWait => exact h.move hg rfl rfl rfl
    · -- run (`wRun`, `auxStart`)
      unfold nextRun at hn
      rw [hg] at hn
      cases l <;> injection hn <;> subst_vars
      all_goals exact ⟨h.tasks.run hg rfl rfl, h.wake.move hg rfl, h.count.move hg rfl⟩
    · -- fin
      unfold nextFin at hn
      rw [hg] at hn
      cases l <;> injection hn <;> subst_vars
      case wRunning w k => exact ⟨h.tasks.finish hg rfl rfl, h.wake.move hg rfl, h.count.move hg rfl⟩
      case auxRunning k =>
        cases cfg.linger <;> exact ⟨h.tasks.finish hg rfl rfl, h.wake.move hg rfl, h.count.move hg rfl⟩

/-- the critical section of `submit` / `submit_or_spawn`: reject when shutting down, queue the task if a
    worker is available, else leave without it -/
theorem submit_cases {α : Type} {c1 : Bool} {c2 c3 : Prop} [Decidable c2] [Decidable c3] {x y r : α} {p : Option α}
    (h : (if c1 = true then (if c3 then some x else none) else
      if c2 then p else (if c3 then some y else none)) = some r) :
    (c1 = true ∧ x = r) ∨ (c1 = false ∧ c2 ∧ p = some r) ∨ (c1 = false ∧ ¬ c2 ∧ y = r) := by
  cases c1
  · right
    simp only [Bool.false_eq_true, ↓reduceIte] at h
    split at h
    · exact .inl ⟨rfl, ‹_›, h⟩
    · split at h
      · exact .inr ⟨rfl, ‹_›, Option.some.inj h⟩
      · cases h
  · simp only [↓reduceIte] at h
    split at h
    · exact .inl ⟨rfl, Option.some.inj h⟩
    · cases h

/-- a group thread runs `end_thread` and is gone -/
theorem Inv.exit {a : Local} (h : Inv cfg s) (hg : s.threads[t]? = some a)
    (he : expect t a = none) (hw : profile wakePreds a = profile wakePreds .exited)
    (hc : profile [isReg, isAwake, holdsP] a = profile [isReg, isAwake, holdsP] .exited)
    (ha : isLive a = true ∧ holdsG a = true) :
    Inv cfg (endThread { s.setT t .exited with gLock := none }) :=
  ⟨tinv_neutral (h.tasks.move hg (b := .exited) he.symm) (E_endThread _),
   winv_endThread (h.wake.congr (sameCounts_set hg hw.symm)),
   cinv_endThread (h.count.exit hg hc.symm ha ⟨rfl, rfl⟩)⟩

/-- thread `t` leaves a section of the group mutex for a state the other invariants do not tell from `a` -/
theorem Inv.releaseG {a b : Local} (h : Inv cfg s) (hg : s.threads[t]? = some a) (he : expect t b = expect t a)
    (hw : profile wakePreds b = profile wakePreds a)
    (hc : profile [isReg, isAwake, isLive, holdsP] b = profile [isReg, isAwake, isLive, holdsP] a)
    (ha : holdsG a = true) (hb : holdsG b = false) : Inv cfg { s.setT t b with gLock := none } :=
  ⟨h.tasks.move hg he, h.wake.move hg hw, h.count.releaseG hg hc ha hb⟩

/-- `shut_down` returns: it leaves the group mutex and wakes the awaiters -/
theorem Inv.shutdownReturn {a : Local} (gs : Bool) (h : Inv cfg s) (hg : s.threads[t]? = some a)
    (ha : a = .shInG ∨ a = .shInG2) :
    Inv cfg { s with threads := (s.threads.set t .idle).map wakeShut, gLock := none, gShutting := gs,
                     shDone := true } := by
  obtain ⟨f1, f2, f3, f4, f5⟩ := h.wake.calls
  have hm := sameCounts_map wakeShut (wakeShut_eq (profile (workPreds ++ callPreds)) rfl rfl)
    (s.threads.set t .idle)
  rcases ha with rfl | rfl <;>
  refine ⟨tinv_neutral (h.tasks.move hg (by rfl)) (E_map_wakeShut _),
    ⟨h.wake.work.congr ((sameCounts_set hg (by rfl)).trans (hm.sub fun _ => List.mem_append_left _)),
     ⟨.inl (countP_map_none (fun x => by cases x <;> rfl) _)⟩,
     WCalls.congr ⟨?_, ?_, ?_, ?_, ?_⟩ (hm.sub fun _ => List.mem_append_right _)⟩,
    (h.count.releaseG hg (by rfl) rfl rfl).congr (sameCounts_map wakeShut (wakeShut_eq _ rfl rfl) _)⟩ <;>
  split_thread hg <;> omega

theorem inv_rel {target : Option Nat} {flag : Bool} (h : Inv cfg s)
    (hn : nextRel cfg s t target flag = some s') : Inv cfg s' := by
  unfold nextRel at hn
  cases hg : s.threads[t]? with
  | none => simp [hg] at hn
  | some l =>
    simp only [hg] at hn
    cases l <;> first | cases hn | dsimp only at hn | skip
    case spInG n =>
      cases n <;> first | cases hn | skip
      obtain ⟨_, rfl⟩ := of_ite_some hn
      obtain ⟨f1, f2, f3, f4, f5⟩ := h.wake.calls
      refine ⟨h.tasks.move hg rfl, h.wake.withCalls (sameCounts_set hg rfl) ⟨?_, ?_, ?_, ?_, ?_⟩,
        h.count.releaseG hg rfl rfl rfl⟩ <;> split_thread hg <;> omega
    case subInP k =>
      obtain ⟨w1, w2, w3⟩ := h.wake.work
      rcases submit_cases hn with ⟨hps, rfl⟩ | ⟨hps, hav, hn⟩ | ⟨hps, hav, rfl⟩
      · -- shutting down: rejected
        have := b2n_of_true hps
        refine ⟨h.tasks.reject hg rfl rfl, h.wake.withWork (sameCounts_set hg rfl) ⟨?_, ?_, ?_⟩,
          h.count.releaseP hg rfl rfl rfl⟩ <;> split_thread hg <;> omega
      · -- a worker is available: queued
        exact ⟨tinv_pushTask h.tasks hg rfl hn, winv_push h.wake hg (Or.inl rfl) hps hn,
          cinv_push h.count hg (Or.inl rfl) hav hps hn⟩
      · -- none is: the submitter goes to sleep on `available_wakeup`
        have := b2n_of_false hps
        refine ⟨h.tasks.move hg rfl, h.wake.withWork (sameCounts_set hg rfl) ⟨?_, ?_, ?_⟩,
          h.count.releaseP hg rfl rfl rfl⟩ <;> split_thread hg <;> omega
    case sosInP k =>
      rcases submit_cases hn with ⟨hps, rfl⟩ | ⟨hps, hav, hn⟩ | ⟨hps, hav, rfl⟩
      · -- shutting down: rejected
        exact ⟨h.tasks.reject hg rfl rfl, h.wake.move hg rfl, h.count.releaseP hg rfl rfl rfl⟩
      · -- a worker is available: queued
        exact ⟨tinv_pushTask h.tasks hg rfl hn, winv_push h.wake hg (Or.inr rfl) hps hn,
          cinv_push h.count hg (Or.inr rfl) hav hps hn⟩
      · -- none is: on to `start_oneshot`
        exact ⟨h.tasks.move hg rfl, h.wake.move hg rfl, h.count.releaseP hg rfl rfl rfl⟩
    case wInP w reg to =>
      exact ⟨tinv_relWorker h.tasks hg hn, winv_relWorker h.wake hg hn, cinv_relWorker h.count hg hn⟩
    case sosInG k =>
      obtain ⟨_, hn⟩ := of_ite hn
      obtain ⟨_, rfl⟩ := of_ite_some hn
      exact ⟨h.tasks.reject hg rfl rfl, h.wake.move hg rfl,
        h.count.releaseG hg rfl rfl rfl⟩
    case sosInG2 k =>
      obtain ⟨_, rfl⟩ := of_ite_some hn
      exact h.releaseG hg rfl rfl rfl rfl rfl
    case shInG =>
      -- the pool is already gone: `shut_down` only sets the flag
      obtain ⟨_, hn⟩ := of_ite_else hn
      obtain ⟨_, rfl⟩ := of_ite_some hn
      exact h.shutdownReturn true hg (.inl rfl)
    case shInP =>
      obtain ⟨_, rfl⟩ := of_ite_some hn
      have hc : SameCounts (awaitPreds ++ callPreds) s.threads
          (((s.threads.set t .shInG2).map wakeTask).map wakeAvail) :=
        ((sameCounts_set hg (by rfl)).trans (sameCounts_map wakeTask (wakeTask_eq _ fun _ => rfl) _)).trans
          (sameCounts_map wakeAvail (wakeAvail_eq _ fun _ => rfl) _)
      exact ⟨tinv_neutral (h.tasks.move hg (by rfl)) (fun u => (E_map_wakeAvail _ u).trans (E_map_wakeTask _ u)),
        h.wake.withWork hc (WWork.shutdown _ _ _),
        (h.count.releaseP hg (by rfl) rfl rfl).shutdownPool⟩
    case shInG2 =>
      obtain ⟨_, rfl⟩ := of_ite_some hn
      exact h.shutdownReturn _ hg (.inr rfl)
    case pshInG =>
      -- this is the only `ThreadPool::shut_down` call (`f5`), so none is left that has yet to remove the pool
      obtain ⟨_, hn⟩ := of_ite hn
      obtain ⟨_, rfl⟩ := of_ite_some hn
      obtain ⟨f1, f2, f3, f4, f5⟩ := h.wake.calls
      have hm := pshEarly_le_any s.threads
      refine ⟨h.tasks.move hg rfl, h.wake.withCalls (sameCounts_set hg rfl) ⟨?_, ?_, ?_, ?_, ?_⟩,
        h.count.releaseG hg rfl rfl rfl⟩ <;> split_thread hg <;> omega
    case pshInP =>
      obtain ⟨_, rfl⟩ := of_ite_some hn
      obtain ⟨f1, f2, f3, f4, f5⟩ := h.wake.calls
      have hm : SameCounts (awaitPreds ++ callPreds) (s.threads.set t .idle)
          (((s.threads.set t .idle).map wakeTask).map wakeAvail) :=
        (sameCounts_map wakeTask (wakeTask_eq _ fun _ => rfl) _).trans
          (sameCounts_map wakeAvail (wakeAvail_eq _ fun _ => rfl) _)
      refine ⟨tinv_neutral (h.tasks.move hg (by rfl)) (fun u => (E_map_wakeAvail _ u).trans (E_map_wakeTask _ u)),
        ⟨WWork.shutdown _ _ _,
         h.wake.await.congr ((sameCounts_set hg (by rfl)).trans (hm.sub fun _ => List.mem_append_left _)),
         WCalls.congr ⟨?_, ?_, ?_, ?_, ?_⟩ (hm.sub fun _ => List.mem_append_right _)⟩,
        (h.count.releaseP hg (by rfl) rfl rfl).shutdownPool⟩ <;> split_thread hg <;> omega
    case awInG =>
      split at hn
      · -- shutdown is complete: `await_shutdown` returns
        obtain ⟨_, rfl⟩ := of_ite_some hn
        exact h.releaseG hg rfl rfl rfl rfl rfl
      · -- it is not: the awaiter goes to sleep
        rename_i hcnd
        obtain ⟨_, rfl⟩ := of_ite_some hn
        refine ⟨h.tasks.move hg rfl, h.wake.withAwait (sameCounts_set hg rfl) ⟨?_⟩,
          h.count.releaseG hg rfl rfl rfl⟩
        cases hgs : s.gShutting
        · exact .inr (.inl (b2n_of_false hgs))
        · simp [hgs] at hcnd
          exact .inr (.inr (.inl hcnd))
    case endInG | rhInG2 =>
      obtain ⟨_, rfl⟩ := of_ite_some hn
      exact h.exit hg rfl rfl rfl ⟨rfl, rfl⟩
    case rhInG f =>
      split at hn
      · -- the group is shutting down: no respawn, the thread ends
        obtain ⟨_, rfl⟩ := of_ite_some hn
        exact h.exit hg rfl rfl rfl ⟨rfl, rfl⟩
      · -- throttled respawn: wait on `shutdown_wakeup` first
        obtain ⟨_, hn⟩ := of_ite hn
        obtain ⟨_, rfl⟩ := of_ite_some hn
        exact h.releaseG hg rfl rfl rfl rfl rfl

theorem inv_init : Inv cfg init := ⟨tinv_init, winv_init, cinv_init⟩

theorem inv_next {l : Label} (h : Inv cfg s) (hn : next cfg s l = some s') : Inv cfg s' := by
  cases l with
  | arrive =>
    cases hn
    exact ⟨tinv_neutral h.tasks (E_append_none fun _ => rfl), h.wake.congr (sameCounts_append rfl _),
      h.count.congr (sameCounts_append rfl _)⟩
  | acq t => exact inv_acq h hn
  | spawn t f => exact inv_spawn h hn
  | rel t tg fl => exact inv_rel h hn
  | timeout t => exact inv_simple h (.inl hn)
  | spurious t => exact inv_simple h (.inr (.inl hn))
  | run t => exact inv_simple h (.inr (.inr (.inl hn)))
  | fin t => exact inv_simple h (.inr (.inr (.inr hn)))
  | callAwait t =>
    obtain ⟨hc, rfl⟩ := of_ite_some hn
    exact h.move (isIdle_get hc) rfl rfl rfl
  | callStartPool t n =>
    obtain ⟨hc, rfl⟩ := of_ite_some hn
    simp only [Bool.and_eq_true] at hc
    have hg := isIdle_get hc.1
    exact ⟨h.tasks.move hg rfl, h.wake.move hg rfl,
      h.count.move hg rfl⟩
  | callSubmit t =>
    obtain ⟨hc, rfl⟩ := of_ite_some hn
    simp only [Bool.and_eq_true] at hc
    have hg := isIdle_get hc.1
    obtain ⟨w1, w2, w3⟩ := h.wake.work
    refine ⟨h.tasks.newTask hg rfl rfl, h.wake.withWork (sameCounts_set hg rfl) ⟨?_, ?_, ?_⟩,
      h.count.move hg rfl⟩ <;> split_thread hg <;> omega
  | callSos t =>
    obtain ⟨hc, rfl⟩ := of_ite_some hn
    simp only [Bool.and_eq_true] at hc
    have hg := isIdle_get hc.1
    exact ⟨h.tasks.newTask hg rfl rfl, h.wake.move hg rfl,
      h.count.move hg rfl⟩
  | callShutdown t =>
    obtain ⟨hc, rfl⟩ := of_ite_some hn
    simp only [Bool.and_eq_true, decide_eq_true_eq] at hc
    have hg := isIdle_get hc.1.1
    have hz := hc.2
    obtain ⟨f1, f2, f3, f4, f5⟩ := h.wake.calls
    refine ⟨h.tasks.move hg rfl, h.wake.withCalls (sameCounts_set hg rfl) ⟨?_, ?_, ?_, ?_, ?_⟩,
      h.count.move hg rfl⟩ <;> split_thread hg <;> omega
  | callPoolShutdown t =>
    obtain ⟨hc, rfl⟩ := of_ite_some hn
    simp only [Bool.and_eq_true, Bool.not_eq_true'] at hc
    have hg := isIdle_get hc.1.1.1
    have e1 := b2n_of_true hc.1.1.2
    have e2 := b2n_of_false hc.1.2
    have e3 := b2n_of_false hc.2
    obtain ⟨f1, f2, f3, f4, f5⟩ := h.wake.calls
    refine ⟨h.tasks.move hg rfl, h.wake.withCalls (sameCounts_set hg rfl) ⟨?_, ?_, ?_, ?_, ?_⟩,
      h.count.move hg rfl⟩ <;> split_thread hg <;> omega

theorem inv_reachable (hr : Reachable cfg s) : Inv cfg s := by
  induction hr with
  | init => exact inv_init
  | step _ st ih => obtain ⟨l, hl⟩ := st; exact inv_next ih hl

/-- the task invariant holds in every reachable state — of the repaired code and of the code
    before a7b63db alike (D11 strands a task, it does not duplicate or lose track of one) -/
theorem tinv_reachable (hr : Reachable cfg s) : TInv s := (inv_reachable hr).tasks

theorem winv_reachable (hr : Reachable cfg s) : WInv s := (inv_reachable hr).wake

/-- all clauses of the counting invariant but the one about the queue hold before a7b63db as well -/
theorem cinv_reachable_any (hr : Reachable cfg s) : CInv cfg.fixed s := (inv_reachable hr).count

theorem cinv_reachable (hf : cfg.fixed = true) (hr : Reachable cfg s) : CInv true s := hf ▸ cinv_reachable_any hr

end QV.Pool
