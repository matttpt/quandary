/-
  QV.Proofs.MessageDecode — the spec's RFC 1035 decoder (`QV.Spec.Message.specDecodeMsg`) reads
  back a canonically (uncompressed) encoded message: names, questions, records with their RDATA
  expanded along the RFC layouts, the whole message. Used for C12 (d): refinement in `Disabled`
  mode. It also defines the vocabulary of C12's statements: what a question / record given to the
  writer means (`specQ`, `specR`), when it is a value of the Rust types (`QRec.Typed`, `RRec.Typed`),
  and the header read off the first four octets (`specHeader`).
-/
import QV.Spec.Message
import QV.Proofs.WriterFinish
import QV.Proofs.WriterRdata
namespace QV.Writer
open QV QV.Wire QV.Spec QV.Spec.Message

/-! ### names -/

def labelsOK (ls : List Label) : Prop := ∀ l ∈ ls, 1 ≤ l.length ∧ l.length ≤ 63

/-- stored labels that start with the label `l`: its length octet, the label as the walkers cut it
    out, and the rest behind it -/
theorem bytesAt_cons_label {msg : Bytes} {pos : Nat} {l : Label} {ls : List Label} {t : List UInt8}
    (hl : 1 ≤ l.length ∧ l.length ≤ 63) (hb : BytesAt msg pos ((l :: ls).flatMap WName.encLabel ++ t)) :
    msg[pos]? = some (UInt8.ofNat l.length) ∧ UInt8.ofNat l.length ≠ 0 ∧
      (msg.extract pos (pos + l.length + 1)).toList = WName.encLabel l ∧
      BytesAt msg (pos + l.length + 1) (ls.flatMap WName.encLabel ++ t) := by
  have hb' : BytesAt msg pos (WName.encLabel l ++ (ls.flatMap WName.encLabel ++ t)) := by
    simpa [List.flatMap_cons, List.append_assoc] using hb
  obtain ⟨b1, b2⟩ := bytesAt_append hb'
  have h0 := bytesAt_get b1 (i := 0) (by simp [WName.encLabel])
  simp only [Nat.add_zero, WName.encLabel, List.getElem_cons_zero] at h0
  have hlen : (WName.encLabel l).length = l.length + 1 := by simp [WName.encLabel]
  refine ⟨h0, ofNat_len_ne_zero hl.1 hl.2, ?_, by rw [Nat.add_assoc, ← hlen]; exact b2⟩
  have := bytesAt_extract b1
  rw [hlen] at this
  exact this

/-- the decoder walks a literally stored name label by label -/
theorem specWalk_labels (msg : Bytes) (cs : Nat) : ∀ (ls : List Label) (pos fuel : Nat), labelsOK ls →
    BytesAt msg pos (ls.flatMap WName.encLabel ++ [0]) → ls.length < fuel →
    specWalk msg fuel pos cs = some (ls.map WName.encLabel ++ [[0]], (ls.flatMap WName.encLabel).length + 1) := by
  intro ls
  induction ls with
  | nil =>
    intro pos fuel _ hb hf
    obtain ⟨f, rfl⟩ : ∃ f, fuel = f + 1 := ⟨fuel - 1, by simp at hf; omega⟩
    have h0 := bytesAt_get hb (i := 0) (by simp)
    simp only [Nat.add_zero] at h0
    simp [specWalk, h0]
  | cons l ls ih =>
    intro pos fuel hok hb hf
    obtain ⟨f, rfl⟩ : ∃ f, fuel = f + 1 := ⟨fuel - 1, by simp at hf; omega⟩
    have hl := hok l List.mem_cons_self
    obtain ⟨h0, hne, hex, b2⟩ := bytesAt_cons_label hl hb
    have hlen : (WName.encLabel l).length = l.length + 1 := by simp [WName.encLabel]
    have hnext := bytesAt_lt b2 (i := 0) (by simp)
    have hrec := ih (pos + l.length + 1) f (fun x hx => hok x (List.mem_cons_of_mem _ hx)) b2 (by simp at hf; omega)
    unfold specWalk
    simp only [h0, hne, if_false, ofNat_len_toNat hl.2, hl.2, if_true]
    rw [if_pos (by have := hlen; omega), hrec]
    simp only [hex, List.map_cons, List.cons_append, List.flatMap_cons, List.length_append, hlen]
    congr 2

theorem WName.wire_eq (n : WName) : n.wire = n.labels.flatMap WName.encLabel ++ [0] := rfl

theorem wf_labelsOK {n : WName} (h : n.WF) : labelsOK n.labels := h.1

theorem wire_flatten (n : WName) : (n.labels.map WName.encLabel ++ [[0]]).flatten = n.wire := by
  simp [WName.wire, List.flatMap_def]

/-- **the RFC 1035 decoder reads back a literally stored name** -/
theorem specDecodeName_wire (msg : Bytes) (n : WName) (hwf : n.WF) (pos : Nat)
    (hb : BytesAt msg pos n.wire) :
    specDecodeName msg pos = some (n.wire, n.len, n.wire.length) := by
  have hlen : n.labels.length < n.wire.length := by
    have := flatMap_enc_length_ge n.labels
    rw [WName.wire_eq, List.length_append]; simp only [List.length_cons, List.length_nil]; omega
  have hsz : pos + n.wire.length ≤ msg.size := by
    have := bytesAt_lt hb (i := n.wire.length - 1) (by omega)
    omega
  have hfuel : n.labels.length < msg.size * msg.size + msg.size + 2 := by omega
  unfold specDecodeName
  rw [specWalk_labels msg pos n.labels pos _ hwf.1 hb hfuel]
  simp only [wire_flatten]
  have h255 : n.wire.length ≤ 255 := hwf.2
  rw [if_pos h255]
  simp [WName.len, WName.wire]

/-- the physical walk succeeds where literal labels are followed by a root label or a pointer -/
theorem physical_chunk (msg : Bytes) (b : UInt8) : ∀ (ls : List Label) (pos fuel : Nat) (acc : List Nat),
    LabelsWF ls → BytesAt msg pos (ls.flatMap WName.encLabel ++ [b]) →
    (b = 0 ∨ (isPtr b = true ∧ ∃ b2, msg[pos + encLen ls + 1]? = some b2)) → ls.length < fuel →
    ∃ r, physical msg fuel pos acc = some r := by
  intro ls
  induction ls with
  | nil =>
    intro pos fuel acc _ hb hc hf
    obtain ⟨f, rfl⟩ : ∃ f, fuel = f + 1 := ⟨fuel - 1, by simp at hf; omega⟩
    have h0 : msg[pos]? = some b := by simpa using hb 0 (by simp)
    rcases hc with rfl | ⟨hp, b2, h2⟩
    · exact ⟨((pos :: acc).reverse, none), by simp [physical, h0]⟩
    · have hsp : specIsPtr b := (isPtr_iff b).mp hp
      unfold specIsPtr at hsp
      have hne : b ≠ 0 := by
        intro hc; subst hc
        have : (0 : UInt8).toNat = 0 := rfl
        omega
      simp only [encLen_nil, Nat.add_zero] at h2
      unfold physical
      simp only [h0, hne, if_false, h2]
      rw [if_neg (by omega), if_pos hsp]
      exact ⟨_, rfl⟩
  | cons l ls ih =>
    intro pos fuel acc hok hb hc hf
    obtain ⟨f, rfl⟩ : ∃ f, fuel = f + 1 := ⟨fuel - 1, by simp at hf; omega⟩
    have hl := hok l List.mem_cons_self
    obtain ⟨h0, hne, _, b2⟩ := bytesAt_cons_label hl hb
    obtain ⟨r, hr⟩ := ih (pos + l.length + 1) f (pos :: acc) (fun x hx => hok x (List.mem_cons_of_mem _ hx)) b2
      (by
        rcases hc with h | ⟨hp, b2', h2⟩
        · exact Or.inl h
        · refine Or.inr ⟨hp, b2', ?_⟩
          rw [encLen_cons] at h2
          rw [show pos + l.length + 1 + encLen ls + 1 = pos + (1 + l.length + encLen ls) + 1 by omega]
          exact h2)
      (by simp at hf; omega)
    refine ⟨r, ?_⟩
    unfold physical
    simp only [h0, hne, if_false, ofNat_len_toNat hl.2, hl.2, if_true]
    exact hr

theorem flatMap_enc_length_ge2 (ls : List Label) (h : labelsOK ls) :
    2 * ls.length ≤ (ls.flatMap WName.encLabel).length := by
  induction ls with
  | nil => simp
  | cons l ls ih =>
    have := ih (fun x hx => h x (List.mem_cons_of_mem _ hx))
    have hl := h l List.mem_cons_self
    rw [List.flatMap_cons, List.length_append, List.length_cons]
    simp only [WName.encLabel, List.length_cons]; omega

theorem wf_labels_lt {n : WName} (h : n.WF) : n.labels.length < 130 := by
  have := flatMap_enc_length_ge2 n.labels h.1
  have h2 : n.wire.length ≤ 255 := h.2
  rw [WName.wire_eq, List.length_append] at h2
  simp only [List.length_cons, List.length_nil] at h2
  omega

theorem decodeNameAt_wire (msg : Bytes) (n : WName) (hwf : n.WF) (pos : Nat) (place : Where) (item : Nat)
    (hb : BytesAt msg pos n.wire) :
    ∃ occ, decodeNameAt msg pos place item = some (n.wire, n.wire.length, occ) := by
  obtain ⟨⟨ls, p⟩, hr⟩ := physical_chunk msg 0 n.labels pos 130 [] hwf.1 hb (Or.inl rfl) (wf_labels_lt hwf)
  unfold decodeNameAt
  rw [specDecodeName_wire msg n hwf pos hb, hr]
  exact ⟨_, rfl⟩


/-! ### a name given in uncompressed form (the spec's own reading of the caller's RDATA) -/

theorem specWalkU_labels (b : Bytes) : ∀ (ls : List Label) (pos fuel : Nat), labelsOK ls →
    BytesAt b pos (ls.flatMap WName.encLabel ++ [0]) → ls.length < fuel →
    specWalkU b fuel pos = some (ls.map WName.encLabel ++ [[0]]) := by
  intro ls
  induction ls with
  | nil =>
    intro pos fuel _ hb hf
    obtain ⟨f, rfl⟩ : ∃ f, fuel = f + 1 := ⟨fuel - 1, by simp at hf; omega⟩
    have h0 := bytesAt_get hb (i := 0) (by simp)
    simp only [Nat.add_zero] at h0
    simp [specWalkU, h0]
  | cons l ls ih =>
    intro pos fuel hok hb hf
    obtain ⟨f, rfl⟩ : ∃ f, fuel = f + 1 := ⟨fuel - 1, by simp at hf; omega⟩
    have hl := hok l List.mem_cons_self
    obtain ⟨h0, hne, hex, b2⟩ := bytesAt_cons_label hl hb
    have hrec := ih (pos + l.length + 1) f (fun x hx => hok x (List.mem_cons_of_mem _ hx)) b2 (by simp at hf; omega)
    unfold specWalkU
    simp only [h0, hne, if_false, ofNat_len_toNat hl.2, hl.2, if_true]
    rw [hrec]
    simp only [hex, List.map_cons, List.cons_append]

theorem bytesAt_toArray (d rest : List UInt8) : BytesAt (d ++ rest).toArray 0 d := by
  intro i hi
  simp [List.getElem?_append_left hi]

/-- the spec reads a given uncompressed name off the head of the caller's RDATA -/
theorem takeName_wire (n : WName) (hwf : n.WF) (rest : List UInt8) :
    takeName (n.wire ++ rest) = some (n.wire, rest) := by
  have hb := bytesAt_toArray n.wire rest
  have hlen : n.labels.length < (n.wire ++ rest).toArray.size + 1 := by
    have := flatMap_enc_length_ge n.labels
    rw [List.size_toArray, List.length_append, WName.wire_eq, List.length_append]; omega
  have h255 : n.wire.length ≤ 255 := hwf.2
  unfold takeName specDecodeUncompressed
  rw [specWalkU_labels _ n.labels 0 _ hwf.1 hb hlen]
  simp only [wire_flatten]
  rw [if_pos ⟨h255, by simp, by simp⟩]
  simp

/-! ### questions -/

def specQ (q : QRec) : Question := ⟨q.qname.wire, q.qtype, q.qclass⟩

/-- the question is a value of the Rust types (`Name`, 16-bit type and class) -/
def QRec.Typed (q : QRec) : Prop := q.qname.WF ∧ q.qtype < 65536 ∧ q.qclass < 65536

theorem encQs_cons (q : QRec) (qs : List QRec) :
    encQs (q :: qs) = q.qname.wire ++ u16be q.qtype ++ u16be q.qclass ++ encQs qs := by
  simp [encQs, encQ]

theorem decodeQuestions_enc (msg : Bytes) : ∀ (qs : List QRec) (pos : Nat) (acc : List Question) (a : Acc),
    (∀ q ∈ qs, q.Typed) → BytesAt msg pos (encQs qs) →
    ∃ a', decodeQuestions msg qs.length pos acc a =
      some (pos + (encQs qs).length, acc.reverse ++ qs.map specQ, a') := by
  intro qs
  induction qs with
  | nil => intro pos acc a _ _; exact ⟨a, by simp [decodeQuestions, encQs]⟩
  | cons q qs ih =>
    intro pos acc a ht hb
    obtain ⟨hwf, hty, hcl⟩ := ht q List.mem_cons_self
    rw [encQs_cons] at hb ⊢
    obtain ⟨b123, b4⟩ := bytesAt_append hb
    obtain ⟨b12, b3⟩ := bytesAt_append b123
    obtain ⟨b1, b2⟩ := bytesAt_append b12
    obtain ⟨occ, hocc⟩ := decodeNameAt_wire msg q.qname hwf pos .qname a.item b1
    have hl2 : ∀ x, (u16be x).length = 2 := fun _ => rfl
    have hsz : pos + q.qname.wire.length + 4 ≤ msg.size := by
      have := bytesAt_lt b3 (i := 1) (by simp [hl2])
      simp only [List.length_append, hl2] at this
      omega
    have e1 := be16_of_bytesAt b2 hty
    have e2 : be16 msg (pos + q.qname.wire.length + 2) = q.qclass := by
      have := be16_of_bytesAt b3 hcl
      simpa only [List.length_append, hl2, Nat.add_assoc] using this
    simp only [List.length_append, hl2] at b4
    obtain ⟨a', ha'⟩ := ih (pos + q.qname.wire.length + 4) (⟨q.qname.wire, q.qtype, q.qclass⟩ :: acc)
      { extents := (pos, pos + q.qname.wire.length + 4) :: a.extents, names := occ :: a.names, item := a.item + 1 }
      (fun x hx => ht x (List.mem_cons_of_mem _ hx))
      (by rw [show pos + q.qname.wire.length + 4 = pos + (q.qname.wire.length + 2 + 2) by omega]; exact b4)
    refine ⟨a', ?_⟩
    rw [List.length_cons]
    unfold decodeQuestions
    simp only [hocc]
    rw [if_pos hsz, e1, e2, ha']
    simp only [List.length_append, hl2, List.reverse_cons, List.map_cons, specQ, List.append_assoc,
      List.cons_append, List.nil_append]
    rw [show pos + q.qname.wire.length + 4 + (encQs qs).length =
      pos + (q.qname.wire.length + (2 + (2 + (encQs qs).length))) by omega]

/-! ### RDATA -/

def layToComp : QV.Spec.Message.Lay → CompType
  | .cname => .compressibleName
  | .uname => .uncompressibleName
  | .fixed n => .fixedLen n

/-- **the implementation's RDATA component table is the RFC's**: for every class and type the
    generated `Rdata::components` table lists exactly the fields of RFC 1035 §3.3 / RFC 2782 /
    the Chaosnet A record, with the compressible names being those RFC 3597 §4 allows -/
theorem componentTypes_layout (cls ty : Nat) :
    componentTypes cls ty = some ((layoutOf ty cls).map layToComp) := by
  rw [componentTypes_eq, lookup_arms]
  unfold layoutOf
  by_cases h1 : ty = 2 ∨ ty = 3 ∨ ty = 4 ∨ ty = 5 ∨ ty = 7 ∨ ty = 8 ∨ ty = 9 ∨ ty = 12
  · rw [if_pos h1, if_pos h1]; decide
  rw [if_neg h1, if_neg h1]
  by_cases h3 : ty = 6
  · subst h3; simp only [Nat.reduceEqDiff, false_and, if_false, if_true, true_or]; decide
  by_cases h4 : ty = 14
  · subst h4; simp only [Nat.reduceEqDiff, false_and, if_false, if_true, or_true]; decide
  by_cases h5 : ty = 15
  · subst h5; simp only [Nat.reduceEqDiff, false_and, if_false, if_true, or_self]; decide
  by_cases h6 : ty = 33 ∧ cls = 1
  · obtain ⟨rfl, rfl⟩ := h6; decide
  by_cases h2 : ty = 1 ∧ cls = 3
  · obtain ⟨rfl, rfl⟩ := h2; decide
  simp only [h2, h3, h4, h5, h6, if_false, or_self]; decide


theorem bytesAt_le {msg : Bytes} {pos : Nat} {d : List UInt8} (h : BytesAt msg pos d) (hne : d ≠ []) :
    pos + d.length ≤ msg.size := by
  have hl : 0 < d.length := List.length_pos_iff.mpr hne
  have := bytesAt_lt h (i := d.length - 1) (by omega)
  omega

/-- the decoder's reading of RDATA stored literally = the spec's reading of the RDATA given -/
theorem decodeFields_given (msg : Bytes) (item stop : Nat) : ∀ (lay : List QV.Spec.Message.Lay)
    (rd : List UInt8) (pos : Nat) (fs : List Field) (ns : List NameOcc),
    compsOK (lay.map layToComp) rd = true → BytesAt msg pos rd → stop = pos + rd.length → stop ≤ msg.size →
    ∃ gf ns', givenFields lay rd = some gf ∧
      decodeFields msg item stop lay pos fs ns = some (fs.reverse ++ gf, ns') := by
  intro lay
  induction lay with
  | nil =>
    intro rd pos fs ns _ hb hst _
    refine ⟨[.bytes rd], ns.reverse, rfl, ?_⟩
    unfold decodeFields
    rw [if_pos (by omega), hst, bytesAt_extract hb]
    simp
  | cons l lay ih =>
    intro rd pos fs ns hok hb hst hsz
    cases l with
    | fixed n =>
      simp only [List.map_cons, layToComp, compsOK, Bool.and_eq_true, decide_eq_true_eq] at hok
      obtain ⟨hn, hok'⟩ := hok
      have hsplit : rd = rd.take n ++ rd.drop n := (List.take_append_drop n rd).symm
      have htl : (rd.take n).length = n := by simp; omega
      have hb2 : BytesAt msg pos (rd.take n ++ rd.drop n) := by rw [← hsplit]; exact hb
      obtain ⟨b1, b2⟩ := bytesAt_append hb2
      rw [htl] at b2
      have hex : (msg.extract pos (pos + n)).toList = rd.take n := by
        have := bytesAt_extract b1; rw [htl] at this; exact this
      obtain ⟨gf, ns', hg, hd⟩ := ih (rd.drop n) (pos + n) (.bytes (rd.take n) :: fs) ns hok' b2
        (by rw [hst, List.length_drop]; omega) hsz
      refine ⟨.bytes (rd.take n) :: gf, ns', ?_, ?_⟩
      · unfold givenFields
        rw [if_neg (by omega), hg]; rfl
      · unfold decodeFields
        rw [if_pos (by omega), hex, hd]
        simp
    | cname | uname =>
      -- the two kinds of name are read alike; they differ in the `Where` the occurrence is filed under
      simp only [List.map_cons, layToComp, compsOK] at hok
      cases hp : WName.parse rd with
      | none => rw [hp] at hok; cases hok
      | some pr =>
        obtain ⟨n, rest⟩ := pr
        rw [hp] at hok
        simp only [] at hok
        have hc := parse_content hp
        have hwf := parse_wf hp
        subst hc
        obtain ⟨b1, b2⟩ := bytesAt_append hb
        have key : ∀ place, ∃ gf ns', givenFields lay rest = some gf ∧
            (match decodeNameAt msg pos place item with
              | some (w, k, occ) =>
                if pos + k ≤ stop then decodeFields msg item stop lay (pos + k) (.name w :: fs) (occ :: ns) else none
              | none => none) = some (fs.reverse ++ Field.name n.wire :: gf, ns') := by
          intro place
          obtain ⟨occ, hocc⟩ := decodeNameAt_wire msg n hwf pos place item b1
          obtain ⟨gf, ns', hg, hd⟩ := ih rest (pos + n.wire.length) (.name n.wire :: fs) (occ :: ns) hok b2
            (by rw [hst, List.length_append]; omega) hsz
          refine ⟨gf, ns', hg, ?_⟩
          simp only [hocc]
          rw [if_pos (by rw [hst, List.length_append]; omega), hd]
          simp
        unfold givenFields decodeFields
        rw [takeName_wire n hwf rest]
        exact (key _).elim fun gf h => h.elim fun ns' h => ⟨.name n.wire :: gf, ns', by simp only [h.1]; rfl, h.2⟩

/-- RDATA the writer accepts is RDATA the spec can read (its layout is that of the RFC) -/
theorem givenRdata_of_rdataOK (cls ty : Nat) (rd : List UInt8) (hok : rdataOK cls ty rd = true) :
    (givenRdata ty cls rd).isSome = true := by
  unfold rdataOK at hok
  rw [componentTypes_layout] at hok
  simp only [] at hok
  obtain ⟨gf, _, hg, _⟩ := decodeFields_given rd.toArray 0 rd.length (layoutOf ty cls) rd 0 [] [] hok
    (by intro i hi; simp) (by omega) (by simp)
  simp [givenRdata, hg]

theorem decodeRdata_given (msg : Bytes) (item ty cls pos : Nat) (rd : List UInt8)
    (hok : rdataOK cls ty rd = true) (hb : BytesAt msg pos rd) (hsz : pos + rd.length ≤ msg.size) :
    ∃ fs ns, givenRdata ty cls rd = some fs ∧ decodeRdata msg item ty cls pos rd.length = some (fs, ns) := by
  unfold rdataOK at hok
  rw [componentTypes_layout] at hok
  simp only [] at hok
  obtain ⟨gf, ns', hg, hd⟩ := decodeFields_given msg item (pos + rd.length) (layoutOf ty cls) rd pos [] [] hok
    hb rfl hsz
  refine ⟨normFields gf, ns', by simp [givenRdata, hg], ?_⟩
  unfold decodeRdata
  simp only [hd, List.reverse_nil, List.nil_append]


/-! ### records -/

/-- the record is a value of the Rust types (`Name`, 16-bit type and class, 32-bit TTL, `Rdata` of
    at most 65535 octets) and its RDATA is well formed for its type -/
def RRec.Typed (r : RRec) : Prop :=
  r.owner.WF ∧ r.ty < 65536 ∧ r.cls < 65536 ∧ r.ttl < 4294967296 ∧ r.rdata.length < 65536 ∧
  rdataOK r.cls r.ty r.rdata = true

/-- what a record given to the writer means (the spec's own reading of its RDATA) -/
def specR (r : RRec) : Record :=
  ⟨r.owner.wire, r.ty, r.cls, r.ttl, (givenRdata r.ty r.cls r.rdata).getD []⟩

theorem encRRs_cons (r : RRec) (rs : List RRec) :
    encRRs (r :: rs) = r.owner.wire ++ u16be r.ty ++ u16be r.cls ++ u32be r.ttl ++
      u16be (r.rdata.length % 65536) ++ r.rdata ++ encRRs rs := by
  simp [encRRs, encRR]

theorem decodeRecords_enc (msg : Bytes) : ∀ (rs : List RRec) (pos : Nat) (acc : List Record) (a : Acc),
    (∀ r ∈ rs, r.Typed) → BytesAt msg pos (encRRs rs) → pos + (encRRs rs).length ≤ msg.size →
    ∃ a', decodeRecords msg rs.length pos acc a =
      some (pos + (encRRs rs).length, acc.reverse ++ rs.map specR, a') := by
  intro rs
  induction rs with
  | nil => intro pos acc a _ _ _; exact ⟨a, by simp [decodeRecords, encRRs]⟩
  | cons r rs ih =>
    intro pos acc a ht hb hsz
    obtain ⟨hwf, hty, hcl, httl, hrl, hok⟩ := ht r List.mem_cons_self
    rw [encRRs_cons] at hb hsz ⊢
    obtain ⟨b16, b7⟩ := bytesAt_append hb
    obtain ⟨b15, b6⟩ := bytesAt_append b16
    obtain ⟨b14, b5⟩ := bytesAt_append b15
    obtain ⟨b13, b4⟩ := bytesAt_append b14
    obtain ⟨b12, b3⟩ := bytesAt_append b13
    obtain ⟨b1, b2⟩ := bytesAt_append b12
    have hl2 : ∀ x, (u16be x).length = 2 := fun _ => rfl
    have hl4 : ∀ x, (u32be x).length = 4 := fun _ => rfl
    simp only [List.length_append, hl2, hl4] at b3 b4 b5 b6 b7 hsz
    obtain ⟨occ, hocc⟩ := decodeNameAt_wire msg r.owner hwf pos .owner a.item b1
    have e1 := be16_of_bytesAt b2 hty
    have e2 : be16 msg (pos + r.owner.wire.length + 2) = r.cls := be16_of_bytesAt b3 hcl
    have e3 : be32 msg (pos + r.owner.wire.length + 4) = r.ttl := by
      have := be32_of_bytesAt b4 httl
      rw [show pos + (r.owner.wire.length + 2 + 2) = pos + r.owner.wire.length + 4 by omega] at this
      exact this
    have e4 : be16 msg (pos + r.owner.wire.length + 8) = r.rdata.length := by
      have := be16_of_bytesAt b5 (Nat.mod_lt _ (by omega))
      rw [show pos + (r.owner.wire.length + 2 + 2 + 4) = pos + r.owner.wire.length + 8 by omega,
        Nat.mod_eq_of_lt hrl] at this
      exact this
    have b6' : BytesAt msg (pos + r.owner.wire.length + 10) r.rdata := by
      rw [show pos + r.owner.wire.length + 10 = pos + (r.owner.wire.length + 2 + 2 + 4 + 2) by omega]
      exact b6
    obtain ⟨fs, ns, hg, hd⟩ := decodeRdata_given msg a.item r.ty r.cls (pos + r.owner.wire.length + 10) r.rdata
      hok b6' (by omega)
    obtain ⟨a', ha'⟩ := ih (pos + r.owner.wire.length + 10 + r.rdata.length)
      (⟨r.owner.wire, r.ty, r.cls, r.ttl, fs⟩ :: acc)
      { extents := (pos, pos + r.owner.wire.length + 10 + r.rdata.length) :: a.extents,
        names := ns.reverse ++ (occ :: a.names), item := a.item + 1 }
      (fun x hx => ht x (List.mem_cons_of_mem _ hx))
      (by rw [show pos + r.owner.wire.length + 10 + r.rdata.length =
            pos + (r.owner.wire.length + 2 + 2 + 4 + 2 + r.rdata.length) by omega]; exact b7)
      (by omega)
    refine ⟨a', ?_⟩
    rw [List.length_cons]
    unfold decodeRecords
    simp only [hocc]
    rw [if_pos (by omega)]
    simp only [e1, e2, e3, e4]
    rw [if_pos (by omega)]
    simp only [hd]
    rw [ha']
    simp only [List.length_append, hl2, hl4, List.reverse_cons, List.map_cons, specR, hg, Option.getD_some,
      List.append_assoc, List.cons_append, List.nil_append]
    rw [show pos + r.owner.wire.length + 10 + r.rdata.length + (encRRs rs).length =
      pos + (r.owner.wire.length + (2 + (2 + (4 + (2 + (r.rdata.length + (encRRs rs).length)))))) by omega]


/-! ### whole messages -/

/-- RFC 1035 §4.1.1: the header fields held in the first four octets -/
def specHeader (o : Bytes) : Header :=
  { id := be16 o 0, qr := bit (o.getD 2 0) 128, opcode := ((o.getD 2 0).toNat / 8) % 16,
    aa := bit (o.getD 2 0) 4, tc := bit (o.getD 2 0) 2, rd := bit (o.getD 2 0) 1,
    ra := bit (o.getD 3 0) 128, z := ((o.getD 3 0).toNat / 16) % 8, rcode := (o.getD 3 0).toNat % 16 }

/-- **the RFC 1035 decoder reads back a canonically encoded message** -/
theorem specDecodeMsg_enc (msg : Bytes) (qs : List QRec) (an ns ar : List RRec)
    (hq : ∀ q ∈ qs, q.Typed) (han : ∀ r ∈ an, r.Typed) (hns : ∀ r ∈ ns, r.Typed) (har : ∀ r ∈ ar, r.Typed)
    (cq : qs.length < 65536) (can : an.length < 65536) (cns : ns.length < 65536) (car : ar.length < 65536)
    (hc : BytesAt msg 4 (u16be qs.length ++ u16be an.length ++ u16be ns.length ++ u16be ar.length))
    (hb : BytesAt msg 12 (encQs qs ++ encRRs an ++ encRRs ns ++ encRRs ar))
    (hsz : msg.size = 12 + (encQs qs ++ encRRs an ++ encRRs ns ++ encRRs ar).length) :
    ∃ d, specDecodeMsg msg = some d ∧
      d.msg = ⟨specHeader msg, qs.map specQ, an.map specR, ns.map specR, ar.map specR⟩ := by
  have hl2 : ∀ x, (u16be x).length = 2 := fun _ => rfl
  obtain ⟨c123, c4⟩ := bytesAt_append hc
  obtain ⟨c12, c3⟩ := bytesAt_append c123
  obtain ⟨c1, c2⟩ := bytesAt_append c12
  simp only [List.length_append, hl2] at c2 c3 c4
  have e1 := be16_of_bytesAt c1 cq
  have e2 : be16 msg 6 = an.length := be16_of_bytesAt c2 can
  have e3 : be16 msg 8 = ns.length := be16_of_bytesAt c3 cns
  have e4 : be16 msg 10 = ar.length := be16_of_bytesAt c4 car
  obtain ⟨b123, b4⟩ := bytesAt_append hb
  obtain ⟨b12, b3⟩ := bytesAt_append b123
  obtain ⟨b1, b2⟩ := bytesAt_append b12
  simp only [List.length_append] at b3 b4 hsz
  obtain ⟨a1, h1⟩ := decodeQuestions_enc msg qs 12 [] {} hq b1
  obtain ⟨a2, h2⟩ := decodeRecords_enc msg an (12 + (encQs qs).length) [] a1 han b2 (by omega)
  obtain ⟨a3, h3⟩ := decodeRecords_enc msg ns (12 + (encQs qs).length + (encRRs an).length) [] a2 hns
    (by rw [Nat.add_assoc]; exact b3) (by omega)
  obtain ⟨a4, h4⟩ := decodeRecords_enc msg ar
    (12 + (encQs qs).length + (encRRs an).length + (encRRs ns).length) [] a3 har
    (by rw [Nat.add_assoc, Nat.add_assoc, ← Nat.add_assoc (encQs qs).length]; exact b4) (by omega)
  unfold specDecodeMsg
  rw [if_neg (by omega)]
  simp only [e1, e2, e3, e4, h1, h2, h3, h4]
  rw [if_pos (by omega)]
  exact ⟨_, rfl, by simp [specHeader]⟩

end QV.Writer
