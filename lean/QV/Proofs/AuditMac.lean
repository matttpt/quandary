/-
  QV.Proofs.AuditMac — C10, the MAC of a signed response, in the audit's terms.

  `response_mac_audit`: for a writer whose pending TSIG is in `Response` mode with a key the model found
  for the request's key name, the MAC `finish` computes is the audit's `specMac`: HMAC under the audit's
  own key (`findKey`) of the RFC 8945 §4.3 digest input over the response's octets before the TSIG record
  (position as the independent decoder reports it), with the decoded fields of that record.
-/
import QV.Proofs.AuditDecoded
import QV.Proofs.FinishTsigPos
import QV.Proofs.HmacLen

namespace QV.ServerContent
open QV QV.Writer QV.Spec QV.ServerScan QV.ServerTsig

theorem hmS_keyCfgOf (key : Server.Key) (data : List UInt8) :
    hmS (keyCfgOf key).sha256 (keyCfgOf key).secret data = Tsig.realHmac key.alg key.secret data := by
  unfold hmS keyCfgOf Tsig.realHmac
  cases h : key.alg <;> simp

theorem findKey_spec_of_model (keys : List Server.Key) (hk : KeysOK keys) (kn : WName) (hkn : kn.WF)
    (a : Tsig.Algorithm) (key : Server.Key)
    (h : Server.findKey keys (Tsig.lowerName kn.wire) a = some key) :
    Spec.ServerTsig.findKey (keys.map keyCfgOf) kn.labels = some (keyCfgOf key) ∧ key.alg = a := by
  rw [findKey_view keys hk kn hkn]
  unfold Server.findKey at h
  cases hf : keys.find? (fun k => k.name == Tsig.lowerName kn.wire) with
  | none => rw [hf] at h; cases h
  | some k =>
    rw [hf] at h
    simp only at h
    by_cases ha : k.alg = a
    · rw [if_pos ha] at h; cases h; exact ⟨rfl, ha⟩
    · rw [if_neg ha] at h; cases h

theorem ofWriter_toWriter (a : Tsig.Algorithm) : ofWriterAlg (Server.toWriterAlg a) = a := by cases a <;> rfl

theorem algName_labels (a : Tsig.Algorithm) : (algName (Server.toWriterAlg a)).labels = algLabels a := by
  cases a <;> decide +kernel

theorem response_mac_audit (keys : List Server.Key) (hk : KeysOK keys) (kn : WName) (hkn : kn.WF)
    (a : Tsig.Algorithm) (key : Server.Key) (hfind : Server.findKey keys (Tsig.lowerName kn.wire) a = some key)
    (F : State) (bd : Body) (hG : Good F bd) (rr : TsigRr) (wf : RrWF rr) (reqMac : List UInt8)
    (hreq : reqMac.length ≤ 65535) (rl : Nat)
    (hts : F.tsig = some ⟨.response (Server.toWriterAlg a) reqMac key.secret, rl, rr⟩)
    (b : Bytes) (mac : Option (List UInt8)) (hf : Writer.finish F Server.macFn = .ok (b, mac))
    (d : DMsg) (hd : specDecodeMsg b = some d) (rest : List DRr) (o : DRr) (hdar : d.ar = rest ++ [o]) :
    (mac.getD []).length = a.outputSize ∧
      ∃ k, Spec.ServerTsig.findKey (keys.map keyCfgOf) kn.labels = some k ∧
        ∀ rkn : List (List UInt8), rkn.map (·.map Spec.Tsig.lower) = rr.keyName.labels.map (·.map Spec.Tsig.lower) →
          mac.getD [] = hmS k.sha256 k.secret
            (Spec.Tsig.digestInput .response (b.extract 0 o.pos).toList (rr.originalId % 65536)
              { keyName := rkn, algName := (algName (Server.toWriterAlg a)).labels,
                timeSigned := Spec.Tsig.nat48 rr.timeSigned, fudge := rr.fudge % 65536,
                error := rr.error % 65536, other := if rr.error = XR_BADTIME then rr.serverTime else [] }
              reqMac) := by
  obtain ⟨rest', o', hdar', hmac, hmsg⟩ := tsig_prefix_of_good Server.macFn F bd hG _ hts b mac hf d hd
  obtain rfl : o = o' := by
    rw [hdar] at hdar'
    exact (List.cons.inj (List.append_inj' hdar' rfl).2).1
  obtain ⟨hfk, hka⟩ := findKey_spec_of_model keys hk kn hkn a key hfind
  have hmac' : mac = some (Server.macFn ⟨.response (Server.toWriterAlg a) reqMac key.secret, rl, rr⟩
      (b.extract 0 o.pos).toList) := by rw [hmac]; rfl
  have hrfc := macFnWith_eq_rfc Tsig.realHmac ⟨.response (Server.toWriterAlg a) reqMac key.secret, rl, rr⟩
    (b.extract 0 o.pos).toList (Server.toWriterAlg a) reqMac key.secret rfl wf hreq hmsg
    (fun dd => by rw [Tsig.realHmac_length]; cases (ofWriterAlg (Server.toWriterAlg a)) <;> decide)
  have hmf : Server.macFn ⟨.response (Server.toWriterAlg a) reqMac key.secret, rl, rr⟩ (b.extract 0 o.pos).toList =
      Server.macFnWith Tsig.realHmac ⟨.response (Server.toWriterAlg a) reqMac key.secret, rl, rr⟩ (b.extract 0 o.pos).toList := rfl
  refine ⟨?_, keyCfgOf key, hfk, fun rkn hrkn => ?_⟩
  · rw [hmac', Option.getD_some, hmf, hrfc, Tsig.realHmac_length, ofWriter_toWriter]
  · rw [hmac', Option.getD_some, hmf, hrfc, hmS_keyCfgOf, hka, ofWriter_toWriter]
    congr 1
    simp only [Spec.Tsig.digestInput]
    have e18 : Writer.XR_BADTIME = 18 := by decide
    have hfu := wf.fudge; have her := wf.error; have hoi := wf.origId
    rw [Nat.mod_eq_of_lt hoi]
    -- only the variables differ: in the case of the key name, and by the reductions mod 2^16
    have hv : Spec.Tsig.tsigVariables (respVars rr a) = Spec.Tsig.tsigVariables
        { keyName := rkn, algName := (algName (Server.toWriterAlg a)).labels, timeSigned := Spec.Tsig.nat48 rr.timeSigned,
          fudge := rr.fudge % 65536, error := rr.error % 65536,
          other := if rr.error = XR_BADTIME then rr.serverTime else [] } := by
      simp only [Spec.Tsig.tsigVariables, respVars, Nat.mod_eq_of_lt hfu, Nat.mod_eq_of_lt her, e18, algName_labels]
      rw [canonName_congr _ _ hrkn]
    rw [hv]

/-- a name whose wire form is in lower case has lower-case labels -/
theorem flat_lower_fix : ∀ ls : List Label,
    ls.flatMap WName.encLabel = ls.flatMap (fun l => UInt8.ofNat l.length :: l.map Spec.Tsig.lower) →
    ∀ l ∈ ls, l.map Spec.Tsig.lower = l := by
  intro ls
  induction ls with
  | nil => intro _ l hl; cases hl
  | cons x xs ih =>
    intro h l hl
    simp only [List.flatMap_cons, WName.encLabel, List.cons_append, List.cons.injEq, true_and] at h
    obtain ⟨h1, h2⟩ := List.append_inj h (by simp)
    rcases List.mem_cons.mp hl with rfl | hl
    · exact h1.symm
    · exact ih h2 l hl

theorem labels_lower_of_wire (n : WName) (hn : n.WF) (h : Tsig.lowerName n.wire = n.wire) :
    ∀ l ∈ n.labels, l.map Spec.Tsig.lower = l := by
  have := lowerName_wire n hn
  rw [h] at this
  unfold WName.wire Spec.Tsig.canonName at this
  exact flat_lower_fix n.labels (List.append_cancel_right this)

end QV.ServerContent
