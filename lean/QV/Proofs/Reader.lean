/-
  QV.Proofs.Reader — lemmas relating `QV.Model.Reader` to `QV.Spec.Reader`.
-/
import QV.Model.Reader
import QV.Spec.Reader
import QV.Proofs.Wire
import QV.Properties.C14

namespace QV.Reader
open QV QV.Wire QV.Spec

theorem field16_iff (b : Bytes) (pos v : Nat) : Field16 b pos v ↔ pos + 2 ≤ b.size ∧ v = be16 b pos := by
  unfold Field16
  constructor
  · intro ⟨h, e⟩; exact ⟨by omega, by rw [e, be16_eq b pos h]⟩
  · intro ⟨h, e⟩; exact ⟨by omega, by rw [e, be16_eq b pos (by omega)]⟩

theorem field32_iff (b : Bytes) (pos v : Nat) : Field32 b pos v ↔ pos + 4 ≤ b.size ∧ v = be32 b pos := by
  unfold Field32
  constructor
  · intro ⟨h, e⟩; exact ⟨by omega, by rw [e, be32_eq b pos h]⟩
  · intro ⟨h, e⟩; exact ⟨by omega, by rw [e, be32_eq b pos (by omega)]⟩

theorem readU16At_ok (b : Bytes) (pos : Nat) (h : pos + 2 ≤ b.size) : readU16At b pos = .ok (be16 b pos) := by
  rw [readU16At, if_neg (by omega), if_pos h]

theorem readU32At_ok (b : Bytes) (pos : Nat) (h : pos + 4 ≤ b.size) : readU32At b pos = .ok (be32 b pos) := by
  rw [readU32At, if_neg (by omega), if_pos h]

/-- a read at a position inside the buffer yields the field, or a clean error when it sticks out -/
theorem readU16At_cases (b : Bytes) (pos : Nat) (hp : pos ≤ b.size) :
    (pos + 2 ≤ b.size ∧ readU16At b pos = .ok (be16 b pos)) ∨ readU16At b pos = .err .UnexpectedEomInField := by
  by_cases h : pos + 2 ≤ b.size
  · exact Or.inl ⟨h, readU16At_ok b pos h⟩
  · exact Or.inr (by rw [readU16At, if_neg (by omega), if_neg h])

theorem readU32At_cases (b : Bytes) (pos : Nat) (hp : pos ≤ b.size) :
    (pos + 4 ≤ b.size ∧ readU32At b pos = .ok (be32 b pos)) ∨ readU32At b pos = .err .UnexpectedEomInField := by
  by_cases h : pos + 4 ≤ b.size
  · exact Or.inl ⟨h, readU32At_ok b pos h⟩
  · exact Or.inr (by rw [readU32At, if_neg (by omega), if_neg h])

theorem readU16Get_ok (b : Bytes) (pos : Nat) (h : pos + 2 ≤ b.size) : readU16Get b pos = .ok (be16 b pos) := by
  rw [readU16Get, if_neg (by omega), if_pos h]

theorem readU16Get_cases (b : Bytes) (pos : Nat) :
    (pos + 2 ≤ b.size ∧ readU16Get b pos = .ok (be16 b pos)) ∨ readU16Get b pos = .err .UnexpectedEomInField := by
  by_cases h : pos + 2 ≤ b.size
  · exact Or.inl ⟨h, readU16Get_ok b pos h⟩
  · exact Or.inr (by unfold readU16Get; split <;> simp [h])

/-- a parsed name's first chunk lies inside the message -/
theorem parse_inside (msg : Bytes) (s : Nat) (p : Parsed) (h : parseCompressed msg s = .ok p) :
    s + p.len ≤ msg.size :=
  (decodes_bounds ((C14.C14_parse_ok_iff msg s p).mp h).1).2.2.2

/-- the reader invariant: a header is present and the cursor is inside the message -/
def Inv (r : Reader) : Prop := Gen.HEADER_SIZE ≤ r.octets.size ∧ r.cursor ≤ r.octets.size

theorem skipAtCursor_no_panic (r : Reader) (hi : Inv r) : skipAtCursor r ≠ .panic := by
  unfold skipAtCursor
  have : ¬ r.cursor > r.octets.size := by have := hi.2; omega
  simp only [this, if_false]
  unfold skipCompressed
  generalize r.octets.extract r.cursor r.octets.size = b
  generalize (0:Nat) = off
  fun_induction skipAux b off <;> simp_all

end QV.Reader
