/-
  QV.Proofs.RequestFields — C10 (1a), field level: the specification's own readers (`labelsOf`,
  `Spec.Tsig.parseRdata`) on the TSIG record of a request, against the accessors of the model's
  `ReadTsigRr` (`time_signed`, `fudge`, `mac`, `original_id`, `error`, `other`).
-/
import QV.Proofs.RequestView
import QV.Proofs.ServerNames
import QV.Proofs.NameWireExec
import QV.Proofs.Rdata

namespace QV.ServerScan
open QV QV.Wire QV.Reader QV.Writer

theorem field16_drop (l : List UInt8) (j i : Nat) : Spec.Tsig.field16 (l.drop j) i = Spec.Tsig.field16 l (j + i) := by
  unfold Spec.Tsig.field16
  rw [Rdata.getD_drop, Rdata.getD_drop]
  rfl

theorem be16_toList (a : Bytes) (i : Nat) : be16 a i = Spec.Tsig.field16 a.toList i := by
  unfold be16 Spec.Tsig.field16
  simp only [List.getD_eq_getElem?_getD, Array.getElem?_toList, Array.getD_eq_getD_getElem?]

/-- the accessors of the model's `ReadTsigRr` against the specification's fields -/
structure FieldsAgree (t : Tsig.ReadTsigRr) (f : Spec.Tsig.RdataFields) : Prop where
  time : f.timeSigned = t.timeSigned.toUnix
  fudge : f.fudge = t.fudge.toNat
  mac : f.mac = t.mac
  origId : f.originalId = t.originalId.toNat
  error : f.error = t.error.toNat
  other : f.other = t.other

theorem fieldsAgree_of (kname : List UInt8) (alg : WName) (rest : List UInt8) (h10 : 10 ≤ rest.length) :
    FieldsAgree ⟨kname, Tsig.lowerName alg.wire, (Tsig.rd16 (alg.wire ++ rest) (alg.wire.length + 8)).toNat,
      alg.wire ++ rest⟩ (fieldsOf alg.labels rest) := by
  have ha : (Tsig.lowerName alg.wire).length = alg.wire.length := by simp [Tsig.lowerName]
  -- every read of the model is at an offset behind `alg.wire`: the specification's read of `rest`
  have hms : (Tsig.rd16 (alg.wire ++ rest) (alg.wire.length + 8)).toNat = Spec.Tsig.field16 rest 8 := by
    rw [Tsig.rd16_toNat, ServerContent.field16_skip]
  have h16 : ∀ k, (Tsig.rd16 (alg.wire ++ rest) (alg.wire.length + Spec.Tsig.field16 rest 8 + (10 + k))).toNat =
      Spec.Tsig.field16 ((rest.drop 10).drop (Spec.Tsig.field16 rest 8)) k := by
    intro k
    rw [Tsig.rd16_toNat, List.drop_drop, field16_drop, Nat.add_assoc alg.wire.length, ServerContent.field16_skip]
    congr 1; omega
  constructor
  · show Spec.Tsig.nat48 rest = (Tsig.TimeSigned.ofList (((alg.wire ++ rest).drop (Tsig.lowerName alg.wire).length).take 6)).toUnix
    rw [ha, List.drop_left' rfl, ServerTsig.toUnix_ofList _ (by simp; omega)]
    unfold Spec.Tsig.nat48
    rw [List.take_take, Nat.min_self]
  · show Spec.Tsig.field16 rest 6 = (Tsig.rd16 (alg.wire ++ rest) ((Tsig.lowerName alg.wire).length + 6)).toNat
    rw [ha, Tsig.rd16_toNat, ServerContent.field16_skip]
  · show (rest.drop 10).take (Spec.Tsig.field16 rest 8) =
      ((alg.wire ++ rest).drop ((Tsig.lowerName alg.wire).length + 10)).take _
    rw [ha, ServerContent.drop_skip, hms]
  · show Spec.Tsig.field16 ((rest.drop 10).drop (Spec.Tsig.field16 rest 8)) 0 =
      (Tsig.rd16 (alg.wire ++ rest) ((Tsig.lowerName alg.wire).length + _ + 10)).toNat
    rw [ha, hms]; exact (h16 0).symm
  · show Spec.Tsig.field16 ((rest.drop 10).drop (Spec.Tsig.field16 rest 8)) 2 =
      (Tsig.rd16 (alg.wire ++ rest) ((Tsig.lowerName alg.wire).length + _ + 12)).toNat
    rw [ha, hms]; exact (h16 2).symm
  · show ((rest.drop 10).drop (Spec.Tsig.field16 rest 8)).drop 6 =
      (alg.wire ++ rest).drop ((Tsig.lowerName alg.wire).length +
        (Tsig.rd16 (alg.wire ++ rest) (alg.wire.length + 8)).toNat + 16)
    rw [ha, hms, List.drop_drop, List.drop_drop, Nat.add_assoc alg.wire.length, ServerContent.drop_skip]
    congr 1; omega

theorem labelsOf_wire (n : WName) (h : n.WF) : Spec.Tsig.labelsOf n.wire = some n.labels := by
  unfold Spec.Tsig.labelsOf
  have := ServerContent.splitName_wire n h []
  rw [List.append_nil] at this
  rw [this]

/-- **C10 (1a), the request-side link.**  On a request whose scan reaches a TSIG record, the audit's
    own view of the request (`viewRequest`: `findTsig`, `specDecodeName`, `labelsOf`, `parseRdata`, the
    request prefix) and the model's run (`TsigRun`: the `t`, `mw`, `r'` of `handle_message`) are about
    the same record `d`:
    * `mw` is the request up to `d` — the audit's `prefixOctets`;
    * `t = ReadTsigRr::try_from` of the record: key name = the decoded owner in lower case (the audit's
      `keyName` are its labels), algorithm = the RDATA's algorithm name in lower case (the audit's
      `fields.algName` are its labels), and `t`'s accessors give the audit's other fields
      (`FieldsAgree`: time signed, fudge, MAC, original ID, error, other data);
    * `viewRequest` returns exactly this view, with `specTsigOutcome` over it. -/
theorem request_view (cfg : Server.Cfg) (tr : Server.Transport) (now bufLen : Nat) (req : Bytes)
    (hbuf : minBuf tr cfg.payload ≤ bufLen) (hpay : 512 ≤ cfg.payload) (hreq : req.size ≤ Rdata.USIZE_MAX)
    (hr : (Spec.Server.specScanWith (catKind cfg) cfg.payload req).respond = true)
    (hv : (Spec.Server.specScanWith (catKind cfg) cfg.payload req).verdict = .tsigReached)
    (hm : Spec.ServerTsig.Hm) (keys : List Spec.ServerTsig.KeyCfg) :
    ∃ (t : Tsig.ReadTsigRr) (mw : Bytes) (r' : Reader) (question : Option (WName × Nat × Nat))
      (d : Spec.Server.Delim) (owner : List UInt8) (nl fl : Nat) (kn alg : WName) (rest : List UInt8),
      ServerContent.TsigRun cfg tr now bufLen req t mw r' question ∧
      Spec.ServerTsig.findTsig req = some d ∧ d.ty = 250 ∧ d.cls = 255 ∧ d.rawTtl = 0 ∧
      Spec.specDecodeName req d.pos = some (owner, nl, fl) ∧ kn.WF ∧ kn.wire = owner ∧
      alg.WF ∧ tsigRd req d = alg.wire ++ rest ∧ 10 ≤ rest.length ∧
      Spec.Tsig.field16 rest 8 + 16 ≤ rest.length ∧ 12 ≤ d.pos ∧ 1 ≤ Spec.Server.hdr req 10 ∧
      mw = req.extract 0 d.pos ∧ r'.cursor = d.next ∧
      t = ⟨Tsig.lowerName owner, Tsig.lowerName alg.wire,
        (Tsig.rd16 (alg.wire ++ rest) (alg.wire.length + 8)).toNat, alg.wire ++ rest⟩ ∧
      FieldsAgree t (fieldsOf alg.labels rest) ∧
      Spec.ServerTsig.viewRequest hm keys req now =
        some ⟨kn.labels, fieldsOf alg.labels rest, mw.toList,
          Spec.ServerTsig.specTsigOutcome keys kn.labels (fieldsOf alg.labels rest)
            (fun k => hm k.sha256 k.secret (Spec.Tsig.digestInput .request mw.toList
              (fieldsOf alg.labels rest).originalId
              { keyName := kn.labels, algName := alg.labels, timeSigned := (fieldsOf alg.labels rest).timeSigned,
                fudge := (fieldsOf alg.labels rest).fudge, error := (fieldsOf alg.labels rest).error,
                other := (fieldsOf alg.labels rest).other } [])) now,
          Spec.ServerTsig.findKey keys kn.labels⟩ := by
  -- index arithmetic, stated here because `omega` is slow once the hypotheses about the layout are in scope
  have ar14 : ∀ a f : Nat, a + f + 14 = a + (10 + f + 4) := fun a f => by omega
  obtain ⟨t, mw, r', question, d, hrun, hfind, ⟨hmw, hr', owner, nl, fl, p, hdn, hpu, hlen10, hlay, ht⟩, g1, g2, g3, hdel,
    hpos12, har1⟩ := tsigRun_view cfg tr now bufLen req hbuf hpay hreq hr hv
  obtain ⟨_, hnext, hnsz⟩ := delim_extent req d.pos d hdel
  -- the key name
  have hpc : ∃ p0, parseCompressed req d.pos = .ok p0 ∧ p0.wire = owner := by
    have := Spec.specDecodeName_eq_parse req d.pos
    rw [hdn] at this
    cases hp0 : parseCompressed req d.pos with
    | ok p0 =>
      rw [hp0] at this
      simp only [Option.some.injEq, Prod.mk.injEq] at this
      exact ⟨p0, rfl, this.1.symm⟩
    | err e => rw [hp0] at this; cases this
    | panic => rw [hp0] at this; cases this
  obtain ⟨p0, hp0, hp0w⟩ := hpc
  obtain ⟨kn, hknwf, hknw, _⟩ := ServerSafety.parsed_wname req d.pos p0 hp0
  rw [hp0w] at hknw
  -- the algorithm name
  obtain ⟨rest, hsplit, _, hplen, _⟩ := Rdata.parseU_ok _ p hpu
  simp only [List.toList_toArray] at hsplit
  obtain ⟨hiw, hil⟩ := ServerSafety.parseUncompressed_isWire _ p hpu
  obtain ⟨alg, halgwf, halgw, _⟩ := ServerSafety.isWire_parse hiw hil
  rw [← halgw] at hsplit
  have ha : p.len = alg.wire.length := by rw [hplen, halgw]
  -- the layout, in terms of `rest`
  have hEl : (req.extract (d.ownerEnd + 10) d.next).toList = alg.wire ++ rest := hsplit
  have hEs : (req.extract (d.ownerEnd + 10) d.next).size = d.rdlen := by
    simp only [Array.size_extract]; omega
  have hlen : (alg.wire ++ rest).length = d.rdlen := by rw [← hEl, Array.length_toList, hEs]
  have hb1 : be16 (req.extract (d.ownerEnd + 10) d.next) (p.len + 8) = Spec.Tsig.field16 rest 8 := by
    rw [be16_toList, hEl, ha, ServerContent.field16_skip]
  rw [hb1] at hlay
  have hb2 : be16 (req.extract (d.ownerEnd + 10) d.next) (p.len + Spec.Tsig.field16 rest 8 + 14) =
      Spec.Tsig.field16 ((rest.drop 10).drop (Spec.Tsig.field16 rest 8)) 4 := by
    rw [be16_toList, hEl, ha, List.drop_drop, field16_drop, ar14, ServerContent.field16_skip]
  rw [hb2] at hlay
  have hrl : rest.length + alg.wire.length = d.rdlen := by
    rw [← hlen, List.length_append, Nat.add_comm]
  -- the lengths of the layout, with the two length fields as variables
  have hol : rest.length = Spec.Tsig.field16 rest 8 + 16 +
      Spec.Tsig.field16 ((rest.drop 10).drop (Spec.Tsig.field16 rest 8)) 4 := by
    have e := hlay
    rw [ha, ← hrl] at e
    revert e
    generalize Spec.Tsig.field16 ((rest.drop 10).drop (Spec.Tsig.field16 rest 8)) 4 = f4
    generalize Spec.Tsig.field16 rest 8 = f8
    generalize alg.wire.length = a
    generalize rest.length = rl
    omega
  have hms : Spec.Tsig.field16 rest 8 + 16 ≤ rest.length := by rw [hol]; exact Nat.le_add_right _ _
  have h10 : 10 ≤ rest.length := by
    have : p.len + 10 ≤ (tsigRd req d).length := hlen10
    unfold tsigRd at this
    rw [hEl, List.length_append, ha] at this
    exact Nat.le_of_add_le_add_left this
  have htd : tsigRd req d = alg.wire ++ rest := hEl
  have ht' : t = ⟨Tsig.lowerName owner, Tsig.lowerName alg.wire,
      (Tsig.rd16 (alg.wire ++ rest) (alg.wire.length + 8)).toNat, alg.wire ++ rest⟩ := by
    rw [ht, htd, ha]
    have : p.wire = alg.wire := halgw.symm
    rw [this]
  have hparse : Spec.Tsig.parseRdata (req.extract (d.ownerEnd + 10) d.next).toList = some (fieldsOf alg.labels rest) := by
    rw [hEl]
    exact parseRdata_layout alg halgwf rest h10 hms hol
  refine ⟨t, mw, r', question, d, owner, nl, fl, kn, alg, rest, hrun, hfind, g1, g2, g3, hdn, hknwf, hknw, halgwf, htd,
    h10, hms, hpos12, har1, hmw, hr', ht', ?_, ?_⟩
  · rw [ht']; exact fieldsAgree_of _ alg rest h10
  · unfold Spec.ServerTsig.viewRequest
    rw [hfind]
    simp only [hdn, hparse]
    rw [← hknw, labelsOf_wire kn hknwf]
    simp only [hmw]
    rfl

end QV.ServerScan
