/-
  QV.Proofs.WriterGetters — what the getters report (`Driver.gettersStr`) is what the specification
  expects (`Spec.Message.gettersStr`) whenever the abstract state describes the writer state.
-/
import QV.Proofs.WriterCfg

namespace QV.Writer
open QV QV.Wire QV.Spec QV.ServerSafety

/-- a one-bit mask selects the bit the specification reads: the masked octet has bit `k` of `b` and no other -/
theorem bit_mask (b : UInt8) (k : Nat) (hk : k < 8) : ((b &&& UInt8.ofNat (2^k)) != 0) = Message.bit b (2^k) := by
  have hbit : ∀ i, (b &&& UInt8.ofNat (2^k)).toNat.testBit i = (b.toNat.testBit k && decide (k = i)) := fun i => by
    rw [UInt8.toNat_and, UInt8.toNat_ofNat', Nat.mod_eq_of_lt (Nat.pow_lt_pow_right (by omega) hk), Nat.testBit_and,
      Nat.testBit_two_pow]
    by_cases hki : k = i
    · rw [hki]
    · simp only [hki, decide_false, Bool.and_false]
  rw [bit_two_pow]
  cases h : b.toNat.testBit k
  · rw [show b &&& UInt8.ofNat (2^k) = 0 from UInt8.toNat_inj.mp (Nat.eq_of_testBit_eq fun i => by
      rw [hbit, h]; exact (Nat.zero_testBit i).symm)]
    rfl
  · refine bne_iff_ne.mpr fun h0 => ?_
    have := hbit k
    rw [h0, h] at this
    simp at this

theorem opcode_bits (b : UInt8) : ((b &&& UInt8.ofNat 120) >>> UInt8.ofNat 3).toNat = (b.toNat / 8) % 16 := by
  rw [UInt8.toNat_shiftRight, UInt8.toNat_and]
  show (b.toNat &&& 120) >>> 3 = _
  rw [Nat.shiftRight_and_distrib, Nat.shiftRight_eq_div_pow]
  exact Nat.and_two_pow_sub_one_eq_mod _ 4

/-- the header getters read the fields of `specHeader` -/
theorem getters_hdr (s : State) :
    getId s = (specHeader s.octets).id ∧
    getBit s Gen.QR_BYTE Gen.QR_MASK = (specHeader s.octets).qr ∧
    getBit s Gen.AA_BYTE Gen.AA_MASK = (specHeader s.octets).aa ∧
    getBit s Gen.TC_BYTE Gen.TC_MASK = (specHeader s.octets).tc ∧
    getBit s Gen.RD_BYTE Gen.RD_MASK = (specHeader s.octets).rd ∧
    getBit s Gen.RA_BYTE Gen.RA_MASK = (specHeader s.octets).ra ∧
    getOpcode s = (specHeader s.octets).opcode ∧ getRcode s = (specHeader s.octets).rcode := by
  refine ⟨rfl, ?_, ?_, ?_, ?_, ?_, ?_, ?_⟩
  · exact bit_mask _ 7 (by decide)
  · exact bit_mask _ 2 (by decide)
  · exact bit_mask _ 1 (by decide)
  · exact bit_mask _ 0 (by decide)
  · exact bit_mask _ 7 (by decide)
  · exact opcode_bits _
  · exact and_rcode_mask _

/-- **the getters report what the specification expects** -/
theorem gettersStr_eq (s : State) (a : Message.AState) (hA : AbsNum s a) (hh : a.hdr = specHeader s.octets)
    (hG : AbsCfg s a) : Driver.gettersStr s = Message.gettersStr a := by
  obtain ⟨g1, g2, g3, g4, g5, g6, g7, g8⟩ := getters_hdr s
  have hx : getExtendedRcode s =
      (match a.edns with | some (_, u) => u * 16 + a.hdr.rcode | none => a.hdr.rcode) := by
    unfold getExtendedRcode
    rw [hG.edns, g8, hh]
    cases s.edns <;> rfl
  unfold Driver.gettersStr Message.gettersStr
  rw [g1, g2, g3, g4, g5, g6, g7, g8, hx, ← hA.qd, ← hA.an, ← hA.ns, ← hA.ar, ← hh]
  simp only [Driver.b01, Message.b01, String.append_assoc]
  rfl

end QV.Writer
