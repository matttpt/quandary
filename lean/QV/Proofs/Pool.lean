/-
  QV.Proofs.Pool — the counting invariant of the pool transition system (C29).

  The invariant is stated with `List.countP` over the per-thread local states, so it holds for any
  number of threads.  A step moves one thread (`List.set`), possibly appends one (spawn), wakes one
  (`notify_one`: a second `List.set`) or wakes all waiters of a condvar (`List.map`); what each of
  these does to a count depends only on the values of the counted predicate at the local states
  involved, which for constructor applications is decided by `rfl`.
-/
import QV.Model.Pool

namespace QV.Pool

variable {cfg : Cfg} {s s' : State} {ths ths' : List Local} {t k : Nat} {a b l : Local} {w : WKind} {reg to dl : Bool}
  {target : Option Nat} {av st q tc : Nat} {fx ps : Bool} {pl gl : Option Nat}

/-- counted in `available_workers` -/
def isReg : Local → Bool
  | .wWait _ | .wWoken _ _ | .wInP _ true _ => true
  | _ => false

/-- counted in `available_workers` and not asleep: will look at the queue before deregistering -/
def isAwake : Local → Bool
  | .wWoken _ _ | .wInP _ true _ => true
  | _ => false

/-- a thread of the group that has not yet run `end_thread` -/
def isLive : Local → Bool
  | .wWantP _ | .wInP _ _ _ | .wWait _ | .wWoken _ _ | .wRun _ _ | .wRunning _ _ | .auxStart _
  | .auxRunning _ | .endWantG | .endInG | .rhWantG _ | .rhInG _ | .rhInG2 | .rhWait => true
  | _ => false

-- inside a critical section of the pool mutex / of the group mutex (`shInP` is inside both)
def holdsP : Local → Bool
  | .subInP _ | .sosInP _ | .shInP | .pshInP | .wInP _ _ _ => true
  | _ => false

def holdsG : Local → Bool
  | .spInG _ | .sosInG _ | .sosInG2 _ | .shInG | .shInP | .shInG2 | .pshInG | .awInG | .endInG
  | .rhInG _ | .rhInG2 => true
  | _ => false

theorem get_lt {α} {l : List α} {i : Nat} {a : α} (h : l[i]? = some a) : i < l.length :=
  (List.getElem?_eq_some_iff.mp h).1

theorem get_set_self {α} {l : List α} {t : Nat} {a b : α} (h : l[t]? = some a) : (l.set t b)[t]? = some b := by
  simp [get_lt h]

theorem get_set_ne {α} {l : List α} {t u : Nat} {b : α} (h : t ≠ u) : (l.set t b)[u]? = l[u]? := by
  simp [h]

theorem getElem?_append_singleton_ne {α} {l : List α} {x : α} {j : Nat} (h : j ≠ l.length) :
    (l ++ [x])[j]? = l[j]? := by
  rw [List.getElem?_append]
  split
  · rfl
  · rw [List.getElem?_eq_none (by simp; omega), List.getElem?_eq_none (by omega)]

theorem idx_ne {α} {l : List α} {t u : Nat} {a b : α} (h1 : l[t]? = some a) (h2 : l[u]? = some b) (hne : a ≠ b) :
    t ≠ u := by
  intro e; subst e; rw [h1] at h2; exact hne (Option.some.inj h2)

/-- moving one element from `a` to `b` changes a count by `[p b] - [p a]` -/
theorem countP_move {α} (p : α → Bool) {l : List α} {a : α} (h : l[t]? = some a) (b : α) :
    (l.set t b).countP p + (if p a then 1 else 0) = l.countP p + (if p b then 1 else 0) := by
  obtain ⟨hlt, rfl⟩ := List.getElem?_eq_some_iff.mp h
  have hpos : p l[t] = true → 0 < l.countP p := fun hp =>
    List.countP_pos_iff.mpr ⟨_, List.getElem_mem hlt, hp⟩
  rw [List.countP_set hlt]
  split <;> split <;> simp_all <;> omega

theorem countP_set_same {α} (p : α → Bool) {l : List α} {a b : α} (h : l[t]? = some a) (hb : p b = p a) :
    (l.set t b).countP p = l.countP p := by
  have := countP_move p h b
  rw [hb] at this
  omega

theorem countP_set_gain {α} (p : α → Bool) {l : List α} {a b : α} (h : l[t]? = some a)
    (ha : p a = false) (hb : p b = true) : (l.set t b).countP p = l.countP p + 1 := by
  have := countP_move p h b
  simp only [ha, hb, Bool.false_eq_true, ↓reduceIte] at this
  omega

theorem countP_set_lose {α} (p : α → Bool) {l : List α} {a b : α} (h : l[t]? = some a)
    (ha : p a = true) (hb : p b = false) : (l.set t b).countP p + 1 = l.countP p := by
  have := countP_move p h b
  simp only [ha, hb, Bool.false_eq_true, ↓reduceIte] at this
  omega

/-- a count splits into the contribution of position `t` and that of the rest of the list, which
    `List.set` at `t` leaves alone -/
theorem countP_rest {α} (p : α → Bool) {l : List α} {a : α} (h : l[t]? = some a) :
    l.countP p = (l.eraseIdx t).countP p + (if p a then 1 else 0) := by
  obtain ⟨hlt, rfl⟩ := List.getElem?_eq_some_iff.mp h
  conv => lhs; rw [← List.take_append_drop t l, List.drop_eq_getElem_cons hlt]
  rw [List.eraseIdx_eq_take_drop_succ, List.countP_append, List.countP_append, List.countP_cons]
  omega

theorem countP_set_rest {α} (p : α → Bool) {l : List α} {a : α} (h : l[t]? = some a) (b : α) :
    (l.set t b).countP p = (l.eraseIdx t).countP p + (if p b then 1 else 0) := by
  have := countP_move p h b
  have := countP_rest p h
  omega

/-- the values of the predicates `ps` at `x` -/
def profile {α : Type _} (ps : List (α → Bool)) (x : α) : List Bool := ps.map (· x)

/-- the predicates in `ps` are satisfied by equally many elements of `l'` as of `l` -/
def SameCounts {α : Type _} (ps : List (α → Bool)) (l l' : List α) : Prop := ∀ p ∈ ps, l'.countP p = l.countP p

theorem SameCounts.trans {α} {ps : List (α → Bool)} {l l' l'' : List α} (h : SameCounts ps l l')
    (h' : SameCounts ps l' l'') : SameCounts ps l l'' := fun p hp => (h' p hp).trans (h p hp)

theorem SameCounts.sub {α} {ps qs : List (α → Bool)} {l l' : List α} (h : SameCounts ps l l')
    (hq : ∀ q ∈ qs, q ∈ ps) : SameCounts qs l l' := fun p hp => h p (hq p hp)

theorem sameCounts_set {α} {ps : List (α → Bool)} {l : List α} {a b : α} (hg : l[t]? = some a)
    (hab : profile ps b = profile ps a) : SameCounts ps l (l.set t b) :=
  fun p hp => countP_set_same p hg (List.map_inj_left.mp hab p hp)

theorem sameCounts_map {α} {ps : List (α → Bool)} (f : α → α) (hf : ∀ x, profile ps (f x) = profile ps x)
    (l : List α) : SameCounts ps l (l.map f) := by
  intro p hp
  rw [List.countP_map]
  congr 1
  funext x
  exact List.map_inj_left.mp (hf x) p hp

theorem sameCounts_append {α} {ps : List (α → Bool)} {x : α} (hx : profile ps x = ps.map fun _ => false)
    (l : List α) : SameCounts ps l (l ++ [x]) := by
  intro p hp
  have : p x = false := List.map_inj_left.mp hx p hp
  simp [List.countP_append, this]

/-! ### waking -/

/-- `wakeTask` only moves sleeping workers: whatever does not tell `wWait` from `wWoken` ignores it -/
theorem wakeTask_eq {β} (f : Local → β) (h : ∀ w, f (.wWoken w false) = f (.wWait w)) (l : Local) :
    f (wakeTask l) = f l := by
  cases l <;> first | rfl | exact h _

theorem wakeAvail_eq {β} (f : Local → β) (h : ∀ k, f (.subWantP k) = f (.subWait k)) (l : Local) :
    f (wakeAvail l) = f l := by
  cases l <;> first | rfl | exact h _

theorem wakeShut_eq {β} (f : Local → β) (h1 : f .awWantG = f .awWait) (h2 : f (.rhWantG false) = f .rhWait)
    (l : Local) : f (wakeShut l) = f l := by
  cases l <;> first | rfl | exact h1 | exact h2

theorem isWWait_eq (h : isWWait l = true) : ∃ w, l = .wWait w := by
  cases l <;> first | exact ⟨_, rfl⟩ | cases h

theorem isSubWait_eq (h : isSubWait l = true) : ∃ k, l = .subWait k := by
  cases l <;> first | exact ⟨_, rfl⟩ | cases h

/-- what `notify_one` does: nothing when nobody waits, else exactly one waiter is moved -/
theorem notifyOne_spec {isW : Local → Bool} {wake : Local → Local}
    (h : notifyOne isW wake ths target = some ths') :
    (ths.countP isW = 0 ∧ ths' = ths) ∨
    (∃ u l, ths[u]? = some l ∧ isW l = true ∧ ths' = ths.set u (wake l)) := by
  unfold notifyOne at h
  split at h
  · split at h
    · exact Or.inl ⟨‹_›, (Option.some.inj h).symm⟩
    · cases h
  · split at h
    · split at h
      · exact Or.inr ⟨_, _, ‹_›, ‹_›, (Option.some.inj h).symm⟩
      · cases h
    · cases h

/-- `task_wakeup.notify_one()` wakes a sleeping worker if there is one -/
theorem notify_task_spec
    (h : notifyOne isWWait wakeTask ths target = some ths') :
    (ths.countP isWWait = 0 ∧ ths' = ths) ∨
      ∃ u w, ths[u]? = some (.wWait w) ∧ ths' = ths.set u (.wWoken w false) := by
  rcases notifyOne_spec h with h | ⟨u, l, hu, hw, rfl⟩
  · exact Or.inl h
  · obtain ⟨w, rfl⟩ := isWWait_eq hw
    exact Or.inr ⟨u, w, hu, rfl⟩

/-- `available_wakeup.notify_one()` wakes a blocked submitter if there is one -/
theorem notify_avail_spec
    (h : notifyOne isSubWait wakeAvail ths target = some ths') :
    (ths.countP isSubWait = 0 ∧ ths' = ths) ∨
      ∃ u k, ths[u]? = some (.subWait k) ∧ ths' = ths.set u (.subWantP k) := by
  rcases notifyOne_spec h with h | ⟨u, l, hu, hw, rfl⟩
  · exact Or.inl h
  · obtain ⟨k, rfl⟩ := isSubWait_eq hw
    exact Or.inr ⟨u, k, hu, rfl⟩

/-- the local state in which a worker leaves the pool loop -/
def retLocal : WKind → Local
  | .perm => .rhWantG true
  | .aux => .endWantG

/-- the four ways a worker's critical section ends: it deregisters and leaves (its wait timed out
    or its linger deadline has passed; with a7b63db only when the queue is empty), takes the head of
    the queue, leaves on shutdown without deregistering, or goes (back) to sleep -/
theorem relWorkerBody_cases (cfg : Cfg) (s : State) (t : Nat) (w : WKind) (reg to dl : Bool) :
    let av := if reg then s.available else s.available + 1
    let s2 := relWorkerBody cfg s t w reg to dl
    let s1 : State := { s with pLock := none, available := av }
    (s2 = { s1.setT t (retLocal w) with available := av - 1 } ∧ (cfg.fixed = true → s.queue = [])) ∨
    (∃ k q, s.queue = k :: q ∧
      s2 = { s1.setT t (.wRun w k) with queue := q, available := av - 1, tasks := s.tasks.set k (.handed t) }) ∨
    (s.queue = [] ∧ s.pShutting = true ∧ s2 = { s1.setT t (retLocal w) with stale := s.stale + 1 }) ∨
    (s.queue = [] ∧ s.pShutting = false ∧ s2 = s1.setT t (.wWait w)) := by
  intro av s2 s1
  simp only [s2, s1, av, relWorkerBody]
  split
  · rename_i hc
    refine Or.inl ⟨by cases w <;> rfl, fun hf => ?_⟩
    simp only [hf, Bool.not_true, Bool.false_or, Bool.and_eq_true, List.isEmpty_iff] at hc
    exact hc.2
  · cases hq : s.queue with
    | cons k q => exact Or.inr (Or.inl ⟨k, q, rfl, rfl⟩)
    | nil =>
      cases hps : s.pShutting with
      | true => exact Or.inr (Or.inr (Or.inl ⟨rfl, rfl, by cases w <;> rfl⟩))
      | false =>
        rw [if_neg Bool.false_ne_true]
        by_cases hd : (w == .aux && dl) = true
        · rw [if_pos hd]; exact Or.inl ⟨by cases w <;> rfl, fun _ => rfl⟩
        · rw [if_neg hd]; exact Or.inr (Or.inr (Or.inr ⟨rfl, rfl, rfl⟩))

/-- 1 if the mutex is held -/
def lockN (o : Option Nat) : Nat := if o.isSome then 1 else 0
@[simp] theorem lockN_none : lockN none = 0 := rfl
@[simp] theorem lockN_some (t : Nat) : lockN (some t) = 1 := rfl
theorem lockN_le_one (o : Option Nat) : lockN o ≤ 1 := by cases o <;> simp

@[simp] theorem endThread_available (s : State) : (endThread s).available = s.available := rfl
@[simp] theorem endThread_stale (s : State) : (endThread s).stale = s.stale := rfl
@[simp] theorem endThread_pShutting (s : State) : (endThread s).pShutting = s.pShutting := rfl
@[simp] theorem endThread_queue (s : State) : (endThread s).queue = s.queue := rfl
@[simp] theorem endThread_threadCount (s : State) : (endThread s).threadCount = s.threadCount - 1 := rfl
@[simp] theorem endThread_tasks (s : State) : (endThread s).tasks = s.tasks := rfl
@[simp] theorem endThread_runs (s : State) : (endThread s).runs = s.runs := rfl
@[simp] theorem endThread_gShutting (s : State) : (endThread s).gShutting = s.gShutting := rfl
@[simp] theorem endThread_hasPool (s : State) : (endThread s).hasPool = s.hasPool := rfl
@[simp] theorem endThread_gLock (s : State) : (endThread s).gLock = s.gLock := rfl
@[simp] theorem endThread_pLock (s : State) : (endThread s).pLock = s.pLock := rfl

/-! ### the counting invariant -/

/-- the counting invariant, as a property of the thread list and of the record fields it relates.
    Each of the three invariants (`CInv'`, `TInv'`, `WInv'`) is stated over these as separate arguments, and
    `CInv`, `TInv`, `WInv` instantiate them at a state: the state after a step is a record update, so its fields
    match the arguments of a lemma's conclusion by unification, and the lemmas themselves are about variables. -/
structure CInv' (fx : Bool) (ths : List Local) (available stale qlen threadCount : Nat) (pShutting : Bool)
    (pLock gLock : Option Nat) : Prop where
  /-- `available_workers` = registered workers (+ those that left on shutdown without decrementing) -/
  avail : available = ths.countP isReg + stale
  stale : 0 < stale → pShutting = true
  /-- with a7b63db (`fx`), every queued task has an awake registered worker that will look at the queue
      (D11 broke this); the other clauses hold before and after -/
  queue : fx = true → qlen ≤ ths.countP isAwake
  /-- `thread_count` = group threads that have not ended -/
  live : threadCount = ths.countP isLive
  /-- mutual exclusion: the threads inside a critical section of a mutex are exactly its holder -/
  lockP : ths.countP holdsP = lockN pLock
  lockG : ths.countP holdsG = lockN gLock

abbrev CInv (fx : Bool) (s : State) : Prop :=
  CInv' fx s.threads s.available s.stale s.queue.length s.threadCount s.pShutting s.pLock s.gLock

/-- the predicates the counting invariant counts -/
def countPreds : List (Local → Bool) := [isReg, isAwake, isLive, holdsP, holdsG]

theorem CInv'.relock {pl' gl' : Option Nat} (h : CInv' fx ths av st q tc ps pl gl)
    (hc : SameCounts [isReg, isAwake, isLive] ths ths')
    (hP : ths'.countP holdsP = lockN pl') (hG : ths'.countP holdsG = lockN gl') :
    CInv' fx ths' av st q tc ps pl' gl' :=
  ⟨(hc isReg (by simp)).symm ▸ h.avail, h.stale, (hc isAwake (by simp)).symm ▸ h.queue,
   (hc isLive (by simp)).symm ▸ h.live, hP, hG⟩

theorem CInv'.congr (h : CInv' fx ths av st q tc ps pl gl) (hc : SameCounts countPreds ths ths') :
    CInv' fx ths' av st q tc ps pl gl :=
  h.relock (hc.sub (by simp [countPreds])) ((hc holdsP (by simp [countPreds])).trans h.lockP)
    ((hc holdsG (by simp [countPreds])).trans h.lockG)


theorem held_take {p : Local → Bool} {o : Option Nat} (h : ths.countP p = lockN o) (ho : o.isNone = true)
    (hg : ths[t]? = some a) (ha : p a = false) (hb : p b = true) (u : Nat) :
    (ths.set t b).countP p = lockN (some u) := by
  rw [countP_set_gain p hg ha hb, h, Option.isNone_iff_eq_none.mp ho]; rfl

theorem held_release {p : Local → Bool} {o : Option Nat} (h : ths.countP p = lockN o)
    (hg : ths[t]? = some a) (ha : p a = true) (hb : p b = false) :
    (ths.set t b).countP p = lockN none := by
  have := countP_set_lose p hg ha hb
  have := lockN_le_one o
  show _ = 0
  omega

theorem CInv'.move (h : CInv' fx ths av st q tc ps pl gl) (hg : ths[t]? = some a)
    (hab : profile countPreds b = profile countPreds a) : CInv' fx (ths.set t b) av st q tc ps pl gl :=
  h.congr (sameCounts_set hg hab)

/-- thread `t` acquires the pool mutex -/
theorem CInv'.takeP {u : Nat} (h : CInv' fx ths av st q tc ps pl gl) (hpl : pl.isNone = true) (hg : ths[t]? = some a)
    (hab : profile [isReg, isAwake, isLive, holdsG] b = profile [isReg, isAwake, isLive, holdsG] a)
    (ha : holdsP a = false) (hb : holdsP b = true) : CInv' fx (ths.set t b) av st q tc ps (some u) gl :=
  have hc := sameCounts_set hg hab
  h.relock (hc.sub (by simp)) (held_take h.lockP hpl hg ha hb u) ((hc holdsG (by simp)).trans h.lockG)

theorem CInv'.takeG {u : Nat} (h : CInv' fx ths av st q tc ps pl gl) (hgl : gl.isNone = true) (hg : ths[t]? = some a)
    (hab : profile [isReg, isAwake, isLive, holdsP] b = profile [isReg, isAwake, isLive, holdsP] a)
    (ha : holdsG a = false) (hb : holdsG b = true) : CInv' fx (ths.set t b) av st q tc ps pl (some u) :=
  have hc := sameCounts_set hg hab
  h.relock (hc.sub (by simp)) ((hc holdsP (by simp)).trans h.lockP) (held_take h.lockG hgl hg ha hb u)

theorem CInv'.releaseP (h : CInv' fx ths av st q tc ps pl gl) (hg : ths[t]? = some a)
    (hab : profile [isReg, isAwake, isLive, holdsG] b = profile [isReg, isAwake, isLive, holdsG] a)
    (ha : holdsP a = true) (hb : holdsP b = false) : CInv' fx (ths.set t b) av st q tc ps none gl :=
  have hc := sameCounts_set hg hab
  h.relock (hc.sub (by simp)) (held_release h.lockP hg ha hb) ((hc holdsG (by simp)).trans h.lockG)

theorem CInv'.releaseG (h : CInv' fx ths av st q tc ps pl gl) (hg : ths[t]? = some a)
    (hab : profile [isReg, isAwake, isLive, holdsP] b = profile [isReg, isAwake, isLive, holdsP] a)
    (ha : holdsG a = true) (hb : holdsG b = false) : CInv' fx (ths.set t b) av st q tc ps pl none :=
  have hc := sameCounts_set hg hab
  h.relock (hc.sub (by simp)) ((hc holdsP (by simp)).trans h.lockP) (held_release h.lockG hg ha hb)

/-- a sleeping worker is woken (notification, timeout, spuriously): one more worker will look at the queue -/
theorem CInv'.awaken (h : CInv' fx ths av st q tc ps pl gl) (hg : ths[t]? = some a)
    (hab : profile [isReg, isLive, holdsP, holdsG] b = profile [isReg, isLive, holdsP, holdsG] a)
    (hb : isAwake b = true) : CInv' fx (ths.set t b) av st q tc ps pl gl := by
  have hc := sameCounts_set hg hab
  have e := countP_move isAwake hg b
  refine ⟨(hc isReg (by simp)).symm ▸ h.avail, h.stale, fun hx => ?_, (hc isLive (by simp)).symm ▸ h.live,
    (hc holdsP (by simp)).trans h.lockP, (hc holdsG (by simp)).trans h.lockG⟩
  have hq := h.queue hx
  simp only [hb, ↓reduceIte] at e
  split at e <;> omega

/-- a new group thread starts -/
theorem CInv'.spawn (h : CInv' fx ths av st q tc ps pl gl) (x : Local)
    (hx : profile countPreds x = [false, false, true, false, false]) :
    CInv' fx (ths ++ [x]) av st q (tc + 1) ps pl gl := by
  simp only [profile, countPreds, List.map, List.cons.injEq, and_true] at hx
  obtain ⟨x1, x2, x3, x4, x5⟩ := hx
  obtain ⟨h1, h2, h3, h4, h5, h6⟩ := h
  refine ⟨?_, h2, ?_, ?_, ?_, ?_⟩ <;>
    simp only [List.countP_append, List.countP_cons, List.countP_nil, x1, x2, x3, x4, x5, Bool.false_eq_true,
      ↓reduceIte, Nat.add_zero] <;> omega

/-- a group thread releases the group mutex for the last time: it is no longer counted as live -/
theorem CInv'.exit (h : CInv' fx ths av st q tc ps pl gl) (hg : ths[t]? = some a)
    (hab : profile [isReg, isAwake, holdsP] b = profile [isReg, isAwake, holdsP] a)
    (ha : isLive a = true ∧ holdsG a = true) (hb : isLive b = false ∧ holdsG b = false) :
    CInv' fx (ths.set t b) av st q (tc - 1) ps pl none := by
  have hc := sameCounts_set hg hab
  have e := countP_set_lose isLive hg ha.1 hb.1
  have hl := h.live
  exact ⟨(hc isReg (by simp)).symm ▸ h.avail, h.stale, (hc isAwake (by simp)).symm ▸ h.queue, by omega,
    (hc holdsP (by simp)).trans h.lockP, held_release h.lockG hg ha.2 hb.2⟩

theorem cinv_endThread
    (h : CInv' fx s.threads s.available s.stale s.queue.length (s.threadCount - 1) s.pShutting s.pLock s.gLock) :
    CInv fx (endThread s) := by
  unfold endThread
  show CInv' fx (if _ then _ else _) _ _ _ _ _ _ _
  split
  · exact h.congr (sameCounts_map wakeShut (wakeShut_eq _ rfl rfl) _)
  · exact h

theorem isReg_split (l : Local) :
    (if isReg l then 1 else 0) = (if isAwake l then 1 else 0) + (if isWWait l then 1 else 0) := by
  cases l <;> first | rfl | (rename_i r _; cases r <;> rfl)

/-- sleeping registered workers are exactly `isWWait`: registered = awake + asleep -/
theorem reg_eq_awake_add_wait (l : List Local) : l.countP isReg = l.countP isAwake + l.countP isWWait := by
  induction l with
  | nil => rfl
  | cons a t ih =>
    have := isReg_split a
    simp only [List.countP_cons, ih]
    omega

/-- registered workers are group threads -/
theorem countP_isReg_le_isLive (l : List Local) : l.countP isReg ≤ l.countP isLive :=
  List.countP_mono_left fun x _ => by cases x <;> first | exact id | exact fun _ => rfl

/-- `shut_down_without_removing`: every sleeping worker is woken, so every registered worker is awake -/
theorem CInv'.shutdownPool (h : CInv' fx ths av st q tc ps pl gl) :
    CInv' fx ((ths.map wakeTask).map wakeAvail) av st q tc true pl gl := by
  have hc : SameCounts [isReg, isLive, holdsP, holdsG] ths ((ths.map wakeTask).map wakeAvail) :=
    (sameCounts_map wakeTask (wakeTask_eq _ fun _ => rfl) ths).trans
      (sameCounts_map wakeAvail (wakeAvail_eq _ fun _ => rfl) _)
  have e : ((ths.map wakeTask).map wakeAvail).countP isAwake = ths.countP isReg := by
    rw [List.countP_map, List.countP_map]
    congr 1
    funext l
    cases l <;> first | rfl | (rename_i r _; cases r <;> rfl)
  have := reg_eq_awake_add_wait ths
  have hq := h.queue
  exact ⟨(hc isReg (by simp)).symm ▸ h.avail, fun _ => rfl, fun hx => by have := hq hx; omega,
    (hc isLive (by simp)).symm ▸ h.live,
    (hc holdsP (by simp)).trans h.lockP, (hc holdsG (by simp)).trans h.lockG⟩

/-- `queue.push_back(task); task_wakeup.notify_one()` while `available > queue.len()`: the new task is
    covered by the worker just woken or, if nobody sleeps, by one of the awake ones -/
theorem CInv'.enqueue {q' : Nat} (h : CInv' fx ths av st q tc ps pl gl) (hps : ps = false) (hav : q < av) (hq : q' = q + 1)
    (hn : (ths.countP isWWait = 0 ∧ ths' = ths) ∨
      ∃ u w, ths[u]? = some (.wWait w) ∧ ths' = ths.set u (.wWoken w false)) :
    CInv' fx ths' av st q' tc ps pl gl := by
  have hst : st = 0 := by
    rcases Nat.eq_zero_or_pos st with h0 | h0
    · exact h0
    · cases hps ▸ h.stale h0
  have := reg_eq_awake_add_wait ths
  have ha := h.avail
  have hq0 := h.queue
  rcases hn with ⟨hz, rfl⟩ | ⟨u, w, hu, rfl⟩
  · exact { h with queue := fun hx => by have := hq0 hx; omega }
  · have e := countP_set_gain isAwake hu (b := .wWoken w false) rfl rfl
    exact { h.awaken hu (b := .wWoken w false) rfl rfl with queue := fun hx => by have := hq0 hx; omega }

theorem countP_pos {α} {p : α → Bool} {l : List α} {a : α} (h : l[t]? = some a) (ha : p a = true) :
    0 < l.countP p :=
  List.countP_pos_iff.mpr ⟨a, List.mem_of_getElem? h, ha⟩

theorem countP_ge {α} (p : α → Bool) {l : List α} {a : α} (h : l[t]? = some a) :
    (if p a then 1 else 0) ≤ l.countP p := by
  split
  · exact countP_pos h ‹_›
  · exact Nat.zero_le _

theorem retLocal_profile (w : WKind) : profile countPreds (retLocal w) = [false, false, true, false, false] := by
  cases w <;> rfl

/-- a worker ends its critical section in local state `b` (registered iff `rb`), with the new values
    of `available`, `stale` and the queue length accounting for it -/
theorem CInv'.workerRel {reg to rb : Bool} {av' st' q' : Nat} {ps' : Bool}
    (h : CInv' fx ths av st q tc ps pl gl) (hg : ths[t]? = some (.wInP w reg to))
    (hb : profile countPreds b = [rb, false, true, false, false])
    (e1 : av' + st + (if reg then 1 else 0) = av + st' + (if rb then 1 else 0))
    (e2 : 0 < st' → ps' = true)
    (e3 : fx = true → q' = 0 ∨ q' + (if reg then 1 else 0) ≤ q) :
    CInv' fx (ths.set t b) av' st' q' tc ps' none gl := by
  simp only [profile, countPreds, List.map, List.cons.injEq, and_true] at hb
  obtain ⟨b1, b2, b3, b4, b5⟩ := hb
  obtain ⟨h1, h2, h3, h4, h5, h6⟩ := h
  have c1 := countP_move isReg hg b
  have c2 := countP_move isAwake hg b
  have c3 := countP_set_same isLive hg (b3.trans rfl)
  have c4 := countP_set_lose holdsP hg rfl b4
  have c5 := countP_set_same holdsG hg (b5.trans rfl)
  have := lockN_le_one pl
  rw [b1] at c1
  rw [b2] at c2
  refine ⟨?_, e2, fun hx => ?_, c3 ▸ h4, ?_, c5 ▸ h6⟩
  · cases reg <;> cases rb <;> simp only [isReg, Bool.false_eq_true, ↓reduceIte] at c1 e1 <;> omega
  · have e3 := e3 hx
    have h3 := h3 hx
    cases reg <;> simp only [isAwake, Bool.false_eq_true, ↓reduceIte] at c2 e3 <;> omega
  · show _ = 0
    omega

theorem cinv_relWorkerBody (dl : Bool) (h : CInv cfg.fixed s) (hg : s.threads[t]? = some (.wInP w reg to)) :
    CInv cfg.fixed (relWorkerBody cfg s t w reg to dl) := by
  have hpos := countP_ge isReg hg
  have ha := h.avail
  have hs := h.stale
  rcases relWorkerBody_cases cfg s t w reg to dl with ⟨e, hq⟩ | ⟨k, q, hq, e⟩ | ⟨hq, hps, e⟩ | ⟨hq, hps, e⟩ <;> rw [e]
  · refine h.workerRel hg (retLocal_profile w) ?_ hs (fun hf => Or.inl (by rw [hq hf]; rfl))
    cases reg <;> simp only [isReg, State.setT, Bool.false_eq_true, ↓reduceIte] at hpos ⊢ <;> omega
  · refine h.workerRel hg (b := .wRun w k) (rb := false) rfl ?_ hs (fun _ => Or.inr ?_)
    · cases reg <;> simp only [isReg, State.setT, Bool.false_eq_true, ↓reduceIte] at hpos ⊢ <;> omega
    · simp only [hq, List.length_cons]; split <;> omega
  · refine h.workerRel hg (retLocal_profile w) ?_ (fun _ => hps) (fun _ => Or.inl (by rw [hq]; rfl))
    cases reg <;> simp only [isReg, State.setT, Bool.false_eq_true, ↓reduceIte] at hpos ⊢ <;> omega
  · refine h.workerRel hg (b := .wWait w) (rb := true) rfl ?_ hs (fun _ => Or.inl (by rw [hq]; rfl))
    cases reg <;> simp only [isReg, State.setT, Bool.false_eq_true, ↓reduceIte] at hpos ⊢ <;> omega

theorem cinv_relWorker (h : CInv cfg.fixed s) (hg : s.threads[t]? = some (.wInP w reg to))
    (hn : relWorker cfg s t w reg to target dl = some s') : CInv cfg.fixed s' := by
  have h2 := cinv_relWorkerBody dl h hg
  unfold relWorker at hn
  cases reg
  · obtain ⟨ths, hno, rfl⟩ := Option.map_eq_some_iff.mp hn
    rcases notify_avail_spec hno with ⟨_, rfl⟩ | ⟨u, k, hu, rfl⟩
    · exact h2
    · exact h2.move hu rfl
  · simp only [↓reduceIte] at hn
    split at hn
    · cases hn; exact h2
    · cases hn

theorem cinv_init : CInv fx init := ⟨rfl, nofun, fun _ => Nat.le_refl _, rfl, rfl, rfl⟩

theorem cinv_push (h : CInv fx s)
    (hg : s.threads[t]? = some a) (ha : a = .subInP k ∨ a = .sosInP k) (hav : s.available > s.queue.length)
    (hsh : s.pShutting = false)
    (hn : pushTask s t k target = some s') : CInv fx s' := by
  obtain ⟨ths, hno, rfl⟩ := Option.map_eq_some_iff.mp hn
  have h1 : CInv' fx (s.threads.set t .idle) s.available s.stale s.queue.length s.threadCount s.pShutting none s.gLock := by
    rcases ha with rfl | rfl <;> exact h.releaseP hg rfl rfl rfl
  exact h1.enqueue hsh hav List.length_append (notify_task_spec hno)

theorem isIdle_get (h : isIdle s t = true) : s.threads[t]? = some .idle := by
  simpa [isIdle] using h

end QV.Pool
