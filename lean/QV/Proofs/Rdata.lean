/-
  QV.Proofs.Rdata — helper lemmas for C18 / C19: wire-form names at list level, the bridge between
  the model's uncompressed-name functions and `QV.Spec.WireName`; layouts (`Splits`) and their
  deterministic splitter, which the name-bearing validators compute (`validate*_computes`, `⇓` of
  QV.Proofs.Computes) and against which `equals_as_*` are stated;
  name equality; dispatch through the generated tables (`fmtOf`); self-delimiting items (`Item`:
  character-strings of HINFO and TXT, EDNS options, the length-prefixed fields of TSIG RDATA);
  `validateFmt_iff`: validation = the RFC grammar, format by format.
-/
import QV.Proofs.Wire
import QV.Proofs.Computes
import QV.Model.Rdata
import QV.Spec.Rdata

namespace QV.Rdata
open QV QV.Wire QV.Spec

/-! ### wire-form names at list level -/

/-- list-level description of an uncompressed wire-form name with `n` labels (root included) -/
inductive LName : List UInt8 → Nat → Prop
  | root : LName [0] 1
  | label {l : UInt8} {body rest : List UInt8} {n : Nat} (h0 : l ≠ 0) (h63 : l.toNat ≤ 63)
      (hb : body.length = l.toNat) (tl : LName rest n) : LName (l :: (body ++ rest)) (n + 1)

theorem LName.pos {w n} (h : LName w n) : 0 < w.length ∧ 0 < n := by
  cases h <;> simp

/-- every decoded name (compressed or not) is a well-formed wire name -/
theorem decodes_lname {msg : Bytes} {pos cs : Nat} {w : List UInt8} {n k : Nat}
    (hd : Decodes msg pos cs w n k) : LName w n := by
  induction hd with
  | null h h0 => exact LName.root
  | @label pos cs w n k h h0 h63 hin rest ih =>
    rw [extract_cons msg pos _ h]
    simp only [List.cons_append]
    exact LName.label h0 h63 (by simp; omega) ih
  | ptr h hp hb rest ih => exact ih

/-- without pointers (chunk start 0) the name is the octets it occupies -/
theorem decodes0_extract {b : Bytes} {pos cs : Nat} {w : List UInt8} {n k : Nat}
    (hd : Decodes b pos cs w n k) (hcs : cs = 0) :
    w = (b.extract pos (pos + k)).toList ∧ k = w.length ∧ pos + k ≤ b.size := by
  induction hd with
  | @null pos cs h h0 =>
    refine ⟨?_, rfl, by omega⟩
    apply List.ext_getElem
    · simp; omega
    · intro i h1 h2; simp at h1; subst h1; simp [h0]
  | @label pos cs w n k h h0 h63 hin rest ih =>
    obtain ⟨e1, e2, e3⟩ := ih hcs
    refine ⟨?_, ?_, by omega⟩
    · have e : pos + b[pos].toNat + 1 + k = pos + (b[pos].toNat + 1 + k) := by omega
      rw [e] at e1
      rw [extract_split b pos (pos + b[pos].toNat + 1) (pos + (b[pos].toNat + 1 + k)) (by omega) (by omega), ← e1]
    · simp; omega
  | ptr h hp hb rest ih => omega

/-- a region holding `x ++ y` holds `x`, then `y` -/
theorem extract_append (b : Bytes) (pos : Nat) (x y : List UInt8)
    (h : (b.extract pos (pos + (x.length + y.length))).toList = x ++ y) (hs : pos + (x.length + y.length) ≤ b.size) :
    (b.extract pos (pos + x.length)).toList = x ∧
    (b.extract (pos + x.length) (pos + x.length + y.length)).toList = y := by
  have hsplit := extract_split b pos (pos + x.length) (pos + (x.length + y.length)) (by omega) (by omega)
  rw [h] at hsplit
  obtain ⟨e1, e2⟩ := List.append_inj hsplit (by simp; omega)
  exact ⟨e1.symm, by rw [Nat.add_assoc]; exact e2.symm⟩

/-- a well-formed wire name lying at `pos` of a buffer decodes there, whatever the chunk start -/
theorem lname_decodes {w : List UInt8} {n : Nat} (h : LName w n) :
    ∀ (b : Bytes) (pos cs : Nat), (b.extract pos (pos + w.length)).toList = w → pos + w.length ≤ b.size →
      Decodes b pos cs w n w.length := by
  induction h with
  | root =>
    intro b pos cs hx hs
    obtain ⟨hlt, h0⟩ := extract_head b _ _ _ _ hx
    exact Decodes.null hlt h0
  | @label l body rest n h0 h63 hb tl ih =>
    intro b pos cs hx hs
    have hl : (l :: (body ++ rest)).length = (l :: body).length + rest.length := by simp; omega
    rw [hl] at hx hs ⊢
    obtain ⟨e1, e2⟩ := extract_append b pos (l :: body) rest hx hs
    obtain ⟨hlt, hbl⟩ := extract_head b _ _ _ _ e1
    simp only [List.length_cons, hb, ← hbl, ← Nat.add_assoc] at e1 e2 hs ⊢
    have := Decodes.label (cs := cs) hlt (hbl ▸ h0) (hbl ▸ h63) (by omega) (ih b _ cs e2 (by omega))
    rwa [e1] at this

/-! ### the model's uncompressed-name functions at list level -/

theorem wireName_iff (w : List UInt8) : WireName w ↔ ∃ n, LName w n ∧ w.length ≤ 255 := by
  constructor
  · rintro ⟨n, hd, hl⟩
    exact ⟨n, decodes_lname hd, hl⟩
  · rintro ⟨n, hl, hlen⟩
    refine ⟨n, ?_, hlen⟩
    exact lname_decodes hl w.toArray 0 0 (by simp) (by simp)

/-- spec ⇒ model for the uncompressed-name loop -/
theorem uncompAux_complete (b : Bytes) {off cs : Nat} {w : List UInt8} {n k : Nat}
    (hd : Decodes b off cs w n k) (hcs : cs = 0) :
    ∀ nl, off + k ≤ 255 → uncompAux b false off nl = .ok (off + k, nl + n) := by
  obtain ⟨c1, c2, c3⟩ := consts
  induction hd with
  | @null pos cs h h0 =>
    intro nl hk
    rw [uncompAux]
    have e1 : ¬ (pos + 0 + 1 > 255) := by omega
    simp [h, h0, c1, c2, e1]
  | @label pos cs w n k h h0 h63 hin rest ih =>
    intro nl hk
    rw [uncompAux]
    have e1 : ¬ (b[pos].toNat > 63) := by omega
    have e2 : ¬ (pos + b[pos].toNat + 1 > 255) := by omega
    simp only [h, dite_true, c1, c2, e1, e2, if_false, h0, Bool.false_and, Bool.false_eq_true]
    rw [ih hcs (nl + 1) (by omega)]
    congr 2 <;> omega
  | ptr h hp hb rest ih => omega

theorem uncompAux_ok_iff (b : Bytes) (e n : Nat) :
    uncompAux b false 0 0 = .ok (e, n) ↔ ∃ w rest, b.toList = w ++ rest ∧ LName w n ∧ w.length = e ∧ e ≤ 255 := by
  constructor
  · intro h
    obtain ⟨hd, h1, h2, h3, h4⟩ := uncompAux_sound b false 0 0 e n h
    simp only [Nat.sub_zero] at hd
    refine ⟨(b.extract 0 e).toList, (b.extract e b.size).toList, ?_, decodes_lname hd, by simp; omega, h3⟩
    rw [← extract_split b 0 e b.size (by omega) h2]
    simp
  · rintro ⟨w, rest, hb, hl, hlen, h255⟩
    have hd := lname_decodes hl b 0 0 (by simp [hb])
      (by have := congrArg List.length hb; simp at this; omega)
    have := uncompAux_complete b hd rfl 0 (by omega)
    simpa [hlen] using this


theorem lname_prefix_unique {w w' : List UInt8} {n n' : Nat} {x y : List UInt8}
    (h : LName w n) : LName w' n' → w ++ x = w' ++ y → w = w' ∧ n = n' ∧ x = y := by
  induction h generalizing w' n' with
  | root =>
    intro h' e
    cases h' with
    | root => simpa using e
    | label h0 => simp at e; exact absurd e.1.symm h0
  | @label l body rest n h0 h63 hb tl ih =>
    intro h' e
    cases h' with
    | root => simp at e; exact absurd e.1 h0
    | @label l' body' rest' n' h0' h63' hb' tl' =>
      simp only [List.cons_append, List.cons.injEq, List.append_assoc] at e
      obtain ⟨el, e2⟩ := e
      subst el
      obtain ⟨eb, er⟩ := List.append_inj e2 (by omega)
      subst eb
      obtain ⟨a, b, c⟩ := ih tl' er
      subst a b c
      exact ⟨rfl, rfl, rfl⟩

theorem validateU_no_panic (b : Bytes) (u : Bool) : validateUncompressed b u ≠ .panic := by
  unfold validateUncompressed
  have := uncompAux_no_panic b 0 0
  cases h : uncompAux b false 0 0 <;> simp_all
  split <;> simp

theorem validateU_false_iff (b : Bytes) (k : Nat) :
    validateUncompressed b false = .ok k ↔ ∃ w rest, b.toList = w ++ rest ∧ WireName w ∧ w.length = k := by
  unfold validateUncompressed
  cases h : uncompAux b false 0 0 with
  | ok r =>
    obtain ⟨e, n⟩ := r
    obtain ⟨w, rest, hb, hl, hlen, h255⟩ := (uncompAux_ok_iff b e n).mp h
    simp only [Bool.false_and, Bool.false_eq_true, if_false, Out.ok.injEq]
    constructor
    · intro ek; subst ek
      exact ⟨w, rest, hb, (wireName_iff w).mpr ⟨n, hl, by omega⟩, hlen⟩
    · rintro ⟨w', rest', hb', hw', hlen'⟩
      obtain ⟨n', hl', _⟩ := (wireName_iff w').mp hw'
      obtain ⟨a, _, _⟩ := lname_prefix_unique hl hl' (hb.symm.trans hb')
      subst a; omega
  | err e =>
    simp only [reduceCtorEq, false_iff]
    rintro ⟨w, rest, hb, hw, hlen⟩
    obtain ⟨n, hl, h255⟩ := (wireName_iff w).mp hw
    have := (uncompAux_ok_iff b w.length n).mpr ⟨w, rest, hb, hl, rfl, h255⟩
    rw [h] at this; cases this
  | panic => exact absurd h (uncompAux_no_panic b 0 0)

theorem validateU_true_eq (b : Bytes) :
    validateUncompressed b true =
      match validateUncompressed b false with
      | .ok k => if k < b.size then .err .ExtraData else .ok k
      | .err e => .err e
      | .panic => .panic := by
  unfold validateUncompressed
  cases uncompAux b false 0 0 with
  | ok r => obtain ⟨a, c⟩ := r; simp
  | err e => rfl
  | panic => rfl

theorem validateU_true_iff (b : Bytes) (k : Nat) :
    validateUncompressed b true = .ok k ↔ WireName b.toList ∧ k = b.size := by
  rw [validateU_true_eq]
  constructor
  · intro h
    cases hv : validateUncompressed b false with
    | ok k' =>
      obtain ⟨w, rest, hb, hw, hlen⟩ := (validateU_false_iff b k').mp hv
      have hsz : b.size = w.length + rest.length := by simpa using congrArg List.length hb
      simp only [hv] at h
      split at h <;> cases h
      obtain rfl : rest = [] := List.eq_nil_of_length_eq_zero (by omega)
      rw [hb, List.append_nil]
      exact ⟨hw, by omega⟩
    | err e => rw [hv] at h; cases h
    | panic => rw [hv] at h; cases h
  · rintro ⟨hw, rfl⟩
    rw [(validateU_false_iff b b.size).mpr ⟨b.toList, [], by simp, hw, by simp⟩]
    simp

/-! ### Splits -/

@[simp] theorem splits_nil_iff (r : List UInt8) (fs : List (List UInt8)) :
    Splits [] r fs ↔ r = [] ∧ fs = [] := by
  constructor
  · intro h; cases h; exact ⟨rfl, rfl⟩
  · rintro ⟨rfl, rfl⟩; exact Splits.nil

theorem splits_name_iff (ls : List Field) (r : List UInt8) (fs : List (List UInt8)) :
    Splits (.name :: ls) r fs ↔
      ∃ w rest fs', r = w ++ rest ∧ fs = w :: fs' ∧ WireName w ∧ Splits ls rest fs' := by
  constructor
  · intro h; cases h with | name hw tl => exact ⟨_, _, _, rfl, rfl, hw, tl⟩
  · rintro ⟨w, rest, fs', rfl, rfl, hw, tl⟩; exact Splits.name hw tl

theorem splits_fixed_iff (n : Nat) (ls : List Field) (r : List UInt8) (fs : List (List UInt8)) :
    Splits (.fixed n :: ls) r fs ↔
      ∃ f rest fs', r = f ++ rest ∧ fs = f :: fs' ∧ f.length = n ∧ Splits ls rest fs' := by
  constructor
  · intro h; cases h with | fixed hf tl => exact ⟨_, _, _, rfl, rfl, hf, tl⟩
  · rintro ⟨f, rest, fs', rfl, rfl, hf, tl⟩; exact Splits.fixed hf tl

/-- length of the uncompressed name at the start of a list (the model's validator, on lists) -/
def unameLen (r : List UInt8) : Option Nat := (validateUncompressed r.toArray false).toOption

theorem unameLen_some (r : List UInt8) (k : Nat) :
    unameLen r = some k ↔ ∃ w rest, r = w ++ rest ∧ WireName w ∧ w.length = k := by
  unfold unameLen
  rw [← validateU_false_iff r.toArray k]
  cases validateUncompressed r.toArray false <;> simp [Out.toOption]

theorem unameLen_le (r : List UInt8) (k : Nat) (h : unameLen r = some k) : k ≤ r.length ∧ 0 < k := by
  obtain ⟨w, rest, rfl, hw, rfl⟩ := (unameLen_some r k).mp h
  obtain ⟨n, hl, _⟩ := (wireName_iff w).mp hw
  have := hl.pos
  simp; omega

/-- deterministic splitting of RDATA along a layout -/
def split? : List Field → List UInt8 → Option (List (List UInt8))
  | [], r => if r = [] then some [] else none
  | .name :: ls, r =>
    match unameLen r with
    | some k => (split? ls (r.drop k)).map (fun fs => r.take k :: fs)
    | none => none
  | .fixed n :: ls, r =>
    if n ≤ r.length then (split? ls (r.drop n)).map (fun fs => r.take n :: fs) else none

theorem split?_iff (l : List Field) : ∀ (r : List UInt8) (fs : List (List UInt8)),
    split? l r = some fs ↔ Splits l r fs := by
  induction l with
  | nil => intro r fs; simp [split?]
  | cons f ls ih =>
    intro r fs
    cases f with
    | name =>
      rw [splits_name_iff]
      simp only [split?]
      constructor
      · intro h
        cases hk : unameLen r with
        | none => simp [hk] at h
        | some k =>
          simp only [hk, Option.map_eq_some_iff] at h
          obtain ⟨fs', h1, h2⟩ := h
          obtain ⟨w, rest, hr, hw, hl⟩ := (unameLen_some r k).mp hk
          subst hr hl
          simp at h1 h2
          exact ⟨w, rest, fs', rfl, h2.symm, hw, (ih _ _).mp h1⟩
      · rintro ⟨w, rest, fs', rfl, rfl, hw, tl⟩
        have hk : unameLen (w ++ rest) = some w.length := (unameLen_some _ _).mpr ⟨w, rest, rfl, hw, rfl⟩
        simp [hk, (ih _ _).mpr tl]
    | fixed n =>
      rw [splits_fixed_iff]
      simp only [split?]
      constructor
      · intro h
        split at h
        · rename_i hn
          simp only [Option.map_eq_some_iff] at h
          obtain ⟨fs', h1, h2⟩ := h
          exact ⟨r.take n, r.drop n, fs', by simp, h2.symm, by simp; omega, (ih _ _).mp h1⟩
        · cases h
      · rintro ⟨f, rest, fs', rfl, rfl, hf, tl⟩
        subst hf
        simp [(ih _ _).mpr tl]

theorem splits_unique {l r fs fs'} (h : Splits l r fs) (h' : Splits l r fs') : fs = fs' := by
  have a := (split?_iff l r fs).mpr h
  have b := (split?_iff l r fs').mpr h'
  rw [a] at b; cases b; rfl

theorem isSome_split_iff (l : List Field) (r : List UInt8) :
    (split? l r).isSome ↔ ∃ fs, Splits l r fs := by
  constructor
  · intro h
    cases hs : split? l r with
    | none => rw [hs] at h; cases h
    | some fs => exact ⟨fs, (split?_iff l r fs).mp hs⟩
  · rintro ⟨fs, h⟩
    rw [(split?_iff l r fs).mpr h]; rfl

theorem split?_fixed_last (n : Nat) (A : List UInt8) :
    split? [.fixed n] A = if A.length = n then some [A] else none := by
  simp only [split?, List.drop_eq_nil_iff]
  by_cases h : A.length = n
  · subst h; simp
  · rw [if_neg h]
    by_cases h1 : n ≤ A.length
    · rw [if_pos h1, if_neg (by omega)]; rfl
    · rw [if_neg h1]

/-! ### validation of the name-bearing formats = deterministic splitting -/

@[simp] theorem unameLen_toList (b : Bytes) : unameLen b.toList = (validateUncompressed b false).toOption := by
  simp [unameLen]

theorem validateU_le (b : Bytes) (k : Nat) (h : validateUncompressed b false = .ok k) : k ≤ b.size ∧ 0 < k := by
  have := unameLen_le b.toList k (by simp [h, Out.toOption])
  simpa using this

@[simp] theorem sliceFrom_ok (b : Bytes) (i : Nat) (h : i ≤ b.size) :
    sliceFrom b i = .ok (b.extract i b.size) := by simp [sliceFrom, h]


-- `unameLen r.toList` unfolds to the validator on `r.toList.toArray`, which is `r` by `rfl`
theorem uname_computes (r : Bytes) : liftName (validateUncompressed r false) ⇓ unameLen r.toList :=
  Computes.mapErr ⟨validateU_no_panic r false, rfl⟩ _

/-- `all = true`: the name must fill the slice -/
theorem unameAll_computes (r : Bytes) :
    liftName (validateUncompressed r true) ⇓ (unameLen r.toList).bind fun k => if r.size ≤ k then some k else none := by
  refine Computes.mapErr ⟨validateU_no_panic r true, ?_⟩ _
  rw [validateU_true_eq, unameLen_toList]
  cases validateUncompressed r false with
  | ok k => by_cases h : k < r.size <;> simp [h, Out.toOption] <;> omega
  | err e => rfl
  | panic => rfl

/-- "the octets split along the layout" as a partial function to `Unit`; the lemmas below give it in
    the form in which the validators walk it: one field at a time, a last field filling the rest -/
def wf? (l : List Field) (A : List UInt8) : Option Unit := (split? l A).map fun _ => ()

theorem wf?_name (ls : List Field) (A : List UInt8) :
    wf? (.name :: ls) A = (unameLen A).bind fun k => wf? ls (A.drop k) := by
  unfold wf?; simp only [split?]; cases unameLen A <;> simp

theorem wf?_fixed (n : Nat) (ls : List Field) (A : List UInt8) :
    wf? (.fixed n :: ls) A = if n ≤ A.length then wf? ls (A.drop n) else none := by
  unfold wf?; simp only [split?]; split <;> simp

theorem wf?_fixed_last (n : Nat) (A : List UInt8) :
    wf? [.fixed n] A = if A.length = n then some () else none := by
  unfold wf?; rw [split?_fixed_last]; split <;> rfl

theorem wf?_name_last (A : List UInt8) :
    wf? [.name] A = (unameLen A).bind fun k => if A.length ≤ k then some () else none := by
  rw [wf?_name]; congr 1; funext k
  simp [wf?, split?]

theorem wf?_iff (l : List Field) (A : List UInt8) : wf? l A = some () ↔ ∃ fs, Splits l A fs := by
  rw [← isSome_split_iff, wf?]; cases split? l A <;> simp

/-! The validators of the six name-bearing formats.  The Rust functions test the total length once
    at the end where `wf?` tests field by field; that arithmetic is all a proof has to supply. -/

theorem validateName_computes (r : Bytes) : validateName r ⇓ wf? [.name] r.toList := by
  rw [wf?_name_last]
  exact ((unameAll_computes r).map fun _ => ()).congr (by cases unameLen r.toList <;> simp)

theorem validateAsChA_computes (r : Bytes) : validateAsChA r ⇓ wf? [.name, .fixed 2] r.toList := by
  rw [wf?_name]
  refine (uname_computes r).bind fun k hk => ?_
  obtain ⟨hk, _⟩ := unameLen_le _ _ hk
  rw [wf?_fixed_last]
  exact Computes.test _ _ (by simp at hk ⊢; omega)

theorem validateAsSoa_computes (r : Bytes) : validateAsSoa r ⇓ wf? [.name, .name, .fixed 20] r.toList := by
  rw [wf?_name]
  refine (uname_computes r).bind fun k1 h1 => ?_
  obtain ⟨h1, _⟩ := unameLen_le _ _ h1
  rw [Array.length_toList] at h1
  rw [sliceFrom_ok r k1 h1, Out.bind_ok, wf?_name, ← toList_extract_from]
  refine (uname_computes _).bind fun k2 h2 => ?_
  obtain ⟨h2, _⟩ := unameLen_le _ _ h2
  rw [wf?_fixed_last]
  exact Computes.test _ _ (by simp at h2 ⊢; omega)

theorem validateAsMinfo_computes (r : Bytes) : validateAsMinfo r ⇓ wf? [.name, .name] r.toList := by
  rw [wf?_name]
  refine (uname_computes r).bind fun k1 h1 => ?_
  obtain ⟨h1, _⟩ := unameLen_le _ _ h1
  rw [Array.length_toList] at h1
  rw [sliceFrom_ok r k1 h1, Out.bind_ok, ← toList_extract_from]
  exact validateName_computes _

/-- `validate_as_mx` (`n = 2`) and `validate_as_in_srv` (`n = 6`) -/
theorem validateFixedName_computes (n : Nat) (r : Bytes) :
    (if n ≤ r.size then liftName (validateUncompressed (r.extract n r.size) true) >>= fun _ => .ok ()
     else (.err .Other : Out RErr Unit)) ⇓ wf? [.fixed n, .name] r.toList := by
  rw [wf?_fixed, Array.length_toList, ← toList_extract_from]
  exact Computes.guard _ fun _ => validateName_computes _

/-! ### name equality -/

theorem lower_eq (b : UInt8) : lowerU8 b = specLower b := rfl

theorem lower_small_inj (l l' : UInt8) (h : l.toNat ≤ 63) (h' : l'.toNat ≤ 63) :
    specLower l = specLower l' ↔ l = l' := by
  rw [← lower_eq, ← lower_eq, lowerU8_of_le63 l h, lowerU8_of_le63 l' h']

theorem labelEq_iff (a b : List UInt8) :
    labelEq a b = true ↔ a.length = b.length ∧ a.map specLower = b.map specLower := by
  unfold labelEq
  induction a generalizing b with
  | nil => cases b <;> simp
  | cons x xs ih =>
    cases b with
    | nil => simp
    | cons y ys =>
      have := ih ys
      simp [lower_eq] at this ⊢
      intro h1 _
      exact this h1

def lblsEq (a b : List (List UInt8)) : Bool := (a.zip b).all (fun x => labelEq x.1 x.2)

theorem labelsOf_root : labelsOf [0] = [[]] := by
  rw [labelsOf]; simp; rw [labelsOf]

theorem labelsOf_label (l : UInt8) (body rest : List UInt8) (hb : body.length = l.toNat) :
    labelsOf (l :: (body ++ rest)) = body :: labelsOf rest := by
  rw [labelsOf]
  rw [← hb]
  simp

theorem nameEq_aux {w : List UInt8} {n : Nat} (h : LName w n) :
    ∀ {w' : List UInt8} {n' : Nat}, LName w' n' →
      ((n == n' && lblsEq (labelsOf w) (labelsOf w')) = true ↔ w.map specLower = w'.map specLower) := by
  induction h with
  | root =>
    intro w' n' h'
    cases h' with
    | root => simp [labelsOf_root, lblsEq, labelEq]
    | @label l' body' rest' m h0' h63' hb' tl' =>
      have := tl'.pos
      have e : ¬ (m = 0) := by omega
      have : rest' ≠ [] := by intro e; rw [e] at this; simp at this
      simp [e, this]
  | @label l body rest n h0 h63 hb tl ih =>
    intro w' n' h'
    cases h' with
    | root =>
      have := tl.pos
      have e : ¬ (n = 0) := by omega
      have : rest ≠ [] := by intro e; rw [e] at this; simp at this
      simp [e, this]
    | @label l' body' rest' m h0' h63' hb' tl' =>
      rw [labelsOf_label l body rest hb, labelsOf_label l' body' rest' hb']
      have ih' := ih tl'
      simp only [lblsEq, List.zip_cons_cons, List.all_cons, Bool.and_eq_true, beq_iff_eq] at ih' ⊢
      rw [labelEq_iff]
      simp only [List.map_cons, List.map_append, List.cons.injEq, Nat.add_right_cancel_iff]
      rw [lower_small_inj l l' h63 h63']
      constructor
      · rintro ⟨hn, ⟨hlen, hbody⟩, hrest⟩
        have hl : l = l' := by
          apply UInt8.toNat_inj.mp; omega
        refine ⟨hl, ?_⟩
        rw [hbody, (ih'.mp ⟨hn, hrest⟩)]
      · rintro ⟨hl, happ⟩
        subst hl
        have hlen : body.length = body'.length := by omega
        obtain ⟨e1, e2⟩ := List.append_inj happ (by simp [hlen])
        have := ih'.mpr e2
        exact ⟨this.1, ⟨hlen, e1⟩, this.2⟩

theorem nameEq_iff (p q : Parsed) (hp : LName p.wire p.nlabels) (hq : LName q.wire q.nlabels) :
    nameEq p q = true ↔ NameCiEq p.wire q.wire := by
  unfold nameEq NameCiEq
  exact nameEq_aux hp hq


theorem parseU_ok (x : Bytes) (p : Parsed) (h : parseUncompressed x false = .ok p) :
    ∃ rest, x.toList = p.wire ++ rest ∧ LName p.wire p.nlabels ∧ p.len = p.wire.length ∧
      validateUncompressed x false = .ok p.len := by
  have hv := (validate_iff_parse x false p.len).mpr ⟨p, h, rfl⟩
  unfold parseUncompressed at h
  rw [uncompAux_track x 0 0 (by omega) (by omega)] at h
  cases hu : uncompAux x false 0 0 with
  | ok r =>
    obtain ⟨off, nl⟩ := r
    rw [hu] at h
    simp at h
    obtain ⟨w, rest, hb, hl, hlen, h255⟩ := (uncompAux_ok_iff x off nl).mp hu
    subst h
    have : List.take off x.toList = w := by rw [hb, ← hlen]; simp
    simp only [this]
    exact ⟨rest, hb, hl, hlen.symm, hv⟩
  | err e => rw [hu] at h; cases h
  | panic => rw [hu] at h; cases h

/-- `parse_uncompressed_name` against the validator (`unameLen`): it fails with it, or yields the
    name that lies there -/
theorem parseU_cases (x : Bytes) :
    (∃ e, parseUncompressed x false = .err e ∧ unameLen x.toList = none) ∨
    (∃ p, parseUncompressed x false = .ok p ∧ unameLen x.toList = some p.len ∧ LName p.wire p.nlabels ∧
      x.toList.take p.len = p.wire) := by
  cases h : parseUncompressed x false with
  | panic => exact absurd h (parseUncompressed_no_panic x false)
  | err e => exact .inl ⟨e, rfl, by simp [(validate_err_iff_parse _ false e).mpr h, Out.toOption]⟩
  | ok p =>
    obtain ⟨rest, hx, hl, hk, hv⟩ := parseU_ok x p h
    exact .inr ⟨p, rfl, by simp [hv, Out.toOption], hl, by rw [hx, hk]; simp⟩

/-- one iteration of `test_n_name_fields`, at list level -/
theorem tnf_step (a b : Bytes) (n off : Nat) (ha : off ≤ a.size) (hb : off ≤ b.size) :
    testNNameFieldsAux a b (n + 1) off =
      match unameLen (a.toList.drop off), unameLen (b.toList.drop off) with
      | none, none => .ok none
      | some ka, some kb =>
        if NameCiEq ((a.toList.drop off).take ka) ((b.toList.drop off).take kb)
        then testNNameFieldsAux a b n (off + ka) else .ok (some none)
      | _, _ => .ok (some none) := by
  conv => lhs; unfold testNNameFieldsAux
  simp only [sliceFrom_ok a off ha, sliceFrom_ok b off hb, Out.bind_ok, ← toList_extract_from]
  rcases parseU_cases (a.extract off a.size) with ⟨ea, hpa, va⟩ | ⟨p, hpa, va, hla, e1⟩ <;>
    rcases parseU_cases (b.extract off b.size) with ⟨eb, hpb, vb⟩ | ⟨q, hpb, vb, hlb, e2⟩ <;>
    simp only [hpa, hpb, va, vb]
  rw [e1, e2]
  by_cases hne : nameEq p q = true
  · simp [hne, (nameEq_iff p q hla hlb).mp hne]
  · have : ¬ NameCiEq p.wire q.wire := fun h => hne ((nameEq_iff p q hla hlb).mpr h)
    simp [hne, this]

/-! ### equality: the Boolean `eqB` over the deterministic splitter, and what it decides -/

/-- field-wise comparison when both sides split along the layout, `fallback` otherwise -/
def eqB' (l : List Field) (a b : List UInt8) (fallback : Bool) : Bool :=
  match split? l a, split? l b with
  | some fa, some fb => specFieldsEq l fa fb
  | _, _ => fallback

/-- Boolean form of `SpecEq` for a layout, over the deterministic splitter -/
def eqB (l : List Field) (a b : List UInt8) : Bool := eqB' l a b (decide (a = b))

theorem bytesEq_eq_decide (a b : Bytes) : bytesEq a b = decide (a.toList = b.toList) := by
  unfold bytesEq
  by_cases h : a = b
  · subst h; simp
  · have : a.toList ≠ b.toList := fun e => h (Array.toList_inj.mp e)
    simp [h, this]

theorem specFieldsEq_iff (l : List Field) : ∀ (fa fb : List (List UInt8)),
    specFieldsEq l fa fb = true ↔ FieldsEq l fa fb := by
  induction l with
  | nil =>
    intro fa fb
    cases fa <;> cases fb <;> simp [specFieldsEq]
    · exact FieldsEq.nil
    all_goals (intro h; cases h)
  | cons f ls ih =>
    intro fa fb
    cases fa with
    | nil => cases f <;> simp [specFieldsEq] <;> (intro h; cases h)
    | cons x xs =>
      cases fb with
      | nil => cases f <;> simp [specFieldsEq] <;> (intro h; cases h)
      | cons y ys =>
        cases f with
        | name =>
          simp only [specFieldsEq, Bool.and_eq_true, beq_iff_eq, ih]
          constructor
          · rintro ⟨h1, h2⟩; exact FieldsEq.name h1 h2
          · intro h; cases h with | name h1 h2 => exact ⟨h1, h2⟩
        | fixed n =>
          simp only [specFieldsEq, Bool.and_eq_true, beq_iff_eq, ih]
          constructor
          · rintro ⟨h1, h2⟩; exact FieldsEq.fixed h1 h2
          · intro h; cases h with | fixed h1 h2 => exact ⟨h1, h2⟩

theorem fieldsEq_refl {l a fa} (h : Splits l a fa) : FieldsEq l fa fa := by
  induction h with
  | nil => exact FieldsEq.nil
  | name hw tl ih => exact FieldsEq.name rfl ih
  | fixed hf tl ih => exact FieldsEq.fixed rfl ih

theorem fieldsEq_symm {l fa fb} (h : FieldsEq l fa fb) : FieldsEq l fb fa := by
  induction h with
  | nil => exact FieldsEq.nil
  | name h tl ih => exact FieldsEq.name h.symm ih
  | fixed h tl ih => exact FieldsEq.fixed h.symm ih

theorem fieldsEq_trans {l fa fb fc} (h : FieldsEq l fa fb) : FieldsEq l fb fc → FieldsEq l fa fc := by
  induction h generalizing fc with
  | nil => intro h2; exact h2
  | name h tl ih => intro h2; cases h2 with | name h' tl' => exact FieldsEq.name (h.trans h') (ih tl')
  | fixed h tl ih => intro h2; cases h2 with | fixed h' tl' => exact FieldsEq.fixed (h.trans h') (ih tl')

/-- `SpecEq` with the layout made explicit -/
def LayoutEq (l : List Field) (a b : List UInt8) : Prop :=
  (∃ fa fb, Splits l a fa ∧ Splits l b fb ∧ FieldsEq l fa fb) ∨
  (¬ ((∃ fa, Splits l a fa) ∧ (∃ fb, Splits l b fb)) ∧ a = b)

theorem eqB_iff (l : List Field) (a b : List UInt8) : eqB l a b = true ↔ LayoutEq l a b := by
  unfold eqB eqB' LayoutEq
  cases hA : split? l a with
  | none =>
    have na : ¬ ∃ fa, Splits l a fa := by rw [← isSome_split_iff, hA]; exact Bool.false_ne_true
    simp only [decide_eq_true_eq]
    constructor
    · intro e; exact Or.inr ⟨fun h => na h.1, e⟩
    · rintro (⟨fa, _, h, _⟩ | ⟨_, e⟩)
      · exact absurd ⟨fa, h⟩ na
      · exact e
  | some fa =>
    have sa := (split?_iff l a fa).mp hA
    cases hB : split? l b with
    | none =>
      have nb : ¬ ∃ fb, Splits l b fb := by rw [← isSome_split_iff, hB]; exact Bool.false_ne_true
      simp only [decide_eq_true_eq]
      constructor
      · intro e; exact Or.inr ⟨fun h => nb h.2, e⟩
      · rintro (⟨_, fb, _, h, _⟩ | ⟨_, e⟩)
        · exact absurd ⟨fb, h⟩ nb
        · exact e
    | some fb =>
      have sb := (split?_iff l b fb).mp hB
      simp only [specFieldsEq_iff]
      constructor
      · intro h; exact Or.inl ⟨fa, fb, sa, sb, h⟩
      · rintro (⟨fa', fb', ha', hb', h⟩ | ⟨hn, _⟩)
        · rw [splits_unique sa ha', splits_unique sb hb']; exact h
        · exact absurd ⟨⟨fa, sa⟩, ⟨fb, sb⟩⟩ hn

theorem layoutEq_refl (l : List Field) (a : List UInt8) : LayoutEq l a a := by
  by_cases h : ∃ fa, Splits l a fa
  · obtain ⟨fa, h⟩ := h; exact Or.inl ⟨fa, fa, h, h, fieldsEq_refl h⟩
  · exact Or.inr ⟨fun x => h x.1, rfl⟩

theorem layoutEq_symm {l : List Field} {a b : List UInt8} (h : LayoutEq l a b) : LayoutEq l b a := by
  rcases h with ⟨fa, fb, ha, hb, h⟩ | ⟨hn, e⟩
  · exact Or.inl ⟨fb, fa, hb, ha, fieldsEq_symm h⟩
  · exact Or.inr ⟨fun x => hn ⟨x.2, x.1⟩, e.symm⟩

theorem layoutEq_trans {l : List Field} {a b c : List UInt8} (h1 : LayoutEq l a b) (h2 : LayoutEq l b c) :
    LayoutEq l a c := by
  rcases h1 with ⟨fa, fb, ha, hb, h⟩ | ⟨hn, e⟩
  · rcases h2 with ⟨fb', fc, hb', hc, h'⟩ | ⟨hn', e'⟩
    · rw [← splits_unique hb hb'] at h'
      exact Or.inl ⟨fa, fc, ha, hc, fieldsEq_trans h h'⟩
    · subst e'; exact Or.inl ⟨fa, fb, ha, hb, h⟩
  · subst e; exact h2

theorem splits_flatten {l : List Field} {R : List UInt8} {fs : List (List UInt8)} (h : Splits l R fs) :
    fs.flatten = R := by
  induction h with
  | nil => rfl
  | name hw tl ih => simp [ih]
  | fixed hf tl ih => simp [ih]

theorem fieldsEq_length {l fa fb} (h : FieldsEq l fa fb) : fa.flatten.length = fb.flatten.length := by
  induction h with
  | nil => rfl
  | name h tl ih => have := congrArg List.length h; simp only [List.length_map] at this; simp [ih, this]
  | fixed h tl ih => simp [ih, h]

/-- equal RDATA have the same length: case folding changes no length -/
theorem layoutEq_length {l : List Field} {a b : List UInt8} (h : LayoutEq l a b) : a.length = b.length := by
  rcases h with ⟨fa, fb, ha, hb, h⟩ | ⟨_, rfl⟩
  · rw [← splits_flatten ha, ← splits_flatten hb]; exact fieldsEq_length h
  · rfl

theorem eqB_of_size_ne (l : List Field) (a b : Bytes) (h : a.size ≠ b.size) :
    eqB l a.toList b.toList = false := by
  cases he : eqB l a.toList b.toList with
  | false => rfl
  | true => exact absurd (by simpa using layoutEq_length ((eqB_iff l _ _).mp he)) h

/-! ### the `equals_as_*` functions compute `eqB` -/

theorem nameCi_length {x y : List UInt8} (h : NameCiEq x y) : x.length = y.length := by
  have := congrArg List.length h; simpa using this

theorem split?_name_some (ls : List Field) (A : List UInt8) (k : Nat) (h : unameLen A = some k) :
    split? (.name :: ls) A = (split? ls (A.drop k)).map (fun fs => A.take k :: fs) := by
  simp [split?, h]

theorem split?_name_none (ls : List Field) (A : List UInt8) (h : unameLen A = none) :
    split? (.name :: ls) A = none := by
  simp [split?, h]

theorem unameLen_ne {A B : List UInt8} (h : unameLen A ≠ unameLen B) : A ≠ B := by
  intro e; rw [e] at h; exact h rfl

/-! peeling one field off `eqB'` -/

theorem eqB'_name_none_left (ls : List Field) (A B : List UInt8) (fb : Bool) (h : unameLen A = none) :
    eqB' (.name :: ls) A B fb = fb := by
  simp [eqB', split?_name_none _ _ h]

theorem eqB'_name_none_right (ls : List Field) (A B : List UInt8) (fb : Bool) (h : unameLen B = none) :
    eqB' (.name :: ls) A B fb = fb := by
  unfold eqB'
  rw [split?_name_none _ _ h]
  cases split? (Field.name :: ls) A <;> rfl

theorem ne_of_not_ci {A B : List UInt8} {ka kb : Nat} (hA : unameLen A = some ka) (hB : unameLen B = some kb)
    (hci : ¬ NameCiEq (A.take ka) (B.take kb)) : A ≠ B := by
  intro e; subst e; rw [hA] at hB; cases hB; exact hci rfl

theorem eqB'_name_not_ci (ls : List Field) (A B : List UInt8) (ka kb : Nat) (fb : Bool)
    (hA : unameLen A = some ka) (hB : unameLen B = some kb)
    (hci : ¬ NameCiEq (A.take ka) (B.take kb)) (hfb : fb = false) :
    eqB' (.name :: ls) A B fb = false := by
  unfold eqB'
  rw [split?_name_some _ _ _ hA, split?_name_some _ _ _ hB]
  have e : (List.map specLower (List.take ka A) == List.map specLower (List.take kb B)) = false := by
    rw [beq_eq_false_iff_ne]; exact hci
  cases split? ls (A.drop ka) <;> cases split? ls (B.drop kb) <;>
    simp only [specFieldsEq, e, hfb, Option.map_some, Option.map_none, Bool.false_and]

theorem eqB'_name_ci (ls : List Field) (A B : List UInt8) (k : Nat) (fb : Bool)
    (hA : unameLen A = some k) (hB : unameLen B = some k)
    (hci : NameCiEq (A.take k) (B.take k)) :
    eqB' (.name :: ls) A B fb = eqB' ls (A.drop k) (B.drop k) fb := by
  unfold eqB'
  rw [split?_name_some _ _ _ hA, split?_name_some _ _ _ hB]
  have e : (List.map specLower (List.take k A) == List.map specLower (List.take k B)) = true := by
    rw [beq_iff_eq]; exact hci
  cases split? ls (A.drop k) <;> cases split? ls (B.drop k) <;>
    simp only [specFieldsEq, e, Option.map_some, Option.map_none, Bool.true_and]

theorem eqB'_nil (A B : List UInt8) (fb : Bool) :
    eqB' [] A B fb = if A = [] ∧ B = [] then true else fb := by
  unfold eqB'
  simp only [split?]
  by_cases h1 : A = [] <;> by_cases h2 : B = [] <;> simp [h1, h2, specFieldsEq]

theorem eqB'_fixed_last (n : Nat) (A B : List UInt8) (fb : Bool) :
    eqB' [.fixed n] A B fb = if A.length = n ∧ B.length = n then decide (A = B) else fb := by
  unfold eqB'
  rw [split?_fixed_last, split?_fixed_last]
  by_cases h1 : A.length = n <;> by_cases h2 : B.length = n <;> simp [h1, h2, specFieldsEq]
  by_cases h : A = B <;> simp [h]

/-- a leading fixed field is compared octet-wise, the rest along the rest of the layout: when the
    two heads are equal, the octet-wise fallbacks of the two sides agree -/
theorem eqB_fixed_first (n : Nat) (ls : List Field) (A B : List UInt8) (hA : n ≤ A.length) (hB : n ≤ B.length) :
    eqB (.fixed n :: ls) A B = (decide (A.take n = B.take n) && eqB ls (A.drop n) (B.drop n)) := by
  have hd : A = B ↔ A.take n = B.take n ∧ A.drop n = B.drop n :=
    ⟨by rintro rfl; exact ⟨rfl, rfl⟩,
     fun ⟨h1, h2⟩ => by rw [← List.take_append_drop n A, ← List.take_append_drop n B, h1, h2]⟩
  unfold eqB eqB'
  simp only [split?, hA, hB, if_true]
  cases split? ls (A.drop n) <;> cases split? ls (B.drop n) <;>
    simp only [specFieldsEq, Option.map_some, Option.map_none, hd, Bool.decide_and]
  by_cases h : List.take n A = List.take n B <;> simp [h]

theorem drop_ne {A B : List UInt8} {k : Nat} (h : A.drop k ≠ B.drop k) : A ≠ B := by
  intro e; subst e; exact h rfl

@[simp] theorem csub_ok (a b : Nat) (h : b ≤ a) : csub a b = .ok (a - b) := by simp [csub, h]

/-- a caller of `test_n_name_fields` on a layout that begins with `n` names: if the names are all
    there and equal up to offset `e` it goes on with `K e`, which compares the rest; if some name
    differs the answer is `false`; if a name is malformed on both sides it compares octet-wise -/
theorem tnfAux_caller (a b : Bytes) (tail : List Field) (K : Nat → Out RErr Bool) :
    ∀ (n off : Nat), off ≤ a.size → off ≤ b.size →
    (∀ e, off ≤ e → e ≤ a.size → e ≤ b.size →
      K e = .ok (eqB' tail (a.toList.drop e) (b.toList.drop e) (decide (a.toList = b.toList)))) →
    (do match ← testNNameFieldsAux a b n off with
        | some (some len) => K len
        | some none => .ok false
        | none => .ok (bytesEq a b)) =
      .ok (eqB' (List.replicate n .name ++ tail) (a.toList.drop off) (b.toList.drop off) (decide (a.toList = b.toList))) := by
  intro n
  induction n with
  | zero => intro off ha hb hK; exact hK off (Nat.le_refl _) ha hb
  | succ n ih =>
    intro off ha hb hK
    rw [tnf_step a b n off ha hb, List.replicate_succ, List.cons_append]
    cases hA : unameLen (a.toList.drop off) with
    | none =>
      rw [eqB'_name_none_left _ _ _ _ hA]
      cases hB : unameLen (b.toList.drop off) with
      | none => simp [bytesEq_eq_decide]
      | some kb =>
        have hne : a.toList ≠ b.toList := drop_ne (unameLen_ne (by rw [hA, hB]; simp))
        simp [hne]
    | some ka =>
      obtain ⟨hka, _⟩ := unameLen_le _ _ hA
      cases hB : unameLen (b.toList.drop off) with
      | none =>
        rw [eqB'_name_none_right _ _ _ _ hB]
        have hne : a.toList ≠ b.toList := drop_ne (unameLen_ne (by rw [hA, hB]; simp))
        simp [hne]
      | some kb =>
        obtain ⟨hkb, _⟩ := unameLen_le _ _ hB
        simp only [List.length_drop, Array.length_toList] at hka hkb
        by_cases hci : NameCiEq (List.take ka (a.toList.drop off)) (List.take kb (b.toList.drop off))
        · have hlen := nameCi_length hci
          simp only [List.length_take, List.length_drop, Array.length_toList] at hlen
          have : ka = kb := by omega
          subst this
          rw [eqB'_name_ci _ _ _ _ _ hA hB hci, List.drop_drop, List.drop_drop]
          simp only [hci, if_true]
          exact ih (off + ka) (by omega) (by omega) fun e he => hK e (by omega)
        · have hne : a.toList ≠ b.toList := drop_ne (ne_of_not_ci hA hB hci)
          rw [eqB'_name_not_ci _ _ _ _ _ _ hA hB hci (by simp [hne])]
          simp only [hci, if_false]
          rfl

/-- `tnfAux_caller` from offset 0: the whole RDATA -/
theorem tnf_caller (a b : Bytes) (n : Nat) (tail : List Field) (K : Nat → Out RErr Bool)
    (hK : ∀ e, e ≤ a.size → e ≤ b.size →
      K e = .ok (eqB' tail (a.toList.drop e) (b.toList.drop e) (decide (a.toList = b.toList)))) :
    (do match ← testNNameFields a b n with
        | some (some len) => K len
        | some none => .ok false
        | none => .ok (bytesEq a b)) = .ok (eqB (List.replicate n .name ++ tail) a.toList b.toList) :=
  tnfAux_caller a b tail K n 0 (Nat.zero_le _) (Nat.zero_le _) fun e _ => hK e

/-- the `equals_as_*` functions compare the sizes first -/
theorem eq_of_size (l : List Field) {a b : Bytes} {x : Out RErr Bool}
    (h : a.size = b.size → x = .ok (eqB l a.toList b.toList)) :
    (if a.size ≠ b.size then .ok false else x) = .ok (eqB l a.toList b.toList) := by
  by_cases hs : a.size = b.size
  · rw [if_neg (fun h => h hs)]; exact h hs
  · rw [if_pos hs, eqB_of_size_ne l a b hs]

theorem namesEqual_eq (a b : Bytes) : namesEqual a b = .ok (eqB [.name] a.toList b.toList) :=
  tnf_caller a b 1 [] _ fun e h1 h2 => by
    simp only [eqB'_nil, bytesEq_eq_decide, List.drop_eq_nil_iff, Array.length_toList]
    by_cases h : e = a.size ∧ e = b.size
    · rw [if_pos h, if_pos (by omega)]
    · rw [if_neg h, if_neg (by omega)]

theorem equalsAsSoa_eq (a b : Bytes) :
    equalsAsSoa a b = .ok (eqB [.name, .name, .fixed 20] a.toList b.toList) :=
  eq_of_size _ fun hs => tnf_caller a b 2 [.fixed 20] _ fun e h1 h2 => by
    simp only [eqB'_fixed_last, Out.bind_ok, bytesEq_eq_decide, csub_ok a.size e h1, List.length_drop,
      Array.length_toList, ← hs]
    by_cases h : a.size - e = 20
    · simp only [h, ne_eq, not_true_eq_false, if_false, and_self, if_true, sliceFrom_ok a e h1, sliceFrom_ok b e h2,
        Out.bind_ok, toList_extract_from]
    · simp [h]

theorem equalsAsMinfo_eq (a b : Bytes) :
    equalsAsMinfo a b = .ok (eqB [.name, .name] a.toList b.toList) :=
  eq_of_size _ fun hs => tnf_caller a b 2 [] _ fun e h1 h2 => by
    simp only [eqB'_nil, bytesEq_eq_decide, List.drop_eq_nil_iff, Array.length_toList, ← hs]
    by_cases h : e = a.size
    · rw [if_pos h, if_pos (by omega)]
    · rw [if_neg h, if_neg (by omega)]

theorem equalsAsChA_eq (a b : Bytes) :
    equalsAsChA a b = .ok (eqB [.name, .fixed 2] a.toList b.toList) :=
  eq_of_size _ fun hs => tnf_caller a b 1 [.fixed 2] _ fun e h1 h2 => by
    simp only [eqB'_fixed_last, bytesEq_eq_decide, List.length_drop, Array.length_toList, ← hs]
    by_cases h : e + 2 = a.size
    · have h' : a.size - e = 2 := by omega
      simp only [h, h', and_self, if_true, sliceFrom_ok a e h1, sliceFrom_ok b e h2, Out.bind_ok,
        toList_extract_from]
    · have h' : ¬ a.size - e = 2 := by omega
      simp [h, h']

theorem unameLen_nil : unameLen [] = none := by
  cases h : unameLen [] with
  | none => rfl
  | some k => have := unameLen_le _ _ h; simp at this; omega

@[simp] theorem slice_ok (b : Bytes) (i j : Nat) (h : i ≤ j ∧ j ≤ b.size) :
    slice b i j = .ok (b.extract i j) := by simp [slice, h]

theorem equalsFixedThenName_eq (n : Nat) (a b : Bytes) :
    equalsFixedThenName n a b = .ok (eqB [.fixed n, .name] a.toList b.toList) :=
  eq_of_size _ fun hs => by
    by_cases hn : a.size > n
    · rw [if_pos hn, eqB_fixed_first n _ _ _ (by simp; omega) (by simp; omega), slice_ok a 0 n (by omega),
        slice_ok b 0 n (by omega), Out.bind_ok, Out.bind_ok, bytesEq_eq_decide, sliceFrom_ok a n (by omega),
        sliceFrom_ok b n (by omega), Out.bind_ok, Out.bind_ok, namesEqual_eq, toList_extract_from, toList_extract_from]
      by_cases hp : a.toList.take n = b.toList.take n <;> simp [hp]
    · have : split? [.fixed n, .name] a.toList = none := by
        simp only [split?]
        by_cases h : n ≤ a.toList.length
        · have : a.toList.drop n = [] := by simp at h ⊢; omega
          simp [h, this, unameLen_nil]
        · simp only [h, if_false]
      rw [if_neg hn, bytesEq_eq_decide]
      unfold eqB eqB'
      rw [this]

theorem equalsAsMx_eq (a b : Bytes) : equalsAsMx a b = .ok (eqB [.fixed 2, .name] a.toList b.toList) :=
  equalsFixedThenName_eq 2 a b

theorem equalsAsInSrv_eq (a b : Bytes) : equalsAsInSrv a b = .ok (eqB [.fixed 6, .name] a.toList b.toList) :=
  equalsFixedThenName_eq 6 a b


/-! ### dispatch through the generated tables = the RFC table `fmtOf` -/

/-- peel off one type code: in the positive branch decide the classes and finish with `tac` -/
macro "tcase " t:ident c:ident k:num " with " tac:tactic : tactic => `(tactic|
  (by_cases h : $t = $k
   · (subst h; by_cases c1 : $c = 1 <;> by_cases c3 : $c = 3 <;> $tac)))

/-- `lookup` for tables with entries of any type -/
def lookupG {α} (arms : List (List Nat × Option Nat × α)) (dflt : α) (c t : Nat) : α :=
  match arms with
  | [] => dflt
  | (tys, g, h) :: rest =>
    if tys.contains t && (match g with | none => true | some k => c == k) then h
    else lookupG rest dflt c t

theorem map_lookup {α} (f : String → α) (arms : List (List Nat × Option Nat × String)) (d : String) (c t : Nat) :
    f (lookup arms d c t) = lookupG (arms.map fun a => (a.1, a.2.1, f a.2.2)) (f d) c t := by
  induction arms with
  | nil => rfl
  | cons a rest ih =>
    obtain ⟨tys, g, h⟩ := a
    cases g <;> simp only [List.map_cons, lookup, lookupG, apply_ite f, ih]

/-- `fmtOf` read as a dispatch table with the keys of `Rdata::validate` and `Rdata::read`: both
    sides are the same decision list, except that `fmtOf` asks for the type before the class. -/
theorem lookupG_fmt {α} (x : Fmt → α) (c t : Nat) :
    lookupG [([2, 3, 4, 5, 7, 8, 9, 12], none, x .name), ([1], some 1, x .inA), ([1], some 3, x .chA),
      ([6], none, x .soa), ([11], some 1, x .wks), ([13], none, x .hinfo), ([14], none, x .minfo),
      ([15], none, x .mx), ([16], none, x .txt), ([28], some 1, x .aaaa), ([33], some 1, x .srv),
      ([41], none, x .opt), ([250], none, x .tsig)] (x .opaque) c t = x (fmtOf c t) := by
  simp only [lookupG, fmtOf, List.contains_cons, List.contains_nil, Bool.or_false, beq_iff_eq, Bool.and_true,
    Bool.and_eq_true, Bool.or_eq_true]
  by_cases h : t = 2 ∨ t = 3 ∨ t = 4 ∨ t = 5 ∨ t = 7 ∨ t = 8 ∨ t = 9 ∨ t = 12
  · rw [if_pos h, if_pos h]
  rw [if_neg h, if_neg h]
  by_cases h1 : t = 1
  · by_cases c1 : c = 1 <;> by_cases c3 : c = 3 <;> simp [h1, c1, c3]
  by_cases h11 : t = 11
  · by_cases c1 : c = 1 <;> simp [h11, c1]
  by_cases h28 : t = 28
  · by_cases c1 : c = 1 <;> simp [h28, c1]
  by_cases h33 : t = 33
  · by_cases c1 : c = 1 <;> simp [h33, c1]
  simp only [h1, h11, h28, h33, false_and, if_false, apply_ite x]

/-- the same with the keys of `Rdata::equals` and `Rdata::components`, which name only the formats
    that embed domain names and leave the rest to the default arm -/
theorem lookupG_layout {α} (x : Fmt → α) (hx : ∀ f, layoutOf f = none → x f = x .opaque) (c t : Nat) :
    lookupG [([2, 3, 4, 5, 7, 8, 9, 12], none, x .name), ([1], some 3, x .chA), ([6], none, x .soa),
      ([14], none, x .minfo), ([15], none, x .mx), ([33], some 1, x .srv)] (x .opaque) c t = x (fmtOf c t) := by
  -- `hx` turns the arms of the formats without layout in the 13-arm table into the default, so only
  -- the six arms both tables share need to be walked
  have e := lookupG_fmt x c t
  simp only [hx .inA rfl, hx .wks rfl, hx .hinfo rfl, hx .txt rfl, hx .aaaa rfl, hx .opt rfl, hx .tsig rfl] at e
  rw [← e]
  simp only [lookupG, List.contains_cons, List.contains_nil, Bool.or_false, beq_iff_eq, Bool.and_true,
    Bool.and_eq_true, Bool.or_eq_true]
  by_cases h : t = 2 ∨ t = 3 ∨ t = 4 ∨ t = 5 ∨ t = 7 ∨ t = 8 ∨ t = 9 ∨ t = 12
  · rw [if_pos h, if_pos h]
  rw [if_neg h, if_neg h]
  by_cases h1 : t = 1
  · by_cases c3 : c = 3 <;> simp [h1, c3]
  by_cases h33 : t = 33
  · by_cases c1 : c = 1 <;> simp [h33, c1]
  by_cases h6 : t = 6
  · simp [h6]
  by_cases h14 : t = 14
  · simp [h14]
  by_cases h15 : t = 15
  · simp [h15]
  simp [h1, h33, h6, h14, h15]

def validateFmt : Fmt → Bytes → Out RErr Unit
  | .name => validateName | .inA => validateAsInA | .chA => validateAsChA | .soa => validateAsSoa
  | .wks => validateAsInWks | .hinfo => validateAsHinfo | .minfo => validateAsMinfo | .mx => validateAsMx
  | .txt => validateAsTxt | .aaaa => validateAsInAaaa | .srv => validateAsInSrv | .opt => validateAsOpt
  | .tsig => validateAsTsig | .opaque => fun _ => .ok ()

def equalsFmt : Fmt → Bytes → Bytes → Out RErr Bool
  | .name => namesEqual | .chA => equalsAsChA | .soa => equalsAsSoa | .minfo => equalsAsMinfo
  | .mx => equalsAsMx | .srv => equalsAsInSrv
  | _ => fun a b => .ok (bytesEq a b)

def readFmt : Fmt → Bytes → Nat → Nat → Out RErr Bytes
  | .name => readNameRdata | .chA => readChA | .soa => readSoa | .minfo => readMinfo | .mx => readMx
  | .srv => readInSrv
  | f => withoutDecompression (validateFmt f)

theorem validate_eq (c t : Nat) (r : Bytes) : validate c t r = validateFmt (fmtOf c t) r := by
  rw [← lookupG_fmt (fun f => validateFmt f r) c t]
  refine (map_lookup (fun h => match validateHandler h with | some f => f r | none => .panic)
    Gen.rdataValidateArms Gen.rdataValidateDefault c t).trans ?_
  simp [Gen.rdataValidateArms, Gen.rdataValidateDefault, validateHandler, validateFmt]

theorem equals_eq (c t : Nat) (a b : Bytes) : equals c t a b = equalsFmt (fmtOf c t) a b := by
  rw [← lookupG_layout (fun f => equalsFmt f a b) (by intro f hf; cases f <;> first | rfl | cases hf) c t]
  refine (map_lookup (fun h => match equalsHandler h with | some f => f a b | none => .panic)
    Gen.rdataEqualsArms Gen.rdataEqualsDefault c t).trans ?_
  simp [Gen.rdataEqualsArms, Gen.rdataEqualsDefault, equalsHandler, equalsFmt]

theorem read_eq (c t : Nat) (msg : Bytes) (cur len : Nat) : read c t msg cur len = readFmt (fmtOf c t) msg cur len := by
  rw [← lookupG_fmt (fun f => readFmt f msg cur len) c t]
  refine (map_lookup (fun h => match readHandler h with | some f => f msg cur len | none => .panic)
    Gen.rdataReadArms Gen.rdataReadDefault c t).trans ?_
  simp [Gen.rdataReadArms, Gen.rdataReadDefault, readHandler, readFmt, validateFmt]

/-! ### self-delimiting items: character-strings, EDNS options, the variable fields of TSIG -/

/-- `len?` recognises an item (`P`) at the start of a list and gives its length — what `unameLen_some`,
    `csLen?_some` and `lp16?_some` say of `WireName`, `CharStr` and `Lp16 n` -/
def Item (P : List UInt8 → Prop) (len? : List UInt8 → Option Nat) : Prop :=
  ∀ A n, len? A = some n ↔ ∃ s rest, A = s ++ rest ∧ P s ∧ s.length = n

/-- two items, found by `p` and `q`, and nothing else -/
def pair? (p q : List UInt8 → Option Nat) (A : List UInt8) : Option Unit :=
  (p A).bind fun n => (q (A.drop n)).bind fun m => if A.length = n + m then some () else none

theorem pair?_iff {P Q : List UInt8 → Prop} {p q : List UInt8 → Option Nat} (hp : Item P p) (hq : Item Q q)
    (A : List UInt8) : pair? p q A = some () ↔ ∃ a b, P a ∧ Q b ∧ A = a ++ b := by
  unfold pair?
  simp only [Option.bind_eq_some_iff, hp _ _, hq _ _]
  constructor
  · rintro ⟨n, ⟨s, rest, rfl, hs, rfl⟩, m, ⟨s2, rest2, h2, hs2, rfl⟩, h⟩
    rw [List.drop_left] at h2
    subst h2
    have hl : (s ++ (s2 ++ rest2)).length = s.length + s2.length := by
      apply Decidable.byContradiction; intro hne; rw [if_neg hne] at h; cases h
    simp only [List.length_append] at hl
    obtain rfl : rest2 = [] := List.eq_nil_of_length_eq_zero (by omega)
    exact ⟨s, s2, hs, hs2, by simp⟩
  · rintro ⟨a, b, ha, hb, rfl⟩
    exact ⟨a.length, ⟨a, b, rfl, ha, rfl⟩, b.length, ⟨b, [], by simp, hb, rfl⟩, by simp⟩

/-! ### character-strings -/

/-- wire length of the `<character-string>` at the start of a list -/
def csLen? : List UInt8 → Option Nat
  | [] => none
  | l :: rest => if l.toNat ≤ rest.length then some (1 + l.toNat) else none

theorem vcs_eq (b : Bytes) : validateCharacterString b =
    match csLen? b.toList with
    | some n => .ok n
    | none => .err .Other := by
  unfold validateCharacterString
  cases hb : b.toList with
  | nil =>
    have : b.size = 0 := by have := congrArg List.length hb; simpa using this
    simp [csLen?, this]
  | cons l rest =>
    have hs : b.size = rest.length + 1 := by have := congrArg List.length hb; simpa using this
    have h0 : 0 < b.size := by omega
    have hl : b[0] = l := by
      have := List.getElem_of_eq hb (by simp; omega : 0 < b.toList.length)
      simpa using this
    simp only [h0, dite_true, hl, csLen?, hs]
    by_cases h : l.toNat ≤ rest.length
    · have : 1 + l.toNat ≤ rest.length + 1 := by omega
      simp [h, this]
    · have : ¬ 1 + l.toNat ≤ rest.length + 1 := by omega
      simp [h, this]

theorem csLen?_some (A : List UInt8) (n : Nat) :
    csLen? A = some n ↔ ∃ s rest, A = s ++ rest ∧ CharStr s ∧ s.length = n := by
  constructor
  · intro h
    cases A with
    | nil => simp [csLen?] at h
    | cons l rest =>
      simp only [csLen?] at h
      split at h
      · rename_i hl
        cases h
        refine ⟨l :: rest.take l.toNat, rest.drop l.toNat, by simp, ⟨l, rest.take l.toNat, rfl, by simp; omega⟩, by simp; omega⟩
      · cases h
  · rintro ⟨s, rest, rfl, ⟨l, body, rfl, hb⟩, hn⟩
    simp only [List.cons_append, csLen?, List.length_append]
    have : l.toNat ≤ body.length + rest.length := by omega
    simp [this] at hn ⊢
    omega

theorem csLen?_pos (A : List UInt8) (n : Nat) (h : csLen? A = some n) : 0 < n ∧ n ≤ A.length := by
  cases A with
  | nil => simp [csLen?] at h
  | cons l rest =>
    simp only [csLen?] at h
    split at h
    · cases h; simp; omega
    · cases h

theorem vcs_computes (b : Bytes) : validateCharacterString b ⇓ csLen? b.toList := by
  rw [vcs_eq]; cases csLen? b.toList <;> first | exact .ok _ | exact .err _

/-- two `<character-string>`s and nothing else (HINFO), the way `validate_as_hinfo` finds them -/
def hinfo? : List UInt8 → Option Unit := pair? csLen? csLen?

theorem validateAsHinfo_computes (r : Bytes) : validateAsHinfo r ⇓ hinfo? r.toList := by
  refine (vcs_computes r).bind fun n hn => ?_
  obtain ⟨_, hn⟩ := csLen?_pos _ _ hn
  rw [Array.length_toList] at hn
  rw [sliceFrom_ok r n hn, Out.bind_ok, ← toList_extract_from]
  exact (vcs_computes _).bind fun m _ => Computes.test _ _ (by simp)

theorem hinfo?_iff (A : List UInt8) : hinfo? A = some () ↔ ∃ a b, CharStr a ∧ CharStr b ∧ A = a ++ b :=
  pair?_iff csLen?_some csLen?_some A

theorem validateAsHinfo_iff (r : Bytes) :
    validateAsHinfo r = .ok () ↔ ∃ a b, CharStr a ∧ CharStr b ∧ r.toList = a ++ b :=
  ((validateAsHinfo_computes r).ok_iff ()).trans (hinfo?_iff _)

/-- a non-empty list that is a concatenation of items (`P`) starts with one -/
theorem flatten_head {P : List UInt8 → Prop}
    {A : List UInt8} {ss : List (List UInt8)} (hA : A ≠ []) (hss : ∀ s ∈ ss, P s) (e : A = ss.flatten) :
    ∃ s ss', ss = s :: ss' ∧ P s ∧ A = s ++ ss'.flatten := by
  cases ss with
  | nil => simp at e; exact absurd e hA
  | cons s ss' => exact ⟨s, ss', rfl, hss s (by simp), by simpa using e⟩

theorem charStr_pos (s : List UInt8) (h : CharStr s) : 0 < s.length := by
  obtain ⟨l, body, rfl, _⟩ := h; simp

/-- a validation loop over self-delimiting items (`<character-string>`s of TXT, options of OPT):
    `len? A` is the wire length of the item at the head of `A`, `P` says what an item is -/
theorem itemLoop_spec {P : List UInt8 → Prop} {len? : List UInt8 → Option Nat}
    (hsome : Item P len?) (hpos : ∀ s, P s → 0 < s.length)
    (r : Bytes) (v : Bytes → Out RErr Nat) (loop : Nat → Out RErr Unit)
    (hv : ∀ b, v b = match len? b.toList with | some n => .ok n | none => .err .Other)
    (hloop : ∀ off, loop off =
      if off < r.size then
        match v (r.extract off r.size) with
        | .ok n => if n = 0 then .panic else loop (off + n)
        | .err e => .err e
        | .panic => .panic
      else .ok ()) :
    ∀ off, off ≤ r.size → loop off ≠ .panic ∧
      (loop off = .ok () ↔ ∃ ss : List (List UInt8), (∀ s ∈ ss, P s) ∧ r.toList.drop off = ss.flatten) := by
  intro off
  induction hk : r.size - off using Nat.strongRecOn generalizing off with
  | _ k ih =>
    intro hoff
    rw [hloop off]
    by_cases hlt : off < r.size
    · rw [if_pos hlt, hv, toList_extract_from]
      have hne : r.toList.drop off ≠ [] := by simp; omega
      cases hc : len? (r.toList.drop off) with
      | none =>
        refine ⟨by simp, ?_⟩
        simp only [reduceCtorEq, false_iff]
        rintro ⟨ss, hss, e⟩
        obtain ⟨s', ss', rfl, hs', e'⟩ := flatten_head hne hss e
        have := (hsome _ s'.length).mpr ⟨s', _, e', hs', rfl⟩
        rw [hc] at this; cases this
      | some n =>
        obtain ⟨s, rest, hr, hs, hsl⟩ := (hsome _ _).mp hc
        have hn0 : 0 < n := hsl ▸ hpos s hs
        have hle : off + n ≤ r.size := by
          have := congrArg List.length hr
          simp only [List.length_drop, Array.length_toList, List.length_append] at this; omega
        simp only [show ¬ n = 0 by omega, if_false]
        obtain ⟨ih1, ih2⟩ := ih (r.size - (off + n)) (by omega) (off + n) rfl hle
        refine ⟨ih1, ?_⟩
        have hrest : r.toList.drop (off + n) = rest := by
          rw [← List.drop_drop, hr, ← hsl]; simp
        rw [ih2, hrest, hr]
        constructor
        · rintro ⟨ss, hss, e⟩
          exact ⟨s :: ss, by intro t ht; rcases List.mem_cons.mp ht with rfl | h; exact hs; exact hss t h, by simp [e]⟩
        · rintro ⟨ss, hss, e⟩
          obtain ⟨s', ss', rfl, hs', e'⟩ := flatten_head (hr ▸ hne) hss e
          -- the item at the head is the one `len?` found: both have its length
          have := (hsome _ s'.length).mpr ⟨s', _, hr.trans e', hs', rfl⟩
          rw [hc] at this
          obtain ⟨rfl, e2⟩ := List.append_inj e' (hsl.trans (Option.some.inj this))
          exact ⟨ss', fun t ht => hss t (by simp [ht]), e2⟩
    · rw [if_neg hlt]
      refine ⟨by simp, ?_⟩
      simp only [true_iff]
      have : r.toList.drop off = [] := by simp; omega
      exact ⟨[], by simp, by simp [this]⟩

theorem txtLoop_spec (r : Bytes) (off : Nat) (hoff : off ≤ r.size) :
    txtLoop r off ≠ .panic ∧
    (txtLoop r off = .ok () ↔ ∃ ss : List (List UInt8), (∀ s ∈ ss, CharStr s) ∧ r.toList.drop off = ss.flatten) :=
  itemLoop_spec csLen?_some charStr_pos r validateCharacterString (txtLoop r) vcs_eq
    (fun off => by rw [txtLoop]; cases validateCharacterString (r.extract off r.size) <;> rfl) off hoff

theorem validateAsTxt_iff (r : Bytes) :
    validateAsTxt r = .ok () ↔
      ∃ ss : List (List UInt8), ss ≠ [] ∧ (∀ s ∈ ss, CharStr s) ∧ r.toList = ss.flatten := by
  unfold validateAsTxt
  by_cases h0 : r.size = 0
  · rw [if_pos h0]
    simp only [reduceCtorEq, false_iff]
    rintro ⟨ss, hne, hss, e⟩
    cases ss with
    | nil => exact hne rfl
    | cons s ss' =>
      have := charStr_pos s (hss s (by simp))
      have hl := congrArg List.length e
      simp at hl; omega
  · rw [if_neg h0]
    rw [(txtLoop_spec r 0 (by omega)).2]
    simp only [List.drop_zero]
    constructor
    · rintro ⟨ss, hss, e⟩
      refine ⟨ss, ?_, hss, e⟩
      intro hnil; subst hnil
      have hl := congrArg List.length e
      simp only [Array.length_toList, List.flatten_nil, List.length_nil] at hl; omega
    · rintro ⟨ss, _, hss, e⟩; exact ⟨ss, hss, e⟩


/-! ### a 16-bit length prefix -/

theorem getD_app (a b : List UInt8) (i : Nat) (d : UInt8) : (a ++ b).getD (a.length + i) d = b.getD i d := by
  simp [List.getD, List.getElem?_append_right]

theorem getD_take_drop (x : List UInt8) (i : Nat) (h : i < x.length) :
    x.drop i = x.getD i 0 :: x.drop (i + 1) := by
  rw [List.drop_eq_getElem_cons h]
  simp [List.getD, h]

theorem getD_drop (A : List UInt8) (k i : Nat) : (A.drop k).getD i 0 = A.getD (k + i) 0 := by
  simp [List.getD]

/-- `n` octets, a 16-bit length, that many octets: an EDNS option (`n = 2`); in TSIG RDATA the time
    and fudge with the MAC (`n = 8`), the original ID and error with the other data (`n = 4`) -/
def Lp16 (n : Nat) (s : List UInt8) : Prop :=
  ∃ f l1 l2 d, f.length = n ∧ d.length = l1.toNat * 256 + l2.toNat ∧ s = f ++ l1 :: l2 :: d

/-- length of the `Lp16 n` at the start of a list, in the arithmetic of the validators -/
def lp16? (n : Nat) (A : List UInt8) : Option Nat :=
  if n + 2 ≤ A.length ∧ (A.getD n 0).toNat * 256 + (A.getD (n + 1) 0).toNat + (n + 2) ≤ A.length
  then some ((A.getD n 0).toNat * 256 + (A.getD (n + 1) 0).toNat + (n + 2)) else none

theorem lp16?_some (n : Nat) : Item (Lp16 n) (lp16? n) := by
  intro A e
  unfold lp16?
  constructor
  · intro h
    obtain ⟨m, hm⟩ : ∃ m, (A.getD n 0).toNat * 256 + (A.getD (n + 1) 0).toNat = m := ⟨_, rfl⟩
    rw [hm] at h
    split at h
    · obtain rfl := Option.some.inj h
      have hd : ((A.drop (n + 2)).take m).length = m := by simp only [List.length_take, List.length_drop]; omega
      refine ⟨_, A.drop (n + 2 + m), ?_, ⟨A.take n, A.getD n 0, A.getD (n + 1) 0, (A.drop (n + 2)).take m,
        List.length_take_of_le (by omega), hd.trans hm.symm, rfl⟩, ?_⟩
      · conv => lhs; rw [← List.take_append_drop n A, getD_take_drop A n (by omega), getD_take_drop A (n + 1) (by omega),
          ← List.take_append_drop m (A.drop (n + 1 + 1))]
        simp
      · simp only [List.length_append, List.length_cons, hd, List.length_take]; omega
    · cases h
  · rintro ⟨_, rest, rfl, ⟨f, l1, l2, d, rfl, hd, rfl⟩, rfl⟩
    have e0 := getD_app f (l1 :: l2 :: d ++ rest) 0 0
    have e1 := getD_app f (l1 :: l2 :: d ++ rest) 1 0
    simp only [List.append_assoc, List.cons_append, Nat.add_zero] at e0 e1 ⊢
    rw [e0, e1]
    simp [← hd]
    omega

/-! ### EDNS options -/

theorem optTLV_iff (s : List UInt8) : OptTLV s ↔ Lp16 2 s := by
  constructor
  · rintro ⟨c1, c2, l1, l2, data, rfl, hd⟩; exact ⟨[c1, c2], l1, l2, data, rfl, hd, rfl⟩
  · rintro ⟨f, l1, l2, d, hf, hd, rfl⟩
    match f, hf with
    | [c1, c2], _ => exact ⟨c1, c2, l1, l2, d, rfl, hd⟩

theorem vopt_eq (b : Bytes) : validateOption b =
    match lp16? 2 b.toList with
    | some n => .ok n
    | none => .err .Other := by
  unfold validateOption lp16? be16
  simp only [getD_toList, Array.length_toList]
  by_cases h1 : 4 ≤ b.size
  · by_cases h2 : b.size ≥ (b.toList.getD 2 0).toNat * 256 + (b.toList.getD (2 + 1) 0).toNat + 4
    · rw [if_pos h1, if_pos h2, if_pos ⟨h1, h2⟩]
    · rw [if_pos h1, if_neg h2, if_neg (fun h => h2 h.2)]
  · rw [if_neg h1, if_neg (fun h => h1 h.1)]

theorem optTLV_pos (s : List UInt8) (h : OptTLV s) : 0 < s.length := by
  obtain ⟨c1, c2, l1, l2, data, rfl, _⟩ := h; simp

theorem optLoop_spec (r : Bytes) (off : Nat) (hoff : off ≤ r.size) :
    optLoop r off ≠ .panic ∧
    (optLoop r off = .ok () ↔ ∃ os : List (List UInt8), (∀ o ∈ os, OptTLV o) ∧ r.toList.drop off = os.flatten) :=
  itemLoop_spec (fun A n => by simp only [optTLV_iff]; exact lp16?_some 2 A n) optTLV_pos r validateOption (optLoop r)
    vopt_eq (fun off => by rw [optLoop]; cases validateOption (r.extract off r.size) <;> rfl) off hoff

theorem validateAsOpt_iff (r : Bytes) :
    validateAsOpt r = .ok () ↔ ∃ os : List (List UInt8), (∀ o ∈ os, OptTLV o) ∧ r.toList = os.flatten := by
  unfold validateAsOpt
  rw [(optLoop_spec r 0 (by omega)).2]
  simp

/-! ### TSIG -/

/-- RFC 8945 §4.2 read as three items: the algorithm name and two length-prefixed fields -/
theorem tsigRdata_iff (r : List UInt8) :
    TsigRdata r ↔ ∃ alg a b, WireName alg ∧ Lp16 8 a ∧ Lp16 4 b ∧ r = alg ++ (a ++ b) := by
  constructor
  · rintro ⟨alg, time, fudge, m1, m2, mac, oid, err, o1, o2, other, hw, h1, h2, h3, h4, h5, h6, rfl⟩
    exact ⟨alg, _, _, hw, ⟨time ++ fudge, m1, m2, mac, by simp [h1, h2], h3, rfl⟩,
      ⟨oid ++ err, o1, o2, other, by simp [h4, h5], h6, rfl⟩, by simp⟩
  · rintro ⟨alg, _, _, hw, ⟨f, m1, m2, mac, hf, hm, rfl⟩, ⟨g, o1, o2, other, hg, ho, rfl⟩, rfl⟩
    refine ⟨alg, f.take 6, f.drop 6, m1, m2, mac, g.take 2, g.drop 2, o1, o2, other, hw, by simp; omega, by simp; omega, hm,
      by simp; omega, by simp; omega, ho, ?_⟩
    conv => lhs; rw [← List.take_append_drop 6 f, ← List.take_append_drop 2 g]
    simp

/-- TSIG RDATA the way `validate_as_tsig` finds it -/
def tsig? (A : List UInt8) : Option Unit :=
  (unameLen A).bind fun k => pair? (lp16? 8) (lp16? 4) (A.drop k)

/-- The Rust function tests `alg + mac + 16 ≤ len` and `alg + mac + other + 16 = len` where `lp16?`
    tests each field's end; that arithmetic is all there is to show. -/
theorem validateAsTsig_computes (r : Bytes) : validateAsTsig r ⇓ tsig? r.toList := by
  refine (uname_computes r).bind fun k hk => ?_
  obtain ⟨hk, _⟩ := unameLen_le _ _ hk
  rw [Array.length_toList] at hk
  unfold pair? lp16?
  simp only [be16, getD_toList, getD_drop, List.length_drop, Array.length_toList]
  obtain ⟨mac, hm⟩ : ∃ mac, (r.toList.getD (k + 8) 0).toNat * 256 + (r.toList.getD (k + 8 + 1) 0).toNat = mac := ⟨_, rfl⟩
  simp only [hm, show k + (8 + 1) = k + 8 + 1 from rfl]
  by_cases c1 : k + 10 ≤ r.size
  · by_cases c2 : k + mac + 16 ≤ r.size
    · have h1 : 8 + 2 ≤ r.size - k ∧ mac + (8 + 2) ≤ r.size - k := by omega
      rw [if_pos c1, if_pos c2, if_pos h1, Option.bind_some,
        show k + (mac + (8 + 2) + 4) = k + mac + 14 by omega, show k + (mac + (8 + 2) + (4 + 1)) = k + mac + 14 + 1 by omega]
      obtain ⟨other, ho⟩ : ∃ other,
        (r.toList.getD (k + mac + 14) 0).toNat * 256 + (r.toList.getD (k + mac + 14 + 1) 0).toNat = other := ⟨_, rfl⟩
      simp only [ho]
      by_cases c3 : k + mac + other + 16 = r.size
      · have h2 : 4 + 2 ≤ r.size - k - (mac + (8 + 2)) ∧ other + (4 + 2) ≤ r.size - k - (mac + (8 + 2)) := by omega
        rw [if_pos c3, if_pos h2, Option.bind_some, if_pos (by omega)]; exact .ok _
      · rw [if_neg c3]
        split
        · rw [Option.bind_some, if_neg (by omega)]; exact .err _
        · exact .err _
    · rw [if_pos c1, if_neg c2]
      split
      · rw [Option.bind_some, if_neg (by omega), Option.bind_none]; exact .err _
      · exact .err _
  · rw [if_neg c1, if_neg (by omega)]; exact .err _

theorem tsig?_iff (A : List UInt8) : tsig? A = some () ↔ TsigRdata A := by
  unfold tsig?
  simp only [tsigRdata_iff, Option.bind_eq_some_iff, unameLen_some, pair?_iff (lp16?_some 8) (lp16?_some 4)]
  constructor
  · rintro ⟨k, ⟨w, rest, rfl, hw, rfl⟩, a, b, ha, hb, h⟩
    rw [List.drop_left] at h
    exact ⟨w, a, b, hw, ha, hb, by rw [h]⟩
  · rintro ⟨w, a, b, hw, ha, hb, rfl⟩
    exact ⟨w.length, ⟨w, _, rfl, hw, rfl⟩, a, b, ha, hb, by rw [List.drop_left]⟩

theorem validateAsTsig_iff (r : Bytes) : validateAsTsig r = .ok () ↔ TsigRdata r.toList :=
  ((validateAsTsig_computes r).ok_iff ()).trans (tsig?_iff _)

/-! ### every format: validation = the RFC grammar -/

theorem fmtSpec_layout {f : Fmt} {l : List Field} (hl : layoutOf f = some l) (r : List UInt8) :
    FmtSpec f r ↔ ∃ fs, Splits l r fs := by
  cases f <;> cases hl <;> rfl

theorem validateLayout_computes (f : Fmt) (l : List Field) (hl : layoutOf f = some l) (r : Bytes) :
    validateFmt f r ⇓ wf? l r.toList := by
  cases f <;> cases hl
  · exact validateName_computes r
  · exact validateAsChA_computes r
  · exact validateAsSoa_computes r
  · exact validateAsMinfo_computes r
  · exact validateFixedName_computes 2 r
  · exact validateFixedName_computes 6 r

/-- **validation = the RFC grammar**, format by format, and it never panics -/
theorem validateFmt_spec (f : Fmt) (r : Bytes) :
    validateFmt f r ≠ .panic ∧ (validateFmt f r = .ok () ↔ FmtSpec f r.toList) := by
  have layout : ∀ l, layoutOf f = some l →
      validateFmt f r ≠ .panic ∧ (validateFmt f r = .ok () ↔ FmtSpec f r.toList) := fun l hl =>
    (validateLayout_computes f l hl r).spec ((wf?_iff l _).trans (fmtSpec_layout hl _).symm)
  cases f with
  | name | chA | soa | minfo | mx | srv => exact layout _ rfl
  | inA => exact (Computes.test (ε := RErr) .Other () Iff.rfl).spec (by simp [FmtSpec])
  | wks => exact (Computes.test (ε := RErr) .Other () Iff.rfl).spec (by simp [FmtSpec])
  | aaaa => exact (Computes.test (ε := RErr) .Other () Iff.rfl).spec (by simp [FmtSpec])
  | hinfo => exact (validateAsHinfo_computes r).spec (hinfo?_iff _)
  | txt =>
    refine ⟨?_, validateAsTxt_iff r⟩
    show validateAsTxt r ≠ .panic
    unfold validateAsTxt
    split
    · exact nofun
    · exact (txtLoop_spec r 0 (by omega)).1
  | opt => exact ⟨(optLoop_spec r 0 (by omega)).1, validateAsOpt_iff r⟩
  | tsig => exact (validateAsTsig_computes r).spec (tsig?_iff _)
  | «opaque» => exact ⟨nofun, by simp [validateFmt, FmtSpec]⟩

theorem validateFmt_iff (f : Fmt) (r : Bytes) : validateFmt f r = .ok () ↔ FmtSpec f r.toList :=
  (validateFmt_spec f r).2

theorem validateFmt_no_panic (f : Fmt) (r : Bytes) : validateFmt f r ≠ .panic :=
  (validateFmt_spec f r).1

end QV.Rdata
