/-
  QV.Proofs.ServerWriter — the interface between the request handler and the message writer
  (helpers of C01/C02).

  `WriterSafe` is exactly what the server needs from the writer's own theorems (C12 invariant,
  C13 pointer validity); the server theorems take it as a parameter `W`, and it is stated call by
  call so that the writer's theorems discharge it (`QV.Writer.writerSafe`):

    * `I`    the writer invariant (C12 `Inv` ∧ C13 "every stored `PriorName` points at the first
             octet of a label of a name written below the cursor, with exactly `len` labels");
    * `Den s p n`  "in state `s` the prior name `p` is such an anchor and the name it starts is `n`
             up to ASCII case" (what makes a hint *valid*: C13's hint contract);
    * `call` every public call the server makes (`Call`) from an `I`-state whose arguments meet the
             documented contract (`Call.Pre`: names well formed, hint valid) does not panic, gives an
             `I`-state again, keeps QNAME anchor and every valid anchor valid (`Mono`) — whatever it
             returns (`Ok`, `Err(Truncation)`, `Err(OutOfOrder)` …: `with_rollback`);
    * `addQuestion`, `addRr_post`, `addRrset_post`: which anchors / `HintPointerVec` entries are
             valid after a successful call (QNAME; most recent owner; most recent name in RDATA;
             entry *i* of the vector = the *i*-th name written inside the RDATAs);
    * `finish`: from an `I`-state `finish` does not panic (the two `unwrap`s are covered by the
             reservations of `set_edns` / `set_tsig`) provided the MAC is no longer than the
             algorithm's output (the reservation of `signed_len`).

  The rest of the file is the small Hoare logic (`Safe`) used to push these through the server
  model, and the facts about writer calls that hold by mere unfolding (frame properties).
-/
import QV.Model.Server
import QV.Proofs.ServerNames
import QV.Proofs.WriterSafe

namespace QV.ServerSafety
open QV QV.Writer QV.Server

/-! The hint contract `HintOK`, the calls `Call` (`run`, `Pre`), `Mono`, `MacLenOK` and the interface
    `WriterSafe` itself are declared in `QV.Proofs.WriterSafe` (same namespace), next to the instance
    `QV.Writer.writerSafe : WriterSafe` proved from C12/C13; `compNames` / `rdataNames` are
    `QV.Writer.compNames` / `QV.Writer.rdataNames`. -/

theorem Mono.refl (Den) (s : State) : Mono Den s s := ⟨rfl, fun _ _ h => h⟩

theorem Mono.trans {Den} {a b c : State} (h1 : Mono Den a b) (h2 : Mono Den b c) : Mono Den a c :=
  ⟨h2.1.trans h1.1, fun p n h => h2.2 p n (h1.2 p n h)⟩

/-! ### a Hoare logic for computations over the writer state -/

variable (W : WriterSafe)

/-- running `f` from `s`: no panic, the invariant again, anchors monotone, and `Q` on success -/
def Safe {ε α : Type} (f : State → Out ε α × State) (s : State) (Q : α → State → Prop) : Prop :=
  (f s).1 ≠ .panic ∧ W.I (f s).2 ∧ Mono W.Den s (f s).2 ∧ ∀ a, (f s).1 = .ok a → Q a (f s).2

theorem Safe.weaken {ε α : Type} {f : State → Out ε α × State} {s : State} {Q Q' : α → State → Prop}
    (h : Safe W f s Q) (hq : ∀ a s', W.I s' → Mono W.Den s s' → Q a s' → Q' a s') : Safe W f s Q' :=
  ⟨h.1, h.2.1, h.2.2.1, fun a ha => hq a _ h.2.1 h.2.2.1 (h.2.2.2 a ha)⟩

theorem safe_bind_M {α β : Type} {x : M α} {g : α → M β} {s : State} {Q : α → State → Prop}
    {R : β → State → Prop} (hx : Safe W x s Q)
    (hg : ∀ a s', W.I s' → Mono W.Den s s' → Q a s' → Safe W (g a) s' R) : Safe W (x >>= g) s R := by
  obtain ⟨h1, h2, h3, h4⟩ := hx
  unfold Safe
  rw [M.bind_apply]
  generalize x s = r at h1 h2 h3 h4
  obtain ⟨o, s'⟩ := r
  cases o with
  | ok a =>
    obtain ⟨g1, g2, g3, g4⟩ := hg a s' h2 h3 (h4 a rfl)
    exact ⟨g1, g2, h3.trans g3, g4⟩
  | err e => exact ⟨by simp, h2, h3, fun a ha => by cases ha⟩
  | panic => exact absurd rfl h1

theorem safe_pure_M {α : Type} (a : α) (s : State) (hi : W.I s) {Q : α → State → Prop} (hq : Q a s) :
    Safe W (pure a : M α) s Q :=
  ⟨by simp [pure], hi, Mono.refl _ _, fun b hb => by cases hb; exact hq⟩

/-- a `Call` whose contract is met -/
theorem safe_call (c : Call) (s : State) (hi : W.I s) (hp : c.Pre W.Den s) :
    Safe W c.run s (fun _ _ => True) := by
  obtain ⟨h1, h2, h3⟩ := W.call c s hi hp
  exact ⟨h1, h2, h3, fun _ _ => trivial⟩

/-- hints stay valid along `Mono` as long as the anchor they name is not reassigned -/
theorem hintOK_qname_mono {s s' : State} {n : WName} (h : HintOK W.Den s .qname n)
    (hm : Mono W.Den s s') : HintOK W.Den s' .qname n := by
  intro q hq
  rw [hm.1] at hq
  exact hm.2 q n (h q hq)

/-! ### the same logic for the answer phase, which runs on the writer plus a ghost operation log
    (`PS`); assertions speak about the writer component only -/

/-- running `f` from `s`: no panic, the writer invariant again, anchors monotone, `Q` on success -/
def SafeP {ε α : Type} (f : PS → Out ε α × PS) (s : PS) (Q : α → State → Prop) : Prop :=
  (f s).1 ≠ .panic ∧ W.I (f s).2.w ∧ Mono W.Den s.w (f s).2.w ∧ ∀ a, (f s).1 = .ok a → Q a (f s).2.w

theorem SafeP.weaken {ε α : Type} {f : PS → Out ε α × PS} {s : PS} {Q Q' : α → State → Prop}
    (h : SafeP W f s Q) (hq : ∀ a w', W.I w' → Mono W.Den s.w w' → Q a w' → Q' a w') : SafeP W f s Q' :=
  ⟨h.1, h.2.1, h.2.2.1, fun a ha => hq a _ h.2.1 h.2.2.1 (h.2.2.2 a ha)⟩

theorem PM.bind_apply {α β : Type} (x : PM α) (g : α → PM β) (s : PS) :
    (x >>= g) s = match x s with
      | (.ok a, s') => g a s'
      | (.err e, s') => (.err e, s')
      | (.panic, s') => (.panic, s') := rfl

theorem safe_bind_PM {α β : Type} {x : PM α} {g : α → PM β} {s : PS} {Q : α → State → Prop}
    {R : β → State → Prop} (hx : SafeP W x s Q)
    (hg : ∀ a s', W.I s'.w → Mono W.Den s.w s'.w → Q a s'.w → SafeP W (g a) s' R) :
    SafeP W (x >>= g) s R := by
  obtain ⟨h1, h2, h3, h4⟩ := hx
  unfold SafeP
  rw [PM.bind_apply]
  generalize x s = r at h1 h2 h3 h4
  obtain ⟨o, s'⟩ := r
  cases o with
  | ok a =>
    obtain ⟨g1, g2, g3, g4⟩ := hg a s' h2 h3 (h4 a rfl)
    exact ⟨g1, g2, h3.trans g3, g4⟩
  | err e => exact ⟨by simp, h2, h3, fun a ha => by cases ha⟩
  | panic => exact absurd rfl h1

theorem safe_pure_PM {α : Type} (a : α) (s : PS) (hi : W.I s.w) {Q : α → State → Prop} (hq : Q a s.w) :
    SafeP W (pure a : PM α) s Q :=
  ⟨by simp [pure, PM.pure], hi, Mono.refl _ _, fun b hb => by cases hb; exact hq⟩

/-- a logged header operation -/
theorem safe_hdrOp (ev : Ev) {m : M Unit} {s : PS} {Q : Unit → State → Prop} (h : Safe W m s.w Q) :
    SafeP W (PM.hdrOp ev m) s (fun _ _ => True) := by
  obtain ⟨h1, h2, h3, _⟩ := h
  unfold SafeP
  dsimp only [PM.hdrOp]
  generalize m s.w = r at h1 h2 h3
  obtain ⟨o, w'⟩ := r
  cases o with
  | ok a => exact ⟨by simp, h2, h3, fun _ _ => trivial⟩
  | err e => exact ⟨by simp, h2, h3, fun _ _ => trivial⟩
  | panic => exact absurd rfl h1

/-- a logged record-adding call: `Some(hv)` when it was made and succeeded, `None` only when it was
    optional and did not fit -/
theorem safe_addCall (ev : AddEv) {m : M HV} {s : PS} {Q : HV → State → Prop} (h : Safe W m s.w Q) :
    SafeP W (PM.addCall ev m) s
      (fun o w' => (∀ hv, o = some hv → Q hv w') ∧ (o = none → ev.optional = true)) := by
  obtain ⟨h1, h2, h3, h4⟩ := h
  unfold SafeP
  dsimp only [PM.addCall]
  generalize m s.w = r at h1 h2 h3 h4
  obtain ⟨o, w'⟩ := r
  cases o with
  | ok a => exact ⟨by simp, h2, h3, fun b hb => by cases hb; exact ⟨fun hv hhv => by cases hhv; exact h4 a rfl, nofun⟩⟩
  | err e =>
    dsimp only
    split
    · rename_i hopt
      exact ⟨by simp, h2, h3, fun b hb => by cases hb; exact ⟨nofun, fun _ => hopt.1⟩⟩
    · exact ⟨by simp, h2, h3, fun b hb => by cases hb⟩
  | panic => exact absurd rfl h1

end QV.ServerSafety
