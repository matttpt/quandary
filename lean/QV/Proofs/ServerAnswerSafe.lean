/-
  QV.Proofs.ServerAnswerSafe — the pass of Proofs/ServerQuery.lean (`Along`, `SafeE`: C01's judgement
  with a second property carried through `src/server/query.rs`) at the writer model, up to `inner`.
  The tie between log and content layout (Proofs/ServerAnswerContent.lean) and the two-run property
  (Proofs/ServerAnswerTwoRunI.lean) are such properties.
-/
import QV.Proofs.ServerQuery
import QV.Proofs.ServerAnswer

namespace QV.ServerContent
open QV QV.Writer QV.Server QV.ServerSafety QV.ServerAnswer

/-- the writer's safety contract (C01's parameter), at the writer model -/
abbrev W : WriterSafe := Writer.writerSafe

variable {E : ∀ {ε α : Type}, (PS → Out ε α × PS) → PS → Prop}

/-- the answering logic proper -/
theorem inner_safe (R : Along W E) (z : Zone.Zone) (hz : ZoneOK z) (qname : WName) (hq : qname.WF) (qtype : Nat)
    (hsub : z.apex <:+ fold qname) (s : PS) (hi : W.I s.w) (hh : HintOK W.Den s.w .qname qname) :
    SafeE W E (inner z qname qtype) s (fun _ _ => True) := by
  unfold ServerAnswer.inner
  split
  · exact answerAny_safe R z hz qname hq hsub s hi hh
  · exact answer_safe R z hz qname hq qtype hsub s hi hh

end QV.ServerContent
