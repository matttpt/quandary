/-
  QV.Proofs.ZoneSpec — facts about the flat-list specification `QV.Spec.Zone` alone (no tree):
  Bool ↔ Prop forms, RRsets of a list and of a list extended by one record, sortedness of
  `rrsetsAt`, upward closure of existence; the executable node search satisfies the declarative
  specification (`specLookupBase_sound`), which determines its result (`BaseSpec.unique`).
-/
import QV.Spec.Zone

namespace QV.Spec.Zone
open QV QV.NameL QV.Zone

/-! ### Bool ↔ Prop -/

theorem nameExists_iff (z : SZone) (n : Name) : nameExists z n = true ↔ NameExists z n := by
  simp [nameExists, NameExists, List.any_eq_true]

theorem owns_iff (z : SZone) (n : Name) (t : Nat) : owns z n t = true ↔ Owns z n t := by
  simp [owns, Owns, List.any_eq_true]

theorem suffix_antisymm {a b : Name} (h1 : a <:+ b) (h2 : b <:+ a) : a = b :=
  h1.eq_of_length_le h2.length_le

theorem isSuffixOf_eq_false {a n : Name} (h : ¬ a <:+ n) : a.isSuffixOf n = false :=
  Bool.eq_false_iff.mpr fun he => h (List.isSuffixOf_iff_suffix.mp he)

theorem Owns.exists {z : SZone} {n : Name} {t : Nat} (h : Owns z n t) : NameExists z n := by
  obtain ⟨r, hr, ho, _⟩ := h
  exact Or.inr ⟨r, hr, by rw [ho]; exact List.suffix_refl _⟩

/-- existence is upward closed within the zone -/
theorem NameExists.up {z : SZone} {n m : Name} (h : NameExists z n) (hm : m <:+ n) (ha : z.apex <:+ m) :
    NameExists z m := by
  rcases h with h | ⟨r, hr, hs⟩
  · subst h; exact Or.inl (suffix_antisymm hm ha)
  · exact Or.inr ⟨r, hr, hm.trans hs⟩

theorem findType_eq (l : List Rrset) (t : Nat) :
    findType l t = (l.find? (fun s => s.rtype == t)) := rfl

theorem rrset_eq_none (z : SZone) (n : Name) (t : Nat) : rrset z n t = none ↔ ¬ Owns z n t := by
  unfold rrset Owns
  split
  · rename_i h
    simp only [true_iff]
    intro ⟨r, hr, ho, ht⟩
    have : r ∈ z.recs.filter (fun r => r.owner == n && r.rtype == t) := by simp [hr, ho, ht]
    rw [h] at this; simp at this
  · rename_i r rs h
    simp only [reduceCtorEq, false_iff]
    have : r ∈ z.recs.filter (fun r => r.owner == n && r.rtype == t) := by rw [h]; simp
    simp at this
    exact fun hn => hn ⟨r, this.1, this.2.1, this.2.2⟩

theorem rrset_rtype {z : SZone} {n : Name} {t : Nat} {x : Rrset} (h : rrset z n t = some x) : x.rtype = t := by
  unfold rrset at h
  split at h
  · cases h
  · cases h; rfl

theorem rrset_some_owns {z : SZone} {n : Name} {t : Nat} {x : Rrset} (h : rrset z n t = some x) : Owns z n t := by
  have : rrset z n t ≠ none := by rw [h]; simp
  exact Classical.not_not.mp (fun hn => this ((rrset_eq_none z n t).mpr hn))

/-- the RRset after appending one record to the list -/
theorem rrset_append (z : SZone) (r : Rec) (n : Name) (t : Nat) :
    rrset { z with recs := z.recs ++ [r] } n t =
      if r.owner = n ∧ r.rtype = t then
        some (match rrset z n t with
              | some x => ⟨t, x.ttl, x.rdatas ++ [r.rdata]⟩
              | none => ⟨t, r.ttl, [r.rdata]⟩)
      else rrset z n t := by
  unfold rrset
  simp only [List.filter_append]
  by_cases h : r.owner = n ∧ r.rtype = t
  · have hf : List.filter (fun r => r.owner == n && r.rtype == t) [r] = [r] := by simp [h.1, h.2]
    rw [hf, if_pos h]
    cases List.filter (fun r => r.owner == n && r.rtype == t) z.recs with
    | nil => simp
    | cons a rest => simp
  · have hf : List.filter (fun r => r.owner == n && r.rtype == t) [r] = [] := by
      simp only [List.filter_cons, List.filter_nil]
      split
      · rename_i hh; simp at hh; exact absurd hh h
      · rfl
    rw [hf, if_neg h, List.append_nil]

/-- rdatas of an RRset = the RDATAs of its records, in order -/
theorem rrset_rdatas {z : SZone} {n : Name} {t : Nat} {x : Rrset} (h : rrset z n t = some x) :
    x.rdatas = (z.recs.filter (fun r => r.owner == n && r.rtype == t)).map (·.rdata) := by
  unfold rrset at h
  split at h
  · cases h
  · rename_i r rs hf; cases h; rw [hf]

/-- the TTL of an RRset is the TTL of its first record, a member of the list -/
theorem rrset_ttl {z : SZone} {n : Name} {t : Nat} {x : Rrset} (h : rrset z n t = some x) :
    ∃ r ∈ z.recs, r.owner = n ∧ r.rtype = t ∧ r.ttl = x.ttl := by
  unfold rrset at h
  split at h
  · cases h
  · rename_i r rs hf
    cases h
    have : r ∈ z.recs.filter (fun r => r.owner == n && r.rtype == t) := by rw [hf]; simp
    simp at this
    exact ⟨r, this.1, this.2.1, this.2.2, rfl⟩

/-! ### `typesAt`, `rrsetsAt` -/

def SortedN : List Nat → Prop
  | [] => True
  | a :: rest => (∀ b ∈ rest, a < b) ∧ SortedN rest

theorem mem_insertType (t u : Nat) (l : List Nat) : u ∈ insertType t l ↔ u = t ∨ u ∈ l := by
  induction l with
  | nil => simp [insertType]
  | cons a rest ih =>
    simp only [insertType]
    split
    · simp
    · split
      · rename_i h; subst h; simp
      · simp [ih]; constructor
        · rintro (h | h | h) <;> simp [h]
        · rintro (h | h | h) <;> simp [h]

theorem sorted_insertType (t : Nat) (l : List Nat) (h : SortedN l) : SortedN (insertType t l) := by
  induction l with
  | nil => simp [insertType, SortedN]
  | cons a rest ih =>
    simp only [insertType]
    split
    · rename_i hlt
      refine ⟨?_, h⟩
      intro b hb
      simp at hb
      rcases hb with hb | hb
      · subst hb; exact hlt
      · exact Nat.lt_trans hlt (h.1 b hb)
    · split
      · exact h
      · rename_i h1 h2
        refine ⟨?_, ih h.2⟩
        intro b hb
        rw [mem_insertType] at hb
        rcases hb with hb | hb
        · subst hb; omega
        · exact h.1 b hb

theorem sorted_typesAt (z : SZone) (n : Name) : SortedN (typesAt z n) := by
  unfold typesAt
  induction (List.map (fun x => x.rtype) (List.filter (fun r => r.owner == n) z.recs)) with
  | nil => simp [SortedN]
  | cons a rest ih => simp only [List.foldr_cons]; exact sorted_insertType a _ ih

theorem mem_typesAt (z : SZone) (n : Name) (t : Nat) : t ∈ typesAt z n ↔ Owns z n t := by
  unfold typesAt Owns
  have : ∀ l : List Nat, t ∈ l.foldr insertType [] ↔ t ∈ l := by
    intro l
    induction l with
    | nil => simp
    | cons a rest ih => simp only [List.foldr_cons, mem_insertType, ih]; simp
  rw [this]
  simp only [List.mem_map, List.mem_filter, beq_iff_eq]
  constructor
  · rintro ⟨r, ⟨hr, ho⟩, ht⟩; exact ⟨r, hr, ho, ht⟩
  · rintro ⟨r, hr, ho, ht⟩; exact ⟨r, ⟨hr, ho⟩, ht⟩

/-! ### the tests of `specAdd` in terms of the RRset -/

/-- all records of an RRset carry the same TTL (RFC 2181 §5.2) -/
def TtlUniform (z : SZone) : Prop :=
  ∀ r ∈ z.recs, ∀ r' ∈ z.recs, r.owner = r'.owner → r.rtype = r'.rtype → r.ttl = r'.ttl

theorem ttlAny_iff (z : SZone) (hu : TtlUniform z) (n : Name) (t ttl : Nat) :
    z.recs.any (fun r' => r'.owner == n && r'.rtype == t && r'.ttl != ttl) = true ↔
      ∃ x, rrset z n t = some x ∧ x.ttl ≠ ttl := by
  simp only [List.any_eq_true, Bool.and_eq_true, beq_iff_eq, bne_iff_ne]
  constructor
  · rintro ⟨r', hr', ⟨ho, ht⟩, hne⟩
    cases hx : rrset z n t with
    | none => exact absurd ⟨r', hr', ho, ht⟩ ((rrset_eq_none z n t).mp hx)
    | some x =>
      obtain ⟨r0, hr0, ho0, ht0, httl⟩ := rrset_ttl hx
      refine ⟨x, rfl, ?_⟩
      rw [← httl, hu r0 hr0 r' hr' (by rw [ho0, ho]) (by rw [ht0, ht])]
      exact hne
  · rintro ⟨x, hx, hne⟩
    obtain ⟨r0, hr0, ho0, ht0, httl⟩ := rrset_ttl hx
    exact ⟨r0, hr0, ⟨ho0, ht0⟩, by rw [httl]; exact hne⟩

theorem dupAny_eq (z : SZone) (n : Name) (t : Nat) (f : Rdata → Bool) :
    z.recs.any (fun r' => r'.owner == n && r'.rtype == t && f r'.rdata) =
      match rrset z n t with
      | some x => x.rdatas.any f
      | none => false := by
  have key : z.recs.any (fun r' => r'.owner == n && r'.rtype == t && f r'.rdata) =
      ((z.recs.filter (fun r => r.owner == n && r.rtype == t)).map (·.rdata)).any f := by
    induction z.recs with
    | nil => rfl
    | cons a rest ih =>
      simp only [List.any_cons, List.filter_cons]
      by_cases h : (a.owner == n && a.rtype == t) = true
      · simp only [h, if_true, List.map_cons, List.any_cons, Bool.true_and]; rw [ih]
      · have h' : (a.owner == n && a.rtype == t) = false := by simpa using h
        simp only [h', Bool.false_and, Bool.false_or]; rw [ih]; simp
  rw [key]
  cases hx : rrset z n t with
  | some x => simp only [rrset_rdatas hx]
  | none =>
    unfold rrset at hx
    split at hx
    · rename_i hf; rw [hf]; rfl
    · cases hx

/-! ### the executable lookup satisfies the declarative specification -/

theorem mem_tails_iff {e n : Name} : e ∈ tails n ↔ e <:+ n := by
  induction n with
  | nil => simp [tails]
  | cons l n ih =>
    simp only [tails, List.mem_cons, ih, List.suffix_cons_iff]

theorem tails_pairwise (n : Name) : (tails n).Pairwise (fun a b => b.length < a.length) := by
  induction n with
  | nil => simp [tails]
  | cons l n ih =>
    simp only [tails, List.pairwise_cons]
    refine ⟨?_, ih⟩
    intro a ha
    have := (mem_tails_iff.mp ha).length_le
    simp; omega

/-- the first match in a list whose elements are pairwise `r`-related: every other match is
    `r`-after it -/
theorem find?_first {α : Type} {r : α → α → Prop} {l : List α} (hp : l.Pairwise r) {f : α → Bool} {c : α}
    (h : l.find? f = some c) : c ∈ l ∧ f c = true ∧ ∀ e ∈ l, f e = true → e = c ∨ r c e := by
  rw [List.find?_eq_some_iff_append] at h
  obtain ⟨hfc, as, bs, hl, has⟩ := h
  refine ⟨by rw [hl]; simp, hfc, ?_⟩
  intro e he hfe
  rw [hl] at he hp
  simp only [List.mem_append, List.mem_cons] at he
  rcases he with he | he | he
  · have := has e he; simp [hfe] at this
  · exact Or.inl he
  · exact Or.inr ((List.pairwise_cons.mp (List.pairwise_append.mp hp).2.1).1 e he)

theorem mem_pathBelow {apex n c : Name} : c ∈ pathBelow apex n ↔ c <:+ n ∧ apex <:+ c ∧ c ≠ apex := by
  simp [pathBelow, mem_tails_iff]

theorem pathBelow_pairwise (apex n : Name) : (pathBelow apex n).Pairwise (fun a b => a.length < b.length) := by
  unfold pathBelow
  rw [List.pairwise_reverse]
  exact (tails_pairwise n).filter _

theorem isDelegation_iff {z : SZone} {n c : Name} (hcn : c <:+ n) :
    IsDelegation z c ↔ c ∈ pathBelow z.apex n ∧ owns z c NS = true := by
  rw [mem_pathBelow, owns_iff]
  unfold IsDelegation
  constructor
  · rintro ⟨h1, h2, h3⟩; exact ⟨⟨hcn, h2, h1⟩, h3⟩
  · rintro ⟨⟨_, h2, h1⟩, h3⟩; exact ⟨h1, h2, h3⟩

theorem specCut_some {z : SZone} {n c : Name} (h : specCut z n = some c) : IsCut z n c := by
  obtain ⟨hm, hf, hmin⟩ := find?_first (pathBelow_pairwise z.apex n) h
  have hcn := (mem_pathBelow.mp hm).1
  refine ⟨(isDelegation_iff hcn).mpr ⟨hm, hf⟩, hcn, ?_⟩
  intro c' hd hc'n
  obtain ⟨hm', hf'⟩ := (isDelegation_iff hc'n).mp hd
  exact List.suffix_of_suffix_length_le hcn hc'n
    ((hmin c' hm' hf').elim (fun e => e ▸ Nat.le_refl _) Nat.le_of_lt)

theorem specCut_none {z : SZone} {n : Name} (h : specCut z n = none) : ¬ ∃ c, IsCut z n c := by
  rintro ⟨c, hd, hcn, _⟩
  obtain ⟨hm, hf⟩ := (isDelegation_iff hcn).mp hd
  have := List.find?_eq_none.mp h c hm
  exact this hf

theorem closestEncloser_some {z : SZone} {n ce : Name} (hz : z.apex <:+ n) (h : closestEncloser z n = some ce) :
    IsClosestEncloser z n ce := by
  have hp : ((tails n).filter (fun s => z.apex.isSuffixOf s)).Pairwise (fun a b => b.length < a.length) :=
    (tails_pairwise n).filter _
  obtain ⟨hm, hf, hmax⟩ := find?_first hp h
  simp only [List.mem_filter, mem_tails_iff, List.isSuffixOf_iff_suffix] at hm
  refine ⟨hm.1, (nameExists_iff z ce).mp hf, ?_⟩
  intro e hen hex
  by_cases hae : z.apex <:+ e
  · have : e ∈ (tails n).filter (fun s => z.apex.isSuffixOf s) := by
      simp [mem_tails_iff, hen, List.isSuffixOf_iff_suffix.mpr hae]
    exact List.suffix_of_suffix_length_le hen hm.1
      ((hmax e this ((nameExists_iff z e).mpr hex)).elim (fun h => h ▸ Nat.le_refl _) Nat.le_of_lt)
  · -- `e` lies above the apex
    have : e <:+ z.apex := by
      by_cases hl : e.length ≤ z.apex.length
      · exact List.suffix_of_suffix_length_le hen hz hl
      · exact absurd (List.suffix_of_suffix_length_le hz hen (by omega)) hae
    exact this.trans hm.2

theorem closestEncloser_isSome {z : SZone} {n : Name} (hz : z.apex <:+ n) : (closestEncloser z n).isSome = true := by
  unfold closestEncloser
  rw [List.find?_isSome]
  refine ⟨z.apex, ?_, by simp [nameExists]⟩
  simp [mem_tails_iff, hz]

/-- the executable node search satisfies the declarative specification -/
theorem specLookupBase_sound (z : SZone) (n : Name) (sbc : Bool) : BaseSpec z n sbc (specLookupBase z n sbc) := by
  unfold specLookupBase
  by_cases hz : z.apex <:+ n
  · have hsuf : z.apex.isSuffixOf n = true := List.isSuffixOf_iff_suffix.mpr hz
    simp only [hsuf, Bool.not_true, Bool.false_eq_true, if_false]
    cases hcut : (if sbc = true then none else specCut z n) with
    | some c =>
      have hs : sbc = false := by cases sbc <;> simp at hcut ⊢
      subst hs
      simp only [Bool.false_eq_true, if_false] at hcut
      have hic := specCut_some hcut
      simp only
      cases hr : rrset z c NS with
      | some ns => exact BaseSpec.referral hz rfl hic hr
      | none => exact absurd hic.1.2.2 ((rrset_eq_none z c NS).mp hr)
    | none =>
      have hs : sbc = true ∨ ¬ ∃ c, IsCut z n c := by
        cases sbc with
        | true => exact Or.inl rfl
        | false => simp only [Bool.false_eq_true, if_false] at hcut; exact Or.inr (specCut_none hcut)
      simp only
      by_cases hex : nameExists z n = true
      · simp only [hex, if_true]
        exact BaseSpec.found hz hs ((nameExists_iff z n).mp hex)
      · have hex' : ¬ NameExists z n := fun h => hex ((nameExists_iff z n).mpr h)
        simp only [hex]
        cases hce : closestEncloser z n with
        | none => have := closestEncloser_isSome hz; rw [hce] at this; cases this
        | some ce =>
          have hic := closestEncloser_some hz hce
          simp only
          by_cases hw : nameExists z (asterisk :: ce) = true
          · simp only [hw, if_true]
            exact BaseSpec.synthesized hz hs hex' hic ((nameExists_iff z _).mp hw)
          · simp only [hw]
            exact BaseSpec.nxDomain hz hs hex' hic (fun h => hw ((nameExists_iff z _).mpr h))
  · have hsuf : z.apex.isSuffixOf n = false := isSuffixOf_eq_false hz
    simp only [hsuf, Bool.not_false, if_true]
    exact BaseSpec.wrongZone hz

theorem IsCut.unique {z : SZone} {n c c' : Name} (h : IsCut z n c) (h' : IsCut z n c') : c = c' :=
  suffix_antisymm (h.2.2 c' h'.1 h'.2.1) (h'.2.2 c h.1 h.2.1)

theorem IsClosestEncloser.unique {z : SZone} {n c c' : Name} (h : IsClosestEncloser z n c)
    (h' : IsClosestEncloser z n c') : c = c' :=
  suffix_antisymm (h'.2.2 c h.1 h.2.1) (h.2.2 c' h'.1 h'.2.1)

/-- the declarative specification determines the outcome -/
theorem BaseSpec.unique {z : SZone} {n : Name} {sbc : Bool} {b b' : Base} (h : BaseSpec z n sbc b)
    (h' : BaseSpec z n sbc b') : b = b' := by
  cases h with
  | wrongZone hz => cases h' <;> first | rfl | contradiction
  | referral hz hs hc hr =>
    cases h' with
    | wrongZone hz' => contradiction
    | referral _ _ hc' hr' => have := hc.unique hc'; subst this; rw [hr] at hr'; cases hr'; rfl
    | found _ hs' _ => rcases hs' with hs' | hs'; (rw [hs] at hs'; cases hs'); exact absurd ⟨_, hc⟩ hs'
    | synthesized _ hs' _ _ _ => rcases hs' with hs' | hs'; (rw [hs] at hs'; cases hs'); exact absurd ⟨_, hc⟩ hs'
    | nxDomain _ hs' _ _ _ => rcases hs' with hs' | hs'; (rw [hs] at hs'; cases hs'); exact absurd ⟨_, hc⟩ hs'
  | found hz hs he =>
    cases h' with
    | wrongZone hz' => contradiction
    | referral _ hs' hc' _ => rcases hs with hs | hs; (rw [hs'] at hs; cases hs); exact absurd ⟨_, hc'⟩ hs
    | found _ _ _ => rfl
    | synthesized _ _ he' _ _ => contradiction
    | nxDomain _ _ he' _ _ => contradiction
  | synthesized hz hs he hce hw =>
    cases h' with
    | wrongZone hz' => contradiction
    | referral _ hs' hc' _ => rcases hs with hs | hs; (rw [hs'] at hs; cases hs); exact absurd ⟨_, hc'⟩ hs
    | found _ _ he' => contradiction
    | synthesized _ _ _ hce' _ => have := hce.unique hce'; subst this; rfl
    | nxDomain _ _ _ hce' hw' => have := hce.unique hce'; subst this; contradiction
  | nxDomain hz hs he hce hw =>
    cases h' with
    | wrongZone hz' => contradiction
    | referral _ hs' hc' _ => rcases hs with hs | hs; (rw [hs'] at hs; cases hs); exact absurd ⟨_, hc'⟩ hs
    | found _ _ he' => contradiction
    | synthesized _ _ _ hce' hw' => have := hce.unique hce'; subst this; contradiction
    | nxDomain _ _ _ _ _ => rfl

/-! ### `specAdd` keeps apex, class and glue policy -/

theorem specAddM_fields (eqv : Eqv) (z : SZone) (r : Rec) :
    (specAddM eqv z r).apex = z.apex ∧ (specAddM eqv z r).cls = z.cls ∧ (specAddM eqv z r).glue = z.glue := by
  unfold specAddM specAdd
  split <;> rename_i h <;> (try exact ⟨rfl, rfl, rfl⟩)
  split at h <;> try cases h
  split at h <;> try cases h
  split at h <;> try cases h
  split at h <;> cases h <;> exact ⟨rfl, rfl, rfl⟩

theorem specBuild_fields (eqv : Eqv) (z : SZone) (rs : List Rec) :
    (specBuild eqv z rs).apex = z.apex ∧ (specBuild eqv z rs).cls = z.cls ∧ (specBuild eqv z rs).glue = z.glue := by
  induction rs generalizing z with
  | nil => exact ⟨rfl, rfl, rfl⟩
  | cons r rs ih =>
    simp only [specBuild, List.foldl_cons]
    obtain ⟨a, b, c⟩ := specAddM_fields eqv z r
    obtain ⟨a', b', c'⟩ := ih (specAddM eqv z r)
    exact ⟨a'.trans a, b'.trans b, c'.trans c⟩

end QV.Spec.Zone
