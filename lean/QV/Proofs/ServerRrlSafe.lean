/-
  QV.Proofs.ServerRrlSafe — `Server::handle_message` with response rate limiting enabled
  (model: QV.Model.ServerRrl) never panics, and what it returns relates to the RRL-less handler:

  * `handleMessageRrl_no_panic`: `handleToContext` never panics and hands RRL a writer state that
    satisfies the writer invariant (`handleToContext_cases`, QV.Proofs.ServerSafety)
    + `process_response` never panics (C26) + the two writer calls of
    the Slip path meet the writer's contract + `finish` from an invariant state;
  * the outcomes: not subject to RRL ⇒ exactly the RRL-less response, table untouched; otherwise no
    response (Drop), the RRL-less response (Send), or (Slip) `finish` of the writer after
    `clear_rrs(); set_tc(true)`: no answer/authority records, ARCOUNT = [OPT] + [TSIG], cursor back
    at the end of the question.
-/
import QV.Model.ServerRrl
import QV.Proofs.ServerSafety
import QV.Proofs.Rrl

namespace QV.ServerSafety
open QV QV.Writer QV.Server QV.Reader

/-! ### the Slip path on the writer -/

/-- `response.clear_rrs(); response.set_tc(true)` from an invariant state: succeeds, the invariant
    holds again, and the records are gone -/
theorem slip_ok (W : WriterSafe) (w1 : State) (hi : W.I w1) :
    ∃ w2, applyRrlAction (some .Slip) w1 = (.ok (), w2) ∧ W.I w2 ∧
      w2.ancount = 0 ∧ w2.nscount = 0 ∧
      w2.arcount = (if w1.edns.isSome then 1 else 0) + (if w1.tsig.isSome then 1 else 0) ∧
      w2.cursor = w1.rrStart ∧ w2.qdcount = w1.qdcount := by
  have hc : W.I (clearRrs w1).2 := W.clearRrs_I w1 hi
  obtain ⟨h1, h2, _⟩ := W.call (.setBit Gen.TC_BYTE Gen.TC_MASK true) (clearRrs w1).2 hc
    (show Gen.TC_BYTE < Gen.HEADER_SIZE by decide)
  have e : (Call.setBit Gen.TC_BYTE Gen.TC_MASK true).run = setTc true := rfl
  rw [e] at h1 h2
  have hne := (noErr_setTc true).h (clearRrs w1).2
  have happ : applyRrlAction (some .Slip) w1 = setTc true (clearRrs w1).2 := rfl
  rw [happ]
  -- `set_tc` touches the header octet only
  have hfr : ∀ s : State, (setTc true s).2.ancount = s.ancount ∧ (setTc true s).2.nscount = s.nscount ∧
      (setTc true s).2.arcount = s.arcount ∧ (setTc true s).2.cursor = s.cursor ∧
      (setTc true s).2.qdcount = s.qdcount := by
    intro s
    unfold setTc setBit setHdr
    split <;> exact ⟨rfl, rfl, rfl, rfl, rfl⟩
  obtain ⟨f1, f2, f3, f4, f5⟩ := hfr (clearRrs w1).2
  generalize hres : setTc true (clearRrs w1).2 = res at h1 h2 hne f1 f2 f3 f4 f5
  obtain ⟨o, w2⟩ := res
  cases o with
  | panic => exact absurd rfl h1
  | err e => exact absurd rfl (hne e)
  | ok u =>
    exact ⟨w2, rfl, h2, by rw [f1]; rfl, by rw [f2]; rfl, by rw [f3]; rfl, by rw [f4]; rfl, by rw [f5]; rfl⟩

theorem finishResponse_ok (W : WriterSafe) (send : Bool) (w : State) (r0 : Reader) (hi : W.I w) :
    ∃ resp, finishResponse (.ctx send w r0) = .ok resp ∧ (send = false → resp = none) := by
  cases send with
  | false => exact ⟨none, rfl, fun _ => rfl⟩
  | true =>
    obtain ⟨b, mac, hf⟩ := finish_ok W w macFn hi (macLenOK_server hmacLenOK)
    exact ⟨some b, by simp only [finishResponse, hf], fun h => by cases h⟩

/-- the writer calls of RRL's verdict succeed and keep the invariant -/
theorem applyRrlAction_ok (W : WriterSafe) (a : Option Rrl.Action) (w1 : State) (hi : W.I w1) :
    ∃ w2, applyRrlAction a w1 = (.ok (), w2) ∧ W.I w2 := by
  rcases a with _ | _ | _ | _
  · exact ⟨w1, rfl, hi⟩
  · exact ⟨w1, rfl, hi⟩
  · obtain ⟨w2, h, hi2, _⟩ := slip_ok W w1 hi
    exact ⟨w2, h, hi2⟩
  · exact ⟨w1, rfl, hi⟩

/-! ### the composed handler -/

/-- the composed handler answers `Ok` exactly when there is no context, or the handler up to RRL,
    `process_response`, the writer calls of its verdict and `finish` all answer `Ok` in turn -/
theorem handleMessageRrl_ok_iff {cfg : Cfg} {tr : Transport} {now bufLen : Nat} {req : Bytes}
    {rs : Rrl.RandomState} {rrl : Rrl.Rrl} {src : Rrl.IpAddr} {tnow : Nat} {rnd : Bool}
    {resp : Option Bytes} {rrl' : Rrl.Rrl} :
    handleMessageRrl cfg tr now bufLen req rs rrl src tnow rnd = .ok (resp, rrl') ↔
      (handleToContext cfg tr now bufLen req = .ok .noContext ∧ resp = none ∧ rrl' = rrl) ∨
      ∃ send w1 r0 c' w2, handleToContext cfg tr now bufLen req = .ok (.ctx send w1 r0) ∧
        Rrl.processResponse rs rrl tnow rnd (rrlContext cfg tr src send w1 r0) = .ok (rrl', c') ∧
        applyRrlAction c'.rrl_action w1 = (.ok (), w2) ∧
        finishResponse (.ctx c'.send_response w2 r0) = .ok resp := by
  unfold handleMessageRrl
  constructor
  · intro h
    split at h
    · cases h; exact .inl ⟨‹_›, rfl, rfl⟩
    · split at h
      · split at h
        · split at h
          · cases h; exact .inr ⟨_, _, _, _, _, ‹_›, ‹_›, ‹_›, ‹_›⟩
          · cases h
        · cases h
      · exact nomatch ‹Empty›
      · cases h
    · cases h
    · cases h
  · rintro (⟨hc, rfl, rfl⟩ | ⟨send, w1, r0, c', w2, hc, hp, ha, hf⟩)
    · rw [hc]
    · rw [hc]; dsimp only; rw [hp]; dsimp only; rw [ha]; dsimp only; rw [hf]

/-- **`handle_message` with RRL enabled never panics** (for any proof `W` of the writer interface) -/
theorem handleMessageRrl_no_panic (W : WriterSafe) (cfg : Cfg) (hcfg : CfgWF cfg) (tr : Transport)
    (now bufLen : Nat) (req : Bytes) (henv : EnvOK cfg tr now bufLen req) (rs : Rrl.RandomState)
    (rrl : Rrl.Rrl) (hv : rrl.params.Valid) (src : Rrl.IpAddr) (tnow : Nat) (rnd : Bool) :
    ∃ resp rrl', handleMessageRrl cfg tr now bufLen req rs rrl src tnow rnd = .ok (resp, rrl') := by
  rcases handleToContext_cases W cfg hcfg tr now bufLen req henv with h | ⟨send, w1, r0, hi, _, h⟩
  · exact ⟨none, rrl, handleMessageRrl_ok_iff.mpr (.inl ⟨h, rfl, rfl⟩)⟩
  · rcases hp : Rrl.processResponse rs rrl tnow rnd (rrlContext cfg tr src send w1 r0) with ⟨rrl', c'⟩ | e | _
    · obtain ⟨w2, ha, hi2⟩ := applyRrlAction_ok W c'.rrl_action w1 hi
      obtain ⟨resp, hf, _⟩ := finishResponse_ok W c'.send_response w2 r0 hi2
      exact ⟨resp, rrl', handleMessageRrl_ok_iff.mpr (.inr ⟨_, _, _, _, _, h, hp, ha, hf⟩)⟩
    · exact nomatch e
    · exact absurd hp (Rrl.processResponse_no_panic rs rrl hv tnow rnd _)

/-- the four outcomes of the composed handler, relative to the RRL-less one -/
inductive RrlOutcome (cfg : Cfg) (tr : Transport) (now bufLen : Nat) (req : Bytes)
    (rrl : Rrl.Rrl) (resp : Option Bytes) (rrl' : Rrl.Rrl) : Prop where
  /-- not subject to RRL (no response anyway, TCP, opcode ≠ QUERY): the RRL-less response, the
      table untouched -/
  | exempt (h : handleMessage cfg tr now bufLen req = .ok resp) (ht : rrl' = rrl)
  /-- admitted: the RRL-less response -/
  | send (h : handleMessage cfg tr now bufLen req = .ok resp)
  /-- limited, dropped: no response -/
  | drop (h : resp = none)
  /-- limited, slipped: the response is `finish` of the handler's writer after
      `clear_rrs(); set_tc(true)` — question kept, no answer/authority records, ARCOUNT counts only
      the OPT / TSIG pseudo-records that `finish` appends -/
  | slip (w1 w2 : State) (r0 : Reader) (b : Bytes) (mac : Option (List UInt8))
      (h1 : handleToContext cfg tr now bufLen req = .ok (.ctx true w1 r0))
      (h2 : applyRrlAction (some .Slip) w1 = (.ok (), w2))
      (h3 : w2.ancount = 0 ∧ w2.nscount = 0 ∧
        w2.arcount = (if w1.edns.isSome then 1 else 0) + (if w1.tsig.isSome then 1 else 0) ∧
        w2.cursor = w1.rrStart ∧ w2.qdcount = w1.qdcount)
      (h4 : Writer.finish w2 macFn = .ok (b, mac)) (h5 : resp = some b)

theorem handleMessageRrl_outcome (W : WriterSafe) (cfg : Cfg) (hcfg : CfgWF cfg) (tr : Transport)
    (now bufLen : Nat) (req : Bytes) (henv : EnvOK cfg tr now bufLen req) (rs : Rrl.RandomState)
    (rrl : Rrl.Rrl) (src : Rrl.IpAddr) (tnow : Nat) (rnd : Bool)
    (resp : Option Bytes) (rrl' : Rrl.Rrl)
    (h : handleMessageRrl cfg tr now bufLen req rs rrl src tnow rnd = .ok (resp, rrl')) :
    RrlOutcome cfg tr now bufLen req rrl resp rrl' := by
  have heq := handleMessage_eq_toContext cfg tr now bufLen req
  obtain ⟨hc, rfl, rfl⟩ | ⟨send, w1, r0, c', w2, hc, hp, ha, hf⟩ := handleMessageRrl_ok_iff.mp h
  · rw [hc] at heq; exact .exempt heq rfl
  · rw [hc] at heq
    rcases Rrl.processResponse_shape _ _ _ _ _ _ _ hp with ⟨_, rfl, rfl⟩ | ⟨hsub, a, rfl, _⟩
    · -- not subject to RRL
      cases ha; exact .exempt (heq.trans hf) rfl
    · -- subject to RRL: then `send_response` was set
      obtain rfl : send = true := by
        simp only [Rrl.subjectToRrl, Bool.and_eq_true] at hsub
        exact hsub.1.1
      cases a with
      | Send => cases ha; exact .send (heq.trans hf)
      | Drop => cases ha; cases hf; exact .drop rfl
      | Slip =>
        obtain hc' | ⟨_, _, _, hi, _, hc'⟩ := handleToContext_cases W cfg hcfg tr now bufLen req henv <;>
          rw [hc] at hc' <;> cases hc'
        obtain ⟨w2', hs2, hi2, g⟩ := slip_ok W w1 hi
        obtain rfl : w2' = w2 := congrArg Prod.snd (hs2.symm.trans ha)
        obtain ⟨b, mac, hfin⟩ := finish_ok W w2' macFn hi2 (macLenOK_server hmacLenOK)
        have hf' : finishResponse (.ctx true w2' r0) = .ok resp := hf
        simp only [finishResponse, hfin, Out.ok.injEq] at hf'
        exact .slip w1 w2' r0 b mac hc hs2 g hfin hf'.symm

/-- over TCP nothing is subject to RRL -/
theorem handleMessageRrl_tcp (W : WriterSafe) (cfg : Cfg) (hcfg : CfgWF cfg) (now bufLen : Nat) (req : Bytes)
    (henv : EnvOK cfg .tcp now bufLen req) (rs : Rrl.RandomState) (rrl : Rrl.Rrl) (hv : rrl.params.Valid)
    (src : Rrl.IpAddr) (tnow : Nat) (rnd : Bool) :
    ∃ resp, handleMessage cfg .tcp now bufLen req = .ok resp ∧
      handleMessageRrl cfg .tcp now bufLen req rs rrl src tnow rnd = .ok (resp, rrl) := by
  obtain ⟨resp, rrl', h⟩ := handleMessageRrl_no_panic W cfg hcfg .tcp now bufLen req henv rs rrl hv src tnow rnd
  have heq := handleMessage_eq_toContext cfg .tcp now bufLen req
  obtain ⟨hc, rfl, rfl⟩ | ⟨send, w1, r0, c', w2, hc, hp, ha, hf⟩ := handleMessageRrl_ok_iff.mp h
  · rw [hc] at heq; exact ⟨none, heq, h⟩
  · rw [hc] at heq
    rcases Rrl.processResponse_shape _ _ _ _ _ _ _ hp with ⟨_, rfl, rfl⟩ | ⟨hsub, _⟩
    · cases ha; exact ⟨resp, heq.trans hf, h⟩
    · simp [Rrl.subjectToRrl, rrlContext, rrlTransport, Gen.RRL_LIMITED_TRANSPORT_IS_UDP] at hsub

/-- `process_response` never touches the parameters of the table -/
theorem processResponse_params (rs : Rrl.RandomState) (R : Rrl.Rrl) (now : Nat) (rnd : Bool) (c : Rrl.Context)
    (R' : Rrl.Rrl) (c' : Rrl.Context) (h : Rrl.processResponse rs R now rnd c = .ok (R', c')) :
    R'.params = R.params := by
  unfold Rrl.processResponse at h
  split at h
  · simp only [Out.ok.injEq, Prod.mk.injEq] at h; rw [← h.1]
  · split at h
    · cases h
    · exact nomatch (by assumption : Empty)
    · split at h
      · cases h
      · dsimp only at h
        split at h
        · cases h
        · exact nomatch (by assumption : Empty)
        · simp only [Out.ok.injEq, Prod.mk.injEq] at h; rw [← h.1]; rfl

theorem handleMessageRrl_params (cfg : Cfg) (tr : Transport) (now bufLen : Nat) (req : Bytes)
    (rs : Rrl.RandomState) (rrl : Rrl.Rrl) (src : Rrl.IpAddr) (tnow : Nat) (rnd : Bool)
    (resp : Option Bytes) (rrl' : Rrl.Rrl)
    (h : handleMessageRrl cfg tr now bufLen req rs rrl src tnow rnd = .ok (resp, rrl')) :
    rrl'.params = rrl.params := by
  obtain ⟨_, _, rfl⟩ | ⟨_, _, _, _, _, _, hp, _, _⟩ := handleMessageRrl_ok_iff.mp h
  · rfl
  · exact processResponse_params _ _ _ _ _ _ _ hp

/-- **a whole sequence of messages** against one rate-limited server: no panic, one result per
    message -/
theorem serveAll_no_panic (W : WriterSafe) (cfg : Cfg) (hcfg : CfgWF cfg) (rs : Rrl.RandomState)
    (arrivals : List Arrival) (henv : ∀ a ∈ arrivals, EnvOK cfg a.tr a.now a.bufLen a.req) :
    ∀ (rrl : Rrl.Rrl), rrl.params.Valid →
      ∃ resps rrl', serveAll cfg rs rrl arrivals = .ok (resps, rrl') ∧ resps.length = arrivals.length ∧
        rrl'.params = rrl.params := by
  induction arrivals with
  | nil => intro rrl _; exact ⟨[], rrl, rfl, rfl, rfl⟩
  | cons a rest ih =>
    intro rrl hv
    obtain ⟨resp, rrl1, h1⟩ := handleMessageRrl_no_panic W cfg hcfg a.tr a.now a.bufLen a.req
      (henv a (List.mem_cons_self ..)) rs rrl hv a.src a.tnow a.rnd
    have hp1 := handleMessageRrl_params cfg a.tr a.now a.bufLen a.req rs rrl a.src a.tnow a.rnd resp rrl1 h1
    obtain ⟨resps, rrl2, h2, hl, hp2⟩ := ih (fun b hb => henv b (List.mem_cons_of_mem _ hb)) rrl1 (hp1 ▸ hv)
    refine ⟨resp :: resps, rrl2, ?_, by simp [hl], hp2.trans hp1⟩
    simp only [serveAll, h1, h2]

end QV.ServerSafety
