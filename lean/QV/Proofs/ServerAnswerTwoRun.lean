/-
  QV.Proofs.ServerAnswerTwoRun — `Same` ("the two writers agree below the cursor") as an equivalence that
  ignores the lent hint vector and passes through `lift`: `Same.symm`, `Same.trans`, `same_hv`,
  `same_lift_inv`, used by the two-run comparison of Proofs/ServerAnswerTwoRunI.lean (C10 row 3).  After a
  dropped optional call the two writers agree only below the cursor (`with_rollback` restores the cursor
  and the counts, not the octets), so that comparison needs that a writer call of the answering phase
  does not read octets at or above the cursor.
  Standing for itself: `ScratchIndep` asks this of *all* pairs of writer states, and that is false — a
  prior name may point at or above the cursor (`refA`, `refB`, `scratchIndep_false`); `inner_two_run`,
  stated under it, holds for that reason alone.  C10 uses `ScratchIndepI` (TwoRunI): the same, next to a
  state that satisfies `Writer.I` with a valid hint.
-/
import QV.Proofs.ServerAnswerMono

namespace QV.ServerAnswer
open QV QV.Writer QV.Server

theorem Same.symm {s t : State} (h : Same s t) : Same t s :=
  ⟨h.size.symm, fun i hi => (h.pre i (by rw [← h.cursor]; exact hi)).symm, h.cursor.symm, h.limit.symm,
    h.available.symm, h.rrStart.symm, h.sect.symm, h.qd.symm, h.an.symm, h.ns.symm, h.ar.symm, h.qname.symm,
    h.owner.symm, h.inRdata.symm, h.mode.symm, h.edns.symm, h.tsig.symm, h.gLabels.symm, h.gPtrs.symm,
    h.gCtx.symm⟩

theorem Same.trans {s t u : State} (h : Same s t) (g : Same t u) : Same s u :=
  ⟨g.size.trans h.size, fun i hi => (g.pre i (by rw [h.cursor]; exact hi)).trans (h.pre i hi),
    g.cursor.trans h.cursor, g.limit.trans h.limit, g.available.trans h.available, g.rrStart.trans h.rrStart,
    g.sect.trans h.sect, g.qd.trans h.qd, g.an.trans h.an, g.ns.trans h.ns, g.ar.trans h.ar,
    g.qname.trans h.qname, g.owner.trans h.owner, g.inRdata.trans h.inRdata, g.mode.trans h.mode,
    g.edns.trans h.edns, g.tsig.trans h.tsig, g.gLabels.trans h.gLabels, g.gPtrs.trans h.gPtrs,
    g.gCtx.trans h.gCtx⟩

theorem same_hv {s t : State} (h : Same s t) (x y : Option HV) : Same { s with hv := x } { t with hv := y } :=
  ⟨h.size, h.pre, h.cursor, h.limit, h.available, h.rrStart, h.sect, h.qd, h.an, h.ns, h.ar, h.qname,
    h.owner, h.inRdata, h.mode, h.edns, h.tsig, h.gLabels, h.gPtrs, h.gCtx⟩

/-- a state that agrees with a lifted state is itself a lift -/
theorem same_lift_inv (d : Nat) (B0 t : State) (h : Same (lift d B0) t) : ∃ t0, t = lift d t0 ∧ Same B0 t0 := by
  refine ⟨{ t with limit := B0.limit, available := B0.available }, ?_, ?_⟩
  · have h1 := h.limit
    have h2 := h.available
    cases t
    simp only [lift] at h1 h2 ⊢
    subst h1 h2
    rfl
  · exact ⟨h.size, h.pre, h.cursor, rfl, rfl, h.rrStart, h.sect, h.qd, h.an, h.ns, h.ar, h.qname,
      h.owner, h.inRdata, h.mode, h.edns, h.tsig, h.gLabels, h.gPtrs, h.gCtx⟩

/-- **scratch independence, without the invariant** (false for states whose prior names or hints point
    at or above the cursor, `scratchIndep_false`; the form C10 uses is `ServerContent.ScratchIndepI`): a
    writer call of the answering phase run on two states that agree on everything but the octets at and
    above the cursor has the same outcome and leaves two such states (and the same hint vector).
    `compress_decision` is the only reader of the octets, and it reads wherever a prior name points. -/
def ScratchIndep : Prop :=
  ∀ (c : AnsCall) (s t : State), Same s t → s.hv = t.hv →
    (c.run t).1 = (c.run s).1 ∧ Same (c.run s).2 (c.run t).2 ∧ (c.run s).2.hv = (c.run t).2.hv

/-- a writer holding the question `a. A IN` with the cursor put back to 12: the QNAME prior now points
    at the cursor -/
def refA : State :=
  match Writer.new (Array.replicate 64 0) 64 with
  | .ok w => { (Writer.addQuestion ⟨[[97]]⟩ 1 1 w).2 with cursor := 12 }
  | _ => default

/-- `refA` with the octet of the label (above the cursor) changed -/
def refB : State := { refA with octets := refA.octets.setIfInBounds 13 98 }

/-- adding a record owned by `a.` to `refA` compresses the owner against the prior (cursor 28), to
    `refB` it does not (cursor 29) -/
theorem scratchIndep_false : ¬ ScratchIndep := by
  intro h
  have hS : Same refA refB :=
    ⟨by decide +kernel, (by decide +kernel : ∀ i, i < 12 → refB.octets[i]? = refA.octets[i]?), rfl, rfl, rfl, rfl,
      rfl, rfl, rfl, rfl, rfl, rfl, rfl, rfl, rfl, rfl, rfl, rfl, rfl, rfl⟩
  have := (h (.addRr .answer .none ⟨[[97]]⟩ 1 1 0 [1, 2, 3, 4]) refA refB hS rfl).2.1.cursor
  revert this
  decide +kernel

section leaves
set_option linter.unusedSectionVars false
variable (hSI : ScratchIndep)
include hSI

/-- the two-run comparison of the answering logic under `ScratchIndep`, which does not hold
    (`scratchIndep_false`: the statement is vacuous); `ServerContent.inner_safeX` is the one C10 uses: if with `d` more octets
    of room the answering logic succeeds (optional calls possibly dropped) and the result fits the
    smaller room, then in the smaller room — from a state that agrees below the cursor — it does not
    panic ⇒ it succeeds with the same log and leaves a writer that agrees with the big one up to the
    room and the octets at and above the cursor -/
theorem inner_two_run (z : Zone.Zone) (qname : WName) (qtype : Nat) (d : Nat) (A B0 : State) (log : List Ev)
    (pt : PS) (hS : Same A B0) (hhv : A.hv = B0.hv)
    (h : inner z qname qtype ⟨lift d B0, log⟩ = (.ok (), pt)) (hc : pt.w.cursor ≤ A.available)
    (hnp : (inner z qname qtype ⟨A, log⟩).1 ≠ .panic) :
    ∃ ps' t0, inner z qname qtype ⟨A, log⟩ = (.ok (), ps') ∧ ps'.log = pt.log ∧ pt.w = lift d t0 ∧
      Same ps'.w t0 ∧ ps'.w.hv = t0.hv :=
  absurd hSI scratchIndep_false

end leaves

end QV.ServerAnswer
