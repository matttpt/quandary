/-
  QV.Proofs.WriterSingle — `add_*_rr` is `add_*_rrset` on a set of one record, so what is proved of
  the latter for every set holds of the former.
-/
import QV.Proofs.WriterRecords

namespace QV.Writer
open QV

theorem addRrset_single (hint : Hint) (owner : WName) (ty cls ttl : Nat) (rd : List UInt8) :
    addRrset hint owner ty cls ttl [rd] 0 = (do addRr hint owner ty cls ttl rd; pure 1) := rfl

/-- the count checks of `add_*_rrset` with `n = 1` are the one of `add_*_rr` -/
theorem addRrOp_eq_addRrsetOp (sec : RrSection) (hint : Hint) (owner : WName) (ty cls ttl : Nat)
    (rd : List UInt8) : addRrOp sec hint owner ty cls ttl rd = addRrsetOp sec hint owner ty cls ttl [rd] := by
  unfold addRrOp addRrsetOp
  rw [addRrset_single, M.bind_assoc]
  rfl

theorem step_addRr (ss : Session) (sec : RrSection) (h : HintRef) (o : WName) (ty cls ttl : Nat) (rd : List UInt8)
    (hv : Option Nat) :
    step ss (.addRr sec h o ty cls ttl rd hv) = step ss (.addRrset sec h o ty cls ttl [rd] hv) := by
  simp only [step, addRrOp_eq_addRrsetOp]

end QV.Writer
