/-
  QV.Proofs.WriterStep — what one public call does to the writer, said once.

  `Did ss op s'`: the call `op`, made in the session state `ss`, returned `Ok` and left the writer `s'`. Each arm
  gives `s'` as an equation — `{ ss.w with … }`, or the model's own equation for the calls that write items.
  `step_cases` is the one place where `step` is taken apart: a call made from a valid state with its precondition
  fails and leaves the writer as it was (`Same`), or succeeds and `Did`. What a call does to an invariant is then
  read off the equation, by `induction` on `Did`: here for the header (`hdr_step`, `hdr_run`) and for `Disabled` mode
  (`lay_step`, `lay_run`), which together with `finish_bytes` give `disabled_refines` (C12 (d) in `Disabled` mode).
-/
import QV.Proofs.WriterHeader
import QV.Proofs.WriterLayout
import QV.Proofs.WriterSingle
import QV.Proofs.FinishTsig

namespace QV.Writer
open QV QV.Wire QV.Spec QV.Spec.Message QV.ServerSafety

/-! ### what a successful call found and did, routine by routine -/

/-- a successful `set_limit` clamps the requested limit between what is used (cursor plus
    reservations) and the buffer, and keeps the reservations -/
theorem setLimit_ok_eq {v : Nat} {s : State} (hi : Inv s) (h : (setLimit v s).1 = .ok ()) :
    ∃ nl, nl = min s.octets.size (max v (s.cursor + (s.limit - s.available))) ∧ s.limit - s.available ≤ nl ∧
      (setLimit v s).2 = { s with limit := nl, available := nl - (s.limit - s.available) } := by
  rcases setLimit_cases v s with ⟨_, h'⟩ | ⟨l, a, h', hb⟩ <;> rw [h'] at h ⊢
  · cases h
  · obtain ⟨_, h2, _, h4, h5⟩ := hb hi.cur_av hi.av_lim hi.lim_size
    have := hi.av_lim
    exact ⟨l, h5, by omega, by rw [show a = l - (s.limit - s.available) by omega]⟩

/-- what a successful `set_edns` found and did -/
theorem setEdns_ok_inv {p : Nat} {s : State} (h : (setEdns p s).1 = .ok ()) :
    s.edns.isSome = false ∧ s.cursor + Gen.OPT_RECORD_SIZE ≤ s.available ∧
    (setEdns p s).2 = { s with arcount := s.arcount + 1, available := s.available - Gen.OPT_RECORD_SIZE,
                               edns := some ⟨p, 0⟩ } := by
  rcases setEdns_cases p s with ⟨_, h', _⟩ | ⟨a, b, _, h'⟩ <;> rw [h'] at h ⊢ <;> cases h
  exact ⟨by rw [a]; rfl, b, rfl⟩

/-- what a successful `set_tsig` found and did -/
theorem setTsig_ok_inv {m : TsigMode} {rr : TsigRr} {s : State} (h : (setTsig m rr s).1 = .ok ()) :
    s.tsig.isSome = false ∧ s.cursor + reservedLenOf m rr ≤ s.available ∧
    (setTsig m rr s).2 = { s with arcount := s.arcount + 1, available := s.available - reservedLenOf m rr,
                                  tsig := some ⟨m, reservedLenOf m rr, rr⟩ } := by
  rcases setTsig_cases m rr s with ⟨_, h', _⟩ | ⟨a, b, _, h'⟩ <;> rw [h'] at h ⊢ <;> cases h
  exact ⟨by rw [a]; rfl, b, rfl⟩

theorem retemplate_ok {ss : Session} {n : Nat} {fill : UInt8} {mk : Bytes → Template → Out WriterErr State}
    (h : (retemplate ss n fill mk).1 = .ok ()) :
    ∃ t s', intoTemplate ss.w = .ok t ∧ mk (Array.replicate n fill) t = .ok s' ∧ (retemplate ss n fill mk).2.w = s' := by
  unfold retemplate at h ⊢
  cases ht : intoTemplate ss.w with
  | ok t =>
    rw [ht] at h
    simp only [] at h ⊢
    cases hm : mk (Array.replicate n fill) t with
    | ok s' => exact ⟨t, s', rfl, hm, rfl⟩
    | err e' =>
      rw [hm] at h
      simp only [] at h
      split at h <;> cases h
    | panic =>
      rw [hm] at h
      simp only [] at h
      split at h <;> cases h
  | err e' => rw [ht] at h; cases h
  | panic => rw [ht] at h; cases h

/-- a successful `add_question` extended the message and counted the question -/
theorem addQuestion_ok_ext {qn : WName} {qt qc : Nat} {s s' : State} (h : addQuestion qn qt qc s = (.ok (), s')) :
    ∃ s1, Ext s s1 ∧ s' = { s1 with qdcount := s1.qdcount + 1, rrStart := s1.cursor } := by
  have hc := addQuestion_cases qn qt qc s
  rw [h] at hc
  obtain ⟨s1, e, _, rfl⟩ := hc
  exact ⟨s1, e, rfl⟩

/-- a successful `add_*_rrset` extended the message and set one counter -/
theorem addRrsetOp_ok_ext {sec : RrSection} {hint : Hint} {owner : WName} {ty cls ttl : Nat} {rds : List (List UInt8)}
    {s s' : State} (h : addRrsetOp sec hint owner ty cls ttl rds s = (.ok (), s')) :
    ∃ s1 n, Ext s s1 ∧ s' = (setCount sec n s1).2 := by
  have hc := addRrsetOp_cases sec hint owner ty cls ttl rds s
  rw [h] at hc
  obtain ⟨s1, n, e, _, rfl⟩ := hc
  exact ⟨s1, _, e, rfl⟩

/-- `setCount` writes one of the three record counts and nothing else -/
theorem setCount_keep (sec : RrSection) (n : Nat) (s : State) :
    (setCount sec n s).2.edns = s.edns ∧ (setCount sec n s).2.tsig = s.tsig ∧ (setCount sec n s).2.sect = s.sect ∧
    (setCount sec n s).2.limit = s.limit ∧ (setCount sec n s).2.available = s.available ∧
    (setCount sec n s).2.octets = s.octets ∧ (setCount sec n s).2.mode = s.mode ∧
    (setCount sec n s).2.qdcount = s.qdcount := by
  cases sec <;> exact ⟨rfl, rfl, rfl, rfl, rfl, rfl, rfl, rfl⟩

theorem liftW_ok {ss : Session} {f : M Unit} (h : (liftW ss f).1 = .ok ()) :
    f ss.w = (.ok (), (liftW ss f).2.w) := by
  rw [liftW_fst] at h
  rw [liftW_w, ← h]

/-! ### `Did` -/

/-- the nine setters of header fields -/
def Op.isHdr : Op → Bool
  | .setId _ | .setQr _ | .setAa _ | .setTc _ | .setRd _ | .setRa _ | .setOpcode _ | .setRcode _
  | .setExtendedRcode _ => true
  | _ => false

/-- the upper eight bits of the extended RCODE (kept with the OPT record) after a successful header setter:
    `set_rcode` clears them, `set_extended_rcode` sets them -/
def upperAfter : Op → Nat → Nat
  | .setRcode _, _ => 0
  | .setExtendedRcode v, _ => v / 16 % 256
  | _, u => u

/-- the EDNS configuration after a successful header setter -/
def ednsAfter (e : Option Edns) (op : Op) : Option Edns := e.map fun x => { x with upper := upperAfter op x.upper }

theorem ednsAfter_id {e : Option Edns} {op : Op} (h : ∀ u, upperAfter op u = u) : ednsAfter e op = e := by
  cases e with
  | none => rfl
  | some x => simp only [ednsAfter, Option.map_some, h]

/-- `op` is a template call for a fresh buffer of `n` octets and `ts` the TSIG state it installs: the stored one, or
    (`try_from_template_as_tsig_subsequent`, signed TSIG only) the stored one switched to `Subsequent` with the
    prior MAC -/
def TemplateCall (ss : Session) (op : Op) (n : Nat) (fill : UInt8) (ts : Option Tsig) : Prop :=
  (op = .template n fill ∧ ts = ss.w.tsig) ∨
  ∃ mac ts0 al k, op = .templateSubsequent n fill mac ∧ ss.w.tsig = some ts0 ∧
    (ts0.mode = .request al k ∨ (∃ x, ts0.mode = .response al x k) ∨ ∃ x, ts0.mode = .subsequent al x k) ∧
    ts = some { mode := .subsequent al mac k, reservedLen := ts0.reservedLen, rr := ts0.rr }

theorem TemplateCall.isSome {ss : Session} {op : Op} {n : Nat} {fill : UInt8} {ts : Option Tsig}
    (h : TemplateCall ss op n fill ts) : ts.isSome = ss.w.tsig.isSome := by
  rcases h with ⟨_, rfl⟩ | ⟨_, _, _, _, _, h0, _, rfl⟩
  · rfl
  · rw [h0]; rfl

/-- **what a successful call did**: the writer it leaves, as an equation on the writer it found -/
inductive Did (ss : Session) : Op → State → Prop
  /-- a header setter rewrites octets below 12 — to what `hdrStep` says — and the upper RCODE bits -/
  | hdr {op : Op} {o : Bytes} : op.isHdr = true → o.size = ss.w.octets.size →
      (∀ i, 12 ≤ i → o[i]? = ss.w.octets[i]?) →
      (op.Typed → specHeader o = hdrStep (specHeader ss.w.octets) op) →
      (∀ v, op = .setExtendedRcode v → ss.w.edns.isSome = true ∧ v ≤ 4095) →
      Did ss op { ss.w with octets := o, edns := ednsAfter ss.w.edns op }
  /-- `set_limit` clamps the request between what is used and the buffer; the reservations stay -/
  | limit {v nl : Nat} : nl = min ss.w.octets.size (max v (ss.w.cursor + (ss.w.limit - ss.w.available))) →
      ss.w.limit - ss.w.available ≤ nl →
      Did ss (.setLimit v) { ss.w with limit := nl, available := nl - (ss.w.limit - ss.w.available) }
  | mode {m : CMode} : Did ss (.setMode m) { ss.w with mode := m }
  | question {n : WName} {t c : Nat} {s' : State} : addQuestion n t c ss.w = (.ok (), s') →
      Did ss (.addQuestion n t c) s'
  /-- `add_*_rrset`, with the caller's hint vector lent for the call -/
  | records {sec : RrSection} {h : HintRef} {o : WName} {ty cls ttl : Nat} {rds : List (List UInt8)}
      {hv : Option Nat} {s1 : State} :
      addRrsetOp sec (resolveHint ss.hvs h) o ty cls ttl rds { ss.w with hv := hv.map (hvGet ss.hvs) } = (.ok (), s1) →
      Did ss (.addRrset sec h o ty cls ttl rds hv) { s1 with hv := none }
  /-- `add_*_rr` is `add_*_rrset` of one RDATA -/
  | record {sec : RrSection} {h : HintRef} {o : WName} {ty cls ttl : Nat} {rd : List UInt8}
      {hv : Option Nat} {s' : State} : Did ss (.addRrset sec h o ty cls ttl [rd] hv) s' →
      Did ss (.addRr sec h o ty cls ttl rd hv) s'
  | clear : Did ss .clearRrs (clearRrs ss.w).2
  | edns {p : Nat} : ss.w.edns.isSome = false → ss.w.cursor + Gen.OPT_RECORD_SIZE ≤ ss.w.available →
      Did ss (.setEdns p) { ss.w with arcount := ss.w.arcount + 1, available := ss.w.available - Gen.OPT_RECORD_SIZE,
                                      edns := some ⟨p, 0⟩ }
  | tsig {m : TsigMode} {rr : TsigRr} : ss.w.tsig.isSome = false → ss.w.cursor + reservedLenOf m rr ≤ ss.w.available →
      Did ss (.setTsig m rr) { ss.w with arcount := ss.w.arcount + 1, available := ss.w.available - reservedLenOf m rr,
                                         tsig := some ⟨m, reservedLenOf m rr, rr⟩ }
  | time {t : List UInt8} {ts : Tsig} : ss.w.tsig = some ts →
      Did ss (.updateTimeSigned t) { ss.w with tsig := some { ts with rr := { ts.rr with timeSigned := t } } }
  /-- both template calls: the writer is re-created from its template in a fresh buffer of `n` octets -/
  | template {op : Op} {n : Nat} {fill : UInt8} {ts : Option Tsig} {s' : State} :
      TemplateCall ss op n fill ts → FromTemplate ss.w s' (Array.replicate n fill) ts → Did ss op s'
  | getters : Did ss .getters ss.w

/-- a header setter touches only what the layout does not depend on -/
theorem hdrOnly_hdr {s : State} {op : Op} {o : Bytes} (hp : ∀ i, 12 ≤ i → o[i]? = s.octets[i]?) :
    HdrOnly s { s with octets := o, edns := ednsAfter s.edns op } :=
  ⟨hp, rfl, rfl, rfl, rfl, rfl, rfl, rfl, rfl, Option.isSome_map .., rfl, rfl⟩

theorem bodyStep_hdr {b : Body} {op : Op} (h : op.isHdr = true) : bodyStep b op = b := by
  cases op <;> first | rfl | cases h

/-- a header setter that is one `setHdr` -/
theorem did_setHdr {ss : Session} {op : Op} (i : Nat) (f : UInt8 → UInt8) (hi : i < 12) (h12 : 12 ≤ ss.w.octets.size)
    (hop : op.isHdr = true) (hu : ∀ u, upperAfter op u = u) (hx : ∀ v, op ≠ .setExtendedRcode v)
    (hh : op.Typed → specHeader (setHdr i f ss.w).2.octets = hdrStep (specHeader ss.w.octets) op) :
    Did ss op (setHdr i f ss.w).2 := by
  rw [setHdr_ok i f ss.w (by omega)] at hh ⊢
  have := Did.hdr (ss := ss) (op := op) (o := ss.w.octets.set i (f (ss.w.octets.getD i 0)) (by omega)) hop (by simp)
    (fun j hj => by rw [Array.getElem?_set]; rw [if_neg (by omega)]) hh (fun v hv => absurd hv (hx v))
  rwa [ednsAfter_id hu] at this

/-- **every successful call from a valid state `Did`** -/
theorem step_did (ss : Session) (op : Op) (hI : I ss.w) (hok : (step ss op).1 = .ok ()) :
    Did ss op (step ss op).2.w := by
  have hi := hI.inv
  have h12 : 12 ≤ ss.w.octets.size := by
    have := hi.hdr; have := hi.cur_av; have := hi.av_lim; have := hi.lim_size; omega
  cases op with
  | setId v =>
    have hw : (step ss (.setId v)).2.w = { ss.w with octets := writeAt ss.w.octets 0 (u16be v) } := by
      show (liftW ss (write 0 (u16be v))).2.w = _
      rw [liftW_w]; unfold write; rw [if_pos (by show 0 + 2 ≤ _; omega)]
    rw [hw]
    have := Did.hdr (ss := ss) (op := .setId v) rfl (by simp)
      (fun i hi => writeAt_get_ge ss.w.octets 0 (u16be v) i (by show 0 + 2 ≤ i; omega)) (fun ht => by
        simp only [hdrStep]
        rw [specHeader_eq, specHeader_eq,
          be16_of_bytesAt (bytesAt_writeAt ss.w.octets 0 (u16be v) (by show 0 + 2 ≤ _; omega)) ht,
          getD_of_getElem? (writeAt_get_ge ss.w.octets 0 (u16be v) 2 (by show 0 + 2 ≤ 2; omega)),
          getD_of_getElem? (writeAt_get_ge ss.w.octets 0 (u16be v) 3 (by show 0 + 2 ≤ 3; omega))]
        simp only [mkHeader]) (fun _ h => by cases h)
    rwa [ednsAfter_id (fun _ => rfl)] at this
  | setQr b =>
    rw [show (step ss (.setQr b)).2.w = _ from liftW_w ss _]
    refine did_setHdr _ _ (by decide) h12 rfl (fun _ => rfl) (fun _ h => by cases h) fun _ => ?_
    show specHeader (setHdr 2 _ ss.w).2.octets = _
    rw [hdr_setHdr2 _ _ (by omega), specHeader_eq,
      byte2_setBit _ _ b (show byte2 (UInt8.ofNat Gen.QR_MASK) = (true, 0, false, false, false) by decide)]
    simp only [hdrStep, mkHeader, if_true, Bool.false_eq_true, if_false]
  | setAa b =>
    rw [show (step ss (.setAa b)).2.w = _ from liftW_w ss _]
    refine did_setHdr _ _ (by decide) h12 rfl (fun _ => rfl) (fun _ h => by cases h) fun _ => ?_
    show specHeader (setHdr 2 _ ss.w).2.octets = _
    rw [hdr_setHdr2 _ _ (by omega), specHeader_eq,
      byte2_setBit _ _ b (show byte2 (UInt8.ofNat Gen.AA_MASK) = (false, 0, true, false, false) by decide)]
    simp only [hdrStep, mkHeader, if_true, Bool.false_eq_true, if_false]
  | setTc b =>
    rw [show (step ss (.setTc b)).2.w = _ from liftW_w ss _]
    refine did_setHdr _ _ (by decide) h12 rfl (fun _ => rfl) (fun _ h => by cases h) fun _ => ?_
    show specHeader (setHdr 2 _ ss.w).2.octets = _
    rw [hdr_setHdr2 _ _ (by omega), specHeader_eq,
      byte2_setBit _ _ b (show byte2 (UInt8.ofNat Gen.TC_MASK) = (false, 0, false, true, false) by decide)]
    simp only [hdrStep, mkHeader, if_true, Bool.false_eq_true, if_false]
  | setRd b =>
    rw [show (step ss (.setRd b)).2.w = _ from liftW_w ss _]
    refine did_setHdr _ _ (by decide) h12 rfl (fun _ => rfl) (fun _ h => by cases h) fun _ => ?_
    show specHeader (setHdr 2 _ ss.w).2.octets = _
    rw [hdr_setHdr2 _ _ (by omega), specHeader_eq,
      byte2_setBit _ _ b (show byte2 (UInt8.ofNat Gen.RD_MASK) = (false, 0, false, false, true) by decide)]
    simp only [hdrStep, mkHeader, if_true, Bool.false_eq_true, if_false]
  | setRa b =>
    rw [show (step ss (.setRa b)).2.w = _ from liftW_w ss _]
    refine did_setHdr _ _ (by decide) h12 rfl (fun _ => rfl) (fun _ h => by cases h) fun _ => ?_
    show specHeader (setHdr 3 _ ss.w).2.octets = _
    rw [hdr_setHdr3 _ _ (by omega), specHeader_eq,
      byte3_setBit _ _ b (show byte3 (UInt8.ofNat Gen.RA_MASK) = (true, 0, 0) by decide)]
    simp only [hdrStep, mkHeader, if_true]
  | setOpcode v =>
    rw [show (step ss (.setOpcode v)).2.w = _ from liftW_w ss _]
    refine did_setHdr _ _ (by decide) h12 rfl (fun _ => rfl) (fun _ h => by cases h) fun ht => ?_
    show specHeader (setHdr 2 _ ss.w).2.octets = _
    rw [hdr_setHdr2 _ _ (by omega), specHeader_eq, byte2_opcode _ v ht]
    simp only [hdrStep, mkHeader]
  | setRcode v =>
    have hw : (step ss (.setRcode v)).2.w = { ss.w with
        octets := ss.w.octets.set 3 (((ss.w.octets.getD 3 0) &&& ~~~ (UInt8.ofNat Gen.RCODE_MASK)) ||| UInt8.ofNat v) (by omega),
        edns := ednsAfter ss.w.edns (.setRcode v) } := by
      show (liftW ss (setRcode v)).2.w = _
      rw [liftW_w]; unfold setRcode
      simp only [M.bind_apply]
      rw [setHdr_ok Gen.RCODE_BYTE _ ss.w (by show 3 < _; omega)]
      simp only [M.modify_apply, ednsAfter]
      cases ss.w.edns <;> rfl
    rw [hw]
    refine Did.hdr (op := .setRcode v) rfl (by simp)
      (fun j hj => by rw [Array.getElem?_set]; rw [if_neg (by omega)]) (fun ht => ?_) (fun _ h => by cases h)
    have hv : (UInt8.ofNat v).toNat = v := by
      rw [UInt8.toNat_ofNat']; exact Nat.mod_eq_of_lt (Nat.lt_trans ht (by decide))
    rw [specHeader_set3 _ (by omega), specHeader_eq, byte3_rcode _ _ (by rw [hv]; exact ht), hv]
    simp only [hdrStep, mkHeader]
  | setExtendedRcode v =>
    have hok' : (setExtendedRcode v ss.w).1 = .ok () := by rw [← liftW_fst]; exact hok
    rw [show (step ss (.setExtendedRcode v)).2.w = (setExtendedRcode v ss.w).2 from liftW_w ss _]
    rcases setExtendedRcode_cases v ss.w with ⟨_, h'⟩ | ⟨e0, he, ⟨_, h'⟩ | ⟨hv, r, s1, hs, ⟨_, _, h'⟩ | ⟨_, h'⟩⟩⟩ <;>
      rw [h'] at hok' ⊢
    · cases hok'
    · cases hok'
    · cases hok'
    · rw [show Gen.RCODE_BYTE = 3 from rfl, setHdr_ok 3 _ ss.w (by omega)] at hs
      cases hs
      rw [show (some { e0 with upper := v / 16 % 256 } : Option Edns) = ednsAfter ss.w.edns (.setExtendedRcode v) by
        rw [he]; rfl]
      refine Did.hdr (op := .setExtendedRcode v) rfl (by simp)
        (fun j hj => by rw [Array.getElem?_set]; rw [if_neg (by omega)]) (fun _ => ?_)
        (fun v' h => by cases h; exact ⟨by rw [he]; rfl, hv⟩)
      have hr : (UInt8.ofNat (v % 256) &&& UInt8.ofNat Gen.RCODE_MASK).toNat = v % 16 := by
        rw [and_rcode_mask, UInt8.toNat_ofNat']; omega
      rw [specHeader_set3 _ (by omega), specHeader_eq, byte3_rcode _ _ (by rw [hr]; omega), hr]
      simp only [hdrStep, mkHeader]
  | setLimit v =>
    obtain ⟨nl, hnl, hge, heq⟩ := setLimit_ok_eq hi (show (setLimit v ss.w).1 = .ok () by rw [← liftW_fst]; exact hok)
    rw [show (step ss (.setLimit v)).2.w = _ from liftW_w ss _, heq]
    exact .limit hnl hge
  | setMode m => exact .mode
  | addQuestion n t c => exact .question (liftW_ok hok)
  | addRrset sec h o ty cls ttl rds hv =>
    rw [show (step ss (.addRrset sec h o ty cls ttl rds hv)).2.w = _ from withHv_w ss hv _]
    refine .records ?_
    have : (addRrsetOp sec (resolveHint ss.hvs h) o ty cls ttl rds { ss.w with hv := hv.map (hvGet ss.hvs) }).1 = .ok () := by
      rw [← withHv_fst]; exact hok
    rw [← this]
  | addRr sec h o ty cls ttl rd hv =>
    rw [step_addRr] at hok ⊢
    rw [show (step ss (.addRrset sec h o ty cls ttl [rd] hv)).2.w = _ from withHv_w ss hv _]
    refine .record (.records ?_)
    have : (addRrsetOp sec (resolveHint ss.hvs h) o ty cls ttl [rd] { ss.w with hv := hv.map (hvGet ss.hvs) }).1 = .ok () := by
      rw [← withHv_fst]; exact hok
    rw [← this]
  | clearRrs => exact .clear
  | setEdns p =>
    obtain ⟨h1, h2, heq⟩ := setEdns_ok_inv (show (setEdns p ss.w).1 = .ok () by rw [← liftW_fst]; exact hok)
    rw [show (step ss (.setEdns p)).2.w = _ from liftW_w ss _, heq]
    exact .edns h1 h2
  | setTsig m rr =>
    obtain ⟨h1, h2, heq⟩ := setTsig_ok_inv (show (setTsig m rr ss.w).1 = .ok () by rw [← liftW_fst]; exact hok)
    rw [show (step ss (.setTsig m rr)).2.w = _ from liftW_w ss _, heq]
    exact .tsig h1 h2
  | updateTimeSigned t =>
    have hok' : (updateTimeSigned t ss.w).1 = .ok () := by rw [← liftW_fst]; exact hok
    rw [show (step ss (.updateTimeSigned t)).2.w = _ from liftW_w ss _]
    rcases updateTimeSigned_cases t ss.w with ⟨_, h'⟩ | ⟨ts, hts, h'⟩ <;> rw [h'] at hok' ⊢
    · cases hok'
    · exact .time hts
  | template n fill =>
    obtain ⟨t, s', ht, hm, hw⟩ := retemplate_ok hok
    rw [show (step ss (.template n fill)).2.w = s' from hw]
    exact .template (Or.inl ⟨rfl, rfl⟩) (template_ok_inv hi _ _ ht (by rw [← intoTemplate_tsig ht]; exact hm))
  | templateSubsequent n fill mac =>
    obtain ⟨t, s', ht, hm, hw⟩ := retemplate_ok hok
    rw [show (step ss (.templateSubsequent n fill mac)).2.w = s' from hw]
    simp only [tryFromTemplateAsTsigSubsequent] at hm
    rw [intoTemplate_tsig ht] at hm
    cases hs0 : ss.w.tsig with
    | none => rw [hs0] at hm; cases hm
    | some ts0 =>
      rw [hs0] at hm
      simp only at hm
      cases hmode : ts0.mode with
      | request al k =>
        rw [hmode] at hm
        exact .template (Or.inr ⟨mac, ts0, al, k, rfl, hs0, Or.inl hmode, rfl⟩) (template_ok_inv hi _ _ ht hm)
      | response al x k =>
        rw [hmode] at hm
        exact .template (Or.inr ⟨mac, ts0, al, k, rfl, hs0, Or.inr (Or.inl ⟨x, hmode⟩), rfl⟩)
          (template_ok_inv hi _ _ ht hm)
      | subsequent al x k =>
        rw [hmode] at hm
        exact .template (Or.inr ⟨mac, ts0, al, k, rfl, hs0, Or.inr (Or.inr ⟨x, hmode⟩), rfl⟩)
          (template_ok_inv hi _ _ ht hm)
      | unsigned nm => rw [hmode] at hm; cases hm
  | getters => exact .getters

/-- **a call from a valid state with its precondition**: it fails and leaves the writer as it was, or it succeeds
    and `Did` -/
theorem step_cases (ss : Session) (op : Op) (hI : I ss.w) (hop : OpOK ss op) :
    (∃ e, (step ss op).1 = .err e ∧ Same ss.w (step ss op).2.w) ∨
    ((step ss op).1 = .ok () ∧ Did ss op (step ss op).2.w) := by
  cases hr : (step ss op).1 with
  | ok u => exact Or.inr ⟨rfl, step_did ss op hI hr⟩
  | err e => exact Or.inl ⟨e, rfl, step_err_same ss op hI.inv e hr⟩
  | panic => exact absurd hr (step_I ss op hI hop).1

/-! ### the header -/

theorem Did.hdr_eq {ss : Session} {op : Op} {s' : State} (h : Did ss op s') (hi : Inv ss.w) (ht : op.Typed) :
    specHeader s'.octets = hdrStep (specHeader ss.w.octets) op := by
  have h12 := hi.hdr
  induction h with
  | hdr _ _ _ hh => exact hh ht
  | limit | mode | clear | edns | tsig | time | getters => rfl
  | question hq =>
    obtain ⟨s1, e, rfl⟩ := addQuestion_ok_ext hq
    exact specHeader_hdr4 (hdr4_of_pre h12 e.pre)
  | records hq =>
    obtain ⟨s1, n, e, rfl⟩ := addRrsetOp_ok_ext hq
    show specHeader (setCount _ n s1).2.octets = _
    rw [(setCount_keep _ n s1).2.2.2.2.2.1]
    exact specHeader_hdr4 (hdr4_of_pre (s := { ss.w with hv := _ }) h12 e.pre)
  | record _ ih =>
    exact ih ⟨ht.1, ht.2.1, ht.2.2.1, fun _ h => by rw [List.mem_singleton.mp h]; exact ht.2.2.2⟩
  | template hop' e =>
    rw [specHeader_hdr4 (hdr4_of_pre h12 e.pre)]
    rcases hop' with ⟨rfl, _⟩ | ⟨_, _, _, _, rfl, _⟩ <;> rfl

/-- **every call does to the header exactly what it says**: the header setters set their field
    and nothing else; every other call, and every failed call, leaves the header alone -/
theorem hdr_step (ss : Session) (op : Op) (hI : I ss.w) (hop : OpOK ss op) (ht : op.Typed) :
    specHeader (step ss op).2.w.octets =
      if (step ss op).1 = .ok () then hdrStep (specHeader ss.w.octets) op else specHeader ss.w.octets := by
  rcases step_cases ss op hI hop with ⟨e, he, hs⟩ | ⟨hok, hd⟩
  · rw [he]; simp only [reduceCtorEq, if_false]; exact specHeader_hdr4 (hdr4_of_pre hI.inv.hdr hs.pre)
  · rw [hok]; simp only [if_true]; exact hd.hdr_eq hI.inv ht

/-- **for all sequences of calls** that respect the contract: the header held in the buffer is the one
    built up by the header setters that succeeded, in order -/
theorem hdr_run (ss : Session) (ops : List Op) (hI : I ss.w) (hr : Respects ss ops) (ht : ∀ op ∈ ops, op.Typed) :
    specHeader (run ss ops).1.w.octets = hdrRun (specHeader ss.w.octets) ops (run ss ops).2 := by
  induction ops generalizing ss with
  | nil => rfl
  | cons op ops ih =>
    obtain ⟨hop, hrest⟩ := hr
    obtain ⟨hnp, hI'⟩ := step_I ss op hI hop
    rw [run_cons hnp]
    simp only [hdrRun]
    rw [← hdr_step ss op hI hop (ht op List.mem_cons_self)]
    exact ih _ hI' hrest (fun o ho => ht o (List.mem_cons_of_mem _ ho))

/-! ### `Disabled` mode -/

theorem Did.lay {ss : Session} {op : Op} {s' : State} {b : Body} (h : Did ss op s') (hL : Lay ss.w b)
    (hk : keepsDisabled op = true) : Lay s' (bodyStep b op) := by
  induction h with
  | hdr hop' _ hp => rw [bodyStep_hdr hop']; exact lay_hdrOnly hL (hdrOnly_hdr hp)
  | limit | getters => exact lay_congr (d := 0) hL (fun _ _ _ => rfl) rfl rfl rfl rfl rfl rfl rfl rfl rfl
  | mode =>
    simp only [keepsDisabled, beq_iff_eq] at hk
    subst hk
    exact lay_congr (d := 0) hL (fun _ _ _ => rfl) hL.mode.symm rfl rfl rfl rfl rfl rfl rfl rfl
  | question hq => exact lay_addQuestion hL _ _ _ hq
  | @records sec h o ty cls ttl rds slot s1 hq =>
    have h0 : Lay { ss.w with hv := slot.map (hvGet ss.hvs) } b :=
      lay_congr (d := 0) hL (fun _ _ _ => rfl) rfl rfl rfl rfl rfl rfl rfl rfl rfl
    exact lay_congr (d := 0) (lay_addRrsetOp h0 sec _ o ty cls ttl rds hq) (fun _ _ _ => rfl) rfl rfl rfl rfl rfl rfl
      rfl rfl rfl
  | record _ ih => exact ih rfl
  | clear => exact lay_clearRrs hL
  | edns h1 =>
    exact lay_congr (d := 1) hL (fun _ _ _ => rfl) rfl rfl rfl rfl rfl rfl rfl
      (by simp only [pend, h1, Option.isSome_some, if_true, Bool.false_eq_true, if_false]; omega) rfl
  | tsig h1 =>
    exact lay_congr (d := 1) hL (fun _ _ _ => rfl) rfl rfl rfl rfl rfl rfl rfl
      (by simp only [pend, h1, Option.isSome_some, if_true, Bool.false_eq_true, if_false]) rfl
  | time hts =>
    exact lay_congr (d := 0) hL (fun _ _ _ => rfl) rfl rfl rfl rfl rfl rfl rfl
      (by simp only [pend, hts, Option.isSome_some]; rfl) rfl
  | template hop' e =>
    have key : Lay _ b := lay_congr (d := 0) hL (fun i _ hi => e.pre i hi) e.mode e.cursor e.rrStart e.qd e.an e.ns e.sect
      (pend_of_isSome (by rw [e.edns]) (by rw [e.tsig]; exact hop'.isSome)) e.ar
    rcases hop' with ⟨rfl, _⟩ | ⟨_, _, _, _, rfl, _⟩ <;> exact key

/-- **the layout invariant is preserved by every call** that does not leave `Disabled` mode: a successful
    call appends exactly the canonical encoding of what it was given, to the right section; a
    failed call changes nothing -/
theorem lay_step (ss : Session) (op : Op) (b : Body) (hI : I ss.w) (hop : OpOK ss op) (h : Lay ss.w b)
    (hk : keepsDisabled op = true) :
    Lay (step ss op).2.w (if (step ss op).1 = .ok () then bodyStep b op else b) := by
  rcases step_cases ss op hI hop with ⟨e, he, hs⟩ | ⟨hok, hd⟩
  · rw [he]; simp only [reduceCtorEq, if_false]; exact lay_same h hs
  · rw [hok]; simp only [if_true]; exact hd.lay h hk

/-- **for all sequences of calls in `Disabled` mode** that respect the contract: the buffer holds the
    canonical encoding of exactly the questions and records of the calls that succeeded -/
theorem lay_run (ss : Session) (ops : List Op) (b : Body) (hI : I ss.w) (h : Lay ss.w b) (hr : Respects ss ops)
    (hk : ∀ op ∈ ops, keepsDisabled op = true) : Lay (run ss ops).1.w (bodyRun b ops (run ss ops).2) := by
  induction ops generalizing ss b with
  | nil => exact h
  | cons op ops ih =>
    obtain ⟨hop, hrest⟩ := hr
    obtain ⟨hnp, hI'⟩ := step_I ss op hI hop
    rw [run_cons hnp]
    exact ih _ _ hI' (lay_step ss op b hI hop h (hk op List.mem_cons_self)) hrest
      (fun o ho => hk o (List.mem_cons_of_mem _ ho))

/-- **C12 (d): refinement in `Disabled` mode, for all sequences of calls.** From a valid writer in
    `Disabled` mode holding the questions and records `b`, after any sequence of calls that respects
    the API contract: `finish` succeeds, and the RFC 1035 decoder of the specification reads the
    finished message as exactly — header as held in the first four octets; the questions and the
    records of the calls that succeeded, in order and section by section, names octet for octet,
    RDATA as the specification reads the RDATA given; then the OPT record; then the TSIG record. -/
theorem disabled_refines (macFn : Tsig → List UInt8 → List UInt8) (hmac : MacLenOK macFn)
    (ss : Session) (b : Body) (ops : List Op) (hI : I ss.w) (hlay : Lay ss.w b) (hb : b.Typed)
    (hk : ∀ op ∈ ops, keepsDisabled op = true) (ht : ∀ op ∈ ops, op.Typed) (hr : Respects ss ops) :
    ∃ m mac d, finish (run ss ops).1.w macFn = .ok (m, mac) ∧ specDecodeMsg m = some d ∧
      d.msg = ⟨specHeader (run ss ops).1.w.octets,
        (bodyRun b ops (run ss ops).2).qs.map specQ,
        (bodyRun b ops (run ss ops).2).an.map specR,
        (bodyRun b ops (run ss ops).2).ns.map specR,
        ((bodyRun b ops (run ss ops).2).ar ++ optRecs (run ss ops).1.w.edns ++
          tsigRecs (run ss ops).1.w.tsig mac).map specR⟩ := by
  obtain ⟨hnp, hIF⟩ := run_I ss ops hI hr
  have hL := lay_run ss ops b hI hlay hr hk
  have hT := typed_run ops ss b hb ht
  generalize (run ss ops).1.w = sF at hIF hL ⊢
  generalize bodyRun b ops (run ss ops).2 = B at hL hT ⊢
  obtain ⟨m, mac, hfin⟩ := finish_ok macFn hmac sF hIF
  obtain ⟨hbytes, hmacp⟩ := finish_bytes macFn sF B hL m mac hfin
  refine ⟨m, mac, ?_⟩
  -- the MAC is short
  have hmlen : (mac.getD []).length ≤ 32 := by
    rcases hmacp with rfl | ⟨t, msg, _, rfl⟩
    · simp
    · have := hmac t msg
      simp only [Option.getD_some]
      cases hmode : t.mode with
      | request a k => rw [hmode] at this; exact Nat.le_trans this (algOutputSize_le a)
      | response a x k => rw [hmode] at this; exact Nat.le_trans this (algOutputSize_le a)
      | subsequent a x k => rw [hmode] at this; exact Nat.le_trans this (algOutputSize_le a)
      | unsigned n => rw [hmode] at this; simp only at this; omega
  have htsig : ∀ r ∈ tsigRecs sF.tsig mac, r.Typed :=
    tsigRecs_typed sF.tsig mac (fun t h => (hIF.tsig t h).2) hmlen
  have har : ∀ r ∈ B.ar ++ optRecs sF.edns ++ tsigRecs sF.tsig mac, r.Typed := by
    intro r hx
    rcases List.mem_append.mp hx with h1 | h1
    · rcases List.mem_append.mp h1 with h2 | h2
      · exact hT.ar r h2
      · exact optRecs_typed _ r h2
    · exact htsig r h1
  -- counts
  have hinv := hIF.inv
  have hlen_ar : (B.ar ++ optRecs sF.edns ++ tsigRecs sF.tsig mac).length = sF.arcount := by
    rw [hL.ar, List.length_append, List.length_append]
    cases sF.edns <;> cases sF.tsig <;> simp [optRecs, tsigRecs]
  have hsz12 : 12 ≤ sF.octets.size := by
    have := hinv.hdr; have := hinv.cur_av; have := hinv.av_lim; have := hinv.lim_size; omega
  have hl4 : (sF.octets.toList.take 4).length = 4 := by simp; omega
  have hl8 : (u16be sF.qdcount ++ u16be sF.ancount ++ u16be sF.nscount ++ u16be sF.arcount).length = 8 := rfl
  have hbody : B.enc ++ (optEnc sF.edns ++ tsigEncOpt sF.tsig mac) =
      encQs B.qs ++ encRRs B.an ++ encRRs B.ns ++ encRRs (B.ar ++ optRecs sF.edns ++ tsigRecs sF.tsig mac) := by
    simp only [Body.enc, encRRs_append, optEnc_eq, tsigEnc_eq, List.append_assoc]
  have hself := bytesAt_self m
  rw [hbytes, List.append_assoc, hbody] at hself
  obtain ⟨s1, s2⟩ := bytesAt_append hself
  obtain ⟨s3, s4⟩ := bytesAt_append s1
  rw [List.length_append, hl4, hl8] at s2
  rw [hl4] at s4
  have hsize : m.size = 12 + (encQs B.qs ++ encRRs B.an ++ encRRs B.ns ++
      encRRs (B.ar ++ optRecs sF.edns ++ tsigRecs sF.tsig mac)).length := by
    have : m.size = m.toList.length := by simp
    rw [this, hbytes, List.append_assoc, hbody, List.length_append, List.length_append, hl4, hl8]
  obtain ⟨d, hd, hdm⟩ := specDecodeMsg_enc m B.qs B.an B.ns (B.ar ++ optRecs sF.edns ++ tsigRecs sF.tsig mac)
    hT.qs hT.an hT.ns har (by rw [← hL.qd]; have := hinv.qd; omega) (by rw [← hL.an]; have := hinv.an; omega)
    (by rw [← hL.ns]; have := hinv.ns; omega) (by rw [hlen_ar]; have := hinv.ar; omega)
    (by rw [← hL.qd, ← hL.an, ← hL.ns, hlen_ar]; simpa using s4)
    (by simpa using s2) hsize
  refine ⟨d, hfin, hd, ?_⟩
  rw [hdm]
  -- the header octets are those of the writer
  have hg : ∀ i, i < 4 → m.getD i 0 = sF.octets.getD i 0 := by
    intro i hi
    have h1 := bytesAt_getD s3 (i := i) (by rw [hl4]; exact hi)
    rw [Nat.zero_add] at h1
    rw [h1, List.getElem_take]
    simp [Array.getD, show i < sF.octets.size by omega]
  have hh : specHeader m = specHeader sF.octets := by
    simp only [specHeader, be16, hg 0 (by omega), hg 1 (by omega), hg 2 (by omega), hg 3 (by omega)]
  rw [hh]

end QV.Writer
