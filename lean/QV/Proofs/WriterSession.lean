/-
  QV.Proofs.WriterSession — the invariant `I` over whole sessions (`step`, `run`): for every
  sequence of public calls that respects the documented hint contract, no call panics and every
  state reached is valid (C12 invariant ∧ C13 anchors ∧ sound pointer log).
-/
import QV.Proofs.WriterSafe

namespace QV.Writer
open QV QV.Wire QV.ServerSafety

/-- the documented precondition of one public call, in the session state `ss`: names are
    well-formed `Name`s, the hint given for an owner is valid (`HintOK`, with explicit hints
    resolved through the caller's `HintPointerVec`s), TSIG times are 48-bit values -/
def OpOK (ss : Session) : Op → Prop
  | .addQuestion n _ _ => n.WF
  | .addRr _ h o _ _ _ _ _ => o.WF ∧ Writer.HintOK ss.w (resolveHint ss.hvs h) o
  | .addRrset _ h o _ _ _ _ _ => o.WF ∧ Writer.HintOK ss.w (resolveHint ss.hvs h) o
  | .setTsig m rr => rr.keyName.WF ∧ (tsigAlgName m).WF ∧ rr.timeSigned.length = 6 ∧ rr.serverTime.length = 6
  | .updateTimeSigned t => t.length = 6
  | _ => True

/-- a whole sequence of calls respects the contract (each call in the state it is made in) -/
def Respects : Session → List Op → Prop
  | _, [] => True
  | ss, op :: ops => OpOK ss op ∧ Respects (step ss op).2 ops

theorem liftW_I {f : M Unit} {ss : Session}
    (h : (f ss.w).1 ≠ .panic ∧ I (f ss.w).2) : (liftW ss f).1 ≠ .panic ∧ I (liftW ss f).2.w := by
  rw [liftW_w, liftW_fst]; exact h

theorem safe_setMode (m : CMode) (s : State) (hI : I s) :
    (setCompressionMode m s).1 ≠ .panic ∧ I (setCompressionMode m s).2 := by
  have hinv := (total_setCompressionMode m s).2 hI.inv
  refine ⟨by simp [setCompressionMode], ?_⟩
  exact i_keeps hI (keeps_same rfl rfl rfl rfl rfl rfl rfl) hinv hI.tsig

/-- a fresh writer, put into any compression mode, is valid -/
theorem new_mode_i {buf : Bytes} {limit : Nat} {s : State} (h : Writer.new buf limit = .ok s) (m : CMode) :
    I { s with mode := m } :=
  (safe_setMode m s (new_i buf limit s h)).2

theorem safe_clearRrs (s : State) (hI : I s) : (clearRrs s).1 ≠ .panic ∧ I (clearRrs s).2 :=
  ⟨by simp [clearRrs], clearRrs_i s hI⟩

theorem safe_updateTimeSigned (t : List UInt8) (ht : t.length = 6) (s : State) (hI : I s) :
    (updateTimeSigned t s).1 ≠ .panic ∧ I (updateTimeSigned t s).2 := by
  have hinv := (clean_updateTimeSigned t s).2 hI.inv
  rcases updateTimeSigned_cases t s with ⟨_, h⟩ | ⟨ts, hts, h⟩ <;> rw [h] at hinv ⊢
  · exact ⟨nofun, hI⟩
  · refine ⟨nofun, i_keeps hI (keeps_same rfl rfl rfl rfl rfl rfl rfl) hinv ?_⟩
    intro ts' hts'
    simp only [Option.some.injEq] at hts'
    subst hts'
    obtain ⟨a, b, c, d, e⟩ := hI.tsig ts hts
    exact ⟨by simpa [reservedLenOf, signedLen, unsignedLen] using a, b, c, ht, e⟩

/-- a writer re-created from the template of `s` keeps everything names depend on -/
theorem tryFromTemplateImpl_keeps {s s' : State} {t : Template} (buf : Bytes) (ts : Option Tsig)
    (h : Inv s) (ht : intoTemplate s = .ok t) (h' : tryFromTemplateImpl buf t ts = .ok s') :
    Keeps s s' := by
  have h1 := h.hdr; have h2 := h.cur_av; have h3 := h.av_lim; have h4 := h.lim_size
  unfold intoTemplate at ht
  rw [if_neg (by omega), if_neg (by omega)] at ht
  cases ht
  unfold tryFromTemplateImpl at h'
  simp only [extract_toList_length _ _ (show s.cursor ≤ s.octets.size by omega)] at h'
  split at h'
  · cases h'
  · split at h'
    · cases h'
    · rename_i g1 g2
      cases h'
      have hpre : ∀ i, i < s.cursor →
          (writeAt buf 0 (s.octets.extract 0 s.cursor).toList)[i]? = s.octets[i]? := by
        intro i hi
        have := writeAt_get_in buf 0 (List.take s.cursor s.octets.toList) i (by simp; omega) (by simp; omega)
        simp only [Nat.zero_add] at this
        simp only [Array.toList_extract, List.extract_eq_take_drop, Nat.sub_zero, List.drop_zero]
        rw [this, List.getElem?_take]
        simp [show i < s.cursor by omega]
      refine ⟨?_, rfl, rfl, rfl, rfl, rfl, rfl, rfl, ?_⟩
      · intro c hc p ls hn
        exact nameAt_frame (lo := 0) hn (fun _ hx => hx) (fun _ _ => Nat.zero_le _)
          (fun i _ hi => hpre i (by omega)) (Nat.le_refl _)
      · intro g ⟨ls, hn, hb⟩
        exact ⟨ls, nameAtC_frame (lo := 0) hn (fun _ hx => hx) (fun _ _ => Nat.zero_le _)
          (fun i _ hi => hpre i hi) (Nat.le_refl _), hb⟩

theorem tryFromTemplateImpl_tsig {s' : State} {t : Template} (buf : Bytes) (ts : Option Tsig)
    (h' : tryFromTemplateImpl buf t ts = .ok s') : s'.tsig = ts := by
  unfold tryFromTemplateImpl at h'
  dsimp only at h'
  split at h'
  · cases h'
  · split at h'
    · cases h'
    · cases h'; rfl

theorem tryFromTemplateImpl_nopanic {s : State} {t : Template} (buf : Bytes) (ts : Option Tsig)
    (h : Inv s) (ht : intoTemplate s = .ok t) : tryFromTemplateImpl buf t ts ≠ .panic := by
  have h1 := h.hdr; have h2 := h.cur_av; have h3 := h.av_lim; have h4 := h.lim_size
  unfold intoTemplate at ht
  rw [if_neg (by omega), if_neg (by omega)] at ht
  cases ht
  unfold tryFromTemplateImpl
  simp only [extract_toList_length _ _ (show s.cursor ≤ s.octets.size by omega)]
  split
  · simp
  · rename_i g1
    rw [if_neg (by omega)]
    simp


/-- the TSIG configuration a template constructor may install: the stored one, or the same with
    the mode switched to `Subsequent` (same algorithm, hence same reservation) -/
def TsigLike (old new : Option Tsig) : Prop :=
  new = old ∨ ∃ ts0 ts1, old = some ts0 ∧ new = some ts1 ∧ ts1.rr = ts0.rr ∧
    ts1.reservedLen = ts0.reservedLen ∧ reservedLenOf ts1.mode ts1.rr = reservedLenOf ts0.mode ts0.rr ∧
    tsigAlgName ts1.mode = tsigAlgName ts0.mode

theorem tsigOK_like {s s' : State} (h : TsigOK s) (hl : TsigLike s.tsig s'.tsig) : TsigOK s' := by
  rcases hl with he | ⟨ts0, ts1, h0, h1, hrr, hres, hlen, halg⟩
  · exact tsigOK_of_eq h he
  · intro ts hts
    rw [h1] at hts
    cases hts
    obtain ⟨a, b, c, d, e⟩ := h ts0 h0
    exact ⟨by rw [hres, hlen]; exact a, by rw [hrr]; exact b, by rw [halg]; exact c, by rw [hrr]; exact d,
      by rw [hrr]; exact e⟩

/-- what `retemplate` needs to know about the constructor it is given -/
def MkOK (mk : Bytes → Template → Out WriterErr State) : Prop :=
  (∀ buf t s', mk buf t = .ok s' → ∃ ts, tryFromTemplateImpl buf t ts = .ok s' ∧ TsigLike t.tsig ts) ∧
  (∀ buf t, (∀ ts, tryFromTemplateImpl buf t ts ≠ .panic) → mk buf t ≠ .panic)

theorem mkOK_tryFromTemplate : MkOK tryFromTemplate :=
  ⟨fun buf t s' h => ⟨t.tsig, h, Or.inl rfl⟩, fun buf t h => h t.tsig⟩

theorem mkOK_subsequent (mac : List UInt8) : MkOK (fun b t => tryFromTemplateAsTsigSubsequent b t mac) := by
  constructor
  · intro buf t s' h
    simp only [tryFromTemplateAsTsigSubsequent] at h
    cases hts : t.tsig with
    | none => rw [hts] at h; cases h
    | some ts0 =>
      rw [hts] at h
      simp only at h
      cases hm : ts0.mode with
      | request a k =>
        rw [hm] at h
        exact ⟨_, h, Or.inr ⟨ts0, _, rfl, rfl, rfl, rfl, by simp [reservedLenOf, hm], by simp [tsigAlgName, hm]⟩⟩
      | response a m k =>
        rw [hm] at h
        exact ⟨_, h, Or.inr ⟨ts0, _, rfl, rfl, rfl, rfl, by simp [reservedLenOf, hm], by simp [tsigAlgName, hm]⟩⟩
      | subsequent a m k =>
        rw [hm] at h
        exact ⟨_, h, Or.inr ⟨ts0, _, rfl, rfl, rfl, rfl, by simp [reservedLenOf, hm], by simp [tsigAlgName, hm]⟩⟩
      | unsigned n => rw [hm] at h; cases h
  · intro buf t h
    simp only [tryFromTemplateAsTsigSubsequent]
    cases hts : t.tsig with
    | none => simp
    | some ts0 =>
      simp only
      cases hm : ts0.mode with
      | request a k => exact h _
      | response a m k => exact h _
      | subsequent a m k => exact h _
      | unsigned n => simp

theorem retemplate_I (ss : Session) (n : Nat) (fill : UInt8)
    (mk : Bytes → Template → Out WriterErr State) (hmk : MkOK mk) (hI : I ss.w) :
    (retemplate ss n fill mk).1 ≠ .panic ∧ I (retemplate ss n fill mk).2.w := by
  have hinv := hI.inv
  obtain ⟨t, ht⟩ := intoTemplate_ok hinv
  have htt := intoTemplate_tsig ht
  have hnp : ∀ buf ts, tryFromTemplateImpl buf t ts ≠ .panic :=
    fun buf ts => tryFromTemplateImpl_nopanic buf ts hinv ht
  -- any successful construction from the template gives a valid writer
  have good : ∀ buf ts s', tryFromTemplateImpl buf t ts = .ok s' → TsigLike t.tsig ts → I s' := by
    intro buf ts s' h' hl
    have hk := tryFromTemplateImpl_keeps buf ts hinv ht h'
    have htsig := tryFromTemplateImpl_tsig buf ts h'
    have hinv' : Inv s' := by
      refine tryFromTemplateImpl_inv buf ts hinv ht ?_ ?_ h'
      · rcases hl with he | ⟨ts0, ts1, h0, h1, _, hres, _, _⟩
        · rw [he, htt]
        · rw [h1, ← htt, h0]; simp [tsigReserved, hres]
      · rcases hl with he | ⟨ts0, ts1, h0, h1, _, _, _, _⟩
        · rw [he, htt]
        · rw [h1, ← htt, h0]; rfl
    exact i_keeps hI hk hinv' (tsigOK_like hI.tsig (by rw [htsig, ← htt]; exact hl))
  unfold retemplate
  rw [ht]
  simp only []
  obtain ⟨sf, hsf⟩ := tryFromTemplate_fallback_ok fill hinv ht
  have hIf : I sf := good _ _ _ hsf (Or.inl rfl)
  cases hm : mk (Array.replicate n fill) t with
  | ok s' =>
    simp only []
    obtain ⟨ts, h1, h2⟩ := hmk.1 _ _ _ hm
    exact ⟨by simp, good _ _ _ h1 h2⟩
  | err e =>
    simp only []
    rw [hsf]
    exact ⟨by simp, hIf⟩
  | panic => exact absurd hm (hmk.2 _ _ (hnp _))


theorem safe_setBit (b m : Nat) (v : Bool) (hb : b < 12) (s : State) (hI : I s) :
    (setBit b m v s).1 ≠ .panic ∧ I (setBit b m v s).2 ∧ Mono Den s (setBit b m v s).2 :=
  safe_setHdr b _ hb s hI

theorem withHv_I {f : M Unit} (ss : Session) (slot : Option Nat)
    (h : (f { ss.w with hv := slot.map (hvGet ss.hvs) }).1 ≠ .panic ∧
      I (f { ss.w with hv := slot.map (hvGet ss.hvs) }).2) :
    (withHv ss slot f).1 ≠ .panic ∧ I (withHv ss slot f).2.w := by
  rw [withHv_fst, withHv_w]
  exact ⟨h.1, i_hv _ none h.2⟩

/-- **every public call**, made from a valid state with its documented precondition, does not
    panic and leaves a valid state — whatever it returns -/
theorem step_I (ss : Session) (op : Op) (hI : I ss.w) (hop : OpOK ss op) :
    (step ss op).1 ≠ .panic ∧ I (step ss op).2.w := by
  cases op with
  | setId v =>
    have := safe_write_hdr Gen.ID_START (u16be v) (by show _ + 2 ≤ 12; decide) ss.w hI
    exact liftW_I ⟨this.1, this.2.1⟩
  | setQr b => have := safe_setBit Gen.QR_BYTE Gen.QR_MASK b (by decide) ss.w hI; exact liftW_I ⟨this.1, this.2.1⟩
  | setAa b => have := safe_setBit Gen.AA_BYTE Gen.AA_MASK b (by decide) ss.w hI; exact liftW_I ⟨this.1, this.2.1⟩
  | setTc b => have := safe_setBit Gen.TC_BYTE Gen.TC_MASK b (by decide) ss.w hI; exact liftW_I ⟨this.1, this.2.1⟩
  | setRd b => have := safe_setBit Gen.RD_BYTE Gen.RD_MASK b (by decide) ss.w hI; exact liftW_I ⟨this.1, this.2.1⟩
  | setRa b => have := safe_setBit Gen.RA_BYTE Gen.RA_MASK b (by decide) ss.w hI; exact liftW_I ⟨this.1, this.2.1⟩
  | setOpcode v =>
    have := safe_setHdr Gen.OPCODE_BYTE (fun b => (b &&& ~~~ (UInt8.ofNat Gen.OPCODE_MASK)) ||| (UInt8.ofNat v <<< UInt8.ofNat Gen.OPCODE_SHIFT)) (by decide) ss.w hI
    exact liftW_I ⟨this.1, this.2.1⟩
  | setRcode v => have := safe_setRcode v ss.w hI; exact liftW_I ⟨this.1, this.2.1⟩
  | setExtendedRcode v => have := safe_setExtendedRcode v ss.w hI; exact liftW_I ⟨this.1, this.2.1⟩
  | setLimit v => have := safe_setLimit v ss.w hI; exact liftW_I ⟨this.1, this.2.1⟩
  | setMode m => exact liftW_I (safe_setMode m ss.w hI)
  | addQuestion n t c =>
    have := addQuestion_full n t c ss.w hI hop
    exact liftW_I ⟨this.1, this.2.1⟩
  | addRr sec h o ty cls ttl rd hv =>
    have := addRrOp_full sec (resolveHint ss.hvs h) o ty cls ttl rd _ (i_hv ss.w (hv.map (hvGet ss.hvs)) hI) hop.1 hop.2
    exact withHv_I ss hv ⟨this.1, this.2.1⟩
  | addRrset sec h o ty cls ttl rds hv =>
    have := addRrsetOp_full sec (resolveHint ss.hvs h) o ty cls ttl rds _ (i_hv ss.w (hv.map (hvGet ss.hvs)) hI) hop.1 hop.2
    exact withHv_I ss hv ⟨this.1, this.2.1⟩
  | clearRrs => exact liftW_I (safe_clearRrs ss.w hI)
  | setEdns p => have := safe_setEdns p ss.w hI; exact liftW_I ⟨this.1, this.2.1⟩
  | setTsig m rr => have := safe_setTsig m rr ss.w hI hop; exact liftW_I ⟨this.1, this.2.1⟩
  | updateTimeSigned t => exact liftW_I (safe_updateTimeSigned t hop ss.w hI)
  | template n fill => exact retemplate_I ss n fill _ mkOK_tryFromTemplate hI
  | templateSubsequent n fill mac => exact retemplate_I ss n fill _ (mkOK_subsequent mac) hI
  | getters => exact ⟨by simp [step], hI⟩

/-- **for all sequences of calls that respect the contract**: no call panics (in particular the
    `panic!("invalid pointer found during compression")` is unreachable) and the final state is
    valid -/
theorem run_I (ss : Session) (ops : List Op) (hI : I ss.w) (hr : Respects ss ops) :
    (∀ r ∈ (run ss ops).2, r ≠ .panic) ∧ I (run ss ops).1.w := by
  induction ops generalizing ss with
  | nil => exact ⟨(fun r hr => by cases hr), hI⟩
  | cons op ops ih =>
    obtain ⟨hop, hrest⟩ := hr
    obtain ⟨hnp, hI'⟩ := step_I ss op hI hop
    obtain ⟨h1, h2⟩ := ih _ hI' hrest
    rw [run_cons hnp]
    exact ⟨fun r hr => (List.mem_cons.mp hr).elim (fun e => e ▸ hnp) (h1 r), h2⟩

end QV.Writer
