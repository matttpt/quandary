/-
  QV.Proofs.Wire — helper lemmas relating `QV.Model.Wire` to `QV.Spec.NameWire`.
-/
import QV.Proofs.Bytes
import QV.Model.Wire
import QV.Spec.NameWire

namespace QV.Wire
open QV QV.Spec

/-! ### bit-level facts (the model uses the Rust bit operations, the spec uses arithmetic) -/

theorem isPtr_iff (b : UInt8) : isPtr b = true ↔ specIsPtr b := by
  revert b; apply forall_uint8; unfold isPtr specIsPtr; decide +kernel

theorem ptrOf_eq (a b : UInt8) (h : specIsPtr a) : ptrOf a b = specPtr a b := by
  unfold ptrOf specPtr; unfold specIsPtr at h
  have : a.toNat < 256 := a.toNat_lt
  omega

theorem not_isPtr_of_le63 (b : UInt8) (h : b.toNat ≤ 63) : isPtr b = false := by
  cases hp : isPtr b with
  | false => rfl
  | true => have := (isPtr_iff b).mp hp; unfold specIsPtr at this; omega

theorem isPtr_zero : isPtr (0 : UInt8) = false := by decide

/-! ### parse_compressed_name: soundness (model ⇒ spec) -/

theorem consts : Gen.MAX_LABEL_LEN = 63 ∧ Gen.MAX_WIRE_LEN = 255 ∧ Gen.MAX_N_LABELS = 128 := by
  decide

theorem parseAux_sound (msg : Bytes) (cs i : Nat) (w : List UInt8) (nl : Nat) (f : Option Nat)
    (p : Parsed) (hci : cs ≤ i) (h : parseAux msg cs i w nl f = .ok p) :
    ∃ w' n' k', Decodes msg i cs w' n' k' ∧ p.wire = w ++ w' ∧ p.wire.length ≤ 255 ∧
      p.nlabels = nl + n' ∧ p.len = f.getD (i - cs + k') := by
  obtain ⟨c1, c2, c3⟩ := consts
  fun_induction parseAux msg cs i w nl f generalizing p
  all_goals try (cases h; done)
  case case2 cs i w nl f hi hp h1 hge ih =>
    -- pointer
    obtain ⟨w', n', k', hd, hw, hl, hn, hk⟩ := ih p (Nat.le_refl _) h
    have hsp : specIsPtr msg[i] := (isPtr_iff _).mp hp
    refine ⟨w', n', 2, ?_, hw, hl, hn, ?_⟩
    · have e := ptrOf_eq msg[i] msg[i+1] hsp
      rw [e] at hd hge
      exact Decodes.ptr h1 hsp (by omega) hd
    · rw [hk, Option.getD_some]; cases f <;> simp only [Option.getD_none, Option.getD_some]; omega
  case case7 cs i w nl f hi hp hl hnl h0 hlen =>
    -- null label
    cases h
    refine ⟨[0], 1, 1, Decodes.null hi h0, rfl, ?_, rfl, ?_⟩
    · simp; omega
    · cases f <;> simp <;> omega
  case case10 cs i w nl f hi hp hl hnl h0 heom hlen ih =>
    -- ordinary label
    obtain ⟨w', n', k', hd, hw, hlw, hn, hk⟩ := ih p (by omega) h
    refine ⟨(msg.extract i (i + msg[i].toNat + 1)).toList ++ w', n' + 1, msg[i].toNat + 1 + k', ?_, ?_, hlw, ?_, ?_⟩
    · exact Decodes.label hi h0 (by omega) (by omega) hd
    · rw [hw, List.append_assoc]
    · omega
    · rw [hk]; cases f <;> simp only [Option.getD_none, Option.getD_some]; omega

/-! ### completeness (spec ⇒ model) -/

theorem parseAux_complete (msg : Bytes) {i cs : Nat} {w' : List UInt8} {n' k' : Nat}
    (hd : Decodes msg i cs w' n' k') :
    ∀ (w : List UInt8) (nl : Nat) (f : Option Nat), cs ≤ i → (w ++ w').length ≤ 255 →
      2 * nl ≤ w.length →
      parseAux msg cs i w nl f = .ok ⟨w ++ w', nl + n', f.getD (i - cs + k')⟩ := by
  obtain ⟨c1, c2, c3⟩ := consts
  induction hd with
  | null h h0 =>
    intro w nl f hci hl hnl
    rw [parseAux]
    have e1 : ¬ (nl ≥ 128) := by simp at hl; omega
    have e2 : ¬ (w.length + 1 > 255) := by simp at hl; omega
    simp [h, h0, isPtr_zero, c1, c2, c3, e1, e2]
    cases f <;> simp <;> omega
  | @label pos cs w'' n k h h0 h63 hin rest ih =>
    intro w nl f hci hl hnl
    have hne : (msg.extract pos (pos + msg[pos].toNat + 1)).toList.length = msg[pos].toNat + 1 := by
      simp; omega
    have hpos : 0 < msg[pos].toNat := toNat_pos_of_ne_zero _ h0
    have hlt : pos + msg[pos].toNat + 1 < msg.size := by
      cases rest <;> omega
    rw [parseAux]
    have e0 : isPtr msg[pos] = false := not_isPtr_of_le63 _ h63
    have e1 : ¬ (msg[pos].toNat > 63) := by omega
    have e2 : ¬ (nl ≥ 128) := by simp at hl; omega
    have e3 : ¬ (pos + msg[pos].toNat + 1 ≥ msg.size) := by omega
    have e4 : ¬ (w.length + (msg[pos].toNat + 1) > 255) := by simp at hl; omega
    simp only [h, e0, c1, c2, c3, e1, e2, h0, e3, e4, dite_true, if_false, Bool.false_eq_true]
    rw [ih (w ++ (msg.extract pos (pos + msg[pos].toNat + 1)).toList) (nl + 1) f (by omega)
      (by simp at hl ⊢; omega) (by simp; omega)]
    simp
    refine ⟨by omega, ?_⟩
    cases f <;> simp <;> omega
  | @ptr pos cs w'' n k h hp hb rest ih =>
    intro w nl f hci hl hnl
    rw [parseAux]
    have hlt : pos < msg.size := by omega
    have e0 : isPtr msg[pos] = true := (isPtr_iff _).mpr hp
    have e := ptrOf_eq (msg[pos]'hlt) (msg[pos+1]'h) hp
    have e1 : ¬ (ptrOf (msg[pos]'hlt) (msg[pos+1]'h) ≥ cs) := by omega
    simp only [hlt, e0, h, e1, dite_true, if_true, if_false]
    rw [e]
    rw [ih w nl (some (f.getD (pos + 2 - cs))) (Nat.le_refl _) hl hnl]
    simp
    cases f <;> simp <;> omega

/-! ### no panic -/

theorem parseAux_no_panic (msg : Bytes) (cs i : Nat) (w : List UInt8) (nl : Nat) (f : Option Nat)
    (hnl : 2 * nl ≤ w.length) (hw : w.length ≤ 255) :
    parseAux msg cs i w nl f ≠ .panic := by
  obtain ⟨c1, c2, c3⟩ := consts
  fun_induction parseAux msg cs i w nl f
  all_goals try (simp; done)
  case case2 ih => exact ih hnl hw
  case case5 => omega
  case case10 hi hp hl hnl' h0 heom hlen ih =>
    apply ih
    · have := toNat_pos_of_ne_zero _ h0
      simp; omega
    · simp; omega

/-! ### uncompressed parsing and validation -/

/-- the `label_offsets` bookkeeping never changes the outcome and never overflows -/
theorem uncompAux_track (b : Bytes) (off nl : Nat) (hnl : 2 * nl ≤ off) (ho : off ≤ 255) :
    uncompAux b true off nl = uncompAux b false off nl := by
  obtain ⟨c1, c2, c3⟩ := consts
  fun_induction uncompAux b false off nl
  -- with the flag the loop only adds the test `nl ≥ 128`, which `2 * nl ≤ off ≤ 255` makes false; so
  -- every branch of the one run is the same branch of the other
  all_goals (rw [uncompAux]; simp_all)
  case case3 => repeat' split
                all_goals first | rfl | omega
  case case4 => repeat' split
                all_goals first | rfl | omega
  case case5 off nl h hl hlen h0 ih =>
    have := toNat_pos_of_ne_zero _ h0
    have e : ¬ (128 ≤ nl) := by omega
    have e2 : ¬ (63 < b[off].toNat) := by omega
    have e3 : ¬ (255 < off + b[off].toNat + 1) := by omega
    simp [e, e2, e3]
    apply ih <;> omega
  case case6 => intro h; omega

theorem uncompAux_no_panic (b : Bytes) (off nl : Nat) : uncompAux b false off nl ≠ .panic := by
  fun_induction uncompAux b false off nl <;> simp_all

theorem uncompAux_sound (b : Bytes) (t : Bool) (off nl e nl' : Nat)
    (h : uncompAux b t off nl = .ok (e, nl')) :
    Decodes b off 0 (b.extract off e).toList (nl' - nl) (e - off) ∧ off < e ∧ e ≤ b.size ∧ e ≤ 255 ∧ nl < nl' := by
  obtain ⟨c1, c2, c3⟩ := consts
  fun_induction uncompAux b t off nl
  all_goals try (cases h; done)
  case case4 off nl hlt hl hp hlen h0 =>
    cases h
    refine ⟨?_, by omega, by omega, by omega, by omega⟩
    have e1 : (b.extract off (off + 1)).toList = [0] := by
      apply List.ext_getElem <;> simp
      · omega
      · intro i h1 h2; have : i = 0 := by omega
        subst this; simpa using h0
    rw [e1]
    have : nl + 1 - nl = 1 := by omega
    rw [this]
    have : off + 1 - off = 1 := by omega
    rw [this]
    exact Decodes.null hlt h0
  case case5 off nl hlt hl hp hlen h0 ih =>
    obtain ⟨hd, h1, h2, h3, h4⟩ := ih h
    refine ⟨?_, by omega, h2, h3, by omega⟩
    rw [extract_split b off (off + b[off].toNat + 1) e (by omega) (by omega)]
    have e1 : nl' - nl = (nl' - (nl + 1)) + 1 := by omega
    have e2 : e - off = b[off].toNat + 1 + (e - (off + b[off].toNat + 1)) := by omega
    rw [e1, e2]
    exact Decodes.label hlt h0 (by omega) (by omega) hd

theorem parseUncompressed_no_panic (b : Bytes) (u : Bool) : parseUncompressed b u ≠ .panic := by
  unfold parseUncompressed
  rw [uncompAux_track b 0 0 (by omega) (by omega)]
  have := uncompAux_no_panic b 0 0
  cases h : uncompAux b false 0 0 <;> simp_all
  split <;> simp

/-- `validate_uncompressed_name` accepts exactly what `parse_uncompressed_name` accepts, with the
    same length. -/
theorem validate_iff_parse (b : Bytes) (u : Bool) (k : Nat) :
    validateUncompressed b u = .ok k ↔ ∃ p, parseUncompressed b u = .ok p ∧ p.len = k := by
  unfold parseUncompressed validateUncompressed
  rw [uncompAux_track b 0 0 (by omega) (by omega)]
  cases h : uncompAux b false 0 0 with
  | ok r =>
    obtain ⟨off, nl⟩ := r
    by_cases hc : (u && decide (off < b.size)) = true
    · simp [hc]
    · simp [hc]
  | err e => simp
  | panic => simp

theorem validate_err_iff_parse (b : Bytes) (u : Bool) (e : NameErr) :
    validateUncompressed b u = .err e ↔ parseUncompressed b u = .err e := by
  unfold parseUncompressed validateUncompressed
  rw [uncompAux_track b 0 0 (by omega) (by omega)]
  cases h : uncompAux b false 0 0 with
  | ok r =>
    obtain ⟨off, nl⟩ := r
    by_cases hc : (u && decide (off < b.size)) = true
    · simp [hc]
    · simp [hc]
  | err e => simp
  | panic => simp

/-- an uncompressed name parsed from the start of a buffer is what the compressed parser yields
    at offset 0 -/
theorem parseUncompressed_compressed (b : Bytes) (p : Parsed)
    (h : parseUncompressed b false = .ok p) : parseCompressed b 0 = .ok p := by
  unfold parseUncompressed at h
  cases hu : uncompAux b true 0 0 with
  | ok r =>
    obtain ⟨off, nl⟩ := r
    rw [hu] at h
    simp at h
    obtain ⟨hd, h1, h2, h3, h4⟩ := uncompAux_sound b true 0 0 off nl hu
    have := parseAux_complete b hd [] 0 none (Nat.le_refl _) (by simp; omega) (by simp)
    unfold parseCompressed
    rw [this, ← h]
    simp
  | err e => rw [hu] at h; cases h
  | panic => rw [hu] at h; cases h

/-! ### skip_compressed_name -/

/-- a decoded name is not empty, and its first chunk lies inside the message -/
theorem decodes_bounds {msg : Bytes} {i cs : Nat} {w : List UInt8} {n k : Nat}
    (hd : Decodes msg i cs w n k) : 0 < w.length ∧ 0 < n ∧ 0 < k ∧ i + k ≤ msg.size := by
  induction hd with
  | null => simp; omega
  | label h h0 h63 hin rest ih => simp; omega
  | ptr h hp hb rest ih => exact ⟨ih.1, ih.2.1, by omega, by omega⟩

theorem skipAux_of_decodes (msg : Bytes) {i cs : Nat} {w : List UInt8} {n k : Nat}
    (hd : Decodes msg i cs w n k) :
    ∀ s, s ≤ i → (i - s) + w.length ≤ 255 →
      skipAux (msg.extract s msg.size) (i - s) = .ok (i - s + k) := by
  obtain ⟨c1, c2, c3⟩ := consts
  induction hd with
  | @null pos cs h h0 =>
    intro s hs hl
    rw [skipAux]
    have hsz : pos - s < (msg.extract s msg.size).size := by simp; omega
    have hget : (msg.extract s msg.size)[pos - s] = msg[pos] := by
      rw [Array.getElem_extract]; congr 1; omega
    simp only [hsz, dite_true, hget, h0, isPtr_zero, c1, c2]
    simp at hl ⊢
    omega
  | @label pos cs w'' n k h h0 h63 hin rest ih =>
    intro s hs hl
    have hp := decodes_bounds rest
    rw [skipAux]
    have hsz : pos - s < (msg.extract s msg.size).size := by simp; omega
    have hget : (msg.extract s msg.size)[pos - s] = msg[pos] := by
      rw [Array.getElem_extract]; congr 1; omega
    have e0 : isPtr msg[pos] = false := not_isPtr_of_le63 _ h63
    have e1 : ¬ (msg[pos].toNat > 63) := by omega
    have e2 : ¬ (pos - s + 1 + msg[pos].toNat > 255) := by simp at hl; omega
    simp only [hsz, dite_true, hget, e0, c1, c2, e1, h0, e2, if_false, Bool.false_eq_true]
    have e3 : pos - s + 1 + msg[pos].toNat = (pos + msg[pos].toNat + 1) - s := by omega
    rw [e3, ih s (by omega) (by simp at hl; omega)]
    congr 1; omega
  | @ptr pos cs w'' n k h hp hb rest ih =>
    intro s hs hl
    have hpz := decodes_bounds rest
    rw [skipAux]
    have hsz : pos - s < (msg.extract s msg.size).size := by simp; omega
    have hget : (msg.extract s msg.size)[pos - s] = msg[pos]'(by omega) := by
      rw [Array.getElem_extract]; congr 1; omega
    have e0 : isPtr (msg[pos]'(by omega)) = true := (isPtr_iff _).mpr hp
    have e1 : ¬ (pos - s + 1 > 255) := by omega
    simp only [hsz, dite_true, hget, e0, c2, e1, if_true, if_false]

/-- whenever the compressed parser accepts a name at `s`, skipping over it at `s` succeeds and
    reports the same first-chunk length -/
theorem skip_of_parse (msg : Bytes) (s : Nat) (p : Parsed) (h : parseCompressed msg s = .ok p) :
    skipCompressed (msg.extract s msg.size) = .ok p.len := by
  obtain ⟨w', n', k', hd, hw, hl, hn, hk⟩ := parseAux_sound msg s s [] 0 none p (Nat.le_refl _) h
  have := skipAux_of_decodes msg hd s (Nat.le_refl _) (by simp at hw; rw [hw] at hl; omega)
  unfold skipCompressed
  simp at this hk
  rw [this, hk]

end QV.Wire
