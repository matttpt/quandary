/-
  QV.Proofs.ZoneValidate — `validate` (model of src/db/zone/validation.rs) reports, as a set,
  exactly the issues of the reference checker `HasIssue` over the flat record list.
-/
import QV.Model.Validation
import QV.Proofs.ZoneIter
namespace QV.Zone
open QV QV.NameL QV.Spec.Zone

/-! ### optional issue lists: failure and contents described together -/

/-- `o` fails exactly when `F` holds, and otherwise lists exactly the issues satisfying `M` -/
def Reports (o : Option (List Issue)) (F : Prop) (M : Issue → Prop) : Prop :=
  (o = none ↔ F) ∧ ∀ l, o = some l → ∀ i, i ∈ l ↔ M i

theorem Reports.of_list (l : List Issue) : Reports (some l) False (· ∈ l) :=
  ⟨iff_of_false nofun id, fun _ h _ => by cases h; exact Iff.rfl⟩

theorem Reports.congr {o : Option (List Issue)} {F F' : Prop} {M M' : Issue → Prop}
    (h : Reports o F M) (hF : F ↔ F') (hM : ∀ i, M i ↔ M' i) : Reports o F' M' :=
  ⟨h.1.trans hF, fun l hl i => (h.2 l hl i).trans (hM i)⟩

theorem Reports.map_append {o : Option (List Issue)} {F : Prop} {M : Issue → Prop}
    (h : Reports o F M) (l : List Issue) :
    Reports (o.map (fun is => l ++ is)) F (fun i => i ∈ l ∨ M i) := by
  cases o with
  | none => exact ⟨iff_of_true rfl (h.1.mp rfl), nofun⟩
  | some l' =>
    exact ⟨iff_of_false nofun (fun f => nomatch h.1.mpr f),
      fun _ hl i => by cases hl; rw [List.mem_append, h.2 _ rfl]⟩

theorem Reports.optAppend {a b : Option (List Issue)} {Fa Fb : Prop} {Ma Mb : Issue → Prop}
    (ha : Reports a Fa Ma) (hb : Reports b Fb Mb) :
    Reports (optAppend a b) (Fa ∨ Fb) (fun i => Ma i ∨ Mb i) := by
  cases a with
  | none => exact ⟨iff_of_true (by cases b <;> rfl) (Or.inl (ha.1.mp rfl)), fun _ hl => by cases b <;> cases hl⟩
  | some la =>
    cases b with
    | none => exact ⟨iff_of_true rfl (Or.inr (hb.1.mp rfl)), nofun⟩
    | some lb =>
      exact ⟨iff_of_false nofun (fun f => f.elim (fun f => nomatch ha.1.mpr f) (fun f => nomatch hb.1.mpr f)),
        fun _ hl i => by cases hl; rw [List.mem_append, ha.2 _ rfl, hb.2 _ rfl]⟩

theorem Reports.foldl {α : Type} {g : α → Option (List Issue)} {F : α → Prop} {M : α → Issue → Prop}
    {xs : List α} (hg : ∀ x ∈ xs, Reports (g x) (F x) (M x))
    {init : Option (List Issue)} {F0 : Prop} {M0 : Issue → Prop} (h0 : Reports init F0 M0) :
    Reports (xs.foldl (fun acc x => Zone.optAppend acc (g x)) init)
      (F0 ∨ ∃ x ∈ xs, F x) (fun i => M0 i ∨ ∃ x ∈ xs, M x i) := by
  induction xs generalizing init F0 M0 with
  | nil => exact h0.congr (by simp) (by simp)
  | cons x xs ih =>
    exact (ih (fun y hy => hg y (List.mem_cons_of_mem _ hy))
      (h0.optAppend (hg x List.mem_cons_self))).congr (by simp [or_assoc]) (fun i => by simp [or_assoc])

theorem Reports.forNames (nameOf : NameOf) (f : Name → List Issue) (rds : List Rdata) :
    Reports (forNames nameOf f rds) (∃ rd ∈ rds, nameOf rd = none)
      (fun i => ∃ rd ∈ rds, ∃ n, nameOf rd = some n ∧ i ∈ f n) := by
  induction rds with
  | nil => exact (Reports.of_list []).congr (by simp) (by simp)
  | cons rd rest ih =>
    unfold Zone.forNames
    cases hn : nameOf rd with
    | none => exact ⟨iff_of_true rfl ⟨rd, List.mem_cons_self, hn⟩, nofun⟩
    | some n => exact (ih.map_append (f n)).congr (by simp [hn]) (fun i => by simp [hn])

/-! ### constants -/

theorem classHasAddrs_eq (cls : Nat) : classHasAddrs cls = hasAddrClass cls := by
  unfold classHasAddrs hasAddrClass
  simp only [Gen.addrClasses, IN, CH, List.contains_cons, List.contains_nil, Bool.or_false]

theorem addrsFound_eq (cls : Nat) (a aaaa : Option Rrset) : addrsFound cls a aaaa = addrsPresent cls a aaaa := by
  have : decide (cls = IN) = (cls == IN) := by by_cases h : cls = IN <;> simp [h]
  cases a <;> cases aaaa <;> simp [addrsFound, addrsPresent, CLASS_IN_eq, this]

theorem isError_eq (i : Issue) : i.isError = specIsError i := by
  cases i <;> rfl

/-! ### the individual checks, in terms of the specification's lookups -/

theorem lookupAddrs_checked {z : Zone} {s : SZone} (h : Rel z s) (g : Name) (b : Bool) :
    lookupAddrs z g ⟨false, b⟩ = .ok (specLookupAddrs s g ⟨false, b⟩) :=
  lookupAddrs_eq_spec h g ⟨false, b⟩ (by simp [constrained])

theorem mem_checkApexNs {z : Zone} {s : SZone} (h : Rel z s) (g : Name) (i : Issue) :
    i ∈ checkApexNsAddress z g ↔ i = .MissingNsAddress g ∧ noAddress s g = true := by
  unfold checkApexNsAddress noAddress defaultOpts
  rw [lookupAddrs_checked h]
  cases specLookupAddrs s g ⟨false, false⟩ <;> simp [addrsFound_eq, h.cls, and_comm]

theorem mem_checkMx {z : Zone} {s : SZone} (h : Rel z s) (g : Name) (i : Issue) :
    i ∈ checkMxAddress z g ↔ i = .MissingMxAddress g ∧ noAddress s g = true := by
  unfold checkMxAddress noAddress defaultOpts
  rw [lookupAddrs_checked h]
  cases specLookupAddrs s g ⟨false, false⟩ <;> simp [addrsFound_eq, h.cls, and_comm]

theorem mem_checkGlue {z : Zone} {s : SZone} (h : Rel z s) (g : Name) (i : Issue) :
    i ∈ checkGlue z g ↔ i = .MissingGlue g ∧ glueOk s g = false := by
  unfold checkGlue glueOk
  rw [lookupAddrs_checked h]
  cases specLookupAddrs s g ⟨false, true⟩ <;> simp [addrsFound_eq, h.cls, and_comm]

theorem mem_checkDeleg {z : Zone} {s : SZone} (h : Rel z s) (g child : Name) (i : Issue) :
    i ∈ checkDelegationNsAddress z g child ↔
      (i = .MissingNsAddress g ∧ noAddress s g = true) ∨
      (i = .MissingGlue g ∧ needsGlue s child g = true ∧ glueOk s g = false) := by
  unfold checkDelegationNsAddress noAddress needsGlue defaultOpts
  rw [lookupAddrs_checked h]
  cases specLookupAddrs s g ⟨false, false⟩ with
  | found a aaaa sos =>
    simp only [addrsFound_eq, h.cls]
    cases addrsPresent s.cls a aaaa <;> simp
  | referral c ns =>
    simp only [h.glue]
    cases s.glue with
    | wide => simp [mem_checkGlue h]
    | narrow =>
      by_cases hc : c = child
      · simp [hc, mem_checkGlue h]
      · simp [hc]
  | nxDomain => simp
  | wrongZone => simp

/-! ### RRsets of the flat list, element-wise -/

theorem mem_rrsetsAt (s : SZone) (n : Name) (x : Rrset) : x ∈ rrsetsAt s n ↔ rrset s n x.rtype = some x := by
  constructor
  · intro hx
    rw [← lookup_rrsetsAt]
    exact lookupRrset_of_mem (rrsetsAt_sorted s n) hx
  · intro hx
    rw [← lookup_rrsetsAt] at hx
    exact lookupRrset_mem hx

/-- quantifying over the RDATAs of an RRset is quantifying over the records it was built from -/
theorem exists_rdatas {s : SZone} {n : Name} {t : Nat} {x : Rrset} (hx : rrset s n t = some x)
    (P : Rdata → Prop) :
    (∃ rd ∈ x.rdatas, P rd) ↔ ∃ r ∈ s.recs, r.owner = n ∧ r.rtype = t ∧ P r.rdata := by
  rw [rrset_rdatas hx]
  simp only [List.mem_map, List.mem_filter, Bool.and_eq_true, beq_iff_eq]
  constructor
  · rintro ⟨_, ⟨r, ⟨hr, ho, ht⟩, rfl⟩, hp⟩; exact ⟨r, hr, ho, ht, hp⟩
  · rintro ⟨r, hr, ho, ht, hp⟩; exact ⟨_, ⟨r, ⟨hr, ho, ht⟩, rfl⟩, hp⟩

/-- `forNames` over the RDATAs of an RRset, in terms of the records -/
theorem forNames_rrset {s : SZone} {n : Name} {t : Nat} {x : Rrset} (hx : rrset s n t = some x)
    (nameOf : NameOf) (f : Name → List Issue) :
    Reports (forNames nameOf f x.rdatas)
      (∃ r ∈ s.recs, r.owner = n ∧ r.rtype = t ∧ nameOf r.rdata = none)
      (fun i => ∃ r ∈ s.recs, r.owner = n ∧ r.rtype = t ∧ ∃ g, nameOf r.rdata = some g ∧ i ∈ f g) :=
  (Reports.forNames nameOf f x.rdatas).congr (exists_rdatas hx _) (fun _ => exists_rdatas hx _)

theorem rdatas_length {s : SZone} {n : Name} {t : Nat} {x : Rrset} (hx : rrset s n t = some x) :
    x.rdatas.length = (s.recs.filter (fun r => r.owner == n && r.rtype == t)).length := by
  rw [rrset_rdatas hx]; simp

theorem rdatas_pos {s : SZone} {n : Name} {t : Nat} {x : Rrset} (hx : rrset s n t = some x) : 0 < x.rdatas.length := by
  unfold rrset at hx
  split at hx
  · cases hx
  · cases hx; simp

theorem owns_iff_rrset (s : SZone) (n : Name) (t : Nat) : Owns s n t ↔ ∃ x, rrset s n t = some x := by
  constructor
  · intro ho
    cases hx : rrset s n t with
    | none => exact absurd ho ((rrset_eq_none s n t).mp hx)
    | some x => exact ⟨x, rfl⟩
  · rintro ⟨x, hx⟩; exact rrset_some_owns hx

/-- in a strictly sorted RRset list containing `x`: more than one RRset ⇔ another type is present -/
theorem length_ne_one_iff {l : List Rrset} (hs : SortedT l) {x : Rrset} (hx : x ∈ l) :
    l.length ≠ 1 ↔ ∃ y ∈ l, y.rtype ≠ x.rtype := by
  constructor
  · intro hl
    match l, hs, hx, hl with
    | [a], _, _, hl => simp at hl
    | a :: b :: rest, hs, hx, _ =>
      have hab := hs.1 b (by simp)
      by_cases ha : a.rtype = x.rtype
      · exact ⟨b, by simp, by omega⟩
      · exact ⟨a, by simp, ha⟩
  · rintro ⟨y, hy, hne⟩ hl
    match l, hx, hy, hl with
    | [a], hx, hy, _ =>
      simp at hx hy; subst hx; subst hy; exact hne rfl

/-! ### one RRset of one node -/

theorem cname_ne_mx : CNAME ≠ MX := by decide
theorem cname_ne_ns : CNAME ≠ NS := by decide
theorem mx_ne_ns : MX ≠ NS := by decide

theorem atApex_iff {apex n : Name} (h : apex <:+ n) : n.length = apex.length ↔ n = apex :=
  ⟨fun hl => (h.eq_of_length_le (by omega)).symm, fun e => by rw [e]⟩

/-- invalid RDATA met while scanning the RRset `x` of node `n` -/
def RrsetInvalid (nameOf : NameOf) (s : SZone) (n : Name) (x : Rrset) : Prop :=
  hasAddrClass s.cls = true ∧
    ((x.rtype = MX ∧ ∃ r ∈ s.recs, r.owner = n ∧ r.rtype = MX ∧ mxName nameOf r.rdata = none) ∨
     (x.rtype = NS ∧ n ≠ s.apex ∧ ∃ r ∈ s.recs, r.owner = n ∧ r.rtype = NS ∧ nameOf r.rdata = none))

/-- the issues found while scanning the RRset `x` of a node `n` holding `k` RRsets -/
def RrsetIssue (nameOf : NameOf) (s : SZone) (n : Name) (k : Nat) (x : Rrset) (i : Issue) : Prop :=
  (x.rtype = CNAME ∧ ((i = .OtherRecordsAtCname n ∧ k ≠ 1) ∨ (i = .DuplicateCname n ∧ x.rdatas.length ≠ 1))) ∨
  (x.rtype = MX ∧ hasAddrClass s.cls = true ∧ ∃ r ∈ s.recs, r.owner = n ∧ r.rtype = MX ∧
      ∃ g, mxName nameOf r.rdata = some g ∧ i = .MissingMxAddress g ∧ noAddress s g = true) ∨
  (x.rtype = NS ∧ ((i = .NsAtWildcard n ∧ isWildcard n = true) ∨
      (n ≠ s.apex ∧ hasAddrClass s.cls = true ∧ ∃ r ∈ s.recs, r.owner = n ∧ r.rtype = NS ∧
        ∃ g, nameOf r.rdata = some g ∧
          ((i = .MissingNsAddress g ∧ noAddress s g = true) ∨
           (i = .MissingGlue g ∧ needsGlue s n g = true ∧ glueOk s g = false)))))

theorem scanRrset_reports {z : Zone} {s : SZone} (h : Rel z s) (nameOf : NameOf) (n : Name) (hn : s.apex <:+ n)
    (k : Nat) (x : Rrset) (hx : rrset s n x.rtype = some x) :
    Reports (scanRrset nameOf z n k x) (RrsetInvalid nameOf s n x) (RrsetIssue nameOf s n k x) := by
  unfold scanRrset RrsetInvalid RrsetIssue
  rw [T_CNAME_eq, T_MX_eq, T_NS_eq, classHasAddrs_eq, h.cls, h.apex]
  by_cases h1 : x.rtype = CNAME
  · simp only [h1, if_true, cname_ne_mx, cname_ne_ns, false_and, or_false, and_false, true_and]
    exact (Reports.of_list _).congr Iff.rfl (fun i => by simp [and_comm])
  simp only [h1, if_false, false_and, false_or]
  by_cases h2 : x.rtype = MX
  · rw [h2] at hx
    simp only [h2, if_true, mx_ne_ns, false_and, or_false, true_and]
    cases hac : hasAddrClass s.cls with
    | false => exact (Reports.of_list _).congr (by simp) (fun i => by simp)
    | true =>
      exact (forNames_rrset hx (mxName nameOf) (checkMxAddress z)).congr (by simp)
        (fun i => by simp [mem_checkMx h])
  simp only [h2, if_false, false_and, false_or]
  by_cases h3 : x.rtype = NS
  · rw [h3] at hx
    have hd : decide (n.length = s.apex.length) = decide (n = s.apex) :=
      decide_eq_decide.mpr (atApex_iff hn)
    simp only [h3, if_true, true_and, hd]
    by_cases hap : n = s.apex
    · simp only [hap, decide_true, Bool.not_true, Bool.false_and, Bool.false_eq_true, if_false,
        ne_eq, not_true_eq_false, false_and, and_false, or_false]
      exact (Reports.of_list _).congr Iff.rfl (fun i => by simp [and_comm])
    · simp only [hap, decide_false, Bool.not_false, Bool.true_and, ne_eq, not_false_eq_true, true_and]
      cases hac : hasAddrClass s.cls with
      | false => exact (Reports.of_list _).congr (by simp) (fun i => by simp [and_comm])
      | true =>
        exact ((forNames_rrset hx nameOf _).map_append _).congr (by simp)
          (fun i => by simp [and_comm, mem_checkDeleg h])
  · simp only [h3, if_false, false_and, and_false]
    exact (Reports.of_list _).congr Iff.rfl (fun i => by simp)

/-! ### the whole zone -/

theorem isNode_of_rec {z : Zone} {s : SZone} (h : Rel z s) {r : Rec} (hr : r ∈ s.recs) : IsNode s r.owner := by
  rw [isNode_iff, nameExists_iff]
  exact ⟨h.inZone r hr, Or.inr ⟨r, hr, List.suffix_refl _⟩⟩

theorem isNode_apex (s : SZone) : IsNode s s.apex := Or.inl rfl

theorem isNode_suffix {s : SZone} {n : Name} (h : IsNode s n) : s.apex <:+ n := ((isNode_iff s n).mp h).1

theorem scanNode_reports {z : Zone} {s : SZone} (h : Rel z s) (nameOf : NameOf) {n : Name} (hn : IsNode s n) :
    Reports (scanNode nameOf z n (rrsetsAt s n))
      (∃ x, rrset s n x.rtype = some x ∧ RrsetInvalid nameOf s n x)
      (fun i => ∃ x, rrset s n x.rtype = some x ∧ RrsetIssue nameOf s n (rrsetsAt s n).length x i) := by
  unfold scanNode
  exact (Reports.foldl (fun x hx => scanRrset_reports h nameOf n (isNode_suffix hn) _ x
    ((mem_rrsetsAt s n x).mp hx)) (Reports.of_list [])).congr
    (by simp [mem_rrsetsAt]) (fun i => by simp [mem_rrsetsAt])

theorem apexNs_reports {z : Zone} {s : SZone} (h : Rel z s) (nameOf : NameOf) :
    Reports (apexNsIssues nameOf z)
      (hasAddrClass s.cls = true ∧ ∃ r ∈ s.recs, r.owner = s.apex ∧ r.rtype = NS ∧ nameOf r.rdata = none)
      (fun i => (i = .MissingApexNs ∧ rrset s s.apex NS = none) ∨
        (hasAddrClass s.cls = true ∧ ∃ r ∈ s.recs, r.owner = s.apex ∧ r.rtype = NS ∧
          ∃ g, nameOf r.rdata = some g ∧ i = .MissingNsAddress g ∧ noAddress s g = true)) := by
  unfold apexNsIssues
  rw [ns_eq_spec h, classHasAddrs_eq, h.cls]
  unfold specNs
  cases hx : rrset s s.apex NS with
  | none =>
    have hno : ∀ P : Rec → Prop, ¬ ∃ r ∈ s.recs, r.owner = s.apex ∧ r.rtype = NS ∧ P r :=
      fun P ⟨r, hr, ho, ht, _⟩ => (rrset_eq_none s _ _).mp hx ⟨r, hr, ho, ht⟩
    exact (Reports.of_list _).congr (by simp [hno]) (fun i => by simp [hno])
  | some x =>
    cases hac : hasAddrClass s.cls with
    | false => exact (Reports.of_list _).congr (by simp) (fun i => by simp)
    | true =>
      exact (forNames_rrset hx nameOf _).congr (by simp) (fun i => by simp [mem_checkApexNs h])

theorem soaIssues_mem {z : Zone} {s : SZone} (h : Rel z s) (i : Issue) :
    i ∈ soaIssues z ↔
      ((i = .MissingApexSoa ∧ rrset s s.apex SOA = none) ∨
       (i = .TooManyApexSoas ∧ ∃ x, rrset s s.apex SOA = some x ∧ x.rdatas.length ≠ 1)) := by
  unfold soaIssues
  rw [soa_eq_spec h]
  unfold specSoa
  cases rrset s s.apex SOA with
  | none => simp
  | some x =>
    simp only [reduceCtorEq, and_false, false_or, Option.some.injEq, exists_eq_left']
    split <;> simp_all

/-- invalid RDATA as the model meets it -/
def ModelInvalid (nameOf : NameOf) (s : SZone) : Prop :=
  (hasAddrClass s.cls = true ∧ ∃ r ∈ s.recs, r.owner = s.apex ∧ r.rtype = NS ∧ nameOf r.rdata = none) ∨
  ∃ n, IsNode s n ∧ ∃ x, rrset s n x.rtype = some x ∧ RrsetInvalid nameOf s n x

/-- the issues found by the apex checks -/
def ApexIssue (nameOf : NameOf) (s : SZone) (i : Issue) : Prop :=
  (i = .MissingApexSoa ∧ rrset s s.apex SOA = none) ∨
  (i = .TooManyApexSoas ∧ ∃ x, rrset s s.apex SOA = some x ∧ x.rdatas.length ≠ 1) ∨
  (i = .MissingApexNs ∧ rrset s s.apex NS = none) ∨
  (hasAddrClass s.cls = true ∧ ∃ r ∈ s.recs, r.owner = s.apex ∧ r.rtype = NS ∧
      ∃ g, nameOf r.rdata = some g ∧ i = .MissingNsAddress g ∧ noAddress s g = true)

/-- the issues found by the node scans, in terms of the flat list -/
def NodeIssue (nameOf : NameOf) (s : SZone) (i : Issue) : Prop :=
  ∃ n, IsNode s n ∧ ∃ x, rrset s n x.rtype = some x ∧ RrsetIssue nameOf s n (rrsetsAt s n).length x i

/-- `validate` is a fold from the apex checks: a failure there is absorbing -/
theorem validate_eq_foldl (nameOf : NameOf) (z : Zone) :
    validate nameOf z = (iterByNode z).foldl (fun acc p => optAppend acc (scanNode nameOf z p.1 p.2))
      ((apexNsIssues nameOf z).map (fun is => soaIssues z ++ is)) := by
  unfold validate
  cases apexNsIssues nameOf z with
  | none =>
    symm
    induction iterByNode z with
    | nil => rfl
    | cons p ps ih => rw [List.foldl_cons, ← ih]; cases scanNode nameOf z p.1 p.2 <;> rfl
  | some nsI => rfl

theorem validate_model {z : Zone} {s : SZone} (h : Rel z s) (hw : Node.WF z.root) (nameOf : NameOf) :
    Reports (validate nameOf z) (ModelInvalid nameOf s) (fun i => ApexIssue nameOf s i ∨ NodeIssue nameOf s i) := by
  have hnode : ∀ p ∈ iterByNode z, Reports (scanNode nameOf z p.1 p.2)
      (∃ x, rrset s p.1 x.rtype = some x ∧ RrsetInvalid nameOf s p.1 x)
      (fun i => ∃ x, rrset s p.1 x.rtype = some x ∧ RrsetIssue nameOf s p.1 (rrsetsAt s p.1).length x i) := by
    intro p hp
    obtain ⟨hn, hrr⟩ := (mem_iterByNode h hw p).mp hp
    rw [hrr]
    exact scanNode_reports h nameOf hn
  -- the nodes met by the iteration are the nodes of the flat zone
  have hex : ∀ Q : Name × List Rrset → Prop,
      (∃ p ∈ iterByNode z, Q p) ↔ ∃ n, IsNode s n ∧ Q (n, rrsetsAt s n) := by
    intro Q
    constructor
    · rintro ⟨⟨n, rs⟩, hp, hq⟩
      obtain ⟨hn, hrs⟩ := (mem_iterByNode h hw _).mp hp
      exact ⟨n, hn, hrs ▸ hq⟩
    · rintro ⟨n, hn, hq⟩
      exact ⟨_, (mem_iterByNode h hw _).mpr ⟨hn, rfl⟩, hq⟩
  rw [validate_eq_foldl]
  refine (Reports.foldl hnode ((apexNs_reports h nameOf).map_append (soaIssues z))).congr
    (or_congr Iff.rfl (hex _)) (fun i => ?_)
  rw [soaIssues_mem h, hex]
  unfold ApexIssue NodeIssue
  simp only [or_assoc]

/-! ### the model's sets are the reference checker's -/

theorem modelInvalid_iff {z : Zone} {s : SZone} (h : Rel z s) (nameOf : NameOf) :
    ModelInvalid nameOf s ↔ InvalidRdata nameOf s := by
  unfold ModelInvalid RrsetInvalid InvalidRdata
  constructor
  · rintro (⟨hac, r, hr, _, ht, hnone⟩ | ⟨n, _, x, _, hac, (⟨_, r, hr, _, ht, hnone⟩ | ⟨_, _, r, hr, _, ht, hnone⟩)⟩)
    · exact ⟨hac, r, hr, Or.inl ⟨ht, hnone⟩⟩
    · exact ⟨hac, r, hr, Or.inr ⟨ht, hnone⟩⟩
    · exact ⟨hac, r, hr, Or.inl ⟨ht, hnone⟩⟩
  · rintro ⟨hac, r, hr, (⟨ht, hnone⟩ | ⟨ht, hnone⟩)⟩
    · by_cases ho : r.owner = s.apex
      · exact Or.inl ⟨hac, r, hr, ho, ht, hnone⟩
      · obtain ⟨x, hx⟩ := (owns_iff_rrset s r.owner NS).mp ⟨r, hr, rfl, ht⟩
        have hxt := rrset_rtype hx
        exact Or.inr ⟨r.owner, isNode_of_rec h hr, x, by rw [hxt]; exact hx, hac,
          Or.inr ⟨hxt, ho, r, hr, rfl, ht, hnone⟩⟩
    · obtain ⟨x, hx⟩ := (owns_iff_rrset s r.owner MX).mp ⟨r, hr, rfl, ht⟩
      have hxt := rrset_rtype hx
      exact Or.inr ⟨r.owner, isNode_of_rec h hr, x, by rw [hxt]; exact hx, hac,
        Or.inl ⟨hxt, r, hr, rfl, ht, hnone⟩⟩

theorem two_le_iff {s : SZone} {n : Name} {t : Nat} :
    2 ≤ (s.recs.filter (fun r => r.owner == n && r.rtype == t)).length ↔
      ∃ x, rrset s n t = some x ∧ x.rdatas.length ≠ 1 := by
  constructor
  · intro hl
    cases hx : rrset s n t with
    | none =>
      unfold rrset at hx
      split at hx
      · rename_i hf; rw [hf] at hl; simp at hl
      · cases hx
    | some x => exact ⟨x, rfl, by rw [rdatas_length hx]; omega⟩
  · rintro ⟨x, hx, hne⟩
    have := rdatas_pos hx
    rw [← rdatas_length hx]; omega

theorem issues_iff {z : Zone} {s : SZone} (h : Rel z s) (nameOf : NameOf) (i : Issue) :
    (ApexIssue nameOf s i ∨ NodeIssue nameOf s i) ↔ HasIssue nameOf s i := by
  have node_of : ∀ {n : Name} {t : Nat}, Owns s n t → ∃ x, IsNode s n ∧ rrset s n x.rtype = some x ∧ x.rtype = t := by
    intro n t ho
    obtain ⟨x, hx⟩ := (owns_iff_rrset s n t).mp ho
    obtain ⟨r, hr, hro, _⟩ := ho
    exact ⟨x, hro ▸ isNode_of_rec h hr, by rw [rrset_rtype hx]; exact hx, rrset_rtype hx⟩
  unfold ApexIssue NodeIssue RrsetIssue
  cases i with
  | MissingApexSoa =>
    simp only [HasIssue, reduceCtorEq, false_and, and_false, or_false, exists_false, true_and]
    exact rrset_eq_none s _ _
  | TooManyApexSoas =>
    simp only [HasIssue, reduceCtorEq, false_and, and_false, or_false, false_or, exists_false, true_and]
    exact two_le_iff.symm
  | MissingApexNs =>
    simp only [HasIssue, reduceCtorEq, false_and, and_false, or_false, false_or, exists_false, true_and]
    exact rrset_eq_none s _ _
  | MissingNsAddress g =>
    simp only [HasIssue, reduceCtorEq, false_and, and_false, or_false, false_or, exists_false, Issue.MissingNsAddress.injEq]
    constructor
    · rintro (⟨hac, r, hr, _, ht, g', hg, hgg, hna⟩ | ⟨n, _, x, _, _, _, hac, r, hr, _, ht, g', hg, hgg, hna⟩)
      · subst hgg; exact ⟨hac, r, hr, ht, hg, hna⟩
      · subst hgg; exact ⟨hac, r, hr, ht, hg, hna⟩
    · rintro ⟨hac, r, hr, ht, hg, hna⟩
      by_cases ho : r.owner = s.apex
      · exact Or.inl ⟨hac, r, hr, ho, ht, g, hg, rfl, hna⟩
      · obtain ⟨x, hn, hx, hxt⟩ := node_of ⟨r, hr, rfl, ht⟩
        exact Or.inr ⟨r.owner, hn, x, hx, hxt, ho, hac, r, hr, rfl, ht, g, hg, rfl, hna⟩
  | MissingMxAddress g =>
    simp only [HasIssue, reduceCtorEq, false_and, and_false, or_false, false_or, exists_false, Issue.MissingMxAddress.injEq]
    constructor
    · rintro ⟨n, _, x, _, _, hac, r, hr, _, ht, g', hg, hgg, hna⟩
      subst hgg; exact ⟨hac, r, hr, ht, hg, hna⟩
    · rintro ⟨hac, r, hr, ht, hg, hna⟩
      obtain ⟨x, hn, hx, hxt⟩ := node_of ⟨r, hr, rfl, ht⟩
      exact ⟨r.owner, hn, x, hx, hxt, hac, r, hr, rfl, ht, g, hg, rfl, hna⟩
  | MissingGlue g =>
    simp only [HasIssue, reduceCtorEq, false_and, and_false, or_false, false_or, exists_false, Issue.MissingGlue.injEq]
    constructor
    · rintro ⟨n, _, x, _, _, hne, hac, r, hr, ho, ht, g', hg, hgg, hng, hgl⟩
      subst hgg; subst ho; exact ⟨hac, r, hr, ht, hne, hg, hng, hgl⟩
    · rintro ⟨hac, r, hr, ht, hne, hg, hng, hgl⟩
      obtain ⟨x, hn, hx, hxt⟩ := node_of ⟨r, hr, rfl, ht⟩
      exact ⟨r.owner, hn, x, hx, hxt, hne, hac, r, hr, rfl, ht, g, hg, rfl, hng, hgl⟩
  | DuplicateCname o =>
    simp only [HasIssue, reduceCtorEq, false_and, and_false, or_false, false_or, exists_false, Issue.DuplicateCname.injEq]
    rw [two_le_iff]
    constructor
    · rintro ⟨n, _, x, hx, hxt, hon, hne⟩
      subst hon; rw [hxt] at hx; exact ⟨x, hx, hne⟩
    · rintro ⟨x, hx, hne⟩
      have hxt := rrset_rtype hx
      obtain ⟨r, hr, hro, _⟩ := rrset_some_owns hx
      exact ⟨o, hro ▸ isNode_of_rec h hr, x, by rw [hxt]; exact hx, hxt, rfl, hne⟩
  | OtherRecordsAtCname o =>
    simp only [HasIssue, reduceCtorEq, false_and, and_false, or_false, false_or, exists_false,
      Issue.OtherRecordsAtCname.injEq]
    constructor
    · rintro ⟨n, _, x, hx, hxt, hon, hne⟩
      subst hon
      have hxm := (mem_rrsetsAt s o x).mpr hx
      obtain ⟨y, hy, hyt⟩ := (length_ne_one_iff (rrsetsAt_sorted s o) hxm).mp hne
      rw [hxt] at hx hyt
      exact ⟨rrset_some_owns hx, y.rtype, hyt, rrset_some_owns ((mem_rrsetsAt s o y).mp hy)⟩
    · rintro ⟨hoc, t, hne, hot⟩
      obtain ⟨x, hn, hx, hxt⟩ := node_of hoc
      obtain ⟨y, _, hy, hyt⟩ := node_of hot
      refine ⟨o, hn, x, hx, hxt, rfl, ?_⟩
      rw [length_ne_one_iff (rrsetsAt_sorted s o) ((mem_rrsetsAt s o x).mpr hx)]
      exact ⟨y, (mem_rrsetsAt s o y).mpr hy, by rw [hyt, hxt]; exact hne⟩
  | NsAtWildcard o =>
    simp only [HasIssue, reduceCtorEq, false_and, and_false, or_false, false_or, exists_false, Issue.NsAtWildcard.injEq]
    constructor
    · rintro ⟨n, _, x, hx, hxt, hon, hw⟩
      subst hon; rw [hxt] at hx; exact ⟨rrset_some_owns hx, hw⟩
    · rintro ⟨ho, hw⟩
      obtain ⟨x, hn, hx, hxt⟩ := node_of ho
      exact ⟨o, hn, x, hx, hxt, rfl, hw⟩

/-- `validate` = the reference checker, on every zone related to a flat zone -/
theorem validate_eq_spec {z : Zone} {s : SZone} (h : Rel z s) (hw : Node.WF z.root) (nameOf : NameOf) :
    (validate nameOf z = none ↔ InvalidRdata nameOf s) ∧
    (∀ l, validate nameOf z = some l → ∀ i, i ∈ l ↔ HasIssue nameOf s i) :=
  (validate_model h hw nameOf).congr (modelInvalid_iff h nameOf) (issues_iff h nameOf)

end QV.Zone
