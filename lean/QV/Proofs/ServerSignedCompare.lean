/-
  QV.Proofs.ServerSignedCompare — the assembly for C10 row 3's comparison clause: the signed answer
  and the answer to the request without its TSIG record, decoded, agree on RCODE, AA, the answer and
  authority sections and (one way) the additional section, under the audit's guards.  `twin_compare`
  says this of any two runs of `handle_non_axfr_query` that start from twin states (`Twin`,
  Proofs/ServerAnswerTwoRunI.lean); `compare_core` shows that the two runs of row 3 start from twins.

  The writer fact `ScratchIndepI` (Proofs/ServerAnswerTwoRunI.lean; proved as `scratchIndepI` in
  Proofs/ServerScratchIndep.lean) is a parameter of `compare_core`; the decoder congruence is
  `decodeCongrT` (Proofs/ServerDecodeCongr.lean).
-/
import QV.Proofs.ServerDecodeCongr

namespace QV.ServerContent
open QV QV.Wire QV.Reader QV.Writer QV.Server QV.ServerSafety QV.ServerScan QV.ServerAnswer QV.Spec QV.ServerTsig
open QV.Spec.Server QV.Spec.ServerTsig

/-- the room of the scan state: no TSIG pending, the EDNS slot set iff the scan reached an OPT, and
    `available` is the response-size limit of the transport minus the reserved OPT -/
theorem scanState_room (cfg : Cfg) (tr : Transport) (bufLen : Nat) (req : Bytes)
    (hbuf : minBuf tr cfg.payload ≤ bufLen) (hpay : 512 ≤ cfg.payload) (id opcode : Nat) (rd : Bool)
    (q : Spec.DQuestion) (nx : Nat) (hsq : Spec.specQuestionAt req 12 = some (q.qname, q.qtype, q.qclass, nx)) :
    (scanState cfg tr bufLen req id opcode rd q).tsig = none ∧
    12 ≤ (scanState cfg tr bufLen req id opcode rd q).cursor ∧
    12 ≤ (scanState cfg tr bufLen req id opcode rd q).rrStart ∧
    (scanState cfg tr bufLen req id opcode rd q).edns.isSome = (specBody (catKind cfg) cfg.payload req).edns ∧
    (scanState cfg tr bufLen req id opcode rd q).available +
        (if (specBody (catKind cfg) cfg.payload req).edns then 11 else 0) =
      limOf tr (specBody (catKind cfg) cfg.payload req).limitUdp := by
  obtain ⟨_, p2, _⟩ := specBody_props (catKind cfg) cfg.payload req
  have hq : ∀ x, (some q) = some x → ∃ nx, Spec.specQuestionAt req 12 = some (x.qname, x.qtype, x.qclass, nx) := by
    intro x hx; cases hx; exact ⟨nx, hsq⟩
  obtain ⟨hbase, hcur, _, _, _, _, _, _, _, _, _, _, hrrs, _⟩ :=
    s1_facts bufLen tr cfg.payload id opcode rd hbuf hpay req (some q) hq
  obtain ⟨r1, r2, r3, _, r5, r6⟩ := arSt_room _ tr cfg.payload _ _ hbase (specBody_noedns _ _ _) p2
  exact ⟨r1, by rw [r2, hcur]; omega, by rw [r3, hrrs]; omega, r5, r6⟩

/-- decoder congruence without a hypothesis on the TYPEs: two `Good` writers with the same body — own
    additional records being address records — that agree on everything below the cursor, up to the
    room, the TSIG slot and ARCOUNT + 1 (`modS`, `lift`, `Same`), finish into messages whose decodings
    carry the same answer and authority records and the same additional records apart from OPT and TSIG
    (compared as the audit compares them: `rrKey`).  In this form it is FALSE of the model (a record of
    type 65536 + 2 is written opaque but decoded as type 2, and `Good` does not give typedness) and is
    used by nothing; the form with 16-bit TYPEs is `DecodeCongrT` (Proofs/ServerDecodeCongr.lean). -/
def DecodeCongr : Prop :=
  ∀ (F1 F2 t0 : State) (bd : Body) (L : Nat) (T : Option Writer.Tsig) (R : Nat) (b1 b2 : Bytes)
    (m1 m2 : Option (List UInt8)) (d1 d2 : DMsg),
    Good F1 bd → Good F2 bd → (∀ r ∈ bd.ar, r.ty = 1 ∨ r.ty = 28) → modS L T F2 = lift R t0 → Same F1 t0 →
    Writer.finish F1 Server.macFn = .ok (b1, m1) → Writer.finish F2 Server.macFn = .ok (b2, m2) →
    specDecodeMsg b1 = some d1 → specDecodeMsg b2 = some d2 →
    d1.an.map rrKey = d2.an.map rrKey ∧ d1.ns.map rrKey = d2.ns.map rrKey ∧ plainRrs d1.ar = plainRrs d2.ar

theorem specField16_lt (m : Bytes) (p t : Nat) (h : Spec.specField16 m p = some t) : t < 65536 := by
  unfold Spec.specField16 at h
  split at h
  · cases h
    rename_i a b _ _
    have := a.toNat_lt; have := b.toNat_lt; omega
  · cases h

theorem specQuestionAt_qtype_lt (m : Bytes) (p : Nat) (w : List UInt8) (t c nx : Nat)
    (h : Spec.specQuestionAt m p = some (w, t, c, nx)) : t < 65536 := by
  unfold Spec.specQuestionAt at h
  split at h
  · split at h
    · rename_i t' c' ht _
      simp only [Option.some.injEq, Prod.mk.injEq] at h
      obtain ⟨_, h2, _, _⟩ := h
      subst h2
      exact specField16_lt _ _ _ ht
    · cases h
  · cases h

/-- the answer and authority records of a body built from a log of typed calls are typed -/
theorem bodyOf_typed : ∀ (log : List Ev) (b0 : Body), (∀ r ∈ b0.an ++ b0.ns, r.ty < 65536) →
    (∀ e ∈ log, TyEv e) → ∀ r ∈ (bodyOf b0 log).an ++ (bodyOf b0 log).ns, r.ty < 65536 := by
  intro log
  induction log with
  | nil => intro b0 h0 _; exact h0
  | cons e rest ih =>
    intro b0 h0 hl
    have e1 : bodyOf b0 (e :: rest) = bodyOf (evBody b0 e) rest := rfl
    rw [e1]
    refine ih _ ?_ (fun x hx => hl x (List.mem_cons_of_mem _ hx))
    have he := hl e List.mem_cons_self
    cases e with
    | add a =>
      have hta := he a rfl
      simp only [evBody]
      split
      · have hrec : ∀ r ∈ evRecs a, r.ty < 65536 := by
          intro r hr
          unfold evRecs at hr
          rw [List.mem_map] at hr
          obtain ⟨rd, _, rfl⟩ := hr
          exact hta
        intro r hr
        cases hs : a.sec <;> simp only [hs, Body.add, List.mem_append] at hr
        · rcases hr with (hr | hr) | hr
          · exact h0 r (List.mem_append_left _ hr)
          · exact hrec r hr
          · exact h0 r (List.mem_append_right _ hr)
        · rcases hr with hr | hr | hr
          · exact h0 r (List.mem_append_left _ hr)
          · exact h0 r (List.mem_append_right _ hr)
          · exact hrec r hr
        · rcases hr with hr | hr
          · exact h0 r (List.mem_append_left _ hr)
          · exact h0 r (List.mem_append_right _ hr)
      · exact h0
    | clear => intro r hr; simp [evBody] at hr
    | aa x => exact h0
    | rcode x => exact h0
    | tc x => exact h0
    | bad => exact h0

theorem sameMultiset_self (l : List RrKey) : sameMultiset l l = true := by
  simp [sameMultiset, subMultiset]

theorem all2_nil_left {α β : Type} {R : α → β → Prop} (l : List β) (h : All2 R [] l) : l = [] := by
  cases h; rfl

/-- a finished message without a pending TSIG is the writer's octets below the cursor plus 11 octets of
    OPT record if the EDNS slot is set -/
theorem finish_size_plain (F : State) (hI : Writer.I F) (ht : F.tsig = none) (b : Bytes) (mac : Option (List UInt8))
    (hf : Writer.finish F Server.macFn = .ok (b, mac)) :
    b.size = F.cursor + (if F.edns.isSome then 11 else 0) := by
  have hi := hI.inv
  have hsz : 12 ≤ F.octets.size := by
    have := hi.hdr; have := hi.cur_av; have := hi.av_lim; have := hi.lim_size; omega
  obtain ⟨_, ft⟩ := finish_inv_tail _ Server.macFn ht hsz b mac hf
  cases hed : F.edns with
  | none =>
    rw [hed] at ft
    simp only at ft
    rw [ft]
    have hws : (withCounts F).size = F.octets.size := by simp only [withCounts, Writer.writeAt_size]
    have := hi.cur_av; have := hi.av_lim; have := hi.lim_size
    simp [hws]
    omega
  | some ee =>
    rw [hed] at ft
    simp only at ft
    simp [ft.1]

/-- **the comparison clause, for any pair of twin start states**: `SS` is a writer holding the question `q`,
    ready for the answering phase, header clear, no TSIG pending; `A` is a twin of it, again `Good` with a
    clear header and a valid question hint.  `b` and `pb` are what `finish` makes of the two writers
    `handle_non_axfr_query` leaves.  Under the audit's guards (neither decoding has TC; the plain response
    fits the signed room; a plain SERVFAIL is a signed SERVFAIL) the decodings agree on RCODE, AA, the
    answer and authority sections and — one way — the additional section apart from OPT / TSIG. -/
theorem twin_compare (hSI : ScratchIndepI) (z : Zone.Zone) (hz : ZoneOK z)
    (hzty : NodeOK (fun r => r.rtype < 65536) z.root) (qn : WName) (hqwf : qn.WF) (hsub : z.apex <:+ fold qn)
    (tr : Transport) (q : Spec.DQuestion) (hqt : q.qtype < 65536)
    (SS : State) (gP : Good SS (qBody (some q))) (hqrP : QueryReady SS qn) (hvP : HdrView SS {})
    (hts : SS.tsig = none) (h12 : 12 ≤ SS.cursor) (hrr : 12 ≤ SS.rrStart)
    {L : Nat} {T : Option Writer.Tsig} {R : Nat} (A : State) (hT : Twin L T R A SS)
    (gS : Good A (qBody (some q))) (hhS : HintOK Writer.Den A .qname qn) (hvS : HdrView A {})
    (b pb : Bytes) (macS macP : Option (List UInt8))
    (hfS : Writer.finish (handleNonAxfrQueryL z qn q.qtype tr ⟨A, []⟩).2.w Server.macFn = .ok (b, macS))
    (hfP : Writer.finish (handleNonAxfrQueryL z qn q.qtype tr ⟨SS, []⟩).2.w Server.macFn = .ok (pb, macP))
    (dm pd : DMsg) (hdm : specDecodeMsg b = some dm) (hpd : specDecodeMsg pb = some pd)
    (htc : dm.tc = false) (hptc : pd.tc = false)
    (hroom : pb.size ≤ A.available + (if SS.edns.isSome then 11 else 0))
    (hrc2 : pd.rcode = 2 → dm.rcode = 2) :
    dm.rcode = pd.rcode ∧ dm.aa = pd.aa ∧
    sameMultiset (dm.an.map rrKey) (pd.an.map rrKey) = true ∧
    sameMultiset (dm.ns.map rrKey) (pd.ns.map rrKey) = true ∧
    subMultiset (plainRrs dm.ar) (plainRrs pd.ar) = true := by
  -- both runs: no panic, the final writers `Good` with the body of the log, the header showing its view
  have hnpP := (handleNonAxfrQueryL_safe Writer.writerSafe z hz qn hqwf q.qtype tr hsub ⟨SS, []⟩ gP.1 hqrP.hint).1
  have hnpS := (handleNonAxfrQueryL_safe Writer.writerSafe z hz qn hqwf q.qtype tr hsub ⟨A, []⟩ gS.1 hhS).1
  have hGP := good_handleNonAxfrQueryL z hz qn hqwf q.qtype tr hsub _ _ gP hqrP.hint
  have hGS := good_handleNonAxfrQueryL z hz qn hqwf q.qtype tr hsub _ _ gS hhS
  have hHP := hdr_handleNonAxfrQueryL z hz qn hqwf q.qtype tr hsub _ _ gP hqrP.hint hvP
  have hHS := hdr_handleNonAxfrQueryL z hz qn hqwf q.qtype tr hsub _ _ gS hhS hvS
  have htyP := bodyOf_handle_ar_types z qn q.qtype tr SS (qBody (some q)) (qBody_norecs _) hnpP
  have hBP := bodyOf_view (qBody (some q)) (qBody_norecs _) (handleNonAxfrQueryL z qn q.qtype tr ⟨SS, []⟩).2.log
  have hBS := bodyOf_view (qBody (some q)) (qBody_norecs _) (handleNonAxfrQueryL z qn q.qtype tr ⟨A, []⟩).2.log
  -- the plain writer keeps "no TSIG" and the EDNS slot
  obtain ⟨kP1, kP2⟩ := (pframed_handleNonAxfrQueryL (k := true) 12 (by omega) z qn q.qtype tr ⟨SS, []⟩ h12 hrr).keep rfl
  rw [hts] at kP1
  have hednsP : (handleNonAxfrQueryL z qn q.qtype tr ⟨SS, []⟩).2.w.edns.isSome = SS.edns.isSome := by
    have := congrArg Option.isSome kP2
    simpa using this
  have hsizeP := finish_size_plain _ hGP.1 kP1 pb macP hfP
  rw [hednsP] at hsizeP
  -- both decodings, read through the views
  obtain ⟨s1, s2, s3, s4, s5, arS, restS, q1, qA, _, qT⟩ :=
    decoded_of_good_view' _ _ _ hGS hBS hHS b macS hfS dm hdm
  obtain ⟨p1, p2, p3, p4, p5, _⟩ :=
    decoded_of_good_view' _ _ _ hGP hBP hHP pb macP hfP pd hpd
  obtain ⟨hflS, _⟩ := view_handle_flags z qn q.qtype tr _ hnpS
  obtain ⟨hview, hokc⟩ := twin_view hSI z hz qn hqwf q.qtype tr hsub SS gP.1 hqrP.hint A hT hnpP hnpS
    (by rw [← p3]; exact hptc) (by rw [← s3]; exact htc)
    (fun h2 => by
      have : dm.rcode = 2 := hrc2 (by rw [p1, h2])
      rw [s1] at this
      rcases hflS with h | h | h <;> omega)
    (fun pt hpt => by
      rw [handle_of_inner_ok z qn q.qtype tr _ _ hpt] at hsizeP
      simp only at hsizeP
      obtain ⟨evs, _, _, _, hcap⟩ := CapJ.inner z qn q.qtype ⟨SS, []⟩ hqrP.capPre
      have hcp := hcap () (by rw [hpt])
      rw [hpt] at hcp
      dsimp only at hcp
      obtain ⟨ci, cl, cc, _⟩ := hcp
      refine ⟨by omega, ?_⟩
      unfold CountInv resv at cc
      have := ci.cur_av; have := ci.av_lim
      split at cc <;> split at cc <;> omega)
  refine ⟨by rw [s1, p1, hview], by rw [s2, p2, hview], ?_⟩
  rcases hr : inner z qn q.qtype ⟨SS, []⟩ with ⟨(u | x | _), pt⟩
  · -- the plain answering logic succeeded: same log, twins, the decoder congruence
    obtain ⟨k1, ps', k2, k3, t0, k4, k5, _⟩ := hokc pt hr
    rw [k1] at hGP hfP htyP
    rw [k2] at hGS hfS
    simp only at hGP hfP hGS hfS htyP
    rw [k3] at hGS
    have htyped : ∀ r ∈ (bodyOf (qBody (some q)) pt.log).an ++ (bodyOf (qBody (some q)) pt.log).ns, r.ty < 65536 := by
      obtain ⟨evs, hl1, hl2, _⟩ := LogsY.inner z hzty qn q.qtype hqt ⟨SS, []⟩
      rw [hr] at hl1
      simp only [List.nil_append] at hl1
      rw [hl1]
      exact bodyOf_typed evs _ (by rw [(qBody_norecs _).1, (qBody_norecs _).2.1]; intro r hr'; cases hr') hl2
    obtain ⟨r1, r2, r3⟩ := decodeCongrT ps'.w pt.w t0 _ _ _ _ b pb macS macP dm pd hGS hGP htyP htyped k4.symm k5 hfS hfP
      hdm hpd
    rw [r1, r2, r3]
    exact ⟨sameMultiset_self _, sameMultiset_self _, by simp [subMultiset]⟩
  · -- it failed: both views are the empty SERVFAIL
    have vP := view_handle_err z qn q.qtype tr SS x pt hr hnpP (by rw [← p3]; exact hptc)
    rw [vP] at p4 p5 hview
    rw [hview] at s4 s5 qA
    simp only at p4 p5 s4 s5 qA
    rw [all2_nil_left _ p4, all2_nil_left _ p5, all2_nil_left _ s4, all2_nil_left _ s5]
    refine ⟨rfl, rfl, ?_⟩
    have : plainRrs dm.ar = [] := by
      unfold plainRrs
      rw [List.map_eq_nil_iff, List.filter_eq_nil_iff, q1, all2_nil_left _ qA]
      intro y hy
      rcases qT y (by simpa using hy) with e | e <;> simp [e]
    rw [this]
    rfl
  · have := (handle_log_np z qn q.qtype tr ⟨SS, []⟩ hnpP).2
    rw [hr] at this
    exact absurd rfl this

/-- `handle_query` for a question a loaded zone answers leaves the writer of `handle_non_axfr_query`'s logged run -/
theorem handleQuery_loaded_state (cfg : Cfg) (tr : Transport) (qn : WName) (q : Spec.DQuestion)
    (c1 : ¬ (251 ≤ q.qtype ∧ q.qtype ≤ 254)) (c2 : q.qclass ≠ 255)
    (e : Catalog.Entry Unit) (hl : Catalog.lookup (mkCatalog cfg.zones) qn.labels q.qclass = some e)
    (hk : e.kind = .Loaded) (ze : ZoneEntry) (hze : cfg.zones[e.zone]? = some ze) (S : State) :
    ((handleQuery cfg (some (qn, q.qtype, q.qclass)) tr >>= fun _ => (pure true : M Bool)) S).2 =
      (handleNonAxfrQueryL ze.zone qn q.qtype tr ⟨S, []⟩).2.w := by
  rw [Writer.M.bind_apply, handleQuery_loaded cfg tr qn q.qtype q.qclass S c1 c2 e hl hk ze hze, ← handleNonAxfrQuery_state]
  rcases handleNonAxfrQuery ze.zone qn q.qtype tr _ with ⟨(u | x | _), s'⟩ <;> rfl

/-- **the comparison clause of "answered normally", for an authenticated request that a loaded zone
    answers** — with the writer fact `ScratchIndepI` as a parameter (`scratchIndepI` proves it), for
    zones whose RRsets have 16-bit TYPEs.  The TSIG step has decided "authenticated" (`D`) and the
    response TSIG fits; `b` is the signed response, `pb` the response to the request without its TSIG
    record; neither decoding has TC; the plain response leaves room for the TSIG record; a plain SERVFAIL
    is a signed SERVFAIL.  The two runs start from twin states (the scan state, and the scan state with the
    TSIG slot reserved): `twin_compare`. -/
theorem compare_core (hSI : ScratchIndepI)
    (cfg : Cfg) (hcfg : CfgWF cfg)
    (hzty : ∀ ze ∈ cfg.zones, NodeOK (fun r => r.rtype < 65536) ze.zone.root) (cat : List ZoneCfg) (tr : Transport) (now : Nat) (req : Bytes)
    (hbuf : minBuf tr cfg.payload ≤ 65535) (hpay : 512 ≤ cfg.payload) (hp16 : cfg.payload ≤ 65535)
    (hreq : req.size ≤ Rdata.USIZE_MAX)
    (hrM : (specScanWith (catKind cfg) cfg.payload req).respond = true)
    (iq : (specScan cat cfg.payload req).question = (specScanWith (catKind cfg) cfg.payload req).question)
    (ie : (specScan cat cfg.payload req).edns = (specScanWith (catKind cfg) cfg.payload req).edns)
    (il : (specScan cat cfg.payload req).limitUdp = (specScanWith (catKind cfg) cfg.payload req).limitUdp)
    (t : Tsig.ReadTsigRr) (mw : Bytes) (r' : Reader.Reader) (question : Option (WName × Nat × Nat))
    (hrun : TsigRun cfg tr now 65535 req t mw r' question)
    {nowT : Tsig.TimeSigned} {kn an : WName} {mode : TsigMode} {rr : TsigRr}
    (D : Decided cfg now t mw nowT kn an 0 mode rr true)
    (hfits : TsigFits (preTsigState cfg tr 65535 req) mode rr)
    (hev : endVerdict (catKind cfg) req.size (specScanWith (catKind cfg) cfg.payload req).question
      r'.cursor ((req.getD 2 0).toNat / 8 % 16) = .answer)
    (b : Bytes) (hb : Server.handleMessage cfg tr now 65535 req = .ok (some b))
    (d : Delim) (hfind : findTsig req = some d) (h12 : 12 ≤ d.pos) (hdsz : d.pos ≤ req.size)
    (hnext : d.pos ≤ d.next) (hnsz : d.next ≤ req.size) (hcur : r'.cursor = d.next)
    (hcmp : plainComparable cat cfg.payload req = true)
    (pb : Bytes) (hpb : ∀ p, stripTsigRr req = some p → Server.handleMessage cfg tr now 65535 p = .ok (some pb))
    (dm pd : DMsg) (hdm : specDecodeMsg b = some dm) (hpd : specDecodeMsg pb = some pd)
    (htc : dm.tc = false) (hptc : pd.tc = false)
    (hroom : pb.size + reservedLen mode rr ≤ limOf tr (specScanWith (catKind cfg) cfg.payload req).limitUdp)
    (hrc2 : pd.rcode = 2 → dm.rcode = 2) :
    dm.rcode = pd.rcode ∧ dm.aa = pd.aa ∧
    sameMultiset (dm.an.map rrKey) (pd.an.map rrKey) = true ∧
    sameMultiset (dm.ns.map rrKey) (pd.ns.map rrKey) = true ∧
    subMultiset (plainRrs dm.ar) (plainRrs pd.ar) = true := by
  -- the signed run: the TSIG step leaves the pre-TSIG writer with the slot reserved
  have h3 : 3 < (preTsigState cfg tr 65535 req).octets.size := by
    have := preTsig_size cfg tr 65535 req hbuf hpay hrM; omega
  have hT := tsigAfter_eq D r' _ h3
  rw [if_pos ⟨rfl, hfits⟩, stepSt_fits hfits] at hT
  obtain ⟨q, qn, _, _, _, _, hq0, hqn, c1, c2, c3, _, _, _, _, _, _, _, gS, hqrS, hvS, _, h4⟩ :=
    signed_answer_state_of_run cfg tr now 65535 req hbuf hpay hp16 hrM t mw r' question hrun r' _ hT hev b hb
  -- the plain run: `handle_query` on the scan state
  have hev' := hev
  rw [hcur] at hev'
  obtain ⟨p, q', qn', hstrip, hq0', hqn', heqP⟩ := plain_answer_run cfg cat tr now req hpay hp16 hreq d hfind h12 hdsz
    hnext hnsz iq ie il hev' hcmp hrM
  rw [hq0] at hq0'
  cases hq0'
  rw [hqn] at hqn'
  cases hqn'
  have hpb' := hpb p hstrip
  rw [heqP] at hpb'
  -- the scan state, which is the pre-TSIG writer
  obtain ⟨_, _, hsce⟩ := specScanWith_respond _ _ _ hrM
  rw [hsce] at hroom
  obtain ⟨q2, qn2, nx, hq2, hsq, hqn2, _, _, _, hP, gP, hqrP, hvP, _⟩ :=
    answer_scanState cfg tr 65535 req hbuf hpay hp16 hrM _ _ hev
  rw [hq0] at hq2
  cases hq2
  rw [hqn] at hqn2
  cases hqn2
  rw [hP] at gP hqrP hvP hfits gS hqrS hvS h4
  rw [stRcode0_scanState cfg tr 65535 req hbuf hpay _ _ _ q nx hsq] at gS hqrS hvS h4
  obtain ⟨rT, rC, rR, rE, rA⟩ := scanState_room cfg tr 65535 req hbuf hpay (Spec.Server.hdr req 0)
    (((req.getD 2 0).toNat &&& 120) >>> 3) (((req.getD 2 0).toNat &&& 1) != 0) q nx hsq
  obtain ⟨e, ze, hl, hk, hze, hz, hsub⟩ := loaded_zone_of_catKind cfg hcfg q qn hqn c3
  generalize scanState cfg tr 65535 req (Spec.Server.hdr req 0) (((req.getD 2 0).toNat &&& 120) >>> 3)
    (((req.getD 2 0).toNat &&& 1) != 0) q = SS at *
  -- `handle_query` is `handle_non_axfr_query` on the zone; `finish` produced the two responses
  obtain ⟨macS, hfS⟩ := finish_of_response _ h4
  obtain ⟨macP, hfP⟩ := finish_of_response _ hpb'.symm
  rw [handleQuery_loaded_state cfg tr qn q c1 c2 e hl hk ze hze] at hfS hfP
  have hR : reservedLen mode rr ≤ SS.available := by have := hfits.2.1; omega
  exact twin_compare hSI ze.zone hz (hzty ze (List.mem_of_getElem? hze)) qn (parse_wf hqn) hsub tr q
    (specQuestionAt_qtype_lt _ _ _ _ _ _ hsq) SS gP hqrP hvP rT rC rR _ (twin_withTsig SS _ _ hR) gS hqrS.hint hvS
    b pb macS macP hfS hfP dm pd hdm hpd htc hptc
    (by
      show pb.size ≤ SS.available - _ + _
      rw [← rE] at rA; omega) hrc2

end QV.ServerContent
