/-
  QV.Proofs.WriterDisabled — C12 (d), model side, `Disabled` compression mode: what exactly each
  successful call appends to the buffer (the canonical uncompressed encoding), for all states.
-/
import QV.Proofs.WriterNames
import QV.Proofs.WriterInv

namespace QV.Writer
open QV QV.Wire

/-- `s'` is `s` with the octets `d` appended at the cursor (everything below untouched) -/
structure App (s s' : State) (d : List UInt8) : Prop where
  ext : Ext s s'
  cur : s'.cursor = s.cursor + d.length
  bytes : BytesAt s'.octets s.cursor d
  mode : s'.mode = s.mode
  sect : s'.sect = s.sect

theorem App.refl (s : State) : App s s [] := ⟨Ext.refl s, by simp, (fun i hi => by simp at hi), rfl, rfl⟩

theorem App.trans {a b c : State} {d1 d2 : List UInt8} (h1 : App a b d1) (h2 : App b c d2) :
    App a c (d1 ++ d2) := by
  refine ⟨Ext.trans h1.ext h2.ext, by rw [h2.cur, h1.cur]; simp; omega, ?_, by rw [h2.mode, h1.mode],
    by rw [h2.sect, h1.sect]⟩
  intro i hi
  by_cases hlt : i < d1.length
  · rw [List.getElem?_append_left hlt, h2.ext.pre _ (by rw [h1.cur]; omega)]
    exact h1.bytes i hlt
  · rw [List.getElem?_append_right (by omega)]
    have := h2.bytes (i - d1.length) (by simp at hi; omega)
    rw [h1.cur, show a.cursor + d1.length + (i - d1.length) = a.cursor + i by omega] at this
    exact this

/-- in `Disabled` mode a successful run of `f` appends exactly `d` -/
def Wr {α} (d : List UInt8) (f : M α) : Prop :=
  ∀ s, s.mode = .disabled → ∀ a s', f s = (.ok a, s') → App s s' d

theorem wr_bind {α β} {d1 d2 : List UInt8} {f : M α} {g : α → M β} (hf : Wr d1 f)
    (hg : ∀ a, Wr d2 (g a)) : Wr (d1 ++ d2) (f >>= g) := by
  intro s hm b s' h
  simp only [M.bind_apply] at h
  cases hfs : f s with
  | mk r s1 =>
    rw [hfs] at h
    cases r with
    | ok a =>
      have a1 := hf s hm a s1 hfs
      exact App.trans a1 (hg a s1 (by rw [a1.mode]; exact hm) b s' h)
    | err e => cases h
    | panic => cases h

theorem wr_pure {α} (a : α) : Wr [] (pure a : M α) := fun s _ b s' h => by cases h; exact App.refl s
theorem wr_gets {α} (f : State → α) : Wr [] (M.gets f) := fun s _ b s' h => by cases h; exact App.refl s
theorem wr_fail {α} (e : WriterErr) : Wr [] (M.fail e : M α) := fun s _ b s' h => by cases h
theorem wr_panic {α} : Wr [] (M.panic : M α) := fun s _ b s' h => by cases h

theorem wr_gets_bind {α β} {d : List UInt8} {f : State → α} {g : α → M β} (hg : ∀ a, Wr d (g a)) :
    Wr d (M.gets f >>= g) := by
  have := wr_bind (wr_gets f) hg
  simpa using this

/-- a bookkeeping step: nothing appended -/
theorem wr_modify (f : State → State) (h : ∀ s, App s (f s) []) : Wr [] (M.modify f) :=
  fun s _ b s' hh => by cases hh; exact h s

theorem wr_tryPush (d : List UInt8) : Wr d (tryPush d) := by
  intro s _ b s' h
  have hf := frame_tryPush d s
  rcases tryPush_cases d s with h' | ⟨_, h'⟩ | ⟨_, h3, h'⟩ <;> rw [h'] at h hf <;> cases h
  exact ⟨hf, rfl, bytesAt_writeAt _ _ _ h3, rfl, rfl⟩

theorem wr_writeUncompressedName (n : WName) : Wr n.wire (writeUncompressedName n) := by
  intro s _ p s' h
  have e := frame_writeUncompressedName n s
  rw [h] at e
  obtain ⟨_, h3, _, rfl⟩ := writeUncompressedName_eq_ok.mp h
  exact ⟨e, rfl, bytesAt_writeAt _ _ _ h3, rfl, rfl⟩

theorem wr_writeUnhintedName (n : WName) : Wr n.wire (writeUnhintedName n) := by
  intro s hm p s' h
  unfold writeUnhintedName at h
  rw [M.gets_bind, if_neg (by rw [hm]; simp)] at h
  exact wr_writeUncompressedName n s hm p s' h

theorem wr_writeHintedName (hint : Hint) (n : WName) : Wr n.wire (writeHintedName hint n) := by
  intro s hm p s' h
  rw [writeHintedName_literal hint n s (Or.inl hm)] at h
  exact wr_writeUncompressedName n s hm p s' h

theorem app_fields {s s' : State} (ho : s'.octets = s.octets) (hc : s'.cursor = s.cursor)
    (e : Ext s s') (hm : s'.mode = s.mode) (hs : s'.sect = s.sect := by rfl) : App s s' [] :=
  ⟨e, by simp [hc], (fun i hi => by simp at hi), hm, hs⟩

theorem wr_setCtx (c : NameCtx) : Wr [] (setCtx c) :=
  wr_modify _ fun s => app_fields rfl rfl (frame_setCtx c s) rfl

theorem wr_hvPush (p : Option Nat) : Wr [] (hvPush p) := by
  refine wr_modify _ fun s => ?_
  split
  · split
    · exact app_fields rfl rfl (by constructor <;> simp) rfl
    · exact App.refl s
  · exact App.refl s

/-! ### RDATA in `Disabled` mode is written verbatim -/

theorem wr_setRdataAnchor (p : Option Prior) :
    Wr [] (M.modify fun s => { s with mostRecentNameInRdata := p }) :=
  wr_modify _ fun s => app_fields rfl rfl (frame_setAnchorRdata p s) rfl

theorem wr_nameComp (wr : M (Option Prior)) (c : NameCtx) (d : List UInt8) (hwr : Wr d wr) (k : M Unit)
    (dk : List UInt8) (hk : Wr dk k) :
    Wr (d ++ dk) (do
      setCtx c
      let p ← wr
      setCtx .none
      M.modify fun s => { s with mostRecentNameInRdata := p }
      hvPush (p.map (·.ptr))
      k) := by
  have := wr_bind (wr_setCtx c) (fun _ => wr_bind hwr (fun p => wr_bind (wr_setCtx .none) (fun _ =>
    wr_bind (wr_setRdataAnchor p) (fun _ => wr_bind (wr_hvPush (p.map (·.ptr))) (fun _ => hk)))))
  simpa using this

theorem wr_writeComponents (ts : List CompType) (rd : List UInt8) : Wr rd (writeComponents ts rd) := by
  induction ts generalizing rd with
  | nil =>
    unfold writeComponents
    split
    · rename_i he
      have : rd = [] := by simpa using he
      rw [this]; exact wr_pure ()
    · exact wr_tryPush rd
  | cons t ts ih =>
    cases t with
    | compressibleName =>
      unfold writeComponents
      cases hp : WName.parse rd with
      | none => intro s _ b s' h; cases h
      | some pr =>
        obtain ⟨n, rest⟩ := pr
        simp only []
        rw [parse_content hp]
        exact wr_nameComp _ _ _ (wr_writeUnhintedName n) _ _ (ih rest)
    | uncompressibleName =>
      unfold writeComponents
      cases hp : WName.parse rd with
      | none => intro s _ b s' h; cases h
      | some pr =>
        obtain ⟨n, rest⟩ := pr
        simp only []
        rw [parse_content hp]
        exact wr_nameComp _ _ _ (wr_writeUncompressedName n) _ _ (ih rest)
    | fixedLen k =>
      unfold writeComponents
      split
      · intro s _ b s' h; cases h
      · have := wr_bind (wr_tryPush (rd.take k)) (fun _ => ih (rd.drop k))
        simpa using this

theorem wr_writeRdata (cls ty : Nat) (rd : List UInt8) : Wr rd (writeRdata cls ty rd) := by
  unfold writeRdata
  split
  · exact wr_writeComponents _ _
  · intro s _ b s' h; cases h

/-! ### records and questions -/

/-- the canonical (uncompressed) encoding of a resource record (RFC 1035 §3.2.1) -/
def encRR (owner : WName) (ty cls ttl : Nat) (rd : List UInt8) : List UInt8 :=
  owner.wire ++ u16be ty ++ u16be cls ++ u32be ttl ++ u16be (rd.length % 65536) ++ rd

/-- the encoding of a question (RFC 1035 §4.1.2) -/
def encQ (qn : WName) (qt qc : Nat) : List UInt8 := qn.wire ++ u16be qt ++ u16be qc

theorem wr_rdataBlock (cls ty : Nat) (rd : List UInt8) :
    Wr (u16be (rd.length % 65536) ++ rd) (do
      let av ← M.gets (·.available)
      let rdlengthStart ← M.gets (·.cursor)
      if av < rdlengthStart then M.panic
      else if av - rdlengthStart < 2 then M.fail .Truncation
      else do
        M.modify fun s => { s with cursor := s.cursor + 2 }
        writeRdata cls ty rd
        let cur' ← M.gets (·.cursor)
        if cur' < rdlengthStart + 2 then M.panic
        else write rdlengthStart (u16be ((cur' - rdlengthStart - 2) % 65536))) := by
  intro s hm b s' h
  simp only [M.bind_apply, M.gets_apply] at h
  by_cases h1 : s.available < s.cursor
  · rw [if_pos h1] at h; cases h
  rw [if_neg h1] at h
  by_cases h2 : s.available - s.cursor < 2
  · rw [if_pos h2] at h; cases h
  rw [if_neg h2] at h
  simp only [M.bind_apply, M.modify_apply] at h
  have e1 : Ext s { s with cursor := s.cursor + 2 } := by
    constructor <;> simp
    omega
  cases hw : writeRdata cls ty rd { s with cursor := s.cursor + 2 } with
  | mk r s2 =>
    rw [hw] at h
    cases r with
    | err e => cases h
    | panic => cases h
    | ok u =>
      have a2 := wr_writeRdata cls ty rd { s with cursor := s.cursor + 2 } hm u s2 hw
      have hc2 : s2.cursor = s.cursor + 2 + rd.length := a2.cur
      simp only [M.gets_apply] at h
      rw [if_neg (by omega)] at h
      have hlen : (u16be ((s2.cursor - s.cursor - 2) % 65536)).length = 2 := rfl
      have hval : s2.cursor - s.cursor - 2 = rd.length := by omega
      have e02 := Ext.trans e1 a2.ext
      have e03 := ext_write_above e02 s.cursor (u16be ((s2.cursor - s.cursor - 2) % 65536)) (Nat.le_refl _)
      unfold write at h e03
      by_cases hb : s.cursor + (u16be ((s2.cursor - s.cursor - 2) % 65536)).length ≤ s2.octets.size
      · rw [if_pos hb] at h e03
        cases h
        have hl2 : ∀ x, (u16be x).length = 2 := fun _ => rfl
        refine ⟨e03, ?_, ?_, a2.mode, a2.sect⟩
        · show s2.cursor = s.cursor + (u16be (rd.length % 65536) ++ rd).length
          rw [List.length_append, hl2]; omega
        intro i hi
        rw [List.length_append, hl2] at hi
        show (writeAt s2.octets s.cursor (u16be ((s2.cursor - s.cursor - 2) % 65536)))[s.cursor + i]? = _
        rw [hval]
        by_cases hi2 : i < 2
        · rw [List.getElem?_append_left (by rw [hl2]; exact hi2)]
          exact writeAt_get_in _ _ _ i (by rw [hl2]; exact hi2) (by rw [hl2]; rw [hlen] at hb; exact hb)
        · rw [List.getElem?_append_right (by rw [hl2]; omega), hl2]
          rw [writeAt_get_ge _ _ _ _ (by rw [hl2]; omega)]
          have := a2.bytes (i - 2) (by omega)
          rw [show ({ s with cursor := s.cursor + 2 } : State).cursor + (i - 2) = s.cursor + i by
            show s.cursor + 2 + (i - 2) = s.cursor + i; omega] at this
          exact this
      · rw [if_neg hb] at h; cases h

theorem wr_setOwnerAnchor (p : Option Prior) :
    Wr [] (M.modify fun s => { s with mostRecentOwner := p }) :=
  wr_modify _ fun s => app_fields rfl rfl (frame_setOwner p s) rfl

/-- **a record in `Disabled` mode**: exactly its canonical encoding is appended -/
theorem wr_addRr (hint : Hint) (owner : WName) (ty cls ttl : Nat) (rd : List UInt8) :
    Wr (encRR owner ty cls ttl rd) (addRr hint owner ty cls ttl rd) := by
  unfold addRr encRR
  have := wr_bind (wr_setCtx .owner) (fun _ => wr_bind (wr_writeHintedName hint owner) (fun p =>
    wr_bind (wr_setCtx .none) (fun _ => wr_bind (wr_setOwnerAnchor p) (fun _ =>
      wr_bind (wr_tryPush (u16be ty)) (fun _ => wr_bind (wr_tryPush (u16be cls)) (fun _ =>
        wr_bind (wr_tryPush (u32be ttl)) (fun _ => wr_rdataBlock cls ty rd)))))))
  simpa [tryPushU16, tryPushU32, List.append_assoc] using this

/-- the records of an RRset, one after the other -/
theorem wr_addRrset (hint : Hint) (owner : WName) (ty cls ttl : Nat) (rds : List (List UInt8)) (n : Nat) :
    Wr (rds.flatMap (encRR owner ty cls ttl)) (addRrset hint owner ty cls ttl rds n) := by
  induction rds generalizing hint n with
  | nil => exact wr_pure n
  | cons rd rds ih =>
    unfold addRrset
    have := wr_bind (wr_addRr hint owner ty cls ttl rd) (fun _ => ih .mostRecentOwner (n + 1))
    simpa using this

theorem wr_addQuestionBody (qn : WName) (qt qc : Nat) : Wr (encQ qn qt qc) (addQuestionBody qn qt qc) := by
  unfold addQuestionBody encQ
  have hq : ∀ p : Option Prior, Wr [] (M.modify fun s => if s.qdcount = 0 then { s with qname := p } else s) := by
    intro p
    refine wr_modify _ fun s => ?_
    by_cases h0 : s.qdcount = 0
    · rw [if_pos h0]; exact app_fields rfl rfl (by constructor <;> simp) rfl
    · rw [if_neg h0]; exact App.refl s
  have := wr_bind (wr_setCtx .qname) (fun _ => wr_bind (wr_writeUnhintedName qn) (fun p =>
    wr_bind (wr_setCtx .none) (fun _ => wr_bind (hq p) (fun _ =>
      wr_bind (wr_tryPush (u16be qt)) (fun _ => wr_tryPush (u16be qc))))))
  simpa [tryPushU16, List.append_assoc] using this

end QV.Writer
