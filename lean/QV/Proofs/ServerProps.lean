/-
  QV.Proofs.ServerProps — the request handler's theorems in the form the properties C03, C07, C08,
  C09 quote them: the top-level refinement statement, and what the prescribed response octets
  (`specErrorResponse`) mean field by field.
-/
import QV.Proofs.ServerResp
import QV.Proofs.ScanTsig

namespace QV.ServerScan
open QV QV.Spec.Server

/-! ### the refinement, top level -/

/-- **The refinement, response part.** For every configuration, transport, buffer and request: if the spec's
    scan answers with FORMERR, BADVERS, NOTIMP, REFUSED or SERVFAIL-for-a-zone-not-loaded, then
    `handle_message` returns exactly the octets `specErrorResponse` prescribes. -/
theorem server_error_response (cfg : Server.Cfg) (tr : Server.Transport) (now bufLen : Nat) (req : Bytes)
    (hbuf : minBuf tr cfg.payload ≤ bufLen) (hpay : 512 ≤ cfg.payload) (hreq : req.size ≤ Rdata.USIZE_MAX)
    (hr : (specScanWith (catKind cfg) cfg.payload req).respond = true)
    (hv : noDataV (specScanWith (catKind cfg) cfg.payload req).verdict = true) :
    ∃ b, Server.handleMessage cfg tr now bufLen req = .ok (some b) ∧
      b.toList = specErrorResponse req cfg.payload (specScanWith (catKind cfg) cfg.payload req) :=
  handleMessage_noData cfg tr now bufLen req hbuf hpay hreq hr hv

/-! ### reading the prescribed response -/

theorem hdr2_bits : ∀ x : UInt8,
    (hdr2 x).toNat / 128 % 2 = 1 ∧ (hdr2 x).toNat / 8 % 16 = x.toNat / 8 % 16 ∧
    (hdr2 x).toNat / 4 % 2 = 0 ∧ (hdr2 x).toNat / 2 % 2 = 0 ∧
    (hdr2 x).toNat % 2 = (if x.toNat / 8 % 16 = 0 then x.toNat % 2 else 0) := by
  apply forall_uint8; decide +kernel

theorem getD_toList (b : Bytes) (i : Nat) : b.getD i 0 = (b.toList[i]?).getD 0 := by
  rw [Array.getD_eq_getD_getElem?, Array.getElem?_toList]

/-- the question octets of the prescribed response -/
def specQuestionOctets (q : Option Spec.DQuestion) : List UInt8 :=
  match q with
  | none => []
  | some q => q.qname ++ u16be q.qtype ++ u16be q.qclass

/-- the OPT record of the prescribed response -/
def specOptOctets (serverSize : Nat) (sc : Scan) : List UInt8 :=
  if sc.edns then [0, 0, 41] ++ u16be serverSize ++ [UInt8.ofNat (verdictRcode sc.verdict).2, 0, 0, 0, 0, 0] else []

theorem specErrorResponse_eq (req : Bytes) (p : Nat) (sc : Scan) :
    specErrorResponse req p sc =
      [req.getD 0 0, req.getD 1 0, hdr2 (req.getD 2 0), UInt8.ofNat (verdictRcode sc.verdict).1, 0,
       (if sc.question.isSome then 1 else 0), 0, 0, 0, 0, 0, (if sc.edns then 1 else 0)] ++
      specQuestionOctets sc.question ++ specOptOctets p sc := rfl

/-- a message given as twelve header octets followed by `rest`, read back field by field -/
theorem header_of_list (b : Bytes) (o0 o1 o2 o3 o4 o5 o6 o7 o8 o9 o10 o11 : UInt8) (rest : List UInt8)
    (hb : b.toList = [o0, o1, o2, o3, o4, o5, o6, o7, o8, o9, o10, o11] ++ rest) :
    b.size = 12 + rest.length ∧ hdr b 0 = o0.toNat * 256 + o1.toNat ∧ b.getD 2 0 = o2 ∧ b.getD 3 0 = o3 ∧
    hdr b 4 = o4.toNat * 256 + o5.toNat ∧ hdr b 6 = o6.toNat * 256 + o7.toNat ∧
    hdr b 8 = o8.toNat * 256 + o9.toNat ∧ hdr b 10 = o10.toNat * 256 + o11.toNat ∧ b.toList.drop 12 = rest := by
  refine ⟨?_, ?_, ?_, ?_, ?_, ?_, ?_, ?_, by rw [hb]; rfl⟩
  · rw [← Array.length_toList, hb, List.length_append]; rfl
  all_goals simp only [hdr, getD_toList, hb]
  all_goals rfl

/-- field by field: what a response equal to the prescribed octets says -/
theorem errResp_facts (req : Bytes) (p : Nat) (sc : Scan) (b : Bytes)
    (hb : b.toList = specErrorResponse req p sc) :
    b.size = 12 + (specQuestionOctets sc.question).length + (specOptOctets p sc).length ∧
    hdr b 0 = hdr req 0 ∧
    b.getD 2 0 = hdr2 (req.getD 2 0) ∧ b.getD 3 0 = UInt8.ofNat (verdictRcode sc.verdict).1 ∧
    hdr b 4 = (if sc.question.isSome then 1 else 0) ∧ hdr b 6 = 0 ∧ hdr b 8 = 0 ∧
    hdr b 10 = (if sc.edns then 1 else 0) ∧
    b.toList.drop 12 = specQuestionOctets sc.question ++ specOptOctets p sc := by
  rw [specErrorResponse_eq, List.append_assoc] at hb
  obtain ⟨f0, f1, f2, f3, f4, f5, f6, f7, f8⟩ := header_of_list b _ _ _ _ _ _ _ _ _ _ _ _ _ hb
  refine ⟨by rw [f0, List.length_append, Nat.add_assoc], f1, f2, f3, ?_, f5, f6, ?_, f8⟩
  · rw [f4]; cases sc.question <;> rfl
  · rw [f7]; cases sc.edns <;> rfl

/-- the flag fields of a message header, read off its third and fourth octet -/
theorem hdr_flags (m : Bytes) :
    hdr m 2 / 32768 % 2 = (m.getD 2 0).toNat / 128 % 2 ∧
    hdr m 2 / 2048 % 16 = (m.getD 2 0).toNat / 8 % 16 ∧
    hdr m 2 / 1024 % 2 = (m.getD 2 0).toNat / 4 % 2 ∧
    hdr m 2 / 512 % 2 = (m.getD 2 0).toNat / 2 % 2 ∧
    hdr m 2 / 256 % 2 = (m.getD 2 0).toNat % 2 ∧
    hdr m 2 / 128 % 2 = (m.getD 3 0).toNat / 128 % 2 ∧
    hdr m 2 / 16 % 8 = (m.getD 3 0).toNat / 16 % 8 ∧
    hdr m 2 % 16 = (m.getD 3 0).toNat % 16 := by
  have hb := (m.getD 3 0).toNat_lt
  unfold hdr
  generalize (m.getD 2 0).toNat = a
  generalize (m.getD (2 + 1) 0).toNat = b at hb ⊢
  have hi : (a * 256 + b) / 256 = a := by omega
  -- dividing by `256 * k` drops the low octet and then divides the high one by `k`
  have hd : ∀ k, (a * 256 + b) / (256 * k) = a / k := fun k => by rw [← Nat.div_div_eq_div_mul, hi]
  exact ⟨hd 128 ▸ rfl, hd 8 ▸ rfl, hd 4 ▸ rfl, hd 2 ▸ rfl, by rw [hi], by omega, by omega, by omega⟩

/-- an octet that holds nothing but an RCODE: RA, Z, AD, CD are clear -/
theorem rcode_octet (v : Nat) (h : v < 16) : v / 128 % 2 = 0 ∧ v / 16 % 8 = 0 ∧ v % 16 = v := by
  omega

/-- numeric header fields of a response whose flag octets are `hdr2 x` and an RCODE below 16 -/
theorem flags_facts (b req : Bytes) (rc : Nat) (hrc : rc < 16)
    (h2 : b.getD 2 0 = hdr2 (req.getD 2 0)) (h3 : b.getD 3 0 = UInt8.ofNat rc) :
    hdr b 2 / 32768 % 2 = 1 ∧ hdr b 2 / 2048 % 16 = hdr req 2 / 2048 % 16 ∧
    hdr b 2 / 1024 % 2 = 0 ∧ hdr b 2 / 512 % 2 = 0 ∧
    hdr b 2 / 256 % 2 = (if hdr req 2 / 2048 % 16 = 0 then hdr req 2 / 256 % 2 else 0) ∧
    hdr b 2 / 128 % 2 = 0 ∧ hdr b 2 / 16 % 8 = 0 ∧ hdr b 2 % 16 = rc := by
  obtain ⟨a1, a2, a3, a4, a5⟩ := hdr2_bits (req.getD 2 0)
  have h3' : (b.getD 3 0).toNat = rc := by
    rw [h3, UInt8.toNat_ofNat']; omega
  obtain ⟨c1, c2, c3⟩ := rcode_octet rc hrc
  obtain ⟨f1, f2, f3, f4, f5, f6, f7, f8⟩ := hdr_flags b
  obtain ⟨_, r2, _, _, r5, _⟩ := hdr_flags req
  rw [f1, f2, f3, f4, f5, f6, f7, f8, r2, r5, h2, h3']
  exact ⟨a1, a2, a3, a4, a5, c1, c2, c3⟩

theorem verdictRcode_lt (v : Verdict) : (verdictRcode v).1 < 16 := by
  cases v <;> simp [verdictRcode]

end QV.ServerScan
