/-
  QV.Proofs.WriterCfg — the abstract state's EDNS / TSIG configuration is the writer's (`AbsCfg`),
  call after call.
-/
import QV.Proofs.WriterAbsStep

namespace QV.Writer
open QV QV.Wire QV.Spec QV.ServerSafety

/-- the remaining argument types of the Rust API that `Op.Typed` does not list: the EDNS payload size
    and the TSIG `fudge` / original ID / error are `u16` -/
def ApiBounds : Op → Prop
  | .setEdns p => p < 65536
  | .setTsig _ rr => rr.fudge < 65536 ∧ rr.originalId < 65536 ∧ rr.error < 65536
  | _ => True

/-- the TSIG configuration as the specification records it -/
def toATsig (ts : Tsig) : Message.ATsig :=
  ⟨(match ts.mode with
      | .request a _ | .response a _ _ | .subsequent a _ _ =>
        (some (Message.algOutputSize (Driver.algNum a)), Message.algWireName (Driver.algNum a))
      | .unsigned n => ((none : Option Nat), n.wire)).1,
   (match ts.mode with
      | .request a _ | .response a _ _ | .subsequent a _ _ =>
        (some (Message.algOutputSize (Driver.algNum a)), Message.algWireName (Driver.algNum a))
      | .unsigned n => ((none : Option Nat), n.wire)).2,
   ts.rr.keyName.wire, ts.rr.timeSigned, ts.rr.fudge, ts.rr.originalId, ts.rr.error, ts.rr.serverTime⟩

/-- the abstract state records the EDNS and TSIG configuration of the writer -/
structure AbsCfg (s : State) (a : Message.AState) : Prop where
  edns : a.edns = s.edns.map fun e => (e.payload, e.upper)
  tsig : a.tsig = s.tsig.map toATsig
  /-- the stored values are those of the API's types -/
  eb : ∀ e, s.edns = some e → e.payload < 65536 ∧ e.upper < 256
  tb : ∀ ts, s.tsig = some ts → ts.rr.fudge < 65536 ∧ ts.rr.originalId < 65536 ∧ ts.rr.error < 65536

theorem absCfg_same {s s' : State} {a : Message.AState} (h : AbsCfg s a) (e : Same s s') : AbsCfg s' a :=
  ⟨by rw [e.edns]; exact h.edns, by rw [e.tsig]; exact h.tsig, by rw [e.edns]; exact h.eb, by rw [e.tsig]; exact h.tb⟩

theorem absCfg_of {s s' : State} {a a' : Message.AState} (h : AbsCfg s a) (he : s'.edns = s.edns)
    (ht : s'.tsig = s.tsig) (ae : a'.edns = a.edns) (at' : a'.tsig = a.tsig) : AbsCfg s' a' :=
  ⟨by rw [ae, he]; exact h.edns, by rw [at', ht]; exact h.tsig, by rw [he]; exact h.eb, by rw [ht]; exact h.tb⟩

theorem Did.cfg {ss : Session} {op : Op} {s' : State} {a a' : Message.AState} {d : Message.Decoded}
    (h : Did ss op s') (hC : AbsCfg ss.w a) (hb : ApiBounds op)
    (habs : Message.absOk a d (Driver.toSpecOp op) = .ok a') : AbsCfg s' a' := by
  induction h with
  | @hdr op o hop' =>
    rw [absOk_hdr_eq hop' habs]
    have hu : ∀ u, u < 256 → upperAfter op u < 256 := fun u hu => by
      cases op with
      | setRcode v => show 0 < 256; omega
      | setExtendedRcode v => exact Nat.mod_lt _ (by omega)
      | _ => exact hu
    refine ⟨?_, hC.tsig, fun e he => ?_, hC.tb⟩
    · show a.edns.map _ = (ednsAfter ss.w.edns op).map _
      rw [hC.edns]; cases ss.w.edns <;> rfl
    · have he' : ednsAfter ss.w.edns op = some e := he
      cases h0 : ss.w.edns with
      | none => rw [h0] at he'; cases he'
      | some e0 => rw [h0] at he'; cases he'; exact ⟨(hC.eb e0 h0).1, hu _ (hC.eb e0 h0).2⟩
  | limit | mode | clear | getters =>
    simp only [Driver.toSpecOp, Message.absOk, Except.ok.injEq] at habs; subst habs
    exact absCfg_of hC rfl rfl rfl rfl
  | question hq =>
    obtain ⟨s1, e, rfl⟩ := addQuestion_ok_ext hq
    obtain ⟨_, _, rfl⟩ := absOk_question_eq habs
    exact absCfg_of hC e.edns e.tsig rfl rfl
  | @records sec _ _ _ _ _ _ _ _ hq =>
    obtain ⟨_, _, _, _, _, rfl⟩ := absOk_records_eq habs
    obtain ⟨s1, n, e, rfl⟩ := addRrsetOp_ok_ext hq
    exact absCfg_of hC ((setCount_keep _ n s1).1.trans e.edns) ((setCount_keep _ n s1).2.1.trans e.tsig)
      (by cases sec <;> rfl) (by cases sec <;> rfl)
  | record _ ih => exact ih trivial habs
  | edns =>
    simp only [Driver.toSpecOp, Message.absOk] at habs
    split at habs
    · cases habs
    · simp only [Except.ok.injEq] at habs; subst habs
      exact ⟨rfl, hC.tsig, fun e he' => by
        simp only [Option.some.injEq] at he'; subst he'; exact ⟨hb, by show 0 < 256; omega⟩, hC.tb⟩
  | tsig =>
    simp only [Driver.toSpecOp, Message.absOk] at habs
    split at habs
    · cases habs
    · simp only [Except.ok.injEq] at habs; subst habs
      exact ⟨hC.edns, rfl, hC.eb, fun ts hts => by simp only [Option.some.injEq] at hts; subst hts; exact hb⟩
  | @time t ts hts =>
    have hat := hC.tsig
    rw [hts] at hat
    simp only [Driver.toSpecOp, Message.absOk, hat, Option.map_some, Except.ok.injEq] at habs; subst habs
    exact ⟨hC.edns, rfl, hC.eb, fun ts' hts' => by
      simp only [Option.some.injEq] at hts'; subst hts'; exact hC.tb ts hts⟩
  | template hop' e =>
    rw [absOk_template_eq hop' habs]
    rcases hop' with ⟨_, rfl⟩ | ⟨mac, ts0, al, k, _, h0, hmode, rfl⟩
    · exact absCfg_of hC e.edns e.tsig rfl rfl
    · refine ⟨by rw [e.edns]; exact hC.edns, ?_, by rw [e.edns]; exact hC.eb, fun ts hts => ?_⟩
      · show a.tsig = _
        rw [e.tsig, hC.tsig, h0]
        simp only [Option.map_some]
        rcases hmode with h | ⟨x, h⟩ | ⟨x, h⟩ <;> simp only [toATsig, h]
      · rw [e.tsig] at hts
        simp only [Option.some.injEq] at hts; subst hts
        exact hC.tb ts0 h0

/-- the EDNS / TSIG configuration the specification records is the writer's, call after call -/
theorem cfg_step (ss : Session) (op : Op) (a a' : Message.AState) (d : Message.Decoded) (hI : I ss.w)
    (hC : AbsCfg ss.w a) (hb : ApiBounds op) (hok : (step ss op).1 = .ok ())
    (habs : Message.absOk a d (Driver.toSpecOp op) = .ok a') : AbsCfg (step ss op).2.w a' :=
  (step_did ss op hI hok).cfg hC hb habs

end QV.Writer
