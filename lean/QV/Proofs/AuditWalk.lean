/-
  QV.Proofs.AuditWalk — the executable audit `Spec.ServerTsig.auditResponse`, walked clause by
  clause: given the decoded facts of a row of the TSIG decision table, the audit returns no tag
  (`auditResponse_nofit`; `auditResponse_fits` for any outcome).  `decision_view` says what the TSIG step
  decides in the audit's words (expected RCODE and TSIG error, signed or not), so that the reserved length
  (`reservedLen_of_decision`) and the premises of `auditResponse_fits` are read off it for all outcomes
  at once.
-/
import QV.Proofs.RequestFits
import QV.Proofs.ServerSignedTable

namespace QV.ServerScan
open QV QV.Spec.ServerTsig QV.Spec.Tsig QV.Writer

/-- the audit's "the reply fits" -/
def auditNeed (sc : Spec.Server.Scan) (rv : ReqView) : Nat :=
  12 + (match sc.question with | some q => q.qname.length + 4 | none => 0) + (if sc.edns then 11 else 0) +
    (canonName rv.keyName).length + 10 + (canonName rv.fields.algName).length + 16 +
    (match rv.outcome with
      | .authenticated => ((outputSizeOf rv.fields.algName).getD 0, 0)
      | .badTime => ((outputSizeOf rv.fields.algName).getD 0, 6)
      | _ => (0, 0)).1 +
    (match rv.outcome with
      | .authenticated => ((outputSizeOf rv.fields.algName).getD 0, 0)
      | .badTime => ((outputSizeOf rv.fields.algName).getD 0, 6)
      | _ => (0, 0)).2

def auditLimit (sc : Spec.Server.Scan) (udp : Bool) : Nat := if udp then sc.limitUdp else 65535

/-- **the "does not fit" clauses**: TC set, extended RCODE 0, no data, no TSIG record ⇒ no tag -/
theorem auditResponse_nofit (hm : Hm) (sc : Spec.Server.Scan) (rv : ReqView) (now : Nat) (udp : Bool) (reqId : Nat) (cmp : Bool)
    (b : Bytes) (plain : Resp) (d : Spec.DMsg) (hd : Spec.specDecodeMsg b = some d)
    (hfit : ¬ auditNeed sc rv ≤ auditLimit sc udp)
    (htc : d.tc = true) (hrc : d.rcode = 0) (hnd : Spec.Server.noData d = true)
    (hopt : ∀ o ∈ d.ar, o.ty = 41 → o.rawTtl / 16777216 = 0)
    (hts : d.ar.filter (fun r => r.ty = 250) = []) :
    (auditResponse hm sc rv now udp reqId cmp (.bytes b) plain).1 = [] := by
  unfold auditNeed auditLimit at hfit
  unfold auditResponse
  simp only [hd]
  rw [if_pos]
  · simp only [htc, Bool.not_true, Bool.false_eq_true, if_false, hrc, hnd, hts, ne_eq, not_true_eq_false,
      List.append_nil, List.nil_append]
    rw [if_neg]
    rw [Classical.not_not]
    split
    · rename_i o ho
      have hm : o ∈ d.ar.filter (fun r => decide (r.ty = 41)) := by rw [ho]; simp
      obtain ⟨h1, h2⟩ := List.mem_filter.mp hm
      rw [hopt o h1 (by simpa using h2)]
    · rfl
  · simp only [Bool.not_eq_true', decide_eq_false_iff_not]
    exact hfit

/-! ### the audit's `need` is the model's reserved length -/

/-- MAC and other-data lengths the audit expects for an outcome -/
def macOther (out : Nat) : Outcome → Nat × Nat
  | .authenticated => (out, 0)
  | .badTime => (out, 6)
  | _ => (0, 0)

theorem macOther_unsigned (out : Nat) {o : Outcome} (h1 : o ≠ .authenticated) (h2 : o ≠ .badTime) :
    macOther out o = (0, 0) := by
  cases o <;> simp_all [macOther]

theorem algName_wire (a : Tsig.Algorithm) : (algName (Server.toWriterAlg a)).wire = a.name := by
  cases a <;> decide +kernel

theorem algOutputSize_eq (a : Tsig.Algorithm) : algOutputSize (Server.toWriterAlg a) = a.outputSize := by
  cases a <;> rfl

theorem fromName_length (alg : WName) (a : Tsig.Algorithm)
    (h : Tsig.Algorithm.fromName (Tsig.lowerName alg.wire) = some a) : a.name.length = alg.wire.length := by
  have := ServerTsig.fromName_some _ _ h
  rw [ServerSafety.lowerName_idem] at this
  rw [← this]; simp [Tsig.lowerName]

/-- the algorithm name of the reply mode is the request's, in lower case -/
theorem stop_algName (alg : WName) (a : Tsig.Algorithm)
    (ha : Tsig.Algorithm.fromName (Tsig.lowerName alg.wire) = some a) :
    (algName (Server.toWriterAlg a)).wire = Tsig.lowerName alg.wire := by
  rw [algName_wire]
  have := ServerTsig.fromName_some _ _ ha
  rw [ServerSafety.lowerName_idem] at this
  exact this.symm

/-- the TSIG error the audit expects -/
def expErr : Outcome → Nat
  | .authenticated => 0 | .badKey => 17 | .formErr => 16 | .badSig => 16 | .badTime => 18

/-- the RCODE the audit expects of a rejected request -/
def expRc : Outcome → Nat
  | .formErr => 1 | _ => 9

theorem expErr_badTime (o : Outcome) : expErr o = 18 ↔ o = .badTime := by cases o <;> decide

theorem expErr_le (o : Outcome) : expErr o ≤ 18 := by cases o <;> decide

theorem expRc_le (o : Outcome) : expRc o ≤ 9 := by cases o <;> decide

open QV.ServerTsig in
/-- **the decision of the TSIG step in the audit's words**, on the record the audit's view stands for, `o`
    being the model's outcome: the step goes on iff `o` is `authenticated`; the prepared RR carries the
    error, and a stopping step sets the RCODE, that the audit expects of `o`; the reply's algorithm name is
    the request's in lower case; the reply is in response mode under the key found when `o` is
    `authenticated` or `badTime`, and unsigned otherwise -/
theorem decision_view {keys : List Server.Key} {nowT : Tsig.TimeSigned} (kn alg : WName) (rest mw : List UInt8)
    {kn' an : WName} {rc : Nat} {mode : TsigMode} {rr : TsigRr} {go : Bool} (haw : an.wire = Tsig.lowerName alg.wire)
    (h : tsigDecision Tsig.realHmac keys nowT (viewRr kn alg rest) mw kn' an = some (rc, mode, rr, go))
    {o : Outcome} (ho : modelOutcome keys nowT kn alg rest mw = o) :
    (go = true ↔ o = .authenticated) ∧ rr = prepOf kn' (viewRr kn alg rest) nowT (expErr o) ∧
    (go = false → rc = expRc o) ∧ (tsigAlgName mode).wire = Tsig.lowerName alg.wire ∧
    ((o = .authenticated ∨ o = .badTime) →
      ∃ a key, Tsig.Algorithm.fromName (Tsig.lowerName alg.wire) = some a ∧
        Server.findKey keys (Tsig.lowerName kn.wire) a = some key ∧
        mode = .response (Server.toWriterAlg a) (viewRr kn alg rest).mac key.secret) ∧
    (o ≠ .authenticated → o ≠ .badTime → ∃ n, mode = .unsigned n) := by
  rw [modelOutcome_of_decision kn alg rest mw h] at ho
  rcases tsigDecision_cases h with ⟨_, rfl, rfl, rfl, rfl⟩ |
    ⟨a, key, ha, hk, ⟨_, rfl, rfl, rfl, rfl⟩ | ⟨_, rfl, rfl, rfl, rfl⟩ | ⟨_, rfl, rfl, rfl, rfl⟩ | ⟨_, rfl, rfl, rfl, rfl⟩⟩
  · obtain rfl : Outcome.badKey = o := ho
    exact ⟨by decide, rfl, fun _ => rfl, haw, (fun h => by rcases h with h | h <;> cases h), fun _ _ => ⟨_, rfl⟩⟩
  · obtain rfl : Outcome.authenticated = o := ho
    exact ⟨by decide, rfl, (fun h => by cases h), stop_algName alg a ha, fun _ => ⟨a, key, ha, hk, rfl⟩,
      fun h => absurd rfl h⟩
  · obtain rfl : Outcome.formErr = o := ho
    exact ⟨by decide, rfl, fun _ => rfl, stop_algName alg a ha, (fun h => by rcases h with h | h <;> cases h),
      fun _ _ => ⟨_, rfl⟩⟩
  · obtain rfl : Outcome.badSig = o := ho
    exact ⟨by decide, rfl, fun _ => rfl, stop_algName alg a ha, (fun h => by rcases h with h | h <;> cases h),
      fun _ _ => ⟨_, rfl⟩⟩
  · obtain rfl : Outcome.badTime = o := ho
    exact ⟨by decide, rfl, fun _ => rfl, stop_algName alg a ha, fun _ => ⟨a, key, ha, hk, rfl⟩,
      fun _ h => absurd rfl h⟩

/-- the reserved length of the reply TSIG the step decides on, in the audit's terms -/
theorem reservedLen_of_decision {keys : List Server.Key} {nowT : Tsig.TimeSigned} (kn alg : WName) (halg : alg.WF)
    (rest mw : List UInt8) {kn' an : WName} {rc : Nat} {mode : TsigMode} {rr : TsigRr} {go : Bool}
    (hk : kn'.wire.length = kn.wire.length) (haw : an.wire = Tsig.lowerName alg.wire)
    (h : tsigDecision Tsig.realHmac keys nowT (viewRr kn alg rest) mw kn' an = some (rc, mode, rr, go)) :
    ServerTsig.reservedLen mode rr = kn.wire.length + 10 + alg.wire.length + 16 +
      (macOther ((outputSizeOf alg.labels).getD 0) (modelOutcome keys nowT kn alg rest mw)).1 +
      (macOther ((outputSizeOf alg.labels).getD 0) (modelOutcome keys nowT kn alg rest mw)).2 := by
  obtain ⟨_, rfl, _, hw, hs, hu⟩ := decision_view kn alg rest mw haw h rfl
  have hl : (tsigAlgName mode).wire.length = alg.wire.length := by rw [hw]; simp [Tsig.lowerName]
  have he := expErr_badTime (modelOutcome keys nowT kn alg rest mw)
  generalize modelOutcome keys nowT kn alg rest mw = o at *
  by_cases hsig : o = .authenticated ∨ o = .badTime
  · obtain ⟨a, key, ha, _, rfl⟩ := hs hsig
    have hl' : (algName (Server.toWriterAlg a)).wire.length = alg.wire.length := hl
    rw [reservedLen_response, algOutputSize_eq, outputSizeOf_view alg halg, ha]
    show kn'.wire.length + 10 + (algName (Server.toWriterAlg a)).wire.length + 16 + a.outputSize +
      (if expErr o = 18 then 6 else 0) = _
    rcases hsig with rfl | rfl <;> simp [macOther, expErr] <;> omega
  · have h1 : o ≠ .authenticated := fun e => hsig (Or.inl e)
    have h2 : o ≠ .badTime := fun e => hsig (Or.inr e)
    obtain ⟨n, rfl⟩ := hu h1 h2
    have hl' : n.wire.length = alg.wire.length := hl
    rw [reservedLen_unsigned _ _ (fun e => h2 (he.mp e)), macOther_unsigned _ h1 h2]
    show kn'.wire.length + 10 + n.wire.length + 16 + 0 + 0 = _
    omega

/-- the audit's `need`, for the view `C10_audit_outcome` gives, in the model's terms -/
theorem auditNeed_eq (scA scM : Spec.Server.Scan) (hq : scA.question = scM.question) (he : scA.edns = scM.edns)
    (kn alg : WName) (hkn : kn.WF) (halg : alg.WF) (rest pre : List UInt8) (key : Option KeyCfg) (o : Outcome) :
    auditNeed scA ⟨kn.labels, fieldsOf alg.labels rest, pre, o, key⟩ =
      12 + (qOctets scM.question).length + (if scM.edns then 11 else 0) +
        (kn.wire.length + 10 + alg.wire.length + 16 + (macOther ((outputSizeOf alg.labels).getD 0) o).1 +
          (macOther ((outputSizeOf alg.labels).getD 0) o).2) := by
  unfold auditNeed
  have e0 : (fieldsOf alg.labels rest).algName = alg.labels := rfl
  simp only [e0, hq, he, canonName_length kn hkn, canonName_length alg halg]
  have hql : (match scM.question with | some q => q.qname.length + 4 | none => 0) = (qOctets scM.question).length := by
    cases scM.question with
    | none => rfl
    | some q => simp [qOctets, u16be]
  rw [hql]
  cases o <;> simp only [macOther] <;> omega

theorem auditLimit_eq (scA scM : Spec.Server.Scan) (hl : scA.limitUdp = scM.limitUdp) (tr : Server.Transport) :
    auditLimit scA (decide (tr = .udp)) = (match tr with | .udp => scM.limitUdp | .tcp => 65535) := by
  unfold auditLimit
  cases tr <;> simp [hl]

/-! ### the branch "the reply fits" -/

/-- the extended RCODE of the audit is the header's when every OPT record has extended-RCODE octet 0 -/
theorem ext_zero (l : List Spec.DRr) (h : ∀ x ∈ l, x.rawTtl / 16777216 = 0) :
    (match l with | [o] => o.rawTtl / 16777216 | _ => 0) = 0 := by
  match l with
  | [] => rfl
  | [o] => exact h o (by simp)
  | _ :: _ :: _ => rfl

/-- the audit's clause "answered normally" (the response to the request without its TSIG RR being
    `plain`), as a proposition on the decoded response -/
def AnsweredNormally (d : Spec.DMsg) (udp cmp : Bool) (tl lim : Nat) (plain : Resp) : Prop :=
  ∀ pb pd, plain = .bytes pb → Spec.specDecodeMsg pb = some pd →
    (d.tc = true → udp = true ∧ Spec.Server.noData d = true) ∧
    (d.tc = false → pd.tc = false → cmp = true → pb.size + tl ≤ lim → (pd.rcode = 2 → d.rcode = 2) →
      d.rcode = pd.rcode ∧ d.aa = pd.aa ∧ sameMultiset (d.an.map rrKey) (pd.an.map rrKey) = true ∧
      sameMultiset (d.ns.map rrKey) (pd.ns.map rrKey) = true ∧
      subMultiset (plainRrs d.ar) (plainRrs pd.ar) = true)

/-- **the audit of a request whose reply fits**, for any outcome `o`: every clause of `auditResponse`, as
    hypotheses on the decoded response — the TSIG record `t` is the only one and the last, its fields are
    the request's and the ones the audit expects of `o`; a rejected request gets the expected RCODE and no
    data, an authenticated one is answered normally -/
theorem auditResponse_fits (hm : Hm) (sc : Spec.Server.Scan) (kn : List Octets) (f : RdataFields) (pre : Octets)
    (o : Outcome) (key : Option KeyCfg) (now : Nat) (udp : Bool) (reqId : Nat) (cmp : Bool) (b : Bytes) (plain : Resp)
    (d : Spec.DMsg) (t : Spec.DRr) (rf : RdataFields) (rkn : List Octets)
    (hd : Spec.specDecodeMsg b = some d) (hfit : auditNeed sc ⟨kn, f, pre, o, key⟩ ≤ auditLimit sc udp)
    (hts : d.ar.filter (fun r => r.ty = 250) = [t]) (hp : parseRdata t.rdata = some rf)
    (hl : labelsOf t.owner = some rkn)
    (hlast : d.ar.getLast?.map (·.ty) = some 250) (hcls : t.cls = 255) (httl : t.rawTtl = 0)
    (hkn : rkn.map (·.map lower) = kn.map (·.map lower))
    (halg : rf.algName.map (·.map lower) = f.algName.map (·.map lower))
    (hfudge : rf.fudge = 300) (hoid : rf.originalId = f.originalId) (hid : d.id = reqId)
    (herr : rf.error = expErr o) (hopt : ∀ x ∈ d.ar, x.ty = 41 → x.rawTtl / 16777216 = 0)
    (hrc : o ≠ .authenticated → d.rcode = expRc o) (hrcA : o = .authenticated → d.rcode ≠ 9)
    (hmac : o ≠ .authenticated → o ≠ .badTime → rf.mac = [])
    (hmacS : o = .authenticated ∨ o = .badTime → rf.mac.length = (outputSizeOf f.algName).getD 0 ∧
      ∃ k, key = some k ∧ rf.mac = hm k.sha256 k.secret
        (digestInput .response (b.extract 0 t.pos).toList rf.originalId
          { keyName := rkn, algName := rf.algName, timeSigned := rf.timeSigned, fudge := rf.fudge,
            error := rf.error, other := rf.other } f.mac))
    (hother : o ≠ .badTime → rf.other = [] ∧ rf.timeSigned = now)
    (hotherT : o = .badTime → rf.other = u48 now ∧ rf.timeSigned = f.timeSigned)
    (hdata : o ≠ .authenticated → Spec.Server.noData d = true ∧ d.tc = false ∧ d.aa = false)
    (hdataA : o = .authenticated → AnsweredNormally d udp cmp ((canonName kn).length + 10 +
      (canonName f.algName).length + 16 + (outputSizeOf f.algName).getD 0 + 0) (if udp then sc.limitUdp else 65535) plain) :
    (auditResponse hm sc ⟨kn, f, pre, o, key⟩ now udp reqId cmp (.bytes b) plain).1 = [] := by
  unfold auditNeed auditLimit at hfit
  have hx := ext_zero (d.ar.filter (fun r => r.ty = 41)) (fun x hx => by
    rw [List.mem_filter] at hx; exact hopt x hx.1 (of_decide_eq_true hx.2))
  unfold auditResponse
  simp only [hd]
  rw [if_neg]
  · simp only [hts, hp, hl]
    cases o with
    | badKey | formErr | badSig =>
      simp only [expErr, expRc] at herr
      have hrc := hrc (by decide)
      simp only [expRc] at hrc
      have hm0 := hmac (by decide) (by decide)
      obtain ⟨ho1, ho2⟩ := hother (by decide)
      obtain ⟨hnd, htc, haa⟩ := hdata (by decide)
      simp [hlast, hcls, httl, hkn, halg, hfudge, hoid, hid, herr, hrc, hm0, ho1, ho2, hnd, htc, haa]
      exact Nat.mul_eq_zero.mpr (Or.inr hx)
    | badTime =>
      simp only [expErr] at herr
      have hrc := hrc (by decide)
      simp only [expRc] at hrc
      obtain ⟨hm1, k, hk, hm2⟩ := hmacS (Or.inr rfl)
      obtain ⟨ho1, ho2⟩ := hotherT rfl
      obtain ⟨hnd, htc, haa⟩ := hdata (by decide)
      simp [hlast, hcls, httl, hkn, halg, hfudge, hoid, hid, herr, hrc, hk, ho1, ho2, hnd, htc, haa]
      refine ⟨Nat.mul_eq_zero.mpr (Or.inr hx), hm1, ?_⟩
      rw [hm2]
      simp [hoid, ho2, hfudge, herr, ho1]
    | authenticated =>
      simp only [expErr] at herr
      obtain ⟨hmacl, k, hk, hm2⟩ := hmacS (Or.inl rfl)
      obtain ⟨hother, htime⟩ := hother (by decide)
      have hext : d.rcode + 16 * (match d.ar.filter (fun r => r.ty = 41) with | [o] => o.rawTtl / 16777216 | _ => 0) ≠ 9 := by
        rw [hx]; have := hrcA rfl; omega
      have hdata := hdataA rfl
      simp [hlast, hcls, httl, hkn, halg, hfudge, hoid, hid, herr, hother, htime, hmacl, hk]
      refine ⟨hext, ?_, ?_⟩
      · rw [hm2]; simp [hoid, htime, hfudge, herr, hother]
      · cases plain with
        | none => rfl
        | panic => rfl
        | bytes pb =>
          simp only
          cases hpd : Spec.specDecodeMsg pb with
          | none => rfl
          | some pd =>
            obtain ⟨d1, d2⟩ := hdata pb pd rfl hpd
            simp only
            by_cases htc : d.tc = true
            · obtain ⟨e1, e2⟩ := d1 htc
              simp [htc, e1, e2]
            · have htc' : d.tc = false := Bool.eq_false_iff.mpr htc
              by_cases hptc : pd.tc = true
              · simp [htc', hptc]
              · have hptc' : pd.tc = false := Bool.eq_false_iff.mpr hptc
                cases cmp with
                | false => simp [htc', hptc']
                | true =>
                  simp [htc', hptc']
                  intro h1 h2
                  obtain ⟨f1, f2, f3, f4, f5⟩ := d2 htc' hptc' rfl (by omega) h2
                  exact ⟨⟨f1, f2⟩, f3, f4, f5⟩
  · simp only [Bool.not_eq_true', decide_eq_false_iff_not, Classical.not_not]; exact hfit

end QV.ServerScan
