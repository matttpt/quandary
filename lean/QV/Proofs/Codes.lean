/-
  QV.Proofs.Codes — lemmas for C17 (code ↔ text round trips).

  * the decimal print/parse round trip (`dec`, `digitsFrom`, `parseU16`) by induction, via the
    spec's inductive `IsDecimal`;
  * `eq_ignore_ascii_case` ↔ equality of lower-cased octets; the spec's `lower` = `lowerU8`;
  * generic theorems about a `FromStr` impl (`parseWith`) under four decidable conditions on its
    table (`NoWord`, `Distinct`, `AllUpper`, `RowsParse`), instantiated in `QV.Properties.C17` on the generated
    tables by `decide`; the mnemonic arms see the upper-cased text (`normaliseBy`).
-/
import QV.Proofs.Bytes
import QV.Model.Codes
import QV.Spec.Codes

namespace QV.Codes
open QV QV.Spec.Codes

theorem ofNat_digit_toNat (d : Nat) (h : d < 10) : (UInt8.ofNat (48 + d)).toNat = 48 + d := by
  simp [UInt8.toNat_ofNat']; omega

theorem upperU8_toNat (b : UInt8) :
    (upperU8 b).toNat = if 97 ≤ b.toNat ∧ b.toNat ≤ 122 then b.toNat - 32 else b.toNat := by
  unfold upperU8
  split
  · rw [UInt8.toNat_sub_of_le]; · rfl
    rw [UInt8.le_iff_toNat_le]; have : (32 : UInt8).toNat = 32 := rfl; omega
  · rfl

/-- the spec's lower-casing is `u8::to_ascii_lowercase` octet by octet -/
theorem lowerByte_eq (b : UInt8) :
    (if 65 ≤ b.toNat ∧ b.toNat ≤ 90 then UInt8.ofNat (b.toNat + 32) else b) = lowerU8 b := by
  apply UInt8.toNat_inj.mp
  rw [lowerU8_toNat]
  split
  · simp; omega
  · rfl

theorem lower_eq_map (t : List UInt8) : lower t = t.map lowerU8 := by
  unfold lower
  apply List.map_congr_left
  intro b _
  exact lowerByte_eq b

theorem isDigit_lower (b : UInt8) : isDigit (lowerU8 b) = isDigit b := by
  unfold isDigit
  rw [lowerU8_toNat]
  split
  · -- a capital letter and its lower-case form are both above the digits
    have h1 : ¬ b.toNat + 32 ≤ 57 := by omega
    have h2 : ¬ b.toNat ≤ 57 := by omega
    simp [h1, h2]
  · rfl

theorem lower_of_isDigit (b : UInt8) (h : isDigit b = true) : lowerU8 b = b := by
  unfold isDigit at h
  unfold lowerU8
  rw [if_neg]
  simp at h; omega

theorem eqIgnoreAsciiCase_iff (a b : Text) :
    eqIgnoreAsciiCase a b = true ↔ a.map lowerU8 = b.map lowerU8 := by
  unfold eqIgnoreAsciiCase
  induction a generalizing b with
  | nil => cases b <;> simp
  | cons x xs ih =>
    cases b with
    | nil => simp
    | cons y ys =>
      have := ih ys
      simp only [List.length_cons, List.zip_cons_cons, List.all_cons, List.map_cons, List.cons.injEq,
        Bool.and_eq_true, beq_iff_eq] at this ⊢
      constructor
      · intro ⟨h1, h2, h3⟩
        exact ⟨h2, this.mp ⟨by omega, h3⟩⟩
      · intro ⟨h1, h2⟩
        have := this.mpr h2
        exact ⟨by omega, h1, this.2⟩

theorem isDecimal_ne_nil {ds n} (h : IsDecimal ds n) : ds ≠ [] := by
  cases h <;> simp

theorem isDecimal_all_digits {ds n} (h : IsDecimal ds n) : ∀ c ∈ ds, isDigit c = true := by
  induction h with
  | digit d hd => intro c hc; simp at hc; subst hc; simp [isDigit]; omega
  | snoc d hd _ _ ih =>
    intro c hc
    simp at hc
    rcases hc with hc | hc
    · exact ih c hc
    · subst hc; simp [isDigit]; omega

theorem dec_isDecimal (n : Nat) : IsDecimal (dec n) n := by
  induction n using Nat.strongRecOn with
  | _ n ih =>
    rw [dec]
    split
    · exact IsDecimal.digit n (by assumption)
    · have h1 := ih (n / 10) (by omega)
      have := IsDecimal.snoc (n % 10) (by omega) (by omega) h1
      have e : n / 10 * 10 + n % 10 = n := by omega
      rw [e] at this
      exact this

/-- value of a string of ASCII digits read as a decimal numeral (no check that they are digits) -/
def decValue (ds : List UInt8) : Nat := ds.foldl (fun a b => a * 10 + (b.toNat - 48)) 0

theorem isDecimal_value {ds n} (h : IsDecimal ds n) : decValue ds = n := by
  unfold decValue
  induction h with
  | digit d hd => simp; omega
  | snoc d hd _ _ ih => rw [List.foldl_append, ih]; simp; omega

theorem isDecimal_unique {ds n m} (h : IsDecimal ds n) (h' : IsDecimal ds m) : n = m := by
  rw [← isDecimal_value h, ← isDecimal_value h']


/-! ### what `u16::from_str` accepts, exactly -/

theorem foldl_dec_ge (cs : List UInt8) (a : Nat) :
    a ≤ cs.foldl (fun a b => a * 10 + (b.toNat - 48)) a := by
  induction cs generalizing a with
  | nil => simp
  | cons c cs ih =>
    simp only [List.foldl_cons]
    have := ih (a * 10 + (c.toNat - 48))
    omega

/-- the checked digit loop: succeeds exactly on all-digit input whose value stays ≤ 65535 -/
theorem digitsFrom_iff (acc : Nat) (hacc : acc ≤ 65535) (ds : List UInt8) (v : Nat) :
    digitsFrom acc ds = some v ↔
      (∀ c ∈ ds, isDigit c = true) ∧ ds.foldl (fun a b => a * 10 + (b.toNat - 48)) acc = v ∧ v ≤ 65535 := by
  induction ds generalizing acc with
  | nil =>
    simp only [digitsFrom, Option.some.injEq, List.not_mem_nil, false_imp_iff, implies_true, List.foldl_nil, true_and]
    constructor
    · intro e; subst e; exact ⟨rfl, hacc⟩
    · intro ⟨e, _⟩; exact e
  | cons c cs ih =>
    simp only [digitsFrom, List.mem_cons, forall_eq_or_imp, List.foldl_cons]
    by_cases hc : isDigit c = true
    · simp only [hc, ↓reduceIte, true_and]
      by_cases hov : acc * 10 + (c.toNat - 48) > 65535
      · simp only [hov, ↓reduceIte, reduceCtorEq, false_iff, not_and]
        intro _ e
        have := foldl_dec_ge cs (acc * 10 + (c.toNat - 48))
        omega
      · simp only [hov, ↓reduceIte]
        exact ih _ (by omega)
    · simp [hc]

/-- **`u16::from_str`, as modelled**: an optional leading `+`, then at least one ASCII digit and
    nothing else, denoting a value ≤ 65535 (leading zeros allowed) -/
theorem parseU16_iff (s : Text) (v : Nat) :
    parseU16 s = some v ↔
      ∃ ds, (s = ds ∨ s = 43 :: ds) ∧ ds ≠ [] ∧ (∀ c ∈ ds, isDigit c = true) ∧ decValue ds = v ∧ v ≤ 65535 := by
  have h43 : isDigit 43 = false := by decide
  have h45 : isDigit 45 = false := by decide
  unfold decValue
  match s with
  | [] =>
    simp only [parseU16, reduceCtorEq, false_iff, not_exists, not_and]
    intro ds h hne
    rcases h with h | h
    · exact absurd h.symm hne
    · cases h
  | [c] =>
    simp only [parseU16]
    by_cases hc : c = 43 ∨ c = 45
    · simp only [hc, ↓reduceIte, reduceCtorEq, false_iff, not_exists, not_and]
      intro ds h hne hall
      rcases h with h | h
      · subst h
        have := hall c (by simp)
        rcases hc with rfl | rfl <;> simp_all
      · simp at h; exact absurd h.2 hne
    · simp only [hc, ↓reduceIte]
      rw [digitsFrom_iff 0 (by omega)]
      constructor
      · intro ⟨h1, h2, h3⟩; exact ⟨[c], .inl rfl, by simp, h1, h2, h3⟩
      · intro ⟨ds, h, hne, h1, h2, h3⟩
        rcases h with h | h
        · subst h; exact ⟨h1, h2, h3⟩
        · simp at h; exact absurd h.2 hne
  | c :: d :: rest =>
    simp only [parseU16]
    by_cases hc : c = 43
    · subst hc
      simp only [↓reduceIte]
      rw [digitsFrom_iff 0 (by omega)]
      constructor
      · intro ⟨h1, h2, h3⟩; exact ⟨d :: rest, .inr rfl, by simp, h1, h2, h3⟩
      · intro ⟨ds, h, hne, h1, h2, h3⟩
        rcases h with h | h
        · subst h
          have := h1 43 (by simp)
          rw [h43] at this; cases this
        · simp at h; subst h; exact ⟨h1, h2, h3⟩
    · simp only [hc, ↓reduceIte]
      rw [digitsFrom_iff 0 (by omega)]
      constructor
      · intro ⟨h1, h2, h3⟩; exact ⟨c :: d :: rest, .inl rfl, by simp, h1, h2, h3⟩
      · intro ⟨ds, h, hne, h1, h2, h3⟩
        rcases h with h | h
        · subst h; exact ⟨h1, h2, h3⟩
        · simp at h; exact absurd h.1 hc



theorem parseU16_head_ascii {s : Text} {v : Nat} (h : parseU16 s = some v) :
    ∀ c, s.head? = some c → c.toNat < 128 ∨ 192 ≤ c.toNat := by
  obtain ⟨ds, hs, hne, hall, _, _⟩ := (parseU16_iff s v).mp h
  intro c hc
  rcases hs with hs | hs
  · subst hs
    cases s with
    | nil => exact absurd rfl hne
    | cons d ds =>
      simp at hc; subst hc
      have := hall d (by simp)
      simp [isDigit] at this; omega
  · subst hs; simp at hc; subst hc; left; decide

theorem parseU16_isDecimal {ds : List UInt8} {n : Nat} (h : IsDecimal ds n) (hn : n < 65536) :
    parseU16 ds = some n :=
  (parseU16_iff ds n).mpr
    ⟨ds, .inl rfl, isDecimal_ne_nil h, isDecimal_all_digits h, isDecimal_value h, by omega⟩

/-! ### the mnemonic arms -/

theorem lookupParse_none_iff (tbl : List (Text × Nat)) (t : Text) :
    lookupParse tbl t = none ↔ ∀ r ∈ tbl, t ≠ r.1 := by
  induction tbl with
  | nil => simp [lookupParse]
  | cons r rest ih =>
    obtain ⟨m, v⟩ := r
    simp only [lookupParse, List.mem_cons, forall_eq_or_imp]
    split
    · simp_all
    · simp_all

theorem lookupParse_some_mem (tbl : List (Text × Nat)) (t : Text) (v : Nat)
    (h : lookupParse tbl t = some v) : (t, v) ∈ tbl := by
  induction tbl with
  | nil => simp [lookupParse] at h
  | cons r rest ih =>
    obtain ⟨m, x⟩ := r
    simp only [lookupParse] at h
    split at h
    · cases h; subst_vars; simp
    · exact List.mem_cons_of_mem _ (ih h)

/-- keys that are equal carry equal values -/
def Functional (tbl : List (Text × Nat)) : Prop := ∀ r ∈ tbl, ∀ r' ∈ tbl, r.1 = r'.1 → r.2 = r'.2

theorem lookupParse_mem (tbl : List (Text × Nat)) (hf : Functional tbl) (m : Text) (v : Nat)
    (h : (m, v) ∈ tbl) : lookupParse tbl m = some v := by
  cases hl : lookupParse tbl m with
  | none => exact absurd rfl ((lookupParse_none_iff tbl m).mp hl (m, v) h)
  | some x =>
    have := lookupParse_some_mem tbl m x hl
    have := hf (m, x) this (m, v) h rfl
    simp at this; subst this; rfl

theorem lookupParse_append (a b : List (Text × Nat)) (t : Text) :
    lookupParse (a ++ b) t = (lookupParse a t).orElse (fun _ => lookupParse b t) := by
  induction a with
  | nil => simp [lookupParse]
  | cons r rest ih =>
    obtain ⟨m, v⟩ := r
    simp only [List.cons_append, lookupParse]
    split
    · simp
    · exact ih

theorem lookupDisplay_some_mem (tbl : List (Nat × String)) (v : Nat) (s : String)
    (h : lookupDisplay tbl v = some s) : (v, s) ∈ tbl := by
  induction tbl with
  | nil => simp [lookupDisplay] at h
  | cons r rest ih =>
    obtain ⟨x, y⟩ := r
    simp only [lookupDisplay] at h
    split at h
    · cases h; subst_vars; simp
    · exact List.mem_cons_of_mem _ (ih h)

theorem lookupDisplay_append (a b : List (Nat × String)) (v : Nat) :
    lookupDisplay (a ++ b) v = (lookupDisplay a v).orElse (fun _ => lookupDisplay b v) := by
  induction a with
  | nil => simp [lookupDisplay]
  | cons r rest ih =>
    obtain ⟨x, y⟩ := r
    simp only [List.cons_append, lookupDisplay]
    split
    · simp
    · exact ih

/-! ### the RFC 3597 arm -/

theorem map_lower_length {a b : Text} (h : a.map lowerU8 = b.map lowerU8) : a.length = b.length := by
  have := congrArg List.length h
  simpa using this

/-- the arm is taken exactly when the first `n` octets are the word up to case … -/
theorem generic_prefix (word : Text) (n : Nat) (hw : word.length = n) (p s : Text)
    (hp : p.map lowerU8 = word.map lowerU8)
    (hs : ∀ c, s.head? = some c → c.toNat < 128 ∨ 192 ≤ c.toNat) :
    generic word n n (p ++ s) =
      match parseU16 s with
      | some v => .ok v
      | none => .err .BadValue := by
  have hpl : p.length = n := by rw [map_lower_length hp, hw]
  have hb : isCharBoundary (p ++ s) n = true := by
    unfold isCharBoundary
    split
    · rfl
    · split
      · rename_i h
        have : (p ++ s)[n] = s[0]'(by simp at h; omega) := by
          rw [List.getElem_append_right (by omega)]; simp [hpl]
        rw [this]
        cases s with
        | nil => simp at h; omega
        | cons c cs => simpa using hs c rfl
      · simp; simp at *; omega
  have ht : (p ++ s).take n = p := by rw [← hpl]; simp
  have hd : (p ++ s).drop n = s := by rw [← hpl]; simp
  have h0 : isCharBoundary (p ++ s) 0 = true := by simp [isCharBoundary]
  have he : eqIgnoreAsciiCase p word = true := (eqIgnoreAsciiCase_iff _ _).mpr hp
  simp only [generic, getPrefix, sliceFrom, h0, hb, ht, hd, he, Bool.and_self, ↓reduceIte, Option.any_some]
  cases parseU16 s <;> rfl

/-- … and is refused with "unknown" otherwise -/
theorem generic_unknown (word : Text) (n m : Nat) (t : Text)
    (h : (t.take n).map lowerU8 ≠ word.map lowerU8) : generic word n m t = .err .Unknown := by
  unfold generic getPrefix
  by_cases hb : (isCharBoundary t 0 && isCharBoundary t n) = true
  · have : eqIgnoreAsciiCase (t.take n) word = false := by
      cases he : eqIgnoreAsciiCase (t.take n) word with
      | false => rfl
      | true => exact absurd ((eqIgnoreAsciiCase_iff _ _).mp he) h
    simp [hb, this]
  · simp [hb]

/-- the slice `text[n..]` cannot panic after `text.get(0..n)` succeeded -/
theorem generic_no_panic (word : Text) (n : Nat) (t : Text) : generic word n n t ≠ .panic := by
  unfold generic
  split
  · rename_i hc
    have h2 : isCharBoundary t n = true := by
      unfold getPrefix at hc
      by_cases hb : (isCharBoundary t 0 && isCharBoundary t n) = true
      · simp at hb; exact hb.2
      · simp [hb] at hc
    simp only [sliceFrom, h2, ↓reduceIte]
    cases parseU16 (t.drop n) <;> simp
  · simp

/-- the RFC 3597 arm accepts exactly: the word in any case, then what `u16::from_str` accepts -/
theorem generic_ok_iff (word : Text) (n : Nat) (hw : word.length = n) (t : Text) (v : Nat) :
    generic word n n t = .ok v ↔
      ∃ p s, t = p ++ s ∧ p.map lowerU8 = word.map lowerU8 ∧ parseU16 s = some v := by
  constructor
  · intro h
    by_cases hp : (t.take n).map lowerU8 = word.map lowerU8
    · refine ⟨t.take n, t.drop n, (List.take_append_drop n t).symm, hp, ?_⟩
      unfold generic at h
      split at h
      · unfold sliceFrom at h
        by_cases hb : isCharBoundary t n = true
        · simp only [hb, ↓reduceIte] at h
          cases hu : parseU16 (t.drop n) with
          | none => simp [hu] at h
          | some x => simp [hu] at h; rw [h]
        · simp [hb] at h
      · simp at h
    · rw [generic_unknown word n n t hp] at h; cases h
  · intro ⟨p, s, ht, hp, hu⟩
    subst ht
    rw [generic_prefix word n hw p s hp (parseU16_head_ascii hu), hu]

/-! ### a whole `FromStr` impl -/

/-- no mnemonic begins (up to case) with the RFC 3597 word -/
def NoWord (tbl : List (Text × Nat)) (word : Text) : Prop :=
  ∀ r ∈ tbl, (r.1.take word.length).map lowerU8 ≠ word.map lowerU8

/-- mnemonics equal up to case are the same row -/
def Distinct (tbl : List (Text × Nat)) : Prop :=
  ∀ r ∈ tbl, ∀ r' ∈ tbl, r.1.map lowerU8 = r'.1.map lowerU8 → r = r'

theorem Distinct.functional {tbl} (h : Distinct tbl) : Functional tbl := by
  intro r hr r' hr' e
  rw [h r hr r' hr' (by rw [e])]

/-- the table's mnemonics are written in upper case (so that they can match an upper-cased text) -/
def AllUpper (tbl : List (Text × Nat)) : Prop := ∀ r ∈ tbl, r.1.map upperU8 = r.1

theorem lower_upper (b : UInt8) : lowerU8 (upperU8 b) = lowerU8 b := by
  apply UInt8.toNat_inj.mp
  rw [lowerU8_toNat, lowerU8_toNat, upperU8_toNat]
  repeat' split
  all_goals omega

theorem upper_lower (b : UInt8) : upperU8 (lowerU8 b) = upperU8 b := by
  apply UInt8.toNat_inj.mp
  rw [upperU8_toNat, upperU8_toNat, lowerU8_toNat]
  repeat' split
  all_goals omega

theorem map_lower_upper (t : Text) : (t.map upperU8).map lowerU8 = t.map lowerU8 := by
  simp [List.map_map, Function.comp_def, lower_upper]

/-- texts equal up to case have the same upper-casing -/
theorem map_upper_of_lower {a b : Text} (h : a.map lowerU8 = b.map lowerU8) :
    a.map upperU8 = b.map upperU8 := by
  have := congrArg (List.map upperU8) h
  simpa [List.map_map, Function.comp_def, upper_lower] using this

abbrev UP : String := "to_ascii_uppercase"

theorem normaliseBy_up (t : Text) : normaliseBy UP t = t.map upperU8 := by
  simp [normaliseBy, UP]

theorem parseWith_generic (tbl : List (Text × Nat)) (word : Text) (n : Nat) (hw : word.length = n)
    (hnw : NoWord tbl word) (p ds : Text) (v : Nat) (hp : p.map lowerU8 = word.map lowerU8)
    (hd : IsDecimal ds v) (hv : v < 65536) : parseWith tbl UP word n n (p ++ ds) = .ok v := by
  have hpl : p.length = word.length := map_lower_length hp
  have hl : lookupParse tbl (normaliseBy UP (p ++ ds)) = none := by
    rw [lookupParse_none_iff, normaliseBy_up]
    intro r hr e
    apply hnw r hr
    rw [← e, ← hpl, ← hp, ← map_lower_upper p]
    simp
  unfold parseWith
  rw [hl]
  exact (generic_ok_iff word n hw _ v).mpr ⟨p, ds, rfl, hp, parseU16_isDecimal hd hv⟩

/-- **mnemonics are case-insensitive**: any text equal up to ASCII case to a mnemonic of the table
    parses to that mnemonic's value -/
theorem parseWith_mnemonic (tbl : List (Text × Nat)) (word : Text) (n k : Nat) (hd : Distinct tbl)
    (hu : AllUpper tbl) (m : Text) (v : Nat) (h : (m, v) ∈ tbl) (s : Text)
    (hs : s.map lowerU8 = m.map lowerU8) : parseWith tbl UP word n k s = .ok v := by
  unfold parseWith
  have : normaliseBy UP s = m := by
    rw [normaliseBy_up, map_upper_of_lower hs]; exact hu (m, v) h
  rw [this, lookupParse_mem tbl hd.functional m v h]

theorem parseWith_no_panic (tbl : List (Text × Nat)) (how : String) (word : Text) (n : Nat) (t : Text) :
    parseWith tbl how word n n t ≠ .panic := by
  unfold parseWith
  cases lookupParse tbl (normaliseBy how t) with
  | some v => simp
  | none => exact generic_no_panic word n t

/-- display rows parse back: for every value's first `Display` arm, the (upper-cased) text is a
    mnemonic arm of `FromStr` with that value -/
def RowsParse (dtbl : List (Nat × String)) (tbl : List (Text × Nat)) : Prop :=
  ∀ d ∈ dtbl, lookupDisplay dtbl d.1 = some d.2 →
    lookupParse tbl ((bytesOf d.2).map upperU8) = some d.1

theorem parseWith_display (tbl : List (Text × Nat)) (word : Text) (n : Nat) (hw : word.length = n)
    (hnw : NoWord tbl word) (dtbl : List (Nat × String)) (pre : String)
    (hpre : (bytesOf pre).map lowerU8 = word.map lowerU8) (hrows : RowsParse dtbl tbl)
    (v : Nat) (hv : v < 65536) : parseWith tbl UP word n n (displayWith dtbl pre v) = .ok v := by
  unfold displayWith
  cases hl : lookupDisplay dtbl v with
  | some s =>
    have hm := lookupDisplay_some_mem dtbl v s hl
    have := hrows (v, s) hm hl
    simp only [parseWith, normaliseBy_up, this]
  | none =>
    exact parseWith_generic tbl word n hw hnw _ _ v hpre (dec_isDecimal v) hv

/-! ### what a whole `FromStr` impl accepts, exactly -/

/-- the mnemonic arms accept exactly the table's mnemonics in any case -/
theorem lookup_upper_iff (tbl : List (Text × Nat)) (hd : Distinct tbl) (hu : AllUpper tbl) (t : Text) (v : Nat) :
    lookupParse tbl (t.map upperU8) = some v ↔ ∃ m, (m, v) ∈ tbl ∧ t.map lowerU8 = m.map lowerU8 := by
  constructor
  · intro h
    exact ⟨_, lookupParse_some_mem tbl _ v h, (map_lower_upper t).symm⟩
  · intro ⟨m, hm, hl⟩
    rw [map_upper_of_lower hl, hu (m, v) hm]
    exact lookupParse_mem tbl hd.functional m v hm

/-- **acceptance of a whole `FromStr` impl** -/
theorem parseWith_ok_iff (tbl : List (Text × Nat)) (word : Text) (n : Nat) (hw : word.length = n)
    (hnw : NoWord tbl word) (hd : Distinct tbl) (hu : AllUpper tbl) (t : Text) (v : Nat) :
    parseWith tbl UP word n n t = .ok v ↔
      (∃ m, (m, v) ∈ tbl ∧ t.map lowerU8 = m.map lowerU8) ∨
      (∃ p s, t = p ++ s ∧ p.map lowerU8 = word.map lowerU8 ∧ parseU16 s = some v) := by
  unfold parseWith
  rw [normaliseBy_up]
  cases hl : lookupParse tbl (t.map upperU8) with
  | some x =>
    simp only [Out.ok.injEq]
    constructor
    · intro e; subst e; exact .inl ((lookup_upper_iff tbl hd hu t x).mp hl)
    · intro h
      rcases h with h | ⟨p, s, ht, hp, _⟩
      · have := (lookup_upper_iff tbl hd hu t v).mpr h
        rw [hl] at this; cases this; rfl
      · exfalso
        have hm := lookupParse_some_mem tbl _ x hl
        apply hnw _ hm
        subst ht
        have hpl : p.length = word.length := map_lower_length hp
        simp only
        rw [List.map_take, map_lower_upper, List.map_append, ← hpl]
        simpa using hp
  | none =>
    simp only
    rw [generic_ok_iff word n hw]
    constructor
    · intro h; exact .inr h
    · intro h
      rcases h with h | h
      · have := (lookup_upper_iff tbl hd hu t v).mpr h
        rw [hl] at this; cases this
      · exact h

/-! ### the oracle's `specDecimalValue` accepts exactly `IsDecimal` below 65536 (for `specParse_iff` of
    `QV.Properties.C17`) -/

theorem isDecimal_pos_head {ds : List UInt8} {n : Nat} (h : IsDecimal ds n) (hn : 0 < n) :
    ds.head? ≠ some 48 := by
  induction h with
  | digit d hd =>
    simp only [List.head?_cons, ne_eq, Option.some.injEq]
    intro e
    have := congrArg UInt8.toNat e
    rw [ofNat_digit_toNat d hd] at this
    have h48 : (48 : UInt8).toNat = 48 := rfl
    omega
  | snoc d hd hpos r ih =>
    rename_i ds' n'
    have := ih hpos
    cases ds' with
    | nil => exact absurd rfl (isDecimal_ne_nil r)
    | cons x xs => simpa using this

theorem isDecimal_no_leading_zero {ds : List UInt8} {n : Nat} (h : IsDecimal ds n) :
    ¬ (ds.length > 1 ∧ ds.head? = some 48) := by
  intro ⟨hl, hh⟩
  cases h with
  | digit d hd => simp at hl
  | snoc d hd hpos r =>
    rename_i ds' n'
    have := isDecimal_pos_head r hpos
    cases ds' with
    | nil => exact absurd rfl (isDecimal_ne_nil r)
    | cons x xs => simp at hh this; exact this hh

theorem specDecimalValue_of_isDecimal {ds : List UInt8} {n : Nat} (h : IsDecimal ds n) (hn : n < 65536) :
    specDecimalValue ds = some n := by
  unfold specDecimalValue
  have hne := isDecimal_ne_nil h
  have hall := isDecimal_all_digits h
  have hnz := isDecimal_no_leading_zero h
  have hv := isDecimal_value h
  have h1 : ds.isEmpty = false := by cases ds <;> simp at hne ⊢
  have h2 : ds.all (fun b => decide (48 ≤ b.toNat ∧ b.toNat ≤ 57)) = true := by
    rw [List.all_eq_true]
    intro c hc
    have := hall c hc
    simp [isDigit] at this
    simp [this]
  unfold decValue at hv
  simp only [h1, Bool.false_eq_true, ↓reduceIte, h2, Bool.not_true, hnz, hv, hn]

theorem decValue_pos {ds : List UInt8} (hall : ∀ c ∈ ds, isDigit c = true) (hne : ds ≠ [])
    (hh : ds.head? ≠ some 48) : 0 < decValue ds := by
  cases ds with
  | nil => exact absurd rfl hne
  | cons c cs =>
    unfold decValue
    simp only [List.foldl_cons, Nat.zero_mul, Nat.zero_add]
    have hc := hall c (by simp)
    simp [isDigit] at hc
    have : c.toNat ≠ 48 := by
      intro e
      apply hh
      simp only [List.head?_cons, Option.some.injEq]
      exact UInt8.toNat_inj.mp (by simpa using e)
    have := foldl_dec_ge cs (c.toNat - 48)
    omega

theorem isDecimal_of_digits (ds : List UInt8) (hall : ∀ c ∈ ds, isDigit c = true) (hne : ds ≠ [])
    (hnz : ¬ (ds.length > 1 ∧ ds.head? = some 48)) : IsDecimal ds (decValue ds) := by
  induction hlen : ds.length using Nat.strongRecOn generalizing ds with
  | _ k ih =>
    obtain ⟨xs, x, rfl⟩ : ∃ xs x, ds = xs ++ [x] :=
      ⟨ds.dropLast, ds.getLast hne, (List.dropLast_concat_getLast hne).symm⟩
    have hx := hall x (by simp)
    have hxd : x = UInt8.ofNat (48 + (x.toNat - 48)) := by
      simp [isDigit] at hx
      apply UInt8.toNat_inj.mp
      rw [ofNat_digit_toNat _ (by omega)]; omega
    have hval : decValue (xs ++ [x]) = decValue xs * 10 + (x.toNat - 48) := by
      simp [decValue, List.foldl_append]
    simp [isDigit] at hx
    by_cases hxs : xs = []
    · subst hxs
      rw [hval]
      simp only [decValue, List.foldl_nil, Nat.zero_mul, Nat.zero_add, List.nil_append]
      have := IsDecimal.digit (x.toNat - 48) (by omega)
      rw [← hxd] at this
      exact this
    · have hxl : xs.length ≥ 1 := by cases xs <;> simp at hxs ⊢
      have hhead : xs.head? ≠ some 48 := by
        intro e
        apply hnz
        refine ⟨by simp; omega, ?_⟩
        cases xs with
        | nil => exact absurd rfl hxs
        | cons y ys => simpa using e
      have hallx : ∀ c ∈ xs, isDigit c = true := fun c hc => hall c (by simp [hc])
      have ihx := ih xs.length (by subst hlen; simp) xs hallx hxs (fun ⟨_, h⟩ => hhead h) rfl
      have hpos := decValue_pos hallx hxs hhead
      rw [hval]
      have := IsDecimal.snoc (x.toNat - 48) (by omega) hpos ihx
      rw [← hxd] at this
      exact this

theorem isDecimal_of_specDecimalValue {ds : List UInt8} {v : Nat} (h : specDecimalValue ds = some v) :
    IsDecimal ds v ∧ v < 65536 := by
  unfold specDecimalValue at h
  by_cases h1 : ds.isEmpty = true
  · simp [h1] at h
  · simp only [h1, Bool.false_eq_true, ↓reduceIte] at h
    cases h2 : ds.all (fun b => decide (48 ≤ b.toNat ∧ b.toNat ≤ 57)) with
    | false => simp only [h2, Bool.not_false, ↓reduceIte] at h; cases h
    | true =>
      simp only [h2, Bool.not_true, Bool.false_eq_true, ↓reduceIte] at h
      by_cases h3 : ds.length > 1 ∧ ds.head? = some 48
      · simp [h3] at h
      · simp only [h3, ↓reduceIte] at h
        split at h
        · rename_i hv
          simp at h; subst h
          have hall : ∀ c ∈ ds, isDigit c = true := by
            intro c hc
            have := List.all_eq_true.mp h2 c hc
            simpa [isDigit] using this
          have hne : ds ≠ [] := by cases ds <;> simp at h1 ⊢
          exact ⟨isDecimal_of_digits ds hall hne h3, hv⟩
        · simp at h



theorem lower_length (t : List UInt8) : (lower t).length = t.length := by simp [lower]

theorem lower_take (t : List UInt8) (n : Nat) : lower (t.take n) = (lower t).take n := by
  simp [lower, List.map_take]

theorem lower_append (a b : List UInt8) : lower (a ++ b) = lower a ++ lower b := by simp [lower]

/-! ### Qtype / Qclass: own arms first, then the delegate's -/

theorem qtypeFromStr_eq (t : Text) :
    qtypeFromStr t = parseWith (qtypeTable ++ typeTable) UP typeWord Gen.typeParseGetEnd Gen.typeParseSliceFrom t := by
  have h1 : Gen.qtypeParseNormalise = UP := by decide
  have h2 : Gen.typeParseNormalise = UP := by decide
  unfold qtypeFromStr typeFromStr parseWith
  rw [lookupParse_append, h1, h2]
  cases lookupParse qtypeTable (normaliseBy UP t) <;> simp

theorem qclassFromStr_eq (t : Text) :
    qclassFromStr t = parseWith (qclassTable ++ classTable) UP classWord Gen.classParseGetEnd Gen.classParseSliceFrom t := by
  have h1 : Gen.qclassParseNormalise = UP := by decide
  have h2 : Gen.classParseNormalise = UP := by decide
  unfold qclassFromStr classFromStr parseWith
  rw [lookupParse_append, h1, h2]
  cases lookupParse qclassTable (normaliseBy UP t) <;> simp

theorem qtypeDisplay_eq (v : Nat) :
    qtypeDisplay v = displayWith (Gen.qtypeDisplay ++ Gen.typeDisplay) Gen.typeDisplayPrefix v := by
  unfold qtypeDisplay typeDisplay displayWith
  rw [lookupDisplay_append]
  cases lookupDisplay Gen.qtypeDisplay v <;> simp

theorem qclassDisplay_eq (v : Nat) :
    qclassDisplay v = displayWith (Gen.qclassDisplay ++ Gen.classDisplay) Gen.classDisplayPrefix v := by
  unfold qclassDisplay classDisplay displayWith
  rw [lookupDisplay_append]
  cases lookupDisplay Gen.qclassDisplay v <;> simp

end QV.Codes
