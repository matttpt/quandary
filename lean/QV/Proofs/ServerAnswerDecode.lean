/-
  QV.Proofs.ServerAnswerDecode — the final writer of a response that a loaded zone produces is
  `Good` (writer invariant + content layout, Proofs/ServerSignedDecode.lean), and its body is the
  question plus the records of the successful logged calls of the answering phase: the threading
  lemma of Proofs/ServerAnswerContent.lean put on the state the scan hands over.
-/
import QV.Proofs.ServerAnswerContent
import QV.Proofs.ServerAnswerEntry
import QV.Proofs.ServerAnswerTypes
import QV.Proofs.ServerDecoded
import QV.Proofs.ServerEcho

namespace QV.ServerContent
open QV QV.Writer QV.Server QV.ServerSafety QV.ServerScan QV.ServerAnswer QV.Spec.Resolve QV.Spec

/-! ### the body of the log and the view of the log -/

/-- a record of the content layout as a record of the resolution spec (owner case-folded) -/
def recRR (r : RRec) : RR := ⟨fold r.owner, r.ty, r.cls, r.ttl, r.rdata⟩

/-- the TTL as `Ttl::from` stores it -/
def clampTtl (x : RR) : RR := { x with ttl := Writer.ttlFrom x.ttl }

/-- the records of a body are those of a view -/
def BodyView (b : Body) (v : View) : Prop :=
  b.an.map recRR = v.answer.map clampTtl ∧ b.ns.map recRR = v.authority.map clampTtl ∧
  b.ar.map recRR = v.additional.map clampTtl

theorem evRecs_view (a : AddEv) : (evRecs a).map recRR = (evRecords a).map clampTtl := by
  simp only [evRecs, evRecords, List.map_map]
  rfl

theorem bodyView_step (b : Body) (v : View) (h : BodyView b v) (e : Ev) : BodyView (evBody b e) (v.step e) := by
  obtain ⟨h1, h2, h3⟩ := h
  cases e with
  | add a =>
    simp only [evBody, View.step]
    cases hr : a.res with
    | ok u =>
      cases u
      simp only
      have := evRecs_view a
      cases a.sec
      · exact ⟨by simp only [Body.add, View.addTo, List.map_append, h1, this], h2, h3⟩
      · exact ⟨h1, by simp only [Body.add, View.addTo, List.map_append, h2, this], h3⟩
      · exact ⟨h1, h2, by simp only [Body.add, View.addTo, List.map_append, h3, this]⟩
    | err x => exact ⟨h1, h2, h3⟩
    | panic => exact ⟨h1, h2, h3⟩
  | aa x => exact ⟨h1, h2, h3⟩
  | rcode x => exact ⟨h1, h2, h3⟩
  | tc x => exact ⟨h1, h2, h3⟩
  | clear => exact ⟨rfl, rfl, rfl⟩
  | bad => exact ⟨h1, h2, h3⟩

theorem bodyView_foldl (log : List Ev) : ∀ (b : Body) (v : View), BodyView b v →
    BodyView (log.foldl evBody b) (log.foldl View.step v) := by
  induction log with
  | nil => intro b v h; exact h
  | cons e rest ih => intro b v h; exact ih _ _ (bodyView_step b v h e)

/-- **the body the log denotes is the view the log denotes** (C05's abstraction), record for
    record: owner case-folded, TYPE, CLASS, RDATA as handed over, TTL as `Ttl::from` stores it -/
theorem bodyOf_view (b0 : Body) (hb : b0.an = [] ∧ b0.ns = [] ∧ b0.ar = []) (log : List Ev) :
    BodyView (bodyOf b0 log) (view log) :=
  bodyView_foldl log b0 {} ⟨by rw [hb.1]; rfl, by rw [hb.2.1]; rfl, by rw [hb.2.2]; rfl⟩

theorem evBody_qs (b : Body) (e : Ev) : (evBody b e).qs = b.qs := by
  cases e with
  | add a =>
    simp only [evBody]
    cases a.res with
    | ok u => simp only; cases a.sec <;> rfl
    | err x => rfl
    | panic => rfl
  | aa x => rfl
  | rcode x => rfl
  | tc x => rfl
  | clear => rfl
  | bad => rfl

/-- the answering phase never touches the questions -/
theorem bodyOf_qs (b0 : Body) (log : List Ev) : (bodyOf b0 log).qs = b0.qs := by
  unfold bodyOf
  induction log generalizing b0 with
  | nil => rfl
  | cons e rest ih => rw [List.foldl_cons, ih, evBody_qs]

/-- the types of the records of a section carry over from the view -/
theorem bodyView_types {b : Body} {v : View} (h : BodyView b v) (Q : Nat → Prop)
    (hv : ∀ r ∈ v.additional, Q r.rtype) : ∀ r ∈ b.ar, Q r.ty := by
  intro r hr
  have : recRR r ∈ b.ar.map recRR := List.mem_map.mpr ⟨r, hr, rfl⟩
  rw [h.2.2] at this
  obtain ⟨x, hx, hxe⟩ := List.mem_map.mp this
  have := hv x hx
  have e : x.rtype = r.ty := by
    have := congrArg RR.rtype hxe
    exact this
  rw [e] at this; exact this

/-! ### `handle_non_axfr_query` on a `Good` writer -/

theorem handleNonAxfrQuery_state (z : Zone.Zone) (qname : WName) (qtype : Nat) (tr : Transport) (w : State) :
    (handleNonAxfrQuery z qname qtype tr w).2 = (handleNonAxfrQueryL z qname qtype tr ⟨w, []⟩).2.w := by
  unfold handleNonAxfrQuery
  rcases handleNonAxfrQueryL z qname qtype tr ⟨w, []⟩ with ⟨(u | e | _), s'⟩ <;> rfl

/-- **the writer `handle_non_axfr_query` leaves is `Good`**, and it holds the questions it held
    plus the records of the logged `add_*` calls that succeeded -/
theorem good_handleNonAxfrQueryL (z : Zone.Zone) (hz : ZoneOK z) (qname : WName) (hq : qname.WF)
    (qtype : Nat) (tr : Transport) (hsub : z.apex <:+ fold qname) (w : State) (b0 : Body) (hG : Good w b0)
    (hh : HintOK Writer.Den w .qname qname) :
    Good (handleNonAxfrQueryL z qname qtype tr ⟨w, []⟩).2.w
      (bodyOf b0 (handleNonAxfrQueryL z qname qtype tr ⟨w, []⟩).2.log) := by
  obtain ⟨hI, hl, mb, hc⟩ := hG
  obtain ⟨v0, hv0⟩ := hdrView_exists w
  obtain ⟨h1, h2, h3, _⟩ := clay_handleNonAxfrQueryL z hz qname hq qtype tr hsub w hI hh hl mb hc v0 hv0
  exact ⟨h1, h2, h3⟩

/-- … and its header shows the AA, TC and RCODE of the view of the log, if AA, TC and RCODE were
    clear before -/
theorem hdr_handleNonAxfrQueryL (z : Zone.Zone) (hz : ZoneOK z) (qname : WName) (hq : qname.WF)
    (qtype : Nat) (tr : Transport) (hsub : z.apex <:+ fold qname) (w : State) (b0 : Body) (hG : Good w b0)
    (hh : HintOK Writer.Den w .qname qname) (h0 : HdrView w {}) :
    HdrView (handleNonAxfrQueryL z qname qtype tr ⟨w, []⟩).2.w
      (view (handleNonAxfrQueryL z qname qtype tr ⟨w, []⟩).2.log) := by
  obtain ⟨hI, hl, mb, hc⟩ := hG
  exact (clay_handleNonAxfrQueryL z hz qname hq qtype tr hsub w hI hh hl mb hc {} h0).2.2.2

/-- … in particular its own additional records are address records (C05's log-level fact
    `LogsT.inner`, carried to the layout) -/
theorem bodyOf_handle_ar_types (z : Zone.Zone) (qname : WName) (qtype : Nat) (tr : Transport) (w : State)
    (b0 : Body) (hb : b0.an = [] ∧ b0.ns = [] ∧ b0.ar = [])
    (hnp : (handleNonAxfrQueryL z qname qtype tr ⟨w, []⟩).1 ≠ .panic) :
    ∀ r ∈ (bodyOf b0 (handleNonAxfrQueryL z qname qtype tr ⟨w, []⟩).2.log).ar, r.ty = 1 ∨ r.ty = 28 :=
  bodyView_types (bodyOf_view b0 hb _) (fun t => t = 1 ∨ t = 28)
    (view_additional_types _ (handle_addrTy z qname qtype tr w (handle_log_np z qname qtype tr ⟨w, []⟩ hnp).1))

/-! ### `handle_query` on a `Good` writer -/

/-- the zone of a catalog entry: `CfgWF` makes it a well-formed zone whose apex is a suffix of the name looked up -/
theorem zone_of_lookup (cfg : Cfg) (hcfg : CfgWF cfg) (qn : WName) (qc : Nat) (e : Catalog.Entry Unit)
    (hl : Catalog.lookup (mkCatalog cfg.zones) qn.labels qc = some e) :
    ∃ ze, cfg.zones[e.zone]? = some ze ∧ ZoneOK ze.zone ∧ ze.zone.apex <:+ fold qn := by
  obtain ⟨ze, hze, _, _, hsuf⟩ := mkCatalog_lookup cfg.zones qn.labels qc e hl
  obtain ⟨hawf, haeq, hnode⟩ := hcfg.zones ze (List.mem_of_getElem? hze)
  exact ⟨ze, hze, ⟨by rw [haeq]; exact fold_wf _ hawf, hnode⟩, by rw [haeq]; exact hsuf⟩

/-- whatever branch `handle_query` takes (NOTIMP / REFUSED / SERVFAIL by `set_rcode`, or a loaded
    zone answering), the writer it leaves is `Good`; its questions are those it held, and its own
    additional records are address records -/
theorem good_handleQuery (cfg : Cfg) (hcfg : CfgWF cfg) (tr : Transport) (qn : WName) (qt qc : Nat)
    (S : State) (b0 : Body) (hG : Good S b0) (hb : b0.an = [] ∧ b0.ns = [] ∧ b0.ar = []) (hq : qn.WF)
    (hh : HintOK Writer.Den S .qname qn) (h3 : 3 < S.octets.size) :
    ∃ bd, Good (handleQuery cfg (some (qn, qt, qc)) tr S).2 bd ∧ bd.qs = b0.qs ∧
      ∀ r ∈ bd.ar, r.ty = 1 ∨ r.ty = 28 := by
  have hrc : ∀ rc, ∃ bd, Good (setRcode rc S).2 bd ∧ bd.qs = b0.qs ∧ ∀ r ∈ bd.ar, r.ty = 1 ∨ r.ty = 28 := by
    intro rc
    rw [setRcode_eq rc S h3]
    exact ⟨b0, good_stRcode rc S b0 hG h3, rfl, by rw [hb.2.2]; simp⟩
  unfold handleQuery
  simp only
  split
  · exact hrc _
  · split
    · exact hrc _
    · cases hl : Catalog.lookup (mkCatalog cfg.zones) qn.labels qc with
      | none => exact hrc _
      | some e =>
        simp only
        obtain ⟨ze, hze, hz, hsub⟩ := zone_of_lookup cfg hcfg qn qc e hl
        cases hk : e.kind with
        | Loaded =>
          simp only [hze]
          rw [handleNonAxfrQuery_state]
          have hnp := (handleNonAxfrQueryL_safe Writer.writerSafe ze.zone hz qn hq qt tr hsub ⟨S, []⟩ hG.1 hh).1
          exact ⟨_, good_handleNonAxfrQueryL ze.zone hz qn hq qt tr hsub S b0 hG hh, bodyOf_qs _ _,
            bodyOf_handle_ar_types ze.zone qn qt tr S b0 hb hnp⟩
        | NotYetLoaded => exact hrc _
        | FailedToLoad => exact hrc _

/-! ### the final writer of a response that a loaded zone produces -/

theorem endVerdict_answer (lookup : List UInt8 → Nat → Option Spec.Server.ZoneKind) (sz : Nat)
    (q : Option Spec.DQuestion) (pos op : Nat) (hv : endVerdict lookup sz q pos op = .answer) :
    ∃ qq, q = some qq ∧ ¬ (251 ≤ qq.qtype ∧ qq.qtype ≤ 254) ∧ qq.qclass ≠ 255 ∧
      lookup qq.qname qq.qclass = some .loaded := by
  unfold endVerdict at hv
  split at hv
  · cases hv
  · split at hv
    · cases hv
    · cases q with
      | none => cases hv
      | some qq =>
        simp only at hv
        split at hv
        · cases hv
        · split at hv
          · cases hv
          · rename_i h1 h2
            refine ⟨qq, rfl, h1, h2, ?_⟩
            split at hv
            · cases hv
            · rename_i h; exact h
            · rename_i x hx _
              cases x <;> simp_all

/-- after a clean scan the verdict is the table's (`specTail_eq`) -/
theorem specTail_answer (lookup : List UInt8 → Nat → Option Spec.Server.ZoneKind) (S : Nat) (msg : Bytes)
    (q : Option Spec.DQuestion) (p1 an ns ar op : Nat)
    (hv : (specTail lookup S msg q p1 an ns ar op).verdict = .answer) :
    ∃ qq, q = some qq ∧ ¬ (251 ≤ qq.qtype ∧ qq.qtype ≤ 254) ∧ qq.qclass ≠ 255 ∧
      lookup qq.qname qq.qclass = some .loaded := by
  rw [specTail_eq] at hv
  cases hp : Spec.Server.scanPlain msg (an + ns) p1 with
  | none => rw [hp] at hv; cases hv
  | some p2 =>
    rw [hp] at hv
    simp only at hv
    generalize Spec.Server.scanAr msg S ar ar p2 false 512 = res at hv
    obtain ⟨en, e, l⟩ := res
    cases en with
    | done p3 => exact endVerdict_answer lookup msg.size q p3 op hv
    | _ => cases hv

/-- `handle_query` when the catalog selects a loaded zone -/
theorem handleQuery_loaded (cfg : Cfg) (tr : Transport) (qn : WName) (qt qc : Nat) (S : State)
    (h1 : ¬ (251 ≤ qt ∧ qt ≤ 254)) (h2 : qc ≠ 255) (e : Catalog.Entry Unit)
    (hl : Catalog.lookup (mkCatalog cfg.zones) qn.labels qc = some e) (hk : e.kind = .Loaded)
    (ze : ZoneEntry) (hze : cfg.zones[e.zone]? = some ze) :
    handleQuery cfg (some (qn, qt, qc)) tr S = handleNonAxfrQuery ze.zone qn qt tr S := by
  unfold handleQuery
  simp only [QT_IXFR, QT_AXFR, QT_MAILB, QT_MAILA, QC_ANY_eq]
  have hm : (qt = 251 ∨ qt = 252 ∨ qt = 253 ∨ qt = 254) ↔ (251 ≤ qt ∧ qt ≤ 254) := by omega
  simp only [hm, h1, if_false, h2, hl, hk, hze]

theorem h2val_clear (opcode : Nat) (rd : Bool) : aaBit (h2val opcode rd) = false ∧ tcBit (h2val opcode rd) = false := by
  -- octet 2 is built from QR (bit 7), the opcode (bits 3..6) and RD (bit 0): bits 2 (AA) and 1 (TC) stay clear
  have op : ∀ b : UInt8, (opF opcode b).toNat.testBit 2 = b.toNat.testBit 2 ∧
      (opF opcode b).toNat.testBit 1 = b.toNat.testBit 1 := by
    intro b
    have n : (~~~(UInt8.ofNat Gen.OPCODE_MASK)).toNat = 135 := rfl
    have s : (UInt8.ofNat Gen.OPCODE_SHIFT).toNat % 8 = 3 := rfl
    have t : Nat.testBit 135 2 = true ∧ Nat.testBit 135 1 = true := by decide
    have low : ∀ y i, i < 3 → (y <<< 3 % 2 ^ 8).testBit i = false := by
      intro y i hi
      rw [Nat.testBit_mod_two_pow, Nat.testBit_shiftLeft, decide_eq_false (by omega : ¬ i ≥ 3)]
      simp
    simp only [opF, UInt8.toNat_or, UInt8.toNat_and, UInt8.toNat_shiftLeft, Nat.testBit_or, Nat.testBit_and, n, s]
    rw [low _ 2 (by decide), low _ 1 (by decide), t.1, t.2]
    simp
  have rdb : ∀ b : UInt8, (bitF Gen.RD_MASK rd b).toNat.testBit 2 = b.toNat.testBit 2 ∧
      (bitF Gen.RD_MASK rd b).toNat.testBit 1 = b.toNat.testBit 1 := by
    intro b
    have n : (~~~(UInt8.ofNat Gen.RD_MASK)).toNat = 254 := rfl
    have m : (UInt8.ofNat Gen.RD_MASK).toNat = 1 := rfl
    have t : Nat.testBit 254 2 = true ∧ Nat.testBit 254 1 = true ∧ Nat.testBit 1 2 = false ∧ Nat.testBit 1 1 = false := by
      decide
    cases rd <;> simp [bitF, UInt8.toNat_or, UInt8.toNat_and, Nat.testBit_or, Nat.testBit_and, n, m, t]
  have qr : (bitF Gen.QR_MASK true 0).toNat = 128 := rfl
  have t : Nat.testBit 128 2 = false ∧ Nat.testBit 128 1 = false := by decide
  rw [aaBit_eq, tcBit_eq]
  unfold h2val
  split
  · rw [(rdb _).1, (rdb _).2, (op _).1, (op _).2, qr]; exact t
  · rw [(op _).1, (op _).2, qr]; exact t

/-- the writer the scan hands over has AA, TC and RCODE clear -/
theorem hdrView_scan_state (bufLen : Nat) (tr : Transport) (payload id opcode : Nat) (rd : Bool)
    (hbuf : minBuf tr payload ≤ bufLen) (hpay : 512 ≤ payload) (msg : Bytes) (q : Option Spec.DQuestion)
    (hq : ∀ x, q = some x → ∃ nx, Spec.specQuestionAt msg 12 = some (x.qname, x.qtype, x.qclass, nx))
    (e : Bool) (l : Nat) :
    HdrView (arSt (qSt (hdrSt (w0 bufLen (lim0 tr)) id opcode rd) q) tr payload e l) {} := by
  obtain ⟨_, _, _, _, o2, h30, _⟩ := s1_facts bufLen tr payload id opcode rd hbuf hpay msg q hq
  obtain ⟨f1, _⟩ := arSt_fields (qSt (hdrSt (w0 bufLen (lim0 tr)) id opcode rd) q) tr payload e l
  obtain ⟨c1, c2⟩ := h2val_clear opcode rd
  unfold HdrView
  rw [f1, h30, Array.getD_eq_getD_getElem?, o2]
  exact ⟨c1, c2, rfl⟩


/-- **when a loaded zone answers** (verdict `answer`, no TSIG), explicitly: the request carries one
    question `q` whose QNAME parses to `qn`, QTYPE is no transfer type, QCLASS is not ANY, the catalog
    has a loaded zone for it, and `handle_message_with_context` is `handle_query` run on the state the
    scan leaves — `Writer::new`, the header setters, `add_question`, then `set_edns` / `set_limit` as
    the scan's `edns` / `limitUdp` say -/
theorem hwc_answer_state (cfg : Cfg) (tr : Transport) (now bufLen : Nat) (req : Bytes)
    (hbuf : minBuf tr cfg.payload ≤ bufLen) (hpay : 512 ≤ cfg.payload)
    (h12 : 12 ≤ req.size) (hreq : req.size ≤ Rdata.USIZE_MAX) (id opcode : Nat) (rd : Bool)
    (hv : (specBody (catKind cfg) cfg.payload req).verdict = .answer) :
    ∃ (q : Spec.DQuestion) (qn : WName) (nx : Nat),
      (specBody (catKind cfg) cfg.payload req).question = some q ∧
      Spec.specQuestionAt req 12 = some (q.qname, q.qtype, q.qclass, nx) ∧
      WName.parse q.qname = some (qn, []) ∧ qn.wire = q.qname ∧ q.qname.length ≤ 255 ∧
      ¬ (251 ≤ q.qtype ∧ q.qtype ≤ 254) ∧ q.qclass ≠ 255 ∧ catKind cfg q.qname q.qclass = some .loaded ∧
      handleWithContext cfg tr now ⟨req, 12, none⟩ (hdrSt (w0 bufLen (lim0 tr)) id opcode rd) =
        (handleQuery cfg (some (qn, q.qtype, q.qclass)) tr >>= fun _ => pure true)
          (arSt (qSt (hdrSt (w0 bufLen (lim0 tr)) id opcode rd) (some q)) tr cfg.payload
            (specBody (catKind cfg) cfg.payload req).edns (specBody (catKind cfg) cfg.payload req).limitUdp) := by
  rcases hwc_head cfg tr now req h12 _ (hdrSt_ok bufLen tr cfg.payload id opcode rd hbuf hpay) with
    ⟨_, hsc, _⟩ | ⟨hsc, _⟩ | ⟨q, question, p1, hq, hp1, hsq, _, hsc, hb, _, _, h⟩
  · rw [hsc] at hv; cases hv
  · rw [hsc] at hv; cases hv
  · rw [hsc] at hv ⊢
    obtain ⟨qq, rfl, c1, c2, c3⟩ := specTail_answer _ _ _ _ _ _ _ _ _ hv
    obtain ⟨_, _, _, hqq⟩ := specTail_props (catKind cfg) cfg.payload req (some qq) p1
      (Spec.Server.hdr req 6) (Spec.Server.hdr req 8) (Spec.Server.hdr req 10) ((req.getD 2 0).toNat / 8 % 16)
    have hsq' := hsq qq rfl
    obtain ⟨p, hp, hpw, _, _, hwl⟩ := specQuestionAt_some req 12 _ _ _ p1 hsq'
    obtain ⟨qn, hqn, hqw⟩ := wname_of_parse req 12 p hp
    rw [hpw] at hqn hqw
    cases question with
    | none => exact absurd hq (by simp [QRel])
    | some x =>
      obtain ⟨qn', qt, qc⟩ := x
      obtain ⟨hqn', rfl, rfl⟩ := hq
      obtain rfl : qn = qn' := by rw [hqn] at hqn'; cases hqn'; rfl
      refine ⟨qq, qn, p1, hqq, hsq', hqn, hqw, hwl, c1, c2, c3, ?_⟩
      rw [h, scanAndDispatch_answer cfg tr now req (some qq) _ ⟨req, p1, none⟩ ⟨h12, hp1⟩ rfl _ hb hreq _ _ _ _ hv]

/-- the state `handle_query` is entered in, for a request with question `q` -/
abbrev scanState (cfg : Cfg) (tr : Transport) (bufLen : Nat) (req : Bytes) (id opcode : Nat) (rd : Bool)
    (q : Spec.DQuestion) : State :=
  arSt (qSt (hdrSt (w0 bufLen (lim0 tr)) id opcode rd) (some q)) tr cfg.payload
    (specBody (catKind cfg) cfg.payload req).edns (specBody (catKind cfg) cfg.payload req).limitUdp

/-- that state is `Good` with the question as its body, `QueryReady`, with AA / TC / RCODE clear -/
theorem scanState_facts (cfg : Cfg) (tr : Transport) (bufLen : Nat) (req : Bytes)
    (hbuf : minBuf tr cfg.payload ≤ bufLen) (hpay : 512 ≤ cfg.payload) (hp16 : cfg.payload ≤ 65535)
    (id opcode : Nat) (rd : Bool) (q : Spec.DQuestion) (qn : WName) (nx : Nat)
    (hsq : Spec.specQuestionAt req 12 = some (q.qname, q.qtype, q.qclass, nx))
    (hqn : WName.parse q.qname = some (qn, [])) (hqw : qn.wire = q.qname) (hwl : q.qname.length ≤ 255) :
    Good (scanState cfg tr bufLen req id opcode rd q) (qBody (some q)) ∧
    QueryReady (scanState cfg tr bufLen req id opcode rd q) qn ∧
    HdrView (scanState cfg tr bufLen req id opcode rd q) {} ∧
    3 < (scanState cfg tr bufLen req id opcode rd q).octets.size := by
  obtain ⟨_, hl1, hl2⟩ := specBody_props (catKind cfg) cfg.payload req
  have hq : ∀ x, (some q) = some x → ∃ nx, Spec.specQuestionAt req 12 = some (x.qname, x.qtype, x.qclass, nx) := by
    intro x hx; cases hx; exact ⟨nx, hsq⟩
  have hH := hdrSt_ok bufLen tr cfg.payload id opcode rd hbuf hpay
  obtain ⟨_, hbase, _⟩ := qSt_some _ tr cfg.payload hH q qn hqn hqw hwl
  have g1 := good_s1 bufLen tr cfg.payload id opcode rd hbuf hpay req (some q) hq
  refine ⟨good_arSt _ tr cfg.payload _ _ _ g1 hbase hl1 hl2 hp16,
    queryReady_scan_state bufLen tr cfg.payload id opcode rd hbuf hpay hp16 q qn hqn hqw hwl (parse_wf hqn) _ _ hl1 hl2,
    hdrView_scan_state bufLen tr cfg.payload id opcode rd hbuf hpay req (some q) hq _ _, ?_⟩
  show 3 < (arSt _ tr cfg.payload _ _).octets.size
  rw [arSt_size]; exact hbase.size3

/-- **when a loaded zone answers** (verdict `answer`, no TSIG): the writer `handle_message` hands to
    `finish` is `Good` — the writer's invariant, a limit of at most 65 535 octets, and the content
    layout of: the question, then the records of the successful `add_*` calls of the answering
    phase; its own additional records are address records. -/
theorem answer_final_good (cfg : Cfg) (hcfg : CfgWF cfg) (tr : Transport) (now bufLen : Nat) (req : Bytes)
    (hbuf : minBuf tr cfg.payload ≤ bufLen) (hpay : 512 ≤ cfg.payload) (hp16 : cfg.payload ≤ 65535)
    (h12 : 12 ≤ req.size) (hreq : req.size ≤ Rdata.USIZE_MAX) (id opcode : Nat) (rd : Bool)
    (hv : (specBody (catKind cfg) cfg.payload req).verdict = .answer) :
    ∃ bd, Good (handleWithContext cfg tr now ⟨req, 12, none⟩ (hdrSt (w0 bufLen (lim0 tr)) id opcode rd)).2 bd ∧
      bd.qs = (qBody (specBody (catKind cfg) cfg.payload req).question).qs ∧
      ∀ r ∈ bd.ar, r.ty = 1 ∨ r.ty = 28 := by
  obtain ⟨q, qn, nx, hq0, hsq, hqn, hqw, hwl, _, _, _, heq⟩ :=
    hwc_answer_state cfg tr now bufLen req hbuf hpay h12 hreq id opcode rd hv
  obtain ⟨g2, hqr, _, h3⟩ := scanState_facts cfg tr bufLen req hbuf hpay hp16 id opcode rd q qn nx hsq hqn hqw hwl
  obtain ⟨bd, hgd, hqs, hty⟩ := good_handleQuery cfg hcfg tr qn q.qtype q.qclass _ _ g2 (qBody_norecs _)
    (parse_wf hqn) hqr.hint h3
  rw [heq, hq0]
  refine ⟨bd, ?_, hqs, hty⟩
  rw [M.bind_apply]
  generalize Server.handleQuery cfg (some (qn, q.qtype, q.qclass)) tr
    (arSt (qSt (hdrSt (w0 bufLen (lim0 tr)) id opcode rd) (some q)) tr cfg.payload
      (specBody (catKind cfg) cfg.payload req).edns (specBody (catKind cfg) cfg.payload req).limitUdp) = res at hgd
  obtain ⟨o, s'⟩ := res
  cases o <;> exact hgd

/-! ### from the final writer to the decoded response -/

/-- a decoded record is a record of the resolution: owner equal up to ASCII case, TYPE, CLASS, TTL
    (as `Ttl::from` stores it) as 16/16/32-bit values, RDATA octet for octet if its type holds no
    compressible name -/
def RRMatch (x : RR) (dr : DRr) : Prop :=
  ∃ o : WName, fold o = x.owner ∧ dr.owner.map lowerU8 = o.wire.map lowerU8 ∧
    dr.ty = x.rtype % 65536 ∧ dr.cls = x.cls % 65536 ∧ dr.rawTtl = Writer.ttlFrom x.ttl % 4294967296 ∧
    (x.rtype < 65536 → ∀ ts, componentTypes x.cls x.rtype = some ts → CompType.compressibleName ∉ ts →
      dr.rdata = x.rdata ∧ dr.rdOk = true)

theorem all2_rrmatch : ∀ (its : List RItC) (xs : List RR) (ds : List DRr),
    its.map (fun it => recRR it.r) = xs.map clampTtl → All2 RMatch its ds → All2 RRMatch xs ds := by
  intro its
  induction its with
  | nil =>
    intro xs ds hm h
    cases h
    cases xs with
    | nil => exact .nil
    | cons x r => simp at hm
  | cons it rest ih =>
    intro xs ds hm h
    cases h with
    | cons hr t =>
      cases xs with
      | nil => simp at hm
      | cons x xr =>
        simp only [List.map_cons, List.cons.injEq] at hm
        obtain ⟨he, hrest⟩ := hm
        refine .cons ?_ (ih xr _ hrest t)
        obtain ⟨r1, _, r3, r4, r5, _, r7⟩ := hr
        have e1 : fold it.r.owner = x.owner := congrArg RR.owner he
        have e2 : it.r.ty = x.rtype := congrArg RR.rtype he
        have e3 : it.r.cls = x.cls := congrArg RR.cls he
        have e4 : it.r.ttl = Writer.ttlFrom x.ttl := congrArg RR.ttl he
        have e5 : it.r.rdata = x.rdata := congrArg RR.rdata he
        exact ⟨it.r.owner, e1, r1, by rw [r3, e2], by rw [r4, e3], by rw [r5, e4], by
          rw [← e2, ← e3, ← e5]; exact r7⟩

/-! ### authenticated (TSIG) answers, decoded -/

/-- records of a view, as decoded -/
theorem RecsDec.view {rs : List RRec} {ds : List DRr} (h : RecsDec rs ds) (xs : List RR)
    (hv : rs.map recRR = xs.map clampTtl) : All2 RRMatch xs ds := by
  obtain ⟨its, e, a⟩ := h
  exact all2_rrmatch its _ _ (by rw [← hv, ← e, List.map_map]; rfl) a

/-- **from a `Good` final writer to the decoded response**, whatever is pending: if the body of the
    writer is — record for record — a view `v`, and the header octets show `v`'s RCODE / AA / TC, then every
    decoding of what `finish` returns has RCODE `v.rcode` (4 bits), AA and TC as in `v`, answer and
    authority sections matching `v`'s one for one in order, and an additional section that is `v`'s
    followed by the OPT record (iff the EDNS slot is set) and the TSIG record (iff a TSIG is pending) -/
theorem decoded_of_good_view_both (F : State) (bd : Body) (v : View) (hG : Good F bd) (hbv : BodyView bd v)
    (hhv : HdrView F v) (b : Bytes) (mac : Option (List UInt8))
    (hf : Writer.finish F Server.macFn = .ok (b, mac)) (d : DMsg) (hd : specDecodeMsg b = some d) :
    d.rcode = v.rcode % 16 ∧ d.aa = v.aa ∧ d.tc = v.tc ∧
    All2 RRMatch v.answer d.an ∧ All2 RRMatch v.authority d.ns ∧
    ∃ ar' rest, d.ar = ar' ++ rest ∧ All2 RRMatch v.additional ar' ∧
      rest.length = (if F.edns.isSome then 1 else 0) + (if F.tsig.isSome then 1 else 0) ∧
      ∀ o ∈ rest, (o.ty = 41 ∧ F.edns.isSome = true) ∨ (o.ty = 250 ∧ F.tsig.isSome = true) := by
  have D := decoded_of_good' Server.macFn F bd hG b mac hf d hd
  obtain ⟨g1, g2, g3⟩ := D.hdr v hhv
  obtain ⟨v1, v2, v3⟩ := hbv
  obtain ⟨dar, dopt, dts, e, har, hopt, htsd⟩ := D.ar
  refine ⟨g1, g2, g3, D.an.view _ v1, D.ns.view _ v2, dar, dopt ++ dts, by rw [e, List.append_assoc], har.view _ v3,
    by rw [List.length_append, hopt.length, htsd.length], fun o ho => ?_⟩
  rcases List.mem_append.mp ho with h | h
  · obtain ⟨hty, e', he, _⟩ := hopt.mem o h
    exact Or.inl ⟨hty, by rw [he]; rfl⟩
  · exact Or.inr (htsd.ty o h)

/-- … without a TSIG pending: the additional section is `v`'s followed by the OPT record iff the EDNS slot is set -/
theorem decoded_of_good_view (F : State) (bd : Body) (v : View) (hG : Good F bd) (hbv : BodyView bd v)
    (hts : F.tsig = none) (hhv : HdrView F v) (b : Bytes) (mac : Option (List UInt8))
    (hf : Writer.finish F Server.macFn = .ok (b, mac)) (d : DMsg) (hd : specDecodeMsg b = some d) :
    d.rcode = v.rcode % 16 ∧ d.aa = v.aa ∧ d.tc = v.tc ∧
    All2 RRMatch v.answer d.an ∧ All2 RRMatch v.authority d.ns ∧
    ∃ ar' opt, d.ar = ar' ++ opt ∧ All2 RRMatch v.additional ar' ∧
      opt.length = (if F.edns.isSome then 1 else 0) ∧ ∀ o ∈ opt, o.ty = 41 := by
  obtain ⟨r1, r2, r3, r4, r5, ar', rest, r6, r7, r8, r9⟩ := decoded_of_good_view_both F bd v hG hbv hhv b mac hf d hd
  rw [hts] at r8 r9
  refine ⟨r1, r2, r3, r4, r5, ar', rest, r6, r7, r8, fun o ho => ?_⟩
  rcases r9 o ho with h | h
  · exact h.1
  · exact absurd h.2 (by simp)

/-- the same, whatever is pending, without saying which of the trailing records is which -/
theorem decoded_of_good_view' (F : State) (bd : Body) (v : View) (hG : Good F bd) (hbv : BodyView bd v)
    (hhv : HdrView F v) (b : Bytes) (mac : Option (List UInt8))
    (hf : Writer.finish F Server.macFn = .ok (b, mac)) (d : DMsg) (hd : specDecodeMsg b = some d) :
    d.rcode = v.rcode % 16 ∧ d.aa = v.aa ∧ d.tc = v.tc ∧
    All2 RRMatch v.answer d.an ∧ All2 RRMatch v.authority d.ns ∧
    ∃ ar' rest, d.ar = ar' ++ rest ∧ All2 RRMatch v.additional ar' ∧
      rest.length = (if F.edns.isSome then 1 else 0) + (if F.tsig.isSome then 1 else 0) ∧
      ∀ o ∈ rest, o.ty = 41 ∨ o.ty = 250 := by
  obtain ⟨r1, r2, r3, r4, r5, ar', rest, r6, r7, r8, r9⟩ := decoded_of_good_view_both F bd v hG hbv hhv b mac hf d hd
  exact ⟨r1, r2, r3, r4, r5, ar', rest, r6, r7, r8, fun o ho => (r9 o ho).imp And.left And.left⟩

/-- a question the catalog answers from a loaded zone: the catalog entry and its zone -/
theorem loaded_zone_of_catKind (cfg : Cfg) (hcfg : CfgWF cfg) (q : Spec.DQuestion) (qn : WName)
    (hqn : WName.parse q.qname = some (qn, [])) (c3 : catKind cfg q.qname q.qclass = some .loaded) :
    ∃ e ze, Catalog.lookup (mkCatalog cfg.zones) qn.labels q.qclass = some e ∧ e.kind = .Loaded ∧
      cfg.zones[e.zone]? = some ze ∧ ZoneOK ze.zone ∧ ze.zone.apex <:+ fold qn := by
  unfold catKind at c3
  rw [hqn] at c3
  simp only at c3
  cases hl : Catalog.lookup (mkCatalog cfg.zones) qn.labels q.qclass with
  | none => rw [hl] at c3; cases c3
  | some e =>
    rw [hl] at c3
    simp only [Option.map_some, Option.some.injEq] at c3
    have hk : e.kind = .Loaded := by
      cases hk : e.kind <;> rw [hk] at c3 <;> first | rfl | cases c3
    obtain ⟨ze, hze, hz, hsub⟩ := zone_of_lookup cfg hcfg qn q.qclass e hl
    exact ⟨e, ze, rfl, hk, hze, hz, hsub⟩

/-- **the answering writer, exposed**: `handle_query` for a question a loaded zone answers, run on a
    `Good` state that is ready for the answering phase, leaves the writer of
    `handle_non_axfr_query`'s logged run — `Good` with the body of the log, header showing the view of
    the log, own additional records address records -/
theorem answer_exposed (cfg : Cfg) (tr : Transport) (qn : WName) (hqnwf : qn.WF)
    (q : Spec.DQuestion) (c1 : ¬ (251 ≤ q.qtype ∧ q.qtype ≤ 254)) (c2 : q.qclass ≠ 255)
    (e : Catalog.Entry Unit) (hl : Catalog.lookup (mkCatalog cfg.zones) qn.labels q.qclass = some e)
    (hk : e.kind = .Loaded) (ze : ZoneEntry) (hze : cfg.zones[e.zone]? = some ze)
    (hz : ZoneOK ze.zone) (hsub : ze.zone.apex <:+ fold qn)
    (S : State) (gS : Good S (qBody (some q))) (hqrS : QueryReady S qn) (hvS : HdrView S {}) :
    ∀ H, H = handleNonAxfrQueryL ze.zone qn q.qtype tr ⟨S, []⟩ →
      H.1 ≠ .panic ∧ Good H.2.w (bodyOf (qBody (some q)) H.2.log) ∧ HdrView H.2.w (view H.2.log) ∧
      BodyView (bodyOf (qBody (some q)) H.2.log) (view H.2.log) ∧
      (∀ r ∈ (bodyOf (qBody (some q)) H.2.log).ar, r.ty = 1 ∨ r.ty = 28) ∧
      ((handleQuery cfg (some (qn, q.qtype, q.qclass)) tr >>= fun _ => (pure true : M Bool)) S).2 = H.2.w ∧
      (EdnsUp0 S → EdnsUp0 H.2.w) := by
  intro H hH
  subst hH
  have hHQ := handleQuery_loaded cfg tr qn q.qtype q.qclass S c1 c2 e hl hk ze hze
  have hnp := (handleNonAxfrQueryL_safe Writer.writerSafe ze.zone hz qn hqnwf q.qtype tr hsub ⟨S, []⟩
    gS.1 hqrS.hint).1
  have hG := good_handleNonAxfrQueryL ze.zone hz qn hqnwf q.qtype tr hsub _ _ gS hqrS.hint
  have hH := hdr_handleNonAxfrQueryL ze.zone hz qn hqnwf q.qtype tr hsub _ _ gS hqrS.hint hvS
  have hty := bodyOf_handle_ar_types ze.zone qn q.qtype tr S (qBody (some q)) (qBody_norecs _) hnp
  have hBV := bodyOf_view (qBody (some q)) (qBody_norecs _) (handleNonAxfrQueryL ze.zone qn q.qtype tr ⟨S, []⟩).2.log
  refine ⟨hnp, hG, hH, hBV, hty, ?_, ?_⟩
  · rw [Writer.M.bind_apply, hHQ, ← handleNonAxfrQuery_state]
    rcases handleNonAxfrQuery ze.zone qn q.qtype tr _ with ⟨(u | x | _), s'⟩ <;> rfl
  · intro huS
    obtain ⟨gI, gl, gmb, gc⟩ := gS
    exact ednsUp0_handleNonAxfrQueryL ze.zone hz qn hqnwf q.qtype tr hsub S gI hqrS.hint gl gmb _ gc huS

end QV.ServerContent
