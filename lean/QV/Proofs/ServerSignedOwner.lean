/-
  QV.Proofs.ServerSignedOwner — the writer that `handle_message` hands to `finish` satisfies the
  writer's invariant `I` for *every* request (`ServerSafety.prog_safe`, instantiated with the writer's
  own interface instance); hence, by C13's `finish_tsig_owner_decodes`, the owner of the TSIG record
  of every signed response — answers from loaded zones included — decodes, at the position where
  the record starts, to the key name.
-/
import QV.Proofs.ServerSigned
import QV.Proofs.FinishTsigOwner
import QV.Proofs.ServerEcho

namespace QV.ServerScan
open QV QV.Wire QV.Reader QV.Writer

/-- the final writer of `handle_message` (any request with a full header that is not a response) -/
theorem final_writer_I (cfg : Server.Cfg) (hcfg : ServerSafety.CfgWF cfg) (tr : Server.Transport)
    (now bufLen : Nat) (req : Bytes) (hbuf : minBuf tr cfg.payload ≤ bufLen) (hnow : now < 2^48)
    (hpay : 512 ≤ cfg.payload) (hreq : req.size ≤ Rdata.USIZE_MAX) (h12 : 12 ≤ req.size) (id opc : Nat) (rdv : Bool) :
    Writer.I (Server.handleWithContext cfg tr now ⟨req, 12, none⟩ (hdrSt (w0 bufLen (lim0 tr)) id opc rdv)).2 := by
  have hmin : 12 ≤ min (lim0 tr) bufLen := by
    cases tr <;> simp only [lim0, minBuf] at hbuf ⊢ <;> omega
  have hl : lim0 tr ≤ 65535 := by cases tr <;> simp [lim0]
  have hnew := new_eq bufLen (lim0 tr) hmin
  have hsz : 3 < (w0 bufLen (lim0 tr)).octets.size := by
    rw [w0_size]; cases tr <;> simp only [minBuf] at hbuf <;> omega
  have hr0 : ServerSafety.RInv (⟨req, 12, none⟩ : Reader) :=
    ⟨⟨h12, h12⟩, Nat.le_refl _, by unfold Rdata.USIZE_MAX at hreq; show req.size < 2^64; omega⟩
  have := (ServerSafety.prog_safe Writer.writerSafe cfg hcfg tr now hnow ⟨req, 12, none⟩ hr0 id opc rdv
    (w0 bufLen (lim0 tr)) (Writer.writerSafe.new_I _ _ _ hl hnew) rfl rfl).1.2
  have e : ServerSafety.prog cfg tr now ⟨req, 12, none⟩ id opc rdv (w0 bufLen (lim0 tr)) =
      Server.handleWithContext cfg tr now ⟨req, 12, none⟩ (hdrSt (w0 bufLen (lim0 tr)) id opc rdv) := by
    unfold ServerSafety.prog
    simp only []
    rw [hdr_prog _ _ _ _ _ hsz]
  rw [e] at this
  exact this

/-- **every signed response, answers included: the TSIG record is last and its owner decodes to the
    key name.**  With `w1` the writer `handle_message` hands to `finish` (`answerState`) and `ts` its
    pending TSIG: the response is `pre ++ TSIG record` with `pre` = `w1`'s content and the OPT (iff
    its EDNS slot is set), the MAC is `macFn ts pre` (none if unsigned), and at position `|pre|` the
    independent name decoder reads, on the response, the key name — up to ASCII case, with its label
    count — whatever compression did to it. -/
theorem response_tsig_owner_decodes (cfg : Server.Cfg) (hcfg : ServerSafety.CfgWF cfg) (tr : Server.Transport)
    (now bufLen : Nat) (req : Bytes) (hbuf : minBuf tr cfg.payload ≤ bufLen) (hpay : 512 ≤ cfg.payload)
    (hnow : now < 2^48) (hreq : req.size ≤ Rdata.USIZE_MAX) (b : Bytes)
    (hb : Server.handleMessage cfg tr now bufLen req = .ok (some b))
    (ts : Writer.Tsig) (hts : (answerState cfg tr now bufLen req).tsig = some ts) :
    ∃ oe mac w k,
      mac = finishMac Server.macFn ts (finishPrefix (answerState cfg tr now bufLen req) ++
        optEnc (answerState cfg tr now bufLen req).edns) ∧
      b.toList = finishPrefix (answerState cfg tr now bufLen req) ++
        optEnc (answerState cfg tr now bufLen req).edns ++ tsigRecordOctets oe ts mac ∧
      NameShape ts.rr.keyName oe ∧
      Spec.specDecodeName b (finishPrefix (answerState cfg tr now bufLen req) ++
        optEnc (answerState cfg tr now bufLen req).edns).length = some (w, ts.rr.keyName.len, k) ∧
      w.map lowerU8 = ts.rr.keyName.wire.map lowerU8 := by
  obtain ⟨h12, _, _, w1, mac, hh, hf⟩ :=
    handleMessage_some cfg tr now bufLen req hbuf hpay b hb (catKind cfg) cfg.payload
  have hI := final_writer_I cfg hcfg tr now bufLen req hbuf hnow hpay hreq h12 (Spec.Server.hdr req 0)
    (((req.getD 2 0).toNat &&& 120) >>> 3) (((req.getD 2 0).toNat &&& 1) != 0)
  unfold answerState at hts ⊢
  rw [hh] at hI hts ⊢
  simp only at hI hts ⊢
  obtain ⟨_, hmac, oe, sT, hoe, _, _, _, hbl⟩ := finish_octets_tsig Server.macFn w1 hI.inv.hdr ts hts b mac hf
  obtain ⟨w, k, hd, _, hcase, _⟩ := finish_tsig_owner_decodes Server.macFn
    (ServerSafety.macLenOK_server ServerSafety.hmacLenOK) w1 hI ts hts b mac hf
  exact ⟨oe, mac, w, k, hmac, hbl, nameEnc_none_shape hoe, hd, hcase⟩

end QV.ServerScan
