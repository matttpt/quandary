/-
  QV.Proofs.Flatten — reading a file tree and reading its flattened text (C25).
  In this namespace `Frame` is a frame of the include stack (`QV.Inc.Frame`); the frame property of
  the parser is `QV.ZF.Frame` and is used here only through `collect_append` and its kin.
-/
import QV.Proofs.ZoneFile.Compose
import QV.Proofs.Include

namespace QV.Inc
open QV QV.ZF QV.Spec.Inc

variable {κ : Type}

/-- the records among the items of a file, tagged with the file -/
def tagRecs (file : κ) (ys : List Yield) : List (SY κ) :=
  ys.filterMap fun y => match y with
    | .item (.record l r) => some (SY.record file l r)
    | _ => none

/-- two reader states from which `parse_lines_until_returnable_data_found` behaves the same are
    read the same way as (the rest of) a file of a tree -/
theorem readFile_of_untilData_eq (resolve : κ → List UInt8 → Option (κ × List UInt8)) (D : Nat) (file : κ)
    (depth : Nat) {ctx1 ctx2 : Ctx} {st1 st2 : St} (h : untilData ctx1 st1 = untilData ctx2 st2)
    (hctx : CtxWF ctx2) (hlen : st2.inp.length ≤ st1.inp.length) :
    readFile resolve D file depth ⟨false, st1, ctx1⟩ = readFile resolve D file depth ⟨false, st2, ctx2⟩ := by
  have g := next_spec (p := ⟨false, st2, ctx2⟩) hctx
  rw [readFile, readFile]
  simp only [Parser.next, Bool.false_eq_true, ↓reduceIte, h] at g ⊢
  cases hu : untilData ctx2 st2 with
  | ok r =>
    obtain ⟨⟨it?, ctx'⟩, st'⟩ := r
    rw [hu] at g
    cases it? with
    | none => rfl
    | some item =>
      simp only [NextOK] at g
      have h2 : st'.inp.length < st2.inp.length := g.2.2
      have h1 : st'.inp.length < st1.inp.length := by omega
      cases item with
      | record l r => simp [h1, h2]
      | incl l path o => simp [h1, h2]
  | err e => rfl
  | panic => rfl

/-- the tree reading along a chain of records: the records, then the tree reading from the end of the chain -/
theorem _root_.QV.ZF.Yields.read (resolve : κ → List UInt8 → Option (κ × List UInt8)) (D : Nat) (file : κ) (depth : Nat)
    {p pe : Parser} {is : List Item} (h : Yields p is pe) : (∀ i ∈ is, ∃ l r, i = .record l r) →
    readFile resolve D file depth p =
      (tagRecs file (is.map .item) ++ (readFile resolve D file depth pe).1, (readFile resolve D file depth pe).2) := by
  induction h with
  | nil => exact fun _ => rfl
  | cons hn hlt _ ih =>
    intro hrec
    obtain ⟨l, r, rfl⟩ := hrec _ (List.mem_cons_self ..)
    rw [readFile, hn]
    simp only [hlt, ↓reduceIte]
    rw [ih fun j hj => hrec j (List.mem_cons_of_mem _ hj)]
    rfl

/-- the items of a chain in a reading of records are records -/
theorem _root_.QV.ZF.Yields.records {p pe : Parser} {is : List Item} (h : Yields p is pe)
    (hrec : ∀ y ∈ collect p, ∃ l r, y = .item (.record l r)) : ∀ i ∈ is, ∃ l r, i = .record l r := fun i hi => by
  obtain ⟨l, r, e⟩ := hrec (.item i) (by rw [h.collect]; exact List.mem_append_left _ (List.mem_map_of_mem hi))
  cases e
  exact ⟨l, r, rfl⟩

/-- a parser all of whose entries are records, read as (part of) a file of a tree: its records, tagged with
    the file, and the context in which it ends -/
theorem readFile_records (resolve : κ → List UInt8 → Option (κ × List UInt8)) (D : Nat) (file : κ) (depth : Nat)
    (p : Parser) (hrec : ∀ y ∈ collect p, ∃ l r, y = .item (.record l r)) :
    readFile resolve D file depth p = (tagRecs file (collect p), some p.finish.ctx) := by
  obtain ⟨is, pe, q, hy, hq⟩ := yields_of_ok p fun y hy => let ⟨_, _, e⟩ := hrec y hy; ⟨_, e⟩
  rw [hy.read resolve D file depth (hy.records hrec), hy.collect, collect_none hq, hy.finish, finish_of_none hq,
    readFile, hq, List.append_nil, List.append_nil]

/-- reading `x ++ b` as part of a tree, where `x`, the input of `p`, consists of records: the records of `x`,
    then `b` from where `x` ended -/
theorem readFile_append (resolve : κ → List UInt8 → Option (κ × List UInt8)) (D : Nat) (file : κ) (depth : Nat)
    (b : List UInt8) {p : Parser} (he : p.error = false) (hx : p.st.inp = [] ∨ Term p.st.inp) (hctx : CtxWF p.ctx)
    (hrec : ∀ y ∈ collect p, ∃ l r, y = .item (.record l r)) :
    readFile resolve D file depth ⟨false, ⟨p.st.inp ++ b, p.st.line, p.st.paren⟩, p.ctx⟩ =
      (tagRecs file (collect p) ++
        (readFile resolve D file depth ⟨false, ⟨b, p.finish.st.line, p.finish.st.paren⟩, p.finish.ctx⟩).1,
       (readFile resolve D file depth ⟨false, ⟨b, p.finish.st.line, p.finish.st.paren⟩, p.finish.ctx⟩).2) := by
  obtain ⟨is, pe, hy, hq, hyb, k⟩ := yields_append b he hx fun y hy => let ⟨_, _, e⟩ := hrec y hy; ⟨_, e⟩
  rw [hyb.read resolve D file depth (hy.records hrec),
    readFile_of_untilData_eq resolve D file depth k (finish_ctxWF _ hctx) (by simp), hy.collect, collect_none hq,
    List.append_nil]

/-! ### reading texts from line 0: items, end context -/

/-- what reading `text` in the context `ctx` yields (lines counted from 0) -/
def items0 (ctx : Ctx) (text : List UInt8) : List Yield := collect ⟨false, ⟨text, 0, false⟩, ctx⟩

/-- the context after reading `text` -/
def endCtx (ctx : Ctx) (text : List UInt8) : Ctx := (Parser.finish ⟨false, ⟨text, 0, false⟩, ctx⟩).ctx

/-- reading yields records only: no errors, no `$INCLUDE` -/
def RecOnly (ys : List Yield) : Prop := ∀ y ∈ ys, ∃ l r, y = .item (.record l r)

theorem RecOnly.ok {ys : List Yield} (h : RecOnly ys) : ∀ y ∈ ys, ∃ i, y = .item i :=
  fun y hy => let ⟨l, r, e⟩ := h y hy; ⟨_, e⟩

theorem RecOnly_shift {ys : List Yield} (h : RecOnly ys) (k : Nat) : RecOnly (ys.map (shiftY k)) := by
  intro y hy
  obtain ⟨y0, hy0, rfl⟩ := List.mem_map.mp hy
  obtain ⟨l, r, rfl⟩ := h y0 hy0
  exact ⟨l + k, r, rfl⟩

theorem collect_at_line (x : List UInt8) (l : Nat) (ctx : Ctx) :
    collect ⟨false, ⟨x, l, false⟩, ctx⟩ = (items0 ctx x).map (shiftY l) := by
  have := collect_shift ⟨false, ⟨x, 0, false⟩, ctx⟩ l
  simpa [shiftParser, shiftSt, items0] using this

theorem RecOnly_at_line {x : List UInt8} {ctx : Ctx} (h : RecOnly (items0 ctx x)) (l : Nat) :
    RecOnly (collect ⟨false, ⟨x, l, false⟩, ctx⟩) := by
  rw [collect_at_line]; exact RecOnly_shift h l

theorem finish_at_line (x : List UInt8) (l : Nat) (ctx : Ctx) :
    (Parser.finish ⟨false, ⟨x, l, false⟩, ctx⟩).ctx = endCtx ctx x ∧
    (Parser.finish ⟨false, ⟨x, l, false⟩, ctx⟩).st.paren = false :=
  ⟨finish_ctx_line x l 0 false ctx, finish_paren _ rfl⟩

theorem recsOfY_append (a b : List Yield) : recsOfY (a ++ b) = recsOfY a ++ recsOfY b := by
  simp [recsOfY]

/-- reading `a ++ b` from line 0, `a` a text of records: the items of `a`, then the items of `b` read where
    `a` ended, their line numbers counted on from there -/
theorem items0_append {a : List UInt8} (b : List UInt8) {ctx : Ctx} (ha : a = [] ∨ Term a) (hctx : CtxWF ctx)
    (hok : RecOnly (items0 ctx a)) :
    ∃ l, items0 ctx (a ++ b) = items0 ctx a ++ (items0 (endCtx ctx a) b).map (shiftY l) := by
  obtain ⟨h1, h2⟩ := finish_at_line a 0 ctx
  refine ⟨(Parser.finish ⟨false, ⟨a, 0, false⟩, ctx⟩).st.line, ?_⟩
  show collect ⟨false, ⟨a ++ b, 0, false⟩, ctx⟩ = _
  rw [collect_append b (p := ⟨false, ⟨a, 0, false⟩, ctx⟩) rfl ha hctx hok.ok, h1, h2, collect_at_line b]
  rfl

theorem endCtx_append {a b : List UInt8} {ctx : Ctx} (ha : a = [] ∨ Term a)
    (hok : RecOnly (items0 ctx a)) (hb : RecOnly (items0 (endCtx ctx a) b)) :
    endCtx ctx (a ++ b) = endCtx (endCtx ctx a) b := by
  obtain ⟨h1, h2⟩ := finish_at_line a 0 ctx
  unfold endCtx
  rw [finish_append b (p := ⟨false, ⟨a, 0, false⟩, ctx⟩) rfl ha hok.ok (by rw [h1, h2]; exact (RecOnly_at_line hb _).ok)]
  rw [h1, h2]
  exact (finish_at_line b _ _).1

/-- A text `a` of records followed by a text `b` of records (read where `a` ended) is a text of
    records: what it yields, where it ends, and that it ends with a line end. -/
theorem pieces_append {a b : List UInt8} {ctx ctx' : Ctx} (ha : a = [] ∨ Term a) (hctx : CtxWF ctx)
    (hok : RecOnly (items0 ctx a)) (he : endCtx ctx a = ctx') (hbT : b = [] ∨ Term b) (hb : RecOnly (items0 ctx' b)) :
    RecOnly (items0 ctx (a ++ b)) ∧ endCtx ctx (a ++ b) = endCtx ctx' b ∧
      recsOfY (items0 ctx (a ++ b)) = recsOfY (items0 ctx a) ++ recsOfY (items0 ctx' b) ∧
      (a ++ b = [] ∨ Term (a ++ b)) := by
  subst he
  obtain ⟨l, e⟩ := items0_append b ha hctx hok
  refine ⟨?_, endCtx_append ha hok hb, by rw [e, recsOfY_append, recsOfY_shift], Term_append ha hbT⟩
  rw [e]
  exact fun y hy => (List.mem_append.mp hy).elim (hok y) (RecOnly_shift hb l y)

theorem endCtx_WF {ctx : Ctx} (hctx : CtxWF ctx) (x : List UInt8) : CtxWF (endCtx ctx x) :=
  finish_ctxWF _ hctx

theorem items0_nil (ctx : Ctx) : items0 ctx [] = [] ∧ endCtx ctx [] = ctx :=
  ⟨collect_none (next_nil 0 false ctx), by unfold endCtx; rw [finish_of_none (next_nil 0 false ctx)]⟩

/-! ### file trees cut at their `$INCLUDE` lines, and their flattening -/

/-- A file of a tree: `leaf text` has no `$INCLUDE`; `node pre L path origin childFile child post`
    is `pre`, the `$INCLUDE` line `L` (which asks for `path`, with `origin` the origin the included
    file starts with, as the parser reports it), and `post`; `child` is the included file. -/
inductive Tree (κ : Type) where
  | leaf (text : List UInt8)
  | node (pre L path : List UInt8) (origin : Option (List UInt8)) (childFile : κ) (child post : Tree κ)

/-- the text of the file -/
def Tree.content : Tree κ → List UInt8
  | .leaf t => t
  | .node pre L _ _ _ _ post => pre ++ (L ++ post.content)

/-- an origin directive line (or nothing when there is no origin to set) -/
def originLines (oline : List UInt8 → List UInt8) : Option (List UInt8) → List UInt8
  | none => []
  | some o => oline o

/-- The flattened text: every `$INCLUDE` line is replaced by a line setting the origin the
    included file starts with, the included file's flattened text, and a line setting the
    includer's origin again.  `oline o` is the text of the line `$ORIGIN o`. -/
def Tree.flat (oline : List UInt8 → List UInt8) : Ctx → Tree κ → List UInt8
  | _, .leaf t => t
  | ctx, .node pre _ _ origin _ child post =>
    let ctxA := endCtx ctx pre
    let cctx := childContext ctxA origin
    let F := Tree.flat oline cctx child
    let c := endCtx cctx F
    pre ++ (originLines oline cctx.origin ++ (F ++ (originLines oline ctxA.origin ++
      Tree.flat oline { c with origin := ctxA.origin } post)))

/-- `oline o` is a line that sets the origin to `o` and does nothing else -/
def OLine (oline : List UInt8 → List UInt8) (o : List UInt8) : Prop :=
  Term (oline o) ∧ ∀ ctx : Ctx, items0 ctx (oline o) = [] ∧ endCtx ctx (oline o) = { ctx with origin := some o }

/-- What the flattening theorem asks of a tree (all of it can be checked by evaluation): the
    pieces between `$INCLUDE` lines end with an unescaped newline and consist of records; each
    `$INCLUDE` line, read on its own, is the request for `path` with `origin`; the path resolves
    to the child; the depth limit is respected; the origins that must be set have `$ORIGIN`
    lines; and where the includer has no origin, the included file leaves none behind. -/
def TreeOK (resolve : κ → List UInt8 → Option (κ × List UInt8)) (D : Nat) (oline : List UInt8 → List UInt8) :
    κ → Nat → Ctx → Tree κ → Prop
  | _, _, ctx, .leaf t => (t = [] ∨ Term t) ∧ RecOnly (items0 ctx t)
  | file, depth, ctx, .node pre L path origin cf child post =>
    let ctxA := endCtx ctx pre
    let cctx := childContext ctxA origin
    let c := endCtx cctx (Tree.flat oline cctx child)
    (pre = [] ∨ Term pre) ∧ RecOnly (items0 ctx pre) ∧ Term L ∧
    (∃ kL, (⟨false, ⟨L, 0, false⟩, ctxA⟩ : Parser).next =
      (some (.item (.incl 0 path origin)), ⟨false, ⟨[], kL, false⟩, ctxA⟩)) ∧
    depth < D ∧ resolve file path = some (cf, child.content) ∧
    TreeOK resolve D oline cf (depth + 1) cctx child ∧
    (∀ o, cctx.origin = some o → OLine oline o) ∧ (∀ o, ctxA.origin = some o → OLine oline o) ∧
    (ctxA.origin = none → c.origin = none) ∧
    TreeOK resolve D oline file depth { c with origin := ctxA.origin } post

/-- an origin-line step of the flattened text -/
theorem originLines_step (oline : List UInt8 → List UInt8) (X : Option (List UInt8)) (ctx ctx' : Ctx)
    (hX : ∀ o, X = some o → OLine oline o)
    (hs : ∀ o, X = some o → ({ ctx with origin := some o } : Ctx) = ctx') (hn : X = none → ctx = ctx') :
    (originLines oline X = [] ∨ Term (originLines oline X)) ∧ items0 ctx (originLines oline X) = [] ∧
      endCtx ctx (originLines oline X) = ctx' := by
  cases X with
  | none =>
    obtain ⟨h1, h2⟩ := items0_nil ctx
    exact ⟨.inl rfl, h1, by rw [show originLines oline none = [] from rfl, h2]; exact hn rfl⟩
  | some o =>
    obtain ⟨ht, ho⟩ := hX o rfl
    obtain ⟨h1, h2⟩ := ho ctx
    exact ⟨.inr ht, h1, by rw [show originLines oline (some o) = oline o from rfl, h2]; exact hs o rfl⟩

/-- the records a tree reading reports, without file and line -/
def recsOfSY (ys : List (SY κ)) : List Rec :=
  ys.filterMap fun y => match y with
    | .record _ _ r => some r
    | _ => none

theorem recsOfSY_append (a b : List (SY κ)) : recsOfSY (a ++ b) = recsOfSY a ++ recsOfSY b := by
  simp [recsOfSY]

theorem recsOfSY_tagRecs (file : κ) (ys : List Yield) : recsOfSY (tagRecs file ys) = recsOfY ys := by
  unfold recsOfSY tagRecs recsOfY
  rw [List.filterMap_filterMap]
  congr 1
  funext y
  rcases y with (_ | _) | _ | _ <;> rfl

/-- the tree reading at an `$INCLUDE` whose file can be opened and is read to its end: the included
    file's reports, then the includer from the included file's final context, with its own origin -/
theorem readFile_incl (resolve : κ → List UInt8 → Option (κ × List UInt8)) {D : Nat} {file child : κ} {depth : Nat}
    {p p' : Parser} {line : Nat} {path content : List UInt8} {origin : Option (List UInt8)}
    (hn : p.next = (some (.item (.incl line path origin)), p')) (hd : depth < D)
    (hres : resolve file path = some (child, content)) (hlt : p'.st.inp.length < p.st.inp.length)
    {ys : List (SY κ)} {c : Ctx}
    (hchild : readFile resolve D child (depth + 1) (Parser.withContext content (childContext p'.ctx origin)) =
      (ys, some c)) :
    readFile resolve D file depth p =
      (ys ++ (readFile resolve D file depth { p' with ctx := { c with origin := p'.ctx.origin } }).1,
       (readFile resolve D file depth { p' with ctx := { c with origin := p'.ctx.origin } }).2) := by
  rw [readFile, hn]
  simp only [Nat.not_le.mpr hd, ↓reduceDIte, hres, hchild, hlt, ↓reduceIte]
/-- **Reading a tree is reading its flattened text.**  For every tree that satisfies `TreeOK`:
    the records the tree reading reports are the records of the flattened text, in order; both
    readings end in the same context; and the flattened text again ends with an unescaped
    newline and consists of records. -/
theorem flatten_tree (resolve : κ → List UInt8 → Option (κ × List UInt8)) (D : Nat)
    (oline : List UInt8 → List UInt8) : ∀ (t : Tree κ) (file : κ) (depth : Nat) (ctx : Ctx), CtxWF ctx →
    TreeOK resolve D oline file depth ctx t → ∀ line1 : Nat,
    recsOfSY (readFile resolve D file depth ⟨false, ⟨t.content, line1, false⟩, ctx⟩).1 =
      recsOfY (items0 ctx (t.flat oline ctx)) ∧
    (readFile resolve D file depth ⟨false, ⟨t.content, line1, false⟩, ctx⟩).2 = some (endCtx ctx (t.flat oline ctx)) ∧
    (t.flat oline ctx = [] ∨ Term (t.flat oline ctx)) ∧ RecOnly (items0 ctx (t.flat oline ctx)) := by
  intro t
  induction t with
  | leaf text =>
    intro file depth ctx hctx hok line1
    obtain ⟨hT, hR⟩ := hok
    simp only [Tree.content, Tree.flat]
    rw [readFile_records resolve D file depth _ (RecOnly_at_line hR line1)]
    exact ⟨(recsOfSY_tagRecs _ _).trans (recsOfY_line _ _ _ _ _), by rw [(finish_at_line text line1 ctx).1], hT, hR⟩
  | node pre L path origin cf child post ihc ihp =>
    intro file depth ctx hctx hok line1
    obtain ⟨hpreT, hpreR, hLT, ⟨kL, hL⟩, hd, hres, hchild, hO1, hO2, hnone, hpost⟩ := hok
    -- contexts
    have hA : CtxWF (endCtx ctx pre) := endCtx_WF hctx pre
    have hcc : CtxWF (childContext (endCtx ctx pre) origin) := childCtx_WF hA
      (next_spec_of (p := ⟨false, ⟨L, 0, false⟩, endCtx ctx pre⟩) hA hL).1
    obtain ⟨rc1, rc2, rc3, rc4⟩ := ihc cf (depth + 1) _ hcc hchild 1
    have hc : CtxWF (endCtx (childContext (endCtx ctx pre) origin)
        (child.flat oline (childContext (endCtx ctx pre) origin))) := endCtx_WF hcc _
    have hcB : CtxWF ({ endCtx (childContext (endCtx ctx pre) origin)
        (child.flat oline (childContext (endCtx ctx pre) origin)) with origin := (endCtx ctx pre).origin } : Ctx) :=
      ⟨fun o ho => hA.1 o ho, fun o ho => hc.2 o ho⟩
    -- names for the pieces
    generalize hctxA : endCtx ctx pre = ctxA at *
    generalize hcctx : childContext ctxA origin = cctx at *
    generalize hF : child.flat oline cctx = F at *
    generalize hcdef : endCtx cctx F = c at *
    generalize hctxB : ({ c with origin := ctxA.origin } : Ctx) = ctxB at *
    generalize hFp : post.flat oline ctxB = Fp at *
    -- the flattened text, from the inside out
    obtain ⟨t3, i3, e3⟩ := originLines_step oline ctxA.origin c ctxB hO2
      (fun o ho => by rw [← hctxB, ho]) (fun ho => by
        rw [← hctxB, ho]
        have := hnone ho
        cases c; simp at this ⊢; exact this)
    have r3 : RecOnly (items0 c (originLines oline ctxA.origin)) := by rw [i3]; intro y hy; cases hy
    obtain ⟨t1, i1, e1⟩ := originLines_step oline cctx.origin ctxA cctx hO1
      (fun o ho => by
        rw [← hcctx] at ho ⊢
        unfold childContext at ho ⊢
        cases origin with
        | none => simp at ho ⊢; cases ctxA; simp at ho ⊢; exact ho.symm
        | some o' => simp at ho ⊢; exact ho.symm)
      (fun ho => by
        rw [← hcctx] at ho ⊢
        unfold childContext at ho ⊢
        cases origin with
        | none => rfl
        | some o' => simp at ho)
    have r1 : RecOnly (items0 ctxA (originLines oline cctx.origin)) := by rw [i1]; intro y hy; cases hy
    have hpostIH := ihp file depth ctxB hcB hpost
    simp only [hFp] at hpostIH
    obtain ⟨_, _, rp3, rp4⟩ := hpostIH 0
    have nilRecs : recsOfY ([] : List Yield) = [] := rfl
    -- `$ORIGIN` (includer) ++ post, read in the context `c`
    obtain ⟨x3R, x3E, x3V, x3T⟩ := pieces_append t3 hc r3 e3 rp3 rp4
    rw [i3, nilRecs, List.nil_append] at x3V
    -- the included file's flattened text before that, read in `cctx`
    obtain ⟨x2R, x2E, x2V, x2T⟩ := pieces_append rc3 hcc rc4 hcdef x3T x3R
    rw [x3E] at x2E
    rw [x3V] at x2V
    -- `$ORIGIN` (included file) before that, read in `ctxA`
    obtain ⟨x1R, x1E, x1V, x1T⟩ := pieces_append t1 hA r1 e1 x2T x2R
    rw [x2E] at x1E
    rw [i1, nilRecs, List.nil_append, x2V] at x1V
    -- the whole flattened text, read in `ctx`
    have hflat : (Tree.node pre L path origin cf child post).flat oline ctx =
        pre ++ (originLines oline cctx.origin ++ (F ++ (originLines oline ctxA.origin ++ Fp))) := by
      simp only [Tree.flat, hctxA, hcctx, hF, hcdef, hctxB, hFp]
    obtain ⟨x0R, x0E, x0V, x0T⟩ := pieces_append hpreT hctx hpreR hctxA x1T x1R
    rw [x1E] at x0E
    rw [x1V] at x0V
    rw [hflat]
    -- the tree reading: `pre`, then the `$INCLUDE` line, the included file, and `post`
    have hTa := readFile_append resolve D file depth (L ++ post.content) (p := ⟨false, ⟨pre, line1, false⟩, ctx⟩) rfl hpreT hctx
      (RecOnly_at_line hpreR line1)
    obtain ⟨f1, f2⟩ := finish_at_line pre line1 ctx
    rw [f1, f2, hctxA] at hTa
    generalize hlA : (Parser.finish ⟨false, ⟨pre, line1, false⟩, ctx⟩).st.line = lA at hTa
    have hnextL : (⟨false, ⟨L, lA, false⟩, ctxA⟩ : Parser).next =
        (some (.item (.incl lA path origin)), ⟨false, ⟨[], kL + lA, false⟩, ctxA⟩) := by
      have := next_shift ⟨false, ⟨L, 0, false⟩, ctxA⟩ lA
      rw [hL] at this
      simpa [shiftParser, shiftSt, shiftY, shItem] using this
    have hu := (next_item hnextL).2.2
    simp only at hu
    obtain ⟨k1, _⟩ := untilData_append post.content ctxA ⟨L, lA, false⟩ (.inr hLT) _ hu
    have hnext := next_of_untilData k1
    simp only [List.nil_append] at hnext
    obtain ⟨rp1, rp2, _, _⟩ := hpostIH (kL + lA)
    have hR := readFile_incl resolve hnext hd hres
      (by have : 0 < L.length := List.length_pos_iff.mpr hLT.ne_nil
          simp only [List.length_append]; omega)
      (show readFile resolve D cf (depth + 1) (Parser.withContext child.content (childContext ctxA origin)) = (_, some c) from
        Prod.ext rfl (by rw [hcctx]; exact rc2))
    rw [hcctx, hctxB] at hR
    have hT : readFile resolve D file depth ⟨false, ⟨(Tree.node pre L path origin cf child post).content, line1, false⟩, ctx⟩ =
        (tagRecs file (collect ⟨false, ⟨pre, line1, false⟩, ctx⟩) ++
          ((readFile resolve D cf (depth + 1) ⟨false, ⟨child.content, 1, false⟩, cctx⟩).1 ++
            (readFile resolve D file depth ⟨false, ⟨post.content, kL + lA, false⟩, ctxB⟩).1),
         (readFile resolve D file depth ⟨false, ⟨post.content, kL + lA, false⟩, ctxB⟩).2) := by
      show readFile resolve D file depth ⟨false, ⟨pre ++ (L ++ post.content), line1, false⟩, ctx⟩ = _
      rw [hTa, hR]
      rfl
    refine ⟨?_, ?_, x0T, x0R⟩
    · rw [hT, x0V]
      simp only [recsOfSY_append, recsOfSY_tagRecs, rc1, rp1]
      congr 1
      exact recsOfY_line _ _ _ _ _
    · rw [hT, x0E]
      exact rp2

/-! ### `$ORIGIN` lines for every name -/

open QV.Spec.ZF in
/-- a label with every octet written as `\DDD` -/
def decLabel (l : List UInt8) : PLabel := l.map fun b => (b, OctetForm.dec)

/-- the labels of a name in wire form (root label excluded) -/
def decodeLabels : Nat → List UInt8 → List (List UInt8)
  | 0, _ => []
  | _, [] => []
  | fuel + 1, c :: rest => if c == 0 then [] else rest.take c.toNat :: decodeLabels fuel (rest.drop c.toNat)

open QV.Spec.ZF in
/-- the line `$ORIGIN <name>` for a name given in wire form: every octet written as `\DDD` -/
def originLine (o : List UInt8) : List UInt8 :=
  [36, 79, 82, 73, 71, 73, 78] ++ ([32] ++ (renderAbsName ((decodeLabels o.length o).map decLabel) ++ [10]))

theorem decodeLabels_encode (ls : List (List UInt8)) (h : LabelsOK ls) (fuel : Nat) (hf : ls.length < fuel) :
    decodeLabels fuel (flatLabels ls ++ [0]) = ls := by
  induction ls generalizing fuel with
  | nil =>
    cases fuel with
    | zero => omega
    | succ f => simp [flatLabels, decodeLabels]
  | cons l ls ih =>
    cases fuel with
    | zero => omega
    | succ f =>
      obtain ⟨hpos, h63⟩ := h l (by simp)
      have hlen : (UInt8.ofNat l.length).toNat = l.length := by
        simp [UInt8.toNat_ofNat']; omega
      have hne : (UInt8.ofNat l.length == 0) = false := by
        cases hb : (UInt8.ofNat l.length == 0) with
        | false => rfl
        | true =>
          have hb' : UInt8.ofNat l.length = 0 := by simpa using hb
          have h0 := congrArg UInt8.toNat hb'
          rw [hlen] at h0
          have : (0 : UInt8).toNat = 0 := rfl
          omega
      have e : flatLabels (l :: ls) ++ [0] = UInt8.ofNat l.length :: (l ++ (flatLabels ls ++ [0])) := by
        simp [flatLabels, encLabel]
      rw [e, decodeLabels]
      simp only [hne, Bool.false_eq_true, ↓reduceIte, hlen, List.take_left', List.drop_left']
      rw [ih (fun x hx => h x (by simp [hx])) f (by simp at hf; omega)]

theorem single_line_none {ctx ctx' : Ctx} {text : List UInt8} {line' : Nat}
    (hline : parseLine ctx ⟨text, 0, false⟩ = .ok ((none, ctx'), ⟨[], line', false⟩)) (hne : text ≠ []) :
    items0 ctx text = [] ∧ endCtx ctx text = ctx' := by
  have hu : untilData ctx ⟨text, 0, false⟩ = .ok ((none, ctx'), ⟨[], line', false⟩) := by
    rw [untilData]
    cases ht : text with
    | nil => exact absurd ht hne
    | cons c t =>
      simp only
      rw [← ht, hline]
      have : ([] : List UInt8).length < text.length := List.length_pos_iff.mpr hne
      simp only [this, ↓reduceIte]
      rw [untilData]
  have hn := next_of_untilData_none hu
  exact ⟨collect_none hn, by unfold endCtx; rw [finish_of_none hn]⟩

open QV.Spec.ZF in
/-- **`$ORIGIN` lines exist for every name**: the line written by `originLine` sets the origin to
    the given name and yields nothing -/
theorem OLine_originLine (o : List UInt8) (ho : NameWF o) : OLine originLine o := by
  obtain ⟨ls, hls, rfl, hlen⟩ := ho
  have hdec : decodeLabels (encodeName ls).length (encodeName ls) = ls := by
    apply decodeLabels_encode ls hls
    have := flatLabels_length_ge hls
    simp [encodeName]; omega
  have hterm : Term (originLine (encodeName ls)) := by
    refine ⟨[36, 79, 82, 73, 71, 73, 78] ++ ([32] ++ renderAbsName ((decodeLabels (encodeName ls).length (encodeName ls)).map decLabel)),
      by simp [originLine], ?_⟩
    rw [hdec]
    have : ∀ P : List PLabel, (renderAbsName P).getLast? = some 46 := by
      intro P
      unfold renderAbsName
      cases P with
      | nil => rfl
      | cons l P' =>
        simp only [List.isEmpty_cons, Bool.false_eq_true, ↓reduceIte]
        induction P' generalizing l with
        | nil => simp
        | cons l2 P'' ih =>
          rw [List.flatMap_cons, List.getLast?_append]
          rw [ih l2]
          rfl
    rw [List.getLast?_append, List.getLast?_append, this]
    simp
  refine ⟨hterm, fun ctx => ?_⟩
  unfold originLine
  rw [hdec]
  cases ls with
  | nil =>
    -- the root: `$ORIGIN .`
    have hline : parseLine ctx ⟨[36, 79, 82, 73, 71, 73, 78] ++ ([32] ++ (renderAbsName (([] : List (List UInt8)).map decLabel) ++ [10])), 0, false⟩ =
        .ok ((none, { ctx with origin := some (encodeName []) }), ⟨[], 1, false⟩) := by
      have hexp : expectFieldCI [36, 79, 82, 73, 71, 73, 78] ⟨[36, 79, 82, 73, 71, 73, 78, 32, 46, 10], 0, false⟩ =
          (true, ⟨[32, 46, 10], 0, false⟩) := by decide +kernel
      have hrest : parseOriginDirective ctx ⟨[32, 46, 10], 0, false⟩ =
          .ok ({ ctx with origin := some [0] }, ⟨[], 1, false⟩) := by
        unfold parseOriginDirective
        have h1 : skipToNextField Kind.ExpectedName ⟨[32, 46, 10], 0, false⟩ = .ok ((), ⟨[46, 10], 0, false⟩) := by
          decide +kernel
        have h2 : pName ctx ⟨[46, 10], 0, false⟩ = .ok ([0], ⟨[10], 0, false⟩) := by
          unfold pName parseName
          simp [expectField, expectFieldImpl, atFieldEnd, eolLen]
        have h3 : expectEol ⟨[10], 0, false⟩ = .ok ((), ⟨[], 1, false⟩) := by decide +kernel
        simp only [bind, P.bind, h1, h2, h3, pure, P.pure]
      show parseLine ctx ⟨[36, 79, 82, 73, 71, 73, 78, 32, 46, 10], 0, false⟩ = _
      unfold parseLine
      simp only [beq_self_eq_true, ↓reduceIte]
      unfold parseDirective
      simp only [bind, P.bind, liftB, origin_bytes, hexp, ↓reduceIte, hrest, pure, P.pure]
      rfl
    exact single_line_none hline (by simp)
  | cons l ls' =>
    have hwf : WFName (.abs ((l :: ls').map decLabel)) := by
      refine ⟨by simp, ?_, ?_, ?_⟩
      · intro P hP x hx
        obtain ⟨l0, _, rfl⟩ := List.mem_map.mp hP
        obtain ⟨b, _, rfl⟩ := List.mem_map.mp hx
        rfl
      · have : ((l :: ls').map decLabel).map labelOctets = l :: ls' := by
          simp [decLabel, labelOctets, Function.comp_def]
        rw [this]; exact hls
      · have : ((l :: ls').map decLabel).map labelOctets = l :: ls' := by
          simp [decLabel, labelOctets, Function.comp_def]
        rw [this]
        simp [encodeName] at hlen
        simpa using hlen
    have hline := parseLine_origin ctx ((l :: ls').map decLabel) hwf [.blank false] false
      ⟨by simp, by intro c crlf h; simp at h, rfl⟩ [] [] ⟨by intro c crlf h; simp at h, rfl, .inl rfl⟩ .lf []
      (by intro h; cases h) 0
    have hw : wireName (((l :: ls').map decLabel).map labelOctets) = encodeName (l :: ls') := by
      have : ((l :: ls').map decLabel).map labelOctets = l :: ls' := by
        simp [decLabel, labelOctets, Function.comp_def]
      rw [this]; rfl
    rw [hw] at hline
    simp only [tailText, gapText, gapItemText, gapLines, lineEnd, eolLines, Bool.false_eq_true, ↓reduceIte, List.nil_append,
      List.append_nil, List.flatMap_cons, List.flatMap_nil] at hline
    exact single_line_none hline (by simp)

end QV.Inc
