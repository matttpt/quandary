/-
  QV.Proofs.ScanBasic — the reader-based scan of the server model (`peek_rr`/`skip`, `read_question`,
  `scanAnNs`) agrees with the specification's message-order scan (`specDelimit`, `specQuestionAt`,
  `scanPlain`) on every octet string.

  Built on C14 (`parseCompressed ↔ DecodesName`, `skip_of_parse`), C15 (reader invariant, accessors)
  and `Proofs/NameWireExec` (the executable spec decoder is the RFC relation).
-/
import QV.Model.Server
import QV.Spec.Server
import QV.Proofs.NameWireExec
import QV.Properties.C15

namespace QV.ServerScan
open QV QV.Wire QV.Reader

theorem extract_getElem? (msg : Bytes) (pos o : Nat) :
    (msg.extract pos msg.size)[o]? = msg[pos + o]? := by
  simp [Array.getElem?_extract]
  intro h; omega

theorem specField16_eq (msg : Bytes) (pos : Nat) :
    Spec.specField16 msg pos = if pos + 2 ≤ msg.size then some (be16 msg pos) else none := by
  unfold Spec.specField16
  by_cases h : pos + 2 ≤ msg.size
  · rw [Array.getElem?_eq_getElem (show pos < msg.size by omega), Array.getElem?_eq_getElem (show pos + 1 < msg.size by omega)]
    simp only [h, if_true]
    rw [be16_eq msg pos (by omega)]
  · simp only [h, if_false]
    by_cases h1 : pos < msg.size
    · rw [Array.getElem?_eq_getElem h1, Array.getElem?_eq_none (show msg.size ≤ pos + 1 by omega)]
    · rw [Array.getElem?_eq_none (show msg.size ≤ pos by omega)]

theorem be32_split (msg : Bytes) (pos : Nat) : be32 msg pos = be16 msg pos * 65536 + be16 msg (pos + 2) := by
  unfold be32 be16
  rw [show pos + 2 + 1 = pos + 3 from rfl]
  omega

theorem specField32_eq (msg : Bytes) (pos : Nat) :
    Spec.specField32 msg pos = if pos + 4 ≤ msg.size then some (be32 msg pos) else none := by
  unfold Spec.specField32
  rw [specField16_eq, specField16_eq]
  by_cases h : pos + 4 ≤ msg.size
  · simp only [h, if_true, show pos + 2 ≤ msg.size by omega, show pos + 2 + 2 ≤ msg.size by omega, be32_split]
  · simp only [h, if_false]
    by_cases h2 : pos + 2 ≤ msg.size
    · simp [h2, show ¬ pos + 2 + 2 ≤ msg.size by omega]
    · simp [h2]

/-- the executable first-chunk skipper of the spec is the model of `Name::skip_compressed` -/
theorem specSkipName_eq (msg : Bytes) (pos fuel o : Nat) (hf : 257 ≤ fuel + o) :
    Spec.Server.specSkipName msg pos fuel o = (skipAux (msg.extract pos msg.size) o).toOption := by
  obtain ⟨c1, c2, _⟩ := Wire.consts
  generalize hb : msg.extract pos msg.size = b
  have hg : ∀ o (h : o < b.size), msg[pos + o]? = some b[o] := fun o h => by
    subst hb; rw [← extract_getElem?, Array.getElem?_eq_getElem h]
  have hp : ∀ x : UInt8, (192 ≤ x.toNat) = (isPtr x = true) := fun x => propext (isPtr_iff x).symm
  -- one case per arm of the model's skipper
  fun_induction skipAux b o generalizing fuel
  -- out of fuel the offset is beyond 255: the model fails too, or the bound of its arm excludes the offset
  all_goals cases fuel with
    | zero => first | rfl | omega
    | succ f => ?_
  all_goals unfold Spec.Server.specSkipName
  case case8.succ h =>
    rw [Array.getElem?_eq_none (by subst hb; simp at h; omega)]; rfl
  all_goals rw [hg _ ‹_›]
  case case7.succ x h hptr h63 h0 hlen ih =>
    have := toNat_pos_of_ne_zero _ h0
    rw [c1] at h63; rw [c2] at hlen
    simp only [hp, if_neg hptr, if_neg h63, if_neg h0, if_neg hlen]
    exact ih f (by omega)
  all_goals simp only [c1, c2] at *
  all_goals simp [*, Out.toOption]
  all_goals omega

/-! ### constants of the generated tables, evaluated -/

theorem T_OPT : Server.T "OPT" = 41 := by decide
theorem T_TSIG : Server.T "TSIG" = 250 := by decide
theorem RC_FORMERR : Server.RC "FORMERR" = 1 := by decide
theorem RC_SERVFAIL : Server.RC "SERVFAIL" = 2 := by decide
theorem RC_NOTIMP : Server.RC "NOTIMP" = 4 := by decide
theorem RC_REFUSED : Server.RC "REFUSED" = 5 := by decide
theorem RC_NOERROR : Server.RC "NOERROR" = 0 := by decide
theorem XRC_FORMERR : Server.XRC "FORMERR" = 1 := by decide
theorem XRC_BADVERS : Server.XRC "BADVERSBADSIG" = 16 := by decide
theorem QT_IXFR : Server.QT "IXFR" = 251 := by decide
theorem QT_AXFR : Server.QT "AXFR" = 252 := by decide
theorem QT_MAILB : Server.QT "MAILB" = 253 := by decide
theorem QT_MAILA : Server.QT "MAILA" = 254 := by decide
theorem QC_ANY_eq : Writer.QC_ANY = 255 := by decide

/-! ### delimiting a record -/

/-- `specDelimit` in closed form: the model's first-chunk skipper, then the ten fixed octets and
    RDLENGTH octets inside the message -/
theorem specDelimit_eq (msg : Bytes) (pos : Nat) :
    Spec.Server.specDelimit msg pos =
      match skipAux (msg.extract pos msg.size) 0 with
      | .ok k =>
        if pos + k + 10 ≤ msg.size ∧ pos + k + 10 + be16 msg (pos + k + 8) ≤ msg.size then
          some ⟨pos, pos + k, be16 msg (pos + k), be16 msg (pos + k + 2), be32 msg (pos + k + 4),
                be16 msg (pos + k + 8), pos + k + 10 + be16 msg (pos + k + 8)⟩
        else none
      | _ => none := by
  unfold Spec.Server.specDelimit
  rw [specSkipName_eq msg pos 300 0 (by omega)]
  cases skipAux (msg.extract pos msg.size) 0 with
  | ok k =>
    simp only [Out.toOption, specField16_eq, specField32_eq]
    by_cases h : pos + k + 10 ≤ msg.size
    · simp only [h, true_and, show pos + k + 2 ≤ msg.size by omega, show pos + k + 2 + 2 ≤ msg.size by omega,
        show pos + k + 4 + 4 ≤ msg.size by omega, show pos + k + 8 + 2 ≤ msg.size by omega, if_true]
    · simp only [h, false_and, if_false, show ¬ pos + k + 8 + 2 ≤ msg.size by omega]
      split <;> simp_all
  | err e => simp [Out.toOption]
  | panic => simp [Out.toOption]

theorem peekRr_delimit (r : Reader) (hi : Inv r) :
    match Spec.Server.specDelimit r.octets r.cursor with
    | some d => peekRr r = .ok ⟨r, d.ownerEnd, d.next⟩ ∧ d.pos = r.cursor ∧ r.cursor ≤ d.ownerEnd ∧
        d.next = d.ownerEnd + 10 + d.rdlen ∧ d.next ≤ r.octets.size ∧
        d.ty = be16 r.octets d.ownerEnd ∧ d.cls = be16 r.octets (d.ownerEnd + 2) ∧
        d.rawTtl = be32 r.octets (d.ownerEnd + 4) ∧ d.rdlen = be16 r.octets (d.ownerEnd + 8)
    | none => ∃ e, peekRr r = .err e := by
  rw [specDelimit_eq]
  have hc : ¬ r.cursor > r.octets.size := by have := hi.2; omega
  unfold peekRr delimitRr skipAtCursor skipCompressed
  simp only [hc, if_false]
  cases hs : skipAux (r.octets.extract r.cursor r.octets.size) 0 with
  | ok k =>
    simp only
    unfold readU16Get
    by_cases h : r.cursor + k + 10 ≤ r.octets.size
    · simp only [show ¬ r.cursor + k + 8 > r.octets.size by omega, if_false,
        show r.cursor + k + 8 + 2 ≤ r.octets.size by omega, if_true, h, true_and]
      by_cases h2 : r.cursor + k + 10 + be16 r.octets (r.cursor + k + 8) ≤ r.octets.size
      · simp only [h2, if_true, show ¬ r.cursor + k + 10 + be16 r.octets (r.cursor + k + 8) > r.octets.size by omega,
          if_false]
        -- `peek_rr`'s result and the record's fields are the spec's by construction (`simp` has closed them)
        exact ⟨trivial, trivial, Nat.le_add_right _ _, trivial, trivial, trivial, trivial, trivial, trivial⟩
      · simp only [h2, if_false, show r.cursor + k + 10 + be16 r.octets (r.cursor + k + 8) > r.octets.size by omega,
          if_true]
        exact ⟨_, rfl⟩
    · simp only [h, false_and, if_false]
      by_cases h3 : r.cursor + k + 8 > r.octets.size
      · simp only [h3, if_true]; exact ⟨_, rfl⟩
      · simp only [h3, if_false, show ¬ r.cursor + k + 8 + 2 ≤ r.octets.size by omega]; exact ⟨_, rfl⟩
  | err e => exact ⟨_, rfl⟩
  | panic =>
    have := skipAtCursor_no_panic r hi
    unfold skipAtCursor skipCompressed at this
    simp only [hc, if_false] at this
    exact absurd hs this

/-- `d` delimits the record at `r`'s cursor: `peek_rr` succeeds there, the record lies inside the
    message, and the accessors of the `PeekRr` return `d`'s fields -/
structure DelimAt (r : Reader) (d : Spec.Server.Delim) : Prop where
  peek : peekRr r = .ok ⟨r, d.ownerEnd, d.next⟩
  pos : d.pos = r.cursor
  le : r.cursor ≤ d.ownerEnd
  next : d.next = d.ownerEnd + 10 + d.rdlen
  size : d.next ≤ r.octets.size
  rdlen_le : d.rdlen ≤ 65535
  ty : (⟨r, d.ownerEnd, d.next⟩ : PeekRr).rrType = .ok d.ty
  cls : (⟨r, d.ownerEnd, d.next⟩ : PeekRr).cls = .ok d.cls
  rawTtl : (⟨r, d.ownerEnd, d.next⟩ : PeekRr).rawTtl = .ok d.rawTtl
  ttl : (⟨r, d.ownerEnd, d.next⟩ : PeekRr).ttl = .ok (ttlFrom d.rawTtl)
  rdlength : (⟨r, d.ownerEnd, d.next⟩ : PeekRr).rdlength = .ok d.rdlen

/-- `peek_rr` succeeds exactly where the spec can delimit a record, and its accessors return the
    spec's fields -/
theorem peekRr_spec (r : Reader) (hi : Inv r) :
    match Spec.Server.specDelimit r.octets r.cursor with
    | some d => DelimAt r d
    | none => ∃ e, peekRr r = .err e := by
  have h := peekRr_delimit r hi
  cases hd : Spec.Server.specDelimit r.octets r.cursor with
  | none => rw [hd] at h; exact h
  | some d =>
    rw [hd] at h
    obtain ⟨hpk, hpos, hle', hnx, hsz, hty, hcl, httl, hrl⟩ := h
    obtain ⟨_, a1, a2, a3, a4, a5, _, _⟩ := C15.C15_peek_accessors r _ hpk
    have hle : d.rdlen ≤ 65535 := by
      rw [hrl]; unfold be16
      have := (r.octets.getD (d.ownerEnd + 8) 0).toNat_lt
      have := (r.octets.getD (d.ownerEnd + 8 + 1) 0).toNat_lt
      omega
    exact ⟨hpk, hpos, hle', hnx, hsz, hle, by rw [hty]; exact a1, by rw [hcl]; exact a2, by rw [httl]; exact a3,
      by rw [httl]; exact a4, by rw [hrl]; exact a5⟩

/-! ### the question -/

theorem specQuestionAt_eq (msg : Bytes) (pos : Nat) :
    Spec.specQuestionAt msg pos =
      match parseCompressed msg pos with
      | .ok p => if pos + p.len + 4 ≤ msg.size then
          some (p.wire, be16 msg (pos + p.len), be16 msg (pos + p.len + 2), pos + p.len + 4) else none
      | _ => none := by
  unfold Spec.specQuestionAt
  rw [Spec.specDecodeName_eq_parse]
  cases parseCompressed msg pos with
  | ok p =>
    simp only [specField16_eq]
    by_cases h : pos + p.len + 4 ≤ msg.size
    · simp only [h, if_true, show pos + p.len + 2 ≤ msg.size by omega, show pos + p.len + 2 + 2 ≤ msg.size by omega]
    · simp only [h, if_false, show ¬ pos + p.len + 2 + 2 ≤ msg.size by omega]
      split <;> simp_all
  | err e => rfl
  | panic => rfl

/-- `read_question` succeeds exactly where the spec finds a question, with the same fields and the
    same next position; otherwise it fails (never panics) and leaves the reader alone -/
theorem readQuestion_spec (r : Reader) :
    match Spec.specQuestionAt r.octets r.cursor with
    | some (w, t, c, nx) => readQuestion r = (.ok ⟨w, t, c⟩, { r with cursor := nx })
    | none => ∃ e, readQuestion r = (.err e, r) := by
  rw [specQuestionAt_eq]
  unfold readQuestion
  cases hp : parseCompressed r.octets r.cursor with
  | ok p =>
    have hin := parse_inside _ _ _ hp
    simp only
    unfold readU16At
    simp only [show ¬ r.cursor + p.len > r.octets.size by omega, if_false]
    by_cases h : r.cursor + p.len + 4 ≤ r.octets.size
    · simp only [h, if_true, show r.cursor + p.len + 2 ≤ r.octets.size by omega,
        show ¬ r.cursor + p.len + 2 > r.octets.size by omega, if_false,
        show r.cursor + p.len + 2 + 2 ≤ r.octets.size by omega]
    · simp only [h, if_false]
      by_cases h2 : r.cursor + p.len + 2 ≤ r.octets.size
      · simp only [h2, if_true, show ¬ r.cursor + p.len + 2 > r.octets.size by omega, if_false,
          show ¬ r.cursor + p.len + 2 + 2 ≤ r.octets.size by omega]
        exact ⟨_, rfl⟩
      · simp only [h2, if_false]; exact ⟨_, rfl⟩
  | err e => exact ⟨_, rfl⟩
  | panic => exact absurd hp (C14.C14_no_panic _ _)

/-! ### answer + authority sections -/

theorem scanAnNs_spec (msg : Bytes) : ∀ (n : Nat) (r : Reader), Inv r → r.octets = msg →
    match Spec.Server.scanPlain msg n r.cursor with
    | some pos => Server.scanAnNs n r = some { r with cursor := pos } ∧ pos ≤ msg.size ∧ r.cursor ≤ pos
    | none => Server.scanAnNs n r = none := by
  intro n
  induction n with
  | zero =>
    intro r hi ho
    simp only [Spec.Server.scanPlain, Server.scanAnNs]
    subst ho
    exact ⟨trivial, hi.2, Nat.le_refl _⟩
  | succ n ih =>
    intro r hi ho
    subst ho
    simp only [Spec.Server.scanPlain, Server.scanAnNs]
    have hp := peekRr_spec r hi
    cases hd : Spec.Server.specDelimit r.octets r.cursor with
    | none =>
      rw [hd] at hp
      obtain ⟨e, he⟩ := hp
      simp only [he]
    | some d =>
      rw [hd] at hp
      have hsz := hp.size
      have hle := hp.le
      have hnx := hp.next
      simp only [hp.peek, hp.ty, T_OPT, T_TSIG]
      by_cases ht : d.ty = 41 ∨ d.ty = 250
      · simp only [ht, if_true]
      · simp only [ht, if_false]
        have hi' : Inv (PeekRr.skip ⟨r, d.ownerEnd, d.next⟩) := ⟨hi.1, hsz⟩
        have := ih (PeekRr.skip ⟨r, d.ownerEnd, d.next⟩) hi' rfl
        simp only [PeekRr.skip] at this ⊢
        cases hs : Spec.Server.scanPlain r.octets n d.next with
        | none => rw [hs] at this; exact this
        | some pos =>
          rw [hs] at this
          simp only at this ⊢
          exact ⟨this.1, this.2.1, by have := this.2.2; omega⟩

end QV.ServerScan
