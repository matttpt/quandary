/-
  QV.Proofs.ZoneAbs — the abstraction `abs` (all records stored in the tree) is a permutation of
  the specification's flat record list.
-/
import QV.Proofs.ZoneValidate

namespace QV.Zone
open QV QV.NameL QV.Spec.Zone

theorem filter_or_perm {α : Type} (p q : α → Bool) (hd : ∀ a, ¬ (p a = true ∧ q a = true)) (l : List α) :
    (l.filter p ++ l.filter q).Perm (l.filter (fun a => p a || q a)) := by
  induction l with
  | nil => simp
  | cons a l ih =>
    simp only [List.filter_cons]
    cases hp : p a <;> cases hq : q a
    · simpa using ih
    · simp only [Bool.false_eq_true, if_false, if_true, Bool.false_or]
      exact List.perm_middle.trans (List.Perm.cons a ih)
    · simp only [if_true, Bool.false_eq_true, if_false, Bool.true_or, List.cons_append]
      exact List.Perm.cons a ih
    · exact absurd ⟨hp, hq⟩ (hd a)

theorem partition_perm {α κ : Type} [BEq κ] [LawfulBEq κ] (key : α → κ) (ks : List κ) (hnd : ks.Nodup) (l : List α) :
    (ks.flatMap (fun k => l.filter (fun a => key a == k))).Perm (l.filter (fun a => ks.contains (key a))) := by
  induction ks with
  | nil => simp
  | cons k ks ih =>
    rw [List.nodup_cons] at hnd
    simp only [List.flatMap_cons, List.contains_cons]
    refine (List.Perm.append_left _ (ih hnd.2)).trans ?_
    apply filter_or_perm
    intro a ⟨h1, h2⟩
    simp only [beq_iff_eq] at h1
    rw [h1] at h2
    exact hnd.1 (by simpa using h2)

theorem partition_perm_all {α κ : Type} [BEq κ] [LawfulBEq κ] (key : α → κ) (ks : List κ) (hnd : ks.Nodup) (l : List α)
    (hcov : ∀ a ∈ l, key a ∈ ks) :
    (ks.flatMap (fun k => l.filter (fun a => key a == k))).Perm l := by
  have := partition_perm key ks hnd l
  rwa [List.filter_eq_self.mpr (by intro a ha; simpa using hcov a ha)] at this

theorem flatMap_perm_congr {α β : Type} (l : List α) (f g : α → List β) (h : ∀ a ∈ l, (f a).Perm (g a)) :
    (l.flatMap f).Perm (l.flatMap g) := by
  induction l with
  | nil => simp
  | cons a l ih =>
    simp only [List.flatMap_cons]
    exact (h a (by simp)).append (ih (fun b hb => h b (by simp [hb])))

theorem nodup_of_sortedN {l : List Nat} (h : SortedN l) : l.Nodup := by
  induction l with
  | nil => simp
  | cons a l ih =>
    rw [List.nodup_cons]
    refine ⟨fun hm => ?_, ih h.2⟩
    have := h.1 a hm
    omega

/-- exploding one RRset of the flat zone into records gives back its records -/
theorem explode_rrset {z : Zone} {s : SZone} (h : Rel z s) {n : Name} {t : Nat} {x : Rrset} (hx : rrset s n t = some x) :
    x.rdatas.map (fun rd => (⟨n, x.rtype, z.cls, x.ttl, rd⟩ : Rec)) =
      s.recs.filter (fun r => r.owner == n && r.rtype == t) := by
  rw [rrset_rdatas hx, List.map_map, rrset_rtype hx, h.cls]
  obtain ⟨r0, hr0, ho0, ht0, httl0⟩ := rrset_ttl hx
  conv => rhs; rw [← List.map_id (s.recs.filter (fun r => r.owner == n && r.rtype == t))]
  apply List.map_congr_left
  intro r hr
  simp only [List.mem_filter, Bool.and_eq_true, beq_iff_eq] at hr
  obtain ⟨hr, ho, ht⟩ := hr
  have h1 := h.clsOk r hr
  have h2 := h.ttl r hr r0 hr0 (by rw [ho, ho0]) (by rw [ht, ht0])
  cases r
  simp_all

theorem explode_node {z : Zone} {s : SZone} (h : Rel z s) (n : Name) (ts : List Nat) (hts : ∀ t ∈ ts, Owns s n t) :
    (ts.filterMap (rrset s n)).flatMap (fun x => x.rdatas.map (fun rd => (⟨n, x.rtype, z.cls, x.ttl, rd⟩ : Rec))) =
      ts.flatMap (fun t => s.recs.filter (fun r => r.owner == n && r.rtype == t)) := by
  induction ts with
  | nil => simp
  | cons t ts ih =>
    obtain ⟨x, hx⟩ := (owns_iff_rrset s n t).mp (hts t (by simp))
    simp only [List.filterMap_cons, hx, List.flatMap_cons]
    rw [explode_rrset h hx, ih (fun t' ht' => hts t' (by simp [ht']))]

/-- the records stored in the tree are, up to order, the records of the flat zone -/
theorem abs_perm {z : Zone} {s : SZone} (h : Rel z s) (hw : Node.WF z.root) : (abs z).Perm s.recs := by
  unfold abs
  refine ((iterByRrset_perm h hw).flatMap_right _).trans ?_
  unfold specIterByRrset
  rw [List.flatMap_assoc]
  simp only [List.flatMap_map]
  -- per node: its RRsets explode to the records owned by the node
  have hnode : ∀ n ∈ specNodes s,
      ((rrsetsAt s n).flatMap (fun x => x.rdatas.map (fun rd => (⟨n, x.rtype, z.cls, x.ttl, rd⟩ : Rec)))).Perm
        (s.recs.filter (fun r => r.owner == n)) := by
    intro n _
    unfold rrsetsAt
    rw [explode_node h n (typesAt s n) (fun t ht => (mem_typesAt s n t).mp ht)]
    have := partition_perm_all (fun r : Rec => r.rtype) (typesAt s n) (nodup_of_sortedN (sorted_typesAt s n))
      (s.recs.filter (fun r => r.owner == n)) (by
        intro r hr
        simp only [List.mem_filter, beq_iff_eq] at hr
        exact (mem_typesAt s n r.rtype).mpr ⟨r, hr.1, hr.2, rfl⟩)
    simp only [List.filter_filter] at this
    have hc : ∀ t, (fun a : Rec => a.rtype == t && a.owner == n) = (fun r : Rec => r.owner == n && r.rtype == t) := by
      intro t; funext a; exact Bool.and_comm _ _
    simp only [hc] at this
    exact this
  refine (flatMap_perm_congr _ _ _ hnode).trans ?_
  exact partition_perm_all (fun r : Rec => r.owner) (specNodes s) (nodup_dedup _) s.recs
    (fun r hr => (mem_specNodes s r.owner).mpr (by
      have hz := h.inZone r hr
      rw [isNode_iff, nameExists_iff]
      exact ⟨hz, Or.inr ⟨r, hr, List.suffix_refl _⟩⟩))

end QV.Zone
