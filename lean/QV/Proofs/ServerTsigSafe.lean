/-
  QV.Proofs.ServerTsigSafe — the TSIG branch of the additional-section scan (part of L1 of C01).

  One theorem about the *result* of `QV.Server.handleTsig` (`handleTsig_safe`): called the way the
  scan calls it — on the `PeekRr` of a record whose type is TSIG, found in a message whose ARCOUNT
  is at least 1, with a representable time — it does not panic, keeps the writer invariant and, if
  it says "continue", hands back the reader positioned after the record. The proof goes through
  the steps of the Rust code (`ReadTsigRr::try_from`, algorithm lookup, key lookup,
  `verify_request`, `set_tsig_or_truncate`) and shows every `unwrap`/`expect`/`panic!` on the
  way unreachable.
-/
import QV.Proofs.ServerScan

namespace QV.ServerSafety
open QV QV.Writer QV.Server QV.Reader QV.Wire

variable (W : WriterSafe)

/-- the reader invariant the scan maintains: C15's `Inv`, the cursor past the header, a message
    smaller than the address space -/
def RInv (r : Reader) : Prop := Reader.Inv r ∧ 12 ≤ r.cursor ∧ r.octets.size < 2^64

theorem rdRead_ok (c t : Nat) (msg : Bytes) (cur len : Nat) (l : List UInt8)
    (h : rdRead c t msg cur len = .ok l) : ∃ b, Rdata.read c t msg cur len = .ok b ∧ l = b.toList := by
  unfold rdRead at h
  cases h2 : Rdata.read c t msg cur len with
  | panic => rw [h2] at h; cases h
  | err e => rw [h2] at h; cases h
  | ok b => rw [h2] at h; cases h; exact ⟨b, rfl, rfl⟩

theorem extract_getD (b : Bytes) (c i : Nat) (hi : i < c) (hc : c ≤ b.size) :
    (b.extract 0 c).toList.getD i 0 = b.getD i 0 := by
  have h1 : i < (b.extract 0 c).toList.length := by simp; omega
  have h2 : i < b.size := by omega
  simp [List.getD_eq_getElem?_getD, Array.getD, h2, hi]

/-- the "BADKEY" tail shared by the algorithm and key lookups -/
theorem tsigBadKey_safe (tsigRr : Tsig.ReadTsigRr) (nowT : Tsig.TimeSigned) (an kn : WName)
    (ha : WName.parse tsigRr.algorithm = some (an, [])) (haw : an.WF)
    (hk : WName.parse tsigRr.keyName = some (kn, [])) (hkw : kn.WF) (s : State) (hi : W.I s)
    {Q : Option Reader → State → Prop} (hq : ∀ s', Q none s') :
    Safe W (tsigBadKey tsigRr nowT) s Q := by
  obtain ⟨prep, hp, hpk, hpt, hps⟩ := preparedFromRead_ok tsigRr nowT (XRC "BADKEY") kn hk
  unfold tsigBadKey
  rw [ha, hp]
  refine safe_bind_M W (safe_setRcode W _ s hi) (fun _ s1 hi1 _ _ => ?_)
  refine safe_bind_M W (safe_setTsigOrTruncate W (.unsigned an) prep s1 hi1 ⟨?_, haw, hpt, hps⟩)
    (fun _ s2 hi2 _ _ => safe_pure_M W none s2 hi2 (hq s2))
  rw [hpk]; exact hkw

/-- `verify_tsig_and_write_tsig_rr`: `verify_request` does not panic (the algorithm is the record's
    own, the message has a header whose ARCOUNT counts the TSIG record) and the response TSIG meets
    the contract of `set_tsig` -/
theorem tsigVerifyAndWrite_safe (tsigRr : Tsig.ReadTsigRr) (message : List UInt8) (alg : Hmac.Alg)
    (secret : List UInt8) (nowT : Tsig.TimeSigned) (r' : Reader) (kn : WName)
    (hk : WName.parse tsigRr.keyName = some (kn, [])) (hkw : kn.WF)
    (halgn : tsigRr.algorithm = Tsig.Algorithm.name alg) (hlen : 12 ≤ message.length)
    (harc : Tsig.rd16 message Gen.ARCOUNT_START ≠ 0) (s : State) (hI : W.I s) :
    Safe W (tsigVerifyAndWrite Tsig.realHmac tsigRr message alg secret nowT r') s
      (fun res _ => ∀ r'', res = some r'' → r'' = r') := by
  have hnp := verifyRequest_no_panic Tsig.realHmac tsigRr message alg secret nowT halgn hlen harc
  have hprep := fun e => preparedFromRead_ok tsigRr nowT e kn hk
  have tail : ∀ (rcode : Nat) (m : TsigMode) (prep : TsigRr), (tsigAlgName m).WF →
      prep.keyName = kn → prep.timeSigned.length = 6 → prep.serverTime.length = 6 →
      Safe W (do
        setRcode rcode
        let added ← setTsigOrTruncate m prep
        if added && rcode = RC "NOERROR" then pure (some r') else pure none : M (Option Reader)) s
        (fun res _ => ∀ r'', res = some r'' → r'' = r') := by
    intro rcode m prep hm hk1 hk2 hk3
    refine safe_bind_M W (safe_setRcode W _ s hI) (fun _ s1 hi1 _ _ => ?_)
    refine safe_bind_M W (safe_setTsigOrTruncate W m prep s1 hi1 ⟨by rw [hk1]; exact hkw, hm, hk2, hk3⟩)
      (fun added s2 hi2 _ _ => ?_)
    split
    · exact safe_pure_M W _ s2 hi2 (fun r'' hr' => by cases hr'; rfl)
    · exact safe_pure_M W _ s2 hi2 (fun r'' hr' => by cases hr')
  -- whatever `verify_request` answers, there is a row of `tsigReply`, and its algorithm name is a name
  obtain ⟨rc, e, mode, hrep, hm⟩ : ∃ rc e mode, tsigReply alg (Tsig.ReadTsigRr.mac tsigRr) secret
      (Tsig.verifyRequest Tsig.realHmac tsigRr message alg secret nowT) = some (rc, e, mode) ∧
      (tsigAlgName mode).WF := by
    cases hres : Tsig.verifyRequest Tsig.realHmac tsigRr message alg secret nowT with
    | panic => exact absurd hres hnp
    | ok u => exact ⟨_, _, _, rfl, algName_WF _⟩
    | err e => cases e <;> exact ⟨_, _, _, rfl, algName_WF _⟩
  obtain ⟨prep, hp, k1, k2, k3⟩ := hprep e
  refine safe_congr W ?_ (tail rc mode prep hm k1 k2 k3)
  simp only [tsigVerifyAndWrite, hrep, hp]

/-- the TSIG processing proper: algorithm lookup, key lookup, verification -/
theorem tsigProcess_safe (keys : List Key) (nowT : Tsig.TimeSigned) (tsigRr : Tsig.ReadTsigRr)
    (message : List UInt8) (r' : Reader) (w : List UInt8) (hlow : tsigRr.algorithm = Tsig.lowerName w)
    (an kn : WName) (ha : WName.parse tsigRr.algorithm = some (an, [])) (haw : an.WF)
    (hk : WName.parse tsigRr.keyName = some (kn, [])) (hkw : kn.WF) (hlen : 12 ≤ message.length)
    (harc : Tsig.rd16 message Gen.ARCOUNT_START ≠ 0) (s : State) (hI : W.I s) :
    Safe W (tsigProcess Tsig.realHmac keys nowT tsigRr message r') s
      (fun res _ => ∀ r'', res = some r'' → r'' = r') := by
  have bad := tsigBadKey_safe W tsigRr nowT an kn ha haw hk hkw s hI
    (Q := fun res _ => ∀ r'', res = some r'' → r'' = r') (fun _ r'' hr' => by cases hr')
  unfold tsigProcess
  cases hfn : Tsig.Algorithm.fromName tsigRr.algorithm with
  | none => exact bad
  | some alg =>
    simp only
    cases hfk : findKey keys tsigRr.keyName alg with
    | none => exact bad
    | some key =>
      have halgn : tsigRr.algorithm = Tsig.Algorithm.name alg := by
        rw [hlow] at hfn ⊢; exact fromName_lower _ _ hfn
      exact tsigVerifyAndWrite_safe W tsigRr message alg key.secret nowT r' kn hk hkw halgn hlen harc s hI

/-- **the TSIG branch never panics** -/
theorem handleTsig_safe (cfg : Cfg) (now : Nat) (hnow : now < 2^48) (r : Reader) (hi : RInv r)
    (p : PeekRr) (hpk : peekRr r = .ok p) (ht : p.rrType = .ok (T "TSIG")) (raw : Nat)
    (har : 1 ≤ be16 r.octets Gen.ARCOUNT_START) (s : State) (hI : W.I s) :
    Safe W (handleTsig cfg now p raw) s
      (fun res _ => ∀ r', res = some r' → r' = { r with cursor := p.rrEnd }) := by
  obtain ⟨hr0, a1, a2, a3, a4, a5, a6, a7⟩ := C15.C15_peek_accessors r p hpk
  have hty : be16 r.octets p.ownerEnd = T "TSIG" := by
    rw [a1] at ht; exact Out.ok.inj ht
  have hmsg : p.messageToRr = .ok (r.octets.extract 0 r.cursor) := by
    unfold PeekRr.messageToRr messageToCursor
    rw [hr0]; simp [hi.1.2]
  obtain ⟨hpp, hpo⟩ := peek_parse_safe rdataSafe r hi.2.2 p hpk
  have stop : ∀ (v : Nat) s', W.I s' → Safe W (do setRcode v; pure none : M (Option Reader)) s'
      (fun res _ => ∀ r', res = some r' → r' = { r with cursor := p.rrEnd }) :=
    fun v s' hi' => safe_rcode_none W v s' hi' (fun _ r' hr' => by cases hr')
  generalize hpr : p.parse rdRead = pr at hpp hpo
  obtain ⟨o, r''⟩ := pr
  cases o with
  | panic => exact absurd rfl hpp
  | err e =>
    refine safe_congr W (g := (do setRcode (RC "FORMERR"); pure none : M (Option Reader))) ?_ (stop _ s hI)
    unfold handleTsig; simp only [hmsg, hpr]
  | ok rr =>
    obtain ⟨hr', hrt, ⟨n, hn, hown⟩, hrdata, _⟩ := hpo rr r'' rfl
    by_cases hraw : raw ≠ 0
    · refine safe_congr W (g := (do setRcode (RC "FORMERR"); pure none : M (Option Reader))) ?_ (stop _ s hI)
      unfold handleTsig; simp only [hmsg, hpr]; rw [if_pos hraw]
    · rw [hrt, hty] at hrdata
      rw [T_consts.2.1] at hrdata
      obtain ⟨b, hb, hbl⟩ := rdRead_ok _ _ _ _ _ _ hrdata
      have hvalid := read_tsig_valid _ _ _ _ _ hb
      have hrty : rr.rrType = T "TSIG" := hrt.trans hty
      rcases tsig_tryFrom_cases rr.owner rr.cls rr.ttl b hvalid with hfe | ⟨pu, hpu, hok⟩
      · refine safe_congr W (g := (do setRcode (RC "FORMERR"); pure none : M (Option Reader))) ?_ (stop _ s hI)
        unfold handleTsig; simp only [hmsg, hpr]; rw [if_neg hraw]; simp only [hrty, hbl, hfe]
      · -- the record is a well-formed TSIG record
        obtain ⟨nowT, hnowT⟩ : ∃ t, Tsig.TimeSigned.tryFromUnix now = some t := by
          unfold Tsig.TimeSigned.tryFromUnix; simp [hnow]
        obtain ⟨hw1, hl1⟩ := parseUncompressed_isWire b pu hpu
        obtain ⟨an, haw, _, han⟩ := lower_wname hw1 hl1
        obtain ⟨hw2, hl2⟩ := parseCompressed_isWire _ _ n hn
        obtain ⟨kn, hkw, _, hkn⟩ := lower_wname hw2 hl2
        rw [← hown] at hkn
        generalize htr : (⟨Tsig.lowerName rr.owner, Tsig.lowerName pu.wire,
          (Tsig.rd16 b.toList (pu.len + 8)).toNat, b.toList⟩ : Tsig.ReadTsigRr) = tsigRr at hok
        have halg : tsigRr.algorithm = Tsig.lowerName pu.wire := by rw [← htr]
        have hkey : tsigRr.keyName = Tsig.lowerName rr.owner := by rw [← htr]
        have han' : WName.parse tsigRr.algorithm = some (an, []) := by rw [halg]; exact han
        have hkn' : WName.parse tsigRr.keyName = some (kn, []) := by rw [hkey]; exact hkn
        have hlen : 12 ≤ (r.octets.extract 0 r.cursor).toList.length := by
          have := hi.1.2; have := hi.2.1; simp; omega
        have harc : Tsig.rd16 (r.octets.extract 0 r.cursor).toList Gen.ARCOUNT_START ≠ 0 := by
          have c10 : Gen.ARCOUNT_START = 10 := by decide
          rw [c10] at har ⊢
          unfold Tsig.rd16
          rw [extract_getD _ _ _ (by have := hi.2.1; omega) hi.1.2,
            extract_getD _ _ _ (by have := hi.2.1; omega) hi.1.2]
          have hlt := be16_lt r.octets 10
          show UInt16.ofNat (be16 r.octets 10) ≠ 0
          generalize be16 r.octets 10 = v at har hlt
          intro hc
          have := congrArg UInt16.toNat hc
          simp at this
          omega
        have hproc := tsigProcess_safe W cfg.keys nowT tsigRr (r.octets.extract 0 r.cursor).toList r''
          pu.wire halg an kn han' haw hkn' hkw hlen harc s hI
        refine safe_congr W ?_ (hproc.weaken W (fun res _ _ _ hq r3 h3 => by rw [hq r3 h3, hr']))
        unfold handleTsig
        simp only [hmsg, hpr]; rw [if_neg hraw]; simp only [hrty, hbl, hok, hnowT]

end QV.ServerSafety
