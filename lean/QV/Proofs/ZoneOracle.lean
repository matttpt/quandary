/-
  QV.Proofs.ZoneOracle — the executable reference checker `specValidate` (the oracle the driver
  runs) computes exactly the declarative one (`InvalidRdata`, `HasIssue`).
-/
import QV.Proofs.ZoneValidate
namespace QV.Spec.Zone
open QV QV.NameL QV.Zone

theorem mem_ite_singleton {c : Prop} [Decidable c] {a i : Issue} :
    i ∈ (if c then [a] else []) ↔ i = a ∧ c := by
  split <;> simp [*]

theorem mem_apexIssues (s : SZone) (i : Issue) :
    i ∈ apexIssues s ↔ (i = .MissingApexSoa ∧ ¬ Owns s s.apex SOA) ∨
      (i = .TooManyApexSoas ∧ 2 ≤ (s.recs.filter (fun r => r.owner == s.apex && r.rtype == SOA)).length) ∨
      (i = .MissingApexNs ∧ ¬ Owns s s.apex NS) := by
  have h1 : (s.recs.filter (fun r => r.owner == s.apex && r.rtype == SOA)).isEmpty = true ↔ ¬ Owns s s.apex SOA := by
    simp [Owns, List.isEmpty_iff]
  have h3 : (!owns s s.apex NS) = true ↔ ¬ Owns s s.apex NS := by
    rw [← owns_iff, Bool.not_eq_true', Bool.not_eq_true]
  unfold apexIssues
  simp only [List.mem_append, mem_ite_singleton, h1, h3, or_assoc]

theorem mem_nsRecIssues (nameOf : NameOf) (s : SZone) (r : Rec) (i : Issue) :
    i ∈ nsRecIssues nameOf s r ↔ ∃ g, nameOf r.rdata = some g ∧
      ((i = .MissingNsAddress g ∧ noAddress s g = true) ∨
       (i = .MissingGlue g ∧ r.owner ≠ s.apex ∧ needsGlue s r.owner g = true ∧ glueOk s g = false)) := by
  unfold nsRecIssues
  cases nameOf r.rdata with
  | none => simp
  | some g =>
    simp only [List.mem_append, mem_ite_singleton, Option.some.injEq, exists_eq_left', Bool.and_eq_true,
      bne_iff_ne, ne_eq, Bool.not_eq_true', and_assoc]

theorem mem_mxRecIssues (nameOf : NameOf) (s : SZone) (r : Rec) (i : Issue) :
    i ∈ mxRecIssues nameOf s r ↔ ∃ g, mxName nameOf r.rdata = some g ∧ i = .MissingMxAddress g ∧ noAddress s g = true := by
  unfold mxRecIssues
  cases mxName nameOf r.rdata with
  | none => simp
  | some g => simp only [mem_ite_singleton, Option.some.injEq, exists_eq_left']

theorem mem_ownerIssues (s : SZone) (o : Name) (i : Issue) :
    i ∈ ownerIssues s o ↔
      (i = .DuplicateCname o ∧ 2 ≤ (s.recs.filter (fun r => r.owner == o && r.rtype == CNAME)).length) ∨
      (i = .OtherRecordsAtCname o ∧ Owns s o CNAME ∧ ∃ t, t ≠ CNAME ∧ Owns s o t) ∨
      (i = .NsAtWildcard o ∧ Owns s o NS ∧ isWildcard o = true) := by
  have h2 : s.recs.any (fun r => r.owner == o && r.rtype != CNAME) = true ↔ ∃ t, t ≠ CNAME ∧ Owns s o t := by
    simp only [List.any_eq_true, Bool.and_eq_true, beq_iff_eq, bne_iff_ne]
    exact ⟨fun ⟨r, hr, ho, ht⟩ => ⟨r.rtype, ht, r, hr, ho, rfl⟩,
      fun ⟨t, ht, r, hr, ho, hrt⟩ => ⟨r, hr, ho, hrt ▸ ht⟩⟩
  unfold ownerIssues
  simp only [List.mem_append, mem_ite_singleton, Bool.and_eq_true, owns_iff, h2, or_assoc]

theorem invalid_iff (nameOf : NameOf) (s : SZone) :
    (hasAddrClass s.cls &&
      ((s.recs.filter (fun r => r.rtype == NS)).any (fun r => (nameOf r.rdata).isNone) ||
       (s.recs.filter (fun r => r.rtype == MX)).any (fun r => (mxName nameOf r.rdata).isNone))) = true ↔
    InvalidRdata nameOf s := by
  simp only [InvalidRdata, Bool.and_eq_true, Bool.or_eq_true, List.any_eq_true, List.mem_filter, beq_iff_eq,
    Option.isNone_iff_eq_none]
  refine and_congr_right fun _ => ⟨?_, ?_⟩
  · rintro (⟨r, ⟨hr, ht⟩, hn⟩ | ⟨r, ⟨hr, ht⟩, hn⟩)
    · exact ⟨r, hr, Or.inl ⟨ht, hn⟩⟩
    · exact ⟨r, hr, Or.inr ⟨ht, hn⟩⟩
  · rintro ⟨r, hr, ⟨ht, hn⟩ | ⟨ht, hn⟩⟩
    · exact Or.inl ⟨r, ⟨hr, ht⟩, hn⟩
    · exact Or.inr ⟨r, ⟨hr, ht⟩, hn⟩

theorem specValidate_none (nameOf : NameOf) (s : SZone) : specValidate nameOf s = none ↔ InvalidRdata nameOf s := by
  unfold specValidate
  simp only []
  split
  · next hc => exact iff_of_true rfl ((invalid_iff nameOf s).mp hc)
  · next hc => exact iff_of_false nofun (fun h => hc ((invalid_iff nameOf s).mpr h))

/-- a property of an owner name that only names with records have, asked of the owners of the records -/
theorem exists_owner_iff {s : SZone} {X : Name → Prop} {n : Name} (hX : X n → ∃ r ∈ s.recs, r.owner = n) :
    (∃ r, r ∈ s.recs ∧ n = r.owner ∧ X r.owner) ↔ X n :=
  ⟨fun ⟨_, _, hn, hx⟩ => hn ▸ hx, fun hx => let ⟨r, hr, ho⟩ := hX hx; ⟨r, hr, ho.symm, ho.symm ▸ hx⟩⟩

theorem specValidate_mem (nameOf : NameOf) (s : SZone) (l : List Issue) (h : specValidate nameOf s = some l) (i : Issue) :
    i ∈ l ↔ HasIssue nameOf s i := by
  unfold specValidate at h
  simp only [] at h
  split at h
  · cases h
  cases h
  have hF : i ∈ (dedup (s.recs.map (·.owner))).flatMap (ownerIssues s) ↔
      ∃ r ∈ s.recs, i ∈ ownerIssues s r.owner := by
    simp only [List.mem_flatMap, mem_dedup, List.mem_map]
    exact ⟨fun ⟨_, ⟨r, hr, rfl⟩, hi⟩ => ⟨r, hr, hi⟩, fun ⟨r, hr, hi⟩ => ⟨_, ⟨r, hr, rfl⟩, hi⟩⟩
  have hex : ∀ (P Q : Name → Prop) (n : Name), (∃ g, P g ∧ n = g ∧ Q g) ↔ P n ∧ Q n :=
    fun P Q n => ⟨fun ⟨_, hp, hn, hq⟩ => hn ▸ ⟨hp, hq⟩, fun ⟨hp, hq⟩ => ⟨n, hp, rfl, hq⟩⟩
  have hown : ∀ {n t}, Owns s n t → ∃ r ∈ s.recs, r.owner = n := fun ⟨r, hr, ho, _⟩ => ⟨r, hr, ho⟩
  simp only [List.mem_append, hF, List.mem_ite_nil_right, List.mem_flatMap, List.mem_filter, beq_iff_eq,
    and_assoc, mem_apexIssues, mem_nsRecIssues, mem_mxRecIssues, mem_ownerIssues]
  -- each issue can come from one of the four parts only
  cases i <;> simp only [HasIssue, reduceCtorEq, false_and, and_false, false_or, or_false, exists_false,
    true_and, Issue.MissingNsAddress.injEq, Issue.MissingMxAddress.injEq, Issue.MissingGlue.injEq,
    Issue.DuplicateCname.injEq, Issue.OtherRecordsAtCname.injEq, Issue.NsAtWildcard.injEq, hex]
  case MissingGlue g => simp only [and_left_comm]
  case DuplicateCname o =>
    refine exists_owner_iff (X := fun o => 2 ≤ (s.recs.filter (fun r => r.owner == o && r.rtype == CNAME)).length)
      fun h2 => ?_
    obtain ⟨r, hr⟩ := List.exists_mem_of_length_pos (Nat.lt_of_lt_of_le (by decide) h2)
    obtain ⟨hr, hp⟩ := List.mem_filter.mp hr
    exact ⟨r, hr, beq_iff_eq.mp (Bool.and_eq_true_iff.mp hp).1⟩
  case OtherRecordsAtCname o =>
    exact exists_owner_iff (X := fun o => Owns s o CNAME ∧ ∃ t, t ≠ CNAME ∧ Owns s o t) fun h => hown h.1
  case NsAtWildcard o =>
    exact exists_owner_iff (X := fun o => Owns s o NS ∧ isWildcard o = true) fun h => hown h.1

end QV.Spec.Zone
