/-
  QV.Proofs.ServerSignedTable — the TSIG decision table on the writer handed to `finish`.  For a
  request whose scan reaches a TSIG record, everything is stated for one and the same TSIG record `t`,
  message-without-TSIG `mw` and reader `r'` (`TsigRun`).  The rows — rejected and the reply fits,
  authenticated with a no-data verdict, authenticated and answered, the reply does not fit — are the
  cases of what the TSIG step decided, of whether the decided RR fits and of the verdict (`Decided`,
  `rows_of_decided`).  In the section of the run: the writer before the TSIG step is `Good` with the
  question as its body (`preTsig_facts`); the response is `finish` of the writer that what follows the
  step leaves (`TsigRun.response`); each row adds its few public calls (`signed_*_of_run`); the rows are
  exhaustive and exclusive (`rows_exhaustive`), hence every response to such a request comes from a
  `Good` writer (`signed_final_good`).  Then: the TSIG RDATA the writer serialises parses back field by
  field under the specification's RFC 8945 §4.2 reader.
-/
import QV.Proofs.ServerSignedNoFit
import QV.Proofs.ServerAnswerHdrLog
import QV.Proofs.ScanCatalog
import QV.Proofs.TsigRdataParse

namespace QV.ServerContent
open QV QV.Wire QV.Reader QV.Writer QV.Server QV.ServerSafety QV.ServerScan QV.ServerAnswer QV.Spec.Resolve QV.Spec QV.ServerTsig

/-- `t`, `mw`, `r'`, `question` are the TSIG record, the message without it, the reader after it and
    the question of `handle_message`'s scan of `req` -/
def TsigRun (cfg : Cfg) (tr : Transport) (now bufLen : Nat) (req : Bytes) (t : Tsig.ReadTsigRr) (mw : Bytes)
    (r' : Reader.Reader) (question : Option (WName × Nat × Nat)) : Prop :=
  r'.octets = req ∧ r'.cursor ≤ req.size ∧
  QRel (Spec.Server.specScanWith (catKind cfg) cfg.payload req).question question ∧
  Server.handleMessage cfg tr now bufLen req =
    match afterTsig cfg tr req (Spec.Server.specScanWith (catKind cfg) cfg.payload req).question question
        ((req.getD 2 0).toNat / 8 % 16) r'.cursor
        (Server.tsigAfter cfg now t mw r' (preTsigState cfg tr bufLen req)) with
    | (.ok true, w1) =>
      (match Writer.finish w1 Server.macFn with
       | .ok (bytes, _) => .ok (some bytes)
       | _ => .panic)
    | (.ok false, _) => .ok none
    | _ => .panic

theorem tsigRun_exists (cfg : Cfg) (tr : Transport) (now bufLen : Nat) (req : Bytes)
    (hbuf : minBuf tr cfg.payload ≤ bufLen) (hpay : 512 ≤ cfg.payload) (hreq : req.size ≤ Rdata.USIZE_MAX)
    (hr : (Spec.Server.specScanWith (catKind cfg) cfg.payload req).respond = true)
    (hv : (Spec.Server.specScanWith (catKind cfg) cfg.payload req).verdict = .tsigReached) :
    ∃ t mw r' question, TsigRun cfg tr now bufLen req t mw r' question := by
  obtain ⟨t, mw, r', question, h1, h2, h3, h4, _⟩ := handleMessage_tsig_eq cfg tr now bufLen req hbuf hpay hreq hr hv
  exact ⟨t, mw, r', question, h1, h2, h3, h4⟩

/-- `set_rcode(rc)` on the header view -/
theorem hdrView_stRcode (rc : Nat) (s : State) (h3 : 3 < s.octets.size) {v : View} (h : HdrView s v) :
    HdrView (stRcode rc s) { rcode := rc, aa := v.aa, tc := v.tc } := by
  have h1 := ((hdrStep_setRcode rc) s v h).1
  rw [setRcode_eq rc s h3] at h1
  exact ⟨(h1 rfl).1, (h1 rfl).2.1, (h1 rfl).2.2⟩


/-- recording a TSIG that fits after `set_rcode(rc0)`, and any further `set_rcode(rc)`, keep `Good`, and
    the header shows the RCODE set last -/
theorem good_signed (P : State) (bd : Body) (hG : Good P bd) (h3 : 3 < P.octets.size) (hv : HdrView P {})
    (rc0 : Nat) (mode : TsigMode) (rr : TsigRr) (hfit : TsigFits P mode rr) (hk : rr.keyName.WF)
    (ha : (tsigAlgName mode).WF) (l1 : rr.timeSigned.length = 6) (l2 : rr.serverTime.length = 6) :
    Good (withTsig (stRcode rc0 P) mode rr) bd ∧ HdrView (withTsig (stRcode rc0 P) mode rr) { rcode := rc0 } ∧
    ∀ rc, Good (stRcode rc (withTsig (stRcode rc0 P) mode rr)) bd ∧
      HdrView (stRcode rc (withTsig (stRcode rc0 P) mode rr)) { rcode := rc } := by
  have gC := good_withTsig mode rr _ _ (good_stRcode rc0 _ _ hG h3) ((stRcode_fits rc0 _ _ _).mpr hfit) hk ha l1 l2
  have hvC : HdrView (withTsig (stRcode rc0 P) mode rr) { rcode := rc0 } :=
    hdrView_congr (hdrView_stRcode rc0 _ h3 hv) rfl rfl
  have h3C : 3 < (withTsig (stRcode rc0 P) mode rr).octets.size := by
    show 3 < (stRcode rc0 P).octets.size
    rw [stRcode_size]; exact h3
  exact ⟨gC, hvC, fun rc => ⟨good_stRcode rc _ _ gC h3C, hdrView_stRcode rc _ h3C hvC⟩⟩

/-! ### the step has decided -/

/-- the TSIG step of `handle_message` on the record `t` has decided: the clock is representable, key and
    algorithm name are wire names, and the decision table says `(rc, mode, rr, go)` (`tsigDecision`) -/
structure Decided (cfg : Cfg) (now : Nat) (t : Tsig.ReadTsigRr) (mw : Bytes) (nowT : Tsig.TimeSigned) (kn an : WName)
    (rc : Nat) (mode : TsigMode) (rr : TsigRr) (go : Bool) : Prop where
  hnow : Tsig.TimeSigned.tryFromUnix now = some nowT
  hkn : WName.parse t.keyName = some (kn, [])
  han : WName.parse t.algorithm = some (an, [])
  dec : tsigDecision Tsig.realHmac cfg.keys nowT t mw.toList kn an = some (rc, mode, rr, go)

section
variable {cfg : Cfg} {now : Nat} {t : Tsig.ReadTsigRr} {mw : Bytes} {nowT : Tsig.TimeSigned} {kn an : WName}
  {rc : Nat} {mode : TsigMode} {rr : TsigRr} {go : Bool}

theorem tsigAfter_eq (D : Decided cfg now t mw nowT kn an rc mode rr go) (r' : Reader.Reader) (P : State)
    (h3 : 3 < P.octets.size) :
    Server.tsigAfter cfg now t mw r' P =
      (.ok (if go = true ∧ TsigFits P mode rr then some r' else none), stepSt rc mode rr P) := by
  unfold Server.tsigAfter
  rw [D.hnow]
  exact tsigProcess_eq P h3 r' D.hkn D.han D.dec

/-- a step that does not panic has decided -/
theorem decided_of_ok (r' : Reader.Reader) (P : State) (h3 : 3 < P.octets.size) (o : Option Reader.Reader) (S : State)
    (h : Server.tsigAfter cfg now t mw r' P = (.ok o, S)) :
    ∃ nowT kn an rc mode rr go, Decided cfg now t mw nowT kn an rc mode rr go := by
  unfold Server.tsigAfter at h
  cases hnow : Tsig.TimeSigned.tryFromUnix now with
  | none => rw [hnow] at h; cases h
  | some nowT =>
    rw [hnow] at h
    obtain ⟨kn, an, ⟨rc, mode, rr, go⟩, hkn, han, hd⟩ := tsigProcess_ok_inv P h3 r' o S h
    exact ⟨nowT, kn, an, rc, mode, rr, go, hnow, hkn, han, hd⟩

/-- the decision is a function of the request and the clock -/
theorem Decided.unique {nowT' : Tsig.TimeSigned} {kn' an' : WName} {rc' : Nat} {mode' : TsigMode} {rr' : TsigRr} {go' : Bool}
    (D : Decided cfg now t mw nowT kn an rc mode rr go) (D' : Decided cfg now t mw nowT' kn' an' rc' mode' rr' go') :
    rc' = rc ∧ mode' = mode ∧ rr' = rr ∧ go' = go := by
  have e1 := D.hnow.symm.trans D'.hnow; cases e1
  have e2 := D.hkn.symm.trans D'.hkn; cases e2
  have e3 := D.han.symm.trans D'.han; cases e3
  have e4 := D.dec.symm.trans D'.dec; cases e4
  exact ⟨rfl, rfl, rfl, rfl⟩

/-- the decided reply is well formed: what recording it (`good_signed`) and reading it back ask for -/
theorem Decided.wf (D : Decided cfg now t mw nowT kn an rc mode rr go) :
    rc < 16 ∧ rr.keyName = kn ∧ (tsigAlgName mode).WF ∧ rr.timeSigned.length = 6 ∧ rr.serverTime.length = 6 := by
  rcases tsigDecision_cases D.dec with ⟨_, _, rfl, rfl, rfl⟩ |
    ⟨a, key, _, _, ⟨_, _, rfl, rfl, rfl⟩ | ⟨_, _, rfl, rfl, rfl⟩ | ⟨_, _, rfl, rfl, rfl⟩ | ⟨_, _, rfl, rfl, rfl⟩⟩
  · exact ⟨by omega, rfl, parse_wf D.han, (prepOf_lengths _ _ _ _).1, (prepOf_lengths _ _ _ _).2⟩
  all_goals exact ⟨by omega, rfl, algName_wf _, (prepOf_lengths _ _ _ _).1, (prepOf_lengths _ _ _ _).2⟩

/-- either half of `NoFit` is a decision whose RR does not fit -/
theorem NoFit.decided {P : State} (hnow : Tsig.TimeSigned.tryFromUnix now = some nowT)
    (hkn : WName.parse t.keyName = some (kn, [])) (h : NoFit cfg nowT t mw kn P) :
    ∃ an rc mode rr go, Decided cfg now t mw nowT kn an rc mode rr go ∧ ¬ TsigFits P mode rr := by
  rcases h with ⟨an, rc, mode, rr, han, hrep, hf⟩ | ⟨alg, key, ha, hk, hver, hf⟩
  · exact ⟨an, rc, mode, rr, false, ⟨hnow, hkn, han, tsigDecision_stop hrep⟩, hf⟩
  · obtain ⟨an, han⟩ := fromName_parses _ _ ha
    exact ⟨an, _, _, _, true, ⟨hnow, hkn, han, tsigDecision_auth ha hk hver⟩, hf⟩

end

/-! ### the rows of the decision table -/

/-- row 1: rejected by the decision table, and the reply TSIG fits -/
def RowRejected (cfg : Cfg) (tr : Transport) (now bufLen : Nat) (req : Bytes) (t : Tsig.ReadTsigRr) (mw : Bytes) : Prop :=
  ∃ nowT kn an rc mode rr, Tsig.TimeSigned.tryFromUnix now = some nowT ∧
    WName.parse t.keyName = some (kn, []) ∧ WName.parse t.algorithm = some (an, []) ∧
    tsigStopReply Tsig.realHmac cfg.keys nowT t mw.toList kn an = some (rc, mode, rr) ∧
    TsigFits (preTsigState cfg tr bufLen req) mode rr

/-- row 2: authenticated (the response TSIG fits), no-data verdict -/
def RowAuthNoData (cfg : Cfg) (tr : Transport) (now bufLen : Nat) (req : Bytes) (t : Tsig.ReadTsigRr) (mw : Bytes)
    (r' : Reader.Reader) : Prop :=
  ∃ r'' S v, Server.tsigAfter cfg now t mw r' (preTsigState cfg tr bufLen req) = (.ok (some r''), S) ∧
    (v = Spec.Server.Verdict.formErr ∨ v = .notImp ∨ v = .refused ∨ v = .servFailZone) ∧
    endVerdict (catKind cfg) req.size (Spec.Server.specScanWith (catKind cfg) cfg.payload req).question
      r'.cursor ((req.getD 2 0).toNat / 8 % 16) = v

/-- row 3: authenticated (the response TSIG fits), a loaded zone answers -/
def RowAuthAnswer (cfg : Cfg) (tr : Transport) (now bufLen : Nat) (req : Bytes) (t : Tsig.ReadTsigRr) (mw : Bytes)
    (r' : Reader.Reader) : Prop :=
  ∃ r'' S, Server.tsigAfter cfg now t mw r' (preTsigState cfg tr bufLen req) = (.ok (some r''), S) ∧
    endVerdict (catKind cfg) req.size (Spec.Server.specScanWith (catKind cfg) cfg.payload req).question
      r'.cursor ((req.getD 2 0).toNat / 8 % 16) = .answer

/-- row 4: the reply TSIG does not fit -/
def RowNoFit (cfg : Cfg) (tr : Transport) (now bufLen : Nat) (req : Bytes) (t : Tsig.ReadTsigRr) (mw : Bytes) : Prop :=
  ∃ nowT kn, Tsig.TimeSigned.tryFromUnix now = some nowT ∧ WName.parse t.keyName = some (kn, []) ∧
    NoFit cfg nowT t mw kn (preTsigState cfg tr bufLen req)

/-- the four rows, for a run whose step has decided: they are the cases of `go`, "the RR fits" and the verdict -/
theorem rows_of_decided (cfg : Cfg) (tr : Transport) (now bufLen : Nat) (req : Bytes) (t : Tsig.ReadTsigRr) (mw : Bytes)
    (r' : Reader.Reader) {nowT : Tsig.TimeSigned} {kn an : WName} {rc : Nat} {mode : TsigMode} {rr : TsigRr} {go : Bool}
    (D : Decided cfg now t mw nowT kn an rc mode rr go)
    (h3 : 3 < (preTsigState cfg tr bufLen req).octets.size) :
    (RowRejected cfg tr now bufLen req t mw ↔ go = false ∧ TsigFits (preTsigState cfg tr bufLen req) mode rr) ∧
    (RowNoFit cfg tr now bufLen req t mw ↔ ¬ TsigFits (preTsigState cfg tr bufLen req) mode rr) ∧
    (RowAuthNoData cfg tr now bufLen req t mw r' ↔ (go = true ∧ TsigFits (preTsigState cfg tr bufLen req) mode rr) ∧
      endVerdict (catKind cfg) req.size (Spec.Server.specScanWith (catKind cfg) cfg.payload req).question
        r'.cursor ((req.getD 2 0).toNat / 8 % 16) ≠ .answer) ∧
    (RowAuthAnswer cfg tr now bufLen req t mw r' ↔ (go = true ∧ TsigFits (preTsigState cfg tr bufLen req) mode rr) ∧
      endVerdict (catKind cfg) req.size (Spec.Server.specScanWith (catKind cfg) cfg.payload req).question
        r'.cursor ((req.getD 2 0).toNat / 8 % 16) = .answer) := by
  have hT := tsigAfter_eq D r' _ h3
  -- the step hands back a reader iff `go` and the RR fits
  have hsome : (∃ r'' S, Server.tsigAfter cfg now t mw r' (preTsigState cfg tr bufLen req) = (.ok (some r''), S)) ↔
      go = true ∧ TsigFits (preTsigState cfg tr bufLen req) mode rr := by
    rw [hT]
    constructor
    · rintro ⟨r'', S, h⟩
      by_cases hg : go = true ∧ TsigFits (preTsigState cfg tr bufLen req) mode rr
      · exact hg
      · rw [if_neg hg] at h; cases h
    · intro hg; exact ⟨r', _, by rw [if_pos hg]⟩
  refine ⟨⟨?_, ?_⟩, ⟨?_, ?_⟩, ⟨?_, ?_⟩, ⟨?_, ?_⟩⟩
  · rintro ⟨nowT', kn', an', rc', mode', rr', hnow, hkn, han, hrep, hfit⟩
    obtain ⟨rfl, rfl, rfl, rfl⟩ := D.unique ⟨hnow, hkn, han, tsigDecision_stop hrep⟩
    exact ⟨rfl, hfit⟩
  · rintro ⟨rfl, hfit⟩
    rcases tsigDecision_inv D.dec with ⟨_, hrep⟩ | ⟨h, _⟩
    · exact ⟨nowT, kn, an, rc, mode, rr, D.hnow, D.hkn, D.han, hrep, hfit⟩
    · cases h
  · rintro ⟨nowT', kn', hnow, hkn, hnf⟩ hfit
    obtain ⟨an', rc', mode', rr', go', D', hf⟩ := hnf.decided hnow hkn
    obtain ⟨rfl, rfl, rfl, rfl⟩ := D.unique D'
    exact hf hfit
  · intro hf
    refine ⟨nowT, kn, D.hnow, D.hkn, ?_⟩
    rcases tsigDecision_inv D.dec with ⟨_, hrep⟩ | ⟨_, alg, key, ha, hk, hver, rfl, rfl, rfl⟩
    · exact Or.inl ⟨an, rc, mode, rr, D.han, hrep, hf⟩
    · exact Or.inr ⟨alg, key, ha, hk, hver, hf⟩
  · rintro ⟨r'', S, v, hTs, hvv, hev⟩
    exact ⟨hsome.mp ⟨r'', S, hTs⟩, by rw [hev]; rcases hvv with rfl | rfl | rfl | rfl <;> exact Spec.Server.Verdict.noConfusion⟩
  · rintro ⟨hg, hne⟩
    obtain ⟨r'', S, hTs⟩ := hsome.mpr hg
    refine ⟨r'', S, _, hTs, ?_, rfl⟩
    rcases endVerdict_range (catKind cfg) req.size (Spec.Server.specScanWith (catKind cfg) cfg.payload req).question
      r'.cursor ((req.getD 2 0).toNat / 8 % 16) with h | h | h | h | h
    · exact absurd h hne
    · exact Or.inl h
    · exact Or.inr (Or.inl h)
    · exact Or.inr (Or.inr (Or.inl h))
    · exact Or.inr (Or.inr (Or.inr h))
  · rintro ⟨r'', S, hTs, hev⟩
    exact ⟨hsome.mp ⟨r'', S, hTs⟩, hev⟩
  · rintro ⟨hg, hev⟩
    obtain ⟨r'', S, hTs⟩ := hsome.mpr hg
    exact ⟨r'', S, hTs, hev⟩

/-- "stop and it fits", "go on and it fits" × "no data" / "answer", "it does not fit": one of them, no two -/
private theorem four_cases (go : Bool) (fits ans : Prop) :
    ((go = false ∧ fits) ∨ ((go = true ∧ fits) ∧ ¬ ans) ∨ ((go = true ∧ fits) ∧ ans) ∨ ¬ fits) ∧
    ¬ ((go = false ∧ fits) ∧ ((go = true ∧ fits) ∧ ¬ ans)) ∧ ¬ ((go = false ∧ fits) ∧ ((go = true ∧ fits) ∧ ans)) ∧
    ¬ ((go = false ∧ fits) ∧ ¬ fits) ∧ ¬ (((go = true ∧ fits) ∧ ¬ ans) ∧ ((go = true ∧ fits) ∧ ans)) ∧
    ¬ (((go = true ∧ fits) ∧ ¬ ans) ∧ ¬ fits) ∧ ¬ (((go = true ∧ fits) ∧ ans) ∧ ¬ fits) := by
  cases go <;> by_cases hf : fits <;> by_cases ha : ans <;> simp [hf, ha]

theorem ednsUp0_stRcode (rc : Nat) (s : State) : EdnsUp0 (stRcode rc s) := by
  intro x hx
  unfold stRcode at hx
  simp only at hx
  cases he : (stHdr 3 (fun b => (b &&& ~~~ (15 : UInt8)) ||| UInt8.ofNat rc) s).edns with
  | none => rw [he] at hx; simp only at hx; rw [he] at hx; cases hx
  | some e0 => rw [he] at hx; simp only [Option.some.injEq] at hx; subst hx; rfl

/-! ### a run on a request whose scan reaches a TSIG record -/

section
variable (cfg : Cfg) (hcfg : CfgWF cfg) (tr : Transport) (now bufLen : Nat) (req : Bytes)
  (hbuf : minBuf tr cfg.payload ≤ bufLen) (hpay : 512 ≤ cfg.payload) (hp16 : cfg.payload ≤ 65535)
  (hr : (Spec.Server.specScanWith (catKind cfg) cfg.payload req).respond = true)
include hbuf hpay hr

/-! #### the writer before the TSIG step -/

include hp16 in
/-- the writer `handle_message` holds when its scan reaches the TSIG record: reached from
    `Writer::new` by public calls with the question as its body, the header flags clear, no TSIG
    pending, the EDNS slot set iff the scan met an OPT -/
theorem preTsig_facts :
    Good (preTsigState cfg tr bufLen req) (qBody (Spec.Server.specScanWith (catKind cfg) cfg.payload req).question) ∧
    HdrView (preTsigState cfg tr bufLen req) {} ∧ (preTsigState cfg tr bufLen req).tsig = none ∧
    (preTsigState cfg tr bufLen req).edns =
      (if (Spec.Server.specScanWith (catKind cfg) cfg.payload req).edns then some ⟨cfg.payload, 0⟩ else none) := by
  have hG := scan_facts cfg tr bufLen req hbuf hpay hr
  have hq := fun x hx => specScanWith_question (catKind cfg) cfg.payload req x hx
  unfold preTsigState
  exact ⟨good_arSt _ tr cfg.payload _ _ _ (good_s1 bufLen tr cfg.payload _ _ _ hbuf hpay req _ hq) hG.s1.base
      hG.lim512 hG.limMax hp16,
    hdrView_scan_state bufLen tr cfg.payload _ _ _ hbuf hpay req _ hq _ _,
    by rw [(arSt_fields _ _ _ _ _).2.2.1]; exact hG.s1.base.tsig,
    by rw [(arSt_fields _ _ _ _ _).2.2.2.2.2.2.2, hG.s1.base.edns]⟩

/-- the pre-TSIG writer after `set_rcode(rc0)`, a TSIG `(mode, rr)` that fits and — in the second form —
    a further `set_rcode(rc)`: the TSIG is pending, the EDNS slot is the scan's, and the MAC `finish`
    computes is over `signedPrefix` with the last RCODE -/
theorem preTsig_signed (rc0 rc : Nat) (hrc0 : rc0 < 16) (hrc : rc < 16) (mode : TsigMode) (rr : TsigRr) (F : State)
    (hF : F = withTsig (stRcode rc0 (preTsigState cfg tr bufLen req)) mode rr ∧ rc = rc0 ∨
      F = stRcode rc (withTsig (stRcode rc0 (preTsigState cfg tr bufLen req)) mode rr)) :
    F.tsig = some ⟨mode, reservedLen mode rr, rr⟩ ∧
    F.edns = (if (Spec.Server.specScanWith (catKind cfg) cfg.payload req).edns then some ⟨cfg.payload, 0⟩ else none) ∧
    ∀ b mac, Writer.finish F Server.macFn = .ok (b, mac) →
      mac = finishMac Server.macFn ⟨mode, reservedLen mode rr, rr⟩
        (signedPrefix req cfg.payload (Spec.Server.specScanWith (catKind cfg) cfg.payload req) rc) := by
  have hS := preTsig_final cfg tr bufLen req hbuf hpay hr rc0 rc hrc0 hrc mode rr F hF
  exact ⟨hS.tsig, hS.edns, fun b mac hf =>
    (signed_response_list Server.macFn req cfg.payload _ rc _ F _ (scan_facts cfg tr bufLen req hbuf hpay hr).s1 hS b mac hf).1⟩

include hp16 in
/-- the verdict "a loaded zone answers" at the end of a scan that responds: the request carries one
    question `q` with name `qn`, the table's three conditions hold, and the writer the scan leaves
    (`preTsigState`) is the state `handle_query` is entered in — `Good` with the question as its body,
    `QueryReady`, header flags clear -/
theorem answer_scanState (pos op : Nat)
    (hev : endVerdict (catKind cfg) req.size (Spec.Server.specScanWith (catKind cfg) cfg.payload req).question
      pos op = .answer) :
    ∃ q qn nx, (Spec.Server.specScanWith (catKind cfg) cfg.payload req).question = some q ∧
      Spec.specQuestionAt req 12 = some (q.qname, q.qtype, q.qclass, nx) ∧
      WName.parse q.qname = some (qn, []) ∧
      ¬ (251 ≤ q.qtype ∧ q.qtype ≤ 254) ∧ q.qclass ≠ 255 ∧ catKind cfg q.qname q.qclass = some .loaded ∧
      preTsigState cfg tr bufLen req = scanState cfg tr bufLen req (Spec.Server.hdr req 0)
        (((req.getD 2 0).toNat &&& 120) >>> 3) (((req.getD 2 0).toNat &&& 1) != 0) q ∧
      Good (preTsigState cfg tr bufLen req) (qBody (some q)) ∧ QueryReady (preTsigState cfg tr bufLen req) qn ∧
      HdrView (preTsigState cfg tr bufLen req) {} ∧ 3 < (preTsigState cfg tr bufLen req).octets.size := by
  obtain ⟨_, _, hsce⟩ := specScanWith_respond _ _ _ hr
  obtain ⟨q, hq0, c1, c2, c3⟩ := endVerdict_answer _ _ _ _ _ hev
  have hP : preTsigState cfg tr bufLen req = scanState cfg tr bufLen req (Spec.Server.hdr req 0)
      (((req.getD 2 0).toNat &&& 120) >>> 3) (((req.getD 2 0).toNat &&& 1) != 0) q := by
    unfold preTsigState; rw [hq0, hsce]
  obtain ⟨nx, hsq⟩ := specScanWith_question (catKind cfg) cfg.payload req q hq0
  obtain ⟨p, hp, hpw, _, _, hwl⟩ := specQuestionAt_some req 12 _ _ _ nx hsq
  obtain ⟨qn, hqn, hqw⟩ := wname_of_parse req 12 p hp
  rw [hpw] at hqn hqw
  obtain ⟨g, hqr, hv, h3⟩ := scanState_facts cfg tr bufLen req hbuf hpay hp16 (Spec.Server.hdr req 0)
    (((req.getD 2 0).toNat &&& 120) >>> 3) (((req.getD 2 0).toNat &&& 1) != 0) q qn nx hsq hqn hqw hwl
  rw [← hP] at g hqr hv h3
  exact ⟨q, qn, nx, hq0, hsq, hqn, c1, c2, c3, hP, g, hqr, hv, h3⟩

variable (t : Tsig.ReadTsigRr) (mw : Bytes) (r' : Reader.Reader) (question : Option (WName × Nat × Nat))
  (hrun : TsigRun cfg tr now bufLen req t mw r' question)
include hrun

omit hbuf hpay hr in
/-- a run that responds with `b`: what follows the TSIG step (`afterTsig`) says "respond" and leaves the
    writer whose `finish` is `b` -/
theorem TsigRun.response (b : Bytes) (hb : Server.handleMessage cfg tr now bufLen req = .ok (some b)) :
    ∃ w1 mac, afterTsig cfg tr req (Spec.Server.specScanWith (catKind cfg) cfg.payload req).question question
        ((req.getD 2 0).toNat / 8 % 16) r'.cursor
        (Server.tsigAfter cfg now t mw r' (preTsigState cfg tr bufLen req)) = (.ok true, w1) ∧
      Writer.finish w1 Server.macFn = .ok (b, mac) := by
  have h4 := hrun.2.2.2
  rw [hb] at h4
  generalize afterTsig _ _ _ _ _ _ _ _ = X at h4 ⊢
  obtain ⟨mac, hf⟩ := finish_of_response X h4
  rcases X with ⟨(bb | x | _), w1⟩
  · cases bb
    · cases h4
    · exact ⟨w1, mac, rfl, hf⟩
  · cases h4
  · cases h4

/-! #### the rows of the decision table: the writer handed to `finish` -/

include hp16 in
/-- rejected, the reply TSIG fits -/
theorem signed_error_final_of_run :
      ∀ nowT kn an rc mode rr, Tsig.TimeSigned.tryFromUnix now = some nowT →
        WName.parse t.keyName = some (kn, []) → WName.parse t.algorithm = some (an, []) →
        tsigStopReply Tsig.realHmac cfg.keys nowT t mw.toList kn an = some (rc, mode, rr) →
        ServerTsig.TsigFits (preTsigState cfg tr bufLen req) mode rr →
        ∀ b, Server.handleMessage cfg tr now bufLen req = .ok (some b) →
          ∃ F mac, Writer.finish F Server.macFn = .ok (b, mac) ∧
            Good F (qBody (Spec.Server.specScanWith (catKind cfg) cfg.payload req).question) ∧
            F.tsig = some ⟨mode, ServerTsig.reservedLen mode rr, rr⟩ ∧
            F.edns = (if (Spec.Server.specScanWith (catKind cfg) cfg.payload req).edns then some ⟨cfg.payload, 0⟩ else none) ∧
            mac = finishMac Server.macFn ⟨mode, ServerTsig.reservedLen mode rr, rr⟩
              (signedPrefix req cfg.payload (Spec.Server.specScanWith (catKind cfg) cfg.payload req) rc) ∧
            HdrView F { rcode := rc } := by
  intro nowT kn an rc mode rr hnow hkn han hrep hfit b hb
  have D : Decided cfg now t mw nowT kn an rc mode rr false := ⟨hnow, hkn, han, tsigDecision_stop hrep⟩
  obtain ⟨gP, hvP, _, _⟩ := preTsig_facts cfg tr bufLen req hbuf hpay hp16 hr
  have h3 : 3 < (preTsigState cfg tr bufLen req).octets.size := by
    have := preTsig_size cfg tr bufLen req hbuf hpay hr; omega
  obtain ⟨_, mac, hA, hfin⟩ := TsigRun.response cfg tr now bufLen req t mw r' question hrun b hb
  rw [tsigAfter_eq D r' _ h3, if_neg (fun h => Bool.false_ne_true h.1), stepSt_fits hfit] at hA
  cases hA
  obtain ⟨hrc, wk, wa, l1, l2⟩ := D.wf
  obtain ⟨gF, hvF, _⟩ := good_signed _ _ gP h3 hvP rc mode rr hfit (by rw [wk]; exact parse_wf hkn) wa l1 l2
  obtain ⟨hts, he, hmac⟩ := preTsig_signed cfg tr bufLen req hbuf hpay hr rc rc hrc hrc mode rr _ (Or.inl ⟨rfl, rfl⟩)
  exact ⟨_, mac, hfin, gF, hts, he, hmac b mac hfin, hvF⟩

include hp16 in
/-- authenticated, no-data verdict -/
theorem signed_nodata_final_of_run :
      ∀ r'' S, Server.tsigAfter cfg now t mw r' (preTsigState cfg tr bufLen req) = (.ok (some r''), S) →
      ∀ v, (v = Spec.Server.Verdict.formErr ∨ v = .notImp ∨ v = .refused ∨ v = .servFailZone) →
        endVerdict (catKind cfg) req.size (Spec.Server.specScanWith (catKind cfg) cfg.payload req).question
          r'.cursor ((req.getD 2 0).toNat / 8 % 16) = v →
      ∀ b, Server.handleMessage cfg tr now bufLen req = .ok (some b) →
        ∃ nowT alg key kn F mac, Tsig.TimeSigned.tryFromUnix now = some nowT ∧
          Tsig.Algorithm.fromName t.algorithm = some alg ∧ Server.findKey cfg.keys t.keyName alg = some key ∧
          WName.parse t.keyName = some (kn, []) ∧
          Tsig.verifyRequest Tsig.realHmac t mw.toList alg key.secret nowT = .ok () ∧
          ServerTsig.TsigFits (preTsigState cfg tr bufLen req) (.response (Server.toWriterAlg alg) t.mac key.secret)
            (ServerTsig.prepOf kn t nowT 0) ∧
          Writer.finish F Server.macFn = .ok (b, mac) ∧
          Good F (qBody (Spec.Server.specScanWith (catKind cfg) cfg.payload req).question) ∧
          F.tsig = some (respTsig alg key kn t nowT) ∧
          F.edns = (if (Spec.Server.specScanWith (catKind cfg) cfg.payload req).edns then some ⟨cfg.payload, 0⟩ else none) ∧
          mac = some (Server.macFn (respTsig alg key kn t nowT)
            (signedPrefix req cfg.payload (Spec.Server.specScanWith (catKind cfg) cfg.payload req)
              (Spec.Server.verdictRcode v).1)) ∧
          HdrView F { rcode := (Spec.Server.verdictRcode v).1 } := by
  intro r'' S hT v hvv hev b hb
  obtain ⟨gP, hvP, _, _⟩ := preTsig_facts cfg tr bufLen req hbuf hpay hp16 hr
  have h12 := preTsig_size cfg tr bufLen req hbuf hpay hr
  obtain ⟨nowT, alg, key, kn, hnow, ha, hk, hkn, hver, hfit, hS⟩ := tsigAfter_some_state cfg now t mw r' _ h12 r'' S hT
  have hne : v ≠ .answer := by rcases hvv with rfl | rfl | rfl | rfl <;> simp
  have hES : endState v S = stRcode (Spec.Server.verdictRcode v).1 S := by
    rcases hvv with rfl | rfl | rfl | rfl <;> rfl
  obtain ⟨_, mac, hA, hfin⟩ := TsigRun.response cfg tr now bufLen req t mw r' question hrun b hb
  rw [hT] at hA
  simp only [afterTsig, hev, if_neg hne, Prod.mk.injEq, true_and] at hA
  rw [hES, hS] at hA
  subst hA
  have hrc : (Spec.Server.verdictRcode v).1 < 16 := by rcases hvv with rfl | rfl | rfl | rfl <;> decide
  obtain ⟨l1, l2⟩ := prepOf_lengths kn t nowT 0
  obtain ⟨_, _, hgv⟩ := good_signed _ _ gP (by omega) hvP 0 _ _ hfit (parse_wf hkn) (algName_wf _) l1 l2
  obtain ⟨hts, he, hmac⟩ := preTsig_signed cfg tr bufLen req hbuf hpay hr 0 (Spec.Server.verdictRcode v).1 (by omega) hrc
    (.response (Server.toWriterAlg alg) t.mac key.secret) (ServerTsig.prepOf kn t nowT 0) _ (Or.inr rfl)
  exact ⟨nowT, alg, key, kn, _, mac, hnow, ha, hk, hkn, hver, hfit, hfin, (hgv _).1, hts, he,
    by rw [hmac b mac hfin]; rfl, (hgv _).2⟩

include hp16 in
/-- the reply TSIG does not fit -/
theorem signed_nofit_final_of_run :
      ∀ nowT kn, Tsig.TimeSigned.tryFromUnix now = some nowT → WName.parse t.keyName = some (kn, []) →
        NoFit cfg nowT t mw kn (preTsigState cfg tr bufLen req) →
        ∀ b, Server.handleMessage cfg tr now bufLen req = .ok (some b) →
          ∃ F mac, Writer.finish F Server.macFn = .ok (b, mac) ∧
            Good F (qBody (Spec.Server.specScanWith (catKind cfg) cfg.payload req).question) ∧
            F.tsig = none ∧
            F.edns =
              (if (Spec.Server.specScanWith (catKind cfg) cfg.payload req).edns then some ⟨cfg.payload, 0⟩ else none) ∧
            HdrView F { tc := true } := by
  intro nowT kn hnow hkn hnf b hb
  obtain ⟨gP, hvP, htP, heP⟩ := preTsig_facts cfg tr bufLen req hbuf hpay hp16 hr
  have h3 : 3 < (preTsigState cfg tr bufLen req).octets.size := by
    have := preTsig_size cfg tr bufLen req hbuf hpay hr; omega
  obtain ⟨an, rc, mode, rr, go, D, hf⟩ := hnf.decided hnow hkn
  obtain ⟨_, mac, hA, hfin⟩ := TsigRun.response cfg tr now bufLen req t mw r' question hrun b hb
  rw [tsigAfter_eq D r' _ h3, if_neg (fun h => hf h.2), stepSt_nofit hf] at hA
  cases hA
  refine ⟨_, mac, hfin, good_truncSt _ _ (good_stRcode rc _ _ gP h3) (by rw [stRcode_size]; exact h3), ?_, ?_,
    hdrView_truncSt rc _ h3 hvP⟩
  · rw [(truncSt_fields _).1, (stRcode_fields rc _).1, htP]
  · rw [(truncSt_fields _).2, (stRcode_fields rc _).2, heP]
    cases (Spec.Server.specScanWith (catKind cfg) cfg.payload req).edns <;> rfl

/-- **the four rows are exhaustive and mutually exclusive**: a run of `handle_message` on a request
    whose scan reaches a TSIG record, if it yields a response, falls into exactly one of: rejected and
    the reply fits; authenticated with a no-data verdict; authenticated and answered by a loaded zone;
    the reply TSIG does not fit -/
theorem rows_exhaustive (b : Bytes) (hb : Server.handleMessage cfg tr now bufLen req = .ok (some b)) :
    (RowRejected cfg tr now bufLen req t mw ∨ RowAuthNoData cfg tr now bufLen req t mw r' ∨
      RowAuthAnswer cfg tr now bufLen req t mw r' ∨ RowNoFit cfg tr now bufLen req t mw) ∧
    ¬ (RowRejected cfg tr now bufLen req t mw ∧ RowAuthNoData cfg tr now bufLen req t mw r') ∧
    ¬ (RowRejected cfg tr now bufLen req t mw ∧ RowAuthAnswer cfg tr now bufLen req t mw r') ∧
    ¬ (RowRejected cfg tr now bufLen req t mw ∧ RowNoFit cfg tr now bufLen req t mw) ∧
    ¬ (RowAuthNoData cfg tr now bufLen req t mw r' ∧ RowAuthAnswer cfg tr now bufLen req t mw r') ∧
    ¬ (RowAuthNoData cfg tr now bufLen req t mw r' ∧ RowNoFit cfg tr now bufLen req t mw) ∧
    ¬ (RowAuthAnswer cfg tr now bufLen req t mw r' ∧ RowNoFit cfg tr now bufLen req t mw) := by
  have h3 : 3 < (preTsigState cfg tr bufLen req).octets.size := by
    have := preTsig_size cfg tr bufLen req hbuf hpay hr; omega
  -- a response exists, so the step did not panic: it has decided
  obtain ⟨nowT, kn, an, rc, mode, rr, go, D⟩ : ∃ nowT kn an rc mode rr go, Decided cfg now t mw nowT kn an rc mode rr go := by
    obtain ⟨_, _, hA, _⟩ := TsigRun.response cfg tr now bufLen req t mw r' question hrun b hb
    rcases hT : Server.tsigAfter cfg now t mw r' (preTsigState cfg tr bufLen req) with ⟨(o | e | _), S⟩
    · exact decided_of_ok r' _ h3 o S hT
    · rw [hT] at hA; cases hA
    · rw [hT] at hA; cases hA
  obtain ⟨h1, h4, h2, h3'⟩ := rows_of_decided cfg tr now bufLen req t mw r' D h3
  rw [h1, h2, h3', h4]
  exact four_cases go _ _

include hp16 in
/-- **authenticated signed requests that a loaded zone answers, explicitly**: the request carries one
    question `q`; the TSIG step leaves the state `S` = `set_rcode(0)` + `set_tsig(response TSIG)` on
    the scan state; `S` is `Good`, `QueryReady`, has AA / TC / RCODE clear; and `handle_message` is
    `handle_query` on `S`, then `finish` -/
theorem signed_answer_state_of_run :
      ∀ r'' S, Server.tsigAfter cfg now t mw r' (preTsigState cfg tr bufLen req) = (.ok (some r''), S) →
        endVerdict (catKind cfg) req.size (Spec.Server.specScanWith (catKind cfg) cfg.payload req).question
          r'.cursor ((req.getD 2 0).toNat / 8 % 16) = .answer →
      ∀ b, Server.handleMessage cfg tr now bufLen req = .ok (some b) →
        ∃ q qn nowT alg key kn,
          (Spec.Server.specScanWith (catKind cfg) cfg.payload req).question = some q ∧
          WName.parse q.qname = some (qn, []) ∧
          ¬ (251 ≤ q.qtype ∧ q.qtype ≤ 254) ∧ q.qclass ≠ 255 ∧ catKind cfg q.qname q.qclass = some .loaded ∧
          Tsig.TimeSigned.tryFromUnix now = some nowT ∧
          Tsig.Algorithm.fromName t.algorithm = some alg ∧ Server.findKey cfg.keys t.keyName alg = some key ∧
          WName.parse t.keyName = some (kn, []) ∧
          Tsig.verifyRequest Tsig.realHmac t mw.toList alg key.secret nowT = .ok () ∧
          ServerTsig.TsigFits (preTsigState cfg tr bufLen req) (.response (Server.toWriterAlg alg) t.mac key.secret)
            (ServerTsig.prepOf kn t nowT 0) ∧
          S = ServerTsig.withTsig (stRcode 0 (scanState cfg tr bufLen req (Spec.Server.hdr req 0)
                (((req.getD 2 0).toNat &&& 120) >>> 3) (((req.getD 2 0).toNat &&& 1) != 0) q))
              (.response (Server.toWriterAlg alg) t.mac key.secret) (ServerTsig.prepOf kn t nowT 0) ∧
          Good S (qBody (some q)) ∧ QueryReady S qn ∧ HdrView S {} ∧
          (∀ bb w1, (Server.handleQuery cfg (some (qn, q.qtype, q.qclass)) tr >>= fun _ => (pure true : M Bool)) S = (.ok bb, w1) →
            w1.tsig = some (respTsig alg key kn t nowT) ∧
            w1.edns.map (·.payload) =
              (if (Spec.Server.specScanWith (catKind cfg) cfg.payload req).edns then some cfg.payload else none)) ∧
          (.ok (some b) : Out Unit (Option Bytes)) =
            match (Server.handleQuery cfg (some (qn, q.qtype, q.qclass)) tr >>= fun _ => (pure true : M Bool)) S with
            | (.ok true, w1) =>
              (match Writer.finish w1 Server.macFn with
               | .ok (bytes, _) => .ok (some bytes)
               | _ => .panic)
            | (.ok false, _) => .ok none
            | _ => .panic := by
  intro r'' S hT hev b hb
  obtain ⟨q, qn, _, hq0, _, hqn, c1, c2, c3, hP, gP, hqrP, hvP, h3⟩ :=
    answer_scanState cfg tr bufLen req hbuf hpay hp16 hr _ _ hev
  obtain ⟨nowT, alg, key, kn, hnow, ha, hk, hkn, hver, hfit, hS⟩ :=
    tsigAfter_some_state cfg now t mw r' _ (preTsig_size cfg tr bufLen req hbuf hpay hr) r'' S hT
  obtain ⟨hts, he, _⟩ := preTsig_signed cfg tr bufLen req hbuf hpay hr 0 0 (by omega) (by omega)
    (.response (Server.toWriterAlg alg) t.mac key.secret) (ServerTsig.prepOf kn t nowT 0) S (Or.inl ⟨hS, rfl⟩)
  obtain ⟨l1, l2⟩ := prepOf_lengths kn t nowT 0
  obtain ⟨gS, hvS, _⟩ := good_signed _ _ gP h3 hvP 0 _ _ hfit (parse_wf hkn) (algName_wf _) l1 l2
  have hqr := queryReady_withTsig _ qn hqrP _ _ ((stRcode_fits 0 _ _ _).mpr hfit) ⟨parse_wf hkn, algName_wf _, l1, l2⟩
  rw [← hS] at gS hvS hqr
  obtain ⟨_, _, hqrel, h4⟩ := hrun
  rw [hT, hb] at h4
  simp only [afterTsig, hev, if_true] at h4
  rw [hq0] at hqrel
  cases question with
  | none => exact absurd hqrel (by simp [QRel])
  | some qq =>
    obtain ⟨qn', qt, qc⟩ := qq
    obtain ⟨hqn', rfl, rfl⟩ := hqrel
    obtain rfl : qn = qn' := by rw [hqn] at hqn'; cases hqn'; rfl
    refine ⟨q, qn, nowT, alg, key, kn, hq0, hqn, c1, c2, c3, hnow, ha, hk, hkn, hver, hfit, by rw [← hP]; exact hS, gS, hqr,
      hvS, fun bb w1 hres => ?_, h4⟩
    -- the answering phase keeps the TSIG slot and the EDNS payload
    have hfr := framed_bind (k := true) (Server.framed_handleQuery 12 (by omega) cfg (some (qn, q.qtype, q.qclass)) tr)
      (fun _ => framed_pure 12 true) S gS.1.inv.hdr gS.1.inv.rr_lo
    rw [hres] at hfr
    obtain ⟨k1, k2⟩ := hfr.keep rfl
    refine ⟨k1.trans hts, ?_⟩
    rw [k2, he]
    cases (Spec.Server.specScanWith (catKind cfg) cfg.payload req).edns <;> rfl

include hcfg hp16 in
/-- **the writer handed to `finish` for an authenticated request that a loaded zone answers**, with
    everything the audit of the response needs: `Good` with a body that is — record for record — a view
    `v`; the header shows `v`; `v`'s RCODE is 0, 2 or 3; TC only over UDP and then with empty sections;
    own additional records are address records; the response TSIG is pending; the EDNS slot is set iff
    the scan reached an OPT, with the server's payload size and extended-RCODE octet 0 -/
theorem signed_answer_facts_of_run :
    ∀ r'' S, Server.tsigAfter cfg now t mw r' (preTsigState cfg tr bufLen req) = (.ok (some r''), S) →
      endVerdict (catKind cfg) req.size (Spec.Server.specScanWith (catKind cfg) cfg.payload req).question
        r'.cursor ((req.getD 2 0).toNat / 8 % 16) = .answer →
    ∀ b, Server.handleMessage cfg tr now bufLen req = .ok (some b) →
      ∃ nowT alg key kn F mac bd v, Tsig.TimeSigned.tryFromUnix now = some nowT ∧
        Tsig.Algorithm.fromName t.algorithm = some alg ∧ Server.findKey cfg.keys t.keyName alg = some key ∧
        WName.parse t.keyName = some (kn, []) ∧
        Tsig.verifyRequest Tsig.realHmac t mw.toList alg key.secret nowT = .ok () ∧
        ServerTsig.TsigFits (preTsigState cfg tr bufLen req) (.response (Server.toWriterAlg alg) t.mac key.secret)
          (ServerTsig.prepOf kn t nowT 0) ∧
        Writer.finish F Server.macFn = .ok (b, mac) ∧ Good F bd ∧
        bd.qs = (qBody (Spec.Server.specScanWith (catKind cfg) cfg.payload req).question).qs ∧
        (∀ r ∈ bd.ar, r.ty = 1 ∨ r.ty = 28) ∧
        BodyView bd v ∧ HdrView F v ∧ (v.rcode = 0 ∨ v.rcode = 2 ∨ v.rcode = 3) ∧
        (v.tc = true → tr = .udp ∧ v.answer = [] ∧ v.authority = [] ∧ v.additional = []) ∧
        F.tsig = some (respTsig alg key kn t nowT) ∧
        F.edns.map (·.payload) =
          (if (Spec.Server.specScanWith (catKind cfg) cfg.payload req).edns then some cfg.payload else none) ∧
        EdnsUp0 F := by
  intro r'' S hT hev b hb
  obtain ⟨q, qn, nowT, alg, key, kn, hq0, hqn, c1, c2, c3, e1, e2, e3, e4, e5, hfit, hS, gS, hqrS, hvS, hkeep, h4⟩ :=
    signed_answer_state_of_run cfg tr now bufLen req hbuf hpay hp16 hr t mw r' question hrun r'' S hT hev b hb
  have huS : EdnsUp0 S := by
    rw [hS]
    exact ednsUp0_of_eq (ednsUp0_stRcode 0 _) rfl
  obtain ⟨e, ze, hl, hk, hze, hz, hsub⟩ := loaded_zone_of_catKind cfg hcfg q qn hqn c3
  obtain ⟨hnp, hG, hH, hBV, hty, hst, hU⟩ := answer_exposed cfg tr qn (parse_wf hqn) q c1 c2 e hl hk ze hze hz hsub
    S gS hqrS hvS _ rfl
  obtain ⟨hfl1, hfl2⟩ := view_handle_flags ze.zone qn q.qtype tr S hnp
  obtain ⟨w1, mac, hh, hf⟩ := run_of_response _ h4
  obtain ⟨hts, he⟩ := hkeep true w1 hh
  rw [hh] at hst
  subst hst
  exact ⟨nowT, alg, key, kn, _, mac, _, _, e1, e2, e3, e4, e5, hfit, hf, hG, by rw [bodyOf_qs, hq0], hty, hBV, hH,
    hfl1, hfl2, hts, he, hU huS⟩

end

/-! ### the same, for the run that exists -/

/-- `signed_answer_state_of_run` for the TSIG record the scan reaches -/
theorem signed_answer_state (cfg : Cfg) (tr : Transport) (now bufLen : Nat) (req : Bytes)
    (hbuf : minBuf tr cfg.payload ≤ bufLen) (hpay : 512 ≤ cfg.payload) (hp16 : cfg.payload ≤ 65535)
    (hreq : req.size ≤ Rdata.USIZE_MAX)
    (hr : (Spec.Server.specScanWith (catKind cfg) cfg.payload req).respond = true)
    (hv : (Spec.Server.specScanWith (catKind cfg) cfg.payload req).verdict = .tsigReached) :
    ∃ (t : Tsig.ReadTsigRr) (mw : Bytes) (r' : Reader.Reader), r'.octets = req ∧ r'.cursor ≤ req.size ∧
      ∀ r'' S, Server.tsigAfter cfg now t mw r' (preTsigState cfg tr bufLen req) = (.ok (some r''), S) →
        endVerdict (catKind cfg) req.size (Spec.Server.specScanWith (catKind cfg) cfg.payload req).question
          r'.cursor ((req.getD 2 0).toNat / 8 % 16) = .answer →
      ∀ b, Server.handleMessage cfg tr now bufLen req = .ok (some b) →
        ∃ q qn nowT alg key kn,
          (Spec.Server.specScanWith (catKind cfg) cfg.payload req).question = some q ∧
          WName.parse q.qname = some (qn, []) ∧
          ¬ (251 ≤ q.qtype ∧ q.qtype ≤ 254) ∧ q.qclass ≠ 255 ∧ catKind cfg q.qname q.qclass = some .loaded ∧
          Tsig.TimeSigned.tryFromUnix now = some nowT ∧
          Tsig.Algorithm.fromName t.algorithm = some alg ∧ Server.findKey cfg.keys t.keyName alg = some key ∧
          WName.parse t.keyName = some (kn, []) ∧
          Tsig.verifyRequest Tsig.realHmac t mw.toList alg key.secret nowT = .ok () ∧
          S = ServerTsig.withTsig (stRcode 0 (scanState cfg tr bufLen req (Spec.Server.hdr req 0)
                (((req.getD 2 0).toNat &&& 120) >>> 3) (((req.getD 2 0).toNat &&& 1) != 0) q))
              (.response (Server.toWriterAlg alg) t.mac key.secret) (ServerTsig.prepOf kn t nowT 0) ∧
          Good S (qBody (some q)) ∧ QueryReady S qn ∧ HdrView S {} ∧
          (∀ bb w1, (Server.handleQuery cfg (some (qn, q.qtype, q.qclass)) tr >>= fun _ => (pure true : M Bool)) S = (.ok bb, w1) →
            w1.tsig = some (respTsig alg key kn t nowT) ∧
            w1.edns.map (·.payload) =
              (if (Spec.Server.specScanWith (catKind cfg) cfg.payload req).edns then some cfg.payload else none)) ∧
          (.ok (some b) : Out Unit (Option Bytes)) =
            match (Server.handleQuery cfg (some (qn, q.qtype, q.qclass)) tr >>= fun _ => (pure true : M Bool)) S with
            | (.ok true, w1) =>
              (match Writer.finish w1 Server.macFn with
               | .ok (bytes, _) => .ok (some bytes)
               | _ => .panic)
            | (.ok false, _) => .ok none
            | _ => .panic := by
  obtain ⟨t, mw, r', question, hrun⟩ := tsigRun_exists cfg tr now bufLen req hbuf hpay hreq hr hv
  refine ⟨t, mw, r', hrun.1, hrun.2.1, fun r'' S hT hev b hb => ?_⟩
  obtain ⟨q, qn, nowT, alg, key, kn, h1, h2, h3, h4, h5, h6, h7, h8, h9, h10, _, h12, h13, h14, h15, h16, h17⟩ :=
    signed_answer_state_of_run cfg tr now bufLen req hbuf hpay hp16 hr t mw r' question hrun r'' S hT hev b hb
  exact ⟨q, qn, nowT, alg, key, kn, h1, h2, h3, h4, h5, h6, h7, h8, h9, h10, h12, h13, h14, h15, h16, h17⟩

/-- **authenticated signed requests that a loaded zone answers**: the writer handed to `finish` is
    `Good` — the question, then the records of the successful `add_*` calls of the answering phase,
    address records only in the additional section — and it carries the response TSIG; its EDNS slot
    is set, with the server's payload size, iff the scan reached an OPT. -/
theorem signed_answer_final (cfg : Cfg) (hcfg : CfgWF cfg) (tr : Transport) (now bufLen : Nat) (req : Bytes)
    (hbuf : minBuf tr cfg.payload ≤ bufLen) (hpay : 512 ≤ cfg.payload) (hp16 : cfg.payload ≤ 65535)
    (hreq : req.size ≤ Rdata.USIZE_MAX)
    (hr : (Spec.Server.specScanWith (catKind cfg) cfg.payload req).respond = true)
    (hv : (Spec.Server.specScanWith (catKind cfg) cfg.payload req).verdict = .tsigReached) :
    ∃ (t : Tsig.ReadTsigRr) (mw : Bytes) (r' : Reader.Reader), r'.octets = req ∧ r'.cursor ≤ req.size ∧
      ∀ r'' S, Server.tsigAfter cfg now t mw r' (preTsigState cfg tr bufLen req) = (.ok (some r''), S) →
        endVerdict (catKind cfg) req.size (Spec.Server.specScanWith (catKind cfg) cfg.payload req).question
          r'.cursor ((req.getD 2 0).toNat / 8 % 16) = .answer →
      ∀ b, Server.handleMessage cfg tr now bufLen req = .ok (some b) →
        ∃ nowT alg key kn F mac bd, Tsig.TimeSigned.tryFromUnix now = some nowT ∧
          Tsig.Algorithm.fromName t.algorithm = some alg ∧ Server.findKey cfg.keys t.keyName alg = some key ∧
          WName.parse t.keyName = some (kn, []) ∧
          Tsig.verifyRequest Tsig.realHmac t mw.toList alg key.secret nowT = .ok () ∧
          Writer.finish F Server.macFn = .ok (b, mac) ∧ Good F bd ∧
          bd.qs = (qBody (Spec.Server.specScanWith (catKind cfg) cfg.payload req).question).qs ∧
          (∀ r ∈ bd.ar, r.ty = 1 ∨ r.ty = 28) ∧
          F.tsig = some (respTsig alg key kn t nowT) ∧
          F.edns.map (·.payload) =
            (if (Spec.Server.specScanWith (catKind cfg) cfg.payload req).edns then some cfg.payload else none) := by
  obtain ⟨t, mw, r', question, hrun⟩ := tsigRun_exists cfg tr now bufLen req hbuf hpay hreq hr hv
  refine ⟨t, mw, r', hrun.1, hrun.2.1, fun r'' S hT hev b hb => ?_⟩
  obtain ⟨nowT, alg, key, kn, F, mac, bd, _, e1, e2, e3, e4, e5, _, hf, hG, hqs, hty, _, _, _, _, hts, he, _⟩ :=
    signed_answer_facts_of_run cfg hcfg tr now bufLen req hbuf hpay hp16 hr t mw r' question hrun r'' S hT hev b hb
  exact ⟨nowT, alg, key, kn, F, mac, bd, e1, e2, e3, e4, e5, hf, hG, hqs, hty, hts, he⟩

/-! ### responses without a TSIG record; every response decodes -/

/-- a `Good` final writer without a pending TSIG whose own additional records are address records:
    no decoding of what `finish` returns has a record of type 250, and a decoding exists -/
theorem no_tsig_of_good (F : State) (bd : Body) (hG : Good F bd) (hts : F.tsig = none)
    (hty : ∀ r ∈ bd.ar, r.ty = 1 ∨ r.ty = 28) (b : Bytes) (mac : Option (List UInt8))
    (hf : Writer.finish F Server.macFn = .ok (b, mac)) (d : DMsg) (hd : specDecodeMsg b = some d) :
    ∀ o ∈ d.ar, o.ty ≠ 250 := by
  obtain ⟨dar, dopt, dts, e, har, hopt, htsd⟩ := (decoded_of_good' Server.macFn F bd hG b mac hf d hd).ar
  rw [hts] at htsd
  cases htsd
  intro o ho
  rw [e, List.append_nil] at ho
  rcases List.mem_append.mp ho with h | h
  · obtain ⟨r, hr, hor⟩ := har.ty o h
    rcases hty r hr with h1 | h1 <;> (rw [hor, h1]; decide)
  · rw [(hopt.mem o h).1]; decide

theorem decodes_of_good (F : State) (bd : Body) (hG : Good F bd) (b : Bytes) (mac : Option (List UInt8))
    (hf : Writer.finish F Server.macFn = .ok (b, mac)) : ∃ d, specDecodeMsg b = some d := by
  obtain ⟨d, hd, _⟩ := decoded_of_good Server.macFn F bd hG b mac hf
  exact ⟨d, hd⟩

/-- **a response to a request whose scan does not reach a TSIG record carries no TSIG record** -/
theorem unsigned_no_tsig (cfg : Cfg) (hcfg : CfgWF cfg) (tr : Transport) (now bufLen : Nat) (req : Bytes)
    (hbuf : minBuf tr cfg.payload ≤ bufLen) (hpay : 512 ≤ cfg.payload) (hp16 : cfg.payload ≤ 65535)
    (hreq : req.size ≤ Rdata.USIZE_MAX)
    (hr : (Spec.Server.specScanWith (catKind cfg) cfg.payload req).respond = true)
    (hv : (Spec.Server.specScanWith (catKind cfg) cfg.payload req).verdict ≠ .tsigReached)
    (b : Bytes) (hb : Server.handleMessage cfg tr now bufLen req = .ok (some b))
    (d : DMsg) (hd : specDecodeMsg b = some d) : ∀ o ∈ d.ar, o.ty ≠ 250 := by
  by_cases hnd : noDataV (Spec.Server.specScanWith (catKind cfg) cfg.payload req).verdict = true
  · obtain ⟨F, b', mac, hb', hf, hG, hts, _⟩ := unsigned_nodata_final cfg tr now bufLen req hbuf hpay hp16 hreq hr hnd
    rw [hb] at hb'
    simp only [Out.ok.injEq, Option.some.injEq] at hb'
    subst hb'
    exact no_tsig_of_good F _ hG hts (by rw [(qBody_norecs _).2.2]; simp) b mac hf d hd
  · have hva : (Spec.Server.specScanWith (catKind cfg) cfg.payload req).verdict = .answer := by
      cases hx : (Spec.Server.specScanWith (catKind cfg) cfg.payload req).verdict <;> rw [hx] at hnd hv <;>
        first | rfl | exact absurd rfl hv | exact absurd rfl hnd
    obtain ⟨h12, _, hsb, w1, mac, hh, hf⟩ := handleMessage_some cfg tr now bufLen req hbuf hpay b hb (catKind cfg) cfg.payload
    rw [hsb] at hva
    obtain ⟨hts, _⟩ := hwc_answer_slot cfg tr now bufLen req hbuf hpay h12 hreq (Spec.Server.hdr req 0)
      (((req.getD 2 0).toNat &&& 120) >>> 3) (((req.getD 2 0).toNat &&& 1) != 0) hva
    obtain ⟨bd, hG, _, hty⟩ := answer_final_good cfg hcfg tr now bufLen req hbuf hpay hp16 h12 hreq
      (Spec.Server.hdr req 0) (((req.getD 2 0).toNat &&& 120) >>> 3) (((req.getD 2 0).toNat &&& 1) != 0) hva
    rw [hh] at hts hG
    exact no_tsig_of_good w1 bd hG hts hty b mac hf d hd

/-! ### the decoded TSIG record, field by field -/

theorem finishMac_length (ts : Writer.Tsig) (pre : List UInt8) :
    ((finishMac Server.macFn ts pre).getD []).length < 65536 := by
  have hm := macLenOK_server hmacLenOK ts pre
  unfold finishMac
  cases hmode : ts.mode with
  | unsigned n => simp
  | request a _ | response a _ _ | subsequent a _ _ =>
    simp only [Option.getD_some]; rw [hmode] at hm; simp only at hm; cases a <;> simp only [algOutputSize] at hm <;> omega

/-- **a `Good` final writer with a pending TSIG, decoded field by field**: RCODE / AA / TC as the
    header shows; the last additional record is the TSIG record, and the specification's RFC 8945
    §4.2 reader (`Spec.Tsig.parseRdata`) reads from its RDATA exactly the fields of the recorded RR:
    algorithm name, time signed, fudge, the MAC `finish` computed, original ID, error, other data
    (the server time iff the error is BADTIME) -/
theorem tsig_fields_of_good (F : State) (bd : Body) (hG : Good F bd) (ts : Writer.Tsig) (hts : F.tsig = some ts)
    (hwf : (tsigAlgName ts.mode).WF) (l1 : ts.rr.timeSigned.length = 6) (l2 : ts.rr.serverTime.length = 6)
    (v : View) (hh : HdrView F v) (b : Bytes) (mac : Option (List UInt8))
    (hf : Writer.finish F Server.macFn = .ok (b, mac)) (d : DMsg) (hd : specDecodeMsg b = some d) :
    d.rcode = v.rcode % 16 ∧ d.aa = v.aa ∧ d.tc = v.tc ∧
    ∃ rest o, d.ar = rest ++ [o] ∧ o.ty = 250 ∧ o.cls = 255 ∧ o.rawTtl = 0 ∧
      Spec.Tsig.parseRdata o.rdata = some ⟨(tsigAlgName ts.mode).labels, Spec.Tsig.nat48 ts.rr.timeSigned,
        ts.rr.fudge % 65536, mac.getD [], ts.rr.originalId % 65536, ts.rr.error % 65536,
        if ts.rr.error = XR_BADTIME then ts.rr.serverTime else []⟩ := by
  obtain ⟨g1, g2, g3⟩ := (decoded_of_good' Server.macFn F bd hG b mac hf d hd).hdr v hh
  obtain ⟨rest, o, e1, e2, e3, e4, _, e6, _, _⟩ := tsig_of_good Server.macFn F bd hG ts hts b mac hf d hd
  obtain ⟨_, hmac, _⟩ := finish_octets_tsig Server.macFn F hG.1.inv.hdr ts hts b mac hf
  refine ⟨g1, g2, g3, rest, o, e1, e2, e3, e4, ?_⟩
  rw [e6]
  exact parseRdata_tsigRdata ts.rr (tsigAlgName ts.mode) (mac.getD []) hwf l1 l2 (by rw [hmac]; exact finishMac_length ts _)

open QV.ServerTsig in
/-- what the decision table prescribes for a rejected request: the prepared RR with error BADSIG (16),
    BADKEY (17) or BADTIME (18), RCODE NOTAUTH (9) or FORMERR (1) -/
theorem tsigStopReply_prep {hm : Tsig.Algorithm → Tsig.Octets → Tsig.Octets → Tsig.Octets} {keys : List Server.Key}
    {nowT : Tsig.TimeSigned} {r : Tsig.ReadTsigRr} {msg : List UInt8} {kn an : WName} {rc : Nat} {mode : TsigMode}
    {rr : TsigRr} (h : tsigStopReply hm keys nowT r msg kn an = some (rc, mode, rr)) :
    (rc = 9 ∨ rc = 1) ∧ ∃ e, (e = 16 ∨ e = 17 ∨ e = 18) ∧ rr = prepOf kn r nowT e := by
  rcases tsigDecision_cases (tsigDecision_stop h) with ⟨_, _, rfl, _, rfl⟩ |
    ⟨a, key, _, _, ⟨_, hg, _⟩ | ⟨_, _, rfl, _, rfl⟩ | ⟨_, _, rfl, _, rfl⟩ | ⟨_, _, rfl, _, rfl⟩⟩
  · exact ⟨Or.inl rfl, 17, Or.inr (Or.inl rfl), rfl⟩
  · cases hg
  · exact ⟨Or.inr rfl, 16, Or.inl rfl, rfl⟩
  · exact ⟨Or.inl rfl, 16, Or.inl rfl, rfl⟩
  · exact ⟨Or.inl rfl, 18, Or.inr (Or.inr rfl), rfl⟩

/-- **an answer with a TSIG record, decoded**: header and answer / authority sections as the view
    says; the additional section is the view's (address records), then the OPT (iff set, extended-RCODE
    octet 0), then — last — the TSIG record, whose owner is the key name up to case and whose RDATA
    reads back field by field -/
theorem decoded_answer_tsig (F : State) (bd : Body) (v : View) (hG : Good F bd)
    (hty : ∀ r ∈ bd.ar, r.ty = 1 ∨ r.ty = 28) (hbv : BodyView bd v) (hh : HdrView F v)
    (ts : Writer.Tsig) (hts : F.tsig = some ts) (hwf : (tsigAlgName ts.mode).WF)
    (l1 : ts.rr.timeSigned.length = 6) (l2 : ts.rr.serverTime.length = 6) (hup : EdnsUp0 F)
    (b : Bytes) (mac : Option (List UInt8)) (hf : Writer.finish F Server.macFn = .ok (b, mac))
    (d : DMsg) (hd : specDecodeMsg b = some d) :
    d.rcode = v.rcode % 16 ∧ d.aa = v.aa ∧ d.tc = v.tc ∧
    All2 RRMatch v.answer d.an ∧ All2 RRMatch v.authority d.ns ∧
    (∀ x ∈ d.ar, x.ty = 41 → x.rawTtl / 16777216 = 0) ∧
    ∃ ar' opt o, d.ar = ar' ++ opt ++ [o] ∧ All2 RRMatch v.additional ar' ∧
      (∀ x ∈ ar', x.ty = 1 ∨ x.ty = 28) ∧ (∀ x ∈ opt, x.ty = 41) ∧
      o.ty = 250 ∧ o.cls = 255 ∧ o.rawTtl = 0 ∧
      o.owner.map lowerU8 = ts.rr.keyName.wire.map lowerU8 ∧
      Spec.Tsig.parseRdata o.rdata = some ⟨(tsigAlgName ts.mode).labels, Spec.Tsig.nat48 ts.rr.timeSigned,
        ts.rr.fudge % 65536, mac.getD [], ts.rr.originalId % 65536, ts.rr.error % 65536,
        if ts.rr.error = XR_BADTIME then ts.rr.serverTime else []⟩ := by
  have D := decoded_of_good' Server.macFn F bd hG b mac hf d hd
  obtain ⟨g1, g2, g3⟩ := D.hdr v hh
  obtain ⟨v1, v2, v3⟩ := hbv
  obtain ⟨dar, dopt, dts, e, har, hopt, htsd⟩ := D.ar
  rw [hts] at htsd
  cases htsd with
  | some _ o ty cls ttl owner rdata _ =>
    obtain ⟨_, hmac, _⟩ := finish_octets_tsig Server.macFn F hG.1.inv.hdr ts hts b mac hf
    refine ⟨g1, g2, g3, D.an.view _ v1, D.ns.view _ v2, fun x hx hty41 => ?_, dar, dopt, o, e, har.view _ v3,
      fun x hx => ?_, fun x hx => (hopt.mem x hx).1, ty, cls, ttl, owner, ?_⟩
    · -- a type-41 record is the OPT record, whose extended-RCODE octet is 0
      rw [e] at hx
      rcases List.mem_append.mp hx with h | h
      · rcases List.mem_append.mp h with h | h
        · obtain ⟨r, hr, hor⟩ := har.ty x h
          rcases hty r hr with h1 | h1 <;> rw [hor, h1] at hty41 <;> cases hty41
        · obtain ⟨_, ee, hee, _, _, hr⟩ := hopt.mem x h
          rw [hr, hup ee hee]
      · rw [List.mem_singleton.mp h, ty] at hty41; cases hty41
    · obtain ⟨r, hr, hor⟩ := har.ty x hx
      rcases hty r hr with h1 | h1 <;> rw [hor, h1] <;> simp
    · rw [rdata]
      exact parseRdata_tsigRdata ts.rr (tsigAlgName ts.mode) (mac.getD []) hwf l1 l2
        (by rw [hmac]; exact finishMac_length ts _)

/-! ### every response to a request whose scan reaches a TSIG record -/

/-- **every response to a signed request** (verdict `tsigReached`: rejected or authenticated, reply
    TSIG fitting or not, no-data verdict or answered by a loaded zone): the writer handed to `finish`
    is `Good`, its questions are the request's question, its own additional records are address
    records, and its EDNS slot is set — with the server's payload size — iff the scan reached an OPT -/
theorem signed_final_good (cfg : Cfg) (hcfg : CfgWF cfg) (tr : Transport) (now bufLen : Nat) (req : Bytes)
    (hbuf : minBuf tr cfg.payload ≤ bufLen) (hpay : 512 ≤ cfg.payload) (hp16 : cfg.payload ≤ 65535)
    (hreq : req.size ≤ Rdata.USIZE_MAX)
    (hr : (Spec.Server.specScanWith (catKind cfg) cfg.payload req).respond = true)
    (hv : (Spec.Server.specScanWith (catKind cfg) cfg.payload req).verdict = .tsigReached)
    (b : Bytes) (hb : Server.handleMessage cfg tr now bufLen req = .ok (some b)) :
    ∃ F mac bd, Writer.finish F Server.macFn = .ok (b, mac) ∧ Good F bd ∧
      bd.qs = (qBody (Spec.Server.specScanWith (catKind cfg) cfg.payload req).question).qs ∧
      (∀ r ∈ bd.ar, r.ty = 1 ∨ r.ty = 28) ∧
      F.edns.map (·.payload) =
        (if (Spec.Server.specScanWith (catKind cfg) cfg.payload req).edns then some cfg.payload else none) := by
  obtain ⟨t, mw, r', question, hrun⟩ := tsigRun_exists cfg tr now bufLen req hbuf hpay hreq hr hv
  -- the three no-data rows: the body is the question, the EDNS slot is known in full
  have nodata : ∀ F mac, Writer.finish F Server.macFn = .ok (b, mac) →
      Good F (qBody (Spec.Server.specScanWith (catKind cfg) cfg.payload req).question) →
      F.edns = (if (Spec.Server.specScanWith (catKind cfg) cfg.payload req).edns then some ⟨cfg.payload, 0⟩ else none) →
      ∃ F mac bd, Writer.finish F Server.macFn = .ok (b, mac) ∧ Good F bd ∧
        bd.qs = (qBody (Spec.Server.specScanWith (catKind cfg) cfg.payload req).question).qs ∧
        (∀ r ∈ bd.ar, r.ty = 1 ∨ r.ty = 28) ∧
        F.edns.map (·.payload) =
          (if (Spec.Server.specScanWith (catKind cfg) cfg.payload req).edns then some cfg.payload else none) := by
    intro F mac hf hG he
    refine ⟨F, mac, _, hf, hG, rfl, fun r hr => ?_, ?_⟩
    · rw [(qBody_norecs _).2.2] at hr; cases hr
    · rw [he]
      cases (Spec.Server.specScanWith (catKind cfg) cfg.payload req).edns <;> rfl
  rcases (rows_exhaustive cfg tr now bufLen req hbuf hpay hr t mw r' question hrun b hb).1 with
    ⟨nowT, kn, an, rc, mode, rr, hnow, hkn, han, hrep, hfit⟩ | ⟨r'', S, v, hT, hvv, hev⟩ | ⟨r'', S, hT, hev⟩ |
    ⟨nowT, kn, hnow, hkn, hnf⟩
  · obtain ⟨F, mac, hf, hG, _, he, _⟩ := signed_error_final_of_run cfg tr now bufLen req hbuf hpay hp16 hr t mw r' question
      hrun nowT kn an rc mode rr hnow hkn han hrep hfit b hb
    exact nodata F mac hf hG he
  · obtain ⟨_, _, _, _, F, mac, _, _, _, _, _, _, hf, hG, _, he, _⟩ := signed_nodata_final_of_run cfg tr now bufLen req hbuf
      hpay hp16 hr t mw r' question hrun r'' S hT v hvv hev b hb
    exact nodata F mac hf hG he
  · obtain ⟨_, _, _, _, F, mac, bd, _, _, _, _, _, _, _, hf, hG, hqs, hty, _, _, _, _, _, he, _⟩ :=
      signed_answer_facts_of_run cfg hcfg tr now bufLen req hbuf hpay hp16 hr t mw r' question hrun r'' S hT hev b hb
    exact ⟨F, mac, bd, hf, hG, hqs, hty, he⟩
  · obtain ⟨F, mac, hf, hG, _, he, _⟩ := signed_nofit_final_of_run cfg tr now bufLen req hbuf hpay hp16 hr t mw r' question
      hrun nowT kn hnow hkn hnf b hb
    exact nodata F mac hf hG he

/-- **a request whose scan reaches a TSIG record gets a response, and the response decodes** -/
theorem signed_response_decodes (cfg : Cfg) (hcfg : CfgWF cfg) (tr : Transport) (now bufLen : Nat) (req : Bytes)
    (hbuf : minBuf tr cfg.payload ≤ bufLen) (hpay : 512 ≤ cfg.payload) (hp16 : cfg.payload ≤ 65535)
    (hreq : req.size ≤ Rdata.USIZE_MAX)
    (hr : (Spec.Server.specScanWith (catKind cfg) cfg.payload req).respond = true)
    (hv : (Spec.Server.specScanWith (catKind cfg) cfg.payload req).verdict = .tsigReached)
    (hnp : Server.handleMessage cfg tr now bufLen req ≠ .panic) :
    ∃ b d, Server.handleMessage cfg tr now bufLen req = .ok (some b) ∧ specDecodeMsg b = some d := by
  obtain ⟨t, mw, r', question, _, _, _, h4, _⟩ := handleMessage_tsig_eq cfg tr now bufLen req hbuf hpay hreq hr hv
  have hsome : ∃ b, Server.handleMessage cfg tr now bufLen req = .ok (some b) := by
    rcases hm : Server.handleMessage cfg tr now bufLen req with (_ | b) | e | _
    · have := (handleMessage_none_iff cfg tr now bufLen req hbuf hpay (catKind cfg)).mp hm
      rw [hr] at this; cases this
    · exact ⟨b, rfl⟩
    · exfalso
      rw [hm] at h4
      generalize afterTsig _ _ _ _ _ _ _ _ = X at h4
      rcases X with ⟨(bb | x | _), w1⟩
      · cases bb
        · cases h4
        · simp only at h4
          generalize Writer.finish w1 Server.macFn = f at h4
          rcases f with ⟨b, m⟩ | x | _ <;> cases h4
      · cases h4
      · cases h4
    · exact absurd hm hnp
  obtain ⟨b, hb⟩ := hsome
  obtain ⟨F, mac, bd, hf, hG, _⟩ := signed_final_good cfg hcfg tr now bufLen req hbuf hpay hp16 hreq hr hv b hb
  obtain ⟨d, hd⟩ := decodes_of_good F bd hG b mac hf
  exact ⟨b, d, hb, hd⟩

end QV.ServerContent

namespace QV.ServerScan
open QV QV.Wire QV.Reader QV.Writer QV.Server QV.ServerSafety QV.ServerContent QV.ServerTsig

/-! ### the no-data rows, for the run that exists -/

/-- `signed_nodata_final_of_run` for the TSIG record the scan reaches (`tsigRun_exists`) -/
theorem signed_nodata_final (cfg : Server.Cfg) (tr : Server.Transport) (now bufLen : Nat) (req : Bytes)
    (hbuf : minBuf tr cfg.payload ≤ bufLen) (hpay : 512 ≤ cfg.payload) (hp16 : cfg.payload ≤ 65535)
    (hreq : req.size ≤ Rdata.USIZE_MAX)
    (hr : (Spec.Server.specScanWith (catKind cfg) cfg.payload req).respond = true)
    (hv : (Spec.Server.specScanWith (catKind cfg) cfg.payload req).verdict = .tsigReached) :
    ∃ (t : Tsig.ReadTsigRr) (mw : Bytes) (r' : Reader), r'.octets = req ∧ r'.cursor ≤ req.size ∧
      ∀ r'' S, Server.tsigAfter cfg now t mw r' (preTsigState cfg tr bufLen req) = (.ok (some r''), S) →
      ∀ v, (v = Spec.Server.Verdict.formErr ∨ v = .notImp ∨ v = .refused ∨ v = .servFailZone) →
        endVerdict (catKind cfg) req.size (Spec.Server.specScanWith (catKind cfg) cfg.payload req).question r'.cursor
          ((req.getD 2 0).toNat / 8 % 16) = v →
      ∀ b, Server.handleMessage cfg tr now bufLen req = .ok (some b) →
      ∃ nowT alg key kn F mac,
        Tsig.TimeSigned.tryFromUnix now = some nowT ∧ Tsig.Algorithm.fromName t.algorithm = some alg ∧
        Server.findKey cfg.keys t.keyName alg = some key ∧ WName.parse t.keyName = some (kn, []) ∧
        Tsig.verifyRequest Tsig.realHmac t mw.toList alg key.secret nowT = .ok () ∧
        Writer.finish F Server.macFn = .ok (b, mac) ∧
        Good F (qBody (Spec.Server.specScanWith (catKind cfg) cfg.payload req).question) ∧
        F.tsig = some (respTsig alg key kn t nowT) ∧
        F.edns = (if (Spec.Server.specScanWith (catKind cfg) cfg.payload req).edns then some ⟨cfg.payload, 0⟩ else none) ∧
        mac = some (Server.macFn (respTsig alg key kn t nowT)
          (signedPrefix req cfg.payload (Spec.Server.specScanWith (catKind cfg) cfg.payload req)
            (Spec.Server.verdictRcode v).1)) := by
  obtain ⟨t, mw, r', q, hrun⟩ := tsigRun_exists cfg tr now bufLen req hbuf hpay hreq hr hv
  refine ⟨t, mw, r', hrun.1, hrun.2.1, fun r'' S hS v hv' he b hb => ?_⟩
  obtain ⟨nowT, alg, key, kn, F, mac, h1, h2, h3, h4, h5, _, h6, h7, h8, h9, h10, _⟩ :=
    signed_nodata_final_of_run cfg tr now bufLen req hbuf hpay hp16 hr t mw r' q hrun r'' S hS v hv' he b hb
  exact ⟨nowT, alg, key, kn, F, mac, h1, h2, h3, h4, h5, h6, h7, h8, h9, h10⟩

/-- `signed_error_final_of_run` for the TSIG record the scan reaches -/
theorem signed_error_final (cfg : Server.Cfg) (tr : Server.Transport) (now bufLen : Nat) (req : Bytes)
    (hbuf : minBuf tr cfg.payload ≤ bufLen) (hpay : 512 ≤ cfg.payload) (hp16 : cfg.payload ≤ 65535)
    (hreq : req.size ≤ Rdata.USIZE_MAX)
    (hr : (Spec.Server.specScanWith (catKind cfg) cfg.payload req).respond = true)
    (hv : (Spec.Server.specScanWith (catKind cfg) cfg.payload req).verdict = .tsigReached) :
    ∃ (t : Tsig.ReadTsigRr) (mw : Bytes) (r' : Reader), r'.octets = req ∧ r'.cursor ≤ req.size ∧
      ∀ nowT kn an rc mode rr, Tsig.TimeSigned.tryFromUnix now = some nowT →
        WName.parse t.keyName = some (kn, []) → WName.parse t.algorithm = some (an, []) →
        tsigStopReply Tsig.realHmac cfg.keys nowT t mw.toList kn an = some (rc, mode, rr) →
        ServerTsig.TsigFits (preTsigState cfg tr bufLen req) mode rr →
        ∀ b, Server.handleMessage cfg tr now bufLen req = .ok (some b) →
        ∃ F mac, Writer.finish F Server.macFn = .ok (b, mac) ∧
          Good F (qBody (Spec.Server.specScanWith (catKind cfg) cfg.payload req).question) ∧
          F.tsig = some ⟨mode, ServerTsig.reservedLen mode rr, rr⟩ ∧
          F.edns = (if (Spec.Server.specScanWith (catKind cfg) cfg.payload req).edns then some ⟨cfg.payload, 0⟩ else none) ∧
          mac = finishMac Server.macFn ⟨mode, ServerTsig.reservedLen mode rr, rr⟩
            (signedPrefix req cfg.payload (Spec.Server.specScanWith (catKind cfg) cfg.payload req) rc) := by
  obtain ⟨t, mw, r', q, hrun⟩ := tsigRun_exists cfg tr now bufLen req hbuf hpay hreq hr hv
  refine ⟨t, mw, r', hrun.1, hrun.2.1, fun nowT kn an rc mode rr a1 a2 a3 a4 a5 b hb => ?_⟩
  obtain ⟨F, mac, h1, h2, h3, h4, h5, _⟩ :=
    signed_error_final_of_run cfg tr now bufLen req hbuf hpay hp16 hr t mw r' q hrun nowT kn an rc mode rr a1 a2 a3 a4 a5 b hb
  exact ⟨F, mac, h1, h2, h3, h4, h5⟩

end QV.ServerScan
