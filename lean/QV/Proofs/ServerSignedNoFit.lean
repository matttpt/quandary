/-
  QV.Proofs.ServerSignedNoFit — the reply to a signed request whose response TSIG record does not
  fit (`set_tsig_or_truncate`, the repair of D03; RFC 8945 §5.3): the writer handed to `finish` is
  the scan state with RCODE 0 and TC set and no TSIG pending; it is `Good`, so every decoding of the
  response has TC set, RCODE 0, empty answer and authority sections, and an additional section that
  is the OPT record iff the scan reached one — no TSIG record.
-/
import QV.Proofs.ServerAnswerDecode

namespace QV.ServerContent
open QV QV.Writer QV.Server QV.ServerSafety QV.ServerScan QV.ServerAnswer QV.Spec.Resolve QV.Spec QV.ServerTsig

/-! ### the final writer -/

theorem good_truncSt (s : State) (b : Body) (h : Good s b) (h3 : 3 < s.octets.size) : Good (truncSt s) b := by
  have g1 := good_stRcode 0 s b h h3
  exact good_liftW (.setTc true) (Writer.setTc true) _ _ b g1 (fun _ => rfl)
    (setBit_eq Gen.TC_BYTE Gen.TC_MASK true _ (by rw [stRcode_size]; show 2 < _; omega)) trivial
    (by show (stRcode 0 s).limit ≤ _; rw [stRcode_limit]; exact h.2.1)

/-- after the truncating reply the header shows RCODE 0, AA clear, TC set -/
theorem hdrView_truncSt (rc : Nat) (s : State) (h3 : 3 < s.octets.size) (h : HdrView s {}) :
    HdrView (truncSt (stRcode rc s)) { tc := true } := by
  have h1 := ((hdrStep_setRcode rc) s {} h).1
  rw [setRcode_eq rc s h3] at h1
  have h1' := h1 rfl
  have h2 := ((hdrStep_setRcode 0) _ _ h1').1
  rw [setRcode_eq 0 _ (by rw [stRcode_size]; exact h3)] at h2
  have h2' := h2 rfl
  have h4 := ((hdrStep_setTc true) _ _ h2').1
  have e : Writer.setTc true (stRcode 0 (stRcode rc s)) = (.ok (), truncSt (stRcode rc s)) :=
    setBit_eq Gen.TC_BYTE Gen.TC_MASK true _ (by rw [stRcode_size, stRcode_size]; show 2 < _; omega)
  rw [e] at h4
  exact h4 rfl

/-- the reply's TSIG record does not fit: the request is rejected by the decision table and the
    prescribed reply does not fit, or it is authenticated and the response TSIG does not fit -/
def NoFit (cfg : Cfg) (nowT : Tsig.TimeSigned) (t : Tsig.ReadTsigRr) (mw : Bytes) (kn : WName) (S0 : State) : Prop :=
  (∃ an rc mode rr, WName.parse t.algorithm = some (an, []) ∧
    tsigStopReply Tsig.realHmac cfg.keys nowT t mw.toList kn an = some (rc, mode, rr) ∧ ¬ TsigFits S0 mode rr) ∨
  (∃ alg key, Tsig.Algorithm.fromName t.algorithm = some alg ∧ Server.findKey cfg.keys t.keyName alg = some key ∧
    Tsig.verifyRequest Tsig.realHmac t mw.toList alg key.secret nowT = .ok () ∧
    ¬ TsigFits S0 (.response (Server.toWriterAlg alg) t.mac key.secret) (prepOf kn t nowT 0))

/-- **the truncating reply, decoded**: TC set, RCODE 0, AA clear, no answer or authority data, and
    an additional section that is exactly the OPT record iff the scan reached one — in particular no
    TSIG record -/
theorem decoded_nofit (F : State) (qb : Body) (hq : qb.an = [] ∧ qb.ns = [] ∧ qb.ar = []) (hG : Good F qb)
    (hts : F.tsig = none) (hh : HdrView F { tc := true }) (b : Bytes) (mac : Option (List UInt8))
    (hf : Writer.finish F Server.macFn = .ok (b, mac)) (d : DMsg) (hd : specDecodeMsg b = some d) :
    d.tc = true ∧ d.rcode = 0 ∧ d.aa = false ∧ d.an = [] ∧ d.ns = [] ∧
    d.ar.length = (if F.edns.isSome then 1 else 0) ∧ ∀ o ∈ d.ar, o.ty = 41 := by
  have hbv : BodyView qb { tc := true } := ⟨by rw [hq.1]; rfl, by rw [hq.2.1]; rfl, by rw [hq.2.2]; rfl⟩
  obtain ⟨r1, r2, r3, r4, r5, ar', opt, r6, r7, r8, r9⟩ := decoded_of_good_view F qb _ hG hbv hts hh b mac hf d hd
  have e1 : d.an = [] := List.length_eq_zero_iff.mp r4.length.symm
  have e2 : d.ns = [] := List.length_eq_zero_iff.mp r5.length.symm
  have e3 : ar' = [] := List.length_eq_zero_iff.mp r7.length.symm
  subst e3
  rw [List.nil_append] at r6
  exact ⟨r3, r1, r2, e1, e2, by rw [r6]; exact r8, by rw [r6]; exact r9⟩

end QV.ServerContent
