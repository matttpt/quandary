/-
  QV.Proofs.ServerAnswerTypes — what the answer phase can put into the additional section: only
  address records. Every `add_additional_rrset` call of query.rs is made by `add_additional_addresses`
  with type A, or AAAA (class IN) — for every zone, query and writer behaviour. Hence no record of
  another type (in particular no OPT / TSIG-typed record stored in a zone) can reach the additional
  section from zone data (helper of C09).
-/
import QV.Proofs.ServerAnswerProg

namespace QV.ServerAnswer
open QV QV.Writer QV.Server QV.Zone

/-- a logged call that adds to the additional section adds A or AAAA records -/
def AddrTy (e : Ev) : Prop := ∀ a, e = .add a → a.sec = .additional → a.ty = Gen.T_A ∨ a.ty = Gen.T_AAAA

theorem Prog.logsT {Ty : Nat → Prop} {α : Type} {m : PM α} {r r' : Nat} (h : Prog (AnsAdd Ty) m r r') :
    Logs m AddrTy (fun _ => True) := by
  refine h.logs (fun a r ha x hx hs => ?_) (fun b x hx => by cases hx) (fun x hx => by cases hx) (fun x hx => by cases hx)
  cases hx
  rcases ha with ha | ha
  · exact ha.2
  · exact absurd hs ha.1

theorem LogsT.referral (z : Zone.Zone) (child : NameL.Name) (ns : Rrset) :
    Logs (doReferral z child ns) AddrTy (fun _ => True) :=
  (Prog.referral (Ty := fun _ => True) z child ns).logsT

theorem LogsT.answer (z : Zone.Zone) (qname : WName) (qtype : Nat) :
    Logs (Server.answer z qname qtype) AddrTy (fun _ => True) :=
  (Prog.answer (Ty := fun _ => True) z qname qtype trivial).logsT

theorem LogsT.inner (z : Zone.Zone) (qname : WName) (qtype : Nat) :
    Logs (inner z qname qtype) AddrTy (fun _ => True) :=
  (Prog.inner' z qname qtype).logsT

/-- … and so does `handle_non_axfr_query`, whose epilogue adds no record -/
theorem handle_addrTy (z : Zone.Zone) (qname : WName) (qtype : Nat) (tr : Transport) (w : State)
    (hlog : (handleNonAxfrQueryL z qname qtype tr ⟨w, []⟩).2.log =
      (inner z qname qtype ⟨w, []⟩).2.log ++ tailEvs tr (inner z qname qtype ⟨w, []⟩).1) :
    ∀ e ∈ (handleNonAxfrQueryL z qname qtype tr ⟨w, []⟩).2.log, AddrTy e := by
  obtain ⟨evs, hl, hP⟩ := (LogsT.inner z qname qtype).events ⟨w, []⟩
  rw [hlog, hl]
  intro e he
  rcases List.mem_append.mp he with h | h
  · exact hP e (by simpa using h)
  · exact fun a ha => absurd ha ((tailEvs_hdr _ _ e h).2 a)

/-- from the calls to the view: if every additional-section call of a log adds A / AAAA records,
    every record of the view's additional section has type 1 or 28 -/
theorem view_additional_types (log : List Ev) (h : ∀ e ∈ log, AddrTy e) :
    ∀ r ∈ (view log).additional, r.rtype = 1 ∨ r.rtype = 28 := by
  have key : ∀ (l : List Ev) (v : View), (∀ e ∈ l, AddrTy e) → (∀ r ∈ v.additional, r.rtype = 1 ∨ r.rtype = 28) →
      ∀ r ∈ (l.foldl View.step v).additional, r.rtype = 1 ∨ r.rtype = 28 := by
    intro l
    induction l with
    | nil => intro v _ hv; exact hv
    | cons e rest ih =>
      intro v hl hv
      rw [List.foldl_cons]
      refine ih _ (fun x hx => hl x (List.mem_cons_of_mem _ hx)) ?_
      have he := hl e List.mem_cons_self
      cases e with
      | add a =>
        simp only [View.step]
        split
        · cases hs : a.sec with
          | answer => simpa [View.addTo] using hv
          | authority => simpa [View.addTo] using hv
          | additional =>
            simp only [View.addTo]
            intro r hr
            rcases List.mem_append.mp hr with h1 | h1
            · exact hv r h1
            · simp only [evRecords, List.mem_map] at h1
              obtain ⟨rd, _, rfl⟩ := h1
              exact he a rfl hs
        · exact hv
      | aa b => exact hv
      | rcode x => exact hv
      | tc b => exact hv
      | clear => intro r hr; simp [View.step] at hr
      | bad => exact hv
  exact key log {} h (by intro r hr; simp at hr)

end QV.ServerAnswer
