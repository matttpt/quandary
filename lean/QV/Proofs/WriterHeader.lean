/-
  QV.Proofs.WriterHeader — C12 (d), header part: the header fields of RFC 1035 §4.1.1 as the
  specification's decoder reads them off the first four octets, and what the octet operations of the header
  setters do to them (`hdrStep`; call by call in `QV.Proofs.WriterStep`). Also `FromTemplate`: what a writer
  re-created from a template shares with the one the template was taken from.

  The specification reads a flag as one bit and a number as `/ 2^k % 2^w` of an octet; both commute
  with `|||` and `&&&`, so the effect of a setter on the fields is read off the fields of its mask.
-/
import QV.Proofs.WriterRefine
namespace QV.Writer
open QV QV.Wire QV.Spec QV.Spec.Message QV.ServerSafety

/-! ### header octets → header fields (RFC 1035 §4.1.1) -/

/-- the fields held in the third header octet: QR, OPCODE, AA, TC, RD -/
def byte2 (o : UInt8) : Bool × Nat × Bool × Bool × Bool :=
  (bit o (2^7), o.toNat / 2^3 % 2^4, bit o (2^2), bit o (2^1), bit o (2^0))

/-- the fields held in the fourth header octet: RA, Z, RCODE -/
def byte3 (o : UInt8) : Bool × Nat × Nat := (bit o (2^7), o.toNat / 2^4 % 2^3, o.toNat % 2^4)

/-- the header of the specification, from the ID and the fields of the third and fourth octets -/
def mkHeader (id : Nat) (b2 : Bool × Nat × Bool × Bool × Bool) (b3 : Bool × Nat × Nat) : Header :=
  { id := id, qr := b2.1, opcode := b2.2.1, aa := b2.2.2.1, tc := b2.2.2.2.1, rd := b2.2.2.2.2,
    ra := b3.1, z := b3.2.1, rcode := b3.2.2 }

theorem specHeader_eq (o : Bytes) :
    specHeader o = mkHeader (be16 o 0) (byte2 (o.getD 2 0)) (byte3 (o.getD 3 0)) := rfl

theorem bit_two_pow (o : UInt8) (k : Nat) : bit o (2^k) = o.toNat.testBit k := by
  rw [bit, Nat.testBit_eq_decide_div_mod_eq]

theorem toNat_not (a : UInt8) : (~~~a).toNat = 2^8 - (a.toNat + 1) := by
  rw [UInt8.toNat_not, Nat.sub_sub, Nat.add_comm]

theorem bit_not (a : UInt8) (k : Nat) (hk : k < 8) : bit (~~~a) (2^k) = !bit a (2^k) := by
  rw [bit_two_pow, bit_two_pow, toNat_not, Nat.testBit_two_pow_sub_succ a.toNat_lt, decide_eq_true hk,
    Bool.true_and]

theorem byte2_or (a b : UInt8) : byte2 (a ||| b) =
    ((byte2 a).1 || (byte2 b).1, (byte2 a).2.1 ||| (byte2 b).2.1, (byte2 a).2.2.1 || (byte2 b).2.2.1,
      (byte2 a).2.2.2.1 || (byte2 b).2.2.2.1, (byte2 a).2.2.2.2 || (byte2 b).2.2.2.2) := by
  simp only [byte2, bit_two_pow, UInt8.toNat_or, Nat.testBit_or, Nat.or_div_two_pow, Nat.or_mod_two_pow]

theorem byte2_and (a b : UInt8) : byte2 (a &&& b) =
    ((byte2 a).1 && (byte2 b).1, (byte2 a).2.1 &&& (byte2 b).2.1, (byte2 a).2.2.1 && (byte2 b).2.2.1,
      (byte2 a).2.2.2.1 && (byte2 b).2.2.2.1, (byte2 a).2.2.2.2 && (byte2 b).2.2.2.2) := by
  simp only [byte2, bit_two_pow, UInt8.toNat_and, Nat.testBit_and, Nat.and_div_two_pow, Nat.and_mod_two_pow]

theorem byte2_not (a : UInt8) : byte2 (~~~a) =
    (!(byte2 a).1, 15 - (byte2 a).2.1, !(byte2 a).2.2.1, !(byte2 a).2.2.2.1, !(byte2 a).2.2.2.2) := by
  have := a.toNat_lt
  simp only [byte2, bit_not a _ (show 7 < 8 by omega), bit_not a _ (show 2 < 8 by omega),
    bit_not a _ (show 1 < 8 by omega), bit_not a _ (show 0 < 8 by omega), toNat_not]
  congr 2
  omega

theorem byte3_or (a b : UInt8) : byte3 (a ||| b) =
    ((byte3 a).1 || (byte3 b).1, (byte3 a).2.1 ||| (byte3 b).2.1, (byte3 a).2.2 ||| (byte3 b).2.2) := by
  simp only [byte3, bit_two_pow, UInt8.toNat_or, Nat.testBit_or, Nat.or_div_two_pow, Nat.or_mod_two_pow]

theorem byte3_and (a b : UInt8) : byte3 (a &&& b) =
    ((byte3 a).1 && (byte3 b).1, (byte3 a).2.1 &&& (byte3 b).2.1, (byte3 a).2.2 &&& (byte3 b).2.2) := by
  simp only [byte3, bit_two_pow, UInt8.toNat_and, Nat.testBit_and, Nat.and_div_two_pow, Nat.and_mod_two_pow]

theorem byte3_not (a : UInt8) : byte3 (~~~a) = (!(byte3 a).1, 7 - (byte3 a).2.1, 15 - (byte3 a).2.2) := by
  have := a.toNat_lt
  simp only [byte3, bit_not a _ (show 7 < 8 by omega), toNat_not]
  congr 2
  · omega
  · omega

/-- a field of `w` bits is kept by `&&&` with `w` ones -/
theorem mod_and_ones (n w : Nat) : n % 2^w &&& (2^w - 1) = n % 2^w := by
  rw [Nat.and_two_pow_sub_one_eq_mod, Nat.mod_mod]

theorem opcode_and_ones (o : UInt8) : (byte2 o).2.1 &&& 15 = (byte2 o).2.1 := mod_and_ones _ 4
theorem z_and_ones (o : UInt8) : (byte3 o).2.1 &&& 7 = (byte3 o).2.1 := mod_and_ones _ 3
theorem rcode_and_ones (o : UInt8) : (byte3 o).2.2 &&& 15 = (byte3 o).2.2 := mod_and_ones _ 4

/-- `setBit` on the third octet with a mask that has no OPCODE bit: the flags under the mask take
    the value `v`, everything else stays -/
theorem byte2_setBit (o m : UInt8) (v : Bool) {q a t r : Bool} (hm : byte2 m = (q, 0, a, t, r)) :
    byte2 (if v then o ||| m else o &&& ~~~m) =
      (if q then v else (byte2 o).1, (byte2 o).2.1, if a then v else (byte2 o).2.2.1,
        if t then v else (byte2 o).2.2.2.1, if r then v else (byte2 o).2.2.2.2) := by
  cases v
  · simp [byte2_and, byte2_not, hm, opcode_and_ones, Bool.and_comm]
  · simp [byte2_or, hm, Bool.or_comm]

/-- `setBit` on the fourth octet with a mask that has no Z or RCODE bit -/
theorem byte3_setBit (o m : UInt8) (v : Bool) {q : Bool} (hm : byte3 m = (q, 0, 0)) :
    byte3 (if v then o ||| m else o &&& ~~~m) = (if q then v else (byte3 o).1, (byte3 o).2) := by
  cases v
  · simp [byte3_and, byte3_not, hm, z_and_ones, rcode_and_ones, Bool.and_comm]
  · simp [byte3_or, hm, Bool.or_comm]

/-- `set_opcode`: the old OPCODE bits are cleared and `v`, shifted into place, is or-ed in -/
theorem byte2_opcode (o : UInt8) (v : Nat) (hv : v < 16) :
    byte2 ((o &&& ~~~ UInt8.ofNat Gen.OPCODE_MASK) ||| (UInt8.ofNat v <<< UInt8.ofNat Gen.OPCODE_SHIFT)) =
      ((byte2 o).1, v, (byte2 o).2.2) := by
  have h1 : byte2 (UInt8.ofNat Gen.OPCODE_MASK) = (false, 15, false, false, false) := by decide
  have h2 : (UInt8.ofNat v <<< UInt8.ofNat Gen.OPCODE_SHIFT).toNat = 8 * v := by
    simp [UInt8.toNat_shiftLeft, Nat.shiftLeft_eq, Gen.OPCODE_SHIFT]; omega
  have h3 : byte2 (UInt8.ofNat v <<< UInt8.ofNat Gen.OPCODE_SHIFT) = (false, v, false, false, false) := by
    simp only [byte2, bit, h2]
    simp; omega
  simp [byte2_or, byte2_and, byte2_not, h1, h3]

/-- `set_rcode`, `set_extended_rcode`: the old RCODE bits are cleared and a value below 16 is or-ed in -/
theorem byte3_rcode (o r : UInt8) (hr : r.toNat < 16) :
    byte3 ((o &&& ~~~ UInt8.ofNat Gen.RCODE_MASK) ||| r) = ((byte3 o).1, (byte3 o).2.1, r.toNat) := by
  have h1 : byte3 (UInt8.ofNat Gen.RCODE_MASK) = (false, 0, 15) := by decide
  have h2 : byte3 r = (false, 0, r.toNat) := by
    simp [byte3, bit]; omega
  simp [byte3_or, byte3_and, byte3_not, h1, h2, z_and_ones]

theorem and_rcode_mask (r : UInt8) : (r &&& UInt8.ofNat Gen.RCODE_MASK).toNat = r.toNat % 16 := by
  rw [UInt8.toNat_and]
  exact Nat.and_two_pow_sub_one_eq_mod _ 4


/-- the first four octets are unchanged -/
def Hdr4 (o o' : Bytes) : Prop := ∀ i, i < 4 → o'[i]? = o[i]?

theorem specHeader_hdr4 {o o' : Bytes} (h : Hdr4 o o') : specHeader o' = specHeader o := by
  simp only [specHeader, be16, getD_of_getElem? (h 0 (by omega)), getD_of_getElem? (h 1 (by omega)),
    getD_of_getElem? (h 2 (by omega)), getD_of_getElem? (h 3 (by omega))]

theorem getD_set (o : Bytes) (i j : Nat) (h : i < o.size) (v : UInt8) :
    (o.set i v h).getD j 0 = if i = j then v else o.getD j 0 := by
  rw [Array.getD_eq_getD_getElem?, Array.getD_eq_getD_getElem?, Array.getElem?_set]
  split <;> simp_all

theorem setHdr_ok (i : Nat) (f : UInt8 → UInt8) (s : State) (h : i < s.octets.size) :
    setHdr i f s = (.ok (), { s with octets := s.octets.set i (f (s.octets.getD i 0)) h }) := by
  unfold setHdr
  rw [dif_pos h]
  simp [Array.getD, h]

theorem specHeader_set2 (o : Bytes) (h : 2 < o.size) (v : UInt8) :
    specHeader (o.set 2 v h) = mkHeader (be16 o 0) (byte2 v) (byte3 (o.getD 3 0)) := by
  rw [specHeader_eq]
  simp only [be16, getD_set]
  simp

theorem specHeader_set3 (o : Bytes) (h : 3 < o.size) (v : UInt8) :
    specHeader (o.set 3 v h) = mkHeader (be16 o 0) (byte2 (o.getD 2 0)) (byte3 v) := by
  rw [specHeader_eq]
  simp only [be16, getD_set]
  simp


/-- the effect of a successful call on the header (RFC 1035 §4.1.1) -/
def hdrStep (h : Header) : Op → Header
  | .setId v => { h with id := v }
  | .setQr b => { h with qr := b }
  | .setAa b => { h with aa := b }
  | .setTc b => { h with tc := b }
  | .setRd b => { h with rd := b }
  | .setRa b => { h with ra := b }
  | .setOpcode v => { h with opcode := v }
  | .setRcode v => { h with rcode := v }
  | .setExtendedRcode v => { h with rcode := v % 16 }
  | _ => h

theorem hdr4_of_pre {s s' : State} (hc : 12 ≤ s.cursor) (h : ∀ i, i < s.cursor → s'.octets[i]? = s.octets[i]?) :
    Hdr4 s.octets s'.octets := fun i hi => h i (by omega)

/-- what a writer re-created in `buf`, with TSIG state `ts`, from the template of `s` shares with `s` -/
structure FromTemplate (s s' : State) (buf : Bytes) (ts : Option Tsig) : Prop where
  pre : ∀ i, i < s.cursor → s'.octets[i]? = s.octets[i]?
  cursor : s'.cursor = s.cursor
  rrStart : s'.rrStart = s.rrStart
  gLabels : s'.gLabels = s.gLabels
  qd : s'.qdcount = s.qdcount
  an : s'.ancount = s.ancount
  ns : s'.nscount = s.nscount
  ar : s'.arcount = s.arcount
  sect : s'.sect = s.sect
  mode : s'.mode = s.mode
  edns : s'.edns = s.edns
  tsig : s'.tsig = ts
  limit : s'.limit = min s.limit buf.size
  /-- the reservations move over: `available = limit - template.reserved` -/
  available : s'.available = min s.limit buf.size - (s.limit - s.available)
  reserved : s.limit - s.available ≤ min s.limit buf.size
  size : s'.octets.size = buf.size
  /-- the buffer was accepted: it holds the message and the reservations -/
  fits : s.cursor + (s.limit - s.available) ≤ buf.size

theorem template_ok_inv {s s' : State} {t : Template} (hi : Inv s) (buf : Bytes) (ts : Option Tsig)
    (ht : intoTemplate s = .ok t) (h' : tryFromTemplateImpl buf t ts = .ok s') : FromTemplate s s' buf ts := by
  have h1 := hi.hdr; have h2 := hi.cur_av; have h3 := hi.av_lim; have h4 := hi.lim_size
  unfold intoTemplate at ht
  rw [if_neg (by omega), if_neg (by omega)] at ht
  cases ht
  unfold tryFromTemplateImpl at h'
  simp only [extract_toList_length _ _ (show s.cursor ≤ s.octets.size by omega)] at h'
  split at h'
  · cases h'
  · rename_i hfit
    split at h'
    · cases h'
    · rename_i hres
      cases h'
      refine ⟨fun i hi' => ?_, rfl, rfl, rfl, rfl, rfl, rfl, rfl, rfl, rfl, rfl, rfl, rfl, rfl, by omega,
        writeAt_size _ _ _, by omega⟩
      have := writeAt_get_in buf 0 (List.take s.cursor s.octets.toList) i (by simp; omega) (by simp; omega)
      simp only [Nat.zero_add] at this
      simp only [Array.toList_extract, List.extract_eq_take_drop, Nat.sub_zero, List.drop_zero]
      rw [this, List.getElem?_take]
      simp [hi']

theorem pend_fromTemplate {s s' : State} {buf : Bytes} {ts : Option Tsig} (e : FromTemplate s s' buf ts)
    (hs : ts.isSome = s.tsig.isSome) :
    (if s'.edns.isSome then 1 else 0) + (if s'.tsig.isSome then 1 else 0) =
      (if s.edns.isSome then 1 else 0) + (if s.tsig.isSome then 1 else 0) := by
  rw [e.edns, e.tsig, hs]


theorem hdr_setHdr2 (s : State) (f : UInt8 → UInt8) (h : 2 < s.octets.size) :
    specHeader (setHdr 2 f s).2.octets =
      mkHeader (be16 s.octets 0) (byte2 (f (s.octets.getD 2 0))) (byte3 (s.octets.getD 3 0)) := by
  rw [setHdr_ok 2 f s h]
  exact specHeader_set2 s.octets h _

theorem hdr_setHdr3 (s : State) (f : UInt8 → UInt8) (h : 3 < s.octets.size) :
    specHeader (setHdr 3 f s).2.octets =
      mkHeader (be16 s.octets 0) (byte2 (s.octets.getD 2 0)) (byte3 (f (s.octets.getD 3 0))) := by
  rw [setHdr_ok 3 f s h]
  exact specHeader_set3 s.octets h _


theorem setCount_octets (sec : RrSection) (n : Nat) (s : State) : (setCount sec n s).2.octets = s.octets := by
  cases sec <;> rfl

/-- what `Ext`, `Same` and `setCount` keep, `add_rr` keeps — whatever it returns -/
theorem addRrOp_pres (Φ : State → Prop) (sec : RrSection) (hint : Hint) (owner : WName) (ty cls ttl : Nat)
    (rd : List UInt8) (s : State) (hext : ∀ s1, Ext s s1 → Φ s1) (hsame : ∀ s', Same s s' → Φ s')
    (hcount : ∀ s1 n, Φ s1 → Φ (setCount sec n s1).2) : Φ (addRrOp sec hint owner ty cls ttl rd s).2 := by
  have hc := addRrOp_cases sec hint owner ty cls ttl rd s
  cases hr : addRrOp sec hint owner ty cls ttl rd s with
  | mk r s' =>
    rw [hr] at hc
    cases r with
    | ok u => obtain ⟨s1, e, _, rfl⟩ := hc; exact hcount _ _ (hext _ e)
    | err e => exact hsame _ hc
    | panic => exact hext _ hc

theorem addRrsetOp_pres (Φ : State → Prop) (sec : RrSection) (hint : Hint) (owner : WName) (ty cls ttl : Nat)
    (rds : List (List UInt8)) (s : State) (hext : ∀ s1, Ext s s1 → Φ s1) (hsame : ∀ s', Same s s' → Φ s')
    (hcount : ∀ s1 n, Φ s1 → Φ (setCount sec n s1).2) : Φ (addRrsetOp sec hint owner ty cls ttl rds s).2 := by
  have hc := addRrsetOp_cases sec hint owner ty cls ttl rds s
  cases hr : addRrsetOp sec hint owner ty cls ttl rds s with
  | mk r s' =>
    rw [hr] at hc
    cases r with
    | ok u => obtain ⟨s1, n, e, _, rfl⟩ := hc; exact hcount _ _ (hext _ e)
    | err e => exact hsame _ hc
    | panic => exact hext _ hc

theorem addQuestion_pres (Φ : State → Prop) (qn : WName) (qt qc : Nat) (s : State) (hext : ∀ s1, Ext s s1 → Φ s1)
    (hsame : ∀ s', Same s s' → Φ s')
    (hcount : ∀ s1, Φ s1 → Φ { s1 with qdcount := s1.qdcount + 1, rrStart := s1.cursor }) :
    Φ (addQuestion qn qt qc s).2 := by
  have hc := addQuestion_cases qn qt qc s
  cases hr : addQuestion qn qt qc s with
  | mk r s' =>
    rw [hr] at hc
    cases r with
    | ok u => obtain ⟨s1, e, _, rfl⟩ := hc; exact hcount _ (hext _ e)
    | err e => exact hsame _ hc
    | panic => exact hext _ hc

/-- the header after a sequence of calls with the given outcomes -/
def hdrRun (h : Header) : List Op → List (Out WriterErr Unit) → Header
  | op :: ops, r :: rs => hdrRun (if r = .ok () then hdrStep h op else h) ops rs
  | _, _ => h

/-- a new writer has the all-zero header -/
theorem hdr_new (buf : Bytes) (limit : Nat) (s : State) (h : Writer.new buf limit = .ok s) :
    specHeader s.octets = ⟨0, false, 0, false, false, false, false, 0, 0⟩ := by
  unfold Writer.new at h
  dsimp only at h
  split at h
  · cases h
  · rename_i hl
    have hs := congrArg State.octets (Out.ok.inj h)
    simp only at hs
    have h12 : Gen.HEADER_SIZE = 12 := rfl
    have hsz : 12 ≤ buf.size := by omega
    have hb := bytesAt_writeAt buf 0 (List.replicate Gen.HEADER_SIZE 0) (by simp; omega)
    have g : ∀ i, i < 12 → (zeroHeader buf).getD i 0 = 0 := by
      intro i hi
      have := bytesAt_getD hb (i := i) (by simp; omega)
      rw [Nat.zero_add] at this
      unfold zeroHeader
      rw [this]; simp
    rw [← hs]
    simp only [specHeader, be16, g 0 (by omega), g 1 (by omega), g 2 (by omega), g 3 (by omega)]
    decide

end QV.Writer
