/-
  QV.Proofs.WNameParse — `WName.parse` (`Name::try_from_uncompressed`) characterised: it yields
  `(n, r)` exactly on `n.wire ++ r` with `n` well-formed. What else is said of a parsed name — that it
  is well-formed, which octets it was cut from, how long it is — is a projection of that.
-/
import QV.Model.Compress
import QV.Proofs.Bytes

namespace QV.Writer
open QV

theorem consts63 : Gen.MAX_LABEL_LEN = 63 ∧ Gen.MAX_WIRE_LEN = 255 := by decide

theorem encLabel_length (l : Label) : (WName.encLabel l).length = l.length + 1 := by
  simp [WName.encLabel]

theorem flatMap_enc_length_ge (ls : List Label) : ls.length ≤ (ls.flatMap WName.encLabel).length := by
  induction ls with
  | nil => simp
  | cons l r ih =>
    simp only [List.flatMap_cons, List.length_append, encLabel_length, List.length_cons]; omega

/-- the label splitter accepts exactly the wire forms: labels of 1..63 octets, each behind its
    length octet, then the root label; `fuel` only has to exceed the number of labels -/
theorem parseLabels_iff (fuel : Nat) (b : List UInt8) (ls : List Label) (r : List UInt8) :
    WName.parseLabels fuel b = some (ls, r) ↔
      (∀ l ∈ ls, 1 ≤ l.length ∧ l.length ≤ 63) ∧ b = ls.flatMap WName.encLabel ++ [0] ++ r ∧ ls.length < fuel := by
  constructor
  · intro h
    induction fuel generalizing b ls r with
    | zero => simp [WName.parseLabels] at h
    | succ f ih =>
      cases b with
      | nil => simp [WName.parseLabels] at h
      | cons x rest =>
        simp only [WName.parseLabels, consts63.1] at h
        by_cases hx0 : x = 0
        · rw [if_pos hx0] at h
          cases h
          exact ⟨fun _ hl => (nomatch hl), by simp [hx0], Nat.succ_pos _⟩
        rw [if_neg hx0] at h
        by_cases hx63 : x.toNat > 63
        · rw [if_pos hx63] at h; cases h
        rw [if_neg hx63] at h
        by_cases hlen : rest.length < x.toNat
        · rw [if_pos hlen] at h; cases h
        rw [if_neg hlen] at h
        cases hrec : WName.parseLabels f (List.drop x.toNat rest) with
        | none => rw [hrec] at h; cases h
        | some pr =>
          obtain ⟨ls', r'⟩ := pr
          rw [hrec] at h
          cases h
          obtain ⟨hok, heq, hf⟩ := ih _ _ _ hrec
          have hl : (List.take x.toNat rest).length = x.toNat := by simp; omega
          have hpos := toNat_pos_of_ne_zero x hx0
          refine ⟨fun l hl' => ?_, ?_, by simp; omega⟩
          · rcases List.mem_cons.mp hl' with rfl | hl'
            · omega
            · exact hok l hl'
          · simp only [List.flatMap_cons, WName.encLabel, hl, List.cons_append, List.append_assoc]
            rw [show UInt8.ofNat x.toNat = x by simp]
            congr 1
            calc rest = List.take x.toNat rest ++ List.drop x.toNat rest := (List.take_append_drop _ _).symm
              _ = _ := by rw [heq]; simp
  · rintro ⟨hok, rfl, hf⟩
    induction ls generalizing fuel with
    | nil =>
      obtain ⟨f, rfl⟩ : ∃ f, fuel = f + 1 := ⟨fuel - 1, by omega⟩
      simp [WName.parseLabels]
    | cons l ls ih =>
      obtain ⟨f, rfl⟩ : ∃ f, fuel = f + 1 := ⟨fuel - 1, by omega⟩
      have hl := hok l List.mem_cons_self
      have htn := ofNat_len_toNat hl.2
      have := ih f (fun x hx => hok x (List.mem_cons_of_mem _ hx)) (by simp at hf; omega)
      simp only [List.cons_append, List.append_assoc] at this
      simp only [List.flatMap_cons, WName.encLabel, List.cons_append, WName.parseLabels, htn, consts63.1,
        if_neg (ofNat_len_ne_zero hl.1 hl.2), if_neg (show ¬ l.length > 63 by omega), List.append_assoc]
      rw [if_neg (by simp), List.drop_left, List.take_left, this]

/-- **`Name::try_from_uncompressed` reads exactly the well-formed names**, each off its wire form -/
theorem parse_iff {b : List UInt8} {n : WName} {r : List UInt8} :
    WName.parse b = some (n, r) ↔ n.WF ∧ b = n.wire ++ r := by
  unfold WName.parse
  constructor
  · intro h
    cases hp : WName.parseLabels (b.length + 1) b with
    | none => rw [hp] at h; cases h
    | some v =>
      obtain ⟨ls, r'⟩ := v
      rw [hp] at h
      dsimp only at h
      split at h
      · rename_i hw
        cases h
        obtain ⟨hok, heq, _⟩ := (parseLabels_iff _ _ _ _).mp hp
        exact ⟨⟨fun l hl => by rw [consts63.1]; exact hok l hl, hw⟩, by simpa [WName.wire] using heq⟩
      · cases h
  · rintro ⟨⟨hl, hw⟩, rfl⟩
    have := flatMap_enc_length_ge n.labels
    rw [(parseLabels_iff _ (n.wire ++ r) n.labels r).mpr ⟨fun l h => by have := hl l h; rw [consts63.1] at this; exact this,
      rfl, by simp only [WName.wire, List.length_append]; omega⟩]
    dsimp only
    rw [if_pos hw]

theorem parse_wire (n : WName) (h : n.WF) (rest : List UInt8) : WName.parse (n.wire ++ rest) = some (n, rest) :=
  parse_iff.mpr ⟨h, rfl⟩

variable {b : List UInt8} {n : WName} {r : List UInt8}

theorem parse_wf (h : WName.parse b = some (n, r)) : n.WF := (parse_iff.mp h).1

theorem parse_content (h : WName.parse b = some (n, r)) : b = n.wire ++ r := (parse_iff.mp h).2

theorem parse_length (h : WName.parse b = some (n, r)) : b.length = n.wire.length + r.length := by
  rw [parse_content h, List.length_append]

end QV.Writer
