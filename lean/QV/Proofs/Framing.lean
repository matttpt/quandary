/-
  QV.Proofs.Framing — the framing loop of the I/O providers computes the stream-level spec for
  every segmentation of the input (C30).
-/
import QV.Model.Framing
import QV.Spec.Framing

namespace QV.Framing
open QV.Spec.Framing

theorem announced_eq_lenPrefix (s : List UInt8) : announced s = lenPrefix s := by
  cases s with
  | nil => rfl
  | cons a t => cases t <;> rfl

/-- the length of the complete frame at the front of a stream, if there is one -/
def front (s : List UInt8) : Option Nat := (lenPrefix s).filter (· + 2 ≤ s.length)

theorem front_eq_some {s : List UInt8} {len : Nat} :
    front s = some len ↔ lenPrefix s = some len ∧ len + 2 ≤ s.length := by
  unfold front; cases lenPrefix s <;> simp [Option.filter]; omega

theorem front_eq_none {s : List UInt8} :
    front s = none ↔ ∀ len, lenPrefix s = some len → ¬ len + 2 ≤ s.length := by
  unfold front; cases lenPrefix s <;> simp [Option.filter]

theorem length_of_announced {s : List UInt8} {len : Nat} (h : announced s = some len) : 2 ≤ s.length := by
  cases s with
  | nil => cases h
  | cons a t =>
    cases t with
    | nil => cases h
    | cons b u => simp

theorem announced_append {s : List UInt8} {len : Nat} (x : List UInt8) (h : announced s = some len) :
    announced (s ++ x) = some len := by
  match s, h with
  | _ :: _ :: _, h => exact h

/-- the loop's cached length is transparent: it is the announced length as soon as that is there -/
theorem lenAfterLook_eq {buf : List UInt8} {lenOpt : Option Nat}
    (hlen : ∀ len, lenOpt = some len → announced buf = some len) :
    lenAfterLook buf lenOpt = announced buf := by
  unfold lenAfterLook
  cases lenOpt with
  | some l => exact (hlen l rfl).symm
  | none =>
    simp only; split
    · rfl
    · match buf with
      | [] | [_] => rfl
      | _ :: _ :: _ => simp at *

/-- `ready` answers exactly when a complete frame is in the buffer -/
theorem ready_look {buf : List UInt8} {lenOpt : Option Nat}
    (hlen : ∀ len, lenOpt = some len → announced buf = some len) :
    ready buf (lenAfterLook buf lenOpt) = front buf := by
  rw [lenAfterLook_eq hlen, announced_eq_lenPrefix]; unfold ready front
  cases lenPrefix buf <;> simp [Option.filter]

theorem front_append {s : List UInt8} {len : Nat} (x : List UInt8) (h : front s = some len) :
    front (s ++ x) = some len := by
  rw [front_eq_some] at h ⊢
  match s, h with
  | a :: b :: u, h => exact ⟨h.1, by have := h.2; simp only [List.cons_append, List.length_cons, List.length_append] at this ⊢; omega⟩

/-- a buffer without a complete frame is not full: the longest frame fits -/
theorem length_lt_of_front_none {s : List UInt8} (h : front s = none) : s.length < CAP := by
  rw [front_eq_none] at h
  match s with
  | [] | [_] => simp [CAP]
  | a :: b :: u =>
    have h1 := h _ rfl
    have := a.toNat_lt; have := b.toNat_lt
    simp only [List.length_cons, CAP] at h1 ⊢; omega

theorem take_append_drop_flatten (seg : List UInt8) (rest : List (List UInt8)) (n : Nat) :
    seg.take n ++ (afterRead seg rest n).flatten = seg ++ rest.flatten := by
  unfold afterRead
  split
  · simp [← List.append_assoc]
  · rename_i h
    have : seg.take n = seg := List.take_of_length_le (by omega)
    simp [this]

theorem afterRead_ne (seg : List UInt8) (rest : List (List UInt8)) (n : Nat)
    (h : ∀ s ∈ rest, s ≠ []) : ∀ s ∈ afterRead seg rest n, s ≠ [] := by
  unfold afterRead
  split
  · rename_i hl
    intro s hs
    rcases List.mem_cons.mp hs with rfl | hs
    · intro e
      have := congrArg List.length e
      simp [List.length_drop] at this; omega
    · exact h s hs
  · exact h

/-- **`read_message_over_tcp` is correct for every segmentation.**  With `stream` = what is in the
    buffer followed by everything the peer will still deliver: if a complete frame is at the
    front of `stream` the function returns its length with the frame (and possibly more) in the
    buffer and nothing lost or reordered; otherwise it reports that the peer closed.  The buffer
    never overflows and a `read` is never attempted without room. -/
theorem readMessage_spec (buf : List UInt8) (segs : List (List UInt8)) (lenOpt : Option Nat)
    (hne : ∀ s ∈ segs, s ≠ [])
    (hcap : buf.length ≤ CAP)
    (hlen : ∀ len, lenOpt = some len → announced buf = some len) :
    match front (buf ++ segs.flatten) with
    | some len => ∃ buf' segs', readMessage buf segs lenOpt = (.msg len, buf', segs') ∧
        buf' ++ segs'.flatten = buf ++ segs.flatten ∧ len + 2 ≤ buf'.length ∧ buf'.length ≤ CAP ∧
        (∀ s ∈ segs', s ≠ [])
    | none => (readMessage buf segs lenOpt).1 = .eof := by
  fun_induction readMessage buf segs lenOpt with
  | case1 buf segs lenOpt len hr =>
    -- a whole message is already in the buffer
    rw [ready_look hlen] at hr
    rw [front_append _ hr]
    exact ⟨buf, segs, rfl, rfl, (front_eq_some.mp hr).2, hcap, hne⟩
  | case2 buf lenOpt hr =>
    -- nothing left to read: the peer closed
    rw [ready_look hlen] at hr
    simp only [List.flatten_nil, List.append_nil, hr]
  | case3 buf lenOpt hr seg rest hmin hz =>
    exact absurd (List.eq_nil_of_length_eq_zero hz) (hne seg (by simp))
  | case4 buf lenOpt hr seg rest hmin hz =>
    -- the buffer is full although no whole message is in it: impossible
    rw [ready_look hlen] at hr
    have := length_lt_of_front_none hr
    omega
  | case5 buf lenOpt hr seg rest hmin ih =>
    have hstream : buf ++ seg.take (min seg.length (CAP - buf.length)) ++
        (afterRead seg rest (min seg.length (CAP - buf.length))).flatten = buf ++ (seg :: rest).flatten := by
      rw [List.append_assoc, take_append_drop_flatten]; simp
    rw [← hstream]
    refine ih (afterRead_ne seg rest _ (fun s hs => hne s (by simp [hs])))
      (by simp [List.length_take]; omega) (fun len h => announced_append _ (lenAfterLook_eq hlen ▸ h))

theorem bytes_eq_flatten_length (segs : List (List UInt8)) : bytes segs = segs.flatten.length := by
  unfold bytes; rw [List.length_flatten]

theorem frame_eq (m : List UInt8) : QV.Framing.frame m = QV.Spec.Framing.frame m := rfl

/-- how the specification's end of a stream shows at the connection loop -/
def endOf : End → ConnEnd
  | .open => .eof
  | .closed => .noResponse

theorem deframe_eq (s : List UInt8) : deframe s = match front s with
    | some len => (((s.drop 2).take len) :: (deframe (s.drop (len + 2))).1, (deframe (s.drop (len + 2))).2)
    | none => ([], s) := by
  rw [deframe]
  cases hf : front s with
  | some len => obtain ⟨hp, hl⟩ := front_eq_some.mp hf; split <;> simp_all
  | none => rw [front_eq_none] at hf; split <;> simp_all

/-- **The connection loop computes the stream-level spec, for every segmentation.** -/
theorem connLoop_spec (handler : List UInt8 → Option (List UInt8)) :
    ∀ (fuel : Nat) (buf : List UInt8) (segs : List (List UInt8)) (out : List UInt8),
      (∀ s ∈ segs, s ≠ []) → buf.length ≤ CAP → buf.length + bytes segs < fuel →
      connLoop handler fuel buf segs out =
        (out ++ (specStream handler (buf ++ segs.flatten)).1, endOf (specStream handler (buf ++ segs.flatten)).2) := by
  intro fuel
  induction fuel with
  | zero => intro buf segs out _ _ h; omega
  | succ f ih =>
    intro buf segs out hne hcap hfuel
    have hspec := readMessage_spec buf segs none hne hcap nofun
    unfold connLoop specStream
    rw [deframe_eq]
    cases hf : front (buf ++ segs.flatten) with
    | some len =>
      rw [hf] at hspec
      obtain ⟨buf', segs', hrm, hst, hlb, hcb, hne'⟩ := hspec
      have hl := (front_eq_some.mp hf).2
      rw [hrm]
      simp only
      have hmsg : ((buf ++ segs.flatten).drop 2).take len = (buf'.drop 2).take len := by
        rw [← hst, List.drop_append_of_le_length (by omega), List.take_append_of_le_length (by simp; omega)]
      have hrest : (buf ++ segs.flatten).drop (len + 2) = buf'.drop (len + 2) ++ segs'.flatten := by
        rw [← hst, List.drop_append_of_le_length hlb]
      rw [hmsg, hrest]
      simp only [respond]
      cases hh : handler ((buf'.drop 2).take len) with
      | none => simp [endOf]
      | some r =>
        simp only
        have hlen : buf'.length + bytes segs' = buf.length + bytes segs := by
          have := congrArg List.length hst
          simp [bytes_eq_flatten_length] at this ⊢
          omega
        rw [ih (buf'.drop (len + 2)) segs' (out ++ frame r) hne' (by simp; omega)
          (by simp [List.length_drop]; omega)]
        simp [specStream, frame_eq, List.append_assoc]
    | none =>
      rw [hf] at hspec
      rcases hrm : readMessage buf segs none with ⟨e, b, sg⟩
      rw [hrm] at hspec
      simp only at hspec
      subst hspec
      simp [respond, endOf]

/-- while every request has a response, the output is one framed response per request, in order -/
theorem respond_append (handler : List UInt8 → Option (List UInt8)) (pre tl : List (List UInt8))
    (resp : List UInt8 → List UInt8) (h : ∀ x ∈ pre, handler x = some (resp x)) :
    respond handler (pre ++ tl) =
      (pre.flatMap (fun x => QV.Spec.Framing.frame (resp x)) ++ (respond handler tl).1, (respond handler tl).2) := by
  induction pre with
  | nil => rfl
  | cons a as ih =>
    simp only [List.cons_append, respond, h a (by simp), ih (fun x hx => h x (by simp [hx]))]
    simp

theorem lenPrefix_frame (m rest : List UInt8) (h : m.length ≤ 65535) :
    lenPrefix (QV.Spec.Framing.frame m ++ rest) = some m.length := by
  unfold QV.Spec.Framing.frame lenPrefix
  simp only [List.cons_append]
  congr 1
  have h1 : (UInt8.ofNat (m.length / 256)).toNat = m.length / 256 := by
    rw [UInt8.toNat_ofNat']; omega
  have h2 : (UInt8.ofNat (m.length % 256)).toNat = m.length % 256 := by
    rw [UInt8.toNat_ofNat']; omega
  rw [h1, h2]; omega

/-- the stream of correctly framed messages decodes to exactly those messages, in order -/
theorem deframe_frames (msgs : List (List UInt8)) (tail : List UInt8) (h : ∀ m ∈ msgs, m.length ≤ 65535) :
    deframe (msgs.flatMap QV.Spec.Framing.frame ++ tail) = (msgs ++ (deframe tail).1, (deframe tail).2) := by
  induction msgs with
  | nil => simp
  | cons m ms ih =>
    have hm := h m (by simp)
    have hp := lenPrefix_frame m (ms.flatMap QV.Spec.Framing.frame ++ tail) hm
    have e : (m :: ms).flatMap QV.Spec.Framing.frame ++ tail =
        QV.Spec.Framing.frame m ++ (ms.flatMap QV.Spec.Framing.frame ++ tail) := by simp
    rw [e, deframe_eq, front_eq_some.mpr ⟨hp, by simp [QV.Spec.Framing.frame]⟩]
    simp only
    have d2 : (QV.Spec.Framing.frame m ++ (ms.flatMap QV.Spec.Framing.frame ++ tail)).drop (m.length + 2) =
        ms.flatMap QV.Spec.Framing.frame ++ tail := by
      simp [QV.Spec.Framing.frame]
    have d1 : ((QV.Spec.Framing.frame m ++ (ms.flatMap QV.Spec.Framing.frame ++ tail)).drop 2).take m.length = m := by
      simp [QV.Spec.Framing.frame]
    rw [d1, d2, ih (fun x hx => h x (by simp [hx]))]
    simp

end QV.Framing
