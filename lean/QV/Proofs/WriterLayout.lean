/-
  QV.Proofs.WriterLayout — C12 (d), model side: in `Disabled` mode the buffer below the cursor is
  the canonical uncompressed encoding of the questions and records of the calls that succeeded (in
  order, by section): the invariant `Lay` and what `add_question`, `add_*_rr(set)` and `clear_rrs` do to it
  (for all sequences of calls: `lay_run` in `QV.Proofs.WriterStep`). What `finish` then appends is in
  `QV.Proofs.WriterFinish`. The counts and the section discipline (`Tally`) are the part of the invariant
  that the layout of every compression mode (`CLay`, `QV.Proofs.WriterContent`) has too.
-/
import QV.Proofs.WriterDisabled
import QV.Proofs.WriterSession

namespace QV.Writer
open QV QV.Wire QV.ServerSafety

theorem addRrOp_ok_inv (sec : RrSection) (hint : Hint) (owner : WName) (ty cls ttl : Nat)
    (rd : List UInt8) (s s' : State) (h : addRrOp sec hint owner ty cls ttl rd s = (.ok (), s')) :
    ∃ s1 s2, changeSection sec s = (.ok (), s1) ∧ addRr hint owner ty cls (ttlFrom ttl) rd s1 = (.ok (), s2) ∧
      getCount sec s2 + 1 ≤ 65535 ∧ s' = (setCount sec (getCount sec s2 + 1) s2).2 := by
  unfold addRrOp at h
  rw [withRollback_apply] at h
  simp only [M.bind_apply] at h
  cases h1 : changeSection sec s with
  | mk r1 s1 =>
    rw [h1] at h
    cases r1 with
    | err e => cases h
    | panic => cases h
    | ok u1 =>
      simp only [] at h
      cases h2 : addRr hint owner ty cls (ttlFrom ttl) rd s1 with
      | mk r2 s2 =>
        rw [h2] at h
        cases r2 with
        | err e => cases h
        | panic => cases h
        | ok u2 =>
          simp only [M.gets_apply] at h
          by_cases hc : getCount sec s2 + 1 > 65535
          · rw [if_pos hc] at h; cases h
          · rw [if_neg hc] at h
            rw [setCount_apply] at h
            simp only [] at h
            cases h
            exact ⟨s1, s2, rfl, h2, by omega, rfl⟩

theorem addRrsetOp_ok_inv (sec : RrSection) (hint : Hint) (owner : WName) (ty cls ttl : Nat)
    (rds : List (List UInt8)) (s s' : State) (h : addRrsetOp sec hint owner ty cls ttl rds s = (.ok (), s')) :
    ∃ s1 s2 n, changeSection sec s = (.ok (), s1) ∧
      addRrset hint owner ty cls (ttlFrom ttl) rds 0 s1 = (.ok n, s2) ∧
      getCount sec s2 + n ≤ 65535 ∧ s' = (setCount sec (getCount sec s2 + n) s2).2 := by
  unfold addRrsetOp at h
  rw [withRollback_apply] at h
  simp only [M.bind_apply] at h
  cases h1 : changeSection sec s with
  | mk r1 s1 =>
    rw [h1] at h
    cases r1 with
    | err e => cases h
    | panic => cases h
    | ok u1 =>
      simp only [] at h
      cases h2 : addRrset hint owner ty cls (ttlFrom ttl) rds 0 s1 with
      | mk r2 s2 =>
        rw [h2] at h
        cases r2 with
        | err e => cases h
        | panic => cases h
        | ok n =>
          simp only [M.gets_apply] at h
          by_cases hn : n > 65535
          · rw [if_pos hn] at h; cases h
          · rw [if_neg hn] at h
            by_cases hc : getCount sec s2 + n > 65535
            · rw [if_pos hc] at h; cases h
            · rw [if_neg hc] at h
              rw [setCount_apply] at h
              simp only [] at h
              cases h
              exact ⟨s1, s2, n, rfl, h2, by omega, rfl⟩


theorem addRrset_count (owner : WName) (ty cls ttl : Nat) :
    ∀ (rds : List (List UInt8)) (hint : Hint) (n0 : Nat) (s s' : State) (n : Nat),
      addRrset hint owner ty cls ttl rds n0 s = (.ok n, s') → n = n0 + rds.length := by
  intro rds
  induction rds with
  | nil => intro hint n0 s s' n h; simp only [addRrset, M.pure_apply] at h; cases h; simp
  | cons rd rds ih =>
    intro hint n0 s s' n h
    unfold addRrset at h
    simp only [M.bind_apply] at h
    cases h1 : addRr hint owner ty cls ttl rd s with
    | mk r s1 =>
      rw [h1] at h
      cases r with
      | ok u => have := ih _ _ _ _ _ h; simp; omega
      | err e => cases h
      | panic => cases h

/-- a question as given to the writer -/
structure QRec where
  qname : WName
  qtype : Nat
  qclass : Nat
  deriving Repr, DecidableEq

/-- a record as given to the writer (`ttl` = the value inside the `Ttl`) -/
structure RRec where
  owner : WName
  ty : Nat
  cls : Nat
  ttl : Nat
  rdata : List UInt8
  deriving Repr, DecidableEq

/-- the questions and records a message holds, by section -/
structure Body where
  qs : List QRec := []
  an : List RRec := []
  ns : List RRec := []
  ar : List RRec := []
  deriving Repr, DecidableEq

def encQs (qs : List QRec) : List UInt8 := qs.flatMap fun q => encQ q.qname q.qtype q.qclass
def encRRs (rs : List RRec) : List UInt8 := rs.flatMap fun r => encRR r.owner r.ty r.cls r.ttl r.rdata

/-- the canonical encoding of the body of a message (RFC 1035 §4.1, no compression) -/
def Body.enc (b : Body) : List UInt8 := encQs b.qs ++ encRRs b.an ++ encRRs b.ns ++ encRRs b.ar

/-- **the layout invariant** (`Disabled` mode): below the cursor the buffer holds the header and
    the canonical encoding of `b`; the counts are those of `b` (plus the reserved OPT / TSIG
    records); sections are written in order -/
structure Lay (s : State) (b : Body) : Prop where
  mode : s.mode = .disabled
  bytes : BytesAt s.octets 12 b.enc
  cur : s.cursor = 12 + b.enc.length
  rr : s.rrStart = 12 + (encQs b.qs).length
  qd : s.qdcount = b.qs.length
  an : s.ancount = b.an.length
  ns : s.nscount = b.ns.length
  ar : s.arcount = b.ar.length + (if s.edns.isSome then 1 else 0) + (if s.tsig.isSome then 1 else 0)
  sq : s.sect = .question → b.an = [] ∧ b.ns = [] ∧ b.ar = []
  sa : s.sect = .answer → b.ns = [] ∧ b.ar = []
  su : s.sect = .authority → b.ar = []

def toSect : RrSection → Section
  | .answer => .answer
  | .authority => .authority
  | .additional => .additional

theorem changeSection_ok_inv (sec : RrSection) (s s1 : State) (h : changeSection sec s = (.ok (), s1)) :
    s1 = { s with sect := toSect sec } ∧ (sec = .answer → s.sect = .question ∨ s.sect = .answer) ∧
      (sec = .authority → s.sect ≠ .additional) := by
  unfold changeSection at h
  cases sec <;> cases hs : s.sect <;> simp only [hs] at h <;> cases h <;>
    (refine ⟨?_, ?_, ?_⟩ <;> simp_all [toSect])
  all_goals (cases s; simp_all)

/-- add records to a section -/
def Body.add (b : Body) (sec : RrSection) (rs : List RRec) : Body :=
  match sec with
  | .answer => { b with an := b.an ++ rs }
  | .authority => { b with ns := b.ns ++ rs }
  | .additional => { b with ar := b.ar ++ rs }

theorem encRRs_append (a b : List RRec) : encRRs (a ++ b) = encRRs a ++ encRRs b := by
  simp [encRRs]

/-- appending to a section appends to the encoding, as long as the later sections are empty -/
theorem enc_add (b : Body) (sec : RrSection) (rs : List RRec)
    (h1 : sec = .answer → b.ns = [] ∧ b.ar = []) (h2 : sec = .authority → b.ar = []) :
    (b.add sec rs).enc = b.enc ++ encRRs rs := by
  cases sec with
  | answer =>
    obtain ⟨hn, ha⟩ := h1 rfl
    simp [Body.add, Body.enc, encRRs_append, hn, ha, encRRs]
  | authority =>
    have ha := h2 rfl
    simp [Body.add, Body.enc, encRRs_append, ha, encRRs]
  | additional =>
    simp [Body.add, Body.enc, encRRs_append]

/-- the records `finish` will still append -/
def pend (s : State) : Nat := (if s.edns.isSome then 1 else 0) + (if s.tsig.isSome then 1 else 0)

theorem pend_setCount (sec : RrSection) (n : Nat) (s : State) : pend (setCount sec n s).2 = pend s := by
  cases sec <;> rfl

theorem pend_of_isSome {s s' : State} (he : s'.edns.isSome = s.edns.isSome) (ht : s'.tsig.isSome = s.tsig.isSome) :
    pend s' = pend s := by
  unfold pend; rw [he, ht]

/-- the part of a layout that is not about octets: the four counts are those of `b` (the additional
    count includes the records `finish` will still append), and the sections were written in order -/
structure Tally (s : State) (b : Body) : Prop where
  qd : s.qdcount = b.qs.length
  an : s.ancount = b.an.length
  ns : s.nscount = b.ns.length
  ar : s.arcount = b.ar.length + pend s
  sq : s.sect = .question → b.an = [] ∧ b.ns = [] ∧ b.ar = []
  sa : s.sect = .answer → b.ns = [] ∧ b.ar = []
  su : s.sect = .authority → b.ar = []

theorem Lay.tally {s : State} {b : Body} (h : Lay s b) : Tally s b :=
  ⟨h.qd, h.an, h.ns, by rw [h.ar, Nat.add_assoc]; rfl, h.sq, h.sa, h.su⟩

theorem Tally.lay {s : State} {b : Body} (t : Tally s b) (hm : s.mode = .disabled) (hb : BytesAt s.octets 12 b.enc)
    (hc : s.cursor = 12 + b.enc.length) (hr : s.rrStart = 12 + (encQs b.qs).length) : Lay s b :=
  ⟨hm, hb, hc, hr, t.qd, t.an, t.ns, by rw [t.ar, Nat.add_assoc]; rfl, t.sq, t.sa, t.su⟩

/-- the tally only depends on the counts, the section, and on whether EDNS / TSIG are set; `d` more
    records reserved raise the additional count by `d` -/
theorem Tally.congr {s s' : State} {b : Body} (t : Tally s b) (hqd : s'.qdcount = s.qdcount)
    (han : s'.ancount = s.ancount) (hns : s'.nscount = s.nscount) (hs : s'.sect = s.sect) {d : Nat}
    (hp : pend s' = pend s + d) (har : s'.arcount = s.arcount + d) : Tally s' b :=
  ⟨by rw [hqd]; exact t.qd, by rw [han]; exact t.an, by rw [hns]; exact t.ns, by rw [har, hp, t.ar]; omega,
    by rw [hs]; exact t.sq, by rw [hs]; exact t.sa, by rw [hs]; exact t.su⟩

/-- the layout only depends on the octets from 12 up to the cursor and on the bookkeeping; `d` more records
    reserved raise the additional count by `d` -/
theorem lay_congr {s s' : State} {b : Body} (h : Lay s b)
    (hpre : ∀ i, 12 ≤ i → i < s.cursor → s'.octets[i]? = s.octets[i]?)
    (hm : s'.mode = s.mode) (hc : s'.cursor = s.cursor) (hr : s'.rrStart = s.rrStart)
    (hqd : s'.qdcount = s.qdcount) (han : s'.ancount = s.ancount) (hns : s'.nscount = s.nscount)
    (hs : s'.sect = s.sect) {d : Nat} (hp : pend s' = pend s + d) (har : s'.arcount = s.arcount + d) : Lay s' b :=
  (h.tally.congr hqd han hns hs hp har).lay (by rw [hm]; exact h.mode)
    (bytesAt_frame h.bytes (fun i h1 h2 => hpre i h1 (by rw [h.cur]; exact h2))) (by rw [hc]; exact h.cur)
    (by rw [hr]; exact h.rr)

theorem lay_same {s s' : State} {b : Body} (h : Lay s b) (e : Same s s') : Lay s' b :=
  lay_congr (d := 0) h (fun i _ hi => e.pre i hi) e.mode e.cursor e.rrStart e.qd e.an e.ns e.sect
    (pend_of_isSome (by rw [e.edns]) (by rw [e.tsig])) e.ar

/-- a section that may be written to has only empty sections after it -/
theorem Tally.later {s s0 : State} {b : Body} (t : Tally s b) {sec : RrSection}
    (h : changeSection sec s = (.ok (), s0)) :
    (sec = .answer → b.ns = [] ∧ b.ar = []) ∧ (sec = .authority → b.ar = []) := by
  obtain ⟨_, hA, hB⟩ := changeSection_ok_inv sec s s0 h
  refine ⟨fun hsec => ?_, fun hsec => ?_⟩
  · rcases hA hsec with hq | ha
    · exact (t.sq hq).2
    · exact t.sa ha
  · have := hB hsec
    cases hss : s.sect with
    | question => exact (t.sq hss).2.2
    | answer => exact (t.sa hss).2
    | authority => exact t.su hss
    | additional => exact absurd hss this

/-- appending to a section appends to the records in message order, as long as the later sections are empty -/
theorem Body.add_sections (b : Body) (sec : RrSection) (rs : List RRec)
    (h1 : sec = .answer → b.ns = [] ∧ b.ar = []) (h2 : sec = .authority → b.ar = []) :
    (b.add sec rs).an ++ (b.add sec rs).ns ++ (b.add sec rs).ar = b.an ++ b.ns ++ b.ar ++ rs := by
  cases sec with
  | answer => obtain ⟨hn, ha⟩ := h1 rfl; simp [Body.add, hn, ha]
  | authority => simp [Body.add, h2 rfl]
  | additional => simp [Body.add]

/-- records appended to section `sec` of a message (`s1`: the state after they were written), the count of
    that section raised by their number -/
theorem Tally.add {s s0 s1 : State} {b : Body} (t : Tally s b) {sec : RrSection}
    (h : changeSection sec s = (.ok (), s0)) (e : Ext s s1) (hsect : s1.sect = toSect sec) (rs : List RRec) :
    Tally (setCount sec (getCount sec s1 + rs.length) s1).2 (b.add sec rs) := by
  obtain ⟨l1, l2⟩ := t.later h
  have har : s1.arcount = b.ar.length + pend s1 := by
    rw [e.ar, t.ar, pend_of_isSome (s := s) (s' := s1) (by rw [e.edns]) (by rw [e.tsig])]
  have hqd : s1.qdcount = b.qs.length := by rw [e.qd]; exact t.qd
  have han : s1.ancount = b.an.length := by rw [e.an]; exact t.an
  have hns : s1.nscount = b.ns.length := by rw [e.ns]; exact t.ns
  have hS : ∀ n x, (setCount sec n s1).2.sect = x → toSect sec = x := fun n x hx => by
    rw [← hsect, ← hx]; cases sec <;> rfl
  cases sec with
  | answer =>
    exact ⟨hqd, by show s1.ancount + _ = (b.an ++ rs).length; rw [han, List.length_append], hns, har,
      (fun hq => nomatch hS _ _ hq), fun _ => l1 rfl, (fun hq => nomatch hS _ _ hq)⟩
  | authority =>
    exact ⟨hqd, han, by show s1.nscount + _ = (b.ns ++ rs).length; rw [hns, List.length_append], har,
      (fun hq => nomatch hS _ _ hq), (fun hq => nomatch hS _ _ hq), fun _ => l2 rfl⟩
  | additional =>
    exact ⟨hqd, han, hns,
      by show s1.arcount + _ = (b.ar ++ rs).length + pend s1; rw [har, List.length_append]; omega,
      (fun hq => nomatch hS _ _ hq), (fun hq => nomatch hS _ _ hq),
      (fun hq => nomatch hS _ _ hq)⟩

/-- a question appended to a message that has no records yet (`s3`: the state after it was written) -/
theorem Tally.question {s s3 : State} {b : Body} (t : Tally s b) (hsq : s.sect = .question) (e : Ext s s3)
    (q : QRec) :
    Tally { s3 with qdcount := s3.qdcount + 1, rrStart := s3.cursor } { b with qs := b.qs ++ [q] } := by
  obtain ⟨han, hns, har⟩ := t.sq hsq
  exact ⟨by show s3.qdcount + 1 = (b.qs ++ [q]).length; rw [e.qd, t.qd, List.length_append]; rfl,
    by show s3.ancount = _; rw [e.an]; exact t.an, by show s3.nscount = _; rw [e.ns]; exact t.ns,
    by show s3.arcount = _ + pend s3; rw [e.ar, t.ar, pend_of_isSome (s := s) (s' := s3) (by rw [e.edns]) (by rw [e.tsig])],
    fun _ => ⟨han, hns, har⟩, fun _ => ⟨hns, har⟩, fun _ => har⟩

theorem Tally.clear {s : State} {b : Body} (t : Tally s b) : Tally (clearRrs s).2 { qs := b.qs } := by
  simp only [clearRrs, M.modify_apply]
  exact ⟨t.qd, rfl, rfl, by show _ = 0 + pend _; unfold pend; simp, fun _ => ⟨rfl, rfl, rfl⟩, fun _ => ⟨rfl, rfl⟩,
    fun _ => rfl⟩

/-- the layout after data `d` = the encoding of records `rs` was appended to section `sec` and
    the count of that section raised by their number -/
theorem lay_append {s s1 s2 : State} {b : Body} (h : Lay s b) (sec : RrSection) (rs : List RRec)
    (h1 : changeSection sec s = (.ok (), s1)) (a : App s1 s2 (encRRs rs)) :
    Lay (setCount sec (getCount sec s2 + rs.length) s2).2 (b.add sec rs) := by
  obtain ⟨hs1, _, _⟩ := changeSection_ok_inv sec s s1 h1
  have e : Ext s s2 := by
    have := frame_changeSection sec s
    rw [h1] at this
    exact this.trans a.ext
  have hcur1 : s1.cursor = s.cursor := by rw [hs1]
  obtain ⟨l1, l2⟩ := h.tally.later h1
  have henc := enc_add b sec rs l1 l2
  have hk : ∀ n, (setCount sec n s2).2.mode = s2.mode ∧ (setCount sec n s2).2.octets = s2.octets ∧
      (setCount sec n s2).2.cursor = s2.cursor ∧ (setCount sec n s2).2.rrStart = s2.rrStart :=
    fun n => by cases sec <;> exact ⟨rfl, rfl, rfl, rfl⟩
  refine (h.tally.add h1 e (by rw [a.sect, hs1]) rs).lay ?_ ?_ ?_ ?_
  · rw [(hk _).1, e.mode]; exact h.mode
  · rw [(hk _).2.1, henc]
    exact bytesAt_append_intro (bytesAt_frame h.bytes (fun i _ hi => e.pre _ (by rw [h.cur]; omega)))
      (by rw [← h.cur, ← hcur1]; exact a.bytes)
  · rw [(hk _).2.2.1, henc, a.cur, hcur1, h.cur, List.length_append]; omega
  · rw [(hk _).2.2.2, e.rrStart, show (b.add sec rs).qs = b.qs by cases sec <;> rfl]
    exact h.rr

theorem changeSection_mode (sec : RrSection) (s s1 : State) (h : changeSection sec s = (.ok (), s1)) :
    s1.mode = s.mode := by
  rw [(changeSection_ok_inv sec s s1 h).1]

theorem lay_addRrOp {s s' : State} {b : Body} (h : Lay s b) (sec : RrSection) (hint : Hint)
    (owner : WName) (ty cls ttl : Nat) (rd : List UInt8)
    (hok : addRrOp sec hint owner ty cls ttl rd s = (.ok (), s')) :
    Lay s' (b.add sec [⟨owner, ty, cls, ttlFrom ttl, rd⟩]) := by
  obtain ⟨s1, s2, h1, h2, _, hs'⟩ := addRrOp_ok_inv sec hint owner ty cls ttl rd s s' hok
  have hm1 : s1.mode = .disabled := by rw [changeSection_mode sec s s1 h1]; exact h.mode
  have a := wr_addRr hint owner ty cls (ttlFrom ttl) rd s1 hm1 () s2 h2
  have a' : App s1 s2 (encRRs [⟨owner, ty, cls, ttlFrom ttl, rd⟩]) := by
    simpa [encRRs] using a
  have := lay_append h sec [⟨owner, ty, cls, ttlFrom ttl, rd⟩] h1 a'
  rw [hs']; exact this

theorem lay_addRrsetOp {s s' : State} {b : Body} (h : Lay s b) (sec : RrSection) (hint : Hint)
    (owner : WName) (ty cls ttl : Nat) (rds : List (List UInt8))
    (hok : addRrsetOp sec hint owner ty cls ttl rds s = (.ok (), s')) :
    Lay s' (b.add sec (rds.map fun rd => ⟨owner, ty, cls, ttlFrom ttl, rd⟩)) := by
  obtain ⟨s1, s2, n, h1, h2, _, hs'⟩ := addRrsetOp_ok_inv sec hint owner ty cls ttl rds s s' hok
  have hm1 : s1.mode = .disabled := by rw [changeSection_mode sec s s1 h1]; exact h.mode
  have a := wr_addRrset hint owner ty cls (ttlFrom ttl) rds 0 s1 hm1 n s2 h2
  have a' : App s1 s2 (encRRs (rds.map fun rd => ⟨owner, ty, cls, ttlFrom ttl, rd⟩)) := by
    have : encRRs (rds.map fun rd => (⟨owner, ty, cls, ttlFrom ttl, rd⟩ : RRec)) =
        rds.flatMap (encRR owner ty cls (ttlFrom ttl)) := by
      simp [encRRs, List.flatMap_map]
    rw [this]; exact a
  have hn := addRrset_count owner ty cls (ttlFrom ttl) rds hint 0 s1 s2 n h2
  have := lay_append h sec (rds.map fun rd => ⟨owner, ty, cls, ttlFrom ttl, rd⟩) h1 a'
  rw [hs', hn]
  simpa using this


theorem addQuestion_ok_inv (qn : WName) (qt qc : Nat) (s s' : State)
    (h : addQuestion qn qt qc s = (.ok (), s')) :
    ∃ s3, s.sect = .question ∧ addQuestionBody qn qt qc s = (.ok (), s3) ∧
      s' = { s3 with qdcount := s3.qdcount + 1, rrStart := s3.cursor } := by
  unfold addQuestion at h
  simp only [M.bind_apply, M.gets_apply] at h
  by_cases h1 : s.sect ≠ .question
  · rw [if_pos h1] at h; cases h
  rw [if_neg h1] at h
  by_cases h2 : s.qdcount + 1 > 65535
  · rw [if_pos h2] at h; cases h
  rw [if_neg h2] at h
  simp only [M.bind_apply, withRollback_apply, M.modify_apply] at h
  cases hb : addQuestionBody qn qt qc s with
  | mk r s3 =>
    rw [hb] at h
    cases r with
    | ok u =>
      simp only [] at h
      cases h
      exact ⟨s3, Decidable.of_not_not h1, rfl, rfl⟩
    | err e => cases h
    | panic => cases h

theorem lay_addQuestion {s s' : State} {b : Body} (h : Lay s b) (qn : WName) (qt qc : Nat)
    (hok : addQuestion qn qt qc s = (.ok (), s')) :
    Lay s' { b with qs := b.qs ++ [⟨qn, qt, qc⟩] } := by
  obtain ⟨s3, hsq, hb, hs'⟩ := addQuestion_ok_inv qn qt qc s s' hok
  have a := wr_addQuestionBody qn qt qc s h.mode () s3 hb
  obtain ⟨han, hns, har⟩ := h.sq hsq
  have e := a.ext
  have hbenc : b.enc = encQs b.qs := by simp [Body.enc, han, hns, har, encRRs]
  have henc : ({ b with qs := b.qs ++ [(⟨qn, qt, qc⟩ : QRec)] } : Body).enc = b.enc ++ encQ qn qt qc := by
    simp [Body.enc, encQs, han, hns, har, encRRs]
  have hcur : s3.cursor = 12 + (b.enc ++ encQ qn qt qc).length := by
    rw [a.cur, h.cur, List.length_append]; omega
  rw [hs']
  refine (h.tally.question hsq e ⟨qn, qt, qc⟩).lay (by show s3.mode = _; rw [a.mode]; exact h.mode) ?_
    (by rw [henc]; exact hcur) ?_
  · rw [henc]
    exact bytesAt_append_intro (bytesAt_frame h.bytes (fun i _ hi => e.pre _ (by rw [h.cur]; omega)))
      (by rw [← h.cur]; exact a.bytes)
  · show s3.cursor = 12 + (encQs (b.qs ++ [(⟨qn, qt, qc⟩ : QRec)])).length
    rw [hcur, hbenc]; simp [encQs]

theorem lay_clearRrs {s : State} {b : Body} (h : Lay s b) : Lay (clearRrs s).2 { qs := b.qs } := by
  have henc : ({ qs := b.qs } : Body).enc = encQs b.qs := by simp [Body.enc, encRRs]
  have hb := h.bytes
  rw [show b.enc = encQs b.qs ++ (encRRs b.an ++ encRRs b.ns ++ encRRs b.ar) by
    simp [Body.enc, List.append_assoc]] at hb
  refine h.tally.clear.lay h.mode ?_ ?_ h.rr
  · rw [henc]; exact (bytesAt_append hb).1
  · rw [henc]; exact h.rr

/-- a step that only touches the header octets and bookkeeping the layout does not depend on -/
structure HdrOnly (s s' : State) : Prop where
  pre : ∀ i, 12 ≤ i → s'.octets[i]? = s.octets[i]?
  mode : s'.mode = s.mode
  cursor : s'.cursor = s.cursor
  rrStart : s'.rrStart = s.rrStart
  qd : s'.qdcount = s.qdcount
  an : s'.ancount = s.ancount
  ns : s'.nscount = s.nscount
  ar : s'.arcount = s.arcount
  sect : s'.sect = s.sect
  edns : s'.edns.isSome = s.edns.isSome
  tsig : s'.tsig.isSome = s.tsig.isSome
  gl : s'.gLabels = s.gLabels

theorem lay_hdrOnly {s s' : State} {b : Body} (h : Lay s b) (k : HdrOnly s s') : Lay s' b :=
  lay_congr (d := 0) h (fun i hi _ => k.pre i hi) k.mode k.cursor k.rrStart k.qd k.an k.ns k.sect
    (pend_of_isSome k.edns k.tsig) k.ar

theorem HdrOnly.refl (s : State) : HdrOnly s s := by constructor <;> simp

theorem hdrOnly_write (pos : Nat) (d : List UInt8) (hp : pos + d.length ≤ 12) (s : State) :
    HdrOnly s (write pos d s).2 := by
  unfold write
  split
  · constructor <;> simp
    intro i hi; exact writeAt_get_ge _ _ _ _ (by omega)
  · exact HdrOnly.refl s

theorem hdrOnly_setHdr (i : Nat) (f : UInt8 → UInt8) (hi : i < 12) (s : State) :
    HdrOnly s (setHdr i f s).2 := by
  unfold setHdr
  split
  · constructor <;> simp
    intro j hj; simp only [Array.getElem?_set]; rw [if_neg (by omega)]
  · exact HdrOnly.refl s

theorem hdrOnly_setRcode (v : Nat) (s : State) : HdrOnly s (setRcode v s).2 := by
  unfold setRcode
  simp only [M.bind_apply]
  have h1 := hdrOnly_setHdr Gen.RCODE_BYTE (fun b => (b &&& ~~~ (UInt8.ofNat Gen.RCODE_MASK)) ||| UInt8.ofNat v)
    (by decide) s
  cases hs : setHdr Gen.RCODE_BYTE (fun b => (b &&& ~~~ (UInt8.ofNat Gen.RCODE_MASK)) ||| UInt8.ofNat v) s with
  | mk r s1 =>
    rw [hs] at h1
    cases r with
    | ok u =>
      simp only [M.modify_apply]
      cases he : s1.edns with
      | none => simp only [he]; exact h1
      | some e =>
        simp only [he]
        exact ⟨h1.pre, h1.mode, h1.cursor, h1.rrStart, h1.qd, h1.an, h1.ns, h1.ar, h1.sect,
          by rw [← h1.edns, he]; rfl, h1.tsig, h1.gl⟩
    | err e => exact h1
    | panic => exact h1

theorem hdrOnly_setExtendedRcode (v : Nat) (s : State) : HdrOnly s (setExtendedRcode v s).2 := by
  unfold setExtendedRcode
  simp only [M.bind_apply, M.gets_apply]
  cases he : s.edns with
  | none => exact HdrOnly.refl s
  | some e =>
    simp only []
    by_cases hv : v > 4095
    · rw [if_pos hv]; exact HdrOnly.refl s
    · rw [if_neg hv]
      simp only [M.bind_apply]
      have h1 := hdrOnly_setHdr Gen.RCODE_BYTE (fun b => (b &&& ~~~ (UInt8.ofNat Gen.RCODE_MASK)) |||
              (UInt8.ofNat (v % 256) &&& UInt8.ofNat Gen.RCODE_MASK)) (by decide) s
      cases hs : setHdr Gen.RCODE_BYTE (fun b => (b &&& ~~~ (UInt8.ofNat Gen.RCODE_MASK)) |||
              (UInt8.ofNat (v % 256) &&& UInt8.ofNat Gen.RCODE_MASK)) s with
      | mk r s1 =>
        rw [hs] at h1
        cases r with
        | ok u =>
          simp only [M.modify_apply]
          exact ⟨h1.pre, h1.mode, h1.cursor, h1.rrStart, h1.qd, h1.an, h1.ns, h1.ar, h1.sect,
            by rw [he]; rfl, h1.tsig, h1.gl⟩
        | err e => exact h1
        | panic => exact h1

theorem hdrOnly_setLimit (v : Nat) (s : State) : HdrOnly s (setLimit v s).2 := by
  unfold setLimit
  dsimp only
  repeat' split
  all_goals first
    | exact HdrOnly.refl s
    | (constructor <;> simp)

/-- the effect of a successful call on the body of the message -/
def bodyStep (b : Body) : Op → Body
  | .addQuestion n t c => { b with qs := b.qs ++ [⟨n, t, c⟩] }
  | .addRr sec _ o ty cls ttl rd _ => b.add sec [⟨o, ty, cls, ttlFrom ttl, rd⟩]
  | .addRrset sec _ o ty cls ttl rds _ => b.add sec (rds.map fun rd => ⟨o, ty, cls, ttlFrom ttl, rd⟩)
  | .clearRrs => { qs := b.qs }
  | _ => b

/-- calls that keep the writer in `Disabled` mode -/
def keepsDisabled : Op → Bool
  | .setMode m => m == .disabled
  | _ => true

/-- the body after a sequence of calls with the given outcomes -/
def bodyRun (b : Body) : List Op → List (Out WriterErr Unit) → Body
  | op :: ops, r :: rs => bodyRun (if r = .ok () then bodyStep b op else b) ops rs
  | _, _ => b

/-- a new writer switched to `Disabled` mode has the empty layout -/
theorem lay_new (buf : Bytes) (limit : Nat) (s : State) (h : Writer.new buf limit = .ok s) :
    Lay { s with mode := .disabled } {} := by
  unfold Writer.new at h
  dsimp only at h
  split at h
  · cases h
  · have hs := Out.ok.inj h
    subst hs
    refine ⟨rfl, fun i hi => by simp [Body.enc, encQs, encRRs] at hi, rfl, rfl, rfl, rfl, rfl, rfl,
      (fun _ => ⟨rfl, rfl, rfl⟩), (fun _ => ⟨rfl, rfl⟩), fun _ => rfl⟩

end QV.Writer
