/-
  QV.Proofs.WriterMsgRefine — C12 (d) in every compression mode: the RFC 1035 decoder of the
  specification (`QV.Spec.Message.specDecodeMsg`: names decompressed, RDATA expanded along the RFC
  layouts) reads the finished message as the header, questions and records of the calls that
  succeeded, names up to ASCII case in `Standard` mode and octet for octet otherwise.

  Here: names (an item holding a name is read by `decodeNameAt`), RDATA (`decodeFields` along `RdAt`),
  records, questions, the whole message (`finish_refines`); the same stated on the questions and
  records given, for whole sessions (`refines_all_modes`, `refines_item_modes`, `refines_exact`); and
  two facts about sessions those statements lean on: the limit never exceeds 65535 unless a call
  asks for it (`run_limit`), the mode changes only by `set_compression_mode` (`run_mode`, `modesRun`).
-/
import QV.Proofs.WriterContentDecode
import QV.Proofs.WriterBridge

namespace QV.Writer
open QV QV.Wire QV.Spec QV.ServerSafety

variable {P : CMode → Prop}

/-- the literal labels of the chunk at `a` are part of the name the decoder reads there -/
theorem specWalk_chunk_len (msg : Bytes) (cs : Nat) (b : UInt8) (pre : List Label) (a fuel : Nat)
    (ls : List (List UInt8)) (k : Nat) (hwf : LabelsWF pre)
    (hb : BytesAt msg a (pre.flatMap WName.encLabel ++ [b])) (hw : specWalk msg fuel a cs = some (ls, k)) :
    encLen pre + 1 ≤ ls.flatten.length :=
  (decodes_chunk pre hwf hb (specWalk_sound msg fuel a cs ls k hw)).2.2

/-- what the physical walk finds where literal labels are followed by a root label or a pointer:
    the starts of those labels (and of the root label), and the pointer -/
theorem physical_inv (msg : Bytes) (b : UInt8) : ∀ (ls : List Label) (pos fuel : Nat) (acc : List Nat)
    (r : List Nat × Option (Nat × Nat)),
    LabelsWF ls → BytesAt msg pos (ls.flatMap WName.encLabel ++ [b]) → (b = 0 ∨ isPtr b = true) →
    Message.physical msg fuel pos acc = some r →
    r.1 = acc.reverse ++ chunkLabs pos ls b ∧ (b = 0 → r.2 = none) ∧
      (isPtr b = true → ∃ b2, msg[pos + encLen ls + 1]? = some b2 ∧ r.2 = some (pos + encLen ls, ptrOf b b2)) := by
  intro ls
  induction ls with
  | nil =>
    intro pos fuel acc r _ hb hc h
    obtain ⟨f, rfl⟩ : ∃ f, fuel = f + 1 := by
      cases fuel with
      | zero => simp [Message.physical] at h
      | succ f => exact ⟨f, rfl⟩
    have h0 : msg[pos]? = some b := by simpa using hb 0 (by simp)
    rcases hc with rfl | hp
    · simp only [Message.physical, h0, if_true] at h
      cases h
      refine ⟨by simp [chunkLabs, labelStartsFrom], fun _ => rfl, fun hx => absurd hx (by decide)⟩
    · have hsp : specIsPtr b := (isPtr_iff b).mp hp
      have hsp' := hsp
      unfold specIsPtr at hsp'
      have hne : b ≠ 0 := by
        intro hc; subst hc
        have : (0 : UInt8).toNat = 0 := rfl
        omega
      unfold Message.physical at h
      simp only [h0, hne, if_false] at h
      rw [if_neg (by omega), if_pos hsp'] at h
      cases h2 : msg[pos + 1]? with
      | none => rw [h2] at h; cases h
      | some b2 =>
        rw [h2] at h
        cases h
        refine ⟨by simp [chunkLabs, labelStartsFrom, hne], fun hx => absurd hx hne, fun _ => ⟨b2, by simpa using h2, ?_⟩⟩
        simp only [encLen_nil, Nat.add_zero]
        rw [ptrOf_eq b b2 hsp]; rfl
  | cons l ls ih =>
    intro pos fuel acc r hok hb hc h
    obtain ⟨f, rfl⟩ : ∃ f, fuel = f + 1 := by
      cases fuel with
      | zero => simp [Message.physical] at h
      | succ f => exact ⟨f, rfl⟩
    have hl := hok l List.mem_cons_self
    obtain ⟨h0, hne, _, b2⟩ := bytesAt_cons_label hl hb
    unfold Message.physical at h
    simp only [h0, hne, if_false, ofNat_len_toNat hl.2, hl.2, if_true] at h
    obtain ⟨e1, e2, e3⟩ := ih (pos + l.length + 1) f (pos :: acc) r (fun x hx => hok x (List.mem_cons_of_mem _ hx))
      b2 hc h
    refine ⟨?_, e2, fun hp => ?_⟩
    · rw [e1]
      simp only [chunkLabs, labelStartsFrom, List.reverse_cons, List.append_assoc, List.cons_append,
        List.nil_append, encLen_cons]
      rw [show pos + l.length + 1 + encLen ls = pos + (1 + l.length + encLen ls) by omega]
    · obtain ⟨b2', x1, x2⟩ := e3 hp
      refine ⟨b2', ?_, ?_⟩
      · rw [encLen_cons, show pos + (1 + l.length + encLen ls) + 1 = pos + l.length + 1 + encLen ls + 1 by omega]
        exact x1
      · rw [x2, encLen_cons, show pos + l.length + 1 + encLen ls = pos + (1 + l.length + encLen ls) by omega]

/-- a decoded name occurrence is the name at the position `pr.1`, of the item with index `pr.2`,
    described as the physical walk finds it; inside RDATA that must not be compressed it has no
    pointer -/
def Occ (msg : Bytes) (pr : Nat × Nat) (o : Message.NameOcc) : Prop :=
  o.start = pr.1 ∧ o.item = pr.2 ∧ Message.physical msg 130 pr.1 [] = some (o.labelStarts, o.ptr) ∧
  (o.place = .rdataUncompressible → o.ptr = none)

theorem decodeNameAt_occ {msg : Bytes} {a : Nat} {place : Message.Where} {item : Nat} {w : List UInt8} {k : Nat}
    {occ : Message.NameOcc} (h : Message.decodeNameAt msg a place item = some (w, k, occ)) :
    occ.start = a ∧ occ.item = item ∧ occ.place = place ∧
      Message.physical msg 130 a [] = some (occ.labelStarts, occ.ptr) := by
  unfold Message.decodeNameAt at h
  split at h
  · rename_i w' x k' ls p h1 h2
    simp only [Option.some.injEq, Prod.mk.injEq] at h
    obtain ⟨_, _, h3⟩ := h
    subst h3
    exact ⟨rfl, rfl, rfl, h2⟩
  · cases h

/-- **an item holding a name is read by the specification's decoder** as a name that equals the
    name given up to ASCII case (octet for octet outside `Standard` mode), occupying the `k`
    octets of the item -/
theorem decodeNameAt_item {s : State} {a k : Nat} {m : CMode} {n : WName} (hw : WInv s) (hit : Item s a k)
    (hnm : NameIs s a m n) (place : Message.Where) (item : Nat) :
    ∃ w occ, Message.decodeNameAt (s.octets.extract 0 s.cursor) a place item = some (w, k, occ) ∧
      w.map lowerU8 = n.wire.map lowerU8 ∧ (m ≠ .standard → w = n.wire) := by
  obtain ⟨w, hd, hc, hx⟩ := item_decodes_name hw hit hnm
  obtain ⟨_, ⟨pre, b, hwf, hb, hk⟩, hle⟩ := hit
  have hcs : s.cursor ≤ s.octets.size := Nat.le_trans hw.cur_av hw.av_size
  have hsz := extract_size s.octets s.cursor hcs
  have hlen := chunk_length pre b
  have hbm : BytesAt (s.octets.extract 0 s.cursor) a (pre.flatMap WName.encLabel ++ [b]) :=
    bytesAt_extract_prefix hcs hb (by rw [hlen]; rcases hk with ⟨_, e⟩ | ⟨_, e⟩ <;> omega)
  -- the chunk is short: it is part of a name of at most 255 octets
  have hpl : pre.length < 130 := by
    have hd' := hd
    unfold specDecodeName at hd'
    cases hwk : specWalk (s.octets.extract 0 s.cursor)
        ((s.octets.extract 0 s.cursor).size * (s.octets.extract 0 s.cursor).size +
          (s.octets.extract 0 s.cursor).size + 2) a a with
    | none => rw [hwk] at hd'; cases hd'
    | some r =>
      obtain ⟨ls, k2⟩ := r
      rw [hwk] at hd'
      simp only at hd'
      split at hd'
      · rename_i h255
        have := specWalk_chunk_len _ a b pre a _ ls k2 hwf hbm hwk
        have h2 := flatMap_enc_length_ge2 pre hwf
        unfold encLen at this
        omega
      · cases hd'
  obtain ⟨r, hr⟩ := physical_chunk (s.octets.extract 0 s.cursor) b pre a 130 [] hwf hbm (by
    rcases hk with ⟨h0, _⟩ | ⟨hp, e⟩
    · exact Or.inl h0
    · refine Or.inr ⟨hp, ?_⟩
      have hi : a + encLen pre + 1 < (s.octets.extract 0 s.cursor).size := by rw [hsz]; omega
      exact ⟨(s.octets.extract 0 s.cursor)[a + encLen pre + 1], Array.getElem?_eq_getElem hi⟩) hpl
  unfold Message.decodeNameAt
  rw [hd, hr]
  exact ⟨w, _, rfl, hc, hx⟩

/-- a decoded RDATA field is the field given: octets equal, names equal up to ASCII case (octet for
    octet if `exact`) -/
inductive FieldMatch (exact : Prop) : Message.Field → Message.Field → Prop
  | name {g d : List UInt8} (h1 : g.map lowerU8 = d.map lowerU8) (h2 : exact → g = d) :
      FieldMatch exact (.name g) (.name d)
  | bytes (b : List UInt8) : FieldMatch exact (.bytes b) (.bytes b)

theorem all2_snoc {α β : Type} {R : α → β → Prop} {as : List α} {bs : List β} {a : α} {b : β}
    (h : All2 R as bs) (hab : R a b) : All2 R (as ++ [a]) (bs ++ [b]) :=
  h.append (.cons hab .nil)

/-- **RDATA reads back within a record**: where the parts of an RDATA lie (`RdAt`) the
    specification's decoder, expanding along the RFC layout, reads the fields of the RDATA given -/
theorem decodeFields_rdAt (s : State) (hw : WInv s) (item : Nat) (m : CMode) (stop : Nat)
    (hstop : stop ≤ s.cursor) :
    ∀ (lay : List Message.Lay) (rd : List UInt8) (pos : Nat) (fs : List Message.Field) (ns : List Message.NameOcc)
      (ps : List Nat),
    RdAt s m (lay.map layToComp) rd pos stop ps →
    ∃ gf df nl, Message.givenFields lay rd = some gf ∧
      Message.decodeFields (s.octets.extract 0 s.cursor) item stop lay pos fs ns = some (fs.reverse ++ df, ns.reverse ++ nl) ∧
      All2 (FieldMatch (m ≠ .standard)) gf df ∧
      All2 (Occ (s.octets.extract 0 s.cursor)) (ps.map (·, item)) nl := by
  have hcs : s.cursor ≤ s.octets.size := Nat.le_trans hw.cur_av hw.av_size
  intro lay
  induction lay with
  | nil =>
    intro rd pos fs ns ps h
    simp only [List.map_nil, RdAt] at h
    obtain ⟨hb, he, hps⟩ := h
    subst hps
    refine ⟨[.bytes rd], [.bytes rd], [], rfl, ?_, .cons (.bytes rd) .nil, .nil⟩
    have hbm := bytesAt_extract_prefix hcs hb (by omega)
    unfold Message.decodeFields
    rw [if_pos (by omega), he, bytesAt_extract hbm]
    simp
  | cons l lay ih =>
    intro rd pos fs ns ps h
    cases l with
    | fixed n =>
      simp only [List.map_cons, layToComp, RdAt] at h
      obtain ⟨hn, hb, hrest⟩ := h
      have hle := rdAt_le hrest
      have htl : (rd.take n).length = n := by simp; omega
      have hbm := bytesAt_extract_prefix hcs hb (by rw [htl]; omega)
      have hex : ((s.octets.extract 0 s.cursor).extract pos (pos + n)).toList = rd.take n := by
        have := bytesAt_extract hbm; rw [htl] at this; exact this
      obtain ⟨gf, df, nl, hg, hd, hm, hocc⟩ := ih (rd.drop n) (pos + n) (.bytes (rd.take n) :: fs) ns ps hrest
      refine ⟨.bytes (rd.take n) :: gf, .bytes (rd.take n) :: df, nl, ?_, ?_, .cons (.bytes _) hm, hocc⟩
      · unfold Message.givenFields
        rw [if_neg (by omega), hg]; rfl
      · unfold Message.decodeFields
        rw [if_pos (by omega), hex, hd]
        simp
    | cname =>
      simp only [List.map_cons, layToComp, RdAt] at h
      obtain ⟨n, rest, k, hp, hit, hnm, ps', hps, hrest⟩ := h
      subst hps
      have hle := rdAt_le hrest
      have hc := parse_content hp
      have hwf := parse_wf hp
      subst hc
      obtain ⟨w, occ, hocc, hcase, hex⟩ := decodeNameAt_item hw hit hnm .rdataCompressible item
      obtain ⟨o1, o2, o3, o4⟩ := decodeNameAt_occ hocc
      obtain ⟨gf, df, nl, hg, hd, hm, hoccs⟩ := ih rest (pos + k) (.name w :: fs) (occ :: ns) ps' hrest
      refine ⟨.name n.wire :: gf, .name w :: df, occ :: nl, ?_, ?_, .cons (.name hcase.symm (fun h => (hex h).symm)) hm,
        .cons ⟨o1, o2, o4, fun hx => by rw [o3] at hx; cases hx⟩ hoccs⟩
      · unfold Message.givenFields
        rw [takeName_wire n hwf rest]
        simp only [hg]; rfl
      · unfold Message.decodeFields
        simp only [hocc]
        rw [if_pos (by omega), hd]
        simp
    | uname =>
      simp only [List.map_cons, layToComp, RdAt] at h
      obtain ⟨n, rest, hp, hb, ps', hps, hrest⟩ := h
      subst hps
      have hle := rdAt_le hrest
      have hc := parse_content hp
      have hwf := parse_wf hp
      subst hc
      have hbm := bytesAt_extract_prefix hcs hb (by omega)
      obtain ⟨occ, hocc⟩ := decodeNameAt_wire (s.octets.extract 0 s.cursor) n hwf pos .rdataUncompressible item hbm
      obtain ⟨o1, o2, o3, o4⟩ := decodeNameAt_occ hocc
      have hnone : occ.ptr = none :=
        (physical_inv _ 0 n.labels pos 130 [] _ (fun l hl => hwf.1 l hl) (by simpa [WName.wire] using hbm)
          (Or.inl rfl) o4).2.1 rfl
      obtain ⟨gf, df, nl, hg, hd, hm, hoccs⟩ := ih rest (pos + n.wire.length) (.name n.wire :: fs) (occ :: ns) ps' hrest
      refine ⟨.name n.wire :: gf, .name n.wire :: df, occ :: nl, ?_, ?_, .cons (.name rfl (fun _ => rfl)) hm,
        .cons ⟨o1, o2, o4, fun _ => hnone⟩ hoccs⟩
      · unfold Message.givenFields
        rw [takeName_wire n hwf rest]
        simp only [hg]; rfl
      · unfold Message.decodeFields
        simp only [hocc]
        rw [if_pos (by omega), hd]
        simp


theorem fieldMatch_norm {ex : Prop} : ∀ {a b : List Message.Field}, All2 (FieldMatch ex) a b →
    All2 (FieldMatch ex) (Message.normFields a) (Message.normFields b) := by
  intro a b h
  induction h with
  | nil => exact .nil
  | cons hh _ ih =>
    cases hh with
    | name h1 h2 =>
      simp only [Message.normFields]
      exact .cons (.name h1 h2) ih
    | bytes x =>
      cases x with
      | nil => simp only [Message.normFields]; exact ih
      | cons c cs =>
        simp only [Message.normFields]
        rename_i ra rb _
        generalize Message.normFields ra = na at ih ⊢
        generalize Message.normFields rb = nb at ih ⊢
        cases ih with
        | nil => exact .cons (.bytes _) .nil
        | cons hx tx =>
          cases hx with
          | name h1 h2 => exact .cons (.bytes _) (.cons (.name h1 h2) tx)
          | bytes y => exact .cons (.bytes _) tx

/-- the RDATA of one record reads back: fields as the specification reads the RDATA given -/
theorem decodeRdata_rdAt (s : State) (hw : WInv s) (item : Nat) (m : CMode) (ty cls ty' cls' : Nat)
    (rd : List UInt8) (p len : Nat) (ts : List CompType) (hct : componentTypes cls ty = some ts)
    (hlay : Message.layoutOf ty' cls' = Message.layoutOf ty cls)
    {ps : List Nat} (h : RdAt s m ts rd p (p + len) ps) (hstop : p + len ≤ s.cursor) :
    ∃ gf df ns, Message.givenRdata ty cls rd = some gf ∧
      Message.decodeRdata (s.octets.extract 0 s.cursor) item ty' cls' p len = some (df, ns) ∧
      All2 (FieldMatch (m ≠ .standard)) gf df ∧
      All2 (Occ (s.octets.extract 0 s.cursor)) (ps.map (·, item)) ns := by
  rw [componentTypes_layout] at hct
  simp only [Option.some.injEq] at hct
  subst hct
  obtain ⟨gf, df, ns', hg, hd, hm, hocc⟩ :=
    decodeFields_rdAt s hw item m (p + len) hstop (Message.layoutOf ty cls) rd p [] [] ps h
  refine ⟨Message.normFields gf, Message.normFields df, ns', by simp [Message.givenRdata, hg], ?_, fieldMatch_norm hm,
    hocc⟩
  unfold Message.decodeRdata
  simp only [hlay, hd, List.reverse_nil, List.nil_append]

/-- **RDATA names read back within a record**, in every compression mode: after a successful
    `add_rr` (message of at most 65535 octets so far) the record starts at the old cursor with an
    owner of `k` octets, RDLENGTH holds the number of octets after it, and the specification's
    decoder, expanding those octets along the RFC layout of the type, reads the fields of the RDATA
    given — embedded names decompressed, equal to those given up to ASCII case (octet for octet
    outside `Standard` mode), all other octets as given -/
theorem addRr_rdata_round_trip (hint : Hint) (owner : WName) (ty cls ttl : Nat) (rd : List UInt8) (s s' : State)
    (hw : WInv s) (hl : PtrLogOK s) (hwf : owner.WF) (hh : HintOK s hint owner)
    (h : addRr hint owner ty cls ttl rd s = (.ok (), s')) (hle : s'.cursor ≤ 65535) (item : Nat) :
    ∃ k len gf df ns, s.cursor + k + 10 + len = s'.cursor ∧
      (∃ w n, specDecodeName (s'.octets.extract 0 s'.cursor) s.cursor = some (w, n, k)) ∧
      be16 s'.octets (s.cursor + k + 8) = len ∧
      Message.givenRdata ty cls rd = some gf ∧
      Message.decodeRdata (s'.octets.extract 0 s'.cursor) item ty cls (s.cursor + k + 10) len = some (df, ns) ∧
      All2 (FieldMatch (s.mode ≠ .standard)) gf df := by
  obtain ⟨p, k, ts, ps, hrec, a⟩ := addRr_added hint owner ty cls ttl rd (recSt_init hw hl) hwf hh h
  have hroom := a.room
  have hrd := a.rdata
  rw [show s'.cursor = s.cursor + k + 10 + (s'.cursor - (s.cursor + k + 10)) by omega] at hrd
  obtain ⟨gf, df, ns, hg, hd, hfm, _⟩ := decodeRdata_rdAt s' hrec.winv item s.mode ty cls ty cls rd
    (s.cursor + k + 10) _ ts a.types rfl hrd (by omega)
  obtain ⟨w, n, hdn⟩ := item_decodes hrec.winv a.item
  exact ⟨k, _, gf, df, ns, by omega, ⟨w, n, hdn⟩, by rw [a.rdlen, Nat.mod_eq_of_lt (by omega)], hg, hd, hfm⟩

/-- a decoded question is the question given (`ex`: names octet for octet) -/
def QuestionIs (ex : Prop) (q : QRec) (dq : Message.Question) : Prop :=
  dq.qname.map lowerU8 = q.qname.wire.map lowerU8 ∧ (ex → dq.qname = q.qname.wire) ∧
  dq.qtype = q.qtype % 65536 ∧ dq.qclass = q.qclass % 65536

/-- a decoded record is the record given: owner and the names inside RDATA (decompressed) equal to
    those given up to ASCII case — octet for octet if `ex` —, TYPE, CLASS, TTL and all other RDATA
    octets as given (`givenRdata`: the specification's reading of the RDATA octets given) -/
def RecordIs (ex : Prop) (r : RRec) (dr : Message.Record) : Prop :=
  dr.owner.map lowerU8 = r.owner.wire.map lowerU8 ∧ (ex → dr.owner = r.owner.wire) ∧
  dr.type = r.ty % 65536 ∧ dr.cls = r.cls % 65536 ∧ dr.ttl = r.ttl % 4294967296 ∧
  ∃ gf, Message.givenRdata r.ty r.cls r.rdata = some gf ∧ All2 (FieldMatch ex) gf dr.rdata

/-- a decoded record is the record of the item, compared in the mode the item was written in -/
def MRecMatch (it : RItC) (dr : Message.Record) : Prop := RecordIs (it.m ≠ .standard) it.r dr

def MQMatch (it : QItC) (dq : Message.Question) : Prop := QuestionIs (it.m ≠ .standard) it.q dq

/-- TYPE and CLASS are 16-bit values, as far as the RDATA layout is concerned -/
def LayoutStable (r : RRec) : Prop :=
  Message.layoutOf (r.ty % 65536) (r.cls % 65536) = Message.layoutOf r.ty r.cls

/-- the name positions of the questions, with the index of the question -/
def qPairs (i : Nat) : List QItC → List (Nat × Nat)
  | [] => []
  | it :: r => (it.a, i) :: qPairs (i + 1) r

/-- the name positions of the records (owner, then the names inside the RDATA), with the index of
    the record -/
def rPairs (i : Nat) : List RItC → List (Nat × Nat)
  | [] => []
  | it :: r => ((it.a :: it.ps).map (·, i)) ++ rPairs (i + 1) r

theorem rPairs_append (i : Nat) (x y : List RItC) : rPairs i (x ++ y) = rPairs i x ++ rPairs (i + x.length) y := by
  induction x generalizing i with
  | nil => simp [rPairs]
  | cons a r ih =>
    simp only [List.cons_append, rPairs, ih, List.length_cons, List.append_assoc]
    rw [show i + 1 + r.length = i + (r.length + 1) by omega]

theorem decodeQuestionsM_chainC (s : State) (hw : WInv s) :
    ∀ (qs : List QItC) (p e : Nat), QChainC s qs p e → e ≤ s.cursor →
      ∀ (acc : List Message.Question) (a : Message.Acc),
      ∃ l a', Message.decodeQuestions (s.octets.extract 0 s.cursor) qs.length p acc a =
          some (e, acc.reverse ++ l, a') ∧ All2 MQMatch qs l ∧
          a'.extents = (qs.map fun it => (it.a, it.a + it.k + 4)).reverse ++ a.extents ∧
          a'.item = a.item + qs.length ∧
          ∃ nl, a'.names = nl.reverse ++ a.names ∧ All2 (Occ (s.octets.extract 0 s.cursor)) (qPairs a.item qs) nl := by
  have hcs : s.cursor ≤ s.octets.size := Nat.le_trans hw.cur_av hw.av_size
  have hsz := extract_size s.octets s.cursor hcs
  intro qs
  induction qs with
  | nil =>
    intro p e h _ acc a
    simp only [QChainC] at h
    subst h
    exact ⟨[], a, by simp [Message.decodeQuestions], .nil, by simp, rfl, [], rfl, .nil⟩
  | cons x r ih =>
    intro p e h he acc a
    obtain ⟨h1, ⟨hit, hnm, hby⟩, h3⟩ := h
    subst h1
    have hle := qchainC_le h3
    obtain ⟨w, occ, hd, hcase, hex⟩ := decodeNameAt_item hw hit hnm .qname a.item
    have hl2 : ∀ y, (u16be y).length = 2 := fun _ => rfl
    obtain ⟨b1, b2⟩ := bytesAt_append hby
    rw [hl2] at b2
    have e1 : be16 (s.octets.extract 0 s.cursor) (x.a + x.k) = x.q.qtype % 65536 :=
      be16_of_bytesAt_mod (bytesAt_extract_prefix hcs b1 (by rw [hl2]; omega))
    have e2 : be16 (s.octets.extract 0 s.cursor) (x.a + x.k + 2) = x.q.qclass % 65536 :=
      be16_of_bytesAt_mod (bytesAt_extract_prefix hcs b2 (by rw [hl2]; omega))
    obtain ⟨o1, o2, o3, o4⟩ := decodeNameAt_occ hd
    obtain ⟨l, a', hl, hfa, hext, hitem, nl, hnl, hocc⟩ := ih _ _ h3 he (⟨w, x.q.qtype % 65536, x.q.qclass % 65536⟩ :: acc)
      { extents := (x.a, x.a + x.k + 4) :: a.extents, names := occ :: a.names, item := a.item + 1 }
    refine ⟨⟨w, x.q.qtype % 65536, x.q.qclass % 65536⟩ :: l, a', ?_, .cons ⟨hcase, hex, rfl, rfl⟩ hfa,
      by rw [hext]; simp, by rw [hitem]; simp; omega, occ :: nl, by rw [hnl]; simp,
      .cons ⟨o1, o2, o4, fun hx => by rw [o3] at hx; cases hx⟩ hocc⟩
    simp only [List.length_cons, Message.decodeQuestions, hd]
    rw [if_pos (by rw [hsz]; omega), e1, e2, hl]
    simp

theorem decodeRecordsM_chainC (s : State) (hw : WInv s) :
    ∀ (rs : List RItC) (p e : Nat), RChainC s rs p e → e ≤ s.cursor → (∀ it ∈ rs, LayoutStable it.r) →
      ∀ (acc : List Message.Record) (a : Message.Acc),
      ∃ l a', Message.decodeRecords (s.octets.extract 0 s.cursor) rs.length p acc a = some (e, acc.reverse ++ l, a') ∧
        All2 MRecMatch rs l ∧
        a'.extents = (rs.map fun it => (it.a, it.a + it.k + 10 + it.rdlen)).reverse ++ a.extents ∧
        a'.item = a.item + rs.length ∧
        ∃ nl, a'.names = nl.reverse ++ a.names ∧ All2 (Occ (s.octets.extract 0 s.cursor)) (rPairs a.item rs) nl := by
  have hcs : s.cursor ≤ s.octets.size := Nat.le_trans hw.cur_av hw.av_size
  have hsz := extract_size s.octets s.cursor hcs
  intro rs
  induction rs with
  | nil =>
    intro p e h _ _ acc a
    simp only [RChainC] at h
    subst h
    exact ⟨[], a, by simp [Message.decodeRecords], .nil, by simp, rfl, [], rfl, .nil⟩
  | cons x r ih =>
    intro p e h he hst acc a
    obtain ⟨h1, ⟨hit, hnm, hby, hb, ts, hct, hrd⟩, h4⟩ := h
    subst h1
    obtain ⟨w, occ, hd, hcase, hex⟩ := decodeNameAt_item hw hit hnm .owner a.item
    have hle := rchainC_le h4
    have hl2 : ∀ y, (u16be y).length = 2 := fun _ => rfl
    obtain ⟨b12, b3⟩ := bytesAt_append hby
    obtain ⟨b1, b2⟩ := bytesAt_append b12
    simp only [List.length_append, hl2] at b2 b3
    have e1 : be16 (s.octets.extract 0 s.cursor) (x.a + x.k) = x.r.ty % 65536 :=
      be16_of_bytesAt_mod (bytesAt_extract_prefix hcs b1 (by rw [hl2]; omega))
    have e2 : be16 (s.octets.extract 0 s.cursor) (x.a + x.k + 2) = x.r.cls % 65536 :=
      be16_of_bytesAt_mod (bytesAt_extract_prefix hcs b2 (by rw [hl2]; omega))
    have e3 : be32 (s.octets.extract 0 s.cursor) (x.a + x.k + 4) = x.r.ttl % 4294967296 :=
      be32_of_bytesAt_mod (bytesAt_extract_prefix hcs (by rw [show x.a + x.k + 4 = x.a + x.k + (2 + 2) by omega]; exact b3)
        (by show _ + 4 ≤ _; omega))
    have e8 : be16 (s.octets.extract 0 s.cursor) (x.a + x.k + 8) = x.rdlen := by
      rw [be16_extract _ _ _ hcs (by omega)]; exact hb
    obtain ⟨o1, o2, o3, o4⟩ := decodeNameAt_occ hd
    obtain ⟨gf, df, ns, hgf, hdf, hfm, hoccr⟩ := decodeRdata_rdAt s hw a.item x.m x.r.ty x.r.cls (x.r.ty % 65536)
      (x.r.cls % 65536) x.r.rdata (x.a + x.k + 10) x.rdlen ts hct (hst x List.mem_cons_self) hrd (by omega)
    obtain ⟨l, a', hl, hfa, hext, hitem, nl, hnl, hocc⟩ := ih _ _ h4 he (fun it hx => hst it (List.mem_cons_of_mem _ hx))
      (⟨w, x.r.ty % 65536, x.r.cls % 65536, x.r.ttl % 4294967296, df⟩ :: acc)
      { extents := (x.a, x.a + x.k + 10 + x.rdlen) :: a.extents,
        names := ns.reverse ++ (occ :: a.names), item := a.item + 1 }
    refine ⟨⟨w, x.r.ty % 65536, x.r.cls % 65536, x.r.ttl % 4294967296, df⟩ :: l, a', ?_,
      .cons ⟨hcase, hex, rfl, rfl, rfl, gf, hgf, hfm⟩ hfa, by rw [hext]; simp, by rw [hitem]; simp; omega,
      (occ :: ns) ++ nl, by rw [hnl]; simp,
      All2.append (.cons ⟨o1, o2, o4, fun hx => by rw [o3] at hx; cases hx⟩ hoccr) hocc⟩
    simp only [List.length_cons, Message.decodeRecords, hd]
    rw [if_pos (by rw [hsz]; omega)]
    simp only [e1, e2, e3, e8]
    rw [if_pos (by rw [hsz]; omega)]
    simp only [hdf, hl]
    simp


/-- the record loop run three times in a row over a chain that ends at the cursor: the three
    sections, and what the accumulator has gathered over the whole chain -/
theorem decodeRecordsM_sections (s : State) (hw : WInv s) (rs : List RItC) (p : Nat)
    (h : RChainC s rs p s.cursor) (hst : ∀ it ∈ rs, LayoutStable it.r) (na nn nr : Nat)
    (hl : rs.length = na + nn + nr) (a1 : Message.Acc) :
    ∃ la ln lr p2 p3 a2 a3 a4,
      Message.decodeRecords (s.octets.extract 0 s.cursor) na p [] a1 = some (p2, la, a2) ∧
      Message.decodeRecords (s.octets.extract 0 s.cursor) nn p2 [] a2 = some (p3, ln, a3) ∧
      Message.decodeRecords (s.octets.extract 0 s.cursor) nr p3 [] a3 = some (s.cursor, lr, a4) ∧
      All2 MRecMatch (rs.take na) la ∧ All2 MRecMatch ((rs.drop na).take nn) ln ∧
      All2 MRecMatch ((rs.drop na).drop nn) lr ∧
      a4.extents = (rs.map fun it => (it.a, it.a + it.k + 10 + it.rdlen)).reverse ++ a1.extents ∧
      ∃ nl, a4.names = nl.reverse ++ a1.names ∧ All2 (Occ (s.octets.extract 0 s.cursor)) (rPairs a1.item rs) nl := by
  -- the chain, cut by the counts
  have hsec := sections_append rs na nn
  have hl1 : (rs.take na).length = na := by rw [List.length_take]; omega
  have hl2 : ((rs.drop na).take nn).length = nn := by rw [List.length_take, List.length_drop]; omega
  have hl3 : ((rs.drop na).drop nn).length = nr := by rw [List.length_drop, List.length_drop]; omega
  have hmem : ∀ it, it ∈ rs.take na ++ (rs.drop na).take nn ++ (rs.drop na).drop nn → LayoutStable it.r :=
    fun it hx => hst it (hsec ▸ hx)
  have h' := h
  rw [← hsec, List.append_assoc] at h'
  obtain ⟨p2, ca, h'⟩ := rchainC_split h'
  obtain ⟨p3, cn, cr⟩ := rchainC_split h'
  have l3 := rchainC_le cr; have l2 := rchainC_le cn
  obtain ⟨la, a2, hda, hma, hx2, hi2, nla, hna, hoa⟩ := decodeRecordsM_chainC s hw _ _ _ ca (by omega)
    (fun it hx => hmem it (List.mem_append_left _ (List.mem_append_left _ hx))) [] a1
  obtain ⟨ln, a3, hdn, hmn, hx3, hi3, nln, hnn, hon⟩ := decodeRecordsM_chainC s hw _ _ _ cn (by omega)
    (fun it hx => hmem it (List.mem_append_left _ (List.mem_append_right _ hx))) [] a2
  obtain ⟨lr, a4, hdr, hmr, hx4, _, nlr, hnr, hor⟩ := decodeRecordsM_chainC s hw _ _ _ cr (Nat.le_refl _)
    (fun it hx => hmem it (List.mem_append_right _ hx)) [] a3
  rw [hl1] at hda; rw [hl2] at hdn; rw [hl3] at hdr
  simp only [List.reverse_nil, List.nil_append] at hda hdn hdr
  refine ⟨la, ln, lr, p2, p3, a2, a3, a4, hda, hdn, hdr, hma, hmn, hmr, ?_,
    nla ++ (nln ++ nlr), by rw [hnr, hnn, hna]; simp, ?_⟩
  · rw [hx4, hx3, hx2]
    conv => rhs; rw [← hsec]
    simp only [List.map_append, List.reverse_append, List.append_assoc]
  · conv => arg 2; rw [← hsec]
    rw [List.append_assoc, rPairs_append, rPairs_append, hl1, hl2]
    rw [hi2, hl1] at hon
    rw [hi3, hi2, hl1, hl2] at hor
    exact All2.append hoa (All2.append hon hor)

/-- where a question / record ends -/
def qEnd (it : QItC) : Nat := it.a + it.k + 4
def rEnd (it : RItC) : Nat := it.a + it.k + 10 + it.rdlen

theorem layoutStable_of_lt {r : RRec} (h1 : r.ty < 65536) (h2 : r.cls < 65536) : LayoutStable r := by
  unfold LayoutStable; rw [Nat.mod_eq_of_lt h1, Nat.mod_eq_of_lt h2]

theorem layoutStable_typed {B : Body} (hT : B.Typed) : ∀ r ∈ B.an ++ B.ns ++ B.ar, LayoutStable r := by
  intro r hx
  have hr : r.Typed := by
    rcases List.mem_append.mp hx with h1 | h1
    · rcases List.mem_append.mp h1 with h2 | h2
      · exact hT.an r h2
      · exact hT.ns r h2
    · exact hT.ar r h1
  exact layoutStable_of_lt hr.2.1 hr.2.2.1

theorem layoutStable_opt (e : Option Edns) : ∀ r ∈ optRecs' e, LayoutStable r := by
  intro r hr
  cases e with
  | none => cases hr
  | some e =>
    simp only [optRecs', List.mem_singleton] at hr
    subst hr
    have h41 : T_OPT = 41 := by decide +kernel
    unfold LayoutStable Message.layoutOf
    simp [h41]

theorem layoutStable_tsig (t : Option Tsig) (mac : Option (List UInt8)) : ∀ r ∈ tsigRecs t mac, LayoutStable r := by
  intro r hr
  cases t with
  | none => cases hr
  | some t =>
    simp only [tsigRecs, List.mem_singleton] at hr
    subst hr
    have h250 : T_TSIG = 250 := by decide +kernel
    unfold LayoutStable Message.layoutOf
    simp [h250]

/-- what the pointer audit needs to know about the final buffer `sF` of `finish`: the message is
    its octets below the cursor, the chains lie there, every recorded label start is the first
    octet of a label of a name of the chains, and the decoder's name occurrences are the names at
    the name positions of the chains, in order -/
def FinAudit (s : State) (m : Bytes) (d : Message.Decoded) (qs : List QItC) (rs : List RItC) : Prop :=
  ∃ sF : State, m = sF.octets.extract 0 sF.cursor ∧ WInv sF ∧ QChainC sF qs 12 s.rrStart ∧
    RChainC sF rs s.rrStart sF.cursor ∧ Labs sF s.rrStart qs rs ∧
    All2 (Occ m) (qPairs 0 qs ++ rPairs qs.length rs) d.names

/-- **C12 (d) in every compression mode.** From a valid writer state whose layout holds the questions
    and records `b` (of 16-bit types and classes): whatever `finish` returns (if at most 65535
    octets) is read by the specification's RFC 1035 decoder as a message with the header octets of
    the writer and — section by section, in order — the questions and records given followed by the
    OPT and TSIG records: names (owners, QNAMEs and the names inside RDATA, decompressed) equal to
    those given up to ASCII case, octet for octet when written outside `Standard` mode; TYPE, CLASS,
    TTL and all other RDATA octets as given. -/
theorem finish_refines (macFn : Tsig → List UInt8 → List UInt8) (s : State) (b : Body) (mb : MBody) (hI : I s)
    (hL : CLay P s b mb) (hT : ∀ r ∈ b.an ++ b.ns ++ b.ar, LayoutStable r)
    (m : Bytes) (mac : Option (List UInt8)) (hf : finish s macFn = .ok (m, mac)) (hsz : m.size ≤ 65535) :
    ∃ (d : Message.Decoded) (qs : List QItC) (ian ins iar : List RItC), Message.specDecodeMsg m = some d ∧
      d.msg.header = specHeader s.octets ∧
      qs.map (·.q) = b.qs ∧ ian.map (·.r) = b.an ∧ ins.map (·.r) = b.ns ∧
      iar.map (·.r) = b.ar ++ optRecs' s.edns ++ tsigRecs s.tsig mac ∧
      All2 MQMatch qs d.msg.questions ∧ All2 MRecMatch ian d.msg.answers ∧
      All2 MRecMatch ins d.msg.authorities ∧ All2 MRecMatch iar d.msg.additionals ∧
      (∀ it ∈ qs, P it.m) ∧ (∀ it ∈ ian ++ ins ++ iar, P it.m) ∧
      qs.map (·.m) = mb.qs ∧ ian.map (·.m) = mb.an ∧ ins.map (·.m) = mb.ns ∧
      iar.map (·.m) = mb.ar ++ (optRecs' s.edns).map (fun _ => s.mode) ++
        (tsigRecs s.tsig mac).map (fun _ => s.mode) ∧
      d.extents.map (·.2) = qs.map qEnd ++ (ian ++ ins ++ iar).map rEnd ∧
      ∃ rs0 ex, ian ++ ins ++ iar = rs0 ++ ex ∧ QChainC s qs 12 s.rrStart ∧ RChainC s rs0 s.rrStart s.cursor ∧
        FinAudit s m d qs (ian ++ ins ++ iar) := by
  obtain ⟨sF, len, qs, rs, hw, rfl, hcF, wF, hhdr, ⟨e4, e6, e8, e10⟩, hq, hr, hql, hrl, hqm, ⟨hra, hrn, hrr⟩, hqP, hrP,
      hqM, ⟨hma', hmn', hmr'⟩, ⟨rs0, ex, hrs0, hq0, hr0⟩, hlabF⟩ := finish_finLayC macFn s b mb hI hL m mac hf hsz
  have hsz' := extract_size sF.octets sF.cursor hcF
  have h12 : 12 ≤ sF.cursor := wF.c12
  have hsec := sections_append rs s.ancount s.nscount
  -- every record has a stable layout
  have hst : ∀ it ∈ rs, LayoutStable it.r := by
    intro it hx
    rw [← hsec] at hx
    have hmem : it.r ∈ b.an ++ b.ns ++ (b.ar ++ optRecs' s.edns ++ tsigRecs s.tsig mac) := by
      rw [← hra, ← hrn, ← hrr, ← List.map_append, ← List.map_append]
      exact List.mem_map_of_mem hx
    rcases List.mem_append.mp hmem with h1 | h1
    · exact hT _ (List.mem_append_left _ h1)
    · rcases List.mem_append.mp h1 with h2 | h2
      · rcases List.mem_append.mp h2 with h3 | h3
        · exact hT _ (List.mem_append_right _ h3)
        · exact layoutStable_opt _ _ h3
      · exact layoutStable_tsig _ _ _ h2
  -- questions
  obtain ⟨lq, a1, hdq, hmq, hx1, hi1, nlq, hnq, hoq⟩ :=
    decodeQuestionsM_chainC sF wF qs 12 s.rrStart hq (rchainC_le hr) [] {}
  rw [hql] at hdq
  -- the three record sections
  obtain ⟨la, ln, lr, p2, p3, a2, a3, a4, hda, hdn, hdr, hma, hmn, hmr, hx4, nlr, hnr, hor⟩ :=
    decodeRecordsM_sections sF wF rs _ hr hst _ _ _ hrl a1
  simp only [List.reverse_nil, List.nil_append] at hdq
  have hoccs : All2 (Occ (sF.octets.extract 0 sF.cursor)) (qPairs 0 qs ++ rPairs qs.length rs)
      a4.names.reverse := by
    rw [hnr, hnq, show a1.item = qs.length by rw [hi1]; exact Nat.zero_add _] at *
    simp only [List.reverse_append, List.reverse_reverse, List.append_nil]
    exact All2.append hoq hor
  -- the header octets
  have hh : specHeader (sF.octets.extract 0 sF.cursor) = specHeader s.octets :=
    specHeader_hdr4 (fun i hi => (extract_prefix_get sF.octets sF.cursor hcF i (by omega)).trans (hhdr i hi))
  refine ⟨⟨⟨specHeader (sF.octets.extract 0 sF.cursor), lq, la, ln, lr⟩, a4.extents.reverse, a4.names.reverse⟩,
    qs, rs.take s.ancount, (rs.drop s.ancount).take s.nscount, (rs.drop s.ancount).drop s.nscount, ?_, hh, hqm,
    hra, hrn, hrr, hmq, hma, hmn, hmr, hqP, by rw [hsec]; exact hrP, hqM, hma', hmn', hmr', ?_,
    rs0, ex, by rw [hsec]; exact hrs0, hq0, hr0, by rw [hsec]; exact ⟨sF, rfl, wF, hq, hr, hlabF, hoccs⟩⟩
  · unfold Message.specDecodeMsg
    rw [if_neg (by rw [hsz']; omega)]
    simp only [e4, e6, e8, e10, hdq, hda, hdn, hdr]
    rw [if_pos (by rw [hsz'])]
    simp [specHeader]
  · -- the extents
    show (a4.extents.reverse).map (·.2) = _
    rw [hx4, hx1, hsec]
    simp only [List.reverse_append, List.reverse_reverse, List.map_append, List.map_map, List.append_nil]
    rfl


/-! ### stated on the questions and records given -/

theorem fieldMatch_mono {e1 e2 : Prop} (h : e2 → e1) {a b : Message.Field} (hm : FieldMatch e1 a b) :
    FieldMatch e2 a b := by
  cases hm with
  | name h1 h2 => exact .name h1 (fun x => h2 (h x))
  | bytes x => exact .bytes x

theorem all2_map_left {α β γ : Type} {R : γ → β → Prop} (f : α → γ) {S : α → β → Prop} :
    ∀ {as : List α} {bs : List β}, All2 S as bs → (∀ a ∈ as, ∀ b, S a b → R (f a) b) → All2 R (as.map f) bs := by
  intro as bs hm
  induction hm with
  | nil => intro _; exact .nil
  | cons hr _ ih =>
    intro h
    exact .cons (h _ List.mem_cons_self _ hr) (ih (fun a ha b hs => h a (List.mem_cons_of_mem _ ha) b hs))

theorem records_of_items {ex : Prop} {its : List RItC} {drs : List Message.Record} (h : All2 MRecMatch its drs)
    (hP : ∀ it ∈ its, ex → it.m ≠ .standard) : All2 (RecordIs ex) (its.map (·.r)) drs :=
  all2_map_left (·.r) h (fun it hit _ ⟨h1, h2, h3, h4, h5, gf, h6, h7⟩ =>
    ⟨h1, fun x => h2 (hP it hit x), h3, h4, h5, gf, h6, h7.imp (fun _ _ hf => fieldMatch_mono (hP it hit) hf)⟩)

theorem questions_of_items {ex : Prop} {its : List QItC} {dqs : List Message.Question} (h : All2 MQMatch its dqs)
    (hP : ∀ it ∈ its, ex → it.m ≠ .standard) : All2 (QuestionIs ex) (its.map (·.q)) dqs :=
  all2_map_left (·.q) h (fun it hit _ ⟨h1, h2, h3, h4⟩ => ⟨h1, fun x => h2 (hP it hit x), h3, h4⟩)

/-- pair every item given with the mode it was written in -/
theorem records_of_items_modes {its : List RItC} {drs : List Message.Record} (h : All2 MRecMatch its drs) :
    All2 (fun (x : CMode × RRec) dr => RecordIs (x.1 ≠ .standard) x.2 dr) ((its.map (·.m)).zip (its.map (·.r))) drs := by
  induction h with
  | nil => exact .nil
  | cons hr _ ih => exact .cons hr ih

theorem questions_of_items_modes {its : List QItC} {dqs : List Message.Question} (h : All2 MQMatch its dqs) :
    All2 (fun (x : CMode × QRec) dq => QuestionIs (x.1 ≠ .standard) x.2 dq) ((its.map (·.m)).zip (its.map (·.q))) dqs := by
  induction h with
  | nil => exact .nil
  | cons hr _ ih => exact .cons hr ih

/-- **C12 (d), every compression mode, item by item.** As `refines_all_modes` below, with every
    question and record compared in the compression mode that was in effect when it was written
    (`mrun`; the OPT and TSIG records: the mode in effect at `finish`): octet for octet unless that
    mode was `Standard`, up to ASCII case if it was. This is the comparison the executable
    specification `checkSegment` makes (`itemModes`). -/
theorem refines_item_modes (macFn : Tsig → List UInt8 → List UInt8) (hmac : MacLenOK macFn)
    (buf : Bytes) (limit : Nat) (s0 : State) (hnew : Writer.new buf limit = .ok s0) (mode : CMode)
    (ops : List Op) (ht : ∀ op ∈ ops, op.Typed) (hr : Respects { w := { s0 with mode := mode } } ops) :
    ∃ m mac, finish (run { w := { s0 with mode := mode } } ops).1.w macFn = .ok (m, mac) ∧ (m.size ≤ 65535 →
      ∃ d : Message.Decoded, Message.specDecodeMsg m = some d ∧
        d.msg.header = specHeader (run { w := { s0 with mode := mode } } ops).1.w.octets ∧
        All2 (fun (x : CMode × QRec) dq => QuestionIs (x.1 ≠ .standard) x.2 dq)
          ((mrun { w := { s0 with mode := mode } } {} ops).qs.zip
            (bodyRun {} ops (run { w := { s0 with mode := mode } } ops).2).qs) d.msg.questions ∧
        All2 (fun (x : CMode × RRec) dr => RecordIs (x.1 ≠ .standard) x.2 dr)
          ((mrun { w := { s0 with mode := mode } } {} ops).an.zip
            (bodyRun {} ops (run { w := { s0 with mode := mode } } ops).2).an) d.msg.answers ∧
        All2 (fun (x : CMode × RRec) dr => RecordIs (x.1 ≠ .standard) x.2 dr)
          ((mrun { w := { s0 with mode := mode } } {} ops).ns.zip
            (bodyRun {} ops (run { w := { s0 with mode := mode } } ops).2).ns) d.msg.authorities ∧
        All2 (fun (x : CMode × RRec) dr => RecordIs (x.1 ≠ .standard) x.2 dr)
          (((mrun { w := { s0 with mode := mode } } {} ops).ar ++
              (optRecs' (run { w := { s0 with mode := mode } } ops).1.w.edns).map
                (fun _ => (run { w := { s0 with mode := mode } } ops).1.w.mode) ++
              (tsigRecs (run { w := { s0 with mode := mode } } ops).1.w.tsig mac).map
                (fun _ => (run { w := { s0 with mode := mode } } ops).1.w.mode)).zip
            ((bodyRun {} ops (run { w := { s0 with mode := mode } } ops).2).ar ++
              optRecs' (run { w := { s0 with mode := mode } } ops).1.w.edns ++
              tsigRecs (run { w := { s0 with mode := mode } } ops).1.w.tsig mac)) d.msg.additionals) := by
  obtain ⟨hI, hL⟩ := fresh_run (P := fun _ => True) hnew mode trivial ops hr (fun _ _ => trivial)
  have hT := typed_run ops { w := { s0 with mode := mode } } {} Body.Typed.empty ht
  generalize (run { w := { s0 with mode := mode } } ops).1.w = sF at hI hL ⊢
  generalize bodyRun {} ops (run { w := { s0 with mode := mode } } ops).2 = B at hL hT ⊢
  generalize mrun { w := { s0 with mode := mode } } {} ops = MB at hL ⊢
  obtain ⟨m, mac, hf⟩ := finish_ok macFn hmac sF hI
  refine ⟨m, mac, hf, fun hsz => ?_⟩
  obtain ⟨d, qs, ian, ins, iar, hd, hh, hq, han, hns, har, mq, ma, mn, mr, _, _, hqM, haM, hnM, hrM, _⟩ :=
    finish_refines macFn sF B MB hI hL (layoutStable_typed hT) m mac hf hsz
  refine ⟨d, hd, hh, ?_, ?_, ?_, ?_⟩
  · rw [← hq, ← hqM]; exact questions_of_items_modes mq
  · rw [← han, ← haM]; exact records_of_items_modes ma
  · rw [← hns, ← hnM]; exact records_of_items_modes mn
  · rw [← har, ← hrM]; exact records_of_items_modes mr

/-- **C12 (d), every compression mode, for all sequences of calls.** From a fresh writer put into any
    mode, after any sequence of public calls (16-bit types and classes; hint contract respected) with
    any mode changes: `finish` succeeds and its message (if at most 65535 octets), read by the
    specification's RFC 1035 decoder, has the header octets of the writer and, section by section and
    in order, exactly the questions and records of the calls that succeeded (`bodyRun`: `clear_rrs`
    removes the records, a failed call adds nothing), then the OPT and TSIG records — names up to
    ASCII case, and octet for octet (`ex`) if neither the initial mode nor any mode set is `Standard`. -/
theorem refines_all_modes (macFn : Tsig → List UInt8 → List UInt8) (hmac : MacLenOK macFn)
    (buf : Bytes) (limit : Nat) (s0 : State) (hnew : Writer.new buf limit = .ok s0) (mode : CMode)
    (ops : List Op) (ht : ∀ op ∈ ops, op.Typed) (hr : Respects { w := { s0 with mode := mode } } ops)
    (ex : Prop) (hex : ex → mode ≠ .standard ∧ ∀ m, Op.setMode m ∈ ops → m ≠ .standard) :
    ∃ m mac, finish (run { w := { s0 with mode := mode } } ops).1.w macFn = .ok (m, mac) ∧ (m.size ≤ 65535 →
      ∃ d : Message.Decoded, Message.specDecodeMsg m = some d ∧
        d.msg.header = specHeader (run { w := { s0 with mode := mode } } ops).1.w.octets ∧
        All2 (QuestionIs ex) (bodyRun {} ops (run { w := { s0 with mode := mode } } ops).2).qs d.msg.questions ∧
        All2 (RecordIs ex) (bodyRun {} ops (run { w := { s0 with mode := mode } } ops).2).an d.msg.answers ∧
        All2 (RecordIs ex) (bodyRun {} ops (run { w := { s0 with mode := mode } } ops).2).ns d.msg.authorities ∧
        All2 (RecordIs ex) ((bodyRun {} ops (run { w := { s0 with mode := mode } } ops).2).ar ++
          optRecs' (run { w := { s0 with mode := mode } } ops).1.w.edns ++
          tsigRecs (run { w := { s0 with mode := mode } } ops).1.w.tsig mac) d.msg.additionals) := by
  obtain ⟨hI, hL⟩ := fresh_run (P := fun m => ex → m ≠ .standard) hnew mode (fun x => (hex x).1) ops hr
    (fun m hm x => (hex x).2 m hm)
  have hT := typed_run ops { w := { s0 with mode := mode } } {} Body.Typed.empty ht
  generalize (run { w := { s0 with mode := mode } } ops).1.w = sF at hI hL ⊢
  generalize bodyRun {} ops (run { w := { s0 with mode := mode } } ops).2 = B at hL hT ⊢
  obtain ⟨m, mac, hf⟩ := finish_ok macFn hmac sF hI
  refine ⟨m, mac, hf, fun hsz => ?_⟩
  generalize mrun { w := { s0 with mode := mode } } {} ops = MB at hL
  obtain ⟨d, qs, ian, ins, iar, hd, hh, hq, han, hns, har, mq, ma, mn, mr, pq, pr, _⟩ :=
    finish_refines macFn sF B MB hI hL (layoutStable_typed hT) m mac hf hsz
  refine ⟨d, hd, hh, ?_, ?_, ?_, ?_⟩
  · rw [← hq]; exact questions_of_items mq pq
  · rw [← han]; exact records_of_items ma (fun it hx => pr it (List.mem_append_left _ (List.mem_append_left _ hx)))
  · rw [← hns]; exact records_of_items mn (fun it hx => pr it (List.mem_append_left _ (List.mem_append_right _ hx)))
  · rw [← har]; exact records_of_items mr (fun it hx => pr it (List.mem_append_right _ hx))


/-! ### sessions that never use `Standard` mode: the decoded message is exactly the message given -/

theorem fields_exact : ∀ {gf df : List Message.Field}, All2 (FieldMatch True) gf df → gf = df := by
  intro gf df h
  induction h with
  | nil => rfl
  | cons hh _ ih =>
    cases hh with
    | name h1 h2 => rw [h2 trivial, ih]
    | bytes x => rw [ih]

/-- what a record given means, TYPE/CLASS/TTL as 16/16/32-bit values -/
def normR (r : RRec) : Message.Record :=
  ⟨r.owner.wire, r.ty % 65536, r.cls % 65536, r.ttl % 4294967296, (Message.givenRdata r.ty r.cls r.rdata).getD []⟩

theorem recordIs_exact {r : RRec} {dr : Message.Record} (h : RecordIs True r dr) : dr = normR r := by
  obtain ⟨_, h2, h3, h4, h5, gf, h6, h7⟩ := h
  have := fields_exact h7
  cases dr with
  | mk o t c l f =>
    simp only at h2 h3 h4 h5 this
    simp only [normR, h6, Option.getD_some, h2 trivial, h3, h4, h5, this]

theorem all2_eq_map {α β : Type} {R : α → β → Prop} (f : α → β) (h : ∀ a b, R a b → b = f a) :
    ∀ {as : List α} {bs : List β}, All2 R as bs → bs = as.map f := by
  intro as bs hm
  induction hm with
  | nil => rfl
  | cons hr _ ih => rw [List.map_cons, ← ih, h _ _ hr]

theorem normR_typed {r : RRec} (h1 : r.ty < 65536) (h2 : r.cls < 65536) (h3 : r.ttl < 4294967296) :
    normR r = specR r := by
  simp only [normR, specR, Nat.mod_eq_of_lt h1, Nat.mod_eq_of_lt h2, Nat.mod_eq_of_lt h3]

theorem normR_opt (e : Option Edns) : (optRecs' e).map normR = (optRecs e).map specR := by
  cases e with
  | none => rfl
  | some e =>
    have h41 : T_OPT = 41 := by decide +kernel
    simp only [optRecs', optRecs, List.map_cons, List.map_nil, normR, specR, h41]
    have hg : ∀ c, Message.givenRdata 41 c [] = Message.givenRdata 41 (c % 65536) [] := by
      intro c; simp [Message.givenRdata, Message.layoutOf]
    rw [hg e.payload]
    simp

theorem normR_tsig (t : Option Tsig) (mac : Option (List UInt8)) :
    (tsigRecs t mac).map normR = (tsigRecs t mac).map specR := by
  cases t with
  | none => rfl
  | some t =>
    have h250 : T_TSIG = 250 := by decide +kernel
    have h255 : QC_ANY = 255 := by decide +kernel
    simp only [tsigRecs, List.map_cons, List.map_nil]
    rw [normR_typed (by simp [h250]) (by simp [h255]) (ttlFrom_lt 0)]

/-- **C12 (d) for sessions that never use `Standard` mode** (`CasePreserving`, `Disabled`, or any mix):
    the specification's decoder reads the finished message as *exactly* the abstract message of the
    calls that succeeded — the same statement as in `Disabled` mode (`disabled_refines`), now with
    compression -/
theorem refines_exact (macFn : Tsig → List UInt8 → List UInt8) (hmac : MacLenOK macFn)
    (buf : Bytes) (limit : Nat) (s0 : State) (hnew : Writer.new buf limit = .ok s0) (mode : CMode)
    (ops : List Op) (ht : ∀ op ∈ ops, op.Typed) (hr : Respects { w := { s0 with mode := mode } } ops)
    (hm0 : mode ≠ .standard) (hms : ∀ m, Op.setMode m ∈ ops → m ≠ .standard) :
    ∃ m mac, finish (run { w := { s0 with mode := mode } } ops).1.w macFn = .ok (m, mac) ∧ (m.size ≤ 65535 →
      ∃ d : Message.Decoded, Message.specDecodeMsg m = some d ∧
        d.msg = ⟨specHeader (run { w := { s0 with mode := mode } } ops).1.w.octets,
          (bodyRun {} ops (run { w := { s0 with mode := mode } } ops).2).qs.map specQ,
          (bodyRun {} ops (run { w := { s0 with mode := mode } } ops).2).an.map specR,
          (bodyRun {} ops (run { w := { s0 with mode := mode } } ops).2).ns.map specR,
          ((bodyRun {} ops (run { w := { s0 with mode := mode } } ops).2).ar ++
            optRecs (run { w := { s0 with mode := mode } } ops).1.w.edns ++
            tsigRecs (run { w := { s0 with mode := mode } } ops).1.w.tsig mac).map specR⟩) := by
  obtain ⟨m, mac, hf, hrest⟩ := refines_all_modes macFn hmac buf limit s0 hnew mode ops ht hr True
    (fun _ => ⟨hm0, hms⟩)
  have hT := typed_run ops { w := { s0 with mode := mode } } {} Body.Typed.empty ht
  refine ⟨m, mac, hf, fun hsz => ?_⟩
  obtain ⟨d, hd, hh, mq, ma, mn, mr⟩ := hrest hsz
  generalize (run { w := { s0 with mode := mode } } ops).1.w = sF at *
  generalize bodyRun {} ops (run { w := { s0 with mode := mode } } ops).2 = B at *
  refine ⟨d, hd, ?_⟩
  have eq : d.msg.questions = B.qs.map specQ := by
    have := all2_eq_map (R := QuestionIs True) (fun q => (⟨q.qname.wire, q.qtype % 65536, q.qclass % 65536⟩ : Message.Question))
      (fun q dq ⟨_, h2, h3, h4⟩ => by cases dq; simp only at h2 h3 h4; rw [h2 trivial, h3, h4]) mq
    rw [this]
    apply List.map_congr_left
    intro q hq
    obtain ⟨_, h1, h2⟩ := hT.qs q hq
    simp only [specQ, Nat.mod_eq_of_lt h1, Nat.mod_eq_of_lt h2]
  have hsec : ∀ (l : List RRec) (dl : List Message.Record), (∀ r ∈ l, r.Typed) → All2 (RecordIs True) l dl →
      dl = l.map specR := by
    intro l dl hty h
    rw [all2_eq_map normR (fun _ _ hx => recordIs_exact hx) h]
    apply List.map_congr_left
    intro r hr
    obtain ⟨_, h1, h2, h3, _⟩ := hty r hr
    exact normR_typed h1 h2 h3
  have ean := hsec _ _ hT.an ma
  have ens := hsec _ _ hT.ns mn
  have ear : d.msg.additionals = (B.ar ++ optRecs sF.edns ++ tsigRecs sF.tsig mac).map specR := by
    rw [all2_eq_map normR (fun _ _ hx => recordIs_exact hx) mr]
    simp only [List.map_append]
    rw [normR_opt, normR_tsig]
    congr 2
    apply List.map_congr_left
    intro r hr
    obtain ⟨_, h1, h2, h3, _⟩ := hT.ar r hr
    exact normR_typed h1 h2 h3
  cases hdm : d.msg with
  | mk h q a n r =>
    rw [hdm] at hh eq ean ens ear
    simp only at hh eq ean ens ear
    rw [hh, eq, ean, ens, ear]


/-! ### sessions whose limit never exceeds the largest DNS message: no premise on the size -/

/-- only `set_limit` changes the limit -/
theorem Did.limit_le {ss : Session} {op : Op} {s' : State} (h : Did ss op s') (hi : Inv ss.w)
    (hl : ss.w.limit ≤ 65535) (hv : ∀ v, op = .setLimit v → v ≤ 65535) : s'.limit ≤ 65535 := by
  induction h with
  | hdr | mode | clear | edns | tsig | time | getters => exact hl
  | @limit v nl hnl =>
    have := hv _ rfl; have := hi.cur_av; have := hi.av_lim
    show nl ≤ 65535
    omega
  | question hq =>
    obtain ⟨s1, e, rfl⟩ := addQuestion_ok_ext hq
    show s1.limit ≤ _
    rw [e.limit]; exact hl
  | records hq =>
    obtain ⟨s1, n, e, rfl⟩ := addRrsetOp_ok_ext hq
    show (setCount _ n s1).2.limit ≤ _
    rw [(setCount_keep _ n s1).2.2.2.1, e.limit]; exact hl
  | record _ ih => exact ih (fun _ h => by cases h)
  | template _ e => rw [e.limit]; omega

theorem step_limit (ss : Session) (op : Op) (hI : I ss.w) (hop : OpOK ss op) (hl : ss.w.limit ≤ 65535)
    (hv : ∀ v, op = .setLimit v → v ≤ 65535) : (step ss op).2.w.limit ≤ 65535 := by
  rcases step_cases ss op hI hop with ⟨e, _, hs⟩ | ⟨_, hd⟩
  · rw [hs.limit]; exact hl
  · exact hd.limit_le hI.inv hl hv

theorem run_limit (ss : Session) (ops : List Op) (hI : I ss.w) (hr : Respects ss ops) (hl : ss.w.limit ≤ 65535)
    (hv : ∀ v, Op.setLimit v ∈ ops → v ≤ 65535) : (run ss ops).1.w.limit ≤ 65535 := by
  induction ops generalizing ss with
  | nil => exact hl
  | cons op ops ih =>
    obtain ⟨hop, hrest⟩ := hr
    obtain ⟨hnp, hI'⟩ := step_I ss op hI hop
    rw [run_cons hnp]
    exact ih _ hI' hrest (step_limit ss op hI hop hl (fun v hx => hv v (by rw [hx]; exact List.mem_cons_self)))
      (fun v hx => hv v (List.mem_cons_of_mem _ hx))

/-- the finished message of a session whose limit was never above 65535 has at most 65535 octets -/
theorem session_size_le (macFn : Tsig → List UInt8 → List UInt8) (buf : Bytes) (limit : Nat) (s0 : State)
    (hnew : Writer.new buf limit = .ok s0) (hlim : limit ≤ 65535) (mode : CMode) (ops : List Op)
    (hr : Respects { w := { s0 with mode := mode } } ops) (hv : ∀ v, Op.setLimit v ∈ ops → v ≤ 65535)
    (m : Bytes) (mac : Option (List UInt8))
    (hf : finish (run { w := { s0 with mode := mode } } ops).1.w macFn = .ok (m, mac)) : m.size ≤ 65535 := by
  have hI := (run_I { w := { s0 with mode := mode } } ops (new_mode_i hnew mode) hr).2
  have hl := run_limit { w := { s0 with mode := mode } } ops (new_mode_i hnew mode) hr (new_limit buf limit s0 hnew hlim) hv
  have := finish_size_le_limit macFn _ hI.inv m mac hf
  omega


/-! ### the compression mode of a session, without reference to the model's state

  The writer's mode is changed by `set_compression_mode` only (`step_mode`), so the mode each item
  was written in (`mrun`) is a function of the initial mode, the calls and their results
  (`modesRun`). -/

def modeAfter (cur : CMode) : Op → CMode
  | .setMode m => m
  | _ => cur

theorem modeAfter_hdr {cur : CMode} {op : Op} (h : op.isHdr = true) : modeAfter cur op = cur := by
  cases op <;> first | rfl | cases h

theorem Did.mode_eq {ss : Session} {op : Op} {s' : State} (h : Did ss op s') : s'.mode = modeAfter ss.w.mode op := by
  induction h with
  | hdr hop' => rw [modeAfter_hdr hop']
  | limit | mode | clear | edns | tsig | time | getters => rfl
  | question hq =>
    obtain ⟨s1, e, rfl⟩ := addQuestion_ok_ext hq
    exact e.mode
  | records hq =>
    obtain ⟨s1, n, e, rfl⟩ := addRrsetOp_ok_ext hq
    exact (setCount_keep _ n s1).2.2.2.2.2.2.1.trans e.mode
  | record _ ih => exact ih
  | template hop' e =>
    rw [e.mode]
    rcases hop' with ⟨rfl, _⟩ | ⟨_, _, _, _, rfl, _⟩ <;> rfl

/-- **only `set_compression_mode` changes the mode** -/
theorem step_mode (ss : Session) (op : Op) (hI : I ss.w) (hop : OpOK ss op) :
    (step ss op).2.w.mode = modeAfter ss.w.mode op := by
  rcases step_cases ss op hI hop with ⟨e, he, hs⟩ | ⟨_, hd⟩
  · rw [hs.mode]
    cases op with
    | setMode m => cases he
    | _ => rfl
  · exact hd.mode_eq

/-- the mode each question / record was written in, from the initial mode, the calls and their
    results alone -/
def modesRun (cur : CMode) (mb : MBody) : List Op → List (Out WriterErr Unit) → MBody
  | op :: ops, r :: rs =>
    modesRun (modeAfter cur op) (if r = .ok () then mbodyStep cur mb op else mb) ops rs
  | _, _ => mb

theorem mrun_eq_modesRun (ss : Session) (ops : List Op) (mb : MBody) (hI : I ss.w) (hr : Respects ss ops) :
    mrun ss mb ops = modesRun ss.w.mode mb ops (run ss ops).2 := by
  induction ops generalizing ss mb with
  | nil => rfl
  | cons op ops ih =>
    obtain ⟨hop, hrest⟩ := hr
    obtain ⟨hnp, hI'⟩ := step_I ss op hI hop
    rw [run_cons hnp]
    simp only [mrun, modesRun]
    rw [ih _ _ hI' hrest, step_mode ss op hI hop]

theorem run_mode (ss : Session) (ops : List Op) (hI : I ss.w) (hr : Respects ss ops) :
    (run ss ops).1.w.mode = ops.foldl modeAfter ss.w.mode := by
  induction ops generalizing ss with
  | nil => rfl
  | cons op ops ih =>
    obtain ⟨hop, hrest⟩ := hr
    obtain ⟨hnp, hI'⟩ := step_I ss op hI hop
    rw [run_cons hnp, List.foldl_cons, ← step_mode ss op hI hop]
    exact ih _ hI' hrest

end QV.Writer
