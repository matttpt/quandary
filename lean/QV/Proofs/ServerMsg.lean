/-
  QV.Proofs.ServerMsg — `Server::handle_message` as a whole: the header copy, the hand-over to
  `handle_message_with_context`, `finish`; the no-response conditions; and the octets of the
  response for every verdict the scan decides alone (FORMERR, BADVERS, NOTIMP, REFUSED, SERVFAIL for
  a zone that is not loaded).
-/
import QV.Proofs.ScanRefine
import QV.Proofs.TsigWriter
import QV.Proofs.ServerShell

namespace QV.ServerScan
open QV QV.Wire QV.Reader QV.Writer

/-! ### the fresh writer and the header copy -/

def opF (opcode : Nat) : UInt8 → UInt8 :=
  fun b => (b &&& ~~~ (UInt8.ofNat Gen.OPCODE_MASK)) ||| (UInt8.ofNat opcode <<< UInt8.ofNat Gen.OPCODE_SHIFT)

theorem setOpcode_eq (opcode : Nat) (s : State) (h : 2 < s.octets.size) :
    setOpcode opcode s = (.ok (), stHdr 2 (opF opcode) s) := by
  unfold setOpcode; exact setHdr_eq _ _ s h

theorem stHdr_size (i : Nat) (f : UInt8 → UInt8) (s : State) : (stHdr i f s).octets.size = s.octets.size := by
  simp [stHdr]

/-- the writer after `set_id`, `set_qr(true)`, `set_opcode`, and for QUERY `set_rd` -/
def hdrSt (w : State) (id opcode : Nat) (rd : Bool) : State :=
  let c := stHdr 2 (opF opcode) (stHdr 2 (bitF Gen.QR_MASK true) { w with octets := writeAt w.octets 0 (u16be id) })
  if opcode = 0 then stHdr 2 (bitF Gen.RD_MASK rd) c else c

theorem hdr_prog {β} (w : State) (id opcode : Nat) (rd : Bool) (k : M β) (h : 3 < w.octets.size) :
    (do setId id; setQr true; setOpcode opcode; if opcode = 0 then (do setRd rd; k) else k) w =
      k (hdrSt w id opcode rd) := by
  rw [bind_ok (setId_eq id w (by omega))]
  have h1 : 2 < ({ w with octets := writeAt w.octets 0 (u16be id) } : State).octets.size := by
    show 2 < (writeAt w.octets 0 (u16be id)).size; rw [writeAt_size]; omega
  rw [bind_ok (show setQr true _ = _ from setBit_eq Gen.QR_BYTE Gen.QR_MASK true _ h1)]
  have h2 : 2 < (stHdr Gen.QR_BYTE (bitF Gen.QR_MASK true)
      { w with octets := writeAt w.octets 0 (u16be id) }).octets.size := by
    rw [stHdr_size]; exact h1
  rw [bind_ok (setOpcode_eq opcode _ h2)]
  have h3 : 2 < (stHdr 2 (opF opcode) (stHdr Gen.QR_BYTE (bitF Gen.QR_MASK true)
      { w with octets := writeAt w.octets 0 (u16be id) })).octets.size := by
    rw [stHdr_size]; exact h2
  unfold hdrSt
  by_cases hop : opcode = 0
  · subst hop
    simp only [if_true]
    rw [bind_ok (show setRd rd _ = _ from setBit_eq Gen.RD_BYTE Gen.RD_MASK rd _ h3)]
    rfl
  · simp only [hop, if_false]
    rfl

theorem hdrSt_size (w : State) (id opcode : Nat) (rd : Bool) :
    (hdrSt w id opcode rd).octets.size = w.octets.size := by
  unfold hdrSt
  by_cases hop : opcode = 0
  · simp [hop, stHdr, writeAt_size]
  · simp [hop, stHdr, writeAt_size]

theorem hdrSt_fields (P : State → Prop) (hP : ∀ s o, P s → P { s with octets := o }) (w : State)
    (id opcode : Nat) (rd : Bool) (h0 : P w) : P (hdrSt w id opcode rd) := by
  unfold hdrSt
  by_cases hop : opcode = 0
  · simp only [hop, if_true]
    exact hP _ _ (hP _ _ (hP _ _ (hP _ _ h0)))
  · simp only [hop, if_false]
    exact hP _ _ (hP _ _ (hP _ _ h0))

theorem w0_size (bufLen limit : Nat) : (w0 bufLen limit).octets.size = bufLen := by
  simp [w0, zeroHeader, writeAt_size]

theorem hdrSt_ok (bufLen : Nat) (tr : Server.Transport) (payload id opcode : Nat) (rd : Bool)
    (hbuf : minBuf tr payload ≤ bufLen) (hpay : 512 ≤ payload) :
    HdrOk (hdrSt (w0 bufLen (lim0 tr)) id opcode rd) tr payload := by
  have hmin : min (lim0 tr) bufLen = lim0 tr := by
    cases tr <;> simp only [lim0, minBuf] at hbuf ⊢ <;> omega
  have hsz : (hdrSt (w0 bufLen (lim0 tr)) id opcode rd).octets.size = bufLen := by
    rw [hdrSt_size, w0_size]
  -- every field but the octets is that of the fresh writer
  obtain ⟨a1, a2, a3, a4, a5, a6, a7, a8, a9, a10, a11, a12, hl, a14⟩ :=
    hdrSt_fields (fun s => s.sect = .question ∧ s.qdcount = 0 ∧ s.ancount = 0 ∧ s.nscount = 0 ∧ s.arcount = 0 ∧
        s.qname = none ∧ s.mostRecentOwner = none ∧ s.mostRecentNameInRdata = none ∧ s.cursor = 12 ∧
        s.rrStart = 12 ∧ s.edns = none ∧ s.tsig = none ∧ s.limit = lim0 tr ∧ s.available = s.limit)
      (fun _ _ h => h) (w0 bufLen (lim0 tr)) id opcode rd
      ⟨rfl, rfl, rfl, rfl, rfl, rfl, rfl, rfl, rfl, rfl, rfl, rfl, hmin, rfl⟩
  refine ⟨a1, a2, a3, a4, a5, a6, a7, a8, a9, a10, a11, a12, hl, a14, ?_, ?_⟩
  · rw [hsz, hl]
    cases tr <;> simp only [lim0, minBuf] at hbuf ⊢ <;> omega
  · intro htr
    rw [hsz]
    subst htr
    exact hbuf

/-! ### `handle_message` up to the hand-over to `handle_message_with_context` -/

/-- the QR bit of a flags octet, as the reader tests it -/
theorem qr_bit : ∀ x : UInt8, ((x.toNat &&& 128) != 0) = decide (x.toNat ≥ 128) := by
  apply forall_uint8; decide +kernel

/-- `handle_message` on a request that has a full header and is not a response: the header copy,
    `handle_message_with_context`, `finish` -/
theorem handleMessage_eq (cfg : Server.Cfg) (tr : Server.Transport) (now bufLen : Nat) (req : Bytes)
    (hbuf : minBuf tr cfg.payload ≤ bufLen) (hpay : 512 ≤ cfg.payload)
    (h12 : 12 ≤ req.size) (hqr : (req.getD 2 0).toNat < 128) :
    Server.handleMessage cfg tr now bufLen req =
      match Server.handleWithContext cfg tr now ⟨req, 12, none⟩
          (hdrSt (w0 bufLen (lim0 tr)) (Spec.Server.hdr req 0) (((req.getD 2 0).toNat &&& 120) >>> 3)
            (((req.getD 2 0).toNat &&& 1) != 0)) with
      | (.ok true, w1) =>
        (match Writer.finish w1 Server.macFn with
         | .ok (bytes, _) => .ok (some bytes)
         | _ => .panic)
      | (.ok false, _) => .ok none
      | _ => .panic := by
  obtain ⟨_, _, _, _, hid, hop, hq, hrd⟩ := reader_header req h12
  have hsz : 3 < (w0 bufLen (lim0 tr)).octets.size := by
    rw [w0_size]
    cases tr <;> simp only [minBuf] at hbuf <;> omega
  rw [ServerSafety.handleMessage_eq_toContext]
  obtain ⟨hno | hno, _⟩ | ⟨id, opc, rdv, _, _, hid', hop', hrd', h⟩ :=
    ServerSafety.handleToContext_shell cfg tr now bufLen req hbuf hpay
  · omega
  · rw [hq, qr_bit] at hno
    exact absurd (of_decide_eq_true (Out.ok.inj hno)) (by omega)
  · -- the header fields are these
    rw [hid] at hid'; rw [hop] at hop'; rw [hrd] at hrd'
    cases hid'; cases hop'; cases hrd'
    rw [h, ServerSafety.prog, hdr_prog _ _ _ _ _ hsz]
    rcases Server.handleWithContext cfg tr now ⟨req, 12, none⟩ _ with ⟨(send | _ | _), w1⟩
    · cases send <;> rfl
    · rfl
    · rfl


/-! ### a response is sent unless QDCOUNT > 1 -/

theorem bind_true {α} (x : M α) (f : α → M Bool)
    (hf : ∀ a s b s', f a s = (.ok b, s') → b = true) (s : State) (b : Bool) (s' : State)
    (h : (x >>= f) s = (.ok b, s')) : b = true := by
  rw [M.bind_apply] at h
  rcases hx : x s with ⟨(a | e | _), s1⟩
  · rw [hx] at h; exact hf a s1 b s' h
  · rw [hx] at h; cases h
  · rw [hx] at h; cases h

theorem pure_true (s : State) (b : Bool) (s' : State) (h : (pure true : M Bool) s = (.ok b, s')) : b = true := by
  rw [M.pure_apply] at h; cases h; rfl

theorem scanAndDispatch_true (cfg : Server.Cfg) (tr : Server.Transport) (now an ns ar opcode : Nat)
    (question : Option (WName × Nat × Nat)) (r1 : Reader) (s : State) (b : Bool) (s' : State)
    (h : Server.scanAndDispatch cfg tr now an ns ar opcode question r1 s = (.ok b, s')) : b = true := by
  unfold Server.scanAndDispatch at h
  simp only at h
  cases hs : Server.scanAnNs (an + ns) (setMark r1) with
  | none =>
    rw [hs] at h
    exact bind_true _ _ (fun _ s b s' h => pure_true s b s' h) _ _ _ h
  | some r3 =>
    rw [hs] at h
    refine bind_true _ _ (fun st s b s' h => ?_) _ _ _ h
    cases st with
    | none => exact pure_true _ _ _ h
    | some st' =>
      simp only at h
      split at h
      · exact bind_true _ _ (fun _ s b s' h => pure_true s b s' h) _ _ _ h
      · split at h
        · exact bind_true _ _ (fun _ s b s' h => pure_true s b s' h) _ _ _ h
        · exact bind_true _ _ (fun _ s b s' h => pure_true s b s' h) _ _ _ h

theorem handleMessage_short (cfg : Server.Cfg) (tr : Server.Transport) (now bufLen : Nat) (req : Bytes)
    (hbuf : minBuf tr cfg.payload ≤ bufLen) (h12 : req.size < 12) :
    Server.handleMessage cfg tr now bufLen req = .ok none := by
  have : tryFrom req = .err .HeaderTooShort := by
    unfold tryFrom; simp [Gen.HEADER_SIZE]; omega
  unfold Server.handleMessage
  simp only [this]
  exact if_neg (show ¬ bufLen < minBuf tr cfg.payload by omega)

theorem handleMessage_qr (cfg : Server.Cfg) (tr : Server.Transport) (now bufLen : Nat) (req : Bytes)
    (hbuf : minBuf tr cfg.payload ≤ bufLen) (h12 : 12 ≤ req.size) (hqr : (req.getD 2 0).toNat ≥ 128) :
    Server.handleMessage cfg tr now bufLen req = .ok none := by
  obtain ⟨_, _, _, _, hid, hop, hq, hrd⟩ := reader_header req h12
  have hqt : (((req.getD 2 0).toNat &&& 128) != 0) = true := by
    rw [qr_bit]; exact decide_eq_true hqr
  have htf : tryFrom req = .ok ⟨req, 12, none⟩ := by
    unfold tryFrom; simp [Gen.HEADER_SIZE, h12]
  unfold Server.handleMessage
  simp only [htf, hq, hid, hop, hrd, hqt, if_true]
  exact if_neg (show ¬ bufLen < minBuf tr cfg.payload by omega)

/-- reading `handle_message`'s epilogue: a response was sent only if the handler returned `true`, and then
    it is what `finish` made of the handler's writer -/
theorem run_of_response (r : Out WriterErr Bool × State) {b : Bytes}
    (h : (.ok (some b) : Out Unit (Option Bytes)) =
      match r with
      | (.ok true, w1) =>
        (match Writer.finish w1 Server.macFn with
         | .ok (bytes, _) => .ok (some bytes)
         | _ => .panic)
      | (.ok false, _) => .ok none
      | _ => .panic) :
    ∃ w1 mac, r = (.ok true, w1) ∧ Writer.finish w1 Server.macFn = .ok (b, mac) := by
  obtain ⟨(bb | x | _), w1⟩ := r
  · cases bb with
    | false => cases h
    | true =>
      simp only at h
      rcases hf : Writer.finish w1 Server.macFn with ⟨bytes, mac⟩ | e | _ <;> rw [hf] at h
      · simp only [Out.ok.injEq, Option.some.injEq] at h
        exact ⟨w1, mac, rfl, by rw [h, hf]⟩
      · cases h
      · cases h
  · cases h
  · cases h

/-- … at `r = (.ok true, w1)` the hypothesis is the inner `match` on `finish w1` -/
theorem finish_of_response (r : Out WriterErr Bool × State) {b : Bytes}
    (h : (.ok (some b) : Out Unit (Option Bytes)) =
      match r with
      | (.ok true, w1) =>
        (match Writer.finish w1 Server.macFn with
         | .ok (bytes, _) => .ok (some bytes)
         | _ => .panic)
      | (.ok false, _) => .ok none
      | _ => .panic) :
    ∃ mac, Writer.finish r.2 Server.macFn = .ok (b, mac) :=
  let ⟨_, mac, hr, hf⟩ := run_of_response r h
  ⟨mac, hr ▸ hf⟩

/-- a response is sent only to a request with a full header and QR clear, on which the spec's scan
    is `specBody`; it is `finish` of the writer `handle_message_with_context` leaves with
    `send_response` set -/
theorem handleMessage_some (cfg : Server.Cfg) (tr : Server.Transport) (now bufLen : Nat) (req : Bytes)
    (hbuf : minBuf tr cfg.payload ≤ bufLen) (hpay : 512 ≤ cfg.payload) (b : Bytes)
    (h : Server.handleMessage cfg tr now bufLen req = .ok (some b))
    (lookup : List UInt8 → Nat → Option Spec.Server.ZoneKind) (S : Nat) :
    12 ≤ req.size ∧ (req.getD 2 0).toNat < 128 ∧
      Spec.Server.specScanWith lookup S req = specBody lookup S req ∧
      ∃ w1 mac, Server.handleWithContext cfg tr now ⟨req, 12, none⟩
          (hdrSt (w0 bufLen (lim0 tr)) (Spec.Server.hdr req 0) (((req.getD 2 0).toNat &&& 120) >>> 3)
            (((req.getD 2 0).toNat &&& 1) != 0)) = (.ok true, w1) ∧
        Writer.finish w1 Server.macFn = .ok (b, mac) := by
  have h12 : 12 ≤ req.size := by
    by_cases hc : req.size < 12
    · rw [handleMessage_short cfg tr now bufLen req hbuf hc] at h; cases h
    · omega
  have hqr : (req.getD 2 0).toNat < 128 := by
    by_cases hc : (req.getD 2 0).toNat ≥ 128
    · rw [handleMessage_qr cfg tr now bufLen req hbuf h12 hc] at h; cases h
    · omega
  refine ⟨h12, hqr, by rw [specScanWith_eq, if_neg (by omega), if_neg (by omega)], ?_⟩
  rw [handleMessage_eq cfg tr now bufLen req hbuf hpay h12 hqr] at h
  exact run_of_response _ h.symm

/-- **no-response conditions** (C03): `handle_message` returns no response exactly when the spec's
    scan says so — fewer than twelve octets, QR set, or QDCOUNT > 1 — for every request, transport,
    configuration and buffer -/
theorem handleMessage_none_iff (cfg : Server.Cfg) (tr : Server.Transport) (now bufLen : Nat) (req : Bytes)
    (hbuf : minBuf tr cfg.payload ≤ bufLen) (hpay : 512 ≤ cfg.payload)
    (lookup : List UInt8 → Nat → Option Spec.Server.ZoneKind) :
    Server.handleMessage cfg tr now bufLen req = .ok none ↔
      (Spec.Server.specScanWith lookup cfg.payload req).respond = false := by
  rw [specScanWith_eq]
  by_cases h12 : req.size < 12
  · simp only [h12, if_true]
    have := handleMessage_short cfg tr now bufLen req hbuf h12
    simp [this]
  · simp only [h12, if_false]
    have h12' : 12 ≤ req.size := by omega
    by_cases hqr : (req.getD 2 0).toNat ≥ 128
    · simp only [hqr, if_true]
      have := handleMessage_qr cfg tr now bufLen req hbuf h12' hqr
      simp [this]
    · simp only [hqr, if_false]
      rw [handleMessage_eq cfg tr now bufLen req hbuf hpay h12' (by omega)]
      rcases hwc_head cfg tr now req h12' _ (hdrSt_ok bufLen tr cfg.payload (Spec.Server.hdr req 0)
          (((req.getD 2 0).toNat &&& 120) >>> 3) (((req.getD 2 0).toNat &&& 1) != 0) hbuf hpay) with
        ⟨_, hsc, h⟩ | ⟨hsc, h⟩ | ⟨q, question, p1, _, _, _, _, hsc, _, _, _, h⟩
      · rw [h, hsc]
        exact ⟨fun _ => rfl, fun _ => rfl⟩
      · rw [h, hsc]
        refine ⟨fun hn => ?_, fun hn => (by cases hn)⟩
        simp only at hn
        split at hn <;> cases hn
      · rw [h, hsc, specTail_respond]
        refine ⟨fun hn => ?_, fun hn => (by cases hn)⟩
        -- the scan and the dispatch never clear `send_response`
        rcases hs : Server.scanAndDispatch cfg tr now (Spec.Server.hdr req 6) (Spec.Server.hdr req 8)
            (Spec.Server.hdr req 10) ((req.getD 2 0).toNat / 8 % 16) question ⟨req, p1, none⟩ _ with ⟨(b | e | _), s'⟩
        · rw [hs] at hn
          cases scanAndDispatch_true _ _ _ _ _ _ _ _ _ _ _ _ hs
          simp only at hn
          split at hn <;> cases hn
        · rw [hs] at hn; cases hn
        · rw [hs] at hn; cases hn

end QV.ServerScan
