/-
  QV.Proofs.WriterShape — the structural layout invariant of the writer in every compression mode
  (`SLay`): below the cursor the buffer is the header, then QDCOUNT question items, then — as long
  as the message is at most 65535 octets — exactly as many record items as the section counts say
  (minus the reserved OPT/TSIG), each with an RDLENGTH field that leads to the next one. Items and
  chains persist along every change that keeps what was written from octet 12 on (`Pres`).
-/
import QV.Proofs.WriterRoundTrip
import QV.Proofs.WriterPhys
import QV.Proofs.WriterHeader
import QV.Proofs.WriterLayout
import QV.Proofs.WriterSect

namespace QV.Writer
open QV QV.Wire QV.Spec

structure RIt where
  a : Nat
  k : Nat
  rdlen : Nat

/-- question items from `p` to `e` -/
def QChain (s : State) : List (Nat × Nat) → Nat → Nat → Prop
  | [], p, e => p = e
  | (a, k) :: r, p, e => a = p ∧ Item s a k ∧ QChain s r (a + k + 4) e

/-- record items from `p` to `e` -/
def RChain (s : State) : List RIt → Nat → Nat → Prop
  | [], p, e => p = e
  | it :: r, p, e => it.a = p ∧ Item s it.a it.k ∧ be16 s.octets (it.a + it.k + 8) = it.rdlen ∧
      RChain s r (it.a + it.k + 10 + it.rdlen) e

theorem qchain_le {s : State} : ∀ {qs : List (Nat × Nat)} {p e : Nat}, QChain s qs p e → p ≤ e := by
  intro qs
  induction qs with
  | nil => intro p e h; exact Nat.le_of_eq h
  | cons x r ih =>
    intro p e h
    obtain ⟨a, k⟩ := x
    obtain ⟨h1, _, h3⟩ := h
    have := ih h3; omega

theorem rchain_le {s : State} : ∀ {rs : List RIt} {p e : Nat}, RChain s rs p e → p ≤ e := by
  intro rs
  induction rs with
  | nil => intro p e h; exact Nat.le_of_eq h
  | cons x r ih =>
    intro p e h
    obtain ⟨h1, _, _, h3⟩ := h
    have := ih h3; omega

theorem qchain_move {s s' : State} {e : Nat} (hit : ∀ a k, a + k + 4 ≤ e → Item s a k → Item s' a k) :
    ∀ {qs : List (Nat × Nat)} {p : Nat}, QChain s qs p e → QChain s' qs p e := by
  intro qs
  induction qs with
  | nil => intro p h; exact h
  | cons x r ih =>
    intro p h
    obtain ⟨a, k⟩ := x
    obtain ⟨h1, h2, h3⟩ := h
    exact ⟨h1, hit a k (qchain_le h3) h2, ih h3⟩

theorem rchain_move {s s' : State} {e lo : Nat}
    (hit : ∀ a k, lo ≤ a → a + k + 10 ≤ e → Item s a k → Item s' a k)
    (hb : ∀ i, lo ≤ i → i + 2 ≤ e → be16 s'.octets i = be16 s.octets i) :
    ∀ {rs : List RIt} {p : Nat}, lo ≤ p → RChain s rs p e → RChain s' rs p e := by
  intro rs
  induction rs with
  | nil => intro p _ h; exact h
  | cons x r ih =>
    intro p hp h
    obtain ⟨h1, h2, h3, h4⟩ := h
    have := rchain_le h4
    exact ⟨h1, hit _ _ (by omega) (by omega) h2, by rw [hb _ (by omega) (by omega)]; exact h3,
      ih (by omega) h4⟩

theorem rchain_append {s : State} {m : Nat} : ∀ {rs rs2 : List RIt} {p e : Nat}, RChain s rs p m →
    RChain s rs2 m e → RChain s (rs ++ rs2) p e := by
  intro rs
  induction rs with
  | nil => intro rs2 p e h h2; rw [h]; exact h2
  | cons x r ih =>
    intro rs2 p e h h2
    obtain ⟨h1, hi, hb, h3⟩ := h
    exact ⟨h1, hi, hb, ih h3 h2⟩

/-- **the structural layout invariant** -/
structure SLay (s : State) : Prop where
  q : ∃ qs, QChain s qs 12 s.rrStart ∧ qs.length = s.qdcount
  r : s.cursor ≤ 65535 → ∃ rs, RChain s rs s.rrStart s.cursor ∧
    rs.length + pend s = s.ancount + s.nscount + s.arcount
  sq : s.sect = .question → s.cursor = s.rrStart

/-! ### what stays when the buffer grows -/

/-- everything written so far (from octet 12 on) and every recorded label start is still there -/
structure Pres (s s' : State) : Prop where
  pre : ∀ i, 12 ≤ i → i < s.cursor → s'.octets[i]? = s.octets[i]?
  cur : s.cursor ≤ s'.cursor
  gl : ∀ g ∈ s.gLabels, g ∈ s'.gLabels

theorem Pres.refl (s : State) : Pres s s := ⟨fun _ _ _ => rfl, Nat.le_refl _, fun _ h => h⟩

theorem Pres.trans {a b c : State} (h1 : Pres a b) (h2 : Pres b c) : Pres a c :=
  ⟨fun i hi hc => by rw [h2.pre i hi (by have := h1.cur; omega), h1.pre i hi hc],
   Nat.le_trans h1.cur h2.cur, fun g hg => h2.gl g (h1.gl g hg)⟩

theorem pres_of_ext {s s' : State} (e : Ext s s') : Pres s s' :=
  ⟨fun i _ hc => e.pre i hc, e.cur, e.glab⟩

theorem pres_of_same {s s' : State} (e : Same s s') : Pres s s' :=
  ⟨fun i _ hc => e.pre i hc, by rw [e.cursor]; exact Nat.le_refl _, fun g hg => by rw [e.gLabels]; exact hg⟩

theorem pres_of_hdrOnly {s s' : State} (k : HdrOnly s s') : Pres s s' :=
  ⟨fun i hi _ => k.pre i hi, by rw [k.cursor]; exact Nat.le_refl _, fun g hg => by rw [k.gl]; exact hg⟩

theorem pres_fields {s s' : State} (ho : s'.octets = s.octets) (hc : s'.cursor = s.cursor)
    (hg : s'.gLabels = s.gLabels) : Pres s s' :=
  ⟨fun i _ _ => by rw [ho], by rw [hc]; exact Nat.le_refl _, fun g h => by rw [hg]; exact h⟩

theorem item_pres {s s' : State} (hw : WInv s) (h : Pres s s') {a k : Nat} (it : Item s a k) : Item s' a k :=
  item_move (lo := 12) it hw.g12 (fun i h1 h2 => h.pre i h1 (by have := it.2.2; omega))
    (by have := it.2.2; have := h.cur; omega) (fun g hg _ => h.gl g hg)

theorem qchain_pres {s s' : State} (hw : WInv s) (h : Pres s s') {qs : List (Nat × Nat)} {p e : Nat}
    (hc : QChain s qs p e) : QChain s' qs p e :=
  qchain_move (fun _ _ _ it => item_pres hw h it) hc

theorem rchain_pres {s s' : State} (hw : WInv s) (h : Pres s s') {rs : List RIt} {p e : Nat} (hp : 12 ≤ p)
    (he : e ≤ s.cursor) (hc : RChain s rs p e) : RChain s' rs p e :=
  rchain_move (lo := 12) (fun _ _ _ _ it => item_pres hw h it)
    (fun i hi h2 => be16_congr (h.pre i hi (by omega)) (h.pre (i + 1) (by omega) (by omega))) hp hc

/-! ### the question -/

/-- the question, structurally: a name item at the old cursor, then four octets -/
theorem addQuestionBody_item (qn : WName) (qt qc : Nat) (s s' : State) (hw : WInv s) (hwf : qn.WF)
    (h : addQuestionBody qn qt qc s = (.ok (), s')) :
    ∃ k, Item s' s.cursor k ∧ s'.cursor = s.cursor + k + 4 ∧ NameIs s' s.cursor s.mode qn ∧
      BytesAt s'.octets (s.cursor + k) (u16be qt ++ u16be qc) ∧
      (∀ g, g ∈ s'.gLabels → g ∈ s.gLabels ∨ PhysLab s'.octets s.cursor g) := by
  obtain ⟨p, sB, _, _, na, hcB, pB, gB, by4, c4, _⟩ := addQuestionBody_qname hw hwf h
  obtain ⟨hit, hnm, hlab⟩ := na.mono hcB pB (by omega) (fun x hx => by rw [gB]; exact hx)
  have hk : s.cursor + (sB.cursor - s.cursor) = sB.cursor := by omega
  exact ⟨sB.cursor - s.cursor, hit, by omega, hnm, by rw [hk]; exact by4, fun x hx => hlab x (by rw [← gB]; exact hx)⟩

end QV.Writer
