/-
  QV.Proofs.RdataSet — helper lemmas for C19 (second half): the length-prefixed encoding of
  `RdataSet` iterates back to its members; the insertion loop of `from_iter` computes
  `firstOfEachClass` (`fromIter_eq`); what `firstOfEachClass` is.
-/
import QV.Model.RdataSet
import QV.Spec.Rdata
namespace QV.RdataSet
open QV QV.Rdata QV.Spec

def encode (xs : List Bytes) : List UInt8 := (xs.map encodeOne).flatten

theorem lenPrefix_toNat (n : Nat) (h : n ≤ 65535) :
    (UInt8.ofNat (n % 256)).toNat + 256 * (UInt8.ofNat (n / 256 % 256)).toNat = n := by
  simp only [UInt8.toNat_ofNat']
  omega

theorem iter_cons (x : Bytes) (rest : List UInt8) (h : x.size ≤ 65535) :
    iter (encodeOne x ++ rest) = x :: iter rest := by
  unfold encodeOne lenPrefix
  simp only [List.cons_append, List.nil_append]
  rw [iter]
  rw [lenPrefix_toNat x.size h]
  simp

theorem iter_nil : iter [] = [] := by rw [iter]; intro _ _ _ h; cases h

/-- encode / iterate round trip: members come back in order, octet for octet -/
theorem iter_encode (xs : List Bytes) (h : ∀ x ∈ xs, x.size ≤ 65535) : iter (encode xs) = xs := by
  induction xs with
  | nil => simp [encode, iter_nil]
  | cons x xs ih =>
    have : encode (x :: xs) = encodeOne x ++ encode xs := by simp [encode]
    rw [this, iter_cons x _ (h x (by simp)), ih (fun y hy => h y (by simp [hy]))]

theorem encode_append (xs ys : List Bytes) : encode (xs ++ ys) = encode xs ++ encode ys := by
  simp [encode]


/-! ### de-duplication: the left-to-right insertion loop = first of each class -/

/-- the loop of `from_iter` on abstract members: `kept` grows by those not equal to a kept one
    (`E new existing`, the argument order of `rdata.equals(existing_rdata, …)`) -/
def dedupFold {α} (E : α → α → Bool) : List α → List α → List α
  | kept, [] => kept
  | kept, x :: xs => dedupFold E (if kept.any (fun y => E x y) then kept else kept ++ [x]) xs

theorem dedupFold_eq {α} (E : α → α → Bool)
    (hsymm : ∀ x y, E x y = E y x) (htrans : ∀ x y z, E x y = true → E y z = true → E x z = true) :
    ∀ (xs kept : List α),
      dedupFold E kept xs = kept ++ (firstOfEachClass E xs).filter (fun x => !kept.any (fun y => E y x)) := by
  intro xs
  induction xs with
  | nil => intro kept; simp [dedupFold, firstOfEachClass]
  | cons x xs ih =>
    intro kept
    simp only [dedupFold, firstOfEachClass]
    by_cases hk : kept.any (fun y => E x y) = true
    · simp only [hk, if_true]
      rw [ih kept]
      congr 1
      have hx : (!kept.any (fun y => E y x)) = false := by
        simp only [Bool.not_eq_false']
        rw [List.any_eq_true] at hk ⊢
        obtain ⟨y, hy, he⟩ := hk
        exact ⟨y, hy, by rw [hsymm]; exact he⟩
      rw [List.filter_cons, hx]
      simp only [Bool.false_eq_true, if_false, List.filter_filter]
      apply List.filter_congr
      intro z _
      -- if z is not equivalent to any kept member, it is not equivalent to x either
      cases hz : (!kept.any (fun y => E y z)) with
      | false => simp
      | true =>
        simp only [Bool.true_and]
        rw [List.any_eq_true] at hk
        obtain ⟨y, hy, he⟩ := hk
        cases hxz : E x z with
        | false => rfl
        | true =>
          exfalso
          have : E y z = true := htrans y x z (by rw [hsymm]; exact he) hxz
          have : kept.any (fun y => E y z) = true := List.any_eq_true.mpr ⟨y, hy, this⟩
          simp [this] at hz
    · simp only [hk, if_false, Bool.false_eq_true]
      rw [ih (kept ++ [x])]
      have hx : (!kept.any (fun y => E y x)) = true := by
        simp only [Bool.not_eq_true']
        cases h : kept.any (fun y => E y x) with
        | false => rfl
        | true =>
          exfalso; apply hk
          rw [List.any_eq_true] at h ⊢
          obtain ⟨y, hy, he⟩ := h
          exact ⟨y, hy, by rw [hsymm]; exact he⟩
      rw [List.filter_cons, hx]
      simp only [if_true, List.append_assoc, List.singleton_append, List.filter_filter]
      congr 2
      apply List.filter_congr
      intro z _
      simp [List.any_append, Bool.and_comm]


theorem anyEquals_eq (c t : Nat) (E : Bytes → Bytes → Bool) (hE : ∀ x y, equals c t x y = .ok (E x y))
    (r : Bytes) : ∀ ys : List Bytes, anyEquals c t r ys = .ok (ys.any (fun y => E r y)) := by
  intro ys
  induction ys with
  | nil => rfl
  | cons y ys ih =>
    simp only [anyEquals, hE, Out.bind_ok, List.any_cons]
    cases E r y <;> simp [ih]

theorem insertAll_eq (c t : Nat) (E : Bytes → Bytes → Bool) (hE : ∀ x y, equals c t x y = .ok (E x y)) :
    ∀ (xs kept : List Bytes), (∀ x ∈ kept, x.size ≤ 65535) → (∀ x ∈ xs, x.size ≤ 65535) →
      insertAll c t (encode kept) xs = .ok (encode (dedupFold E kept xs)) := by
  intro xs
  induction xs with
  | nil => intro kept _ _; rfl
  | cons x xs ih =>
    intro kept hk hxs
    have hxs' : ∀ y ∈ xs, y.size ≤ 65535 := fun y hy => hxs y (by simp [hy])
    simp only [insertAll, insert, iter_encode kept hk, anyEquals_eq c t E hE, Out.bind_ok, dedupFold]
    by_cases h : kept.any (fun y => E x y) = true
    · simp only [h, if_true, Out.bind_ok]
      exact ih kept hk hxs'
    · simp only [h, if_false, Bool.false_eq_true, Out.bind_ok]
      have e : encode kept ++ encodeOne x = encode (kept ++ [x]) := by simp [encode]
      rw [e]
      apply ih _ _ hxs'
      intro y hy
      simp only [List.mem_append, List.mem_singleton] at hy
      rcases hy with hy | hy
      · exact hk y hy
      · subst hy; exact hxs y (by simp)


/-! ### what `firstOfEachClass` is (sanity of the specification) -/

theorem foec_sublist {α} (E : α → α → Bool) (xs : List α) : (firstOfEachClass E xs).Sublist xs := by
  induction xs with
  | nil => exact List.Sublist.slnil
  | cons x xs ih => exact List.Sublist.cons₂ x ((List.filter_sublist).trans ih)

theorem foec_pairwise {α} (E : α → α → Bool) (xs : List α) :
    (firstOfEachClass E xs).Pairwise (fun a b => E a b = false) := by
  induction xs with
  | nil => exact List.Pairwise.nil
  | cons x xs ih =>
    simp only [firstOfEachClass]
    apply List.Pairwise.cons
    · intro y hy
      simp only [List.mem_filter, Bool.not_eq_true'] at hy
      exact hy.2
    · exact ih.filter _

theorem foec_first {α} (E : α → α → Bool) (hrefl : ∀ x, E x x = true)
    (htrans : ∀ x y z, E x y = true → E y z = true → E x z = true) :
    ∀ (xs : List α) (x : α), x ∈ xs → ∃ y, xs.find? (fun y => E y x) = some y ∧ y ∈ firstOfEachClass E xs := by
  intro xs
  induction xs with
  | nil => intro x hx; cases hx
  | cons h tl ih =>
    intro x hx
    simp only [List.find?_cons, firstOfEachClass]
    cases hhx : E h x with
    | true => exact ⟨h, rfl, by simp⟩
    | false =>
      have hxt : x ∈ tl := by
        rcases List.mem_cons.mp hx with e | e
        · subst e; rw [hrefl] at hhx; cases hhx
        · exact e
      obtain ⟨y, hy, hmem⟩ := ih x hxt
      refine ⟨y, hy, ?_⟩
      have hyx : E y x = true := by simpa using List.find?_some hy
      have : E h y = false := by
        cases hhy : E h y with
        | false => rfl
        | true => rw [htrans h y x hhy hyx] at hhx; cases hhx
      simp [hmem, this]

/-! ### `from_iter` -/

/-- `RdataSetOwned::from_iter` over an equality that is a symmetric and transitive Boolean test:
    the set iterates to the first member of each class -/
theorem fromIter_eq (c t : Nat) (E : Bytes → Bytes → Bool) (hE : ∀ x y, equals c t x y = .ok (E x y))
    (hsymm : ∀ x y, E x y = E y x) (htrans : ∀ x y z, E x y = true → E y z = true → E x z = true)
    (xs : List Bytes) (hne : xs ≠ []) (hlen : ∀ x ∈ xs, x.size ≤ 65535) :
    ∃ inner, fromIter c t xs = .ok (some inner) ∧ iter inner = firstOfEachClass E xs := by
  have h : insertAll c t [] xs = .ok (encode (dedupFold E [] xs)) := insertAll_eq c t E hE xs [] (by simp) hlen
  have hd : dedupFold E [] xs = firstOfEachClass E xs := (dedupFold_eq E hsymm htrans xs []).trans (by simp)
  rw [hd] at h
  refine ⟨_, ?_, iter_encode _ fun x hx => hlen x ((foec_sublist E xs).subset hx)⟩
  cases xs with
  | nil => exact absurd rfl hne
  | cons x xs => simp only [fromIter, h, Out.bind_ok]

end QV.RdataSet
