/-
  QV.Proofs.WriterSessions — C12, sessions with `clear_rrs`: the walk of `Spec.Message.checkSession` over
  several segments (`walk_sessions`). At every `clear_rrs` the specification judges the message finished just
  before the call against the abstract state (`checkSegment`), then continues from the questions alone on the
  next message (`desc_clear`). On what the driver's observer records, `checkSession` answers `"ok"`:
  `checkSession_all`, and with the MAC-size hypothesis for the final state only `checkSession_full` (`C12_full`),
  since a TSIG configuration keeps its algorithm (`SigKept`); `checkSession_segment` for one segment.
-/
import QV.Proofs.WriterCheckSession

namespace QV.Writer
open QV QV.Wire QV.Spec QV.ServerSafety

theorem after_append (ss : Session) (o1 o2 : List Op) : after ss (o1 ++ o2) = after (after ss o1) o2 := by
  induction o1 generalizing ss with
  | nil => rfl
  | cons op o1 ih => exact ih _

theorem respects_append (ss : Session) (o1 o2 : List Op) :
    Respects ss (o1 ++ o2) ↔ Respects ss o1 ∧ Respects (after ss o1) o2 := by
  induction o1 generalizing ss with
  | nil => simp [Respects, after]
  | cons op o1 ih =>
    simp only [List.cons_append, Respects, after]
    rw [ih]
    exact and_assoc.symm

theorem obs_append (ss : Session) (o1 o2 : List Op) : obs ss (o1 ++ o2) = obs ss o1 ++ obs (after ss o1) o2 := by
  induction o1 generalizing ss with
  | nil => rfl
  | cons op o1 ih =>
    simp only [List.cons_append, obs, after]
    rw [ih]

theorem preMsgs_append (macFn : Tsig → List UInt8 → List UInt8) (ss : Session) (o1 o2 : List Op) :
    preMsgs macFn ss (o1 ++ o2) = preMsgs macFn ss o1 ++ preMsgs macFn (after ss o1) o2 := by
  induction o1 generalizing ss with
  | nil => rfl
  | cons op o1 ih =>
    simp only [List.cons_append, preMsgs, after]
    rw [ih, List.append_assoc]

theorem split_clear : ∀ ops : List Op, (∀ op ∈ ops, op ≠ .clearRrs) ∨
    ∃ o1 o2 : List Op, ops = o1 ++ .clearRrs :: o2 ∧ ∀ op ∈ o1, op ≠ .clearRrs := by
  intro ops
  induction ops with
  | nil => exact Or.inl (fun _ h => by cases h)
  | cons op ops ih =>
    by_cases hc : op = .clearRrs
    · subst hc
      exact Or.inr ⟨[], ops, rfl, fun _ h => by cases h⟩
    · rcases ih with h | ⟨o1, o2, h1, h2⟩
      · left
        intro o ho
        rcases List.mem_cons.mp ho with rfl | ho
        · exact hc
        · exact h o ho
      · right
        refine ⟨op :: o1, o2, by rw [h1]; rfl, fun o ho => ?_⟩
        rcases List.mem_cons.mp ho with rfl | ho
        · exact hc
        · exact h2 o ho

/-! ### `clear_rrs` on the abstract state -/

theorem step_clear_ok (ss : Session) : (step ss .clearRrs).1 = .ok () := by
  simp [step, liftW, clearRrs, M.modify]

theorem clear_w (ss : Session) : (step ss .clearRrs).2.w = (clearRrs ss.w).2 := liftW_w ss _

/-- after `clear_rrs` the abstract state the specification continues with (`absOk … clearRrs` on
    the next message `d2`) describes the writer again — provided the next message's last question
    ends where the writer's records start -/
theorem desc_clear {ss : Session} {a a' : Message.AState} {b : Body} {mb : MBody} (h : Desc ss a b mb)
    (d2 : Message.Decoded) (habs : Message.absOk a d2 .clearRrs = .ok a')
    (hend : b.qs ≠ [] → Message.endOf d2 (b.qs.length - 1) = some ss.w.rrStart) :
    Desc (step ss .clearRrs).2 a' { qs := b.qs } { qs := mb.qs } := by
  have hok := step_clear_ok ss
  have hop : OpOK ss .clearRrs := trivial
  obtain ⟨hnp, hI'⟩ := step_I ss .clearRrs h.i hop
  have hL' := clay_step ss .clearRrs b mb h.i h.lay hop (fun m hm => by cases hm)
  rw [hok] at hL'
  simp only [if_true, bodyStep, mbodyStep] at hL'
  have hnq : a.questions.length = b.qs.length := by
    have := congrArg List.length h.content.qs
    simpa using this
  obtain ⟨qs, hq, hqm, _, hqM, _⟩ := h.lay.q
  have hmq : mb.qs.length = b.qs.length := by rw [← hqM, ← hqm]; simp
  have habs' : Message.absOk a d2 (Driver.toSpecOp .clearRrs) = .ok a' := habs
  have hcw := clear_w ss
  have hcur : a'.cur = (step ss .clearRrs).2.w.cursor := by
    rw [hcw]
    simp only [clearRrs, M.modify_apply]
    simp only [Message.absOk, Except.ok.injEq] at habs
    subst habs
    show (if a.questions.length = 0 then 12 else (Message.endOf d2 (a.questions.length - 1)).getD 12) = ss.w.rrStart
    rw [hnq]
    by_cases h0 : b.qs.length = 0
    · rw [if_pos h0]
      have : qs = [] := by
        have := congrArg List.length hqm
        rw [List.length_map, h0] at this
        exact List.eq_nil_of_length_eq_zero this
      subst this
      exact hq
    · rw [if_neg h0, hend (fun hn => h0 (by rw [hn]; rfl))]
      rfl
  have hA' := absNum_step ss .clearRrs a a' d2 h.i hop h.num hok habs' (fun _ => hcur)
  have hG' := cfg_step ss .clearRrs a a' d2 h.i h.cfg trivial hok habs'
  have hhs := hdr_step ss .clearRrs h.i hop trivial
  rw [hok] at hhs
  simp only [if_true] at hhs
  have hah := absOk_hdr .clearRrs a a' d2 habs'
  simp only [Message.absOk, Except.ok.injEq] at habs
  subst habs
  refine ⟨hI', hL', hA', ?_, ?_, ?_, ?_, ?_, hG', ⟨h.typed.qs, (fun _ hx => by cases hx), (fun _ hx => by cases hx),
    (fun _ hx => by cases hx)⟩⟩
  · show a.questions.length = a.questions.length + 0 + 0 + 0
    omega
  · show a.questions.length = bodyLen { qs := b.qs }
    rw [hnq]; simp [bodyLen]
  · rw [hhs, hah, h.hdr]
  · rw [hah, hdrStep_z]; exact h.z
  · refine ⟨h.content.qs, rfl, rfl, rfl, ?_⟩
    show (a.itemModes.drop (a.itemModes.length - a.questions.length)).reverse = _
    rw [List.reverse_drop, h.content.modes, hnq]
    have : a.itemModes.length - (a.itemModes.length - b.qs.length) = b.qs.length := by
      have hl := congrArg List.length h.content.modes
      simp only [List.length_reverse, List.length_map, List.length_append] at hl
      omega
    rw [this]
    simp only [List.map_append, List.append_nil]
    rw [List.append_assoc, List.append_assoc, List.take_left' (by rw [List.length_map]; exact hmq)]

/-! ### the end of the current segment -/

/-- the session at the next `clear_rrs` (or at the end) -/
def segEnd (ss : Session) : List Op → Session
  | [] => ss
  | op :: ops =>
    match op with
    | .clearRrs => ss
    | _ => segEnd (step ss op).2 ops

theorem segEnd_cons_ne (ss : Session) {op : Op} (ops : List Op) (h : op ≠ .clearRrs) :
    segEnd ss (op :: ops) = segEnd (step ss op).2 ops := by
  cases op with
  | clearRrs => exact absurd rfl h
  | _ => rfl

theorem segEnd_noclear (ss : Session) (ops : List Op) (h : ∀ op ∈ ops, op ≠ .clearRrs) :
    segEnd ss ops = after ss ops := by
  induction ops generalizing ss with
  | nil => rfl
  | cons op ops ih =>
    rw [segEnd_cons_ne ss ops (h op List.mem_cons_self)]
    exact ih (step ss op).2 (fun o ho => h o (List.mem_cons_of_mem _ ho))

theorem segEnd_split (ss : Session) (o1 o2 : List Op) (h : ∀ op ∈ o1, op ≠ .clearRrs) :
    segEnd ss (o1 ++ .clearRrs :: o2) = after ss o1 := by
  induction o1 generalizing ss with
  | nil => rfl
  | cons op o1 ih =>
    rw [List.cons_append, segEnd_cons_ne ss _ (h op List.mem_cons_self)]
    exact ih (step ss op).2 (fun o ho => h o (List.mem_cons_of_mem _ ho))

theorem msgs_head (macFn : Tsig → List UInt8 → List UInt8) (ss : Session) (ops : List Op) :
    ∃ tl, preMsgs macFn ss ops ++ [finMsg macFn (after ss ops).w] = finMsg macFn (segEnd ss ops).w :: tl := by
  induction ops generalizing ss with
  | nil => exact ⟨[], rfl⟩
  | cons op ops ih =>
    obtain ⟨tl, htl⟩ := ih (step ss op).2
    by_cases hc : op = .clearRrs
    · subst hc
      exact ⟨_, rfl⟩
    · refine ⟨tl, ?_⟩
      rw [preMsgs_cons_ne macFn ss ops hc, segEnd_cons_ne ss ops hc]
      exact htl

theorem finMsg_eq {macFn : Tsig → List UInt8 → List UInt8} {s : State} {m : Bytes} {mac : Option (List UInt8)}
    (h : finish s macFn = .ok (m, mac)) : finMsg macFn s = m := by
  unfold finMsg; rw [h]

/-- what is known at the end of a clear-free run: invariant, layout, limits, and `finish` -/
theorem run_facts (macFn : Tsig → List UInt8 → List UInt8) (hmac : MacLenOK macFn) (ss : Session) (b : Body)
    (mb : MBody) (hI : I ss.w) (hL : CLay (fun _ => True) ss.w b mb) (hT : b.Typed) (ops : List Op)
    (ht : ∀ op ∈ ops, op.Typed) (hr : Respects ss ops) (hl : ss.w.limit ≤ 65535)
    (hv : ∀ v, Op.setLimit v ∈ ops → v ≤ 65535) :
    (run ss ops).1 = after ss ops ∧ I (after ss ops).w ∧
      CLay (fun _ => True) (after ss ops).w (bodyRun b ops (run ss ops).2) (mrun ss mb ops) ∧
      (bodyRun b ops (run ss ops).2).Typed ∧ (after ss ops).w.limit ≤ 65535 ∧
      ∃ m mac, finish (after ss ops).w macFn = .ok (m, mac) ∧ m.size ≤ 65535 := by
  obtain ⟨hnp, hIR⟩ := run_I ss ops hI hr
  have hrun := after_eq_run ss ops hnp
  have hLR := clay_run ss ops b mb hI hL hr (fun _ _ => trivial)
  have hTR := typed_run ops ss b hT ht
  have hlR := run_limit ss ops hI hr hl hv
  rw [hrun] at hIR hLR hlR
  obtain ⟨m, mac, hf⟩ := finish_ok macFn hmac _ hIR
  have := finish_size_le_limit macFn _ hIR.inv m mac hf
  exact ⟨hrun, hIR, hLR, hTR, hlR, m, mac, hf, by omega⟩

/-- the message finished at the end of the current segment decodes, and its extents begin with
    the ends of the questions and records the writer holds now -/
theorem segEnd_facts (macFn : Tsig → List UInt8 → List UInt8) (hmac : MacLenOK macFn) (ss : Session) (b : Body)
    (mb : MBody) (hI : I ss.w) (hL : CLay (fun _ => True) ss.w b mb) (hT : b.Typed) (ops : List Op)
    (ht : ∀ op ∈ ops, op.Typed) (hr : Respects ss ops) (hl : ss.w.limit ≤ 65535)
    (hv : ∀ v, Op.setLimit v ∈ ops → v ≤ 65535) :
    ∃ d2, Message.specDecodeMsg (finMsg macFn (segEnd ss ops).w) = some d2 ∧
      ∀ qs rs, QChainC ss.w qs 12 ss.w.rrStart → RChainC ss.w rs ss.w.rrStart ss.w.cursor →
        (d2.extents.map (·.2)).take (qs.length + rs.length) = qs.map qEnd ++ rs.map rEnd := by
  have key : ∀ o1 : List Op, (∀ op ∈ o1, op ≠ .clearRrs) → (∀ op ∈ o1, op.Typed) → Respects ss o1 →
      (∀ v, Op.setLimit v ∈ o1 → v ≤ 65535) →
      ∃ d2, Message.specDecodeMsg (finMsg macFn (after ss o1).w) = some d2 ∧
        ∀ qs rs, QChainC ss.w qs 12 ss.w.rrStart → RChainC ss.w rs ss.w.rrStart ss.w.cursor →
          (d2.extents.map (·.2)).take (qs.length + rs.length) = qs.map qEnd ++ rs.map rEnd := by
    intro o1 hnc ht1 hr1 hv1
    obtain ⟨hrun, hIR, hLR, hTR, hlR, m, mac, hf, hsz⟩ := run_facts macFn hmac ss b mb hI hL hT o1 ht1 hr1 hl hv1
    have hseg : Seg ss.w (after ss o1).w := by
      have := run_seg ss o1 hI hL hr1 (fun hx => hnc _ hx rfl)
      rw [hrun] at this; exact this
    obtain ⟨d2, hd2, hp⟩ := extents_prefix macFn hI.winv hI.inv.rr_hi hseg hIR hLR (layoutStable_typed hTR) m mac hf hsz
    exact ⟨d2, by rw [finMsg_eq hf]; exact hd2, hp⟩
  rcases split_clear ops with hnc | ⟨o1, o2, hsplit, hnc⟩
  · rw [segEnd_noclear ss ops hnc]
    exact key ops hnc ht hr hv
  · subst hsplit
    rw [segEnd_split ss o1 o2 hnc]
    exact key o1 hnc (fun op h => ht op (List.mem_append_left _ h)) ((respects_append ss o1 _).mp hr).1
      (fun v h => hv v (List.mem_append_left _ h))

/-! ### the walk over all segments -/

theorem statusStr_ok : Driver.statusStr (.ok ()) = "ok" := by decide

theorem obs_clear (ss : Session) (ops : List Op) :
    obs ss (.clearRrs :: ops) = "ok" :: obs (step ss .clearRrs).2 ops := by
  rw [obs_ne ss .clearRrs ops (fun h => by cases h), step_clear_ok, statusStr_ok]

/-- **the walk of the specification accepts every session**, segment by segment: from a writer
    state the abstract state describes, on the statuses the model reports, the messages finished
    before each `clear_rrs` and the final message -/
theorem walk_sessions (macFn : Tsig → List UInt8 → List UInt8) (hmac : MacLenOK macFn)
    (mac' : Option (List UInt8)) :
    ∀ (n : Nat) (ops : List Op), ops.length ≤ n → ∀ (ss : Session) (a : Message.AState) (b : Body) (mb : MBody),
      Desc ss a b mb → (∀ op ∈ ops, ApiTyped op) → Respects ss ops → ss.w.limit ≤ 65535 →
      (∀ v, Op.setLimit v ∈ ops → v ≤ 65535) →
      (∀ o1 o2, ops = o1 ++ o2 → ∀ m mac ts, finish (after ss o1).w macFn = .ok (m, mac) →
        (after ss o1).w.tsig = some ts → (mac.getD []).length = (toATsig ts).macLen) →
      (∀ m mac, finish (after ss ops).w macFn = .ok (m, mac) → mac' = none ∨ mac' = some (mac.getD [])) →
      ∀ d, Message.specDecodeMsg (finMsg macFn (segEnd ss ops).w) = some d →
      Message.walk false a (ops.map Driver.toSpecOp) (obs ss ops ++ ["ok"])
        (preMsgs macFn ss ops ++ [finMsg macFn (after ss ops).w]) (some d) mac' = .ok () := by
  intro n
  induction n with
  | zero =>
    intro ops hlen ss a b mb hD ht hr hl hv hml hmac' d hd
    have : ops = [] := List.eq_nil_of_length_eq_zero (by omega)
    subst this
    -- a session without calls: the final check alone
    obtain ⟨m, mac, hf⟩ := finish_ok macFn hmac _ hD.i
    have hsz : m.size ≤ 65535 := by have := finish_size_le_limit macFn _ hD.i.inv m mac hf; omega
    obtain ⟨d', hd', hck⟩ := segment_check_ok macFn ss b mb a hD m mac hf hsz (fun ts hts => hml [] [] rfl m mac ts hf hts) mac' (hmac' m mac hf)
    simp only [segEnd, after, preMsgs, List.nil_append, obs, List.map_nil] at hd ⊢
    rw [finMsg_eq hf] at hd ⊢
    rw [hd'] at hd
    cases hd
    simp only [Message.walk]
    exact hck
  | succ n ih =>
    intro ops hlen ss a b mb hD ht hr hl hv hml hmac' d hd
    rcases split_clear ops with hnc | ⟨o1, o2, hsplit, hnc⟩
    · -- one segment
      obtain ⟨m, mac, d', aF, hf, hsz, hd', hDF, _, hw⟩ := segment_walk macFn hmac mac' [] ["ok"] (fun m => [m]) hD ops
        (fun op h => ⟨(ht op h).1, (ht op h).2.1⟩) hr (fun op h => ⟨hnc op h, (ht op h).2.2⟩) hl hv
      rw [after_eq_run ss ops (run_I ss ops hD.i hr).1] at hf hDF
      rw [segEnd_noclear ss ops hnc, finMsg_eq hf, hd'] at hd
      cases hd
      rw [preMsgs_noclear macFn ss ops hnc, finMsg_eq hf, List.nil_append]
      rw [List.append_nil] at hw
      rw [hw]
      simp only [Message.walk]
      obtain ⟨d2, hd2, hck⟩ := segment_check_ok macFn _ _ _ aF hDF m mac hf hsz
        (fun ts hts => hml ops [] (by simp) m mac ts hf hts) mac' (hmac' m mac hf)
      rw [hd'] at hd2
      cases hd2
      exact hck
    · -- a segment, `clear_rrs`, the rest
      subst hsplit
      obtain ⟨hr1, hr2⟩ := (respects_append ss o1 _).mp hr
      have ht1 : ∀ op ∈ o1, ApiTyped op := fun op h => ht op (List.mem_append_left _ h)
      have ht2 : ∀ op ∈ o2, ApiTyped op :=
        fun op h => ht op (List.mem_append_right _ (List.mem_cons_of_mem _ h))
      have hv1 : ∀ v, Op.setLimit v ∈ o1 → v ≤ 65535 := fun v h => hv v (List.mem_append_left _ h)
      have hv2 : ∀ v, Op.setLimit v ∈ o2 → v ≤ 65535 :=
        fun v h => hv v (List.mem_append_right _ (List.mem_cons_of_mem _ h))
      have hrun := after_eq_run ss o1 (run_I ss o1 hD.i hr1).1
      -- the messages
      obtain ⟨tl, htl⟩ := msgs_head macFn (step (after ss o1) .clearRrs).2 o2
      have hafter : after ss (o1 ++ .clearRrs :: o2) = after (step (after ss o1) .clearRrs).2 o2 := by
        rw [after_append]; rfl
      -- the first segment
      obtain ⟨m, mac, d', aF, hf, hsz, hd', hDR, hlR, hw⟩ := segment_walk macFn hmac mac'
        ((Op.clearRrs :: o2).map Driver.toSpecOp) (obs (after ss o1) (.clearRrs :: o2) ++ ["ok"])
        (fun m => m :: finMsg macFn (segEnd (step (after ss o1) .clearRrs).2 o2).w :: tl) hD o1
        (fun op h => ⟨(ht1 op h).1, (ht1 op h).2.1⟩) hr1 (fun op h => ⟨hnc op h, (ht1 op h).2.2⟩) hl hv1
      rw [hrun] at hf hDR hlR
      rw [segEnd_split ss o1 o2 hnc, finMsg_eq hf, hd'] at hd
      cases hd
      have hmsgs : preMsgs macFn ss (o1 ++ .clearRrs :: o2) ++ [finMsg macFn (after ss (o1 ++ .clearRrs :: o2)).w] =
          m :: finMsg macFn (segEnd (step (after ss o1) .clearRrs).2 o2).w :: tl := by
        rw [preMsgs_append, preMsgs_noclear macFn ss o1 hnc, hafter, List.nil_append]
        show (finMsg macFn (after ss o1).w :: preMsgs macFn (step (after ss o1) .clearRrs).2 o2) ++ _ = _
        rw [finMsg_eq hf, List.cons_append, htl]
      rw [hmsgs, List.map_append, obs_append, List.append_assoc, hw]
      generalize hssR : after ss o1 = ssR at hr2 hf hDR hlR hafter htl ⊢
      -- the final check of the first segment, without a MAC
      obtain ⟨d2, hd2, hck⟩ := segment_check_ok macFn _ _ _ aF hDR m mac hf hsz
        (fun ts hts => hml o1 (.clearRrs :: o2) rfl m mac ts (by rw [hssR]; exact hf) (by rw [hssR]; exact hts))
        none (Or.inl rfl)
      rw [hd'] at hd2
      cases hd2
      -- the state after `clear_rrs`
      generalize bodyRun b o1 (run ss o1).2 = B1 at hDR
      generalize mrun ss mb o1 = MB1 at hDR
      obtain ⟨_, hIC⟩ := step_I ssR .clearRrs hDR.i trivial
      have hLC := clay_step ssR .clearRrs B1 MB1 hDR.i hDR.lay trivial (fun m hm => by cases hm)
      rw [step_clear_ok] at hLC
      simp only [if_true, bodyStep, mbodyStep] at hLC
      have hTC : Body.Typed { qs := B1.qs } :=
        ⟨hDR.typed.qs, (fun _ hx => by cases hx), (fun _ hx => by cases hx), (fun _ hx => by cases hx)⟩
      have hlC : (step ssR .clearRrs).2.w.limit ≤ 65535 :=
        step_limit ssR .clearRrs hDR.i trivial hlR (fun v hx => by cases hx)
      obtain ⟨d2, hd2, hp2⟩ := segEnd_facts macFn hmac (step ssR .clearRrs).2 { qs := B1.qs } { qs := MB1.qs } hIC hLC
        hTC o2 (fun op h => (ht2 op h).1) hr2.2 hlC hv2
      have hcC : (step ssR .clearRrs).2.w.cursor = ssR.w.rrStart := by rw [clear_w]; rfl
      have hrrC : (step ssR .clearRrs).2.w.rrStart = ssR.w.rrStart := by rw [clear_w]; rfl
      have hend : B1.qs ≠ [] → Message.endOf d2 (B1.qs.length - 1) = some ssR.w.rrStart := by
        intro hne
        obtain ⟨qsC, hqC, hqmC, _⟩ := hLC.q
        have hlen : qsC.length = B1.qs.length := by
          have := congrArg List.length hqmC
          simpa using this
        have hpos : 0 < B1.qs.length := List.length_pos_iff.mpr hne
        have hrC : RChainC (step ssR .clearRrs).2.w [] (step ssR .clearRrs).2.w.rrStart
            (step ssR .clearRrs).2.w.cursor := by
          show _ = _
          rw [hcC, hrrC]
        have := endOf_last hqC hrC (by simp; omega) (hp2 qsC [] hqC hrC)
        simp only [List.length_nil, Nat.add_zero] at this
        rw [hlen, hcC] at this
        exact this
      obtain ⟨a', habs⟩ : ∃ a', Message.absOk aF d2 .clearRrs = .ok a' := ⟨_, rfl⟩
      have hDC := desc_clear hDR d2 habs hend
      have hIH := ih o2 (by simp at hlen; omega) (step ssR .clearRrs).2 a' _ _ hDC ht2 hr2.2 hlC hv2
        (fun p q hpq m0 mac0 ts hf0 hts0 => by
          have hpre' : after ss (o1 ++ .clearRrs :: p) = after (step ssR .clearRrs).2 p := by
            rw [after_append, hssR]; rfl
          refine hml (o1 ++ .clearRrs :: p) q (by rw [hpq]; simp) m0 mac0 ts ?_ ?_
          · rw [hpre']; exact hf0
          · rw [hpre']; exact hts0)
        (fun m0 mac0 hf0 => hmac' m0 mac0 (by rw [hafter]; exact hf0)) d2 hd2
      rw [htl] at hIH
      rw [obs_clear]
      simp only [List.map_cons, Driver.toSpecOp, List.cons_append, Message.walk]
      simp only [bne_self_eq_false, Bool.false_eq_true, if_false, hck, hd2, habs]
      exact hIH

/-! ### `checkSession` accepts every session -/

/-- **`checkSession` accepts every session of typed calls**, with any number of `clear_rrs`: on
    what the driver's observer records from the model — the status strings, the messages finished
    before each `clear_rrs`, the final message, the MAC — the specification's judge returns `"ok"`.
    `hsz`: whenever a signing TSIG mode is configured (at any point of the session), the MAC given
    has the output size of its algorithm. -/
theorem checkSession_all (buf : Bytes) (limit : Nat) (mode : CMode) (s : State) (ops : List Op)
    (mac : Option (List UInt8)) (hnew : Writer.new buf limit = .ok s)
    (hr : Respects { w := { s with mode := mode } } ops) (ht : ∀ op ∈ ops, ApiTyped op) (hlim : limit ≤ 65535)
    (hv : ∀ v, Op.setLimit v ∈ ops → v ≤ 65535) (hmac : MacLenOK (fun _ _ => mac.getD []))
    (hsz : ∀ o1 o2, ops = o1 ++ o2 → ∀ ts, (run { w := { s with mode := mode } } o1).1.w.tsig = some ts →
      isUnsigned ts.mode = false → (mac.getD []).length = (toATsig ts).macLen) :
    ∃ m, (Driver.runModel { w := { s with mode := mode } } ops mac true).msg = some m ∧
      Message.checkSession buf.size limit (Driver.toSpecMode mode) (ops.map Driver.toSpecOp)
        (Driver.runModel { w := { s with mode := mode } } ops mac true).statuses
        ((Driver.runModel { w := { s with mode := mode } } ops mac true).pre ++ [m])
        (Driver.runModel { w := { s with mode := mode } } ops mac true).mac = "ok" := by
  generalize hss0 : ({ w := { s with mode := mode } } : Session) = ss0 at hr hsz ⊢
  have hI0 : I ss0.w := by rw [← hss0]; exact new_mode_i hnew mode
  obtain ⟨hnp, hIR⟩ := run_I ss0 ops hI0 hr
  have hrunA := after_eq_run ss0 ops hnp
  rw [hrunA] at hIR
  obtain ⟨m0, mc0, hf0⟩ := finish_ok (fun _ _ => mac.getD []) hmac _ hIR
  have hrunM := runModel_eq (mac := mac) hnp hf0
  have hD0 : Desc ss0 { mode := Driver.toSpecMode mode, buflen := buf.size, limit := min limit buf.size } {} {} := by
    rw [← hss0]; exact desc_new buf limit s hnew mode
  have hl0 : ss0.w.limit ≤ 65535 := by rw [← hss0]; exact new_limit buf limit s hnew hlim
  obtain ⟨d, hd, _⟩ := segEnd_facts (fun _ _ => mac.getD []) hmac ss0 {} {} hI0 hD0.lay hD0.typed ops (fun op h => (ht op h).1) hr
    hl0 hv
  -- the MAC has the size the specification expects, at every `finish`
  have hml : ∀ o1 o2, ops = o1 ++ o2 → ∀ m mac1 ts, finish (after ss0 o1).w (fun _ _ => mac.getD []) = .ok (m, mac1) →
      (after ss0 o1).w.tsig = some ts → (mac1.getD []).length = (toATsig ts).macLen := by
    intro o1 o2 hsplit m mac1 ts hf hts
    have hr1 : Respects ss0 o1 := by rw [hsplit] at hr; exact ((respects_append ss0 o1 o2).mp hr).1
    have hrun1 := after_eq_run ss0 o1 (run_I ss0 o1 hI0 hr1).1
    exact finish_macLen _ _ ts hts m mac1 hf (hsz o1 o2 hsplit ts (by rw [hrun1]; exact hts))
  have hwalk := walk_sessions (fun _ _ => mac.getD []) hmac mc0 ops.length ops (Nat.le_refl _) ss0 _ {} {} hD0 ht hr hl0
    hv hml (finish_mac_self hf0) d hd
  obtain ⟨tl, htl⟩ := msgs_head (fun _ _ => mac.getD []) ss0 ops
  rw [finMsg_eq hf0] at hwalk htl
  refine ⟨m0, by rw [hrunM], ?_⟩
  rw [hrunM]
  simp only
  rw [htl] at hwalk ⊢
  unfold Message.checkSession
  simp only [contains_panic_false ops _ hnp, Bool.false_eq_true, if_false, hd, hwalk]

/-! ### a TSIG configuration keeps its algorithm -/

/-- `s'` still has a TSIG configuration of the same kind: signed with a MAC of the same size, or
    unsigned -/
def SigKept (s s' : State) : Prop :=
  ∀ ts, s.tsig = some ts → ∃ ts', s'.tsig = some ts' ∧ (toATsig ts').signed = (toATsig ts).signed

theorem sigKept_of_eq {s s' : State} (h : s'.tsig = s.tsig) : SigKept s s' :=
  fun ts hts => ⟨ts, by rw [h, hts], rfl⟩

theorem Did.sig {ss : Session} {op : Op} {s' : State} (h : Did ss op s') : SigKept ss.w s' := by
  induction h with
  | hdr | limit | mode | clear | edns | getters => exact sigKept_of_eq rfl
  | question hq =>
    obtain ⟨s1, e, rfl⟩ := addQuestion_ok_ext hq
    exact sigKept_of_eq e.tsig
  | records hq =>
    obtain ⟨s1, n, e, rfl⟩ := addRrsetOp_ok_ext hq
    exact sigKept_of_eq ((setCount_keep _ n s1).2.1.trans e.tsig)
  | record _ ih => exact ih
  | tsig h1 => intro ts hts; rw [hts] at h1; cases h1
  | @time t ts hts =>
    intro ts0 hts0
    rw [hts] at hts0
    cases hts0
    exact ⟨_, rfl, rfl⟩
  | template hop' e =>
    rcases hop' with ⟨_, rfl⟩ | ⟨mac, ts0, al, k, _, h0, hmode, rfl⟩
    · exact sigKept_of_eq e.tsig
    · intro ts hts
      rw [h0] at hts
      cases hts
      refine ⟨_, e.tsig, ?_⟩
      rcases hmode with h | ⟨x, h⟩ | ⟨x, h⟩ <;> simp only [toATsig, h]

theorem step_sig (ss : Session) (op : Op) (hI : I ss.w) (hop : OpOK ss op) : SigKept ss.w (step ss op).2.w := by
  rcases step_cases ss op hI hop with ⟨e, _, hs⟩ | ⟨_, hd⟩
  · exact sigKept_of_eq hs.tsig
  · exact hd.sig

theorem SigKept.trans {a b c : State} (h1 : SigKept a b) (h2 : SigKept b c) : SigKept a c := by
  intro ts hts
  obtain ⟨ts1, e1, s1⟩ := h1 ts hts
  obtain ⟨ts2, e2, s2⟩ := h2 ts1 e1
  exact ⟨ts2, e2, by rw [s2, s1]⟩

theorem after_sig (ss : Session) (ops : List Op) (hI : I ss.w) (hr : Respects ss ops) :
    SigKept ss.w (after ss ops).w := by
  induction ops generalizing ss with
  | nil => exact sigKept_of_eq rfl
  | cons op ops ih =>
    obtain ⟨hop, hrest⟩ := hr
    exact SigKept.trans (step_sig ss op hI hop) (ih _ (step_I ss op hI hop).2 hrest)

theorem unsigned_iff (ts : Tsig) : isUnsigned ts.mode = (toATsig ts).signed.isNone := by
  cases hm : ts.mode <;> simp [toATsig, hm, isUnsigned]

/-- **`C12_full`**: the MAC-size hypothesis for the final state alone suffices,
    because a TSIG configuration keeps its algorithm for the rest of the session -/
theorem checkSession_full (buf : Bytes) (limit : Nat) (mode : CMode) (s : State) (ops : List Op)
    (mac : Option (List UInt8)) (hnew : Writer.new buf limit = .ok s)
    (hr : Respects { w := { s with mode := mode } } ops) (ht : ∀ op ∈ ops, ApiTyped op) (hlim : limit ≤ 65535)
    (hv : ∀ v, Op.setLimit v ∈ ops → v ≤ 65535) (hmac : MacLenOK (fun _ _ => mac.getD []))
    (hsz : ∀ ts, (run { w := { s with mode := mode } } ops).1.w.tsig = some ts → isUnsigned ts.mode = false →
      (mac.getD []).length = (toATsig ts).macLen) :
    ∃ m, (Driver.runModel { w := { s with mode := mode } } ops mac true).msg = some m ∧
      Message.checkSession buf.size limit (Driver.toSpecMode mode) (ops.map Driver.toSpecOp)
        (Driver.runModel { w := { s with mode := mode } } ops mac true).statuses
        ((Driver.runModel { w := { s with mode := mode } } ops mac true).pre ++ [m])
        (Driver.runModel { w := { s with mode := mode } } ops mac true).mac = "ok" := by
  refine checkSession_all buf limit mode s ops mac hnew hr ht hlim hv hmac (fun o1 o2 hsplit ts hts hu => ?_)
  have hI0 : I ({ w := { s with mode := mode } } : Session).w := new_mode_i hnew mode
  subst hsplit
  obtain ⟨hr1, hr2⟩ := (respects_append _ o1 o2).mp hr
  obtain ⟨hnp1, hI1⟩ := run_I _ o1 hI0 hr1
  have hrun1 := after_eq_run _ o1 hnp1
  have hrunA := after_eq_run _ (o1 ++ o2) (run_I _ (o1 ++ o2) hI0 hr).1
  rw [hrun1] at hts hI1
  obtain ⟨ts', hts', hsig⟩ := after_sig _ o2 hI1 hr2 ts hts
  rw [← after_append, ← hrunA] at hts'
  have hu' : isUnsigned ts'.mode = false := by rw [unsigned_iff, hsig, ← unsigned_iff]; exact hu
  have := hsz ts' hts' hu'
  rw [this]
  unfold Message.ATsig.macLen
  rw [hsig]

/-- one segment: the observer's record ends with the finished message, it decodes, its pointer audit
    passes and `checkSession` accepts the record -/
theorem checkSession_segment (buf : Bytes) (limit : Nat) (mode : CMode) (s : State) (ops : List Op)
    (mac : Option (List UInt8)) (hnew : Writer.new buf limit = .ok s)
    (hr : Respects { w := { s with mode := mode } } ops) (ht : ∀ op ∈ ops, ApiTyped op) (hlim : limit ≤ 65535)
    (hv : ∀ v, Op.setLimit v ∈ ops → v ≤ 65535) (hmac : MacLenOK (fun _ _ => mac.getD []))
    (hno : ∀ op ∈ ops, op ≠ .clearRrs)
    (hsz : ∀ ts, (run { w := { s with mode := mode } } ops).1.w.tsig = some ts → isUnsigned ts.mode = false →
      (mac.getD []).length = (toATsig ts).macLen) :
    ∃ (m : Bytes) (d : Message.Decoded) (aF : Message.AState),
      (Driver.runModel { w := { s with mode := mode } } ops mac true).msg = some m ∧
      Message.specDecodeMsg m = some d ∧ Message.auditPointers d aF.itemModes.reverse aF.mode = .ok () ∧
      Message.checkSession buf.size limit (Driver.toSpecMode mode) (ops.map Driver.toSpecOp)
        (Driver.runModel { w := { s with mode := mode } } ops mac true).statuses
        ((Driver.runModel { w := { s with mode := mode } } ops mac true).pre ++ [m])
        (Driver.runModel { w := { s with mode := mode } } ops mac true).mac = "ok" := by
  obtain ⟨hnp, _⟩ := run_I { w := { s with mode := mode } } ops (desc_new buf limit s hnew mode).i hr
  obtain ⟨m, mc, d, aF, hf, hd, _, _, _, _, _, _, haud, _⟩ := segment_from_new (fun _ _ => mac.getD []) hmac buf limit s hnew
    hlim mode ops (fun op h => (ht op h).1) (fun op h => (ht op h).2.1) hr hv (fun op h => ⟨hno op h, (ht op h).2.2⟩) none
  obtain ⟨m', hm', hck⟩ := checkSession_full buf limit mode s ops mac hnew hr ht hlim hv hmac hsz
  have hm := congrArg Driver.ModelRun.msg (runModel_eq (mac := mac) hnp (by rw [← after_eq_run _ _ hnp]; exact hf))
  rw [hm] at hm'
  cases hm'
  exact ⟨m, d, aF, hm, hd, haud, hck⟩

end QV.Writer
