/-
  QV.Proofs.ServerAnswerLimit — limit monotonicity of the writer for the calls of the answer phase
  (C04 T3): the octets a record-adding call writes do not depend on the size limit; a call that
  succeeds with more room and ends within the smaller room succeeds with the smaller room too and
  leaves the same state (up to the limit itself).

  `lift d s` = the state `s` with `d` more octets of room (`limit`, `available` raised by `d`).
  `Sim f`: whenever `f (lift d s)` succeeds and ends with the cursor within `s.available`, `f s`
  succeeds with the same value and `f (lift d s)` ends in `lift d` of where `f s` ends.
  For the answer phase on the writer plus the ghost log: `TwoPAt`, the two-run judgement with its rules, and
  its lifting through `Prog` for a relation every accepted call keeps (`inner_limit_independent`).
-/
import QV.Proofs.ServerAnswerFoot

namespace QV.ServerAnswer
open QV QV.Writer QV.Server

/-- the same writer with `d` more octets of room -/
def lift (d : Nat) (s : State) : State := { s with limit := s.limit + d, available := s.available + d }

/-- limit-independence of `f` on runs that fit the smaller room -/
def Sim {α} (f : M α) : Prop :=
  ∀ (d : Nat) (s : State) (a : α) (t : State), f (lift d s) = (.ok a, t) → t.cursor ≤ s.available →
    ∃ s', f s = (.ok a, s') ∧ t = lift d s'

/-- the cursor and ARCOUNT do not go back and `available` is untouched, whatever the outcome -/
def GrowsM {α} (f : M α) : Prop :=
  ∀ s, s.cursor ≤ (f s).2.cursor ∧ (f s).2.available = s.available ∧ s.arcount ≤ (f s).2.arcount

theorem growsM_bind {α β} {f : M α} {g : α → M β} (hf : GrowsM f) (hg : ∀ a, GrowsM (g a)) : GrowsM (f >>= g) := by
  intro s
  have h1 := hf s
  simp only [M.bind_apply]
  rcases hfs : f s with ⟨(a | e | _), s1⟩ <;> rw [hfs] at h1
  · have h2 := hg a s1
    exact ⟨Nat.le_trans h1.1 h2.1, by rw [h2.2.1, h1.2.1], Nat.le_trans h1.2.2 h2.2.2⟩
  · exact h1
  · exact h1

/-- independence of the limit is the footprint read from the larger room: the two runs agree, or the one in
    the smaller room stopped where the other ends beyond it -/
theorem Foot.sim {α} {f : M α} (h : Foot Room.put3 f) : Sim f := by
  intro d s a t ht hc
  have e : lift d s = Room.put3 ⟨s.limit + d, s.available + d, s.tsig, 0⟩ s := rfl
  have e0 : s = Room.put3 ⟨s.limit, s.available, s.tsig, 0⟩ s := rfl
  rcases h.two s ⟨s.limit, s.available, s.tsig, 0⟩ ⟨s.limit + d, s.available + d, s.tsig, 0⟩ (Nat.le_add_right _ _) with
    ⟨o, u, h2, h1⟩ | ⟨_, _, h2⟩
  · rw [← e0] at h1
    rw [← e, ht] at h2
    cases h2
    exact ⟨_, h1, rfl⟩
  · rw [← e] at h2
    exact absurd (h2 a t ht) (Nat.not_lt.mpr hc)

theorem sim_addRrsetOp (sec : RrSection) (hint : Hint) (owner : WName) (ty cls ttl : Nat)
    (rds : List (List UInt8)) : Sim (addRrsetOp sec hint owner ty cls ttl rds) :=
  (foot_addRrsetOp sec hint owner ty cls ttl rds).sim

theorem sim_addRrOp (sec : RrSection) (hint : Hint) (owner : WName) (ty cls ttl : Nat)
    (rd : List UInt8) : Sim (addRrOp sec hint owner ty cls ttl rd) :=
  (foot_addRrOp sec hint owner ty cls ttl rd).sim

/-! ### header operations, and sequences of answer-phase calls -/

theorem growsM_setHdr (i : Nat) (f : UInt8 → UInt8) : GrowsM (setHdr i f) := by
  intro s; unfold setHdr; split <;> exact ⟨Nat.le_refl _, rfl, Nat.le_refl _⟩

theorem growsM_setRcode (v : Nat) : GrowsM (setRcode v) := by
  unfold setRcode
  refine growsM_bind (growsM_setHdr _ _) fun _ s => ?_
  rw [M.modify_apply]
  cases s.edns <;> exact ⟨Nat.le_refl _, rfl, Nat.le_refl _⟩

theorem growsM_addRrsetOp (sec : RrSection) (hint : Hint) (owner : WName) (ty cls ttl : Nat)
    (rds : List (List UInt8)) : GrowsM (addRrsetOp sec hint owner ty cls ttl rds) := by
  intro s
  have h := addRrsetOp_cases sec hint owner ty cls ttl rds s
  rcases hr : addRrsetOp sec hint owner ty cls ttl rds s with ⟨(u | e | _), s'⟩ <;> rw [hr] at h
  · obtain ⟨s1, n, e, _, hs'⟩ := h
    rw [hs']
    cases sec <;> simp only [setCount, M.modify_apply, getCount] <;>
      exact ⟨e.cur, e.available, by rw [← e.ar]; omega⟩
  · exact ⟨Nat.le_of_eq h.cursor.symm, h.available, Nat.le_of_eq h.ar.symm⟩
  · exact ⟨h.cur, h.available, Nat.le_of_eq h.ar.symm⟩

theorem growsM_addRrOp (sec : RrSection) (hint : Hint) (owner : WName) (ty cls ttl : Nat)
    (rd : List UInt8) : GrowsM (addRrOp sec hint owner ty cls ttl rd) := by
  intro s
  have h := addRrOp_cases sec hint owner ty cls ttl rd s
  rcases hr : addRrOp sec hint owner ty cls ttl rd s with ⟨(u | e | _), s'⟩ <;> rw [hr] at h
  · obtain ⟨s1, e, _, hs'⟩ := h
    rw [hs']
    cases sec <;> simp only [setCount, M.modify_apply, getCount] <;>
      exact ⟨e.cur, e.available, by rw [← e.ar]; omega⟩
  · exact ⟨Nat.le_of_eq h.cursor.symm, h.available, Nat.le_of_eq h.ar.symm⟩
  · exact ⟨h.cur, h.available, Nat.le_of_eq h.ar.symm⟩

/-- the calls the answer phase makes when nothing fails -/
inductive AnsCall where
  | setAa (b : Bool)
  | setRcode (v : Nat)
  | addRr (sec : RrSection) (hint : Hint) (owner : WName) (ty cls ttl : Nat) (rdata : List UInt8)
  | addRrset (sec : RrSection) (hint : Hint) (owner : WName) (ty cls ttl : Nat) (rdatas : List (List UInt8))

def AnsCall.run : AnsCall → M Unit
  | .setAa b => Writer.setAa b
  | .setRcode v => Writer.setRcode v
  | .addRr sec h o ty cls ttl rd => addRrOp sec h o ty cls ttl rd
  | .addRrset sec h o ty cls ttl rds => addRrsetOp sec h o ty cls ttl rds

theorem sim_ansCall (c : AnsCall) : Sim c.run := by
  cases c with
  | setAa b => exact (show Sim (setBit Gen.AA_BYTE Gen.AA_MASK b) from by unfold setBit; exact (foot_setHdr _ _).put3.sim)
  | setRcode v => exact (foot_setRcode v).put3.sim
  | addRr sec h o ty cls ttl rd => exact sim_addRrOp sec h o ty cls ttl rd
  | addRrset sec h o ty cls ttl rds => exact sim_addRrsetOp sec h o ty cls ttl rds

theorem growsM_ansCall (c : AnsCall) : GrowsM c.run := by
  cases c with
  | setAa b => exact (show GrowsM (setBit Gen.AA_BYTE Gen.AA_MASK b) from by unfold setBit; exact growsM_setHdr _ _)
  | setRcode v => exact growsM_setRcode v
  | addRr sec h o ty cls ttl rd => exact growsM_addRrOp sec h o ty cls ttl rd
  | addRrset sec h o ty cls ttl rds => exact growsM_addRrsetOp sec h o ty cls ttl rds

/-- run a sequence of calls, stopping at the first that does not succeed -/
def runCalls : List AnsCall → State → Out WriterErr Unit × State
  | [], s => (.ok (), s)
  | c :: cs, s =>
    match c.run s with
    | (.ok (), s') => runCalls cs s'
    | r => r

theorem runCalls_ok_ca : ∀ (cs : List AnsCall) (s s' : State), runCalls cs s = (.ok (), s') →
    s.cursor ≤ s'.cursor ∧ s'.available = s.available := by
  intro cs
  induction cs with
  | nil => intro s s' h; simp only [runCalls] at h; cases h; exact ⟨Nat.le_refl _, rfl⟩
  | cons c cs ih =>
    intro s s' h
    simp only [runCalls] at h
    rcases hc : c.run s with ⟨(u | e | _), s1⟩
    · rw [hc] at h
      have h1 := growsM_ansCall c s
      rw [hc] at h1
      have h2 := ih s1 s' h
      exact ⟨Nat.le_trans h1.1 h2.1, by rw [h2.2, h1.2.1]⟩
    · rw [hc] at h; cases h
    · rw [hc] at h; cases h

/-- **limit monotonicity for a sequence of answer-phase calls**: if every call succeeds with `d`
    more octets of room and the result fits the smaller room, every call succeeds with the
    smaller room too, and the two final states differ only in the room (same cursor, same octets,
    same counts, same header) -/
theorem sim_runCalls : ∀ (cs : List AnsCall) (d : Nat) (s t : State),
    runCalls cs (lift d s) = (.ok (), t) → t.cursor ≤ s.available →
    ∃ s', runCalls cs s = (.ok (), s') ∧ t = lift d s' := by
  intro cs
  induction cs with
  | nil => intro d s t h _; simp only [runCalls] at h ⊢; cases h; exact ⟨s, rfl, rfl⟩
  | cons c cs ih =>
    intro d s t h hc
    simp only [runCalls] at h ⊢
    rcases hr : c.run (lift d s) with ⟨(u | e | _), t1⟩
    · rw [hr] at h
      have hmono := runCalls_ok_ca cs t1 t h
      obtain ⟨s1, hs1, ht1⟩ := sim_ansCall c d s () t1 hr (Nat.le_trans hmono.1 hc)
      have h1 := growsM_ansCall c s
      rw [hs1] at h1
      rw [ht1] at h
      obtain ⟨s', hs', ht⟩ := ih d s1 t h (by rw [h1.2.1]; exact hc)
      rw [hs1]
      exact ⟨s', hs', ht⟩
    · rw [hr] at h; cases h
    · rw [hr] at h; cases h

/-! ## the answer phase: what only grows

  What lets a two-run judgement pass through `>>=`: a bound on the cursor or on ARCOUNT at the end of a
  run bounds them at every point before. -/

/-- ARCOUNT does not go back, whatever the outcome; on success neither does the cursor, `available` is
    untouched and the log has only grown -/
def Grows {α} (m : PM α) : Prop :=
  ∀ ps : PS, ps.w.arcount ≤ (m ps).2.w.arcount ∧
    ∀ a ps', m ps = (.ok a, ps') →
      ps.w.cursor ≤ ps'.w.cursor ∧ ps'.w.available = ps.w.available ∧ ∃ evs, ps'.log = ps.log ++ evs

theorem grows_pure {α} (a : α) : Grows (Pure.pure a : PM α) := fun ps =>
  ⟨Nat.le_refl _, fun b ps' h => by cases h; exact ⟨Nat.le_refl _, rfl, [], by simp⟩⟩

theorem grows_fail {α} (e : PErr) : Grows (PM.fail e : PM α) := fun _ => ⟨Nat.le_refl _, fun _ _ h => by cases h⟩

theorem grows_panic {α} : Grows (PM.panic : PM α) := fun _ => ⟨Nat.le_refl _, fun _ _ h => by cases h⟩

theorem grows_bind {α β} {m : PM α} {f : α → PM β} (hm : Grows m) (hf : ∀ a, Grows (f a)) : Grows (m >>= f) := by
  intro ps
  obtain ⟨h0, h1⟩ := hm ps
  rw [bind_def]
  rcases hmm : m ps with ⟨(a | e | _), ps1⟩ <;> rw [hmm] at h0
  · obtain ⟨g0, g1⟩ := hf a ps1
    refine ⟨Nat.le_trans h0 g0, fun b ps' h => ?_⟩
    obtain ⟨a1, a2, evs1, a3⟩ := h1 a ps1 hmm
    obtain ⟨c1, c2, evs2, c3⟩ := g1 b ps' h
    exact ⟨Nat.le_trans a1 c1, by rw [c2, a2], evs1 ++ evs2, by rw [c3, a3, List.append_assoc]⟩
  · exact ⟨h0, fun _ _ h => by cases h⟩
  · exact ⟨h0, fun _ _ h => by cases h⟩

theorem grows_hdrOp (ev : Ev) (m : M Unit) (hm : GrowsM m) : Grows (PM.hdrOp ev m) := by
  intro ps
  unfold PM.hdrOp
  have := hm ps.w
  rcases hr : m ps.w with ⟨(u | e | _), t⟩ <;> rw [hr] at this
  · exact ⟨this.2.2, fun _ _ h => by cases h; exact ⟨this.1, this.2.1, [ev], rfl⟩⟩
  · exact ⟨this.2.2, fun _ _ h => by cases h⟩
  · exact ⟨this.2.2, fun _ _ h => by cases h⟩

theorem grows_addCall (ev : AddEv) (f : M Unit) (hf : GrowsM f) : Grows (PM.addCall ev (Server.withHv [] f)) := by
  intro ps
  unfold PM.addCall Server.withHv
  have := hf { ps.w with hv := some [] }
  simp only
  rcases hr : f { ps.w with hv := some [] } with ⟨(u | e | _), t⟩ <;> rw [hr] at this <;> simp only at this ⊢
  · exact ⟨this.2.2, fun _ _ h => by cases h; exact ⟨this.1, this.2.1, _, rfl⟩⟩
  · refine ⟨by split <;> exact this.2.2, fun _ _ h => ?_⟩
    split at h
    · cases h; exact ⟨this.1, this.2.1, _, rfl⟩
    · cases h
  · exact ⟨this.2.2, fun _ _ h => by cases h⟩

/-- every part of the answer phase grows -/
theorem Prog.grows {Q : AddEv → Prop} {α : Type} {m : PM α} {r r' : Nat} (h : Prog Q m r r') : Grows m := by
  induction h with
  | pure a _ => exact grows_pure a
  | fail e _ _ => exact grows_fail e
  | panic _ _ => exact grows_panic
  | bind _ _ ih1 ih2 => exact grows_bind ih1 ih2
  | weaken _ _ _ ih => exact ih
  | setAa b _ => exact grows_hdrOp _ _ (growsM_ansCall (.setAa b))
  | nxDomain _ => exact grows_hdrOp _ _ (growsM_setRcode _)
  | addRrs opt sec hint owner ty cls ttl rds _ => exact grows_addCall _ _ (growsM_addRrsetOp sec hint owner ty cls ttl rds)

/-- every logged call was accepted, and no header operation failed -/
def OkEv (e : Ev) : Prop := e ≠ .bad ∧ ∀ x, e = .add x → x.res = .ok ()

/-! ## two runs of the answer phase from related writers

  `TwoPAt Rel G np f ps`: the one two-run judgement on the writer plus the ghost log, pointwise at `ps`. Its
  rules take the fact about a single writer call as a hypothesis, so the same five rules serve a relation
  that every accepted call keeps (`CallTwo`, lifted through `Prog`: limit independence below, and
  `callTwo_twin` in Proofs/ServerAnswerFields.lean) and the relation `Twin`, which a call keeps only next to
  a state with the writer's invariant (Proofs/ServerAnswerTwoRunI.lean, along C01's pass). -/

/-- the run of `f` from a writer related to `ps.w` (same log): whenever the run from `ps` succeeds and its
    result satisfies the guard `G` (and, if `np`, the other run does not panic), the other run succeeds with
    the same value and log, and the final writers are related again -/
def TwoPAt (Rel : State → State → Prop) (G : PS → Prop) (np : Prop) {ε α : Type} (f : PS → Out ε α × PS)
    (ps : PS) : Prop :=
  ∀ (s' : State) (a : α) (pt : PS), Rel ps.w s' → f ps = (.ok a, pt) → G pt → (np → (f ⟨s', ps.log⟩).1 ≠ .panic) →
    ∃ ps', f ⟨s', ps.log⟩ = (.ok a, ps') ∧ ps'.log = pt.log ∧ Rel pt.w ps'.w

section rules
variable {Rel : State → State → Prop} {G : PS → Prop} {np : Prop}

theorem twoPAt_pure {α : Type} (a : α) (ps : PS) : TwoPAt Rel G np (pure a : PM α) ps := by
  intro s' b pt hr h _ _
  cases h
  exact ⟨⟨s', ps.log⟩, rfl, rfl, hr⟩

theorem twoPAt_err {α : Type} {f : PM α} {ps : PS} {e : PErr} {s1 : PS} (h : f ps = (.err e, s1)) :
    TwoPAt Rel G np f ps := by
  intro s' b pt _ h' _ _; rw [h] at h'; cases h'

/-- `>>=`: the guard of the whole run gives the guard of its first part -/
theorem twoPAt_bind {α β : Type} {x : PM α} {g : α → PM β} {ps : PS} (hx : TwoPAt Rel G np x ps)
    (hG : ∀ a s1 b pt, x ps = (.ok a, s1) → g a s1 = (.ok b, pt) → G pt → G s1)
    (hg : ∀ a s1, x ps = (.ok a, s1) → TwoPAt Rel G np (g a) s1) : TwoPAt Rel G np (x >>= g) ps := by
  intro s' b pt hr h hgd hnp
  rw [bind_def] at h hnp ⊢
  rcases hxs : x ps with ⟨(a | e | _), s1⟩
  · rw [hxs] at h
    simp only at h
    have hnp1 : np → (x ⟨s', ps.log⟩).1 ≠ .panic := by
      intro hn hp
      rcases hr' : x ⟨s', ps.log⟩ with ⟨(y | e | _), q⟩
      · rw [hr'] at hp; cases hp
      · rw [hr'] at hp; cases hp
      · rw [hr'] at hnp; exact hnp hn rfl
    obtain ⟨⟨w1, l1⟩, e1, e2, e3⟩ := hx s' a s1 hr hxs (hG a s1 b pt hxs h hgd) hnp1
    rw [e1] at hnp ⊢
    simp only at hnp e2 e3 ⊢
    subst e2
    exact hg a s1 hxs w1 b pt e3 h hgd hnp
  · rw [hxs] at h; cases h
  · rw [hxs] at h; cases h

/-- a header operation: the call-level fact at this state -/
theorem twoPAt_hdrOp (ev : Ev) (c : AnsCall) (ps : PS)
    (hcall : ∀ s' t, Rel ps.w s' → c.run ps.w = (.ok (), t) → G ⟨t, ps.log ++ [ev]⟩ →
      ∃ t', c.run s' = (.ok (), t') ∧ Rel t t') : TwoPAt Rel G np (PM.hdrOp ev c.run) ps := by
  intro s' a pt hr h hgd _
  unfold PM.hdrOp at h ⊢
  simp only at h ⊢
  rcases hm : c.run ps.w with ⟨(u | e | _), t⟩
  · rw [hm] at h
    simp only at h
    cases h
    obtain ⟨t', ht', hr'⟩ := hcall s' t hr hm hgd
    rw [ht']
    exact ⟨_, rfl, rfl, hr'⟩
  · rw [hm] at h; simp at h
  · rw [hm] at h; simp at h

/-- a record-adding call lent a fresh hint vector: the call-level fact at this state for an accepted call,
    and for a swallowed `Truncation` -/
theorem twoPAt_addCall (ev : AddEv) (c : AnsCall) (ps : PS)
    (hhv : ∀ s s' x, Rel s s' → Rel { s with hv := x } { s' with hv := x }) (hvEq : ∀ s s', Rel s s' → s'.hv = s.hv)
    (hok : ∀ s' t, Rel { ps.w with hv := some [] } s' → c.run { ps.w with hv := some [] } = (.ok (), t) →
      G ⟨{ t with hv := none }, ps.log ++ [.add { ev with res := .ok () }]⟩ → ∃ t', c.run s' = (.ok (), t') ∧ Rel t t')
    (herr : ∀ s' t, Rel { ps.w with hv := some [] } s' → c.run { ps.w with hv := some [] } = (.err .Truncation, t) →
      ev.optional = true → G ⟨{ t with hv := none }, ps.log ++ [.add { ev with res := .err .Truncation }]⟩ →
      (np → (c.run s').1 ≠ .panic) →
      ∃ t', c.run s' = (.err .Truncation, t') ∧ Rel { t with hv := none } { t' with hv := none }) :
    TwoPAt Rel G np (PM.addCall ev (Server.withHv [] c.run)) ps := by
  intro s' a pt hr h hgd hnp
  unfold PM.addCall Server.withHv at h hnp ⊢
  simp only at h hnp ⊢
  have hr0 := hhv _ _ (some []) hr
  rcases hm : c.run { ps.w with hv := some [] } with ⟨(u | e | _), t⟩
  · rw [hm] at h
    simp only at h
    cases h
    obtain ⟨t', ht', hr'⟩ := hok _ t hr0 hm hgd
    rw [ht']
    simp only
    rw [hvEq _ _ hr']
    exact ⟨_, rfl, rfl, hhv _ _ none hr'⟩
  · rw [hm] at h
    simp only at h
    split at h
    · next hcond =>
      cases h
      obtain ⟨ho, he⟩ := hcond
      subst he
      have hnp' : np → (c.run { s' with hv := some [] }).1 ≠ .panic := by
        intro hn hp
        rcases hr' : c.run { s' with hv := some [] } with ⟨(x | e | _), q⟩
        · rw [hr'] at hp; cases hp
        · rw [hr'] at hp; cases hp
        · rw [hr'] at hnp; exact hnp hn rfl
      obtain ⟨t', ht', hr'⟩ := herr _ t hr0 hm ho hgd hnp'
      rw [ht']
      simp only [ho, and_self, if_true]
      exact ⟨_, rfl, rfl, hr'⟩
    · cases h
  · rw [hm] at h; simp at h

end rules


/-! ### a relation every accepted call keeps, through the answer phase -/

/-- a relation between two writers that every accepted call of the answer phase keeps, as long as the
    call ends with the cursor at most `K` and ARCOUNT at most `N` in the first; the relation does not
    look at the lent hint vector -/
structure CallTwo (Rel : State → State → Prop) (K N : Nat) : Prop where
  call : ∀ (c : AnsCall) (s s' t : State), Rel s s' → c.run s = (.ok (), t) → t.cursor ≤ K → t.arcount ≤ N →
    ∃ t', c.run s' = (.ok (), t') ∧ Rel t t'
  hv : ∀ (s s' : State) (x : Option HV), Rel s s' → Rel { s with hv := x } { s' with hv := x }
  hvEq : ∀ s s', Rel s s' → s'.hv = s.hv

/-- only accepted calls logged, cursor and ARCOUNT within bounds -/
def OkWithin (K N : Nat) (pt : PS) : Prop := (∀ e ∈ pt.log, OkEv e) ∧ pt.w.cursor ≤ K ∧ pt.w.arcount ≤ N

/-- **a relation every accepted call keeps is kept by a run of the answer phase that logs only accepted
    calls**; a swallowed `Truncation` would be in the log -/
theorem Prog.twoPAt {Rel : State → State → Prop} {K N : Nat} (C : CallTwo Rel K N) {Q : AddEv → Prop} {α : Type}
    {m : PM α} {r r' : Nat} (h : Prog Q m r r') : ∀ ps, TwoPAt Rel (OkWithin K N) False m ps := by
  induction h with
  | pure a _ => exact twoPAt_pure a
  | fail e _ _ => exact fun ps => twoPAt_err (e := e) (s1 := ps) rfl
  | panic _ _ => exact fun _ _ _ _ _ h => by cases h
  | bind _ h2 ih1 ih2 =>
    intro ps
    refine twoPAt_bind (ih1 ps) (fun a s1 b pt _ hg ⟨g1, g2, g3⟩ => ?_) (fun a s1 _ => ih2 a s1)
    obtain ⟨c0, c1⟩ := (h2 a).grows s1
    obtain ⟨c2, _, evs, c3⟩ := c1 b pt hg
    rw [hg] at c0
    exact ⟨fun e he => g1 e (by rw [c3]; exact List.mem_append_left _ he), Nat.le_trans c2 g2, Nat.le_trans c0 g3⟩
  | weaken _ _ _ ih => exact ih
  | setAa b _ => exact fun ps => twoPAt_hdrOp _ (.setAa b) ps fun s' t hr hm hg => C.call _ _ _ t hr hm hg.2.1 hg.2.2
  | nxDomain _ => exact fun ps => twoPAt_hdrOp _ (.setRcode _) ps fun s' t hr hm hg => C.call _ _ _ t hr hm hg.2.1 hg.2.2
  | addRrs opt sec hint owner ty cls ttl rds _ =>
    exact fun ps => twoPAt_addCall _ (.addRrset sec hint owner ty cls ttl rds) ps C.hv C.hvEq
      (fun s' t hr hm hg => C.call _ _ _ t hr hm hg.2.1 hg.2.2)
      (fun s' t _ _ _ hg _ => by
        have := (hg.1 _ (List.mem_append_right _ (List.mem_singleton.mpr rfl))).2 _ rfl
        cases this)

/-- the smaller room: `s` is `s'` with `d` more octets, `s'` has `K` octets available -/
theorem callTwo_lift (d K N : Nat) : CallTwo (fun s s' => s = lift d s' ∧ s'.available = K) K N where
  call := fun c s s' t ⟨e, hk⟩ hrun hc _ => by
    subst e
    obtain ⟨t', ht', e'⟩ := sim_ansCall c d s' () t hrun (by rw [hk]; exact hc)
    have := (growsM_ansCall c s').2.1
    rw [ht'] at this
    exact ⟨t', ht', e', by rw [this, hk]⟩
  hv := fun s s' x ⟨e, hk⟩ => ⟨by rw [e]; rfl, hk⟩
  hvEq := fun s s' ⟨e, _⟩ => by rw [e]; rfl

/-- **the answering logic does not depend on the limit**: if, with `d` more octets of room, it
    succeeds with every call accepted (the complete answer: nothing failed, nothing optional was
    dropped) and the result fits the smaller room, then with the smaller room it makes the same
    calls with the same results — the same log, hence the same RCODE, AA and sections — and
    leaves the same octets. Over TCP and UDP (after `set_limit`) the writers differ exactly by
    such a `d`: this is "the UDP response equals the TCP response whenever the latter fits". -/
theorem inner_limit_independent (z : Zone.Zone) (qname : WName) (qtype : Nat) (d : Nat) (w : State) (pt : PS)
    (h : inner z qname qtype ⟨lift d w, []⟩ = (.ok (), pt)) (hok : ∀ e ∈ pt.log, OkEv e)
    (hc : pt.w.cursor ≤ w.available) :
    ∃ ps', inner z qname qtype ⟨w, []⟩ = (.ok (), ps') ∧ ps'.log = pt.log ∧ pt.w = lift d ps'.w := by
  obtain ⟨ps', h1, h2, h3, _⟩ := (Prog.inner' z qname qtype).twoPAt (callTwo_lift d w.available pt.w.arcount)
    ⟨lift d w, []⟩ w () pt ⟨rfl, rfl⟩ h ⟨hok, hc, Nat.le_refl _⟩ (fun hf => hf.elim)
  exact ⟨ps', h1, h2, h3⟩

end QV.ServerAnswer
