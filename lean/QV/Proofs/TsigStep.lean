/-
  QV.Proofs.TsigStep — the TSIG step of `handle_message` (`tsigProcess`) in one equation.  The step
  decides — from the algorithm table, the key set and `verify_request`, without looking at the writer —
  an RCODE, a TSIG mode, a prepared RR and whether the scan may go on (`tsigDecision`;
  `tsigDecision_cases` is the decision table row by row); then it looks at the writer's room exactly once
  (`stepSt`).  `tsigProcess_eq` says what the step returns and leaves; a run that does not panic has
  decided (`tsigProcess_ok_inv`).
-/
import QV.Proofs.TsigWriter
import QV.Proofs.ServerNames
import QV.Proofs.FinishInv

namespace QV.ServerScan
open QV QV.Wire QV.Reader QV.Writer QV.ServerTsig

/-! ### names the algorithm table knows -/

/-- `lowerU8` moves only upper-case letters, and those to lower-case letters (97 … 122) -/
theorem lowerU8_eq_of_lt (x c : UInt8) (h : lowerU8 x = c) (hc : c.toNat < 97) : x = c := by
  unfold lowerU8 at h
  split at h
  · rename_i hx
    exfalso
    have := congrArg UInt8.toNat h
    rw [UInt8.toNat_add] at this
    have e32 : (32 : UInt8).toNat = 32 := rfl
    rw [e32] at this
    omega
  · exact h

/-- octets that are, in lower case, the wire form of a one-label name are the wire form of a one-label
    name: lower-casing leaves the length octet and the terminating zero alone -/
theorem parse_of_lower_label (n l : List UInt8) (h1 : 1 ≤ l.length) (h63 : l.length ≤ 63)
    (h : n.map lowerU8 = UInt8.ofNat l.length :: (l ++ [0])) : ∃ an, WName.parse n = some (an, []) := by
  obtain ⟨b0, t, rfl, h0, ht⟩ := List.map_eq_cons_iff.mp h
  obtain ⟨mid, z, rfl, hmid, hz⟩ := List.map_eq_append_iff.mp ht
  obtain ⟨bz, zz, rfl, hbz, hzz⟩ := List.map_eq_cons_iff.mp hz
  rw [List.map_eq_nil_iff] at hzz
  subst hzz
  have e0 : b0 = UInt8.ofNat l.length :=
    lowerU8_eq_of_lt b0 _ h0 (by simp only [UInt8.toNat_ofNat', Nat.reducePow]; omega)
  have ez : bz = 0 := lowerU8_eq_of_lt bz 0 hbz (by decide)
  have hlen : mid.length = l.length := by rw [← hmid, List.length_map]
  subst e0 ez
  obtain ⟨an, _, _, hp⟩ := ServerSafety.isWire_parse (w := UInt8.ofNat l.length :: (mid ++ [0]))
    ⟨[mid], fun x hx => by rw [List.mem_singleton.mp hx, hlen]; exact ⟨h1, h63⟩,
      by simp [WName.encLabel, hlen]⟩ (by simp only [List.length_cons, List.length_append, List.length_nil]; omega)
  exact ⟨an, hp⟩

/-- a name the algorithm table knows is a well-formed wire name -/
theorem fromName_parses (n : List UInt8) (alg : Tsig.Algorithm) (h : Tsig.Algorithm.fromName n = some alg) :
    ∃ an, WName.parse n = some (an, []) := by
  have hl := fromName_some n alg h
  cases alg with
  | HmacSha1 => exact parse_of_lower_label n [104, 109, 97, 99, 45, 115, 104, 97, 49] (by decide) (by decide) hl
  | HmacSha256 =>
    exact parse_of_lower_label n [104, 109, 97, 99, 45, 115, 104, 97, 50, 53, 54] (by decide) (by decide) hl

/-! ### `set_rcode` and `set_tsig_or_truncate` on the writer -/

theorem stRcode_fits (rc : Nat) (s : State) (mode : TsigMode) (rr : TsigRr) :
    TsigFits (stRcode rc s) mode rr ↔ TsigFits s mode rr := by
  have : (stRcode rc s).tsig = s.tsig ∧ (stRcode rc s).cursor = s.cursor ∧
      (stRcode rc s).available = s.available ∧ (stRcode rc s).arcount = s.arcount := by
    unfold stRcode stHdr
    cases s.edns <;> exact ⟨rfl, rfl, rfl, rfl⟩
  unfold TsigFits
  rw [this.1, this.2.1, this.2.2.1, this.2.2.2]

theorem stRcode_size (rc : Nat) (s : State) : (stRcode rc s).octets.size = s.octets.size := by
  unfold stRcode stHdr; cases s.edns <;> simp

theorem stRcode_fields (rc : Nat) (s : State) : (stRcode rc s).tsig = s.tsig ∧
    (stRcode rc s).edns = s.edns.map (fun e => { e with upper := 0 }) := by
  unfold stRcode stHdr
  cases s.edns <;> exact ⟨rfl, rfl⟩

/-- what `set_tsig_or_truncate` does when the RR does not fit: `set_rcode(NOERROR)`, `set_tc(true)` -/
def truncSt (s : State) : State := stHdr Gen.TC_BYTE (bitF Gen.TC_MASK true) (stRcode 0 s)

theorem truncSt_fields (s : State) : (truncSt s).tsig = s.tsig ∧
    (truncSt s).edns = s.edns.map (fun e => { e with upper := 0 }) :=
  stRcode_fields 0 s

theorem setTsigOrTruncate_nofit_eq (mode : TsigMode) (rr : TsigRr) (s : State) (h3 : 3 < s.octets.size)
    (h : ¬ TsigFits s mode rr) : Server.setTsigOrTruncate mode rr s = (.ok false, truncSt s) := by
  obtain ⟨e, he⟩ := setTsig_nofit mode rr s h
  unfold Server.setTsigOrTruncate
  rw [he]
  simp only
  rw [rc_noerror, bind_ok (setRcode_eq 0 s h3)]
  have : Writer.setTc true (stRcode 0 s) = (.ok (), truncSt s) :=
    setBit_eq Gen.TC_BYTE Gen.TC_MASK true _ (by rw [stRcode_size]; show 2 < _; omega)
  rw [bind_ok this]
  rfl

/-- the writer after `set_rcode(rc); set_tsig_or_truncate(mode, rr)`: the RR recorded if it fits, else the
    truncating reply -/
def stepSt (rc : Nat) (mode : TsigMode) (rr : TsigRr) (s : State) : State :=
  if TsigFits s mode rr then withTsig (stRcode rc s) mode rr else truncSt (stRcode rc s)

theorem stepSt_fits {rc : Nat} {mode : TsigMode} {rr : TsigRr} {s : State} (h : TsigFits s mode rr) :
    stepSt rc mode rr s = withTsig (stRcode rc s) mode rr := if_pos h

theorem stepSt_nofit {rc : Nat} {mode : TsigMode} {rr : TsigRr} {s : State} (h : ¬ TsigFits s mode rr) :
    stepSt rc mode rr s = truncSt (stRcode rc s) := if_neg h

theorem stRcode_frame (rc : Nat) (s : State) : ScanFrame s (stRcode rc s) := by
  unfold stRcode stHdr
  cases s.edns <;> exact ⟨rfl, rfl, rfl, rfl, rfl, rfl, by simp⟩

/-- the step leaves the record area, the limit and the presence of the EDNS slot alone -/
theorem stepSt_frame (rc : Nat) (mode : TsigMode) (rr : TsigRr) (s : State) :
    ScanFrame s (stepSt rc mode rr s) ∧ (stepSt rc mode rr s).limit = s.limit ∧
    (stepSt rc mode rr s).edns = s.edns.map (fun e => { e with upper := 0 }) := by
  unfold stepSt
  split
  · unfold withTsig stRcode stHdr
    cases s.edns <;> exact ⟨⟨rfl, rfl, rfl, rfl, rfl, rfl, by simp⟩, rfl, rfl⟩
  · unfold truncSt stRcode stHdr
    cases s.edns <;> exact ⟨⟨rfl, rfl, rfl, rfl, rfl, rfl, by simp⟩, rfl, rfl⟩

/-- the one place where the room is looked at -/
theorem tsigStep_eq (rc : Nat) (mode : TsigMode) (rr : TsigRr) (b : Bool) (r' : Reader) (s : State)
    (h3 : 3 < s.octets.size) :
    (do setRcode rc
        let added ← Server.setTsigOrTruncate mode rr
        if added && b then pure (some r') else pure none : M (Option Reader)) s =
      (.ok (if b = true ∧ TsigFits s mode rr then some r' else none), stepSt rc mode rr s) := by
  rw [bind_ok (setRcode_eq rc s h3)]
  by_cases hf : TsigFits s mode rr
  · rw [bind_ok (setTsigOrTruncate_fits mode rr _ ((stRcode_fits rc s mode rr).mpr hf)), stepSt_fits hf]
    cases b <;> simp only [hf, Bool.and_false, Bool.and_true, Bool.false_eq_true, false_and, and_self, if_false, if_true] <;> rfl
  · rw [bind_ok (setTsigOrTruncate_nofit_eq mode rr _ (by rw [stRcode_size]; exact h3)
      (fun h => hf ((stRcode_fits rc s mode rr).mp h))), stepSt_nofit hf]
    simp only [hf, Bool.false_and, Bool.false_eq_true, and_false, if_false]
    rfl

theorem tsigBadKey_eq (s : State) (h3 : 3 < s.octets.size) (r : Tsig.ReadTsigRr) (nowT : Tsig.TimeSigned)
    (kn an : WName) (hkn : WName.parse r.keyName = some (kn, [])) (han : WName.parse r.algorithm = some (an, [])) :
    Server.tsigBadKey r nowT s = (.ok none, stepSt 9 (.unsigned an) (prepOf kn r nowT 17) s) := by
  unfold Server.tsigBadKey
  rw [rc_notauth, xrc_badkey, bind_ok (setRcode_eq 9 s h3)]
  simp only [han, preparedFromRead_eq kn r nowT _ hkn]
  by_cases hf : TsigFits s (.unsigned an) (prepOf kn r nowT 17)
  · rw [bind_ok (setTsigOrTruncate_fits _ _ _ ((stRcode_fits 9 s _ _).mpr hf)), stepSt_fits hf]
    rfl
  · rw [bind_ok (setTsigOrTruncate_nofit_eq _ _ _ (by rw [stRcode_size]; exact h3)
      (fun h => hf ((stRcode_fits 9 s _ _).mp h))), stepSt_nofit hf]
    rfl

/-! ### the decision -/

/-- RCODE, TSIG mode and prepared TSIG RR of the reply to a request that is not authenticated, in the
    code's precedence: unknown algorithm / unknown key / key of another algorithm ⇒ NOTAUTH + BADKEY,
    unsigned; MAC size not allowed ⇒ FORMERR (+ BADSIG), unsigned; wrong MAC ⇒ NOTAUTH + BADSIG,
    unsigned; time outside the fudge window ⇒ NOTAUTH + BADTIME, *signed*; `none`: authenticated -/
def tsigStopReply (hm : Tsig.Algorithm → Tsig.Octets → Tsig.Octets → Tsig.Octets) (keys : List Server.Key)
    (nowT : Tsig.TimeSigned) (r : Tsig.ReadTsigRr) (msg : List UInt8) (kn an : WName) :
    Option (Nat × TsigMode × TsigRr) :=
  match Tsig.Algorithm.fromName r.algorithm with
  | none => some (9, .unsigned an, ServerTsig.prepOf kn r nowT 17)
  | some alg =>
    match Server.findKey keys r.keyName alg with
    | none => some (9, .unsigned an, ServerTsig.prepOf kn r nowT 17)
    | some key =>
      match Tsig.verifyRequest hm r msg alg key.secret nowT with
      | .err .FormErr => some (1, .unsigned (algName (Server.toWriterAlg alg)), ServerTsig.prepOf kn r nowT 16)
      | .err .BadSig => some (9, .unsigned (algName (Server.toWriterAlg alg)), ServerTsig.prepOf kn r nowT 16)
      | .err .BadTime => some (9, .response (Server.toWriterAlg alg) r.mac key.secret, ServerTsig.prepOf kn r nowT 18)
      | _ => none

/-- what the TSIG step decides before it looks at the writer: `tsigStopReply`'s reply and "stop", or —
    `verify_request` accepts — RCODE 0, the response TSIG and "go on"; `none`: `verify_request` panicked -/
def tsigDecision (hm : Tsig.Algorithm → Tsig.Octets → Tsig.Octets → Tsig.Octets) (keys : List Server.Key)
    (nowT : Tsig.TimeSigned) (r : Tsig.ReadTsigRr) (msg : List UInt8) (kn an : WName) :
    Option (Nat × TsigMode × TsigRr × Bool) :=
  match Tsig.Algorithm.fromName r.algorithm with
  | none => some (9, .unsigned an, prepOf kn r nowT 17, false)
  | some alg =>
    match Server.findKey keys r.keyName alg with
    | none => some (9, .unsigned an, prepOf kn r nowT 17, false)
    | some key =>
      match Tsig.verifyRequest hm r msg alg key.secret nowT with
      | .ok () => some (0, .response (Server.toWriterAlg alg) r.mac key.secret, prepOf kn r nowT 0, true)
      | .err .FormErr => some (1, .unsigned (algName (Server.toWriterAlg alg)), prepOf kn r nowT 16, false)
      | .err .BadSig => some (9, .unsigned (algName (Server.toWriterAlg alg)), prepOf kn r nowT 16, false)
      | .err .BadTime => some (9, .response (Server.toWriterAlg alg) r.mac key.secret, prepOf kn r nowT 18, false)
      | .panic => none

section
variable {hm : Tsig.Algorithm → Tsig.Octets → Tsig.Octets → Tsig.Octets} {keys : List Server.Key}
  {nowT : Tsig.TimeSigned} {r : Tsig.ReadTsigRr} {msg : List UInt8} {kn an : WName}
  {rc : Nat} {mode : TsigMode} {rr : TsigRr} {go : Bool}

/-- `tsigStopReply` is the decision, for the requests the step stops at -/
theorem tsigStopReply_eq : tsigStopReply hm keys nowT r msg kn an =
    (tsigDecision hm keys nowT r msg kn an).bind fun d => if d.2.2.2 = true then none else some (d.1, d.2.1, d.2.2.1) := by
  unfold tsigStopReply tsigDecision
  cases Tsig.Algorithm.fromName r.algorithm with
  | none => rfl
  | some alg =>
    simp only
    cases Server.findKey keys r.keyName alg with
    | none => rfl
    | some key =>
      simp only
      rcases Tsig.verifyRequest hm r msg alg key.secret nowT with u | e | _
      · rfl
      · cases e <;> rfl
      · rfl

/-- **the decision table, row by row**: BADKEY (algorithm or key unknown), and for a key found the four
    outcomes of `verify_request` -/
theorem tsigDecision_cases (h : tsigDecision hm keys nowT r msg kn an = some (rc, mode, rr, go)) :
    ((Tsig.Algorithm.fromName r.algorithm = none ∨
        ∃ a, Tsig.Algorithm.fromName r.algorithm = some a ∧ Server.findKey keys r.keyName a = none) ∧
      go = false ∧ rc = 9 ∧ mode = .unsigned an ∧ rr = prepOf kn r nowT 17) ∨
    ∃ a key, Tsig.Algorithm.fromName r.algorithm = some a ∧ Server.findKey keys r.keyName a = some key ∧
      ((Tsig.verifyRequest hm r msg a key.secret nowT = .ok () ∧ go = true ∧ rc = 0 ∧
          mode = .response (Server.toWriterAlg a) r.mac key.secret ∧ rr = prepOf kn r nowT 0) ∨
       (Tsig.verifyRequest hm r msg a key.secret nowT = .err .FormErr ∧ go = false ∧ rc = 1 ∧
          mode = .unsigned (algName (Server.toWriterAlg a)) ∧ rr = prepOf kn r nowT 16) ∨
       (Tsig.verifyRequest hm r msg a key.secret nowT = .err .BadSig ∧ go = false ∧ rc = 9 ∧
          mode = .unsigned (algName (Server.toWriterAlg a)) ∧ rr = prepOf kn r nowT 16) ∨
       (Tsig.verifyRequest hm r msg a key.secret nowT = .err .BadTime ∧ go = false ∧ rc = 9 ∧
          mode = .response (Server.toWriterAlg a) r.mac key.secret ∧ rr = prepOf kn r nowT 18)) := by
  unfold tsigDecision at h
  cases ha : Tsig.Algorithm.fromName r.algorithm with
  | none =>
    rw [ha] at h
    simp only [Option.some.injEq, Prod.mk.injEq] at h
    obtain ⟨rfl, rfl, rfl, rfl⟩ := h
    exact Or.inl ⟨Or.inl rfl, rfl, rfl, rfl, rfl⟩
  | some a =>
    rw [ha] at h
    simp only at h
    cases hk : Server.findKey keys r.keyName a with
    | none =>
      rw [hk] at h
      simp only [Option.some.injEq, Prod.mk.injEq] at h
      obtain ⟨rfl, rfl, rfl, rfl⟩ := h
      exact Or.inl ⟨Or.inr ⟨a, rfl, hk⟩, rfl, rfl, rfl, rfl⟩
    | some key =>
      rw [hk] at h
      simp only at h
      refine Or.inr ⟨a, key, rfl, hk, ?_⟩
      rcases hv : Tsig.verifyRequest hm r msg a key.secret nowT with u | e | _
      · rw [hv] at h
        simp only [Option.some.injEq, Prod.mk.injEq] at h
        obtain ⟨rfl, rfl, rfl, rfl⟩ := h
        exact Or.inl ⟨rfl, rfl, rfl, rfl, rfl⟩
      · rw [hv] at h
        cases e <;> simp only [Option.some.injEq, Prod.mk.injEq] at h <;> obtain ⟨rfl, rfl, rfl, rfl⟩ := h
        · exact Or.inr (Or.inr (Or.inl ⟨rfl, rfl, rfl, rfl, rfl⟩))
        · exact Or.inr (Or.inr (Or.inr ⟨rfl, rfl, rfl, rfl, rfl⟩))
        · exact Or.inr (Or.inl ⟨rfl, rfl, rfl, rfl, rfl⟩)
      · rw [hv] at h; cases h

theorem tsigDecision_stop (h : tsigStopReply hm keys nowT r msg kn an = some (rc, mode, rr)) :
    tsigDecision hm keys nowT r msg kn an = some (rc, mode, rr, false) := by
  rw [tsigStopReply_eq] at h
  rcases hd : tsigDecision hm keys nowT r msg kn an with _ | ⟨rc', mode', rr', go'⟩
  · rw [hd] at h; cases h
  · rw [hd] at h
    cases go'
    · simp only [Option.bind_some, Bool.false_eq_true, if_false, Option.some.injEq, Prod.mk.injEq] at h
      obtain ⟨rfl, rfl, rfl⟩ := h; rfl
    · simp only [Option.bind_some, if_true] at h
      cases h

theorem tsigDecision_auth {alg : Hmac.Alg} {key : Server.Key} (ha : Tsig.Algorithm.fromName r.algorithm = some alg)
    (hk : Server.findKey keys r.keyName alg = some key)
    (hv : Tsig.verifyRequest hm r msg alg key.secret nowT = .ok ()) :
    tsigDecision hm keys nowT r msg kn an =
      some (0, .response (Server.toWriterAlg alg) r.mac key.secret, prepOf kn r nowT 0, true) := by
  simp only [tsigDecision, ha, hk, hv]

/-- a decision is `tsigStopReply`'s reply and "stop", or the response TSIG of an authenticated request
    and "go on" -/
theorem tsigDecision_inv (h : tsigDecision hm keys nowT r msg kn an = some (rc, mode, rr, go)) :
    (go = false ∧ tsigStopReply hm keys nowT r msg kn an = some (rc, mode, rr)) ∨
    (go = true ∧ ∃ alg key, Tsig.Algorithm.fromName r.algorithm = some alg ∧ Server.findKey keys r.keyName alg = some key ∧
      Tsig.verifyRequest hm r msg alg key.secret nowT = .ok () ∧ rc = 0 ∧
      mode = .response (Server.toWriterAlg alg) r.mac key.secret ∧ rr = prepOf kn r nowT 0) := by
  cases go with
  | false => exact Or.inl ⟨rfl, by rw [tsigStopReply_eq, h]; rfl⟩
  | true =>
    rcases tsigDecision_cases h with ⟨_, hg, _⟩ | ⟨a, key, ha, hk, ⟨hv, _, h1, h2, h3⟩ | ⟨_, hg, _⟩ | ⟨_, hg, _⟩ | ⟨_, hg, _⟩⟩
    · cases hg
    · exact Or.inr ⟨rfl, a, key, ha, hk, hv, h1, h2, h3⟩
    all_goals cases hg

/-- the table does not decide only when `verify_request` panics under a key it found -/
theorem tsigDecision_none (h : tsigDecision hm keys nowT r msg kn an = none) :
    ∃ alg key, Tsig.Algorithm.fromName r.algorithm = some alg ∧ Server.findKey keys r.keyName alg = some key ∧
      Tsig.verifyRequest hm r msg alg key.secret nowT = .panic := by
  unfold tsigDecision at h
  rcases Option.eq_none_or_eq_some (Tsig.Algorithm.fromName r.algorithm) with hA | ⟨alg, hA⟩
  · rw [hA] at h; cases h
  · rcases Option.eq_none_or_eq_some (Server.findKey keys r.keyName alg) with hK | ⟨key, hK⟩
    · simp only [hA, hK] at h; cases h
    · refine ⟨alg, key, hA, hK, ?_⟩
      simp only [hA, hK] at h
      rcases hv : Tsig.verifyRequest hm r msg alg key.secret nowT with u | e | _
      · rw [hv] at h; cases h
      · rw [hv] at h; cases e <;> cases h
      · rfl

/-! ### the step -/

/-- **the TSIG step**: what it returns and the writer it leaves, as a function of the decision and of
    whether the decided RR fits -/
theorem tsigProcess_eq (s : State) (h3 : 3 < s.octets.size) (r' : Reader)
    (hkn : WName.parse r.keyName = some (kn, [])) (han : WName.parse r.algorithm = some (an, []))
    (hd : tsigDecision hm keys nowT r msg kn an = some (rc, mode, rr, go)) :
    Server.tsigProcess hm keys nowT r msg r' s =
      (.ok (if go = true ∧ TsigFits s mode rr then some r' else none), stepSt rc mode rr s) := by
  have bad : Server.tsigBadKey r nowT s =
      (.ok (if false = true ∧ TsigFits s (.unsigned an) (prepOf kn r nowT 17) then some r' else none),
        stepSt 9 (.unsigned an) (prepOf kn r nowT 17) s) := by
    rw [tsigBadKey_eq s h3 r nowT kn an hkn han, if_neg (fun h => Bool.false_ne_true h.1)]
  unfold Server.tsigProcess
  rcases tsigDecision_cases hd with ⟨hbad, rfl, rfl, rfl, rfl⟩ |
    ⟨a, key, ha, hk, ⟨hv, rfl, rfl, rfl, rfl⟩ | ⟨hv, rfl, rfl, rfl, rfl⟩ | ⟨hv, rfl, rfl, rfl, rfl⟩ | ⟨hv, rfl, rfl, rfl, rfl⟩⟩
  · rcases hbad with ha | ⟨a, ha, hk⟩
    · simp only [ha]; exact bad
    · simp only [ha, hk]; exact bad
  -- a key was found: the row of `tsigReply`, then `tsigStep_eq`
  all_goals
    simp only [ha, hk]
    unfold Server.tsigVerifyAndWrite
    simp only [hv, Server.tsigReply, preparedFromRead_eq kn r nowT _ hkn, rc_noerror, rc_notauth, rc_formerr,
      xrc_noerror, xrc_badsig, xrc_badtime]
    rw [tsigStep_eq _ _ _ _ r' s h3]
    simp

/-- **every outcome of the step**: it panics — before touching the writer, or in `tsigBadKey` after
    `set_rcode(NOTAUTH)` — when a name is not a wire name or `verify_request` panics; or both names are wire
    names and the table has decided, and then the step is `tsigProcess_eq` -/
theorem tsigProcess_cases (s : State) (h3 : 3 < s.octets.size) (r' : Reader) :
    Server.tsigProcess hm keys nowT r msg r' s = (.panic, s) ∨
    Server.tsigProcess hm keys nowT r msg r' s = (.panic, stRcode 9 s) ∨
    ∃ kn an d, WName.parse r.keyName = some (kn, []) ∧ WName.parse r.algorithm = some (an, []) ∧
      tsigDecision hm keys nowT r msg kn an = some d := by
  -- `tsigBadKey` with a name that is no wire name
  have bad : (¬ ∃ kn an, WName.parse r.keyName = some (kn, []) ∧ WName.parse r.algorithm = some (an, [])) →
      Server.tsigBadKey r nowT s = (.panic, stRcode 9 s) := by
    intro hno
    unfold Server.tsigBadKey
    rw [rc_notauth, bind_ok (setRcode_eq 9 s h3)]
    rcases hP : WName.parse r.algorithm with _ | ⟨an, _ | ⟨x, y⟩⟩
    · rfl
    · rw [preparedFromRead_none r nowT _ (fun kn hkn => hno ⟨kn, an, hkn, hP⟩)]; rfl
    · rcases Server.preparedFromRead r nowT (Server.XRC "BADKEY") with _ | prep <;> rfl
  have hbad : (∀ kn an, ∃ d, tsigDecision hm keys nowT r msg kn an = some d) →
      Server.tsigProcess hm keys nowT r msg r' s = Server.tsigBadKey r nowT s →
      Server.tsigProcess hm keys nowT r msg r' s = (.panic, stRcode 9 s) ∨
      ∃ kn an d, WName.parse r.keyName = some (kn, []) ∧ WName.parse r.algorithm = some (an, []) ∧
        tsigDecision hm keys nowT r msg kn an = some d := by
    intro hdec heq
    by_cases hnames : ∃ kn an, WName.parse r.keyName = some (kn, []) ∧ WName.parse r.algorithm = some (an, [])
    · obtain ⟨kn, an, hkn, han⟩ := hnames
      obtain ⟨d, hd⟩ := hdec kn an
      exact Or.inr ⟨kn, an, d, hkn, han, hd⟩
    · exact Or.inl (heq.trans (bad hnames))
  rcases Option.eq_none_or_eq_some (Tsig.Algorithm.fromName r.algorithm) with hA | ⟨alg, hA⟩
  · exact Or.inr (hbad (fun kn an => ⟨_, by simp only [tsigDecision, hA]; rfl⟩)
      (by unfold Server.tsigProcess; simp only [hA]))
  · rcases Option.eq_none_or_eq_some (Server.findKey keys r.keyName alg) with hK | ⟨key, hK⟩
    · exact Or.inr (hbad (fun kn an => ⟨_, by simp only [tsigDecision, hA, hK]; rfl⟩)
        (by unfold Server.tsigProcess; simp only [hA, hK]))
    · have heq : Server.tsigProcess hm keys nowT r msg r' s =
          Server.tsigVerifyAndWrite hm r msg alg key.secret nowT r' s := by
        unfold Server.tsigProcess; simp only [hA, hK]
      obtain ⟨an, han⟩ := fromName_parses _ _ hA
      by_cases hkn : ∃ kn, WName.parse r.keyName = some (kn, [])
      · obtain ⟨kn, hkn⟩ := hkn
        rcases hd : tsigDecision hm keys nowT r msg kn an with _ | d
        · -- `verify_request` panicked
          left
          rw [heq]
          unfold Server.tsigVerifyAndWrite
          rcases hv : Tsig.verifyRequest hm r msg alg key.secret nowT with u | e | _
          · simp only [tsigDecision, hA, hK, hv] at hd; cases hd
          · cases e <;> simp only [tsigDecision, hA, hK, hv] at hd <;> cases hd
          · rfl
        · exact Or.inr (Or.inr ⟨kn, an, d, hkn, han, hd⟩)
      · left
        rw [heq]
        unfold Server.tsigVerifyAndWrite
        split
        · rw [preparedFromRead_none r nowT _ (fun kn h => hkn ⟨kn, h⟩)]
        · rfl

/-- a run of the step that does not panic: key and algorithm name are wire names, and the table has decided -/
theorem tsigProcess_ok_inv (s : State) (h3 : 3 < s.octets.size) (r' : Reader) (o : Option Reader) (S : State)
    (h : Server.tsigProcess hm keys nowT r msg r' s = (.ok o, S)) :
    ∃ kn an d, WName.parse r.keyName = some (kn, []) ∧ WName.parse r.algorithm = some (an, []) ∧
      tsigDecision hm keys nowT r msg kn an = some d := by
  rcases tsigProcess_cases (hm := hm) (keys := keys) (nowT := nowT) (r := r) (msg := msg) s h3 r' with hp | hp | hd
  · rw [hp] at h; cases h
  · rw [hp] at h; cases h
  · exact hd

end

/-! ### the step on any writer -/

section
variable {hm : Tsig.Algorithm → Tsig.Octets → Tsig.Octets → Tsig.Octets} {keys : List Server.Key}
  {nowT : Tsig.TimeSigned} {r : Tsig.ReadTsigRr} {msg : List UInt8}

/-- on a buffer too short to hold a header `set_rcode` panics at once, and so does the step, leaving the
    writer alone -/
theorem tsigProcess_small (s : State) (h3 : ¬ 3 < s.octets.size) (r' : Reader) :
    Server.tsigProcess hm keys nowT r msg r' s = (.panic, s) := by
  have hrc : ∀ (v : Nat) {α : Type} (k : Unit → M α), (setRcode v >>= k) s = (.panic, s) := by
    intro v α k
    have : setRcode v s = (.panic, s) := by
      unfold setRcode
      rw [M.bind_apply]
      unfold setHdr
      rw [dif_neg (by simpa [Gen.RCODE_BYTE] using h3)]
    rw [M.bind_apply, this]
  have bad : Server.tsigBadKey r nowT s = (.panic, s) := by unfold Server.tsigBadKey; exact hrc _ _
  unfold Server.tsigProcess
  cases Tsig.Algorithm.fromName r.algorithm with
  | none => exact bad
  | some alg =>
    dsimp only
    cases Server.findKey keys r.keyName alg with
    | none => exact bad
    | some key =>
      dsimp only
      unfold Server.tsigVerifyAndWrite
      split
      · split
        · exact hrc _ _
        · rfl
      · rfl

/-- **the step on any writer, every outcome**: it panics, leaving the writer as it was or (on a
    buffer that holds a header) with RCODE NOTAUTH set; or the buffer holds a header, the table has
    decided `(rc, mode, rr, go)`, and the step returns "go on" if `go` and the RR fits, "stop" if not,
    leaving `stepSt rc mode rr s` -/
theorem tsigProcess_out (s : State) (r' : Reader) :
    Server.tsigProcess hm keys nowT r msg r' s = (.panic, s) ∨
    (3 < s.octets.size ∧ Server.tsigProcess hm keys nowT r msg r' s = (.panic, stRcode 9 s)) ∨
    ∃ kn an rc mode rr go, WName.parse r.keyName = some (kn, []) ∧ WName.parse r.algorithm = some (an, []) ∧
      tsigDecision hm keys nowT r msg kn an = some (rc, mode, rr, go) ∧ rc < 16 ∧ 3 < s.octets.size ∧
      Server.tsigProcess hm keys nowT r msg r' s =
        (.ok (if go = true ∧ TsigFits s mode rr then some r' else none), stepSt rc mode rr s) := by
  by_cases h3 : 3 < s.octets.size
  · rcases tsigProcess_cases (hm := hm) (keys := keys) (nowT := nowT) (r := r) (msg := msg) s h3 r' with
      hp | hp | ⟨kn, an, ⟨rc, mode, rr, go⟩, hkn, han, hd⟩
    · exact .inl hp
    · exact .inr (.inl ⟨h3, hp⟩)
    · refine .inr (.inr ⟨kn, an, rc, mode, rr, go, hkn, han, hd, ?_, h3, tsigProcess_eq s h3 r' hkn han hd⟩)
      rcases tsigDecision_cases hd with ⟨_, _, h, _⟩ |
        ⟨_, _, _, _, ⟨_, _, h, _⟩ | ⟨_, _, h, _⟩ | ⟨_, _, h, _⟩ | ⟨_, _, h, _⟩⟩ <;> omega
  · exact .inl (tsigProcess_small s h3 r')

end

end QV.ServerScan
