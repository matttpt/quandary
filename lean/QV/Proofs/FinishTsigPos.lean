import QV.Proofs.ServerSignedTable
import QV.Proofs.WriterExtents

/-!
# Where `finish` puts the TSIG record

`finish_tsig_pos`: in the decoded response of a writer with a pending TSIG, the last record of the
additional section starts where the writer's content plus the OPT record (iff the EDNS slot is set)
end — so the octets before it are exactly what `finish` hands to the MAC (`finish_octets_tsig`).
-/

namespace QV.Writer
open QV QV.Spec

/-- the end of a chain is determined by its items -/
theorem rchainC_end_indep {s s' : State} : ∀ (rs : List RItC) (p e e' : Nat), RChainC s rs p e →
    RChainC s' rs p e' → e = e' := by
  intro rs
  induction rs with
  | nil => intro p e e' h h'; exact h.symm.trans h'
  | cons x r ih =>
    intro p e e' h h'
    exact ih _ e e' h.2.2 h'.2.2

/-- two chains over the same octets between the same positions have the same length -/
theorem rchainC_length_unique {s : State} (hw : WInv s) (rs rs' : List RItC) (p e : Nat)
    (h : RChainC s rs p e) (h' : RChainC s rs' p e) : rs.length = rs'.length := by
  have a := rchainC_prefix hw rs rs' p e e h h' (Nat.le_refl _)
  have b := rchainC_prefix hw rs' rs p e e h' h (Nat.le_refl _)
  have la := congrArg List.length a
  have lb := congrArg List.length b
  simp only [List.length_take, List.length_map] at la lb
  omega

/-- a name chunk that starts with the root label is one octet long -/
theorem chunkAt_root {oct : Bytes} {a k : Nat} (h : ChunkAt oct a k) (h0 : oct[a]? = some 0) : k = 1 := by
  obtain ⟨pre, b, hwf, hb, hk⟩ := h
  cases pre with
  | nil =>
    have := hb 0 (by simp)
    simp only [List.flatMap_nil, List.nil_append, Nat.add_zero, List.getElem?_cons_zero] at this
    rw [h0] at this
    simp only [Option.some.injEq] at this
    subst this
    rcases hk with ⟨_, rfl⟩ | ⟨hp, _⟩
    · rfl
    · exact absurd hp (by decide)
  | cons l ls =>
    exfalso
    have := hb 0 (by simp [WName.encLabel])
    simp only [List.flatMap_cons, WName.encLabel, List.cons_append, Nat.add_zero, List.getElem?_cons_zero] at this
    rw [h0] at this
    simp only [Option.some.injEq] at this
    have hl := hwf l List.mem_cons_self
    have := congrArg UInt8.toNat this
    simp only [UInt8.toNat_ofNat', Nat.reducePow] at this
    have : (0 : UInt8).toNat = 0 := rfl
    omega

/-- **the TSIG record starts where the MAC input ends.**  Whatever `finish` returns from a valid writer
    with a pending TSIG: in its decoding, the last additional record is at position
    `cursor + (11 if the EDNS slot is set)` -/
theorem finish_tsig_pos (macFn : Tsig → List UInt8 → List UInt8) (s : State) (b : Body) (mb : MBody)
    (hI : I s) (hL : CLay (fun _ => True) s b mb) (ts : Tsig) (hts : s.tsig = some ts)
    (m : Bytes) (mac : Option (List UInt8)) (hf : finish s macFn = .ok (m, mac)) (hsz : m.size ≤ 65535)
    (d : DMsg) (hd : specDecodeMsg m = some d) :
    ∃ (rest : List DRr) (o : DRr), d.ar = rest ++ [o] ∧ o.pos = s.cursor + (if s.edns.isSome then 11 else 0) := by
  obtain ⟨hcs, _, oe, sT, _, _, _, _, hlist⟩ := finish_octets_tsig macFn s hI.inv.hdr ts hts m mac hf
  obtain ⟨d', qs, rs, rs0, ex, sF, len, p2, p3, hd', _, _, _, _, _, hmr, _, _, hw, rfl, wF, _, _, hr, hrl, hrs, hr0⟩ :=
    finish_decodes_chain (P := fun _ => True) macFn s b mb hI hL m mac hf hsz
  obtain rfl : d = d' := Option.some.inj (hd.symm.trans hd')
  have hcF : sF.cursor ≤ sF.octets.size := Nat.le_trans wF.cur_av wF.av_size
  have hsz' := extract_size sF.octets sF.cursor hcF
  -- the items: those of the state before `finish`, then the pseudo-records
  have hmid : s.cursor ≤ sF.cursor := by
    rw [hrs] at hr
    obtain ⟨mid, hm1, hm2⟩ := rchainC_split hr
    have := rchainC_end_indep rs0 _ _ _ hm1 hr0
    have := rchainC_le hm2
    omega
  obtain ⟨rs', hr', hrm', _⟩ := hL.r (by omega)
  have hl0 : rs0.length = b.an.length + b.ns.length + b.ar.length := by
    rw [rchainC_length_unique hI.winv rs0 rs' _ _ hr0 hr']
    have := congrArg List.length hrm'
    simp only [List.length_map, List.length_append] at this
    exact this
  subst hrs
  obtain ⟨mid, hm1, hm2⟩ := rchainC_split hr
  have emid : mid = s.cursor := rchainC_end_indep rs0 _ _ _ hm1 hr0
  subst emid
  have hexl : ex.length = (if s.edns.isSome then 1 else 0) + 1 := by
    rw [List.length_append] at hrl
    rw [hL.an, hL.ns, hL.ar] at hrl
    unfold pend at hrl
    rw [hts] at hrl
    simp only [Option.isSome_some, if_true] at hrl
    omega
  have hdrop : ((rs0 ++ ex).drop s.ancount).drop s.nscount = rs0.drop (s.ancount + s.nscount) ++ ex := by
    rw [List.drop_drop, List.drop_append_of_le_length (by rw [hl0, hL.an, hL.ns]; omega)]
  rw [hdrop] at hmr
  -- the octets of the OPT record
  have hpl' := finishPrefix_length s hI.inv.hdr hcs
  have hopt : ∀ j, j < (optEnc s.edns).length → sF.octets[s.cursor + j]? = (optEnc s.edns)[j]? := by
    intro j hj
    have hlen := congrArg List.length hlist
    simp only [Array.length_toList, List.length_append] at hlen
    have h1 : (sF.octets.extract 0 sF.cursor).toList[s.cursor + j]? = sF.octets[s.cursor + j]? := by
      rw [Array.getElem?_toList, Array.getElem?_extract, if_pos (by rw [hsz'] at hlen; omega)]
      simp
    rw [← h1, hlist, List.append_assoc, List.getElem?_append_right (by omega), hpl',
      show s.cursor + j - s.cursor = j by omega, List.getElem?_append_left hj]
  cases hed : s.edns with
  | none =>
    rw [hed] at hexl
    simp only [Option.isSome_none, Bool.false_eq_true, if_false, Nat.zero_add] at hexl ⊢
    obtain ⟨it, rfl⟩ := List.length_eq_one_iff.1 hexl
    obtain ⟨rest, o, hlr, _, hro⟩ := QV.ServerScan.all2_snoc hmr
    exact ⟨rest, o, hlr, by rw [hro.1.2.2.2.2.2.1, hm2.1]; rfl⟩
  | some e =>
    rw [hed] at hexl hopt
    simp only [Option.isSome_some, if_true] at hexl ⊢
    obtain ⟨x, tl, rfl⟩ := List.exists_cons_of_length_eq_add_one hexl
    obtain ⟨it, rfl⟩ := List.length_eq_one_iff.1 (Nat.add_right_cancel hexl)
    rw [show rs0.drop (s.ancount + s.nscount) ++ [x, it] = (rs0.drop (s.ancount + s.nscount) ++ [x]) ++ [it] by simp]
      at hmr
    obtain ⟨rest, o, hlr, _, hro⟩ := QV.ServerScan.all2_snoc hmr
    refine ⟨rest, o, hlr, ?_⟩
    rw [hro.1.2.2.2.2.2.1]
    obtain ⟨hxa, hxf, hit⟩ := hm2
    obtain ⟨hita, _, _⟩ := hit
    rw [hita]
    obtain ⟨⟨_, hchunk, _⟩, _, _, hrd, _⟩ := hxf
    have hol : (optEnc (some e)).length = 11 := rfl
    have hb0 : sF.octets[x.a]? = some 0 := by
      rw [hxa]; have := hopt 0 (by rw [hol]; omega); rw [Nat.add_zero] at this; rw [this]; rfl
    have hk := chunkAt_root hchunk hb0
    have hr9 : sF.octets[s.cursor + 9]? = some 0 := by
      have := hopt 9 (by rw [hol]; omega); rw [this]; rfl
    have hr10 : sF.octets[s.cursor + 10]? = some 0 := by
      have := hopt 10 (by rw [hol]; omega); rw [this]; rfl
    have : x.rdlen = 0 := by
      rw [← hrd, hk, hxa]
      unfold be16
      rw [Array.getD_eq_getD_getElem?, Array.getD_eq_getD_getElem?,
        show s.cursor + 1 + 8 = s.cursor + 9 by omega, show s.cursor + 9 + 1 = s.cursor + 10 by omega, hr9, hr10]
      rfl
    rw [hk, this, hxa]

end QV.Writer

namespace QV.ServerContent
open QV QV.Writer QV.Spec QV.ServerScan

/-- **the MAC of a response is over exactly the octets before its TSIG record**, the position being
    the one the independent decoder reports for the last additional record -/
theorem tsig_prefix_of_good (macFn : Writer.Tsig → List UInt8 → List UInt8) (F : State) (bd : Body) (hG : Good F bd)
    (ts : Writer.Tsig) (hts : F.tsig = some ts) (b : Bytes) (mac : Option (List UInt8))
    (hf : Writer.finish F macFn = .ok (b, mac)) (d : DMsg) (hd : specDecodeMsg b = some d) :
    ∃ (rest : List DRr) (o : DRr), d.ar = rest ++ [o] ∧ mac = finishMac macFn ts (b.extract 0 o.pos).toList ∧
      Tsig.MsgOk (b.extract 0 o.pos).toList := by
  obtain ⟨hI, hlim, mb, hL⟩ := hG
  have hsz : b.size ≤ 65535 := Nat.le_trans (finish_size_le_limit macFn F hI.inv b mac hf) hlim
  obtain ⟨rest, o, hdar, hpos⟩ := finish_tsig_pos macFn F bd mb hI hL ts hts b mac hf hsz d hd
  obtain ⟨hcs, hmac, oe, sT, _, _, _, _, hlist⟩ := finish_octets_tsig macFn F hI.inv.hdr ts hts b mac hf
  have hpl := finishPrefix_length F hI.inv.hdr hcs
  have hol : (optEnc F.edns).length = (if F.edns.isSome then 11 else 0) := by
    cases F.edns <;> rfl
  have hex : (b.extract 0 o.pos).toList = finishPrefix F ++ optEnc F.edns := by
    have : (b.extract 0 o.pos).toList = b.toList.take o.pos := by
      simp [Array.toList_extract, List.extract]
    rw [this, hlist, List.take_left' (by rw [List.length_append, hpl, hol, hpos])]
  refine ⟨rest, o, hdar, by rw [hmac, hex], ?_⟩
  rw [hex]
  have h12 := hI.inv.hdr
  refine ⟨by rw [List.length_append, hpl]; omega, ?_⟩
  -- ARCOUNT counts the pending TSIG record
  have har : 1 ≤ F.arcount := by
    have := hL.ar; unfold pend at this; rw [hts] at this; simp at this; omega
  have har2 := hI.inv.ar
  have h4 : (F.octets.toList.take 4).length = 4 := by
    rw [List.length_take, Array.length_toList]; omega
  obtain ⟨x0, x1, x2, x3, hx⟩ : ∃ x0 x1 x2 x3, F.octets.toList.take 4 = [x0, x1, x2, x3] := by
    match h : F.octets.toList.take 4, h4 with
    | [x0, x1, x2, x3], _ => exact ⟨x0, x1, x2, x3, rfl⟩
  have e10 : (finishPrefix F ++ optEnc F.edns).getD 10 0 = UInt8.ofNat (F.arcount / 256 % 256) := by
    simp [finishPrefix, hx, u16be]
  have e11 : (finishPrefix F ++ optEnc F.edns).getD 11 0 = UInt8.ofNat (F.arcount % 256) := by
    simp [finishPrefix, hx, u16be]
  unfold Spec.Tsig.field16
  rw [e10, e11]
  simp only [UInt8.toNat_ofNat', Nat.reducePow]
  omega

end QV.ServerContent
