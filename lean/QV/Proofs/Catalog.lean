/-
  QV.Proofs.Catalog — helper lemmas relating `QV.Model.Catalog` (the tree) to
  `QV.Spec.Catalog` (the finite map).  The property's theorems are in `QV.Properties.C22`.

  The children of a node and the roots of the catalog are both *forests* (association lists of
  trees, keyed by label resp. by class): each fact about `insertNode`/`removeNode` is proved
  together with the same fact about a forest over any key type, and the catalog's lemmas are the
  forest's at `κ = Nat`.
-/
import QV.Model.Catalog
import QV.Spec.Catalog

namespace QV.Catalog
open QV QV.Spec.Catalog


section AList
variable {κ : Type} [DecidableEq κ] {β : Type}

/-- no key occurs twice (what a `HashMap` guarantees by construction) -/
def NodupKeys (l : List (κ × β)) : Prop := (l.map Prod.fst).Nodup

omit [DecidableEq κ] in
@[simp] theorem nodupKeys_nil : NodupKeys ([] : List (κ × β)) := by simp [NodupKeys]

omit [DecidableEq κ] in
theorem nodupKeys_cons {k : κ} {v : β} {l : List (κ × β)} :
    NodupKeys ((k, v) :: l) ↔ (∀ p ∈ l, p.1 ≠ k) ∧ NodupKeys l := by
  simp only [NodupKeys, List.map_cons, List.nodup_cons, List.mem_map, not_exists, not_and]

theorem aget_aset (k k' : κ) (v : β) (l : List (κ × β)) :
    aget k' (aset k v l) = if k' = k then some v else aget k' l := by
  induction l with
  | nil => simp [aset, aget, eq_comm]
  | cons a r ih =>
    obtain ⟨a1, a2⟩ := a
    by_cases h : a1 = k
    · subst h; by_cases h2 : a1 = k' <;> simp [aset, aget, h2, eq_comm]
      intro h3; exact absurd h3.symm h2
    · by_cases h2 : a1 = k'
      · subst h2; simp [aset, aget, h]
      · simp [aset, aget, h, h2, ih]

theorem adel_eq_filter (k : κ) (l : List (κ × β)) : adel k l = l.filter (fun p => p.1 ≠ k) := by
  induction l with
  | nil => rfl
  | cons a r ih => obtain ⟨a1, a2⟩ := a; by_cases h : a1 = k <;> simp [adel, h, ih]

theorem aget_adel (k k' : κ) (l : List (κ × β)) :
    aget k' (adel k l) = if k' = k then none else aget k' l := by
  induction l with
  | nil => simp [adel, aget]
  | cons a r ih =>
    obtain ⟨a1, a2⟩ := a
    by_cases h : a1 = k
    · subst h; by_cases h2 : a1 = k'
      · subst h2; simp [adel, ih]
      · have : ¬ k' = a1 := fun e => h2 e.symm
        simp [adel, aget, ih, h2, this]
    · by_cases h2 : a1 = k'
      · subst h2; simp [adel, aget, h]
      · simp [adel, aget, h, h2, ih]

theorem mem_aset {k : κ} {v : β} {l : List (κ × β)} {p : κ × β} (h : p ∈ aset k v l) :
    p = (k, v) ∨ p ∈ l := by
  induction l with
  | nil => simpa [aset] using h
  | cons a r ih =>
    obtain ⟨a1, a2⟩ := a
    simp only [aset] at h
    split at h <;> simp only [List.mem_cons] at h ⊢
    · exact h.imp_right Or.inr
    · exact h.elim (fun h => Or.inr (Or.inl h)) (fun h => (ih h).imp_right Or.inr)

theorem mem_adel {k : κ} {l : List (κ × β)} {p : κ × β} (h : p ∈ adel k l) : p ∈ l ∧ p.1 ≠ k := by
  simpa [adel_eq_filter] using h

theorem nodupKeys_adel {k : κ} {l : List (κ × β)} (h : NodupKeys l) : NodupKeys (adel k l) := by
  rw [adel_eq_filter]
  exact List.Nodup.sublist (List.Sublist.map _ List.filter_sublist) h

/-- a property of all bindings survives `aset` if the new binding has it -/
theorem forall_mem_aset {P : κ × β → Prop} {k : κ} {v : β} {l : List (κ × β)} (h : ∀ p ∈ l, P p)
    (hv : P (k, v)) : ∀ p ∈ aset k v l, P p :=
  fun p hp => (mem_aset hp).elim (fun e => e ▸ hv) (h p)

theorem nodupKeys_aset {k : κ} {v : β} {l : List (κ × β)} (h : NodupKeys l) :
    NodupKeys (aset k v l) := by
  induction l with
  | nil => simp [aset, NodupKeys]
  | cons a r ih =>
    obtain ⟨a1, a2⟩ := a
    rw [nodupKeys_cons] at h
    simp only [aset]
    split
    · next h1 => subst h1; exact nodupKeys_cons.mpr h
    · next h1 => exact nodupKeys_cons.mpr ⟨forall_mem_aset h.1 (Ne.symm h1), ih h.2⟩

theorem mem_of_aget {k : κ} {v : β} {l : List (κ × β)} (h : aget k l = some v) : (k, v) ∈ l := by
  induction l with
  | nil => cases h
  | cons a r ih =>
    obtain ⟨a1, a2⟩ := a
    simp only [aget] at h
    split at h
    · next h1 => cases h; exact h1 ▸ List.mem_cons_self
    · exact List.mem_cons_of_mem _ (ih h)

theorem aget_of_mem {k : κ} {v : β} {l : List (κ × β)} (hn : NodupKeys l) (h : (k, v) ∈ l) :
    aget k l = some v := by
  induction l with
  | nil => cases h
  | cons a r ih =>
    obtain ⟨a1, a2⟩ := a
    rw [nodupKeys_cons] at hn
    rcases List.mem_cons.mp h with e | hm
    · cases e; simp [aget]
    · simp [aget, Ne.symm (hn.1 (k, v) hm), ih hn.2 hm]

theorem aset_ne_nil (k : κ) (v : β) (l : List (κ × β)) : aset k v l ≠ [] := by
  cases l with
  | nil => simp [aset]
  | cons a r => obtain ⟨a1, a2⟩ := a; simp only [aset]; split <;> simp

end AList

variable {μ : Type}

/-! ### the entry stored exactly at a path -/

/-- the entry stored at the node reached by walking `p` from `n` (none if the walk leaves the
    tree or the node holds no entry) -/
def findAt : List Label → Node μ → Option (Entry μ)
  | [], .mk d _ => d
  | l :: p, .mk _ cs =>
    match aget l cs with
    | some sub => findAt p sub
    | none => none

@[simp] theorem findAt_empty (p : List Label) : findAt p (Node.empty : Node μ) = none := by
  cases p <;> simp [findAt, Node.empty, aget]

/-! ### forests

  A node keeps its children by label, the catalog keeps its roots by class: both are association
  lists of trees, and `insert`/`remove` do to the roots what `insertNode`/`removeNode` do to the
  children of a node. -/

section Forest
variable {κ : Type} [DecidableEq κ]

/-- the entry at path `p` below the tree filed under `k` -/
def findF (k : κ) (p : List Label) (cs : List (κ × Node μ)) : Option (Entry μ) :=
  match aget k cs with
  | some sub => findAt p sub
  | none => none

/-- `entry(k).or_insert_with(Node::new)`, then insert along `p` below it -/
def insF (k : κ) (p : List Label) (e : Entry μ) (cs : List (κ × Node μ)) :
    List (κ × Node μ) × Option (Entry μ) :=
  let r := insertNode p e ((aget k cs).getD Node.empty)
  (aset k r.1 cs, r.2)

/-- remove along `p` below the tree filed under `k`, and that tree itself if this empties it -/
def remF (k : κ) (p : List Label) (cs : List (κ × Node μ)) : List (κ × Node μ) × Option (Entry μ) :=
  match aget k cs with
  | some sub =>
    let r := removeNode p sub
    if r.2.2 then (adel k cs, r.2.1) else (aset k r.1 cs, r.2.1)
  | none => (cs, none)

theorem findF_aset (k k' : κ) (q : List Label) (n : Node μ) (cs : List (κ × Node μ)) :
    findF k' q (aset k n cs) = if k' = k then findAt q n else findF k' q cs := by
  unfold findF; rw [aget_aset]; by_cases h : k' = k <;> simp only [h, if_true, if_false]

theorem findF_adel (k k' : κ) (q : List Label) (cs : List (κ × Node μ)) :
    findF k' q (adel k cs) = if k' = k then none else findF k' q cs := by
  unfold findF; rw [aget_adel]; by_cases h : k' = k <;> simp only [h, if_true, if_false]

theorem findAt_getD (k : κ) (q : List Label) (cs : List (κ × Node μ)) :
    findAt q ((aget k cs).getD Node.empty) = findF k q cs := by
  unfold findF; cases aget k cs <;> simp

end Forest

/-! Each fact is proved for a node and for a forest over any key type together, by recursion on the
  path: `insertNode (l :: p) e (.mk d cs)` is `insF l p e cs` on the children, so the step of the node
  lemma is the forest lemma at `κ = Label` for the shorter path, and the forest lemma needs the node
  lemma for the one tree it touches, at the same path (hence the measures `2 * p.length` and
  `2 * p.length + 1`).  The catalog's lemmas are then the forest lemmas at `κ = Nat`. -/

mutual
/-- `insert` changes the binding of its own path and nothing else -/
theorem findAt_insertNode : (p q : List Label) → (e : Entry μ) → (n : Node μ) →
    findAt q (insertNode p e n).1 = if q = p then some e else findAt q n
  | [], q, e, .mk d cs => by cases q <;> simp [insertNode, findAt]
  | l :: p, [], e, .mk d cs => by simp [insertNode, findAt]
  | l :: p, a :: q, e, .mk d cs => (findF_insF p l a q e cs).trans (by simp only [List.cons.injEq]; rfl)
termination_by p => 2 * p.length
theorem findF_insF {κ : Type} [DecidableEq κ] (p : List Label) (k k' : κ) (q : List Label) (e : Entry μ)
    (cs : List (κ × Node μ)) :
    findF k' q (insF k p e cs).1 = if k' = k ∧ q = p then some e else findF k' q cs := by
  rw [insF, findF_aset, findAt_insertNode p, findAt_getD]
  by_cases h : k' = k <;> simp [h]
termination_by 2 * p.length + 1
end

mutual
/-- the value `insert` returns is the previous binding -/
theorem insertNode_old : (p : List Label) → (e : Entry μ) → (n : Node μ) → (insertNode p e n).2 = findAt p n
  | [], e, .mk d cs => rfl
  | l :: p, e, .mk _ cs => insF_old p l e cs
termination_by p => 2 * p.length
theorem insF_old {κ : Type} [DecidableEq κ] (p : List Label) (k : κ) (e : Entry μ) (cs : List (κ × Node μ)) :
    (insF k p e cs).2 = findF k p cs :=
  (insertNode_old p e _).trans (findAt_getD k p cs)
termination_by 2 * p.length + 1
end

/-- `removeNode` below a node is `remF` on its children (the flag apart) -/
theorem removeNode_cons (l : Label) (p : List Label) (d : Option (Entry μ)) (cs : List (Label × Node μ)) :
    (removeNode (l :: p) (.mk d cs)).1 = .mk d (remF l p cs).1 ∧
      (removeNode (l :: p) (.mk d cs)).2.1 = (remF l p cs).2 := by
  simp only [removeNode, remF]
  cases aget l cs with
  | none => exact ⟨rfl, rfl⟩
  | some sub => simp only []; split <;> exact ⟨rfl, rfl⟩

/-- a node flagged for removal is empty: no entry, no children (what `remove_in_class` guarantees
    since the repair of defect D09, whose witness history is `d09` in `QV.Properties.C22`) -/
theorem removeNode_flag (p : List Label) (n : Node μ) (h : (removeNode p n).2.2 = true) :
    (removeNode p n).1 = Node.empty := by
  induction p generalizing n with
  | nil =>
    obtain ⟨d, cs⟩ := n
    simp [removeNode] at h
    simp [removeNode, Node.empty, h]
  | cons l p ih =>
    obtain ⟨d, cs⟩ := n
    simp only [removeNode] at h ⊢
    cases hg : aget l cs with
    | none => simp [hg] at h
    | some sub =>
      simp only [hg] at h ⊢
      by_cases hf : (removeNode p sub).2.2 = true
      · simp only [hf, if_true] at h ⊢
        simp at h
        simp [Node.empty, h.1, h.2]
      · simp [hf] at h

mutual
/-- `remove` deletes the binding of its own path and nothing else -/
theorem findAt_removeNode : (p q : List Label) → (n : Node μ) →
    findAt q (removeNode p n).1 = if q = p then none else findAt q n
  | [], q, .mk d cs => by cases q <;> simp [removeNode, findAt]
  | l :: p, [], .mk d cs => by simp [(removeNode_cons l p d cs).1, findAt]
  | l :: p, a :: q, .mk d cs => by
    rw [(removeNode_cons l p d cs).1]
    exact (findF_remF p l a q cs).trans (by simp only [List.cons.injEq]; rfl)
termination_by p => 2 * p.length
theorem findF_remF {κ : Type} [DecidableEq κ] (p : List Label) (k k' : κ) (q : List Label) (cs : List (κ × Node μ)) :
    findF k' q (remF k p cs).1 = if k' = k ∧ q = p then none else findF k' q cs := by
  unfold remF
  by_cases h : k' = k
  · subst h
    cases hg : aget k' cs with
    | none => simp [findF, hg]
    | some sub =>
      have hs : findF k' q cs = findAt q sub := by simp [findF, hg]
      have ih := findAt_removeNode p q sub
      simp only [true_and, hs]
      split
      · next hf =>
        -- the child is dropped: it held nothing but the removed entry
        rw [removeNode_flag p sub hf, findAt_empty] at ih
        rw [findF_adel, if_pos rfl]; exact ih
      · rw [findF_aset, if_pos rfl]; exact ih
  · simp only [h, false_and, if_false]
    cases aget k cs with
    | none => rfl
    | some sub => simp only []; split <;> simp [findF_adel, findF_aset, h]
termination_by 2 * p.length + 1
end

mutual
/-- the value `remove` returns is the previous binding -/
theorem removeNode_old : (p : List Label) → (n : Node μ) → (removeNode p n).2.1 = findAt p n
  | [], .mk d cs => rfl
  | l :: p, .mk d cs => (removeNode_cons l p d cs).2.trans (remF_old p l cs)
termination_by p => 2 * p.length
theorem remF_old {κ : Type} [DecidableEq κ] (p : List Label) (k : κ) (cs : List (κ × Node μ)) :
    (remF k p cs).2 = findF k p cs := by
  unfold remF findF
  cases aget k cs with
  | none => rfl
  | some sub => simp only []; split <;> exact removeNode_old p sub
termination_by 2 * p.length + 1
end

/-- `lookup_in_class` along a path extended by one label: the entry at the longer path if there
    is one, else whatever the shorter path gives -/
theorem lookupNode_snoc (q : List Label) (l : Label) (n : Node μ) :
    lookupNode (q ++ [l]) n = (findAt (q ++ [l]) n).or (lookupNode q n) := by
  induction q generalizing n with
  | nil =>
    obtain ⟨d, cs⟩ := n
    simp only [List.nil_append, lookupNode, findAt]
    cases hg : aget l cs with
    | none => simp
    | some sub => obtain ⟨d', cs'⟩ := sub; simp [lookupNode, findAt]
  | cons a q ih =>
    obtain ⟨d, cs⟩ := n
    simp only [List.cons_append, lookupNode, findAt]
    cases hg : aget a cs with
    | none => simp
    | some sub =>
      simp only [ih]
      cases findAt (q ++ [l]) sub <;> simp

/-! ### the tree invariant -/

/-- a node that holds an entry or has a child -/
def Node.NonEmpty : Node μ → Prop
  | .mk d cs => d.isSome = true ∨ cs ≠ []

mutual
/-- what `HashMap` guarantees (no label occurs twice among the children of a node) plus the
    pruning discipline of the catalog (no node below the root is empty) -/
def Node.WF : Node μ → Prop
  | .mk _ cs => NodupKeys cs ∧ WFL cs
/-- every child is well formed and not empty -/
def WFL : List (Label × Node μ) → Prop
  | [] => True
  | (_, n) :: r => (n.WF ∧ n.NonEmpty) ∧ WFL r
end

/-- the invariant of a forest: every key once, every tree well formed and not empty -/
def WFF {κ : Type} (cs : List (κ × Node μ)) : Prop := NodupKeys cs ∧ ∀ p ∈ cs, p.2.WF ∧ p.2.NonEmpty

theorem Node.wf_mk (d : Option (Entry μ)) (cs : List (Label × Node μ)) : (Node.mk d cs).WF ↔ WFF cs := by
  have : WFL cs ↔ ∀ p ∈ cs, p.2.WF ∧ p.2.NonEmpty := by
    induction cs with
    | nil => simp [WFL]
    | cons a r ih => obtain ⟨l, n⟩ := a; simp [WFL, ih]
  rw [Node.WF, this, WFF]

theorem Node.wf_empty : (Node.empty : Node μ).WF := by simp [Node.empty, Node.wf_mk, WFF]

mutual
theorem insertNode_wf : (p : List Label) → (e : Entry μ) → (n : Node μ) → n.WF →
    (insertNode p e n).1.WF ∧ (insertNode p e n).1.NonEmpty
  | [], _, .mk _ _, h => ⟨(Node.wf_mk _ _).mpr ((Node.wf_mk _ _).mp h), Or.inl rfl⟩
  | l :: p, e, .mk _ cs, h =>
    ⟨(Node.wf_mk _ _).mpr (insF_wf p l e ((Node.wf_mk _ _).mp h)), Or.inr (aset_ne_nil _ _ _)⟩
termination_by p => 2 * p.length
theorem insF_wf {κ : Type} [DecidableEq κ] (p : List Label) (k : κ) (e : Entry μ) {cs : List (κ × Node μ)}
    (h : WFF cs) : WFF (insF k p e cs).1 := by
  refine ⟨nodupKeys_aset h.1, forall_mem_aset h.2 (insertNode_wf p e _ ?_)⟩
  cases hg : aget k cs with
  | none => exact Node.wf_empty
  | some sub => exact (h.2 _ (mem_of_aget hg)).1
termination_by 2 * p.length + 1
end

mutual
theorem removeNode_wf : (p : List Label) → (n : Node μ) → n.WF → n.NonEmpty →
    (removeNode p n).1.WF ∧ ((removeNode p n).2.2 = false → (removeNode p n).1.NonEmpty)
  | [], .mk d cs, h, _ => by
    refine ⟨(Node.wf_mk _ _).mpr ((Node.wf_mk _ _).mp h), fun hf => Or.inr fun e => ?_⟩
    subst e; simp [removeNode] at hf
  | l :: p, .mk d cs, h, hne => by
    refine ⟨by rw [(removeNode_cons l p d cs).1, Node.wf_mk]; exact remF_wf p l ((Node.wf_mk _ _).mp h), ?_⟩
    simp only [removeNode]
    cases aget l cs with
    | none => exact fun _ => hne
    | some sub =>
      simp only []
      split
      · intro hfl
        cases d with
        | some x => exact Or.inl rfl
        | none => exact Or.inr fun he => by simp [he] at hfl
      · exact fun _ => Or.inr (aset_ne_nil _ _ _)
termination_by p => 2 * p.length
theorem remF_wf {κ : Type} [DecidableEq κ] (p : List Label) (k : κ) {cs : List (κ × Node μ)} (h : WFF cs) :
    WFF (remF k p cs).1 := by
  unfold remF
  cases hg : aget k cs with
  | none => exact h
  | some sub =>
    have hs := h.2 _ (mem_of_aget hg)
    have ih := removeNode_wf p sub hs.1 hs.2
    simp only []
    split
    · exact ⟨nodupKeys_adel h.1, fun q hq => h.2 q (mem_adel hq).1⟩
    · next hf => exact ⟨nodupKeys_aset h.1, forall_mem_aset h.2 ⟨ih.1, ih.2 (by simpa using hf)⟩⟩
termination_by 2 * p.length + 1
end

/-! ### enumeration of a tree: every (path, entry) pair once -/

mutual
/-- the bindings of a tree: the path from its root to each entry, and the entry -/
def Node.toList : Node μ → List (List Label × Entry μ)
  | .mk d cs => (d.toList.map (fun e => ([], e))) ++ toListL cs
/-- the bindings of the children, each path starting with the child's label -/
def toListL : List (Label × Node μ) → List (List Label × Entry μ)
  | [] => []
  | (l, n) :: r => (n.toList.map (fun pe => (l :: pe.1, pe.2))) ++ toListL r
end

mutual
theorem entries_eq_toList : (n : Node μ) → n.entries = n.toList.map (·.2)
  | .mk d cs => by
    simp only [Node.entries, Node.toList, List.map_append, List.map_map, entriesL_eq_toListL cs]
    cases d <;> simp
theorem entriesL_eq_toListL : (cs : List (Label × Node μ)) → entriesL cs = (toListL cs).map (·.2)
  | [] => by simp [entriesL, toListL]
  | (l, n) :: r => by
    simp only [entriesL, toListL, List.map_append, List.map_map, entries_eq_toList n,
      entriesL_eq_toListL r]
    rfl
end

theorem nodupKeys_tail {a : Label × Node μ} {r : List (Label × Node μ)}
    (h : NodupKeys (a :: r)) : NodupKeys r := by
  obtain ⟨l, n⟩ := a; exact (nodupKeys_cons.mp h).2

theorem findF_eq_some {κ : Type} [DecidableEq κ] {k : κ} {p : List Label} {cs : List (κ × Node μ)} {e : Entry μ} :
    findF k p cs = some e ↔ ∃ sub, aget k cs = some sub ∧ findAt p sub = some e := by
  unfold findF; cases aget k cs <;> simp

/-- the bindings of a forest: those of the tree filed under `k`, their paths tagged by `g k` -/
def toListF {κ K : Type} (g : κ → List Label → K) (cs : List (κ × Node μ)) : List (K × Entry μ) :=
  cs.flatMap fun kn => kn.2.toList.map fun pe => (g kn.1 pe.1, pe.2)

theorem toListL_eq (cs : List (Label × Node μ)) : toListL cs = toListF (· :: ·) cs := by
  induction cs with
  | nil => rfl
  | cons a r ih => obtain ⟨l, n⟩ := a; simp [toListL, toListF, ih]

section Forest
variable {κ K : Type} [DecidableEq κ] (g : κ → List Label → K) {cs : List (κ × Node μ)}

/-- a forest's list holds exactly its bindings, if every tree's list does … -/
theorem mem_toListF (hn : NodupKeys cs)
    (hA : ∀ kn ∈ cs, ∀ p e, (p, e) ∈ kn.2.toList ↔ findAt p kn.2 = some e) (x : K) (e : Entry μ) :
    (x, e) ∈ toListF g cs ↔ ∃ k p, x = g k p ∧ findF k p cs = some e := by
  simp only [toListF, List.mem_flatMap, List.mem_map, Prod.mk.injEq, findF_eq_some]
  constructor
  · rintro ⟨⟨k, n⟩, hkn, ⟨p, _⟩, hpe, rfl, rfl⟩
    exact ⟨k, p, rfl, n, aget_of_mem hn hkn, (hA _ hkn p _).mp hpe⟩
  · rintro ⟨k, p, rfl, n, hk, hf⟩
    exact ⟨(k, n), mem_of_aget hk, (p, e), (hA _ (mem_of_aget hk) p e).mpr hf, rfl, rfl⟩

omit [DecidableEq κ] in
/-- … and each once, if the tags tell keys and paths apart -/
theorem nodup_toListF (hg : ∀ k p k' p', g k p = g k' p' → k = k' ∧ p = p') (hn : NodupKeys cs)
    (hA : ∀ kn ∈ cs, (kn.2.toList.map (·.1)).Nodup) : ((toListF g cs).map (·.1)).Nodup := by
  simp only [toListF, List.map_flatMap, List.map_map, List.Nodup, List.pairwise_flatMap]
  refine ⟨fun kn hkn => ?_, (List.pairwise_map.mp hn).imp fun {a b} hab x hx y hy exy => ?_⟩
  · exact List.pairwise_map.mpr ((List.pairwise_map.mp (hA kn hkn)).imp fun hab e => hab (hg _ _ _ _ e).2)
  · simp only [List.mem_map, Function.comp] at hx hy
    obtain ⟨_, _, rfl⟩ := hx
    obtain ⟨_, _, rfl⟩ := hy
    exact hab (hg _ _ _ _ exy).1

end Forest

/-- induction over a tree, the hypothesis given for every child -/
theorem Node.induct {P : Node μ → Prop} (h : ∀ d cs, (∀ kn ∈ cs, P kn.2) → P (.mk d cs)) (n : Node μ) : P n :=
  Node.rec (motive_1 := P) (motive_2 := fun cs => ∀ kn ∈ cs, P kn.2) (motive_3 := fun kn => P kn.2)
    h nofun (fun _ _ hh ht kn hkn => (List.mem_cons.mp hkn).elim (· ▸ hh) (ht kn)) (fun _ _ hn => hn) n

/-- `toList` lists every binding of a well-formed tree, each path once -/
theorem Node.enum (n : Node μ) : n.WF →
    (∀ p e, (p, e) ∈ n.toList ↔ findAt p n = some e) ∧ (n.toList.map (·.1)).Nodup := by
  induction n using Node.induct with
  | _ d cs ih =>
    intro h
    have hw := (Node.wf_mk d cs).mp h
    have hm := mem_toListF (· :: ·) hw.1 fun kn hkn => (ih kn hkn (hw.2 kn hkn).1).1
    have hd := nodup_toListF (· :: ·) (fun _ _ _ _ e => List.cons.inj e) hw.1
      fun kn hkn => (ih kn hkn (hw.2 kn hkn).1).2
    rw [Node.toList, toListL_eq]
    constructor
    · intro p e
      rw [List.mem_append, hm]
      cases p with
      | nil => cases d <;> simp [findAt, eq_comm]
      | cons a q =>
        show _ ↔ findF a q cs = some e
        constructor
        · rintro (h | ⟨_, _, h, hf⟩)
          · simp at h
          · cases h; exact hf
        · exact fun hf => Or.inr ⟨a, q, rfl, hf⟩
    · rw [List.map_append, List.nodup_append]
      refine ⟨by cases d <;> simp, hd, fun a ha b hb => ?_⟩
      simp only [List.mem_map, Prod.exists, hm] at hb
      obtain ⟨_, _, ⟨_, _, rfl, _⟩, rfl⟩ := hb
      cases d <;> simp at ha
      subst ha; simp

theorem mem_toListL : (cs : List (Label × Node μ)) → NodupKeys cs → WFL cs → ∀ q e,
    ((q, e) ∈ toListL cs ↔ ∃ l p, q = l :: p ∧ ∃ sub, aget l cs = some sub ∧ findAt p sub = some e) := by
  intro cs hn hw q e
  have hw' := ((Node.wf_mk none cs).mp (by rw [Node.WF]; exact ⟨hn, hw⟩)).2
  simp only [toListL_eq, mem_toListF (· :: ·) hn fun kn hkn => (Node.enum kn.2 (hw' kn hkn).1).1, findF_eq_some]

/-! ### the specification's finite map -/

section SpecMap
variable {ε : Type}

theorem sfind_eq_aget (m : SMap ε) (k : Key) : sfind m k = aget k m := by
  induction m with
  | nil => simp [sfind, aget]
  | cons a r ih => obtain ⟨k', v⟩ := a; simp [sfind, aget, ih]

theorem serase_eq_adel (m : SMap ε) (k : Key) : serase m k = adel k m := (adel_eq_filter k m).symm

theorem sfind_serase (m : SMap ε) (k k' : Key) :
    sfind (serase m k) k' = if k' = k then none else sfind m k' := by
  rw [sfind_eq_aget, sfind_eq_aget, serase_eq_adel, aget_adel]

theorem sfind_sinsert (m : SMap ε) (k k' : Key) (v : ε) :
    sfind (sinsert m k v) k' = if k' = k then some v else sfind m k' := by
  by_cases h : k' = k
  · subst h; simp [sinsert, sfind]
  · have : ¬ k = k' := fun e => h e.symm
    simp [sinsert, sfind, this, h, sfind_serase]

theorem nodupKeys_serase {m : SMap ε} (k : Key) (h : NodupKeys m) : NodupKeys (serase m k) :=
  serase_eq_adel m k ▸ nodupKeys_adel h

theorem nodupKeys_sinsert {m : SMap ε} (k : Key) (v : ε) (h : NodupKeys m) :
    NodupKeys (sinsert m k v) :=
  nodupKeys_cons.mpr ⟨fun _ hp => (mem_adel (serase_eq_adel m k ▸ hp)).2, nodupKeys_serase k h⟩

/-- the executable longest-suffix search computes the declarative longest match -/
theorem longestSuffix_isLongestMatch (m : SMap ε) (cls : Nat) (n : SName) :
    IsLongestMatch m cls n (longestSuffix m cls n) := by
  induction n with
  | nil =>
    simp only [longestSuffix]
    cases h : sfind m (cls, []) with
    | none =>
      simp only [IsLongestMatch]
      intro s hs; simp at hs; subst hs; exact h
    | some e =>
      simp only [IsLongestMatch]
      refine ⟨[], List.suffix_refl _, h, ?_⟩
      intro s' hs' hl; simp at hs'; subst hs'; simp at hl
  | cons l r ih =>
    simp only [longestSuffix]
    cases h : sfind m (cls, l :: r) with
    | some e =>
      simp only [IsLongestMatch]
      refine ⟨l :: r, List.suffix_refl _, h, ?_⟩
      intro s' hs' hl
      have := hs'.length_le
      omega
    | none =>
      simp only [Option.none_or]
      cases h2 : longestSuffix m cls r with
      | none =>
        rw [h2] at ih
        simp only [IsLongestMatch] at ih ⊢
        intro s hs
        rcases List.suffix_cons_iff.mp hs with e | hs
        · subst e; exact h
        · exact ih s hs
      | some e =>
        rw [h2] at ih
        simp only [IsLongestMatch] at ih ⊢
        obtain ⟨s, hs, hf, hmax⟩ := ih
        refine ⟨s, List.suffix_cons_iff.mpr (Or.inr hs), hf, ?_⟩
        intro s' hs' hl
        rcases List.suffix_cons_iff.mp hs' with e | hs'
        · subst e; exact h
        · exact hmax s' hs' hl

end SpecMap

/-! ### the catalog: abstraction to the finite map -/

/-- the key under which an entry is filed: its class and its case-folded name -/
def keyOf (e : Entry μ) : Key := (e.cls, foldName e.name)

theorem foldName_eq_lowerName (n : DName) : foldName n = lowerName n := rfl

/-- the binding of a key in the tree: walk the class's tree along the reversed name -/
def absFind (c : Cat μ) (k : Key) : Option (Entry μ) :=
  match aget k.1 c with
  | none => none
  | some root => findAt k.2.reverse root

/-- **abstraction function**: the finite map a catalog denotes, as the list of all its
    (key, entry) bindings -/
def abs : Cat μ → SMap (Entry μ)
  | [] => []
  | (cls, root) :: r => root.toList.map (fun pe => ((cls, pe.1.reverse), pe.2)) ++ abs r

/-- structural invariant of the catalog: classes and child labels are not duplicated and no node
    (roots included) is empty -/
def Cat.WF (c : Cat μ) : Prop := NodupKeys c ∧ ∀ p ∈ c, p.2.WF ∧ p.2.NonEmpty

/-- every entry is filed under the key of its own name and class -/
def Cat.Filed (c : Cat μ) : Prop := ∀ k e, absFind c k = some e → keyOf e = k

/-- the invariant of C22 -/
def Cat.Inv (c : Cat μ) : Prop := c.WF ∧ c.Filed

theorem inv_empty : (Cat.empty : Cat μ).Inv := by
  refine ⟨⟨by simp [Cat.empty], by simp [Cat.empty]⟩, ?_⟩
  intro k e h; simp [absFind, Cat.empty, aget] at h

/-! The catalog is the forest of its roots: `insert c e = insF e.cls (pathOf e.name) e c`,
  `remove c n cls = remF cls (pathOf n) c` and `c.WF ↔ WFF c` hold by `rfl`, so the facts about forests apply
  at `κ = Nat`. -/

theorem absFind_eq (c : Cat μ) (k : Key) : absFind c k = findF k.1 k.2.reverse c := by
  unfold absFind findF; cases aget k.1 c <;> rfl

theorem key_eq (k : Key) (cls : Nat) (n : DName) :
    (k.1 = cls ∧ k.2.reverse = pathOf n) ↔ k = (cls, foldName n) := by
  obtain ⟨kc, kn⟩ := k
  simp only [Prod.mk.injEq, pathOf, foldName_eq_lowerName, List.reverse_inj]

theorem absFind_insert (c : Cat μ) (e : Entry μ) (k : Key) :
    absFind (insert c e).1 k = if k = keyOf e then some e else absFind c k := by
  simp only [absFind_eq, ← key_eq, keyOf]; exact findF_insF ..

theorem insert_old (c : Cat μ) (e : Entry μ) : (insert c e).2 = absFind c (keyOf e) :=
  (insF_old ..).trans (absFind_eq c (keyOf e)).symm

theorem absFind_remove (c : Cat μ) (n : DName) (cls : Nat) (k : Key) :
    absFind (remove c n cls).1 k = if k = (cls, foldName n) then none else absFind c k := by
  simp only [absFind_eq, ← key_eq]; exact findF_remF ..

theorem remove_old (c : Cat μ) (n : DName) (cls : Nat) :
    (remove c n cls).2 = absFind c (cls, foldName n) :=
  (remF_old ..).trans (absFind_eq c (cls, foldName n)).symm

theorem wf_insert (c : Cat μ) (e : Entry μ) (h : c.WF) : (insert c e).1.WF := insF_wf _ _ e h

theorem wf_remove (c : Cat μ) (n : DName) (cls : Nat) (h : c.WF) : (remove c n cls).1.WF :=
  remF_wf _ cls h

theorem inv_insert (c : Cat μ) (e : Entry μ) (h : c.Inv) : (insert c e).1.Inv := by
  refine ⟨wf_insert c e h.1, ?_⟩
  intro k x hx
  rw [absFind_insert] at hx
  by_cases hk : k = keyOf e
  · simp [hk] at hx; subst hx; exact hk.symm
  · simp [hk] at hx; exact h.2 k x hx

theorem inv_remove (c : Cat μ) (n : DName) (cls : Nat) (h : c.Inv) : (remove c n cls).1.Inv := by
  refine ⟨wf_remove c n cls h.1, ?_⟩
  intro k x hx
  rw [absFind_remove] at hx
  by_cases hk : k = (cls, foldName n)
  · simp [hk] at hx
  · simp [hk] at hx; exact h.2 k x hx

/-! ### lookup and get in terms of the bindings -/

/-- longest-suffix search over an arbitrary binding function (same recursion as the spec's
    `longestSuffix`, which is the instance `f = sfind m`) -/
def lsuf {ε : Type} (f : Key → Option ε) (cls : Nat) : SName → Option ε
  | [] => f (cls, [])
  | l :: r => (f (cls, l :: r)).or (lsuf f cls r)

theorem longestSuffix_eq_lsuf {ε : Type} (m : SMap ε) (cls : Nat) (n : SName) :
    longestSuffix m cls n = lsuf (sfind m) cls n := by
  induction n with
  | nil => rfl
  | cons l r ih => simp [longestSuffix, lsuf, ih]

theorem lsuf_congr {ε : Type} (f g : Key → Option ε) (h : ∀ k, f k = g k) (cls : Nat) (n : SName) :
    lsuf f cls n = lsuf g cls n := by
  induction n with
  | nil => simp [lsuf, h]
  | cons l r ih => simp [lsuf, h, ih]

theorem lsuf_some {ε : Type} (f : Key → Option ε) (cls : Nat) (n : SName) (e : ε)
    (h : lsuf f cls n = some e) : ∃ s, s <:+ n ∧ f (cls, s) = some e := by
  induction n with
  | nil => exact ⟨[], List.suffix_refl _, h⟩
  | cons l r ih =>
    simp only [lsuf] at h
    cases hf : f (cls, l :: r) with
    | some x => rw [hf] at h; simp at h; subst h; exact ⟨l :: r, List.suffix_refl _, hf⟩
    | none =>
      rw [hf] at h; simp at h
      obtain ⟨s, hs, hfs⟩ := ih h
      exact ⟨s, List.suffix_cons_iff.mpr (Or.inr hs), hfs⟩

/-- longest-suffix search commutes with mapping the bindings -/
theorem lsuf_map {α β : Type} (g : α → β) (f : Key → Option α) (cls : Nat) (n : SName) :
    (lsuf f cls n).map g = lsuf (fun k => (f k).map g) cls n := by
  induction n with
  | nil => rfl
  | cons l r ih =>
    simp only [lsuf, ← ih]
    cases f (cls, l :: r) <;> simp

theorem lookupNode_nil (n : Node μ) : lookupNode [] n = findAt [] n := by
  obtain ⟨d, cs⟩ := n; rfl

theorem lookup_eq_lsuf (c : Cat μ) (n : DName) (cls : Nat) :
    lookup c n cls = lsuf (absFind c) cls (foldName n) := by
  simp only [lookup, pathOf, foldName_eq_lowerName]
  generalize lowerName n = nm
  induction nm with
  | nil =>
    simp only [lsuf, absFind, List.reverse_nil]
    cases aget cls c <;> simp [lookupNode_nil]
  | cons l r ih =>
    simp only [lsuf, ← ih, absFind, List.reverse_cons]
    cases aget cls c with
    | none => simp
    | some root => simp [lookupNode_snoc]

theorem get_eq_absFind (c : Cat μ) (hF : c.Filed) (n : DName) (cls : Nat) :
    get c n cls = absFind c (cls, foldName n) := by
  simp only [get, lookup_eq_lsuf]
  have hlen : (foldName n).length = n.length := by simp [foldName]
  cases hf : absFind c (cls, foldName n) with
  | some e0 =>
    have hl : lsuf (absFind c) cls (foldName n) = some e0 := by
      cases hn : foldName n with
      | nil => simp [lsuf, ← hn, hf]
      | cons l r => simp [lsuf, ← hn, hf]
    have hk := hF _ _ hf
    simp only [keyOf, Prod.mk.injEq] at hk
    have : e0.name.length = n.length := by
      have := congrArg List.length hk.2
      simpa [foldName] using this
    simp [hl, Option.filter, this]
  | none =>
    cases hl : lsuf (absFind c) cls (foldName n) with
    | none => simp [Option.filter]
    | some e =>
      obtain ⟨s, hs, hfs⟩ := lsuf_some _ _ _ _ hl
      have hk := hF _ _ hfs
      simp only [keyOf, Prod.mk.injEq] at hk
      have hne : s ≠ foldName n := by
        intro he; subst he; rw [hf] at hfs; cases hfs
      have hlt : s.length < (foldName n).length := by
        have hle := hs.length_le
        rcases Nat.lt_or_eq_of_le hle with h | h
        · exact h
        · exact absurd (hs.eq_of_length h) hne
      have : e.name.length = s.length := by
        have := congrArg List.length hk.2
        simpa [foldName] using this
      have hne' : ¬ e.name.length = n.length := by omega
      simp [Option.filter, hne']

theorem iter_eq_abs (c : Cat μ) : iter c = (abs c).map (·.2) := by
  induction c with
  | nil => rfl
  | cons a r ih =>
    obtain ⟨cls, root⟩ := a
    simp [iter, abs, ih, entries_eq_toList, List.map_map, Function.comp_def]

theorem abs_eq (c : Cat μ) : abs c = toListF (fun cls p => (cls, p.reverse)) c := by
  induction c with
  | nil => rfl
  | cons a r ih => obtain ⟨l, n⟩ := a; simp [abs, toListF, ih]

theorem mem_abs (c : Cat μ) (h : c.WF) (k : Key) (e : Entry μ) :
    (k, e) ∈ abs c ↔ absFind c k = some e := by
  rw [abs_eq, mem_toListF _ h.1 fun kn hkn => (Node.enum kn.2 (h.2 kn hkn).1).1, absFind_eq]
  constructor
  · rintro ⟨cls, p, rfl, hf⟩; simpa using hf
  · exact fun hf => ⟨k.1, k.2.reverse, by simp, hf⟩

theorem nodupKeys_abs (c : Cat μ) (h : c.WF) : NodupKeys (abs c) := by
  rw [abs_eq]
  exact nodup_toListF _ (fun _ _ _ _ e => by simpa using e) h.1 fun kn hkn => (Node.enum kn.2 (h.2 kn hkn).1).2

/-- two duplicate-free association lists with the same bindings are permutations of each other -/
theorem perm_of_bindings {ε : Type} {l1 l2 : SMap ε} (h1 : NodupKeys l1) (h2 : NodupKeys l2)
    (h : ∀ k, sfind l1 k = sfind l2 k) : l1.Perm l2 := by
  have n1 : l1.Nodup := List.Pairwise.of_map Prod.fst (fun a b hab he => hab (by rw [he])) h1
  have n2 : l2.Nodup := List.Pairwise.of_map Prod.fst (fun a b hab he => hab (by rw [he])) h2
  rw [List.perm_ext_iff_of_nodup n1 n2]
  intro ⟨k, v⟩
  constructor
  · intro hm
    have := aget_of_mem h1 hm
    rw [← sfind_eq_aget, h, sfind_eq_aget] at this
    exact mem_of_aget this
  · intro hm
    have := aget_of_mem h2 hm
    rw [← sfind_eq_aget, ← h, sfind_eq_aget] at this
    exact mem_of_aget this

theorem sfind_abs (c : Cat μ) (h : c.WF) (k : Key) : sfind (abs c) k = absFind c k := by
  rw [sfind_eq_aget]
  cases hf : absFind c k with
  | some e => exact aget_of_mem (nodupKeys_abs c h) ((mem_abs c h k e).mpr hf)
  | none =>
    cases hg : aget k (abs c) with
    | none => rfl
    | some e => rw [(mem_abs c h k e).mp (mem_of_aget hg)] at hf; cases hf

/-! ### histories: the tree refines the map -/

/-- the specification's reading of one operation -/
def specStep (m : SMap (Entry μ)) : Op μ → SMap (Entry μ)
  | .insert e => sinsert m (keyOf e) e
  | .remove n cls => serase m (cls, foldName n)

/-- the finite map after a history -/
def specRun (ops : List (Op μ)) : SMap (Entry μ) := ops.foldl specStep []

/-- simulation relation between a catalog tree and a finite map -/
def Refines (c : Cat μ) (m : SMap (Entry μ)) : Prop :=
  c.Inv ∧ NodupKeys m ∧ ∀ k, absFind c k = sfind m k

theorem refines_step (c : Cat μ) (m : SMap (Entry μ)) (op : Op μ) (h : Refines c m) :
    Refines (step c op) (specStep m op) := by
  obtain ⟨hi, hn, hf⟩ := h
  cases op with
  | insert e =>
    refine ⟨inv_insert c e hi, nodupKeys_sinsert _ _ hn, ?_⟩
    intro k; simp only [step, specStep, absFind_insert, sfind_sinsert, hf]
  | remove n cls =>
    refine ⟨inv_remove c n cls hi, nodupKeys_serase _ hn, ?_⟩
    intro k; simp only [step, specStep, absFind_remove, sfind_serase, hf]

theorem refines_foldl (ops : List (Op μ)) (c : Cat μ) (m : SMap (Entry μ)) (h : Refines c m) :
    Refines (ops.foldl step c) (ops.foldl specStep m) := by
  induction ops generalizing c m with
  | nil => exact h
  | cons op r ih => exact ih _ _ (refines_step c m op h)

theorem refines_run (ops : List (Op μ)) : Refines (run ops) (specRun ops) :=
  refines_foldl ops _ _ ⟨inv_empty, by simp, fun k => by simp [absFind, Cat.empty, aget, sfind]⟩

/-! ### SingleZoneCatalog: what `C22_single_lookup` / `C22_single_get` need
  (`zip_all_prefix_iff` also serves `Proofs/ServerZone`) -/

theorem zip_all_prefix_iff {α : Type} [BEq α] [LawfulBEq α] (a b : List α) (h : b.length ≤ a.length) :
    (a.zip b).all (fun p => p.1 == p.2) = true ↔ b <+: a := by
  induction a generalizing b with
  | nil => cases b <;> simp_all
  | cons x a ih =>
    cases b with
    | nil => simp
    | cons y b =>
      simp only [List.length_cons, Nat.add_le_add_iff_right] at h
      simp only [List.zip_cons_cons, List.all_cons, beq_iff_eq, Bool.and_eq_true, ih b h,
        List.cons_prefix_cons]
      exact ⟨fun ⟨h1, h2⟩ => ⟨h1.symm, h2⟩, fun ⟨h1, h2⟩ => ⟨h1.symm, h2⟩⟩

theorem zip_all_eq_iff {α : Type} [BEq α] [LawfulBEq α] (a b : List α) (h : a.length = b.length) :
    (a.zip b).all (fun p => p.1 == p.2) = true ↔ a = b :=
  (zip_all_prefix_iff a b (Nat.le_of_eq h.symm)).trans
    ⟨fun hp => (hp.eq_of_length h.symm).symm, fun e => e ▸ List.prefix_refl _⟩

theorem longestSuffix_single {ε : Type} (k : Key) (e : ε) (cls : Nat) (nm : SName) :
    longestSuffix (single k e) cls nm = if k.1 = cls ∧ k.2 <:+ nm then some e else none := by
  obtain ⟨kc, kn⟩ := k
  induction nm with
  | nil =>
    simp only [longestSuffix, single, sfind, Prod.mk.injEq, List.suffix_nil]
  | cons l r ih =>
    simp only [longestSuffix]
    rw [ih]
    simp only [single, sfind, Prod.mk.injEq, List.suffix_cons_iff]
    by_cases hc : kc = cls
    · by_cases h1 : kn = l :: r
      · simp [hc, h1]
      · simp [hc, h1]
    · simp [hc]

theorem eqOrSubdomainOf_iff (n o : DName) :
    eqOrSubdomainOf n o = true ↔ lowerName o <:+ lowerName n := by
  simp only [eqOrSubdomainOf, Bool.and_eq_true, decide_eq_true_eq, ge_iff_le,
    Nat.add_le_add_iff_right]
  constructor
  · intro ⟨hl, ha⟩
    have h2 : (lowerName o).reverse.length ≤ (lowerName n).reverse.length := by
      simpa [lowerName] using hl
    exact List.reverse_prefix.mp ((zip_all_prefix_iff _ _ h2).mp ha)
  · intro hs
    have hl : o.length ≤ n.length := by simpa [lowerName] using hs.length_le
    have h2 : (lowerName o).reverse.length ≤ (lowerName n).reverse.length := by
      simpa [lowerName] using hl
    exact ⟨hl, (zip_all_prefix_iff _ _ h2).mpr (List.reverse_prefix.mpr hs)⟩

theorem nameEq_iff (a b : DName) : nameEq a b = true ↔ lowerName a = lowerName b := by
  simp only [nameEq, Bool.and_eq_true, beq_iff_eq, Nat.add_right_cancel_iff]
  constructor
  · intro ⟨hl, ha⟩
    have h2 : (lowerName a).length = (lowerName b).length := by simpa [lowerName] using hl
    exact (zip_all_eq_iff _ _ h2).mp ha
  · intro hs
    have hl : a.length = b.length := by simpa [lowerName] using congrArg List.length hs
    have h2 : (lowerName a).length = (lowerName b).length := by simpa [lowerName] using hl
    exact ⟨hl, (zip_all_eq_iff _ _ h2).mpr hs⟩

end QV.Catalog
