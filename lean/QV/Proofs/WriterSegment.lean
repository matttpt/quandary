/-
  QV.Proofs.WriterSegment — the clauses of the final check `QV.Spec.Message.checkSegment` in the
  specification's own (Bool) vocabulary: `nameEq` / `fieldsEq` / `recordEq` / `recsEq` / `listEq` hold
  between what was given (with the mode of every item) and what the decoder reads (`FinalClauses`,
  `segment_content`); the TSIG record check (`tsigRecordOk_of`); and `checkSegment` evaluated: with the clauses
  at hand it is the pointer audit (`checkSegment_of_clauses`), which passes (`segment_audit` of
  `QV.Proofs.WriterAudit`), so the final check of a writer the abstract state describes (`Desc`) is `ok`
  (`desc_final`, `segment_check_ok`); from a fresh writer: `segment_from_new`, `segment_reduces_to_audit`.
-/
import QV.Proofs.WriterWalk
import QV.Proofs.WriterAudit
import QV.Proofs.WriterView

namespace QV.Writer
open QV QV.Wire QV.Spec QV.ServerSafety

theorem nameEq_of (m : CMode) (given decoded : List UInt8) (h1 : decoded.map lowerU8 = given.map lowerU8)
    (h2 : m ≠ .standard → decoded = given) : Message.nameEq (Driver.toSpecMode m) given decoded = true := by
  unfold Message.nameEq Message.lowerName
  cases m with
  | standard => simp [Driver.toSpecMode, h1]
  | casePreserving => simp [Driver.toSpecMode, h2 (by decide)]
  | disabled => simp [Driver.toSpecMode, h2 (by decide)]

theorem fieldsEq_of (m : CMode) : ∀ {gf df : List Message.Field}, All2 (FieldMatch (m ≠ .standard)) gf df →
    Message.fieldsEq (Driver.toSpecMode m) gf df = true := by
  intro gf df h
  induction h with
  | nil => rfl
  | cons hh _ ih =>
    cases hh with
    | name h1 h2 =>
      simp only [Message.fieldsEq, Message.fieldEq, Bool.and_eq_true]
      exact ⟨nameEq_of m _ _ h1.symm (fun hm => (h2 hm).symm), ih⟩
    | bytes x =>
      simp only [Message.fieldsEq, Message.fieldEq, Bool.and_eq_true]
      exact ⟨by simp, ih⟩

/-- the record comparison of the specification holds between a typed record given and its decoding -/
theorem recordEq_of (m : CMode) (r : RRec) (dr : Message.Record) (h : RecordIs (m ≠ .standard) r dr)
    (h1 : r.ty < 65536) (h2 : r.cls < 65536) (h3 : r.ttl < 4294967296) :
    Message.recordEq (Driver.toSpecMode m) (specR r) dr = true := by
  obtain ⟨g1, g2, g3, g4, g5, gf, g6, g7⟩ := h
  unfold Message.recordEq specR
  simp only [Bool.and_eq_true, g6, Option.getD_some]
  rw [Nat.mod_eq_of_lt h1] at g3
  rw [Nat.mod_eq_of_lt h2] at g4
  rw [Nat.mod_eq_of_lt h3] at g5
  exact ⟨⟨⟨⟨nameEq_of m _ _ g1 g2, by simp [g3]⟩, by simp [g4]⟩, by simp [g5]⟩, fieldsEq_of m g7⟩

/-- a section: `recsEq` with the modes of its items (any modes may follow) -/
theorem recsEq_of : ∀ (ms : List CMode) (rs : List RRec) (drs : List Message.Record) (extra : List Message.Mode),
    All2 (fun (x : CMode × RRec) dr => RecordIs (x.1 ≠ .standard) x.2 dr) (ms.zip rs) drs → ms.length = rs.length →
    (∀ r ∈ rs, r.ty < 65536 ∧ r.cls < 65536 ∧ r.ttl < 4294967296) →
    Message.recsEq (ms.map Driver.toSpecMode ++ extra) (rs.map specR) drs = true := by
  intro ms
  induction ms with
  | nil =>
    intro rs drs extra h hl _
    have : rs = [] := by cases rs with
      | nil => rfl
      | cons _ _ => simp at hl
    subst this
    cases h
    cases extra <;> rfl
  | cons m ms ih =>
    intro rs drs extra h hl hb
    cases rs with
    | nil => simp at hl
    | cons r rs =>
      simp only [List.zip_cons_cons] at h
      cases h with
      | cons hr ht =>
        obtain ⟨b1, b2, b3⟩ := hb r List.mem_cons_self
        simp only [List.map_cons, List.cons_append, Message.recsEq, Bool.and_eq_true]
        exact ⟨recordEq_of m r _ hr b1 b2 b3,
          ih rs _ extra ht (by simpa using hl) (fun x hx => hb x (List.mem_cons_of_mem _ hx))⟩

/-- the questions: `listEq` over the (mode, question) pairs -/
theorem questionsEq_of : ∀ (ms : List CMode) (qs : List QRec) (dqs : List Message.Question),
    All2 (fun (x : CMode × QRec) dq => QuestionIs (x.1 ≠ .standard) x.2 dq) (ms.zip qs) dqs → ms.length = qs.length →
    (∀ q ∈ qs, q.qtype < 65536 ∧ q.qclass < 65536) →
    Message.listEq (fun (p : Message.Mode × Message.Question) (q : Message.Question) =>
        Message.nameEq p.1 p.2.qname q.qname && p.2.qtype == q.qtype && p.2.qclass == q.qclass)
      ((ms.map Driver.toSpecMode).zip (qs.map specQ)) dqs = true := by
  intro ms
  induction ms with
  | nil =>
    intro qs dqs h hl _
    have : qs = [] := by cases qs with
      | nil => rfl
      | cons _ _ => simp at hl
    subst this
    cases h
    rfl
  | cons m ms ih =>
    intro qs dqs h hl hb
    cases qs with
    | nil => simp at hl
    | cons q qs =>
      simp only [List.zip_cons_cons] at h
      cases h with
      | cons hr ht =>
        obtain ⟨b1, b2⟩ := hb q List.mem_cons_self
        obtain ⟨g1, g2, g3, g4⟩ := hr
        rw [Nat.mod_eq_of_lt b1] at g3
        rw [Nat.mod_eq_of_lt b2] at g4
        simp only [List.map_cons, List.zip_cons_cons, Message.listEq, Bool.and_eq_true]
        exact ⟨⟨⟨nameEq_of m _ _ g1 g2, by simp [specQ, g3]⟩, by simp [specQ, g4]⟩,
          ih qs _ ht (by simpa using hl) (fun x hx => hb x (List.mem_cons_of_mem _ hx))⟩


theorem all2_append_inv {α β : Type} {R : α → β → Prop} : ∀ {as as' : List α} {bs : List β},
    All2 R (as ++ as') bs → ∃ bs1 bs2, bs = bs1 ++ bs2 ∧ All2 R as bs1 ∧ All2 R as' bs2 := by
  intro as
  induction as with
  | nil => intro as' bs h; exact ⟨[], bs, rfl, .nil, h⟩
  | cons a as ih =>
    intro as' bs h
    cases h with
    | cons hr ht =>
      obtain ⟨b1, b2, e, h1, h2⟩ := ih ht
      exact ⟨_ :: b1, b2, by rw [e]; rfl, .cons hr h1, h2⟩

theorem zip_append_eq {α β : Type} : ∀ (a1 : List α) (b1 : List β) (a2 : List α) (b2 : List β), a1.length = b1.length →
    (a1 ++ a2).zip (b1 ++ b2) = a1.zip b1 ++ a2.zip b2 := by
  intro a1
  induction a1 with
  | nil => intro b1 a2 b2 h; have : b1 = [] := List.eq_nil_of_length_eq_zero h.symm; subst this; rfl
  | cons x xs ih =>
    intro b1 a2 b2 h
    cases b1 with
    | nil => simp at h
    | cons y ys => simp only [List.cons_append, List.zip_cons_cons, ih ys a2 b2 (by simpa using h)]

/-- the OPT record the specification expects is the one `finish` appends -/
theorem expected_opt (e : Option Edns) (hb : ∀ x, e = some x → x.payload < 65536 ∧ x.upper < 256) :
    (match e.map (fun x => (x.payload, x.upper)) with
      | some (p, u) => [(⟨[0], 41, p, u * 16777216, []⟩ : Message.Record)]
      | none => []) = (optRecs' e).map specR := by
  cases e with
  | none => rfl
  | some x =>
    obtain ⟨_, h2⟩ := hb x rfl
    simp only [Option.map_some, optRecs', List.map_cons, List.map_nil, specR, T_OPT_eq]
    have hg : ∀ c, Message.givenRdata 41 c [] = some [] := by
      intro c; simp [Message.givenRdata, Message.layoutOf, Message.givenFields, Message.normFields]
    rw [hg, Nat.mod_eq_of_lt (by omega)]
    rfl

/-- the content clauses of `checkSegment`, for the abstract state `aF`, the decoded message `d` and the writer `sR`
    whose `finish` returned the MAC `mac`: the question comparison (`listEq`), the three section comparisons
    (`recsEq`, per-item modes, OPT record included), and what follows in the additional section is the TSIG record
    given, if one is configured -/
def FinalClauses (aF : Message.AState) (d : Message.Decoded) (sR : State) (mac : Option (List UInt8)) : Prop :=
  let modes := aF.itemModes.reverse
  let qs := aF.questions.reverse
  let nq := qs.length
  let ex := Message.expectedRecords aF
  let rmodes := modes.drop nq
  d.msg.questions.length = nq ∧
  Message.listEq (fun (p : Message.Mode × Message.Question) (q : Message.Question) =>
      Message.nameEq p.1 p.2.qname q.qname && p.2.qtype == q.qtype && p.2.qclass == q.qclass)
    ((modes.take nq).zip qs) d.msg.questions = true ∧
  Message.recsEq rmodes ex.1 d.msg.answers = true ∧
  Message.recsEq (rmodes.drop ex.1.length) ex.2.1 d.msg.authorities = true ∧
  ∃ ds tl, d.msg.additionals = ds ++ tl ∧
    Message.recsEq (rmodes.drop (ex.1.length + ex.2.1.length) ++ [aF.mode, aF.mode]) ex.2.2 ds = true ∧
    All2 (RecordIs (sR.mode ≠ .standard)) (tsigRecs sR.tsig mac) tl

/-- **the content clauses of `checkSegment`**: with the abstract state the walk arrives at, the
    question comparison (`listEq`) and the three section comparisons (`recsEq`, per-item modes, OPT
    record included) of the specification hold for the decoded finished message; a TSIG record, if
    configured, follows as the last additional record and is the record given -/
theorem segment_content {P : CMode → Prop} (macFn : Tsig → List UInt8 → List UInt8) (sR : State) (B : Body)
    (MB : MBody) (aF : Message.AState) (hIR : I sR) (hLR : CLay P sR B MB) (hT : B.Typed)
    (hC : AbsContent aF B MB) (hG : AbsCfg sR aF) (hmode : aF.mode = Driver.toSpecMode sR.mode)
    (m : Bytes) (mac : Option (List UInt8)) (hf : finish sR macFn = .ok (m, mac)) (hsz : m.size ≤ 65535) :
    ∃ d : Message.Decoded, Message.specDecodeMsg m = some d ∧ FinalClauses aF d sR mac := by
  obtain ⟨d, qs, ian, ins, iar, hd, _, hq, han, hns, har, mq, ma, mn, mr, _, _, hqM, haM, hnM, hrM, _⟩ :=
    finish_refines macFn sR B MB hIR hLR (layoutStable_typed hT) m mac hf hsz
  refine ⟨d, hd, ?_⟩
  have lq : MB.qs.length = B.qs.length := by rw [← hqM, ← hq]; simp
  have la : MB.an.length = B.an.length := by rw [← haM, ← han]; simp
  have ln : MB.ns.length = B.ns.length := by rw [← hnM, ← hns]; simp
  have hmodes := hC.modes
  have hqs := hC.qs
  have bT : ∀ l : List RRec, (∀ r ∈ l, r.Typed) → ∀ r ∈ l, r.ty < 65536 ∧ r.cls < 65536 ∧ r.ttl < 4294967296 :=
    fun l h r hr => ⟨(h r hr).2.1, (h r hr).2.2.1, (h r hr).2.2.2.1⟩
  have hM : List.map Driver.toSpecMode (MB.qs ++ MB.an ++ MB.ns ++ MB.ar) =
      MB.qs.map Driver.toSpecMode ++ (MB.an.map Driver.toSpecMode ++ (MB.ns.map Driver.toSpecMode ++
        MB.ar.map Driver.toSpecMode)) := by simp
  have e1 : (Message.expectedRecords aF).1.length = (MB.an.map Driver.toSpecMode).length := by
    show aF.an.reverse.length = _; rw [hC.an, List.length_map, List.length_map, la]
  have e2 : (Message.expectedRecords aF).2.1.length = (MB.ns.map Driver.toSpecMode).length := by
    show aF.ns.reverse.length = _; rw [hC.ns, List.length_map, List.length_map, ln]
  simp only [FinalClauses]
  rw [hmodes, hqs, hM]
  simp only [List.length_map]
  rw [List.drop_left' (by rw [List.length_map, lq]), List.take_left' (by rw [List.length_map, lq])]
  refine ⟨?_, ?_, ?_, ?_, ?_⟩
  · rw [← mq.length, ← hq]; simp
  · have h1 := questions_of_items_modes mq
    rw [hqM, hq] at h1
    exact questionsEq_of MB.qs B.qs _ h1 lq (fun q hq' => ⟨(hT.qs q hq').2.1, (hT.qs q hq').2.2⟩)
  · have h1 := records_of_items_modes ma
    rw [haM, han] at h1
    show Message.recsEq _ aF.an.reverse _ = true
    rw [hC.an]
    exact recsEq_of MB.an B.an _ _ h1 la (bT _ hT.an)
  · have h1 := records_of_items_modes mn
    rw [hnM, hns] at h1
    show Message.recsEq _ aF.ns.reverse _ = true
    rw [hC.ns]
    rw [List.drop_left' e1.symm]
    exact recsEq_of MB.ns B.ns _ _ h1 ln (bT _ hT.ns)
  · -- the additional section
    rw [List.append_assoc] at har hrM
    obtain ⟨ds, tl, hsplit, m1, m2⟩ := all2_append_inv (as := iar.take (B.ar ++ optRecs' sR.edns).length)
      (as' := iar.drop (B.ar ++ optRecs' sR.edns).length) (by rw [List.take_append_drop]; exact mr)
    obtain ⟨r1, r2⟩ := map_take_eq (·.r) iar (B.ar ++ optRecs' sR.edns) (tsigRecs sR.tsig mac)
      (by rw [har, List.append_assoc])
    obtain ⟨q1, q2⟩ := map_take_eq (·.m) iar (MB.ar ++ (optRecs' sR.edns).map (fun _ => sR.mode))
      ((tsigRecs sR.tsig mac).map (fun _ => sR.mode)) (by rw [hrM, List.append_assoc])
    have lar : MB.ar.length = B.ar.length := hLR.ml.2.2
    have hl1 : (MB.ar ++ (optRecs' sR.edns).map (fun _ => sR.mode)).length = (B.ar ++ optRecs' sR.edns).length := by
      simp [lar]
    rw [hl1] at q1 q2
    refine ⟨ds, tl, hsplit, ?_, ?_⟩
    · have h1 := records_of_items_modes m1
      rw [q1, r1] at h1
      -- the expected records
      have hexp : (Message.expectedRecords aF).2.2 = (B.ar ++ optRecs' sR.edns).map specR := by
        show aF.ar.reverse ++ _ = _
        rw [hC.ar, List.map_append, hG.edns]
        congr 1
        exact expected_opt sR.edns hG.eb
      rw [hexp]
      rw [← List.append_assoc, List.drop_left' (by rw [List.length_append, e1, e2]), hmode]
      have hb : ∀ r ∈ B.ar ++ optRecs' sR.edns, r.ty < 65536 ∧ r.cls < 65536 ∧ r.ttl < 4294967296 := by
        intro r hr
        rcases List.mem_append.mp hr with h | h
        · exact bT _ hT.ar r h
        · cases he : sR.edns with
          | none => rw [he] at h; cases h
          | some e =>
            rw [he] at h
            simp only [optRecs', List.mem_singleton] at h
            subst h
            exact ⟨by show T_OPT < 65536; rw [T_OPT_eq]; omega, (hG.eb e he).1, Nat.mod_lt _ (by omega)⟩
      -- the modes: those of the items, then the mode at `finish` for the pseudo-records
      cases he : sR.edns with
      | none =>
        rw [he] at h1 hb
        simp only [optRecs', List.map_nil, List.append_nil] at h1 hb ⊢
        exact recsEq_of MB.ar B.ar _ _ h1 lar hb
      | some e =>
        rw [he] at h1 hb
        have := recsEq_of (MB.ar ++ [sR.mode]) (B.ar ++ optRecs' (some e)) ds [Driver.toSpecMode sR.mode]
          (by simpa [optRecs'] using h1) (by simp [optRecs', lar]) hb
        simpa [List.map_append, List.append_assoc] using this
    · have h2 := all2_map_left (R := RecordIs (sR.mode ≠ .standard)) (·.r) m2 (fun it hit dr hm => by
        have hmm : it.m = sR.mode := by
          have : it.m ∈ (iar.drop (B.ar ++ optRecs' sR.edns).length).map (·.m) := List.mem_map_of_mem hit
          rw [q2] at this
          obtain ⟨_, _, h⟩ := List.mem_map.mp this
          exact h.symm
        rw [← hmm]; exact hm)
      rw [r2] at h2
      exact h2


/-- **the final check, for a described writer**: the message `finish` returns decodes; the abstract state's header
    is the decoded one, the size is within its limit, the pointer audit of the decoded message passes and the
    content clauses hold -/
theorem desc_final (macFn : Tsig → List UInt8 → List UInt8) {ss : Session} {aF : Message.AState} {B : Body} {MB : MBody}
    (hD : Desc ss aF B MB) (m : Bytes) (mac : Option (List UInt8)) (hf : finish ss.w macFn = .ok (m, mac))
    (hsz : m.size ≤ 65535) :
    ∃ d : Message.Decoded, Message.specDecodeMsg m = some d ∧ aF.hdr = d.msg.header ∧ m.size ≤ aF.limit ∧
      Message.auditPointers d aF.itemModes.reverse aF.mode = .ok () ∧ FinalClauses aF d ss.w mac := by
  have hst := layoutStable_typed hD.typed
  obtain ⟨d, hd, hcl⟩ := segment_content macFn ss.w B MB aF hD.i hD.lay hD.typed hD.content hD.cfg hD.num.mode m mac hf hsz
  obtain ⟨d2, hd2, haud⟩ := segment_audit macFn ss.w B MB aF hD.i hD.lay hst hD.content.modes hD.num.mode m mac hf hsz
  rw [hd] at hd2
  cases hd2
  obtain ⟨d3, _, _, _, _, hd3, hh3, _⟩ := finish_refines macFn ss.w B MB hD.i hD.lay hst m mac hf hsz
  rw [hd] at hd3
  cases hd3
  exact ⟨d, hd, by rw [hD.hdr, hh3], by rw [hD.num.lim]; exact finish_size_le_limit macFn _ hD.i.inv m mac hf, haud, hcl⟩

/-- the walk and the content clauses together, from a fresh writer (sessions without `clear_rrs`) -/
theorem segment_from_new (macFn : Tsig → List UInt8 → List UInt8) (hmac : MacLenOK macFn)
    (buf : Bytes) (limit : Nat) (s0 : State) (hnew : Writer.new buf limit = .ok s0) (hlim : limit ≤ 65535)
    (mode : CMode) (ops : List Op) (ht : ∀ op ∈ ops, op.Typed) (hb : ∀ op ∈ ops, ApiBounds op)
    (hr : Respects { w := { s0 with mode := mode } } ops) (hv : ∀ v, Op.setLimit v ∈ ops → v ≤ 65535)
    (hno : ∀ op ∈ ops, op ≠ .clearRrs ∧ NonEmptySet op) (mac' : Option (List UInt8)) :
    ∃ m mac d aF, finish (run { w := { s0 with mode := mode } } ops).1.w macFn = .ok (m, mac) ∧
      Message.specDecodeMsg m = some d ∧
      Message.walk false
          { mode := Driver.toSpecMode mode, buflen := buf.size, limit := min limit buf.size }
          (ops.map Driver.toSpecOp)
          (obs { w := { s0 with mode := mode } } ops ++ ["ok"]) [m] (some d) mac' =
        Message.checkSegment false aF d m.size mac' ∧
      aF.hdr = d.msg.header ∧ aF.hdr.z = 0 ∧ m.size ≤ aF.limit ∧
      AbsCfg (run { w := { s0 with mode := mode } } ops).1.w aF ∧
      aF.mode = Driver.toSpecMode (run { w := { s0 with mode := mode } } ops).1.w.mode ∧
      Message.auditPointers d aF.itemModes.reverse aF.mode = .ok () ∧
      FinalClauses aF d (run { w := { s0 with mode := mode } } ops).1.w mac := by
  obtain ⟨m, mac, d, aF, hf, hsz, hd, hDF, _, hw⟩ := segment_walk macFn hmac mac' [] ["ok"] (fun m => [m])
    (desc_new buf limit s0 hnew mode) ops (fun op h => ⟨ht op h, hb op h⟩) hr hno (new_limit buf limit s0 hnew hlim) hv
  obtain ⟨d', hd', hh, hlimit, haud, hcl⟩ := desc_final macFn hDF m mac hf hsz
  rw [hd] at hd'
  cases hd'
  simp only [List.append_nil, Message.walk] at hw
  exact ⟨m, mac, d, aF, hf, hd, hw, hh, hDF.z, hlimit, hDF.cfg, hDF.num.mode, haud, hcl⟩


/-! ### the TSIG record -/

theorem toATsig_algName (ts : Tsig) : (toATsig ts).algName = (tsigAlgName ts.mode).wire := by
  unfold toATsig tsigAlgName
  cases ts.mode <;> simp only [algWire_eq]

/-- **the TSIG check of the specification** (`tsigRecordOk`): the decoded TSIG record is the key name,
    type 250, class ANY, TTL 0, and RDATA = what RFC 8945 §4.2 puts before the MAC, the MAC `finish`
    returned, what comes after — provided the MAC has the size the specification expects -/
theorem tsigRecordOk_of (m : CMode) (ts : Tsig) (mac : Option (List UInt8)) (dr : Message.Record)
    (hwf : ts.rr.keyName.WF)
    (h : RecordIs (m ≠ .standard)
      ⟨ts.rr.keyName, T_TSIG, QC_ANY, ttlFrom 0, tsigRdata ts.rr (tsigAlgName ts.mode) (mac.getD [])⟩ dr)
    (hlen : (mac.getD []).length = (toATsig ts).macLen) (mac' : Option (List UInt8))
    (hmac' : mac' = none ∨ mac' = some (mac.getD [])) :
    Message.tsigRecordOk (Driver.toSpecMode m) (toATsig ts) mac' dr = true := by
  obtain ⟨g1, g2, g3, g4, g5, gf, g6, g7⟩ := h
  have h250 : T_TSIG = 250 := by decide +kernel
  have h255 : QC_ANY = 255 := by decide +kernel
  have hbt : XR_BADTIME = 18 := by decide +kernel
  simp only [h250, h255] at g3 g4 g6
  have hrdne : tsigRdata ts.rr (tsigAlgName ts.mode) (mac.getD []) ≠ [] := by
    unfold tsigRdata
    simp only [WName.wire_eq]
    simp
  -- the RDATA is one octet field
  have hgiven : Message.givenRdata 250 255 (tsigRdata ts.rr (tsigAlgName ts.mode) (mac.getD [])) =
      some [.bytes (tsigRdata ts.rr (tsigAlgName ts.mode) (mac.getD []))] := by
    unfold Message.givenRdata Message.layoutOf
    simp only [Nat.reduceEqDiff, or_self, if_false, false_and, Message.givenFields, Option.map_some]
    cases hrd : tsigRdata ts.rr (tsigAlgName ts.mode) (mac.getD []) with
    | nil => exact absurd hrd hrdne
    | cons x xs => simp [Message.normFields]
  rw [hgiven] at g6
  simp only [Option.some.injEq] at g6
  subst g6
  have hrdata : dr.rdata = [.bytes (tsigRdata ts.rr (tsigAlgName ts.mode) (mac.getD []))] := by
    generalize dr.rdata = rdd at g7
    cases g7 with
    | cons hh tt =>
      cases tt
      cases hh
      rfl
  -- the parts
  have hpre : (Message.tsigRdataAround (toATsig ts) (toATsig ts).macLen).1 =
      (tsigAlgName ts.mode).wire ++ ts.rr.timeSigned ++ u16be ts.rr.fudge ++ u16be (mac.getD []).length := by
    simp only [Message.tsigRdataAround, toATsig_algName, hlen]; rfl
  have hpost : (Message.tsigRdataAround (toATsig ts) (toATsig ts).macLen).2 =
      u16be ts.rr.originalId ++ u16be ts.rr.error ++
        u16be (if ts.rr.error = XR_BADTIME then ts.rr.serverTime else []).length ++
        (if ts.rr.error = XR_BADTIME then ts.rr.serverTime else []) := by
    simp only [Message.tsigRdataAround, hbt]; rfl
  have hsplit : tsigRdata ts.rr (tsigAlgName ts.mode) (mac.getD []) =
      (Message.tsigRdataAround (toATsig ts) (toATsig ts).macLen).1 ++ ((mac.getD []) ++
        (Message.tsigRdataAround (toATsig ts) (toATsig ts).macLen).2) := by
    rw [hpre, hpost]; unfold tsigRdata; simp only [List.append_assoc]
  unfold Message.tsigRecordOk
  generalize hP : (Message.tsigRdataAround (toATsig ts) (toATsig ts).macLen) = pp at hsplit
  obtain ⟨pre, post⟩ := pp
  simp only at hsplit ⊢
  rw [hrdata]
  simp only [Bool.and_eq_true]
  have hkn : (toATsig ts).keyName = ts.rr.keyName.wire := rfl
  refine ⟨⟨⟨⟨?_, by simp [g3]⟩, by simp [g4]⟩, by simp [g5, ttlFrom]⟩, ?_⟩
  · rw [hkn]; exact nameEq_of m _ _ g1 g2
  · rw [hsplit, ← hlen]
    refine ⟨⟨⟨by simp [List.length_append]; omega, by simp⟩, by simp [← List.append_assoc]⟩, ?_⟩
    rcases hmac' with rfl | rfl
    · rfl
    · simp


/-! ### `checkSegment`, evaluated -/

/-- when all clauses hold, what remains of `checkSegment` is the pointer audit -/
theorem checkSegment_eq (s : Message.AState) (d : Message.Decoded) (size : Nat) (mac : Option (List UInt8))
    (an ns ar : List Message.Record) (hex : Message.expectedRecords s = (an, ns, ar))
    (hh : d.msg.header = s.hdr) (hz : s.hdr.z = 0)
    (hq1 : d.msg.questions.length = s.questions.reverse.length)
    (hq2 : Message.listEq (fun (p : Message.Mode × Message.Question) (q : Message.Question) =>
        Message.nameEq p.1 p.2.qname q.qname && p.2.qtype == q.qtype && p.2.qclass == q.qclass)
      ((s.itemModes.reverse.take s.questions.reverse.length).zip s.questions.reverse) d.msg.questions = true)
    (ha : Message.recsEq (s.itemModes.reverse.drop s.questions.reverse.length) an d.msg.answers = true)
    (hn : Message.recsEq ((s.itemModes.reverse.drop s.questions.reverse.length).drop an.length) ns
      d.msg.authorities = true)
    (har : match s.tsig with
      | none => Message.recsEq ((s.itemModes.reverse.drop s.questions.reverse.length).drop (an.length + ns.length) ++
          [s.mode, s.mode]) ar d.msg.additionals = true
      | some t => ∃ ds r, d.msg.additionals = ds ++ [r] ∧
          Message.recsEq ((s.itemModes.reverse.drop s.questions.reverse.length).drop (an.length + ns.length) ++
            [s.mode, s.mode]) ar ds = true ∧ Message.tsigRecordOk s.mode t mac r = true)
    (hsize : size ≤ s.limit) :
    Message.checkSegment false s d size mac = Message.auditPointers d s.itemModes.reverse s.mode := by
  unfold Message.checkSegment
  simp only [Bool.false_eq_true, if_false, hex]
  have hcond : ¬ (d.msg.header.id ≠ s.hdr.id ∨ d.msg.header.qr ≠ s.hdr.qr ∨ d.msg.header.opcode ≠ s.hdr.opcode ∨
      d.msg.header.aa ≠ s.hdr.aa ∨ d.msg.header.tc ≠ s.hdr.tc ∨ d.msg.header.rd ≠ s.hdr.rd ∨
      d.msg.header.ra ≠ s.hdr.ra ∨ d.msg.header.z ≠ 0 ∨ d.msg.header.rcode ≠ s.hdr.rcode) := by
    rw [hh]; simp [hz]
  simp only [List.length_reverse, List.drop_drop] at hq1 hq2 ha hn har
  cases hts : s.tsig with
  | none =>
    rw [hts] at har
    simp only at har
    simp [hcond, hq1, hq2, ha, hn, har, hsize, Nat.not_lt.mpr hsize, bind, Except.bind, pure, Except.pure]
  | some t =>
    rw [hts] at har
    obtain ⟨ds, r, hadd, h1, h2⟩ := har
    simp [hcond, hq1, hq2, ha, hn, hadd, h1, h2, hsize, Nat.not_lt.mpr hsize, bind, Except.bind, pure, Except.pure]


/-- with the clauses at hand and a MAC of the size the specification expects, `checkSegment` is the pointer audit -/
theorem checkSegment_of_clauses {aF : Message.AState} {d : Message.Decoded} {sR : State} {mac : Option (List UInt8)}
    {size : Nat} (hcl : FinalClauses aF d sR mac) (hh : aF.hdr = d.msg.header) (hz : aF.hdr.z = 0)
    (hlimit : size ≤ aF.limit) (hG : AbsCfg sR aF) (hmode : aF.mode = Driver.toSpecMode sR.mode)
    (hkey : ∀ ts, sR.tsig = some ts → ts.rr.keyName.WF)
    (hml : ∀ ts, sR.tsig = some ts → (mac.getD []).length = (toATsig ts).macLen)
    (mac' : Option (List UInt8)) (hmac' : mac' = none ∨ mac' = some (mac.getD [])) :
    Message.checkSegment false aF d size mac' = Message.auditPointers d aF.itemModes.reverse aF.mode := by
  obtain ⟨hq1, hq2, ha, hn, ds, tl, hadd, har, htl⟩ := hcl
  refine checkSegment_eq aF d size mac' _ _ _ rfl hh.symm hz hq1 hq2 ha hn ?_ hlimit
  have hat := hG.tsig
  cases hts : sR.tsig with
  | none =>
    rw [hts] at hat htl
    simp only [Option.map_none] at hat
    rw [hat]
    simp only [tsigRecs] at htl ⊢
    cases htl
    rw [hadd, List.append_nil]
    exact har
  | some ts =>
    rw [hts] at hat htl
    simp only [Option.map_some] at hat
    rw [hat]
    simp only [tsigRecs] at htl ⊢
    cases htl with
    | cons hr1 hnil =>
      cases hnil
      refine ⟨ds, _, hadd, har, ?_⟩
      rw [hmode]
      exact tsigRecordOk_of sR.mode ts mac _ (hkey ts hts) hr1 (hml ts hts) mac' hmac'

/-- **the walk of `checkSession` over a segment reduces to the pointer audit**: from a fresh writer,
    for sessions without `clear_rrs`, with a MAC of the size the specification expects,
    everything `walk` and `checkSegment` check holds — failure justification, abstract state, header,
    question and record comparison by item mode, OPT and TSIG record, size — and what is left is
    `auditPointers` on the decoded message -/
theorem segment_reduces_to_audit (macFn : Tsig → List UInt8 → List UInt8) (hmac : MacLenOK macFn)
    (buf : Bytes) (limit : Nat) (s0 : State) (hnew : Writer.new buf limit = .ok s0) (hlim : limit ≤ 65535)
    (mode : CMode) (ops : List Op) (ht : ∀ op ∈ ops, op.Typed) (hb : ∀ op ∈ ops, ApiBounds op)
    (hr : Respects { w := { s0 with mode := mode } } ops) (hv : ∀ v, Op.setLimit v ∈ ops → v ≤ 65535)
    (hno : ∀ op ∈ ops, op ≠ .clearRrs ∧ NonEmptySet op)
    (hml : ∀ m mac ts, finish (run { w := { s0 with mode := mode } } ops).1.w macFn = .ok (m, mac) →
      (run { w := { s0 with mode := mode } } ops).1.w.tsig = some ts →
      (mac.getD []).length = (toATsig ts).macLen)
    (mac' : Option (List UInt8))
    (hmac' : ∀ m mac, finish (run { w := { s0 with mode := mode } } ops).1.w macFn = .ok (m, mac) →
      mac' = none ∨ mac' = some (mac.getD [])) :
    ∃ (m : Bytes) (mac : Option (List UInt8)) (d : Message.Decoded) (aF : Message.AState),
      finish (run { w := { s0 with mode := mode } } ops).1.w macFn = .ok (m, mac) ∧
      Message.specDecodeMsg m = some d ∧
      Message.walk false
          { mode := Driver.toSpecMode mode, buflen := buf.size, limit := min limit buf.size }
          (ops.map Driver.toSpecOp)
          (obs { w := { s0 with mode := mode } } ops ++ ["ok"]) [m] (some d) mac' =
        Message.auditPointers d aF.itemModes.reverse aF.mode ∧
      Message.auditPointers d aF.itemModes.reverse aF.mode = .ok () := by
  obtain ⟨m, mac, d, aF, hf, hd, hw, hh, hz, hlimit, hG, hmode, haud, hcl⟩ :=
    segment_from_new macFn hmac buf limit s0 hnew hlim mode ops ht hb hr hv hno mac'
  have hIR := (run_I { w := { s0 with mode := mode } } ops (desc_new buf limit s0 hnew mode).i hr).2
  refine ⟨m, mac, d, aF, hf, hd, ?_, haud⟩
  rw [hw]
  exact checkSegment_of_clauses hcl hh hz hlimit hG hmode (fun ts hts => (hIR.tsig ts hts).2.1)
    (fun ts hts => hml m mac ts hf hts) mac' (hmac' m mac hf)

/-- **the final check of a segment passes**, from any writer state `sR` that the abstract state `aF`
    describes: `checkSegment` on the decoded message `finish` returns is `ok` — header, questions
    and records by item mode, OPT, TSIG (MAC of the algorithm's size; compared with `mac'` if
    given), size and the pointer audit -/
theorem segment_check_ok (macFn : Tsig → List UInt8 → List UInt8) (ss : Session) (B : Body)
    (MB : MBody) (aF : Message.AState) (hD : Desc ss aF B MB)
    (m : Bytes) (mac : Option (List UInt8)) (hf : finish ss.w macFn = .ok (m, mac)) (hsz : m.size ≤ 65535)
    (hml : ∀ ts, ss.w.tsig = some ts → (mac.getD []).length = (toATsig ts).macLen)
    (mac' : Option (List UInt8)) (hmac' : mac' = none ∨ mac' = some (mac.getD [])) :
    ∃ d : Message.Decoded, Message.specDecodeMsg m = some d ∧
      Message.checkSegment false aF d m.size mac' = .ok () := by
  obtain ⟨d, hd, hh, hlimit, haud, hcl⟩ := desc_final macFn hD m mac hf hsz
  refine ⟨d, hd, ?_⟩
  rw [← haud]
  exact checkSegment_of_clauses hcl hh hD.z hlimit hD.cfg hD.num.mode (fun ts hts => (hD.i.tsig ts hts).2.1) hml mac' hmac'

end QV.Writer
