/-
  QV.Proofs.ServerAnswerTwoRunI — the two-run comparison of the answering phase (C10 row 3),
  localized at the *real* plain run, so that the writer's structural invariant `Writer.I` and the
  validity of the hints are available at every call (they are what C01's pass, Proofs/ServerQuery.lean,
  establishes on the way; the two-run property at the state reached is carried along that pass:
  `twoAt_along`, for Proofs/ServerAnswerSafe.lean; `SafeX` = C01's `SafeP` plus that property).
  The relation between the signed-side and the plain-side writer is `Twin`; the property, `TwoAt`, is
  `TwoPAt` (Proofs/ServerAnswerLimit.lean) at `Twin`, with the fact about a single call (`Twin.call`,
  `Twin.call_trunc`) supplied at each state of the pass.

  Why: the hypothesis `ServerAnswer.ScratchIndep` of Proofs/ServerAnswerTwoRun.lean quantifies over all
  writer states and is false for states whose prior names or hints point at or above the cursor.  The
  named hypothesis of this file, `ScratchIndepI`, asks for scratch independence only next to a state
  that satisfies `Writer.I` and whose hint is valid; it is proved in Proofs/ServerScratchIndep.lean.
-/
import QV.Proofs.ServerAnswerContent
import QV.Proofs.ServerAnswerFields
import QV.Proofs.ServerAnswerTwoRun

namespace QV.ServerContent
open QV QV.Writer QV.Server QV.ServerSafety QV.ServerAnswer

/-- the precondition of a writer call of the answering phase: a well-formed owner and a valid hint -/
def AnsPre : AnsCall → State → Prop
  | .addRr _ h o _ _ _ _, u => o.WF ∧ HintOK Writer.Den u h o
  | .addRrset _ h o _ _ _ _, u => o.WF ∧ HintOK Writer.Den u h o
  | _, _ => True

/-- `s` is `u` with other room, TSIG slot and ARCOUNT — the room still holding the cursor and lying
    within the buffer (what the writer's size invariant says of `s`) -/
def FieldsOnly (u s : State) : Prop :=
  (∃ l a ts ar, s = { u with limit := l, available := a, tsig := ts, arcount := ar }) ∧
  s.cursor ≤ s.available ∧ s.available ≤ s.octets.size

/-- **scratch independence** (a fact about the writer, taken as a named hypothesis here and proved as
    `scratchIndepI` in Proofs/ServerScratchIndep.lean): next to
    a state `u` that satisfies the writer's invariant `Writer.I` and the call's precondition, a writer
    call of the answering phase run on `s` (= `u` up to the room, the TSIG slot and ARCOUNT) and on any
    `t` that agrees with `s` on everything but the octets at and above the cursor has the same outcome
    and leaves two such states, with the same hint vector. -/
def ScratchIndepI : Prop :=
  ∀ (c : AnsCall) (u s t : State), Writer.I u → AnsPre c u → FieldsOnly u s → Same s t → s.hv = t.hv →
    (c.run t).1 = (c.run s).1 ∧ Same (c.run s).2 (c.run t).2 ∧ (c.run s).2.hv = (c.run t).2.hv

theorem fieldsOnly_of_rel {R L : Nat} {T : Option Writer.Tsig} {a0 b : State} (h : lift R a0 = modS L T b)
    (hi : Writer.I b) (hc : a0.cursor ≤ a0.available) : FieldsOnly b a0 := by
  refine ⟨⟨a0.limit, a0.available, a0.tsig, a0.arcount, ?_⟩, hc, ?_⟩
  · cases a0; cases b
    simp only [lift, modS, State.mk.injEq] at h
    simp only [State.mk.injEq]
    obtain ⟨h1, h2, h3, h4, h5, h6, h7, h8, h9, h10, h11, h12, h13, h14, h15, h16, h17, h18, h19, h20⟩ := h
    simp_all
  · have h2 := congrArg State.available h
    have h3 := congrArg State.octets h
    simp only [lift, modS] at h2 h3
    have := hi.inv.av_lim; have := hi.inv.lim_size
    rw [h3]; omega

theorem rel_hv {R L : Nat} {T : Option Writer.Tsig} {a0 b : State} (h : lift R a0 = modS L T b) (x : Option HV) :
    lift R { a0 with hv := x } = modS L T { b with hv := x } := by
  have := congrArg (fun s : State => { s with hv := x }) h
  exact this

/-- `A` is a signed-side twin of the plain-side writer `b`: `b` with `R` octets less room, limit `L - R`,
    TSIG slot `T`, ARCOUNT + 1 (`a0`) — and any octets at and above the cursor -/
def Twin (L : Nat) (T : Option Writer.Tsig) (R : Nat) (A b : State) : Prop :=
  ∃ a0, lift R a0 = modS L T b ∧ Same A a0 ∧ A.hv = a0.hv

section twin
variable {L : Nat} {T : Option Writer.Tsig} {R : Nat} {A b : State}

theorem Twin.avail_hv (h : Twin L T R A b) : A.available + R = b.available ∧ A.hv = b.hv := by
  obtain ⟨a0, hr, hS, hhv⟩ := h
  have e2 := congrArg State.available hr
  have e3 := congrArg State.hv hr
  simp only [lift, modS] at e2 e3
  exact ⟨by rw [← hS.available]; exact e2, hhv.trans e3⟩

/-- the hint vector may be replaced on both twins -/
theorem Twin.setHv (h : Twin L T R A b) (x : Option HV) : Twin L T R { A with hv := x } { b with hv := x } := by
  obtain ⟨a0, h1, h2, _⟩ := h
  exact ⟨{ a0 with hv := x }, rel_hv h1 x, same_hv h2 _ _, rfl⟩

/-- **an accepted call of the plain run that fits the signed room is accepted in the signed run**, and
    leaves twins: `modS` commutes with the call, the smaller room suffices, and the octets at and above the
    cursor are not read -/
theorem Twin.call (hSI : ScratchIndepI) (c : AnsCall) {b' : State} (hi : Writer.I b) (hp : AnsPre c b)
    (h : Twin L T R A b) (hrun : c.run b = (.ok (), b')) (hfit : b'.cursor ≤ A.available)
    (hcnt : b'.arcount + 1 ≤ 65535) : ∃ A', c.run A = (.ok (), A') ∧ Twin L T R A' b' := by
  obtain ⟨a0, hrel, hS, hhv⟩ := h
  have hm := ansCall_modS c L T b (by rw [hrun]; exact hcnt)
  rw [hrun, ← hrel] at hm
  simp only at hm
  obtain ⟨s', hs', ht⟩ := sim_ansCall c R a0 () _ hm (by show b'.cursor ≤ a0.available; rw [hS.available]; exact hfit)
  have hcur : a0.cursor ≤ a0.available := by
    have h1 := congrArg State.cursor hrel
    simp only [lift, modS] at h1
    have hg : b.cursor ≤ b'.cursor := by have := (growsM_ansCall c b).1; rw [hrun] at this; exact this
    have := hS.available
    omega
  obtain ⟨g1, g2, g3⟩ := hSI c b a0 A hi hp (fieldsOnly_of_rel hrel hi hcur) (Same.symm hS) hhv.symm
  rw [hs'] at g1 g2 g3
  simp only at g1 g2 g3
  rcases hr : c.run A with ⟨r, A'⟩
  rw [hr] at g1 g2 g3
  simp only at g1 g2 g3
  subst g1
  exact ⟨A', rfl, s', ht.symm, Same.symm g2, g3.symm⟩

/-- an RRset the plain run rejects with `Truncation` is rejected with `Truncation` by the signed run (if
    that does not panic); both writers are rolled back, to twins once the lent hint vector is taken away -/
theorem Twin.call_trunc (hSI : ScratchIndepI) (sec : RrSection) (hint : Hint) (owner : WName) (ty cls ttl : Nat)
    (rds : List (List UInt8)) {b' : State} (hi : Writer.I b) (hp : AnsPre (.addRrset sec hint owner ty cls ttl rds) b)
    (h : Twin L T R A b) (hrun : addRrsetOp sec hint owner ty cls ttl rds b = (.err .Truncation, b'))
    (hfit : b'.cursor ≤ A.available) (hcnt : b'.arcount + 1 ≤ 65535)
    (hnp : (addRrsetOp sec hint owner ty cls ttl rds A).1 ≠ .panic) :
    ∃ A', addRrsetOp sec hint owner ty cls ttl rds A = (.err .Truncation, A') ∧
      Twin L T R { A' with hv := none } { b' with hv := none } := by
  obtain ⟨a0, hrel, hS, hhv⟩ := h
  have hm := addRrsetOp_modS sec hint owner ty cls ttl rds L T b (by rw [hrun]; exact hcnt)
  rw [hrun, ← hrel] at hm
  simp only at hm
  have hcur : a0.cursor ≤ a0.available := by
    have h1 := congrArg State.cursor hrel
    simp only [lift, modS] at h1
    have hb := addRrsetOp_cases sec hint owner ty cls ttl rds b
    rw [hrun] at hb
    have := hb.cursor
    have := hS.available
    omega
  obtain ⟨g1, _, _⟩ := hSI (.addRrset sec hint owner ty cls ttl rds) b a0 A hi hp (fieldsOnly_of_rel hrel hi hcur)
    (Same.symm hS) hhv.symm
  have e : ∀ s, AnsCall.run (.addRrset sec hint owner ty cls ttl rds) s = addRrsetOp sec hint owner ty cls ttl rds s :=
    fun _ => rfl
  rw [e, e] at g1
  have hB := addRrsetOp_cases sec hint owner ty cls ttl rds (lift R a0)
  rw [hm] at hB
  simp only at hB
  obtain ⟨t0, ht0, hBt⟩ := same_lift_inv R a0 _ hB
  rcases addRrsetOp_trunc_down sec hint owner ty cls ttl rds R a0 _ hm with ⟨s0, hs0⟩ | hpn
  · rw [hs0] at g1
    simp only at g1
    rcases hr : addRrsetOp sec hint owner ty cls ttl rds A with ⟨r, A'⟩
    rw [hr] at g1
    simp only at g1
    subst g1
    have hA := addRrsetOp_cases sec hint owner ty cls ttl rds A
    rw [hr] at hA
    simp only at hA
    exact ⟨A', rfl, { t0 with hv := none }, rel_hv ht0.symm none,
      same_hv (Same.trans (Same.symm hA) (Same.trans hS hBt)) _ _, rfl⟩
  · rw [hpn] at g1
    exact absurd g1 hnp

end twin

/-! ### the judgement -/

/-- along the run from `ps`: the cursor and ARCOUNT only grow, `available` is untouched -/
def MonoAt {ε α : Type} (f : PS → Out ε α × PS) (ps : PS) : Prop :=
  ∀ a pt, f ps = (.ok a, pt) →
    ps.w.cursor ≤ pt.w.cursor ∧ pt.w.available = ps.w.available ∧ ps.w.arcount ≤ pt.w.arcount

/-- the result of the plain run leaves room for the `R` octets the signed side has reserved, and ARCOUNT
    below its maximum; in twins this is "the result fits the signed room", said of the plain run alone -/
def FitsSigned (R : Nat) (pt : PS) : Prop := pt.w.cursor + R ≤ pt.w.available ∧ pt.w.arcount + 1 ≤ 65535

/-- the two-run property at `ps` (a state of the plain run): whenever the run from `ps` succeeds and its
    result fits the signed room (`FitsSigned`), the run from any signed-side twin of `ps.w` that does not
    panic succeeds with the same result and log, and the final states are twins again -/
def TwoAt {ε α : Type} (f : PS → Out ε α × PS) (ps : PS) : Prop :=
  ∀ (L : Nat) (T : Option Writer.Tsig) (R : Nat), TwoPAt (fun b A => Twin L T R A b) (FitsSigned R) True f ps

/-- C01's judgement plus the two-run property at the state -/
def SafeX {ε α : Type} (f : PS → Out ε α × PS) (s : PS) (Q : α → State → Prop) : Prop :=
  SafeP W f s Q ∧ MonoAt f s ∧ TwoAt f s

theorem twoAt_pure {α : Type} (a : α) (s : PS) : MonoAt (pure a : PM α) s ∧ TwoAt (pure a : PM α) s :=
  ⟨fun b pt h => (by cases h; exact ⟨Nat.le_refl _, rfl, Nat.le_refl _⟩), fun _ _ _ => twoPAt_pure a s⟩

/-- a computation that fails without touching the state -/
theorem twoAt_err {α : Type} {f : PM α} {s : PS} {e : PErr} (h : f s = (.err e, s)) : MonoAt f s ∧ TwoAt f s :=
  ⟨fun b pt h' => (by rw [h] at h'; cases h'), fun _ _ _ => twoPAt_err h⟩

theorem twoAt_bind {α β : Type} {x : PM α} {g : α → PM β} {s : PS} {Q : α → State → Prop}
    (hs : SafeP W x s Q) (hx : MonoAt x s ∧ TwoAt x s)
    (hg : ∀ a s', W.I s'.w → Mono W.Den s.w s'.w → Q a s'.w → MonoAt (g a) s' ∧ TwoAt (g a) s') :
    MonoAt (x >>= g) s ∧ TwoAt (x >>= g) s := by
  obtain ⟨_, h2, h3, h4⟩ := hs
  have hgs : ∀ a s1, x s = (.ok a, s1) → MonoAt (g a) s1 ∧ TwoAt (g a) s1 := by
    intro a s1 hxs
    rw [hxs] at h2 h3 h4
    exact hg a s1 h2 h3 (h4 a rfl)
  refine ⟨fun b pt h => ?_, fun L T R => twoPAt_bind (hx.2 L T R) (fun a s1 b pt hxs hgp hf => ?_)
    (fun a s1 hxs => (hgs a s1 hxs).2 L T R)⟩
  · rw [PM.bind_apply] at h
    rcases hxs : x s with ⟨(a | e | _), s1⟩ <;> rw [hxs] at h
    · obtain ⟨m1, m2, m3⟩ := hx.1 a s1 hxs
      obtain ⟨n1, n2, n3⟩ := (hgs a s1 hxs).1 b pt h
      exact ⟨Nat.le_trans m1 n1, by rw [n2, m2], Nat.le_trans m3 n3⟩
    · cases h
    · cases h
  · -- the bounds at the end of the run hold at every point before
    obtain ⟨m1, m2, m3⟩ := (hgs a s1 hxs).1 b pt hgp
    exact ⟨by have := hf.1; omega, by have := hf.2; omega⟩

/-! ### the leaves -/

theorem Grows.monoAt {α : Type} {m : PM α} (hg : Grows m) (ps : PS) : MonoAt m ps := by
  intro a pt h
  obtain ⟨h0, h1⟩ := hg ps
  obtain ⟨c1, c2, _⟩ := h1 a pt h
  rw [h] at h0
  exact ⟨c1, c2, h0⟩

section leaves
set_option linter.unusedSectionVars false
variable (hSI : ScratchIndepI)
include hSI

theorem twoAt_hdrOp (ev : Ev) (c : AnsCall) (hpre : ∀ u, AnsPre c u) (ps : PS) (hi : W.I ps.w) :
    TwoAt (PM.hdrOp ev c.run) ps := fun L T R =>
  twoPAt_hdrOp ev c ps fun s' t hr hm hg => by
    have hav := hr.avail_hv.1
    have hta : t.available = ps.w.available := by have := (growsM_ansCall c ps.w).2.1; rw [hm] at this; exact this
    have h1 : t.cursor + R ≤ t.available := hg.1
    exact hr.call hSI c hi (hpre _) hm (by omega) hg.2

theorem twoAt_addCall (ev : AddEv) (c : AnsCall)
    (htr : ev.optional = true → ∃ sec hh o ty cls ttl rds, c = .addRrset sec hh o ty cls ttl rds)
    (ps : PS) (hi : W.I ps.w) (hp : AnsPre c { ps.w with hv := some [] }) :
    TwoAt (PM.addCall ev (Server.withHv [] c.run)) ps := by
  intro L T R
  have hi0 : Writer.I { ps.w with hv := some [] } := W.I_hv ps.w (some []) hi
  have hgr := (growsM_ansCall c { ps.w with hv := some [] }).2.1
  refine twoPAt_addCall ev c ps (fun _ _ x h => h.setHv x) (fun _ _ h => h.avail_hv.2) (fun s' t hr hm hg => ?_)
    (fun s' t hr hm ho hg hnp => ?_)
  all_goals
    have hav : s'.available + R = ps.w.available := hr.avail_hv.1
    have hta : t.available = ps.w.available := by rw [hm] at hgr; exact hgr
    have h1 : t.cursor + R ≤ t.available := hg.1
  · exact hr.call hSI c hi0 hp hm (by omega) hg.2
  · obtain ⟨sec, hh, o, ty, cls, ttl, rds, rfl⟩ := htr ho
    exact hr.call_trunc hSI sec hh o ty cls ttl rds hi0 hp hm (by omega) hg.2 (hnp trivial)

/-- the two-run property is carried through the answer phase -/
theorem twoAt_along : Along W (fun {_ _} f s => MonoAt f s ∧ TwoAt f s) where
  ret := fun a s _ => twoAt_pure a s
  err := twoAt_err
  bind := twoAt_bind
  setAa := fun b s hi => ⟨Grows.monoAt (grows_hdrOp _ _ (growsM_ansCall (.setAa b))) s,
    twoAt_hdrOp hSI _ (.setAa b) (fun _ => trivial) s hi⟩
  setRcode := fun v s hi => ⟨Grows.monoAt (grows_hdrOp _ _ (growsM_setRcode v)) s,
    twoAt_hdrOp hSI _ (.setRcode v) (fun _ => trivial) s hi⟩
  addRrs := fun optional sec hint owner ty cls ttl rds s hi hwf hh _ =>
    ⟨Grows.monoAt (grows_addCall _ _ (growsM_addRrsetOp sec hint owner ty cls ttl rds)) s,
    twoAt_addCall hSI _ (.addRrset sec hint owner ty cls ttl rds) (fun _ => ⟨_, _, _, _, _, _, _, rfl⟩) s hi
      ⟨hwf, hintOK_hv W (some []) hh⟩⟩

/-! ### the answering logic -/

/-- **the answering logic, with the two-run property** at every state that satisfies the writer's
    invariant and has a valid question hint -/
theorem inner_safeX (z : Zone.Zone) (hz : ZoneOK z) (qname : WName) (hq : qname.WF) (qtype : Nat)
    (hsub : z.apex <:+ fold qname) (s : PS) (hi : W.I s.w) (hh : HintOK W.Den s.w .qname qname) :
    SafeX (inner z qname qtype) s (fun _ _ => True) :=
  inner_safe (twoAt_along hSI) z hz qname hq qtype hsub s hi hh

end leaves

end QV.ServerContent
