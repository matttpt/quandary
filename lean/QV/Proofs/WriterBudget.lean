/-
  QV.Proofs.WriterBudget — "an operation whose uncompressed encoding fits in the remaining space
  never fails with truncation" (C12 (e)), for every state and every hint, valid or not: a routine
  has a budget (`Bud`: the size of what it writes without compression); it cannot report
  `Truncation` when the budget fits behind the cursor, and it never advances the cursor further.
  The budget of a `Routine` is its upper bound (`Routine.bud`).
  Also: a record without RDATA names, written without a hint, fails only for lack of space.
-/
import QV.Proofs.Writer
import QV.Proofs.WriterRdata

namespace QV.Writer
open QV QV.Wire

/-- `f` needs at most `b` octets -/
def Bud {α} (b : Nat) (f : M α) : Prop :=
  ∀ s, ((f s).1 = .err .Truncation → s.available < s.cursor + b) ∧
    (∀ a s', f s = (.ok a, s') → s'.cursor ≤ s.cursor + b ∧ s'.available = s.available)

theorem bud_bind {α β} {b1 b2 : Nat} {f : M α} {g : α → M β} (hf : Bud b1 f) (hg : ∀ a, Bud b2 (g a)) :
    Bud (b1 + b2) (f >>= g) := by
  intro s
  obtain ⟨h1, h2⟩ := hf s
  simp only [M.bind_apply]
  cases hfs : f s with
  | mk r s1 =>
    rw [hfs] at h1
    cases r with
    | ok a =>
      obtain ⟨k1, k2⟩ := h2 a s1 hfs
      obtain ⟨g1, g2⟩ := hg a s1
      refine ⟨fun ht => ?_, fun b s' hh => ?_⟩
      · have := g1 ht; omega
      · obtain ⟨m1, m2⟩ := g2 b s' hh
        exact ⟨by omega, by rw [m2, k2]⟩
    | err e =>
      refine ⟨fun ht => ?_, fun b s' hh => by cases hh⟩
      simp only [Out.err.injEq] at ht
      subst ht
      have := h1 rfl; omega
    | panic => exact ⟨(fun ht => by cases ht), fun b s' hh => by cases hh⟩

theorem bud_mono {α} {b b' : Nat} {f : M α} (h : Bud b f) (hb : b ≤ b') : Bud b' f := by
  intro s
  obtain ⟨h1, h2⟩ := h s
  exact ⟨(fun ht => by have := h1 ht; omega), fun a s' hh => by have := h2 a s' hh; exact ⟨by omega, this.2⟩⟩

theorem bud_pure {α} (a : α) : Bud 0 (pure a : M α) :=
  fun s => ⟨(fun h => by cases h), fun b s' h => by cases h; exact ⟨Nat.le_refl _, rfl⟩⟩
theorem bud_panic {α} : Bud 0 (M.panic : M α) :=
  fun s => ⟨(fun h => by cases h), fun b s' h => by cases h⟩
theorem bud_fail {α} (e : WriterErr) (he : e ≠ .Truncation) : Bud 0 (M.fail e : M α) :=
  fun s => ⟨(fun h => by simp only [M.fail_apply, Out.err.injEq] at h; exact absurd h he), fun b s' h => by cases h⟩
theorem bud_gets {α} (f : State → α) : Bud 0 (M.gets f) :=
  fun s => ⟨(fun h => by cases h), fun b s' h => by cases h; exact ⟨Nat.le_refl _, rfl⟩⟩
theorem bud_modify (f : State → State) (hc : ∀ s, (f s).cursor = s.cursor)
    (ha : ∀ s, (f s).available = s.available) : Bud 0 (M.modify f) :=
  fun s => ⟨(fun h => by cases h), fun b s' h => by cases h; exact ⟨by rw [hc]; omega, ha s⟩⟩

theorem bud_gets_bind {α β} {b : Nat} {f : State → α} {g : α → M β} (hg : ∀ a, Bud b (g a)) :
    Bud b (M.gets f >>= g) := by
  have := bud_bind (bud_gets f) hg
  simpa using this

theorem bud_tryPush (d : List UInt8) : Bud d.length (tryPush d) := by
  intro s
  rcases tryPush_cases d s with h | ⟨hr, h⟩ | ⟨_, _, h⟩ <;> rw [h]
  · exact ⟨(fun h => by cases h), fun b s' h => by cases h⟩
  · exact ⟨fun _ => hr, fun b s' h => by cases h⟩
  · exact ⟨(fun h => by cases h), fun b s' h => by cases h; exact ⟨Nat.le_refl _, rfl⟩⟩

theorem bud_write (pos : Nat) (d : List UInt8) : Bud 0 (write pos d) := by
  intro s
  rcases write_cases pos d s with h | ⟨_, h⟩ <;> rw [h]
  · exact ⟨(fun h => by cases h), fun b s' h => by cases h⟩
  · exact ⟨(fun h => by cases h), fun b s' h => by cases h; exact ⟨Nat.le_refl _, rfl⟩⟩

/-- the RDLENGTH block: two octets and what `body` needs -/
theorem bud_backpatch {body : M Unit} {B : Nat} (hb : Bud B body) : Bud (2 + B) (do
    let av ← M.gets (·.available)
    let st ← M.gets (·.cursor)
    if av < st then M.panic
    else if av - st < 2 then M.fail .Truncation
    else do
      M.modify fun s => { s with cursor := s.cursor + 2 }
      body
      let cur' ← M.gets (·.cursor)
      if cur' < st + 2 then M.panic
      else write st (u16be ((cur' - st - 2) % 65536))) := by
  intro s
  simp only [M.bind_apply, M.gets_apply]
  by_cases h1 : s.available < s.cursor
  · rw [if_pos h1]; exact ⟨(fun h => by cases h), fun b s' h => by cases h⟩
  · rw [if_neg h1]
    by_cases h2 : s.available - s.cursor < 2
    · rw [if_pos h2]; exact ⟨(fun _ => by omega), fun b s' h => by cases h⟩
    · rw [if_neg h2]
      simp only [M.bind_apply, M.modify_apply]
      obtain ⟨g1, g2⟩ := hb { s with cursor := s.cursor + 2 }
      cases hw : body { s with cursor := s.cursor + 2 } with
      | mk r s2 =>
        rw [hw] at g1
        cases r with
        | ok u =>
          obtain ⟨k1, k2⟩ := g2 u s2 hw
          simp only [M.gets_apply]
          by_cases h3 : s2.cursor < s.cursor + 2
          · rw [if_pos h3]; exact ⟨(fun h => by cases h), fun b s' h => by cases h⟩
          · rw [if_neg h3]
            obtain ⟨w1, w2⟩ := bud_write s.cursor (u16be ((s2.cursor - s.cursor - 2) % 65536)) s2
            refine ⟨fun h => by have := w1 h; simp only at k1 k2; omega, fun b s' h => ?_⟩
            obtain ⟨m1, m2⟩ := w2 b s' h
            simp only at k1 k2
            exact ⟨by omega, by rw [m2, k2]⟩
        | err e =>
          refine ⟨fun h => ?_, fun b s' h => by cases h⟩
          have := g1 h; simp only at this; omega
        | panic => exact ⟨(fun h => by cases h), fun b s' h => by cases h⟩

/-- the budget of a routine is its upper bound -/
theorem Routine.bud {rec inv : Prop} {b B : Nat} {α} {f : M α} (h : Routine rec inv b B f) : Bud B f := by
  induction h with
  | pure a => exact bud_pure a
  | invalid _ _ _ => exact bud_mono (bud_fail _ nofun) (Nat.zero_le _)
  | panic _ _ => exact bud_mono bud_panic (Nat.zero_le _)
  | bind _ _ ih1 ih2 => exact bud_bind ih1 ih2
  | mono _ _ hB ih => exact bud_mono ih hB
  | gets _ => exact bud_gets _
  | setCtx _ c => exact bud_modify _ (fun _ => rfl) (fun _ => rfl)
  | logPtr ev => exact bud_modify _ (fun _ => rfl) (fun _ => rfl)
  | setOwner _ p => exact bud_modify _ (fun _ => rfl) (fun _ => rfl)
  | setInRdata _ p => exact bud_modify _ (fun _ => rfl) (fun _ => rfl)
  | setQname _ p => exact bud_modify _ (fun s => by split <;> rfl) (fun s => by split <;> rfl)
  | hvPush _ p =>
    refine bud_modify _ (fun s => ?_) (fun s => ?_)
    · split
      · split <;> rfl
      · rfl
    · split
      · split <;> rfl
      · rfl
  | tryPush d => exact bud_tryPush d
  | pushLabels d ls wr _ ih =>
    refine bud_gets_bind fun c => bud_bind (bud_tryPush d) fun _ => ?_
    have := bud_bind (bud_modify _ (fun _ => rfl) (fun _ => rfl) : Bud 0 (ghostLabels c ls wr)) fun _ => ih c
    rwa [Nat.zero_add] at this
  | backpatch _ _ ih => exact bud_backpatch ih

/-- the uncompressed size of one record -/
def rrLen (owner : WName) (rd : List UInt8) : Nat := owner.wire.length + 10 + rd.length

theorem bud_addRr (hint : Hint) (owner : WName) (ty cls ttl : Nat) (rd : List UInt8) :
    Bud (rrLen owner rd) (addRr hint owner ty cls ttl rd) := (Routine.addRr hint owner ty cls ttl rd).bud

theorem bud_addRrset (hint : Hint) (owner : WName) (ty cls ttl : Nat) (rds : List (List UInt8)) (n : Nat) :
    Bud ((rds.map (rrLen owner)).sum) (addRrset hint owner ty cls ttl rds n) :=
  (Routine.addRrset owner ty cls ttl rds hint n).bud

/-! ### the public operations -/

theorem bud_changeSection (sec : RrSection) : Bud 0 (changeSection sec) := by
  intro s
  rcases changeSection_cases sec s with h | ⟨x, h⟩ <;> rw [h]
  · exact ⟨(fun h => by cases h), fun b s' h => by cases h⟩
  · exact ⟨(fun h => by cases h), fun b s' h => by cases h; exact ⟨Nat.le_refl _, rfl⟩⟩

theorem bud_setCount (sec : RrSection) (n : Nat) : Bud 0 (setCount sec n) := by
  cases sec <;> exact bud_modify _ (fun _ => rfl) (fun _ => rfl)

/-- `add_*_rr`: `Truncation` only if the uncompressed record does not fit -/
theorem addRrOp_truncation (sec : RrSection) (hint : Hint) (owner : WName) (ty cls ttl : Nat)
    (rd : List UInt8) (s : State)
    (h : (addRrOp sec hint owner ty cls ttl rd s).1 = .err .Truncation) :
    s.available < s.cursor + rrLen owner rd := by
  unfold addRrOp at h
  rw [withRollback_fst] at h
  have hb : Bud (0 + (rrLen owner rd + 0)) (changeSection sec >>= fun _ => do
      addRr hint owner ty cls (ttlFrom ttl) rd
      let c ← M.gets (getCount sec)
      if c + 1 > 65535 then M.fail .CountOverflow else setCount sec (c + 1)) :=
    bud_bind (bud_changeSection sec) fun _ => bud_bind (bud_addRr hint owner ty cls (ttlFrom ttl) rd)
      fun _ => bud_gets_bind fun c => by
        split
        · exact bud_fail _ (by simp)
        · exact bud_setCount _ _
  have := (hb s).1 h
  omega

theorem addRrsetOp_truncation (sec : RrSection) (hint : Hint) (owner : WName) (ty cls ttl : Nat)
    (rds : List (List UInt8)) (s : State)
    (h : (addRrsetOp sec hint owner ty cls ttl rds s).1 = .err .Truncation) :
    s.available < s.cursor + (rds.map (rrLen owner)).sum := by
  unfold addRrsetOp at h
  rw [withRollback_fst] at h
  have hb : Bud (0 + ((rds.map (rrLen owner)).sum + 0)) (changeSection sec >>= fun _ => do
      let n ← addRrset hint owner ty cls (ttlFrom ttl) rds 0
      let c ← M.gets (getCount sec)
      if n > 65535 then M.fail .CountOverflow
      else if c + n > 65535 then M.fail .CountOverflow
      else setCount sec (c + n)) :=
    bud_bind (bud_changeSection sec) fun _ => bud_bind (bud_addRrset hint owner ty cls (ttlFrom ttl) rds 0)
      fun n => bud_gets_bind fun c => by
        split
        · exact bud_fail _ (by simp)
        · split
          · exact bud_fail _ (by simp)
          · exact bud_setCount _ _
  have := (hb s).1 h
  omega

theorem bud_addQuestionBody (qn : WName) (qt qc : Nat) : Bud (qn.wire.length + 4) (addQuestionBody qn qt qc) :=
  (Routine.addQuestionBody (inv := False) qn qt qc).bud

theorem addQuestion_truncation (qn : WName) (qt qc : Nat) (s : State)
    (h : (addQuestion qn qt qc s).1 = .err .Truncation) : s.available < s.cursor + (qn.wire.length + 4) := by
  unfold addQuestion at h
  simp only [M.bind_apply, M.gets_apply] at h
  split at h
  · cases h
  · split at h
    · cases h
    · simp only [M.bind_apply] at h
      have hb := (bud_addQuestionBody qn qt qc s).1
      have hf := withRollback_fst (addQuestionBody qn qt qc) s
      cases hw : withRollback (addQuestionBody qn qt qc) s with
      | mk r s' =>
        rw [hw] at h hf
        cases r with
        | ok u => cases h
        | err e =>
          simp only [] at h hf
          exact hb (by rw [← hf]; exact h)
        | panic => cases h

/-! ### which errors can occur while a record without RDATA names is written -/

/-- a record of a type without name components, written without a hint, can only fail for lack
    of space: what `InvalidRdata` says of the RDATA (`tells_addRr`) cannot be said of such a type -/
theorem onlyTrunc_addRr_nameless (owner : WName) (ty cls ttl : Nat) (rd : List UInt8)
    (hct : componentTypes cls ty = some []) : Only (· = .Truncation) (addRr .none owner ty cls ttl rd) := by
  intro s
  refine ⟨trivial, fun e he => ?_⟩
  rcases ((errLaw (S := fun e => e = .Truncation ∨ e = .InvalidRdata) (Or.inl rfl)).addRr (Or.inr rfl)
    .none owner ty cls ttl rd).err he with h | h
  · exact h
  · subst h
    have := (tells_addRr .none owner ty cls ttl rd s).2 he
    simp only [rdataOK, hct, compsOK] at this
    cases this

end QV.Writer
