/-
  QV.Proofs.ZoneLookup — the tree walk `lookup_impl` equals the specification's lookup.

  Two steps: (i) under `Rel`, the walk over the tree is the same walk over the flat list
  (`walkF`); (ii) that walk computes `specLookupBase` (cut = first NS owner on the way down,
  closest encloser = last existing name on the way down).  Then, for every zone built through the
  API (`Rel.reachable`), the four public lookups equal their specifications (`lookupBase_eq_spec`,
  `lookup_eq_spec`, `lookupAddrs_eq_spec`, `lookupAll_eq_spec`).
-/
import QV.Proofs.ZoneRefine

namespace QV.Zone
open QV QV.NameL QV.Spec.Zone

/-! ### the type and class codes read off the source are the specification's -/

theorem T_NS_eq : Gen.T_NS = NS := by decide
theorem T_CNAME_eq : Gen.T_CNAME = CNAME := by decide
theorem T_A_eq : Gen.T_A = A := by decide
theorem T_AAAA_eq : Gen.T_AAAA = AAAA := by decide
theorem T_SOA_eq : Gen.T_SOA = SOA := by decide
theorem T_MX_eq : Gen.T_MX = MX := by decide
theorem CLASS_IN_eq : Gen.CLASS_IN = IN := by decide
theorem CLASS_CH_eq : Gen.CLASS_CH = CH := by decide

/-! ### (i) tree walk = flat walk -/

/-- the walk of `lookup_impl`, reading the flat list instead of the tree -/
def walkF (s : SZone) (sbc : Bool) : Name → List Label → Bool → Base
  | nm, path, atApex =>
    match (if !atApex && !sbc then rrset s nm NS else none) with
    | some ns => .referral nm ns
    | none =>
      match path with
      | [] => .found (rrsetsAt s nm) none
      | l :: rest =>
        if nameExists s (l :: nm) then walkF s sbc (l :: nm) rest false
        else if nameExists s (asterisk :: nm) then
          .found (rrsetsAt s (asterisk :: nm)) (some (asterisk :: nm))
        else .nxDomain

theorem find_snoc (root : Node) (pre : List Label) (rr : List Rrset) (ch : List (Label × Node)) (l : Label)
    (h : find root pre = some (.mk rr ch)) : find root (pre ++ [l]) = childGet ch l := by
  induction pre generalizing root with
  | nil =>
    simp only [find] at h; cases h
    simp only [List.nil_append, find]
    cases childGet ch l <;> rfl
  | cons a pre ih =>
    obtain ⟨rr0, ch0⟩ := root
    simp only [find, List.cons_append] at h ⊢
    cases hc : childGet ch0 a with
    | none => simp [hc] at h
    | some c => simp only [hc] at h ⊢; exact ih c h

theorem lookupImpl_eq_walk {z : Zone} {s : SZone} (h : Rel z s) (sbc : Bool) :
    ∀ (path pre : List Label) (node : Node) (atApex : Bool), find z.root pre = some node →
      lookupImpl sbc node (nameAt s.apex pre) path atApex = walkF s sbc (nameAt s.apex pre) path atApex := by
  intro path
  induction path with
  | nil =>
    intro pre node atApex hf
    obtain ⟨rr, ch⟩ := node
    have hrrs : rrs z.root pre = some rr := by simp [rrs, hf, Node.rrsets]
    have hlk := h.look pre rr NS hrrs
    have heq := h.rrs_eq pre
    rw [hrrs] at heq
    have hrr : rr = rrsetsAt s (nameAt s.apex pre) := by
      split at heq
      · exact Option.some.inj heq
      · cases heq
    unfold lookupImpl walkF
    rw [T_NS_eq, hlk]
    cases (if (!atApex && !sbc) = true then rrset s (nameAt s.apex pre) NS else none) with
    | some ns => rfl
    | none => simp [hrr]
  | cons l rest ih =>
    intro pre node atApex hf
    obtain ⟨rr, ch⟩ := node
    have hrrs : rrs z.root pre = some rr := by simp [rrs, hf, Node.rrsets]
    have hlk := h.look pre rr NS hrrs
    have hchild : ∀ l', find z.root (pre ++ [l']) = childGet ch l' := fun l' => find_snoc z.root pre rr ch l' hf
    have hex : ∀ l', (childGet ch l').isSome = nameExists s (l' :: nameAt s.apex pre) := by
      intro l'
      have := h.ex (pre ++ [l'])
      rw [nameAt_cons] at this
      rw [← this, rrs, hchild]; simp
    unfold lookupImpl walkF
    rw [T_NS_eq, hlk]
    cases (if (!atApex && !sbc) = true then rrset s (nameAt s.apex pre) NS else none) with
    | some ns => rfl
    | none =>
      simp only
      cases hc : childGet ch l with
      | some sub =>
        have : nameExists s (l :: nameAt s.apex pre) = true := by rw [← hex l, hc]; rfl
        simp only [this, if_true]
        have := ih (pre ++ [l]) sub false (by rw [hchild, hc])
        rw [nameAt_cons] at this
        exact this
      | none =>
        have : nameExists s (l :: nameAt s.apex pre) = false := by rw [← hex l, hc]; rfl
        simp only [this, Bool.false_eq_true, if_false]
        cases hw : childGet ch asterisk with
        | some w =>
          have hwe : nameExists s (asterisk :: nameAt s.apex pre) = true := by rw [← hex asterisk, hw]; rfl
          simp only [hwe, if_true]
          have heq := h.rrs_eq (pre ++ [asterisk])
          rw [nameAt_cons, hwe, rrs, hchild, hw] at heq
          simp at heq
          rw [heq]
        | none =>
          have hwe : nameExists s (asterisk :: nameAt s.apex pre) = false := by rw [← hex asterisk, hw]; rfl
          simp [hwe]

/-! ### (ii) flat walk = `specLookupBase` -/

/-- the names visited below `nm` when following `path` -/
def ext : Name → List Label → List Name
  | _, [] => []
  | nm, l :: rest => (l :: nm) :: ext (l :: nm) rest

theorem tails_append (nm : Name) (path : List Label) :
    tails (path.reverse ++ nm) = (ext nm path).reverse ++ tails nm := by
  induction path generalizing nm with
  | nil => simp [ext]
  | cons l rest ih =>
    have : (l :: rest).reverse ++ nm = rest.reverse ++ (l :: nm) := by simp
    rw [this, ih (l :: nm)]
    simp [ext, tails]

theorem mem_tails {e n : Name} (h : e ∈ tails n) : e <:+ n := by
  induction n with
  | nil => simp [tails] at h; subst h; exact List.suffix_refl _
  | cons l n ih =>
    simp only [tails, List.mem_cons] at h
    rcases h with h | h
    · subst h; exact List.suffix_refl _
    · exact (ih h).trans (List.suffix_cons l n)

theorem self_mem_tails (n : Name) : n ∈ tails n := by cases n <;> simp [tails]

theorem mem_ext {nm : Name} {path : List Label} {e : Name} (h : e ∈ ext nm path) :
    nm <:+ e ∧ nm.length < e.length ∧ e <:+ path.reverse ++ nm := by
  induction path generalizing nm with
  | nil => simp [ext] at h
  | cons l rest ih =>
    simp only [ext, List.mem_cons] at h
    have hrw : (l :: rest).reverse ++ nm = rest.reverse ++ (l :: nm) := by simp
    rcases h with h | h
    · subst h
      refine ⟨List.suffix_cons l nm, by simp, ?_⟩
      rw [hrw]; exact List.suffix_append _ _
    · obtain ⟨h1, h2, h3⟩ := ih h
      refine ⟨(List.suffix_cons l nm).trans h1, by simp at h2; omega, ?_⟩
      rw [hrw]; exact h3

theorem mem_ext_cons {nm : Name} {l : Label} {rest : List Label} {e : Name} (h : e ∈ ext nm (l :: rest)) :
    (l :: nm) <:+ e := by
  simp only [ext, List.mem_cons] at h
  rcases h with h | h
  · subst h; exact List.suffix_refl _
  · exact (mem_ext h).1

theorem filter_tails_apex (apex : Name) : (tails apex).filter (fun s => apex.isSuffixOf s) = [apex] := by
  have : ∀ n : Name, n.length < apex.length ∨ n = apex →
      (tails n).filter (fun s => apex.isSuffixOf s) = if n = apex then [apex] else [] := by
    intro n
    induction n with
    | nil =>
      intro h
      by_cases ha : apex = []
      · subst ha; simp [tails]
      · have : ([] : Name) ≠ apex := fun e => ha e.symm
        simp [tails, this, ha]
    | cons l n ih =>
      intro h
      simp only [tails, List.filter_cons]
      by_cases he : l :: n = apex
      · subst he
        have : n ≠ l :: n := fun e => by have := congrArg List.length e; simp at this
        simp [ih (Or.inl (by simp)), this]
      · have hlen : (l :: n).length < apex.length := by rcases h with h | h; exact h; exact absurd h he
        have hn : ¬ apex <:+ l :: n := fun hs => by have := hs.length_le; omega
        have hb : apex.isSuffixOf (l :: n) = false := isSuffixOf_eq_false hn
        have hne : n ≠ apex := fun e => by subst e; simp only [List.length_cons] at hlen; omega
        simp [hb, he, ih (Or.inl (by simp at hlen; omega)), hne]
  simpa using this apex (Or.inr rfl)

theorem pathBelow_apex (apex : Name) : pathBelow apex apex = [] := by
  unfold pathBelow
  have h1 : (tails apex).filter (fun s => apex.isSuffixOf s && s != apex)
      = ((tails apex).filter (fun s => apex.isSuffixOf s)).filter (fun s => s != apex) := by
    rw [List.filter_filter]; congr 1; funext s; exact Bool.and_comm _ _
  rw [h1, filter_tails_apex]; simp

theorem filter_ext_all {apex nm : Name} (ha : apex <:+ nm) (path : List Label) (f : Name → Bool)
    (hf : ∀ e, apex <:+ e → apex.length < e.length → f e = true) : (ext nm path).filter f = ext nm path := by
  rw [List.filter_eq_self]
  intro e he
  obtain ⟨h1, h2, _⟩ := mem_ext he
  exact hf e (ha.trans h1) (by have := ha.length_le; omega)

theorem pathBelow_append {apex nm : Name} (ha : apex <:+ nm) (path : List Label) :
    pathBelow apex (path.reverse ++ nm) = pathBelow apex nm ++ ext nm path := by
  unfold pathBelow
  rw [tails_append, List.filter_append, List.reverse_append, List.filter_reverse, List.reverse_reverse]
  congr 1
  apply filter_ext_all ha
  intro e h1 h2
  have : e ≠ apex := fun e' => by subst e'; omega
  simp [List.isSuffixOf_iff_suffix.mpr h1, this]

theorem closestEncloser_append {s : SZone} {nm : Name} (ha : s.apex <:+ nm) (path : List Label) :
    closestEncloser s (path.reverse ++ nm) =
      ((ext nm path).reverse ++ (tails nm).filter (fun e => s.apex.isSuffixOf e)).find? (nameExists s) := by
  unfold closestEncloser
  have hf := filter_ext_all ha path (fun e => s.apex.isSuffixOf e)
    (by intro e h1 _; exact List.isSuffixOf_iff_suffix.mpr h1)
  rw [tails_append, List.filter_append, List.filter_reverse, hf]

theorem nameExists_false_below {s : SZone} {m e : Name} (hm : nameExists s m = false) (ha : s.apex <:+ m)
    (he : m <:+ e) : nameExists s e = false := by
  cases h : nameExists s e with
  | false => rfl
  | true =>
    have := ((nameExists_iff s e).mp h).up he ha
    rw [← nameExists_iff, hm] at this; cases this

theorem owns_false_of_not_exists {s : SZone} {e : Name} (h : nameExists s e = false) (t : Nat) : owns s e t = false := by
  cases ho : owns s e t with
  | false => rfl
  | true =>
    have := ((owns_iff s e t).mp ho).exists
    rw [← nameExists_iff, h] at this; cases this

theorem owns_of_rrset {s : SZone} {n : Name} {t : Nat} : owns s n t = (rrset s n t).isSome := by
  cases hr : rrset s n t with
  | none =>
    have := (rrset_eq_none s n t).mp hr
    cases ho : owns s n t with
    | false => rfl
    | true => exact absurd ((owns_iff s n t).mp ho) this
  | some x => exact (owns_iff s n t).mpr (rrset_some_owns hr)

/-- the flat walk from `nm` along `path` answers for the name `n = path.reverse ++ nm`, provided
    the candidates for the cut and for the closest encloser that are still to be examined are
    the ones the walk is going to visit -/
theorem walkF_eq_spec (s : SZone) (sbc : Bool) (n : Name) :
    ∀ (path : List Label) (nm : Name) (atApex : Bool),
      path.reverse ++ nm = n → s.apex <:+ nm → nameExists s nm = true →
      (sbc = false → specCut s n = ((if atApex then [] else [nm]) ++ ext nm path).find? (fun c => owns s c NS)) →
      closestEncloser s n = ((ext nm path).reverse ++ [nm]).find? (nameExists s) →
      walkF s sbc nm path atApex = specLookupBase s n sbc := by
  intro path
  induction path with
  | nil =>
    intro nm atApex hn ha hex hcut hce
    simp only [List.reverse_nil, List.nil_append] at hn
    subst hn
    have hsuf : s.apex.isSuffixOf nm = true := List.isSuffixOf_iff_suffix.mpr ha
    unfold walkF specLookupBase
    simp only [hsuf, Bool.not_true, Bool.false_eq_true, if_false]
    cases sbc with
    | true => simp [hex]
    | false =>
      have hcut' := hcut rfl
      simp only [ext, List.append_nil] at hcut'
      cases atApex with
      | true =>
        simp only [if_true, List.find?_nil] at hcut'
        simp [hcut', hex]
      | false =>
        simp only [Bool.false_eq_true, if_false, List.find?_cons, List.find?_nil, owns_of_rrset] at hcut'
        cases hr : rrset s nm NS with
        | some ns => simp [hr] at hcut'; simp [hr, hcut']
        | none => simp [hr] at hcut'; simp [hcut', hex]
  | cons l rest ih =>
    intro nm atApex hn ha hex hcut hce
    have hn' : rest.reverse ++ (l :: nm) = n := by rw [← hn]; simp
    have han : s.apex <:+ n := by rw [← hn]; exact ha.trans (List.suffix_append _ _)
    have hsuf : s.apex.isSuffixOf n = true := List.isSuffixOf_iff_suffix.mpr han
    have ha' : s.apex <:+ l :: nm := ha.trans (List.suffix_cons l nm)
    unfold walkF
    -- the NS test at `nm`
    by_cases href : ∃ ns, (if (!atApex && !sbc) = true then rrset s nm NS else none) = some ns
    · obtain ⟨ns, hns⟩ := href
      rw [hns]
      have hb : (!atApex && !sbc) = true := by
        cases hb : (!atApex && !sbc) with
        | true => rfl
        | false => rw [hb] at hns; simp at hns
      rw [hb, if_pos rfl] at hns
      simp only [Bool.and_eq_true, Bool.not_eq_true'] at hb
      obtain ⟨hat, hs⟩ := hb
      subst hat; subst hs
      have hcut' := hcut rfl
      simp only [Bool.false_eq_true, if_false, List.cons_append, List.nil_append, List.find?_cons, owns_of_rrset, hns,
        Option.isSome_some] at hcut'
      unfold specLookupBase
      simp [hsuf, hcut', hns]
    · have hnone : (if (!atApex && !sbc) = true then rrset s nm NS else none) = none := by
        cases hh : (if (!atApex && !sbc) = true then rrset s nm NS else none) with
        | none => rfl
        | some ns => exact absurd ⟨ns, hh⟩ href
      rw [hnone]
      simp only
      -- candidates for the cut no longer include `nm`
      have hcut2 : sbc = false → specCut s n = (ext nm (l :: rest)).find? (fun c => owns s c NS) := by
        intro hs
        rw [hcut hs]
        cases atApex with
        | true => simp
        | false =>
          subst hs
          simp only [Bool.not_false, Bool.and_self, if_true] at hnone
          simp [owns_of_rrset, hnone]
      by_cases hch : nameExists s (l :: nm) = true
      · simp only [hch, if_true]
        apply ih (l :: nm) false hn' ha' hch
        · intro hs; rw [hcut2 hs]; simp [ext]
        · rw [hce]
          simp only [ext, List.reverse_cons, List.append_assoc, List.cons_append, List.nil_append]
          rw [List.find?_append, List.find?_append]
          simp [hch]
      · have hch' : nameExists s (l :: nm) = false := by simpa using hch
        simp only [hch', Bool.false_eq_true, if_false]
        -- nothing at or below `l :: nm` exists
        have hnone_ext : ∀ e ∈ ext nm (l :: rest), nameExists s e = false :=
          fun e he => nameExists_false_below hch' ha' (mem_ext_cons he)
        have hcutnone : sbc = false → specCut s n = none := by
          intro hs
          rw [hcut2 hs, List.find?_eq_none]
          intro e he
          simp [owns_false_of_not_exists (hnone_ext e he)]
        have hnex : nameExists s n = false := by
          apply nameExists_false_below hch' ha'
          rw [← hn']; exact List.suffix_append _ _
        have hce' : closestEncloser s n = some nm := by
          rw [hce, List.find?_append]
          have : (ext nm (l :: rest)).reverse.find? (nameExists s) = none := by
            rw [List.find?_eq_none]
            intro e he
            simp [hnone_ext e (List.mem_reverse.mp he)]
          simp [this, hex]
        unfold specLookupBase
        simp only [hsuf, Bool.not_true, Bool.false_eq_true, if_false, hnex, hce']
        cases sbc with
        | true => simp
        | false => simp [hcutnone rfl]

/-- the tree walk of a zone related to `s` computes the specification's node search -/
theorem lookupImpl_eq_spec {z : Zone} {s : SZone} (h : Rel z s) (sbc : Bool) (n : Name) (hn : s.apex <:+ n) :
    lookupImpl sbc z.root z.apex (relPath z.apex.length n) true = specLookupBase s n sbc := by
  have h0 := lookupImpl_eq_walk h sbc (relPath s.apex.length n) [] z.root true rfl
  simp only [nameAt, List.reverse_nil, List.nil_append] at h0
  rw [h.apex, h0]
  have hrel : (relPath s.apex.length n).reverse ++ s.apex = n := nameAt_relPath s.apex n hn
  apply walkF_eq_spec s sbc n _ s.apex true hrel (List.suffix_refl _)
  · simp [nameExists]
  · intro _
    simp only [if_true, List.nil_append]
    unfold specCut
    rw [← hrel, pathBelow_append (List.suffix_refl _), pathBelow_apex, hrel]; simp
  · rw [← hrel, closestEncloser_append (List.suffix_refl _), filter_tails_apex, hrel]

/-! ### reachable zones -/

theorem Rel.build {z : Zone} {s : SZone} (h : Rel z s) (eqv : Eqv) (rs : List Rec) :
    Rel (build eqv z rs) (specBuild eqv s rs) := by
  induction rs generalizing z s with
  | nil => exact h
  | cons r rs ih =>
    simp only [QV.Zone.build, specBuild, List.foldl_cons]
    exact ih (h.add eqv r).1

theorem Rel.reachable (eqv : Eqv) (apex : Name) (cls : Nat) (glue : GluePolicy) (rs : List Rec) :
    Rel (QV.Zone.build eqv (Zone.new apex cls glue) rs) (specBuild eqv ⟨apex, cls, glue, []⟩ rs) :=
  (Rel.init apex cls glue).build eqv rs

/-- `lookup_base` = the specification's node search, whenever the lookup's precondition holds -/
theorem lookupBase_eq_spec {z : Zone} {s : SZone} (h : Rel z s) (n : Name) (o : Opts)
    (hc : constrained s n o = true) :
    lookupBase z n o = .ok (specLookupBase s n o.searchBelowCuts) := by
  unfold lookupBase
  rw [h.apex]
  by_cases hz : s.apex <:+ n
  · have e1 : eqOrSubdomainOf n s.apex = true := (eqOrSubdomainOf_iff _ _).mpr hz
    have hl : ¬ n.length < s.apex.length := by have := hz.length_le; omega
    simp only [e1, Bool.not_true, Bool.and_false, Bool.false_eq_true, if_false, hl]
    have := lookupImpl_eq_spec h o.searchBelowCuts n hz
    rw [h.apex] at this
    rw [this]
  · have e1 := eqOrSubdomainOf_eq_false hz
    have e2 : s.apex.isSuffixOf n = false := isSuffixOf_eq_false hz
    have hu : o.unchecked = false := by
      simp only [constrained, e2, Bool.or_false, Bool.not_eq_true'] at hc; exact hc
    simp [hu, e1, specLookupBase, e2]

theorem lookup_eq_spec {z : Zone} {s : SZone} (h : Rel z s) (n : Name) (t : Nat) (o : Opts)
    (hc : constrained s n o = true) : lookup z n t o = .ok (specLookup s n t o) := by
  unfold lookup specLookup
  rw [lookupBase_eq_spec h n o hc]
  cases specLookupBase s n o.searchBelowCuts with
  | found rrsets sos =>
    simp only [lookupRrset_eq_findType, T_CNAME_eq]
    cases findType rrsets t with
    | some x => rfl
    | none => cases findType rrsets CNAME <;> rfl
  | referral c ns => rfl
  | nxDomain => rfl
  | wrongZone => rfl

theorem lookupAddrs_eq_spec {z : Zone} {s : SZone} (h : Rel z s) (n : Name) (o : Opts)
    (hc : constrained s n o = true) : lookupAddrs z n o = .ok (specLookupAddrs s n o) := by
  unfold lookupAddrs specLookupAddrs
  rw [lookupBase_eq_spec h n o hc]
  cases specLookupBase s n o.searchBelowCuts with
  | found rrsets sos => simp only [lookupRrset_eq_findType, T_A_eq, T_AAAA_eq, CLASS_IN_eq, h.cls]
  | referral c ns => rfl
  | nxDomain => rfl
  | wrongZone => rfl

theorem lookupAll_eq_spec {z : Zone} {s : SZone} (h : Rel z s) (n : Name) (o : Opts)
    (hc : constrained s n o = true) : lookupAll z n o = .ok (specLookupAll s n o) := by
  unfold lookupAll specLookupAll
  rw [lookupBase_eq_spec h n o hc]
  cases specLookupBase s n o.searchBelowCuts <;> rfl

end QV.Zone
