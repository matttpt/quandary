/-
  QV.Proofs.ServerAnswerFoot — the footprint of a writer routine with respect to the room.

  Run `f` from one state seen in two rooms, the first with no more octets available than the second.
  `Foot put f`: either the two runs agree — same outcome, same final state up to the room — or the run
  in the smaller room stopped short (with `Truncation`, or the panic of a cursor beyond the room) at a
  point the other run passed; then the room is really smaller, and the other run, if it succeeds, ends
  beyond it. Independence of the limit (`Sim`, ServerAnswerLimit), commutation with a change of the
  TSIG slot and ARCOUNT (`Com`, ServerAnswerFields) and persistence of outcomes when room is added
  (`MonoR`, ServerAnswerMono) are three readings of it. `put` says what a room is: `Room.put` for the
  record writer proper (limit, available, TSIG slot, ARCOUNT), `Room.put3` — without ARCOUNT — for
  `add_*_rr(set)`, which read and update the counts.
-/
import QV.Proofs.ServerAnswerCap

namespace QV.ServerAnswer
open QV QV.Writer

/-- a room: limit, octets available, TSIG slot, additional count -/
structure Room where
  l : Nat
  a : Nat
  t : Option Writer.Tsig
  c : Nat

/-- `s` in the room `r` -/
def Room.put (r : Room) (s : State) : State :=
  { s with limit := r.l, available := r.a, tsig := r.t, arcount := r.c }

/-- `s` in the room `r`, its additional count left alone -/
def Room.put3 (r : Room) (s : State) : State := { s with limit := r.l, available := r.a, tsig := r.t }

/-- on success the cursor has not moved back -/
def CurMono {α} (f : M α) : Prop := ∀ s x u, f s = (.ok x, u) → s.cursor ≤ u.cursor

/-- the footprint of `f` in the room: from one state seen in two rooms the runs agree up to the room, or the
    run in the smaller room stopped short at a point the other passed; and the cursor does not go back -/
structure Foot (put : Room → State → State) {α} (f : M α) : Prop where
  cur : CurMono f
  two : ∀ (s : State) (r r' : Room), r.a ≤ r'.a →
    (∃ o u, f (put r' s) = (o, put r' u) ∧ f (put r s) = (o, put r u)) ∨
    (((f (put r s)).1 = .err .Truncation ∨ (f (put r s)).1 = .panic) ∧ r.a < r'.a ∧
      ∀ x u', f (put r' s) = (.ok x, u') → r.a < u'.cursor)

theorem Nice.curMono {α} {b : Nat} {f : M α} (h : Nice b f) : CurMono f := fun s x u hf => by
  have := (h s).2.2 x (by rw [hf]); rw [hf] at this; exact Nat.le_trans (Nat.le_add_right _ _) this

theorem curMono_bind {α β} {f : M α} {g : α → M β} (hf : CurMono f) (hg : ∀ a, CurMono (g a)) :
    CurMono (f >>= g) := by
  intro s y u h
  rw [M.bind_apply] at h
  rcases hr : f s with ⟨(x | e | _), v⟩ <;> rw [hr] at h
  · exact Nat.le_trans (hf s x v hr) (hg x v y u h)
  · cases h
  · cases h

section generic
variable {put : Room → State → State}

/-- a computation that does not look at the room -/
theorem foot_blind {α} {f : M α} (hc : CurMono f) (hf : ∀ r s, f (put r s) = ((f s).1, put r (f s).2)) :
    Foot put f :=
  ⟨hc, fun s r r' _ => Or.inl ⟨(f s).1, (f s).2, hf r' s, hf r s⟩⟩

theorem foot_const {α} (o : Out WriterErr α) : Foot put (fun s => (o, s)) :=
  foot_blind (fun _ _ _ h => by cases h; exact Nat.le_refl _) fun _ _ => rfl

theorem foot_gets {α} (g : State → α) (hg : ∀ r s, g (put r s) = g s) : Foot put (M.gets g) :=
  foot_blind (fun _ _ _ h => by cases h; exact Nat.le_refl _) fun r s => by rw [M.gets_apply, M.gets_apply, hg]

theorem foot_modify (g : State → State) (hc : ∀ s, s.cursor ≤ (g s).cursor) (hg : ∀ r s, g (put r s) = put r (g s)) :
    Foot put (M.modify g) :=
  foot_blind (fun s _ _ h => by cases h; exact hc s) fun r s => by rw [M.modify_apply, M.modify_apply, hg]

theorem foot_bind {α β} {f : M α} {g : α → M β} (hf : Foot put f) (hg : ∀ x, Foot put (g x)) :
    Foot put (f >>= g) := by
  refine ⟨curMono_bind hf.cur fun x => (hg x).cur, fun s r r' haa => ?_⟩
  rcases hf.two s r r' haa with ⟨o, u, h2, h1⟩ | ⟨h1, hlt, h2⟩
  · cases o with
    | ok x =>
      rcases (hg x).two u r r' haa with ⟨o', v, g2, g1⟩ | ⟨g1, hlt, g2⟩
      · exact Or.inl ⟨o', v, by rw [M.bind_apply, h2]; exact g2, by rw [M.bind_apply, h1]; exact g1⟩
      · refine Or.inr ⟨by rw [M.bind_apply, h1]; exact g1, hlt, fun y u' hy => ?_⟩
        rw [M.bind_apply, h2] at hy; exact g2 y u' hy
    | err e => exact Or.inl ⟨.err e, u, by rw [M.bind_apply, h2], by rw [M.bind_apply, h1]⟩
    | panic => exact Or.inl ⟨.panic, u, by rw [M.bind_apply, h2], by rw [M.bind_apply, h1]⟩
  · -- the run in the smaller room has stopped; what the other goes on to reach lies further on
    refine Or.inr ⟨?_, hlt, fun y u' hy => ?_⟩
    · rw [M.bind_apply]
      rcases hr : f (put r s) with ⟨(x | e | _), v⟩ <;> rw [hr] at h1 <;> simp_all
    · rw [M.bind_apply] at hy
      rcases hr : f (put r' s) with ⟨(x | e | _), v⟩ <;> rw [hr] at hy
      · exact Nat.lt_of_lt_of_le (h2 x v hr) ((hg x).cur v y u' hy)
      · cases hy
      · cases hy

end generic

/-! ### the record writer proper: the room is looked at by `tryPush` and the RDLENGTH test alone -/

theorem foot_write (pos : Nat) (d : List UInt8) : Foot Room.put (write pos d) :=
  foot_blind (nice_write pos d).curMono fun r s => by
    unfold write
    by_cases h : pos + d.length ≤ s.octets.size
    · simp [Room.put, h]
    · simp [Room.put, h]

theorem foot_tryPush (d : List UInt8) : Foot Room.put (tryPush d) := by
  refine ⟨(nice_tryPush d).curMono, fun s r r' haa => ?_⟩
  unfold tryPush
  simp only [Room.put]
  by_cases p' : r'.a < s.cursor
  · exact Or.inl ⟨.panic, s, by simp [p'], by simp [show r.a < s.cursor by omega]⟩
  · by_cases q' : r'.a - s.cursor ≥ d.length
    · by_cases z : s.cursor + d.length ≤ s.octets.size
      · by_cases p : r.a < s.cursor
        · exact Or.inr ⟨Or.inr (by simp [p]), by omega, fun x u' h => by
            simp [p', q', z] at h; rw [← h]; show r.a < s.cursor + d.length; omega⟩
        · by_cases q : r.a - s.cursor ≥ d.length
          · exact Or.inl ⟨.ok (), { s with octets := writeAt s.octets s.cursor d, cursor := s.cursor + d.length },
              by simp [p', q', z], by simp [p, q, z]⟩
          · exact Or.inr ⟨Or.inl (by simp [p, q]), by omega, fun x u' h => by
              simp [p', q', z] at h; rw [← h]; show r.a < s.cursor + d.length; omega⟩
      · by_cases p : r.a < s.cursor
        · exact Or.inl ⟨.panic, s, by simp [p', q', z], by simp [p]⟩
        · by_cases q : r.a - s.cursor ≥ d.length
          · exact Or.inl ⟨.panic, s, by simp [p', q', z], by simp [p, q, z]⟩
          · exact Or.inr ⟨Or.inl (by simp [p, q]), by omega, fun x u' h => by simp [p', q', z] at h⟩
    · by_cases p : r.a < s.cursor
      · exact Or.inr ⟨Or.inr (by simp [p]), by omega, fun x u' h => by simp [p', q'] at h⟩
      · exact Or.inl ⟨.err .Truncation, s, by simp [p', q'],
          by simp [p, show ¬ r.a - s.cursor ≥ d.length by omega]⟩

/-- the test that `n` octets are left: the larger room passes it more easily; where only it does, the
    run goes on to advance the cursor by `b ≥ n`, beyond the smaller room -/
theorem foot_reserve {α} (n : Nat) {b : Nat} {k : Nat → M α} (hn : n ≤ b) (hnice : ∀ st, Nice b (k st))
    (hk : ∀ st, Foot Room.put (k st)) :
    Foot Room.put (do
      let av ← M.gets (·.available)
      let st ← M.gets (·.cursor)
      if av < st then M.panic
      else if av - st < n then M.fail .Truncation
      else k st) := by
  refine ⟨fun s x u h => ?_, fun s r r' haa => ?_⟩
  · simp only [M.bind_apply, M.gets_apply] at h
    split at h
    · cases h
    · split at h
      · cases h
      · exact (hk s.cursor).cur s x u h
  · simp only [M.bind_apply, M.gets_apply]
    have ea : (r.put s).available = r.a := rfl
    have ec : (r.put s).cursor = s.cursor := rfl
    have ea' : (r'.put s).available = r'.a := rfl
    have ec' : (r'.put s).cursor = s.cursor := rfl
    rw [ea, ec, ea', ec']
    by_cases p' : r'.a < s.cursor
    · rw [if_pos p', if_pos (show r.a < s.cursor by omega)]
      exact Or.inl ⟨.panic, s, rfl, rfl⟩
    · rw [if_neg p']
      by_cases q' : r'.a - s.cursor < n
      · rw [if_pos q']
        by_cases p : r.a < s.cursor
        · rw [if_pos p]
          exact Or.inr ⟨Or.inr rfl, by omega, fun x u' h => by cases h⟩
        · rw [if_neg p, if_pos (show r.a - s.cursor < n by omega)]
          exact Or.inl ⟨.err .Truncation, s, rfl, rfl⟩
      · rw [if_neg q']
        have reach : ∀ x u', k s.cursor (r'.put s) = (.ok x, u') → s.cursor + n ≤ u'.cursor := fun x u' h => by
          have := (hnice s.cursor (r'.put s)).2.2 x (by rw [h]); rw [h] at this
          exact Nat.le_trans (Nat.add_le_add_left hn _) this
        by_cases p : r.a < s.cursor
        · rw [if_pos p]
          exact Or.inr ⟨Or.inr rfl, by omega, fun x u' h => by have := reach x u' h; omega⟩
        · rw [if_neg p]
          by_cases q : r.a - s.cursor < n
          · rw [if_pos q]
            exact Or.inr ⟨Or.inl rfl, by omega, fun x u' h => by have := reach x u' h; omega⟩
          · rw [if_neg q]
            exact (hk s.cursor).two s r r' haa


/-- every routine of the record writer has its footprint in the room -/
theorem _root_.QV.Writer.Routine.foot {rec inv : Prop} {b B : Nat} {α} {f : M α} (h : Routine rec inv b B f) :
    Foot Room.put f := by
  have upd : ∀ g : State → State, (∀ s, (g s).cursor = s.cursor) → (∀ r s, g (Room.put r s) = Room.put r (g s)) →
      Foot Room.put (M.modify g) := fun g hc hg => foot_modify g (fun s => Nat.le_of_eq (hc s).symm) hg
  induction h with
  | pure a => exact foot_const _
  | invalid _ _ _ => exact foot_const _
  | panic _ _ => exact foot_const _
  | bind _ _ ih1 ih2 => exact foot_bind ih1 ih2
  | mono _ _ _ ih => exact ih
  | gets r => exact foot_gets _ (by cases r <;> intro _ _ <;> rfl)
  | setCtx _ c => exact upd _ (fun _ => rfl) (fun _ _ => rfl)
  | logPtr ev => exact upd _ (fun _ => rfl) (fun _ _ => rfl)
  | setOwner _ p => exact upd _ (fun _ => rfl) (fun _ _ => rfl)
  | setInRdata _ p => exact upd _ (fun _ => rfl) (fun _ _ => rfl)
  | setQname _ p =>
    exact upd _ (fun s => by split <;> rfl)
      (fun r s => by show (if s.qdcount = 0 then _ else _) = _; split <;> rfl)
  | hvPush _ p =>
    refine upd _ (fun s => ?_) (fun r s => ?_)
    · cases s.hv with
      | none => rfl
      | some v => simp only []; split <;> rfl
    · show (match s.hv with
        | some v => if v.length < Gen.HINT_POINTER_VEC_SIZE then { r.put s with hv := some (v ++ [p]) } else r.put s
        | none => r.put s) = _
      cases s.hv with
      | none => rfl
      | some v => simp only []; split <;> rfl
  | tryPush d => exact foot_tryPush d
  | pushLabels d ls wr _ ih =>
    exact foot_bind (foot_gets _ fun _ _ => rfl) fun cur => foot_bind (foot_tryPush d) fun _ =>
      foot_bind (upd _ (fun _ => rfl) (fun _ _ => rfl)) fun _ => ih cur
  | backpatch _ hb ih =>
    refine foot_reserve 2 (Nat.le_refl 2) (fun st => ?_) (fun st => ?_)
    · refine nice_mono (nice_bind (nice_modify 2 _ (fun _ => rfl) (fun _ => Nat.le_refl _)) fun _ =>
        nice_bind hb.nice fun _ => (nice_gets_bind fun cur' => ?_ : Nice 0 _)) (Nat.le_add_right 2 _)
      split
      · exact nice_panic
      · exact nice_write _ _
    · refine foot_bind (foot_modify _ (fun _ => Nat.le_add_right _ _) (fun _ _ => rfl)) fun _ => foot_bind ih fun _ =>
        foot_bind (foot_gets _ fun _ _ => rfl) fun cur' => ?_
      split
      · exact foot_const _
      · exact foot_write _ _

/-- a footprint in the room with ARCOUNT is one in the room without -/
theorem Foot.put3 {α} {f : M α} (h : Foot Room.put f) : Foot Room.put3 f := by
  refine ⟨h.cur, fun s r r' haa => ?_⟩
  have e : ∀ (q : Room) (u : State), Room.put { q with c := s.arcount } u = q.put3 { u with arcount := s.arcount } :=
    fun _ _ => rfl
  have e0 : ∀ q : Room, q.put3 s = Room.put { q with c := s.arcount } s := fun _ => rfl
  rw [e0 r, e0 r']
  rcases h.two s { r with c := s.arcount } { r' with c := s.arcount } haa with ⟨o, u, h2, h1⟩ | h
  · exact Or.inl ⟨o, { u with arcount := s.arcount }, by rw [h2, e], by rw [h1, e]⟩
  · exact Or.inr h

/-! ### `add_*_rr(set)`: section, body, count, under `with_rollback` -/

theorem foot_changeSection (sec : RrSection) : Foot Room.put3 (changeSection sec) :=
  foot_blind (fun s _ _ h => by have := (frame_changeSection sec s).cur; rw [h] at this; exact this) fun r s => by
    have hs : (r.put3 s).sect = s.sect := rfl
    unfold changeSection
    rw [hs]
    cases sec <;> cases hsec : s.sect <;> rfl

theorem foot_withRollback {α} {f : M α} (hf : Foot Room.put3 f) : Foot Room.put3 (withRollback f) := by
  refine ⟨fun s x u h => ?_, fun s r r' haa => ?_⟩
  · rw [withRollback_apply] at h
    rcases hr : f s with ⟨(y | e | _), v⟩ <;> rw [hr] at h <;> cases h
    exact hf.cur s _ _ hr
  · simp only [withRollback_apply]
    rcases hf.two s r r' haa with ⟨o, u, h2, h1⟩ | ⟨h1, hlt, h2⟩
    · rw [h2, h1]
      cases o with
      | ok x => exact Or.inl ⟨.ok x, u, rfl, rfl⟩
      | err e => exact Or.inl ⟨.err e, restore s u, rfl, rfl⟩
      | panic => exact Or.inl ⟨.panic, u, rfl, rfl⟩
    · refine Or.inr ⟨?_, hlt, fun x u' h => ?_⟩
      · rcases hr : f (r.put3 s) with ⟨(x | e | _), v⟩ <;> rw [hr] at h1 <;> simp_all
      · rcases hr : f (r'.put3 s) with ⟨(y | e | _), v⟩ <;> rw [hr] at h
        · cases h; exact h2 _ _ hr
        · cases h
        · cases h

/-- **the footprint of a record-adding call** is that of its body -/
theorem foot_recOp {α} (sec : RrSection) {body : M α} (cnt : α → Nat) (hb : Foot Room.put3 body) :
    Foot Room.put3 (recOp sec body cnt) := by
  unfold recOp
  refine foot_withRollback (foot_bind (foot_changeSection sec) fun _ => foot_bind hb fun a =>
    foot_bind (foot_gets _ fun r s => by cases sec <;> rfl) fun c => ?_)
  split
  · exact foot_const _
  · split
    · exact foot_const _
    · unfold setCount
      exact foot_modify _ (fun s => by cases sec <;> exact Nat.le_refl _) (fun r s => by cases sec <;> rfl)

theorem foot_addRrsetOp (sec : RrSection) (hint : Hint) (owner : WName) (ty cls ttl : Nat)
    (rds : List (List UInt8)) : Foot Room.put3 (addRrsetOp sec hint owner ty cls ttl rds) :=
  foot_recOp sec id (Routine.addRrset owner ty cls (ttlFrom ttl) rds hint 0).foot.put3

theorem foot_addRrOp (sec : RrSection) (hint : Hint) (owner : WName) (ty cls ttl : Nat)
    (rd : List UInt8) : Foot Room.put3 (addRrOp sec hint owner ty cls ttl rd) :=
  foot_recOp sec (fun _ => 1) (Routine.addRr hint owner ty cls (ttlFrom ttl) rd).foot.put3

/-! ### header operations do not look at the room -/

theorem foot_setHdr (i : Nat) (f : UInt8 → UInt8) : Foot Room.put (setHdr i f) :=
  foot_blind (fun s _ _ h => by unfold setHdr at h; split at h <;> cases h; exact Nat.le_refl _) fun r s => by
    unfold setHdr
    by_cases h : i < s.octets.size
    · rw [dif_pos h, dif_pos (show i < (r.put s).octets.size from h)]; rfl
    · rw [dif_neg h, dif_neg (show ¬ i < (r.put s).octets.size from h)]

theorem foot_setRcode (v : Nat) : Foot Room.put (setRcode v) := by
  unfold setRcode
  refine foot_bind (foot_setHdr _ _) fun _ => foot_modify _ (fun s => ?_) fun r s => ?_
  · cases s.edns <;> exact Nat.le_refl _
  · show (match s.edns with
      | some e => { r.put s with edns := some { e with upper := 0 } }
      | none => r.put s) = _
    cases s.edns <;> rfl

end QV.ServerAnswer
