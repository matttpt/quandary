/-
  QV.Proofs.TsigWriter — what the writer calls of the TSIG branch do to the writer state: `set_rcode`
  and `set_tc` change the header only (`HeaderOnly`), `set_tsig` records the RR exactly when it fits
  (`TsigFits`, `withTsig`), `set_tsig_or_truncate` otherwise degrades to TC / NOERROR; the prepared RR
  of a reply (`prepOf`), the algorithm and key lookups, and the part of the state the scan of the
  request never touches (`ScanFrame`). At the end, in namespace `QV.ServerScan`: `set_tc` and the
  other one-bit header setters as an explicit state (`bitF`, `setBit_eq`), which the TSIG step
  (truncation) and the header copy of `handle_message` (QV.Proofs.ServerMsg) both read.
-/
import QV.Model.Server
import QV.Proofs.WriterView
import QV.Proofs.Wire
import QV.Proofs.Tsig

namespace QV.ServerTsig
open QV QV.Server QV.Writer

theorem rc_noerror : RC "NOERROR" = 0 := by decide
theorem rc_formerr : RC "FORMERR" = 1 := by decide
theorem rc_notauth : RC "NOTAUTH" = 9 := by decide
theorem xrc_badkey : XRC "BADKEY" = 17 := by decide
theorem xrc_badsig : XRC "BADVERSBADSIG" = 16 := by decide
theorem xrc_badtime : XRC "BADTIME" = 18 := by decide
theorem xrc_noerror : XRC "NOERROR" = 0 := by decide
theorem xr_badtime : XR_BADTIME = 18 := by decide

/-- the RCODE nibble reads back: `b` contributes nothing under the mask, `rc < 16` lies within it -/
theorem rcode_bits (rc : Nat) (h : rc < 16) (b : UInt8) :
    (((b &&& ~~~ (UInt8.ofNat Gen.RCODE_MASK)) ||| UInt8.ofNat rc) &&& UInt8.ofNat Gen.RCODE_MASK).toNat = rc := by
  have hm : (~~~ (UInt8.ofNat Gen.RCODE_MASK)).toNat &&& (UInt8.ofNat Gen.RCODE_MASK).toNat = 0 := by decide
  have hr : (UInt8.ofNat rc).toNat &&& (UInt8.ofNat Gen.RCODE_MASK).toNat = rc := by
    rw [UInt8.toNat_ofNat', Nat.mod_eq_of_lt (by omega)]
    exact (Nat.and_two_pow_sub_one_eq_mod rc 4).trans (Nat.mod_eq_of_lt h)
  rw [UInt8.toNat_and, UInt8.toNat_or, UInt8.toNat_and, Nat.and_or_distrib_right, Nat.and_assoc, hm, hr,
    Nat.and_zero, Nat.zero_or]

/-- `(b ||| m) &&& m` contains `m` -/
theorem tc_bits (b : UInt8) : ((b ||| UInt8.ofNat Gen.TC_MASK) &&& UInt8.ofNat Gen.TC_MASK != 0) = true := by
  rw [bne_iff_ne, Ne, ← UInt8.toNat_inj, UInt8.toNat_and, UInt8.toNat_or, Nat.and_or_distrib_right, Nat.and_self]
  intro h
  exact absurd (Nat.or_eq_zero_iff.mp h).2 (by decide)

/-- the writer state changed in the header octets only (and possibly the stored upper RCODE bits) -/
structure HeaderOnly (s s' : State) : Prop where
  cursor : s'.cursor = s.cursor
  available : s'.available = s.available
  limit : s'.limit = s.limit
  rrStart : s'.rrStart = s.rrStart
  sect : s'.sect = s.sect
  qdcount : s'.qdcount = s.qdcount
  ancount : s'.ancount = s.ancount
  nscount : s'.nscount = s.nscount
  arcount : s'.arcount = s.arcount
  tsig : s'.tsig = s.tsig
  edns : s'.edns.isSome = s.edns.isSome
  size : s'.octets.size = s.octets.size

theorem HeaderOnly.refl (s : State) : HeaderOnly s s := ⟨rfl, rfl, rfl, rfl, rfl, rfl, rfl, rfl, rfl, rfl, rfl, rfl⟩

theorem HeaderOnly.trans {a b c : State} (h1 : HeaderOnly a b) (h2 : HeaderOnly b c) : HeaderOnly a c :=
  ⟨h2.cursor.trans h1.cursor, h2.available.trans h1.available, h2.limit.trans h1.limit, h2.rrStart.trans h1.rrStart,
   h2.sect.trans h1.sect, h2.qdcount.trans h1.qdcount, h2.ancount.trans h1.ancount, h2.nscount.trans h1.nscount,
   h2.arcount.trans h1.arcount, h2.tsig.trans h1.tsig, h2.edns.trans h1.edns, h2.size.trans h1.size⟩

/-- `set_rcode` on a buffer that holds a header: never fails, header-only, and the RCODE reads back -/
theorem setRcode_spec (rc : Nat) (hrc : rc < 16) (s : State) (hs : 12 ≤ s.octets.size) :
    ∃ s', setRcode rc s = (.ok (), s') ∧ HeaderOnly s s' ∧ getRcode s' = rc ∧
      (∀ i, i ≠ Gen.RCODE_BYTE → hdr s' i = hdr s i) := by
  have h3 : Gen.RCODE_BYTE < s.octets.size := by simp [Gen.RCODE_BYTE]; omega
  unfold setRcode setHdr
  simp only [bind, h3, dite_true, M.modify]
  refine ⟨_, rfl, ?_, ?_, ?_⟩
  · cases he : s.edns <;> constructor <;> simp [he]
  · cases he : s.edns <;> simp [getRcode, hdr, Gen.RCODE_BYTE] <;>
      simpa [Gen.RCODE_BYTE] using rcode_bits rc hrc _
  · intro i hi
    cases he : s.edns <;> simp [hdr, Ne.symm hi]

/-- `set_tc(true)` -/
theorem setTc_spec (s : State) (hs : 12 ≤ s.octets.size) :
    ∃ s', setTc true s = (.ok (), s') ∧ HeaderOnly s s' ∧ getBit s' Gen.TC_BYTE Gen.TC_MASK = true ∧
      s'.edns = s.edns ∧ (∀ i, i ≠ Gen.TC_BYTE → hdr s' i = hdr s i) := by
  have h2 : Gen.TC_BYTE < s.octets.size := by simp [Gen.TC_BYTE]; omega
  unfold setTc setBit setHdr
  simp only [h2, dite_true]
  refine ⟨_, rfl, ?_, ?_, rfl, ?_⟩
  · constructor <;> simp
  · simp [getBit, hdr, Gen.TC_BYTE]
    simpa [Gen.TC_BYTE] using tc_bits _
  · intro i hi
    simp [hdr, Ne.symm hi]

/-- what `set_tsig` reserves: `signed_len` / `unsigned_len` -/
def reservedLen : TsigMode → TsigRr → Nat
  | .request a _, rr => signedLen rr a
  | .response a _ _, rr => signedLen rr a
  | .subsequent a _ _, rr => signedLen rr a
  | .unsigned n, rr => unsignedLen rr n

/-- the state after a successful `set_tsig` -/
def withTsig (s : State) (mode : TsigMode) (rr : TsigRr) : State :=
  { s with arcount := s.arcount + 1, available := s.available - reservedLen mode rr,
           tsig := some ⟨mode, reservedLen mode rr, rr⟩ }

/-- the condition under which `set_tsig` succeeds -/
def TsigFits (s : State) (mode : TsigMode) (rr : TsigRr) : Prop :=
  s.tsig = none ∧ s.cursor + reservedLen mode rr ≤ s.available ∧ s.arcount + 1 ≤ 65535

instance (s : State) (mode : TsigMode) (rr : TsigRr) : Decidable (TsigFits s mode rr) := by
  unfold TsigFits; infer_instance

theorem setTsig_eq (mode : TsigMode) (rr : TsigRr) (s : State) :
    setTsig mode rr s =
      if s.tsig.isSome then (.err .AlreadyTsig, s)
      else if s.cursor + reservedLen mode rr > s.available then (.err .Truncation, s)
      else if s.arcount + 1 > 65535 then (.err .CountOverflow, s)
      else (.ok (), withTsig s mode rr) := by
  cases mode <;> rfl

theorem setTsig_fits (mode : TsigMode) (rr : TsigRr) (s : State) (h : TsigFits s mode rr) :
    setTsig mode rr s = (.ok (), withTsig s mode rr) := by
  obtain ⟨h0, h1, h2⟩ := h
  rw [setTsig_eq, if_neg (by simp [h0]), if_neg (by omega), if_neg (by omega)]

theorem setTsig_nofit (mode : TsigMode) (rr : TsigRr) (s : State) (h : ¬ TsigFits s mode rr) :
    ∃ e, setTsig mode rr s = (.err e, s) := by
  rw [setTsig_eq]
  by_cases h0 : s.tsig.isSome
  · exact ⟨.AlreadyTsig, by simp [h0]⟩
  · by_cases h1 : s.cursor + reservedLen mode rr > s.available
    · exact ⟨.Truncation, by simp [h0, h1]⟩
    · by_cases h2 : s.arcount + 1 > 65535
      · exact ⟨.CountOverflow, by simp [h0, h1, h2]⟩
      · exfalso; apply h
        refine ⟨?_, by omega, by omega⟩
        cases ht : s.tsig <;> simp_all

/-- **`set_tsig_or_truncate`, the RR fits**: it is recorded, ARCOUNT counts it, its room is reserved -/
theorem setTsigOrTruncate_fits (mode : TsigMode) (rr : TsigRr) (s : State) (h : TsigFits s mode rr) :
    setTsigOrTruncate mode rr s = (.ok true, withTsig s mode rr) := by
  unfold setTsigOrTruncate; rw [setTsig_fits mode rr s h]

/-- **`set_tsig_or_truncate`, the RR does not fit** (the repair of D03): no panic, no TSIG, TC set,
    RCODE NOERROR; nothing but the header changes -/
theorem setTsigOrTruncate_nofit (mode : TsigMode) (rr : TsigRr) (s : State) (hs : 12 ≤ s.octets.size)
    (h : ¬ TsigFits s mode rr) :
    ∃ s', setTsigOrTruncate mode rr s = (.ok false, s') ∧ HeaderOnly s s' ∧ getRcode s' = 0 ∧
      getBit s' Gen.TC_BYTE Gen.TC_MASK = true := by
  obtain ⟨e, he⟩ := setTsig_nofit mode rr s h
  obtain ⟨s1, h1, f1, r1, _⟩ := setRcode_spec 0 (by omega) s hs
  obtain ⟨s2, h2, f2, t2, _, k2⟩ := setTc_spec s1 (by rw [f1.size]; exact hs)
  refine ⟨s2, ?_, f1.trans f2, ?_, t2⟩
  · unfold setTsigOrTruncate; rw [he]
    simp only [rc_noerror, bind, h1, h2]; rfl
  · have := k2 Gen.RCODE_BYTE (by decide)
    unfold getRcode at *; rw [this]; exact r1

/-- `set_tsig_or_truncate` never panics on a writer whose buffer holds a header -/
theorem setTsigOrTruncate_no_panic (mode : TsigMode) (rr : TsigRr) (s : State) (hs : 12 ≤ s.octets.size) :
    (setTsigOrTruncate mode rr s).1 ≠ .panic := by
  by_cases h : TsigFits s mode rr
  · rw [setTsigOrTruncate_fits mode rr s h]; simp
  · obtain ⟨s', h', _⟩ := setTsigOrTruncate_nofit mode rr s hs h
    rw [h']; simp

/-! ### the prepared RR, the algorithm table, the key map -/

/-- what `PreparedTsigRr::new_from_read(tsig_rr, now, TSIG_FUDGE, error)` yields for key name `kn` -/
def prepOf (kn : WName) (r : Tsig.ReadTsigRr) (nowT : Tsig.TimeSigned) (error : Nat) : TsigRr :=
  ⟨kn, if error = 18 then (Tsig.ReadTsigRr.timeSigned r).asSlice else nowT.asSlice, 300,
   (Tsig.ReadTsigRr.originalId r).toNat, error, nowT.asSlice⟩

theorem preparedFromRead_eq (kn : WName) (r : Tsig.ReadTsigRr) (nowT : Tsig.TimeSigned) (error : Nat)
    (hkn : WName.parse r.keyName = some (kn, [])) :
    preparedFromRead r nowT error = some (prepOf kn r nowT error) := by
  unfold preparedFromRead prepOf
  rw [hkn]; simp [xrc_badtime, Gen.TSIG_FUDGE]

theorem preparedFromRead_none (r : Tsig.ReadTsigRr) (nowT : Tsig.TimeSigned) (e : Nat)
    (h : ∀ kn, WName.parse r.keyName ≠ some (kn, [])) : preparedFromRead r nowT e = none := by
  unfold preparedFromRead
  split
  · rename_i kn heq; exact absurd heq (h kn)
  · rfl

open QV.Tsig in
theorem fromName_some (n : Octets) (alg : Algorithm) (h : Algorithm.fromName n = some alg) : lowerName n = alg.name := by
  unfold Algorithm.fromName at h
  by_cases h1 : lowerName n = hmacSha1Name
  · rw [if_pos h1] at h; cases h; exact h1
  · by_cases h2 : lowerName n = hmacSha256Name
    · rw [if_neg h1, if_pos h2] at h; cases h; exact h2
    · rw [if_neg h1, if_neg h2] at h; cases h

/-- `findKey`: the key map has an entry under that name, and it is for that algorithm -/
theorem findKey_some_iff (keys : List Key) (kn : List UInt8) (alg : Hmac.Alg) (key : Key) :
    findKey keys kn alg = some key ↔ keys.find? (fun k => k.name == kn) = some key ∧ key.alg = alg := by
  unfold findKey
  cases h : keys.find? (fun k => k.name == kn) with
  | none => simp
  | some k =>
    by_cases ha : k.alg = alg
    · simp [ha]; intro e; subst e; exact ha
    · simp [ha]; intro e; subst e; exact ha

/-! ### the record area -/

/-- what the scan of the request never touches: the record area of the response -/
structure ScanFrame (s s' : State) : Prop where
  cursor : s'.cursor = s.cursor
  rrStart : s'.rrStart = s.rrStart
  sect : s'.sect = s.sect
  qdcount : s'.qdcount = s.qdcount
  ancount : s'.ancount = s.ancount
  nscount : s'.nscount = s.nscount
  size : s'.octets.size = s.octets.size

theorem ScanFrame.refl (s : State) : ScanFrame s s := ⟨rfl, rfl, rfl, rfl, rfl, rfl, rfl⟩
theorem ScanFrame.trans {a b c : State} (h1 : ScanFrame a b) (h2 : ScanFrame b c) : ScanFrame a c :=
  ⟨h2.cursor.trans h1.cursor, h2.rrStart.trans h1.rrStart, h2.sect.trans h1.sect, h2.qdcount.trans h1.qdcount,
   h2.ancount.trans h1.ancount, h2.nscount.trans h1.nscount, h2.size.trans h1.size⟩
theorem HeaderOnly.scanFrame {s s' : State} (h : HeaderOnly s s') : ScanFrame s s' :=
  ⟨h.cursor, h.rrStart, h.sect, h.qdcount, h.ancount, h.nscount, h.size⟩

end QV.ServerTsig

namespace QV.ServerScan
open QV QV.Writer

/-! ### a one-bit header setter as an explicit state -/

def bitF (mask : Nat) (v : Bool) : UInt8 → UInt8 :=
  fun b => if v then b ||| UInt8.ofNat mask else b &&& ~~~ (UInt8.ofNat mask)

theorem setBit_eq (byte mask : Nat) (v : Bool) (s : State) (h : byte < s.octets.size) :
    setBit byte mask v s = (.ok (), stHdr byte (bitF mask v) s) := by
  unfold setBit; exact setHdr_eq _ _ s h

end QV.ServerScan
