/-
  QV.Proofs.WriterJustified — every failure of a public call is one the specification accepts
  (`QV.Spec.Message.justified`) in the abstract state of the calls that succeeded so far.

  * RDATA the specification can read is RDATA the writer accepts (`rdataOK_of_given`; the converse of
    `givenRdata_of_rdataOK`), so `InvalidRdata` is reported only for RDATA the specification rejects;
  * which errors each routine can report, and when (`*_err`); for a call in a session that is `Failed`, and
    `step_failed` is the one place where a failed `step` is taken apart (the counterpart of `step_did`);
  * read off `Failed`: `Truncation` only when the uncompressed encoding does not fit (`step_truncation`, C12 (e));
  * `AbsNum`: what the abstract state says about the writer state, as far as `justified` looks;
  * read off `Failed` through `AbsNum`: `step_justified`.
-/
import QV.Proofs.WriterMsgRefine
import QV.Proofs.WriterBridge
import QV.Proofs.WriterSingle

namespace QV.Writer
open QV QV.Wire QV.Spec QV.ServerSafety

/-! ### the specification's reading of an uncompressed name implies the writer's -/

theorem specWalkU_parse (b : List UInt8) : ∀ (fuel pos : Nat) (ls : List (List UInt8)),
    specWalkU b.toArray fuel pos = some ls →
    ∃ labs, WName.parseLabels fuel (b.drop pos) = some (labs, b.drop (pos + ls.flatten.length)) ∧
      ls.flatten = labs.flatMap WName.encLabel ++ [0] := by
  intro fuel
  induction fuel with
  | zero => intro pos ls h; simp [specWalkU] at h
  | succ f ih =>
    intro pos ls h
    unfold specWalkU at h
    cases hb : b.toArray[pos]? with
    | none => rw [hb] at h; cases h
    | some l =>
      rw [hb] at h
      simp only at h
      have hpos : pos < b.length := by
        have := getElem?_some_lt hb
        simpa using this
      have hget : b[pos]? = some l := by simpa using hb
      have hdrop : b.drop pos = l :: b.drop (pos + 1) := by
        rw [List.drop_eq_getElem_cons hpos]
        congr 1
        have := List.getElem?_eq_getElem hpos
        rw [this] at hget
        exact Option.some.inj hget
      by_cases hl0 : l = 0
      · rw [if_pos hl0] at h
        cases h
        refine ⟨[], ?_, by simp⟩
        rw [hdrop]
        simp [WName.parseLabels, hl0]
      · rw [if_neg hl0] at h
        by_cases h63 : l.toNat ≤ 63
        · rw [if_pos h63] at h
          cases hrec : specWalkU b.toArray f (pos + l.toNat + 1) with
          | none => rw [hrec] at h; cases h
          | some ls' =>
            rw [hrec] at h
            simp only [Option.some.injEq] at h
            obtain ⟨labs, hp, hfl⟩ := ih _ _ hrec
            -- the recursive call read an octet, so the label lies inside
            have hin : pos + l.toNat + 1 < b.length := by
              cases f with
              | zero => simp [specWalkU] at hrec
              | succ f' =>
                unfold specWalkU at hrec
                cases hb2 : b.toArray[pos + l.toNat + 1]? with
                | none => rw [hb2] at hrec; cases hrec
                | some x => have := getElem?_some_lt hb2; simpa using this
            have hex : (b.toArray.extract pos (pos + l.toNat + 1)).toList = l :: (b.drop (pos + 1)).take l.toNat := by
              simp only [Array.toList_extract, List.extract_eq_take_drop, List.toList_toArray]
              rw [show pos + l.toNat + 1 - pos = l.toNat + 1 by omega, hdrop, List.take_succ_cons]
            refine ⟨(b.drop (pos + 1)).take l.toNat :: labs, ?_, ?_⟩
            · rw [hdrop]
              unfold WName.parseLabels
              rw [if_neg hl0, if_neg (by show ¬ l.toNat > 63; omega),
                if_neg (by rw [List.length_drop]; omega)]
              rw [List.drop_drop, show pos + 1 + l.toNat = pos + l.toNat + 1 by omega, hp]
              simp only [← h, List.flatten_cons, List.length_append, hex, List.length_cons, List.length_take,
                List.length_drop]
              rw [show min l.toNat (b.length - (pos + 1)) = l.toNat by omega]
              congr 3
              omega
            · rw [← h, List.flatten_cons, hex, hfl]
              simp only [List.flatMap_cons, WName.encLabel, List.length_take, List.length_drop,
                List.cons_append, List.append_assoc]
              rw [show min l.toNat (b.length - (pos + 1)) = l.toNat by omega, UInt8.ofNat_toNat]
        · rw [if_neg h63] at h; cases h

/-- an uncompressed name the specification reads at the head of `b` is one `Name::try_from_uncompressed`
    reads, with the same rest -/
theorem parse_of_takeName {b : List UInt8} {w rest : List UInt8} (h : Message.takeName b = some (w, rest)) :
    ∃ n, WName.parse b = some (n, rest) ∧ n.wire = w := by
  unfold Message.takeName specDecodeUncompressed at h
  cases hw : specWalkU b.toArray (b.toArray.size + 1) 0 with
  | none => rw [hw] at h; cases h
  | some ls =>
    rw [hw] at h
    simp only at h
    by_cases hc : ls.flatten.length ≤ 255 ∧ ls.flatten.length ≤ b.toArray.size ∧
        (false = true → ls.flatten.length = b.toArray.size)
    · rw [if_pos hc] at h
      simp only [Option.some.injEq, Prod.mk.injEq] at h
      obtain ⟨labs, hp, hfl⟩ := specWalkU_parse b _ 0 ls hw
      simp only [List.drop_zero, Nat.zero_add, List.size_toArray] at hp
      refine ⟨⟨labs⟩, ?_, ?_⟩
      · unfold WName.parse
        rw [hp]
        simp only
        have hwire : (⟨labs⟩ : WName).wire = ls.flatten := by rw [hfl]; rfl
        rw [hwire, if_pos (by show ls.flatten.length ≤ 255; exact hc.1), ← h.2]
      · rw [← h.1, hfl]; rfl
    · rw [if_neg hc] at h; cases h

theorem compsOK_of_given : ∀ (lay : List Message.Lay) (rd : List UInt8) (gf : List Message.Field),
    Message.givenFields lay rd = some gf → compsOK (lay.map layToComp) rd = true := by
  intro lay
  induction lay with
  | nil => intro rd gf _; rfl
  | cons l lay ih =>
    intro rd gf h
    cases l with
    | fixed n =>
      unfold Message.givenFields at h
      split at h
      · cases h
      · rename_i hn
        cases hg : Message.givenFields lay (rd.drop n) with
        | none => rw [hg] at h; cases h
        | some g =>
          simp only [List.map_cons, layToComp, compsOK, Bool.and_eq_true, decide_eq_true_eq]
          exact ⟨by omega, ih _ _ hg⟩
    | cname =>
      unfold Message.givenFields at h
      cases ht : Message.takeName rd with
      | none => rw [ht] at h; cases h
      | some pr =>
        obtain ⟨w, rest⟩ := pr
        rw [ht] at h
        simp only at h
        cases hg : Message.givenFields lay rest with
        | none => rw [hg] at h; cases h
        | some g =>
          obtain ⟨n, hp, _⟩ := parse_of_takeName ht
          simp only [List.map_cons, layToComp, compsOK, hp]
          exact ih _ _ hg
    | uname =>
      unfold Message.givenFields at h
      cases ht : Message.takeName rd with
      | none => rw [ht] at h; cases h
      | some pr =>
        obtain ⟨w, rest⟩ := pr
        rw [ht] at h
        simp only at h
        cases hg : Message.givenFields lay rest with
        | none => rw [hg] at h; cases h
        | some g =>
          obtain ⟨n, hp, _⟩ := parse_of_takeName ht
          simp only [List.map_cons, layToComp, compsOK, hp]
          exact ih _ _ hg

/-- **RDATA the specification can read is RDATA the writer accepts** -/
theorem rdataOK_of_given (cls ty : Nat) (rd : List UInt8) (h : (Message.givenRdata ty cls rd).isSome = true) :
    rdataOK cls ty rd = true := by
  unfold rdataOK
  rw [componentTypes_layout]
  simp only
  unfold Message.givenRdata at h
  cases hg : Message.givenFields (Message.layoutOf ty cls) rd with
  | none => rw [hg] at h; cases h
  | some gf => exact compsOK_of_given _ _ _ hg

theorem given_none_of_not_rdataOK (cls ty : Nat) (rd : List UInt8) (h : rdataOK cls ty rd = false) :
    (Message.givenRdata ty cls rd).isNone = true := by
  cases hg : Message.givenRdata ty cls rd with
  | none => rfl
  | some g =>
    have := rdataOK_of_given cls ty rd (by rw [hg]; rfl)
    rw [this] at h; cases h


/-! ### which errors the public calls report, and when -/

/-- the section as the specification numbers it (`AState.sect`) -/
def sectNum : Section → Nat
  | .question => 0
  | .answer => 1
  | .authority => 2
  | .additional => 3

theorem changeSection_err {sec : RrSection} {s s1 : State} {e : WriterErr}
    (h : changeSection sec s = (.err e, s1)) : e = .OutOfOrder ∧ sectNum s.sect > Driver.secNum sec := by
  unfold changeSection at h
  cases sec <;> cases hs : s.sect <;> rw [hs] at h <;> simp only [Prod.mk.injEq, Out.err.injEq, reduceCtorEq, false_and] at h
  all_goals (obtain ⟨rfl, _⟩ := h; exact ⟨rfl, by decide⟩)

theorem changeSection_counts {sec : RrSection} {s s1 : State} {u : Unit} (h : changeSection sec s = (.ok u, s1))
    (sec' : RrSection) : getCount sec' s1 = getCount sec' s := by
  have := frame_changeSection sec s
  rw [h] at this
  cases sec' <;> simp only [getCount]
  · exact this.an
  · exact this.ns
  · exact this.ar

/-- the errors of `add_*_rrset` -/
theorem addRrsetOp_err (sec : RrSection) (hint : Hint) (owner : WName) (ty cls ttl : Nat) (rds : List (List UInt8))
    (s : State) (e : WriterErr) (h : (addRrsetOp sec hint owner ty cls ttl rds s).1 = .err e) :
    (e = .OutOfOrder ∧ sectNum s.sect > Driver.secNum sec) ∨
    (e = .CountOverflow ∧ getCount sec s + rds.length > 65535) ∨
    (e = .InvalidRdata ∧ rds.all (rdataOK cls ty) = false) ∨
    (e = .Truncation ∧ s.available < s.cursor + (rds.map (rrLen owner)).sum) := by
  have hcls : (e = .OutOfOrder ∧ sectNum s.sect > Driver.secNum sec) ∨
      (e = .CountOverflow ∧ getCount sec s + rds.length > 65535) ∨ e = .InvalidRdata ∨ e = .Truncation := by
    have h' := h
    unfold addRrsetOp at h'
    rw [withRollback_fst] at h'
    simp only [M.bind_apply] at h'
    cases hcs : changeSection sec s with
    | mk r1 s1 =>
      rw [hcs] at h'
      cases r1 with
      | panic => cases h'
      | err e1 =>
        simp only [Out.err.injEq] at h'
        subst h'
        exact Or.inl (changeSection_err hcs)
      | ok u1 =>
        simp only at h'
        cases hadd : addRrset hint owner ty cls (ttlFrom ttl) rds 0 s1 with
        | mk r2 s2 =>
          rw [hadd] at h'
          cases r2 with
          | panic => cases h'
          | err e2 =>
            simp only [Out.err.injEq] at h'
            subst h'
            have := ((errLaw (S := fun e => e = .InvalidRdata ∨ e = .Truncation) (Or.inr rfl)).addRrset (Or.inl rfl)
              hint owner ty cls (ttlFrom ttl) rds 0).err (s := s1) (e := e2) (by rw [hadd])
            exact Or.inr (Or.inr this)
          | ok n =>
            simp only [M.gets_apply] at h'
            have hn := addRrset_count owner ty cls (ttlFrom ttl) rds hint 0 s1 s2 n hadd
            have he2 : Ext s1 s2 := by
              have := frame_addRrset hint owner ty cls (ttlFrom ttl) rds 0 s1; rwa [hadd] at this
            have hc : getCount sec s2 = getCount sec s := by
              rw [← changeSection_counts hcs sec]
              cases sec <;> simp only [getCount]
              · exact he2.an
              · exact he2.ns
              · exact he2.ar
            split at h'
            · rename_i hov
              simp only [M.fail_apply, Out.err.injEq] at h'
              subst h'
              exact Or.inr (Or.inl ⟨rfl, by omega⟩)
            · split at h'
              · rename_i hov
                simp only [M.fail_apply, Out.err.injEq] at h'
                subst h'
                exact Or.inr (Or.inl ⟨rfl, by rw [← hc]; omega⟩)
              · simp only [setCount, M.modify_apply] at h'
                cases h'
  rcases hcls with h1 | h1 | h1 | h1
  · exact Or.inl h1
  · exact Or.inr (Or.inl h1)
  · subst h1; exact Or.inr (Or.inr (Or.inl ⟨rfl, (addRrsetOp_rdata sec hint owner ty cls ttl rds s).2 h⟩))
  · subst h1; exact Or.inr (Or.inr (Or.inr ⟨rfl, addRrsetOp_truncation sec hint owner ty cls ttl rds s h⟩))

/-- the errors of `add_question` -/
theorem addQuestion_err (qn : WName) (qt qc : Nat) (s : State) (e : WriterErr)
    (h : (addQuestion qn qt qc s).1 = .err e) :
    (e = .OutOfOrder ∧ s.sect ≠ .question) ∨ (e = .CountOverflow ∧ s.qdcount + 1 > 65535) ∨
    (e = .Truncation ∧ s.available < s.cursor + (qn.wire.length + 4)) := by
  have hcls : (e = .OutOfOrder ∧ s.sect ≠ .question) ∨ (e = .CountOverflow ∧ s.qdcount + 1 > 65535) ∨
      e = .Truncation := by
    have h' := h
    unfold addQuestion at h'
    simp only [M.bind_apply, M.gets_apply] at h'
    split at h'
    · rename_i hs
      simp only [M.fail_apply, Out.err.injEq] at h'
      exact Or.inl ⟨h'.symm, hs⟩
    · split at h'
      · rename_i hov
        simp only [M.fail_apply, Out.err.injEq] at h'
        exact Or.inr (Or.inl ⟨h'.symm, hov⟩)
      · simp only [M.bind_apply] at h'
        cases hb : withRollback (addQuestionBody qn qt qc) s with
        | mk r1 s1 =>
          rw [hb] at h'
          cases r1 with
          | panic => cases h'
          | ok u => simp only [M.modify_apply] at h'; cases h'
          | err e1 =>
            simp only [Out.err.injEq] at h'
            subst h'
            have h1 : (addQuestionBody qn qt qc s).1 = .err e1 := by
              rw [← withRollback_fst, hb]
            exact Or.inr (Or.inr (((errLaw (S := fun e => e = WriterErr.Truncation) rfl).addQuestionBody qn qt qc).err h1))
  rcases hcls with h1 | h1 | h1
  · exact Or.inl h1
  · exact Or.inr (Or.inl h1)
  · subst h1; exact Or.inr (Or.inr ⟨rfl, addQuestion_truncation qn qt qc s h⟩)

theorem setEdns_err (p : Nat) (s : State) (e : WriterErr) (h : (setEdns p s).1 = .err e) :
    (e = .AlreadyEdns ∧ s.edns.isSome = true) ∨ (e = .CountOverflow ∧ s.arcount + 1 > 65535) ∨
    (e = .Truncation ∧ s.available < s.cursor + Gen.OPT_RECORD_SIZE) := by
  rcases setEdns_cases p s with ⟨e', h', hr⟩ | ⟨_, _, _, h'⟩ <;> rw [h'] at h <;> cases h
  rcases hr with a | a | a
  · exact .inl a
  · exact .inr (.inr a)
  · exact .inr (.inl a)

theorem setTsig_err (m : TsigMode) (rr : TsigRr) (s : State) (e : WriterErr) (h : (setTsig m rr s).1 = .err e) :
    (e = .AlreadyTsig ∧ s.tsig.isSome = true) ∨ (e = .CountOverflow ∧ s.arcount + 1 > 65535) ∨
    (e = .Truncation ∧ s.available < s.cursor + reservedLenOf m rr) := by
  rcases setTsig_cases m rr s with ⟨e', h', hr⟩ | ⟨_, _, _, h'⟩ <;> rw [h'] at h <;> cases h
  rcases hr with a | a | a
  · exact .inl a
  · exact .inr (.inr a)
  · exact .inr (.inl a)

theorem setExtendedRcode_err (v : Nat) (s : State) (e : WriterErr) (h : (setExtendedRcode v s).1 = .err e) :
    (e = .NotEdns ∧ s.edns = none) ∨ (e = .ExtendedRcodeOverflow ∧ v > 4095) := by
  rcases setExtendedRcode_cases v s with ⟨hn, h'⟩ | ⟨_, _, ⟨hv, h'⟩ | ⟨_, _, _, _, ⟨_, _, h'⟩ | ⟨_, h'⟩⟩⟩ <;>
    rw [h'] at h <;> cases h
  · exact .inl ⟨rfl, hn⟩
  · exact .inr ⟨rfl, hv⟩

theorem updateTimeSigned_err (t : List UInt8) (s : State) (e : WriterErr) (h : (updateTimeSigned t s).1 = .err e) :
    e = .NotTsig ∧ s.tsig = none := by
  rcases updateTimeSigned_cases t s with ⟨hn, h'⟩ | ⟨_, _, h'⟩ <;> rw [h'] at h <;> cases h
  exact ⟨rfl, hn⟩


theorem retemplate_err {ss : Session} {n : Nat} {fill : UInt8} {mk : Bytes → Template → Out WriterErr State}
    {e : WriterErr} (h : (retemplate ss n fill mk).1 = .err e) :
    ∃ t, intoTemplate ss.w = .ok t ∧ mk (Array.replicate n fill) t = .err e := by
  unfold retemplate at h
  cases ht : intoTemplate ss.w with
  | ok t =>
    rw [ht] at h
    simp only [] at h
    cases hm : mk (Array.replicate n fill) t with
    | ok s' => rw [hm] at h; cases h
    | err e' =>
      rw [hm] at h
      simp only [] at h
      refine ⟨t, rfl, ?_⟩
      split at h
      · simp only [Out.err.injEq] at h; rw [← h]; exact hm
      · cases h
    | panic =>
      rw [hm] at h
      simp only [] at h
      split at h <;> cases h
  | err e' => rw [ht] at h; cases h
  | panic => rw [ht] at h; cases h

theorem tryFromTemplateImpl_err {buf : Bytes} {t : Template} {ts : Option Tsig} {e : WriterErr}
    (h : tryFromTemplateImpl buf t ts = .err e) : e = .Truncation ∧ buf.size < t.octets.length + t.reserved := by
  unfold tryFromTemplateImpl at h
  simp only at h
  split at h
  · rename_i hlt; simp only [Out.err.injEq] at h; exact ⟨h.symm, hlt⟩
  · split at h <;> cases h

theorem intoTemplate_fields {s : State} {t : Template} (hI : I s) (ht : intoTemplate s = .ok t) :
    t.octets.length = s.cursor ∧ t.reserved = s.limit - s.available ∧ t.tsig = s.tsig := by
  have hi := hI.inv
  have h1 := hi.hdr; have h2 := hi.cur_av; have h3 := hi.av_lim; have h4 := hi.lim_size
  unfold intoTemplate at ht
  rw [if_neg (by omega), if_neg (by omega)] at ht
  cases ht
  exact ⟨extract_toList_length _ _ (by omega), rfl, rfl⟩

/-- `TsigMode::Unsigned`: the TSIG record is appended without a MAC -/
def isUnsigned : TsigMode → Bool
  | .unsigned _ => true
  | _ => false

/-- the reasons `add_*_rrset` gives for not adding the records `rds` to section `sec` -/
def RecordsFailed (s : State) (sec : RrSection) (owner : WName) (ty cls : Nat) (rds : List (List UInt8))
    (e : WriterErr) : Prop :=
  (e = .OutOfOrder ∧ sectNum s.sect > Driver.secNum sec) ∨
  (e = .CountOverflow ∧ getCount sec s + rds.length > 65535) ∨
  (e = .InvalidRdata ∧ rds.all (rdataOK cls ty) = false) ∨
  (e = .Truncation ∧ s.available < s.cursor + (rds.map (rrLen owner)).sum)

/-- **why a call can fail**: the error, and what it says of the writer the call found. The other calls
    (header setters but `set_extended_rcode`, `set_limit`, `set_compression_mode`, `clear_rrs`, the getters)
    never fail. -/
def Failed (ss : Session) : Op → WriterErr → Prop
  | .setExtendedRcode v, e => (e = .NotEdns ∧ ss.w.edns = none) ∨ (e = .ExtendedRcodeOverflow ∧ v > 4095)
  | .addQuestion n _ _, e =>
    (e = .OutOfOrder ∧ ss.w.sect ≠ .question) ∨ (e = .CountOverflow ∧ ss.w.qdcount + 1 > 65535) ∨
    (e = .Truncation ∧ ss.w.available < ss.w.cursor + (n.wire.length + 4))
  | .addRr sec _ o ty cls _ rd _, e => RecordsFailed ss.w sec o ty cls [rd] e
  | .addRrset sec _ o ty cls _ rds _, e => RecordsFailed ss.w sec o ty cls rds e
  | .setEdns _, e =>
    (e = .AlreadyEdns ∧ ss.w.edns.isSome = true) ∨ (e = .CountOverflow ∧ ss.w.arcount + 1 > 65535) ∨
    (e = .Truncation ∧ ss.w.available < ss.w.cursor + Gen.OPT_RECORD_SIZE)
  | .setTsig m rr, e =>
    (e = .AlreadyTsig ∧ ss.w.tsig.isSome = true) ∨ (e = .CountOverflow ∧ ss.w.arcount + 1 > 65535) ∨
    (e = .Truncation ∧ ss.w.available < ss.w.cursor + reservedLenOf m rr)
  | .updateTimeSigned _, e => e = .NotTsig ∧ ss.w.tsig = none
  | .template n _, e => e = .Truncation ∧ ∃ t, intoTemplate ss.w = .ok t ∧ n < t.octets.length + t.reserved
  | .templateSubsequent n _ _, e =>
    (e = .NotTsig ∧ ss.w.tsig = none) ∨
    (e = .NotSignedTsig ∧ ∃ ts, ss.w.tsig = some ts ∧ isUnsigned ts.mode = true) ∨
    (e = .Truncation ∧ ∃ t, intoTemplate ss.w = .ok t ∧ n < t.octets.length + t.reserved)
  | _, _ => False

theorem records_failed (ss : Session) (sec : RrSection) (hn : HintRef) (o : WName) (ty cls ttl : Nat)
    (rds : List (List UInt8)) (hv : Option Nat) (e : WriterErr)
    (he : (step ss (.addRrset sec hn o ty cls ttl rds hv)).1 = .err e) : RecordsFailed ss.w sec o ty cls rds e := by
  have hgc : getCount sec { ss.w with hv := hv.map (hvGet ss.hvs) } = getCount sec ss.w := by cases sec <;> rfl
  have := addRrsetOp_err sec (resolveHint ss.hvs hn) o ty cls ttl rds { ss.w with hv := hv.map (hvGet ss.hvs) } e
    (by rw [← withHv_fst]; exact he)
  rwa [hgc] at this

/-- **every failed call `Failed`**, in any state and whatever the hints -/
theorem step_failed (ss : Session) (op : Op) (e : WriterErr) (he : (step ss op).1 = .err e) : Failed ss op e := by
  have tpl : ∀ {n : Nat} {fill : UInt8} {t : Template} {ts : Option Tsig}, intoTemplate ss.w = .ok t →
      tryFromTemplateImpl (Array.replicate n fill) t ts = .err e →
      e = .Truncation ∧ ∃ t, intoTemplate ss.w = .ok t ∧ n < t.octets.length + t.reserved := fun ht hm => by
    obtain ⟨rfl, hlt⟩ := tryFromTemplateImpl_err hm
    exact ⟨rfl, _, ht, by simpa using hlt⟩
  cases op with
  | setId v => exact absurd he ((liftW_total (total_write _ _) ss).2 e)
  | setQr b | setAa b | setTc b | setRd b | setRa b => exact absurd he ((liftW_total (total_setBit _ _ _) ss).2 e)
  | setOpcode v => exact absurd he ((liftW_total (total_setHdr _ _) ss).2 e)
  | setRcode v => exact absurd he ((liftW_total (total_setRcode _) ss).2 e)
  | setLimit v => exact absurd he ((liftW_total (total_setLimit _) ss).2 e)
  | setMode m => exact absurd he ((liftW_total (total_setCompressionMode _) ss).2 e)
  | clearRrs => exact absurd he ((liftW_total total_clearRrs ss).2 e)
  | getters => cases he
  | setExtendedRcode v => exact setExtendedRcode_err v ss.w e (by rw [← liftW_fst]; exact he)
  | addQuestion n t c => exact addQuestion_err n t c ss.w e (by rw [← liftW_fst]; exact he)
  | addRr sec hn o ty cls ttl rd hv => rw [step_addRr] at he; exact records_failed ss sec hn o ty cls ttl [rd] hv e he
  | addRrset sec hn o ty cls ttl rds hv => exact records_failed ss sec hn o ty cls ttl rds hv e he
  | setEdns p => exact setEdns_err p ss.w e (by rw [← liftW_fst]; exact he)
  | setTsig m rr => exact setTsig_err m rr ss.w e (by rw [← liftW_fst]; exact he)
  | updateTimeSigned t => exact updateTimeSigned_err t ss.w e (by rw [← liftW_fst]; exact he)
  | template n fill =>
    obtain ⟨t, ht, hm⟩ := retemplate_err he
    exact tpl ht hm
  | templateSubsequent n fill mac =>
    obtain ⟨t, ht, hm⟩ := retemplate_err he
    simp only [tryFromTemplateAsTsigSubsequent] at hm
    rw [intoTemplate_tsig ht] at hm
    cases hts : ss.w.tsig with
    | none =>
      rw [hts] at hm
      simp only [Out.err.injEq] at hm
      exact Or.inl ⟨hm.symm, hts⟩
    | some ts =>
      rw [hts] at hm
      simp only at hm
      cases hmode : ts.mode with
      | request al k | response al x k | subsequent al x k => rw [hmode] at hm; exact Or.inr (Or.inr (tpl ht hm))
      | unsigned nm =>
        rw [hmode] at hm
        simp only [Out.err.injEq] at hm
        exact Or.inr (Or.inl ⟨hm.symm, ts, hts, by rw [hmode]; rfl⟩)

/-- the size of what a call adds to the message when nothing is compressed (for `set_edns` /
    `set_tsig`: the space they reserve) -/
def uncompressedLen : Op → Nat
  | .addQuestion n _ _ => n.wire.length + 4
  | .addRr _ _ o _ _ _ rd _ => rrLen o rd
  | .addRrset _ _ o _ _ _ rds _ => (rds.map (rrLen o)).sum
  | .setEdns _ => Gen.OPT_RECORD_SIZE
  | .setTsig m rr => reservedLenOf m rr
  | _ => 0

/-- the two calls that re-create the writer on another buffer -/
def isTemplateOp : Op → Bool
  | .template _ _ => true
  | .templateSubsequent _ _ _ => true
  | _ => false

/-- for every state, every call (other than re-creating the writer on another buffer)
    and every hint, valid or not: `Err(Truncation)` is returned only if the uncompressed
    encoding does not fit between the cursor and `available` -/
theorem step_truncation (ss : Session) (op : Op) (ht : isTemplateOp op = false)
    (h : (step ss op).1 = .err .Truncation) :
    ss.w.available < ss.w.cursor + uncompressedLen op := by
  have hf := step_failed ss op .Truncation h
  cases op with
  | setExtendedRcode v => obtain ⟨⟨⟩, _⟩ | ⟨⟨⟩, _⟩ := hf
  | addQuestion n t c => obtain ⟨⟨⟩, _⟩ | ⟨⟨⟩, _⟩ | ⟨_, h⟩ := hf; exact h
  | addRr sec hn o ty cls ttl rd hv => obtain ⟨⟨⟩, _⟩ | ⟨⟨⟩, _⟩ | ⟨⟨⟩, _⟩ | ⟨_, h⟩ := hf; exact h
  | addRrset sec hn o ty cls ttl rds hv => obtain ⟨⟨⟩, _⟩ | ⟨⟨⟩, _⟩ | ⟨⟨⟩, _⟩ | ⟨_, h⟩ := hf; exact h
  | setEdns p => obtain ⟨⟨⟩, _⟩ | ⟨⟨⟩, _⟩ | ⟨_, h⟩ := hf; exact h
  | setTsig m rr => obtain ⟨⟨⟩, _⟩ | ⟨⟨⟩, _⟩ | ⟨_, h⟩ := hf; exact h
  | updateTimeSigned t => obtain ⟨⟨⟩, _⟩ := hf
  | template n fill | templateSubsequent n fill mac => cases ht
  | _ => exact hf.elim

/-! ### the abstract state, as far as `justified` looks at it -/

/-- what the specification's abstract state says about the writer's state -/
structure AbsNum (s : State) (a : Message.AState) : Prop where
  edns : a.edns.isSome = s.edns.isSome
  tsig : a.tsig.isSome = s.tsig.isSome
  signed : ∀ t ts, a.tsig = some t → s.tsig = some ts → t.signed.isNone = isUnsigned ts.mode
  sect : a.sect = sectNum s.sect
  qd : a.questions.length = s.qdcount
  an : a.an.length = s.ancount
  ns : a.ns.length = s.nscount
  ar : Message.secCount a 3 = s.arcount
  lim : a.limit = s.limit
  res : a.reserved = s.limit - s.available
  cur : a.cur = s.cursor
  buf : a.buflen = s.octets.size
  mode : a.mode = Driver.toSpecMode s.mode

theorem AbsNum.rem {s : State} {a : Message.AState} (h : AbsNum s a) (hi : Inv s) :
    Message.remaining a = s.available - s.cursor := by
  unfold Message.remaining
  rw [h.lim, h.res, h.cur]
  have := hi.av_lim
  omega

theorem AbsNum.used {s : State} {a : Message.AState} (h : AbsNum s a) :
    a.cur + a.reserved = s.cursor + (s.limit - s.available) := by
  rw [h.cur, h.res]

theorem secCount_three (a : Message.AState) :
    Message.secCount a 3 = a.ar.length + (if a.edns.isSome then 1 else 0) + (if a.tsig.isSome then 1 else 0) := rfl

theorem absNum_hv {s : State} {a : Message.AState} (h : AbsNum s a) (v : Option HV) : AbsNum { s with hv := v } a :=
  ⟨h.edns, h.tsig, h.signed, h.sect, h.qd, h.an, h.ns, h.ar, h.lim, h.res, h.cur, h.buf, h.mode⟩

theorem secCount_eq {s : State} {a : Message.AState} (h : AbsNum s a) (sec : RrSection) :
    Message.secCount a (Driver.secNum sec) = getCount sec s := by
  cases sec
  · simp [Message.secCount, Driver.secNum, getCount, h.an]
  · simp [Message.secCount, Driver.secNum, getCount, h.ns]
  · exact h.ar

theorem rrsLen_eq (o : WName) (rds : List (List UInt8)) :
    Message.rrsLen o.wire rds = (rds.map (rrLen o)).sum := by
  unfold Message.rrsLen rrLen; rfl

/-- the specification's table of algorithm names is the writer's -/
theorem algWire_eq (a : Alg) : Message.algWireName (Driver.algNum a) = (algName a).wire := by
  cases a <;> decide +kernel

/-- the space `set_tsig` reserves is the length of the TSIG record with an uncompressed owner -/
theorem atsig_rrLen (m : TsigMode) (rr : TsigRr) (h6 : rr.timeSigned.length = 6) (h6' : rr.serverTime.length = 6)
    (sg : Option Nat) (alg : Message.Name)
    (hsa : (sg, alg) = (match m with
      | .request a _ | .response a _ _ | .subsequent a _ _ =>
        (some (Message.algOutputSize (Driver.algNum a)), Message.algWireName (Driver.algNum a))
      | .unsigned n => (none, n.wire))) :
    Message.ATsig.rrLen ⟨sg, alg, rr.keyName.wire, rr.timeSigned, rr.fudge, rr.originalId, rr.error, rr.serverTime⟩ =
      reservedLenOf m rr := by
  have hbt : XR_BADTIME = 18 := by decide +kernel
  have hl2 : ∀ x, (u16be x).length = 2 := fun _ => rfl
  have ho1 : Message.algOutputSize (Driver.algNum .hmacSha1) = algOutputSize .hmacSha1 := by decide
  have ho2 : Message.algOutputSize (Driver.algNum .hmacSha256) = algOutputSize .hmacSha256 := by decide
  -- the three signed modes reserve the same: only the algorithm matters
  have signed : ∀ a : Alg, Message.ATsig.rrLen ⟨some (Message.algOutputSize (Driver.algNum a)),
      Message.algWireName (Driver.algNum a), rr.keyName.wire, rr.timeSigned, rr.fudge, rr.originalId, rr.error,
      rr.serverTime⟩ = signedLen rr a := by
    intro a
    unfold Message.ATsig.rrLen Message.tsigRdataAround Message.ATsig.macLen
    simp only [signedLen, unsignedLen, List.length_append, hl2, h6, hbt, Option.getD_some]
    rw [algWire_eq]
    cases a <;> (simp only [ho1, ho2]; split <;> simp [h6'] <;> omega)
  cases m with
  | request a k | response a x k | subsequent a x k =>
    simp only [Prod.mk.injEq] at hsa
    obtain ⟨rfl, rfl⟩ := hsa
    exact signed a
  | unsigned nm =>
    simp only [Prod.mk.injEq] at hsa
    obtain ⟨rfl, rfl⟩ := hsa
    unfold Message.ATsig.rrLen Message.tsigRdataAround Message.ATsig.macLen reservedLenOf
    simp only [unsignedLen, List.length_append, hl2, h6, hbt, Option.getD_none]
    split <;> simp [h6'] <;> omega

/-- `atsig_rrLen` for the TSIG configuration as `Driver.toSpecOp` writes it -/
theorem atsig_rrLen_spec (m : TsigMode) (rr : TsigRr) (h6 : rr.timeSigned.length = 6) (h6' : rr.serverTime.length = 6) :
    Message.ATsig.rrLen ⟨(match m with
      | .request a _ | .response a _ _ | .subsequent a _ _ =>
        (some (Message.algOutputSize (Driver.algNum a)), Message.algWireName (Driver.algNum a))
      | .unsigned n => ((none : Option Nat), n.wire)).1, (match m with
      | .request a _ | .response a _ _ | .subsequent a _ _ =>
        (some (Message.algOutputSize (Driver.algNum a)), Message.algWireName (Driver.algNum a))
      | .unsigned n => ((none : Option Nat), n.wire)).2,
      rr.keyName.wire, rr.timeSigned, rr.fudge, rr.originalId, rr.error, rr.serverTime⟩ = reservedLenOf m rr :=
  atsig_rrLen m rr h6 h6' _ _ rfl

theorem st_CountOverflow : Driver.statusStr (.err .CountOverflow) = "err:CountOverflow" := rfl
theorem st_Truncation : Driver.statusStr (.err .Truncation) = "err:Truncation" := rfl
theorem st_OutOfOrder : Driver.statusStr (.err .OutOfOrder) = "err:OutOfOrder" := rfl
theorem st_InvalidRdata : Driver.statusStr (.err .InvalidRdata) = "err:InvalidRdata" := rfl
theorem st_NotEdns : Driver.statusStr (.err .NotEdns) = "err:NotEdns" := rfl
theorem st_AlreadyEdns : Driver.statusStr (.err .AlreadyEdns) = "err:AlreadyEdns" := rfl
theorem st_ExtendedRcodeOverflow : Driver.statusStr (.err .ExtendedRcodeOverflow) = "err:ExtendedRcodeOverflow" := rfl
theorem st_NotTsig : Driver.statusStr (.err .NotTsig) = "err:NotTsig" := rfl
theorem st_AlreadyTsig : Driver.statusStr (.err .AlreadyTsig) = "err:AlreadyTsig" := rfl
theorem st_NotSignedTsig : Driver.statusStr (.err .NotSignedTsig) = "err:NotSignedTsig" := rfl

attribute [local simp] st_CountOverflow st_Truncation st_OutOfOrder st_InvalidRdata st_NotEdns st_AlreadyEdns st_ExtendedRcodeOverflow st_NotTsig st_AlreadyTsig st_NotSignedTsig

/-- an option is `none` when its `isSome` is that of `none` -/
theorem none_of_isSome {α β : Type} {o : Option α} {o' : Option β} (h : o.isSome = o'.isSome) (hn : o' = none) :
    o = none := by
  subst hn
  cases o with
  | none => rfl
  | some x => cases h

theorem records_justified {s : State} {sec : RrSection} {o : WName} {ty cls : Nat} {rds : List (List UInt8)}
    {e : WriterErr} (hf : RecordsFailed s sec o ty cls rds e) (ttl : Nat) {a : Message.AState} (hi : Inv s)
    (hA : AbsNum s a) :
    Message.justified a (.addRrs (Driver.secNum sec) o.wire ty cls ttl rds) (Driver.statusStr (.err e)) = true := by
  have hav := hi.cur_av
  have hrem := hA.rem hi
  rcases hf with ⟨rfl, h1⟩ | ⟨rfl, h1⟩ | ⟨rfl, h1⟩ | ⟨rfl, h1⟩
  · have : a.sect > Driver.secNum sec := by rw [hA.sect]; exact h1
    simp only [Message.justified]
    simp
    omega
  · have : Message.secCount a (Driver.secNum sec) + rds.length > 65535 := by rw [secCount_eq hA sec]; exact h1
    simp only [Message.justified]
    simp
    omega
  · -- some RDATA of the set is one the writer rejects, hence one the specification cannot read
    obtain ⟨rd, hm, hno⟩ : ∃ rd ∈ rds, rdataOK cls ty rd = false := by
      simpa using h1
    have h2 := given_none_of_not_rdataOK cls ty rd hno
    simp only [Message.justified]
    simp
    exact ⟨rd, hm, Option.isNone_iff_eq_none.mp h2⟩
  · have : Message.rrsLen o.wire rds > Message.remaining a := by
      rw [hrem, rrsLen_eq]
      omega
    simp only [Message.justified]
    simp
    omega

/-- **Every failure is justified**: if a public call fails with `e` in a valid state, and the
    abstract state `a` of the specification describes that state (`AbsNum`), then `justified a op
    "err:e"` holds: `Truncation` only when the uncompressed encoding does not fit, `CountOverflow`
    only when the count would exceed 65535, `OutOfOrder` only for a section that is already closed,
    `InvalidRdata` only for RDATA the specification cannot read, `AlreadyEdns` / `AlreadyTsig` /
    `NotEdns` / `NotTsig` / `NotSignedTsig` / `ExtendedRcodeOverflow` exactly under their
    conditions. -/
theorem step_justified (ss : Session) (op : Op) (a : Message.AState) (hI : I ss.w) (hop : OpOK ss op)
    (hA : AbsNum ss.w a) (e : WriterErr) (he : (step ss op).1 = .err e) :
    Message.justified a (Driver.toSpecOp op) (Driver.statusStr (.err e)) = true := by
  have hav := hI.inv.cur_av
  have hrem := hA.rem hI.inv
  have hf := step_failed ss op e he
  -- a template is refused for lack of space when the message and the reservations do not fit the new buffer
  have tpl : ∀ n : Nat, (∃ t, intoTemplate ss.w = .ok t ∧ n < t.octets.length + t.reserved) →
      n < a.cur + a.reserved := fun n ⟨t, ht, hlt⟩ => by
    obtain ⟨f1, f2, _⟩ := intoTemplate_fields hI ht
    rw [hA.used, ← f1, ← f2]; exact hlt
  cases op with
  | setExtendedRcode v =>
    rcases hf with ⟨rfl, h1⟩ | ⟨rfl, h1⟩
    · have := none_of_isSome hA.edns h1
      simp only [Message.justified, Driver.toSpecOp]
      simp
      exact this
    · simp only [Message.justified, Driver.toSpecOp]
      simp
      exact h1
  | addQuestion n t c =>
    rcases hf with ⟨rfl, h1⟩ | ⟨rfl, h1⟩ | ⟨rfl, h1⟩
    · have : a.sect ≠ 0 := by
        rw [hA.sect]; cases hs : ss.w.sect <;> simp_all [sectNum]
      simp only [Message.justified, Driver.toSpecOp]
      simp
      exact this
    · have : a.questions.length + 1 > 65535 := by rw [hA.qd]; exact h1
      simp only [Message.justified, Driver.toSpecOp]
      simp
      omega
    · have : n.wire.length + 4 > Message.remaining a := by rw [hrem]; omega
      simp only [Message.justified, Driver.toSpecOp]
      simp
      omega
  | addRr sec hn o ty cls ttl rd hv => exact records_justified hf ttl hI.inv hA
  | addRrset sec hn o ty cls ttl rds hv => exact records_justified hf ttl hI.inv hA
  | setEdns p =>
    rcases hf with ⟨rfl, h1⟩ | ⟨rfl, h1⟩ | ⟨rfl, h1⟩
    · simp only [Message.justified, Driver.toSpecOp, hA.edns, h1]
      simp
    · have : Message.secCount a 3 + 1 > 65535 := by rw [hA.ar]; exact h1
      simp only [Message.justified, Driver.toSpecOp]
      simp
      omega
    · have : 11 > Message.remaining a := by
        rw [hrem]
        have : Gen.OPT_RECORD_SIZE = 11 := rfl
        omega
      simp only [Message.justified, Driver.toSpecOp]
      simp
      omega
  | setTsig m rr =>
    obtain ⟨_, _, h6, h6'⟩ := hop
    simp only [Driver.toSpecOp]
    have hlen := atsig_rrLen_spec m rr h6 h6'
    rcases hf with ⟨rfl, h1⟩ | ⟨rfl, h1⟩ | ⟨rfl, h1⟩
    · simp only [Message.justified, hA.tsig, h1]
      simp
    · have : Message.secCount a 3 + 1 > 65535 := by rw [hA.ar]; exact h1
      simp only [Message.justified]
      simp
      omega
    · simp only [Message.justified]
      simp
      rw [hrem]
      have key : ∀ x, x = reservedLenOf m rr → ss.w.available - ss.w.cursor < x := fun x hx => by omega
      exact key _ hlen
  | updateTimeSigned t =>
    obtain ⟨rfl, h1⟩ := hf
    have := none_of_isSome hA.tsig h1
    simp only [Message.justified, Driver.toSpecOp]
    simp
    exact this
  | template n fill =>
    obtain ⟨rfl, h1⟩ := hf
    have := tpl n h1
    simp only [Message.justified, Driver.toSpecOp]
    simp
    omega
  | templateSubsequent n fill mac =>
    rcases hf with ⟨rfl, h1⟩ | ⟨rfl, ts, h1, hu⟩ | ⟨rfl, h1⟩
    · have := none_of_isSome hA.tsig h1
      simp only [Message.justified, Driver.toSpecOp]
      simp
      exact this
    · have hsome := hA.tsig
      rw [h1] at hsome
      cases hat : a.tsig with
      | none => rw [hat] at hsome; cases hsome
      | some at' =>
        have hsg := hA.signed at' ts hat h1
        rw [hu] at hsg
        simp only [Message.justified, Driver.toSpecOp, hat]
        simp
        exact Option.isNone_iff_eq_none.mp hsg
    · have := tpl n h1
      simp only [Message.justified, Driver.toSpecOp]
      simp
      omega
  | _ => exact hf.elim

end QV.Writer
