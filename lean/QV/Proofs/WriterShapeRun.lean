/-
  QV.Proofs.WriterShapeRun — the structural layout `SLay` is what is left of the layout with content
  `CLay` when the content is forgotten; so it holds wherever `CLay` is kept: after every public call,
  along whole sessions.
-/
import QV.Proofs.WriterContent

namespace QV.Writer
open QV QV.Wire QV.Spec QV.ServerSafety

variable {P : CMode → Prop}

theorem qchain_of_chainC {s : State} : ∀ {qs : List QItC} {p e : Nat}, QChainC s qs p e →
    QChain s (qs.map fun it => (it.a, it.k)) p e := by
  intro qs
  induction qs with
  | nil => intro p e h; exact h
  | cons x r ih => intro p e h; exact ⟨h.1, h.2.1.1, ih h.2.2⟩

theorem rchain_of_chainC {s : State} : ∀ {rs : List RItC} {p e : Nat}, RChainC s rs p e →
    RChain s (rs.map fun it => ⟨it.a, it.k, it.rdlen⟩) p e := by
  intro rs
  induction rs with
  | nil => intro p e h; exact h
  | cons x r ih => intro p e h; exact ⟨h.1, h.2.1.1, h.2.1.2.2.2.1, ih h.2.2⟩

/-- **the structural layout follows from the layout with content** -/
theorem slay_of_clay {s : State} {b : Body} {mb : MBody} (h : CLay P s b mb) : SLay s := by
  refine ⟨?_, fun hle => ?_, fun hs => (h.sq hs).1⟩
  · obtain ⟨qs, hq, hm, _⟩ := h.q
    exact ⟨_, qchain_of_chainC hq, by rw [List.length_map, ← List.length_map (f := (·.q)), hm, h.qd]⟩
  · obtain ⟨rs, hr, hm, _⟩ := h.r hle
    refine ⟨_, rchain_of_chainC hr, ?_⟩
    rw [List.length_map, ← List.length_map (f := (·.r)), hm, List.length_append, List.length_append, h.an, h.ns, h.ar]
    omega

end QV.Writer
