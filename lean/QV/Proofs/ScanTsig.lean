/-
  QV.Proofs.ScanTsig — `Rdata::read` for type TSIG accepts exactly the RDATA layout of RFC 8945 §4.2
  as the specification states it (`Spec.Server.tsigRdataOk`): `TsigFacts`, the one fact about RDATA
  the scan theorems need for the TSIG branch.

  The core is that `validate_uncompressed_name` (model, C14) and the executable spec decoder for
  uncompressed names (`specDecodeUncompressed`, fuel-based) agree on acceptance and length.
-/
import QV.Proofs.ScanOpt
import QV.Proofs.WriterView
import QV.Spec.ServerTsig

namespace QV.ServerScan
open QV QV.Wire QV.Reader

/-! ### what the syntactic checks of the TSIG branch need from `Rdata::read` (type TSIG) -/

/-- `Rdata::read` for TSIG accepts exactly the RDATA layout of RFC 8945 §4.2 (`tsigRdataOk`), never
    panics on a delimited record, and what it accepts starts with an uncompressed name followed by
    at least ten octets (so `ReadTsigRr::try_from`'s `expect`s cannot fail). Proved below (`tsigFacts`). -/
structure TsigFacts : Prop where
  exact : ∀ (c : Nat) (msg : Bytes) (cur len : Nat), cur + len ≤ msg.size → msg.size ≤ Rdata.USIZE_MAX →
    len ≤ 65535 →
    if Spec.Server.tsigRdataOk msg cur (cur + len) then
      ∃ rd, Server.rdRead c 250 msg cur len = .ok rd ∧
        ∃ p, parseUncompressed rd.toArray false = .ok p ∧ p.len + 10 ≤ rd.length ∧
          -- the RDATA is the slice of the message, and its length fields add up (RFC 8945 §4.2)
          rd = (msg.extract cur (cur + len)).toList ∧
          p.len + be16 (msg.extract cur (cur + len)) (p.len + 8) +
            be16 (msg.extract cur (cur + len)) (p.len + be16 (msg.extract cur (cur + len)) (p.len + 8) + 14) + 16 = len
    else ∃ e, Server.rdRead c 250 msg cur len = .err e


/-- the spec's pointer-free walk is its general walk in a chunk that starts at 0, where no pointer
    target is acceptable -/
theorem specWalkU_eq_specWalk (b : Bytes) : ∀ fuel pos,
    Spec.specWalkU b fuel pos = (Spec.specWalk b fuel pos 0).map Prod.fst := by
  intro fuel
  induction fuel with
  | zero => intro pos; rfl
  | succ f ih =>
    intro pos
    unfold Spec.specWalkU Spec.specWalk
    cases hb : b[pos]? with
    | none => rfl
    | some l =>
      dsimp only
      by_cases h0 : l = 0
      · simp only [h0, if_true]; rfl
      · simp only [h0, if_false]
        by_cases h63 : l.toNat ≤ 63
        · simp only [h63, if_true, ih]
          by_cases hin : pos + l.toNat + 1 ≤ b.size
          · simp only [hin, if_true]
            cases Spec.specWalk b f (pos + l.toNat + 1) 0 <;> rfl
          · -- beyond the buffer the walk finds nothing
            simp only [hin, if_false]
            cases f with
            | zero => rfl
            | succ f' =>
              unfold Spec.specWalk
              rw [Array.getElem?_eq_none (by omega)]
              rfl
        · simp only [h63, if_false]
          by_cases hp : 192 ≤ l.toNat
          · simp only [hp, if_true]
            cases b[pos + 1]? <;> simp
          · simp only [hp, if_false]; rfl

/-- `validate_uncompressed_name` agrees with the spec's uncompressed decoder on acceptance and length:
    both accept exactly the derivations of `Decodes` from 0 in the chunk at 0 -/
theorem validate_spec (b : Bytes) :
    match validateUncompressed b false with
    | .ok alg => ∃ w n, Spec.specDecodeUncompressed b false = some (w, n) ∧ w.length = alg ∧ alg ≤ b.size
    | .err _ => Spec.specDecodeUncompressed b false = none
    | .panic => False := by
  -- the spec's side: what it accepts is a derivation, and a derivation is accepted
  have sound : ∀ w n, Spec.specDecodeUncompressed b false = some (w, n) →
      Spec.Decodes b 0 0 w n w.length ∧ w.length ≤ 255 := by
    intro w n h
    unfold Spec.specDecodeUncompressed at h
    rw [specWalkU_eq_specWalk] at h
    rcases hw : Spec.specWalk b (b.size + 1) 0 0 with _ | ⟨ls, k⟩
    · rw [hw] at h; cases h
    · rw [hw] at h
      simp only [Option.map_some] at h
      split at h
      · rename_i hc
        cases h
        have hd := Spec.specWalk_sound b _ _ _ _ _ hw
        rw [(Rdata.decodes0_extract hd rfl).2.1] at hd
        exact ⟨hd, hc.1⟩
      · cases h
  have complete : ∀ {w n k}, Spec.Decodes b 0 0 w n k → w.length ≤ 255 →
      Spec.specDecodeUncompressed b false = some (w, n) := by
    intro w n k hd hl
    obtain ⟨ls, hw, rfl, rfl⟩ := Spec.specWalk_complete b hd (b.size + 1) (by omega) (by omega)
    obtain ⟨_, hk, hs⟩ := Rdata.decodes0_extract hd rfl
    unfold Spec.specDecodeUncompressed
    rw [specWalkU_eq_specWalk, hw]
    simp only [Option.map_some]
    rw [if_pos ⟨hl, by omega, fun hh => by cases hh⟩]
  cases hu : validateUncompressed b false with
  | ok alg =>
    obtain ⟨p, hp, rfl⟩ := (C14.C14_validate_ok_iff b false alg).mp hu
    obtain ⟨hd, hl⟩ := C14.C14_uncompressed_agrees b p hp
    obtain ⟨_, hk, hs⟩ := Rdata.decodes0_extract hd rfl
    exact ⟨p.wire, p.nlabels, complete hd hl, hk.symm, by omega⟩
  | err x =>
    rcases hs : Spec.specDecodeUncompressed b false with _ | ⟨w, n⟩
    · rfl
    · obtain ⟨hd, hl⟩ := sound w n hs
      have := Rdata.uncompAux_complete b hd rfl 0 (by omega)
      unfold validateUncompressed at hu
      rw [this] at hu
      simp at hu
  | panic => exact Rdata.validateU_no_panic b false hu

/-- `Rdata::read` for TSIG against the spec's RFC 8945 §4.2 layout: the one fact about RDATA the
    TSIG arm of the scan assumes -/
theorem tsigFacts : TsigFacts := by
  constructor
  intro c msg cur len h hm hl
  unfold Server.rdRead
  rw [read_tsig, withoutDecompression_eq _ _ _ _ h hm hl]
  generalize hrd : msg.extract cur (cur + len) = rd
  have hsz : rd.size = len := by rw [← hrd]; simp; omega
  have hv := validate_spec rd
  have hes : cur + len - cur = len := by omega
  unfold Spec.Server.tsigRdataOk
  rw [hrd, hes]
  cases hva : validateUncompressed rd false with
  | ok alg =>
    rw [hva] at hv
    obtain ⟨w, n, hsd, hwl, hle⟩ := hv
    rw [hsd]
    simp only [hwl, specField16_eq, hsz]
    have hmodel : Rdata.validateAsTsig rd =
        (if alg + 10 ≤ len then
          (if alg + be16 rd (alg + 8) + 16 ≤ len then
            (if alg + be16 rd (alg + 8) + be16 rd (alg + be16 rd (alg + 8) + 14) + 16 = len then .ok ()
             else .err .Other)
           else .err .Other)
         else .err .Other) := by
      unfold Rdata.validateAsTsig
      rw [hva]
      simp only [Rdata.liftName, Out.mapErr, hsz]
      rfl
    rw [hmodel]
    by_cases h1 : alg + 10 ≤ len
    · simp only [h1, if_true]
      by_cases h2 : alg + be16 rd (alg + 8) + 16 ≤ len
      · simp only [h2, if_true]
        by_cases h3 : alg + be16 rd (alg + 8) + be16 rd (alg + be16 rd (alg + 8) + 14) + 16 = len
        · simp only [h3, if_true, beq_self_eq_true]
          refine ⟨rd.toList, rfl, ?_⟩
          obtain ⟨p, hp, hpl⟩ := (C14.C14_validate_ok_iff rd false alg).mp hva
          refine ⟨p, by simpa using hp, by simp; omega, rfl, ?_⟩
          rw [hpl]; exact h3
        · have : (alg + be16 rd (alg + 8) + be16 rd (alg + be16 rd (alg + 8) + 14) + 16 == len) = false := by
            simpa using h3
          simp only [h3, if_false, this, Bool.false_eq_true]
          exact ⟨_, rfl⟩
      · simp only [h2, if_false, Bool.false_eq_true]
        exact ⟨_, rfl⟩
    · simp only [h1, if_false, Bool.false_eq_true]
      exact ⟨_, rfl⟩
  | err x =>
    rw [hva] at hv
    rw [hv]
    have : Rdata.validateAsTsig rd = .err (.InvalidName x) := by
      unfold Rdata.validateAsTsig; rw [hva]; rfl
    rw [this]
    simp only [Bool.false_eq_true, if_false]
    exact ⟨_, rfl⟩
  | panic => rw [hva] at hv; exact hv.elim

end QV.ServerScan
