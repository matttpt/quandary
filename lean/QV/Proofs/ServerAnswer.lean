/-
  QV.Proofs.ServerAnswer — helper lemmas for C05 / C04: the answer phase of the server model
  (`QV.Server.answer`, `answerAny`, `handleNonAxfrQueryL`) against `QV.Spec.Resolve.specResolve`.

  The model runs in `PM` = writer state + ghost operation log (`PS.log : List Ev`). `view` abstracts
  a log to what a decoder sees of the response: RCODE, AA, TC and the three sections as record lists
  (records of calls that the writer accepted; `clear_rrs` empties the sections).

  All statements quantify over *arbitrary* writer behaviour: the result of every writer call is
  whatever the writer model returns in the current state; the lemmas only use the recorded result.
-/
import QV.Model.Server
import QV.Spec.Resolve
import QV.Proofs.ZoneLookup
import QV.Proofs.ZoneIter
import QV.Proofs.Wire
import QV.Proofs.Writer
import QV.Proofs.ServerPure
import QV.Proofs.ServerNames

namespace QV.ServerAnswer
open QV QV.Writer QV.Server QV.Zone QV.Spec.Zone QV.Spec.Resolve

/-! ### the view of an operation log -/

structure View where
  rcode : Nat := 0
  aa : Bool := false
  tc : Bool := false
  answer : List RR := []
  authority : List RR := []
  additional : List RR := []
  deriving DecidableEq, Repr

/-- the records of one writer call (owner case-folded) -/
def evRecords (e : AddEv) : List RR := e.rdatas.map (fun rd => ⟨fold e.owner, e.ty, e.cls, e.ttl, rd⟩)

def View.addTo (v : View) (sec : RrSection) (rs : List RR) : View :=
  match sec with
  | .answer => { v with answer := v.answer ++ rs }
  | .authority => { v with authority := v.authority ++ rs }
  | .additional => { v with additional := v.additional ++ rs }

def View.step (v : View) : Ev → View
  | .add e => (match e.res with
    | .ok () => v.addTo e.sec (evRecords e)
    | _ => v)                          -- a failed call is rolled back by the writer
  | .aa b => { v with aa := b }
  | .rcode r => { v with rcode := r }
  | .tc b => { v with tc := b }
  | .clear => { v with answer := [], authority := [], additional := [] }
  | .bad => v

/-- a record-adding call, accepted or not, leaves the flags and the RCODE -/
theorem step_add_flags (v : View) (a : AddEv) : (v.step (.add a)).aa = v.aa ∧ (v.step (.add a)).tc = v.tc ∧
    (v.step (.add a)).rcode = v.rcode := by
  simp only [View.step]
  split
  · cases a.sec <;> exact ⟨rfl, rfl, rfl⟩
  · exact ⟨rfl, rfl, rfl⟩

/-- **the abstraction**: what the operations logged so far amount to -/
def view (log : List Ev) : View := log.foldl View.step {}

def View.ofResolution (r : Resolution) : View :=
  { rcode := r.rcode, aa := r.aa, tc := false, answer := r.answer, authority := r.authority,
    additional := r.additional }

/-! ### what is assumed of the writer calls in a run -/

/-- a logged call did not hit a capacity limit (`Truncation`, `CountOverflow`), was not out of
    order and did not panic; and the writer's RDATA check agrees with the specification's
    `renderable`: accepted ⇒ every RDATA renderable, `InvalidRdata` ⇒ some RDATA not renderable
    (`writerRdataFaithful`, Proofs/WriterFaithful.lean, proves the latter two of the writer model). -/
def GoodEv : Ev → Prop
  | .add e => (e.res = .ok () ∧ e.rdatas.all (renderable e.cls e.ty) = true) ∨
              (e.res = .err .InvalidRdata ∧ e.rdatas.all (renderable e.cls e.ty) = false)
  | .bad => False
  | _ => True

def GoodLog (evs : List Ev) : Prop := ∀ e ∈ evs, GoodEv e

theorem GoodLog.append {a b : List Ev} : GoodLog (a ++ b) ↔ GoodLog a ∧ GoodLog b :=
  List.forall_mem_append

theorem GoodLog.nil : GoodLog [] := by simp [GoodLog]

theorem GoodLog.cons {a : Ev} {b : List Ev} : GoodLog (a :: b) ↔ GoodEv a ∧ GoodLog b := by
  simp [GoodLog]

/-! ### deltas: what a successful stretch of the answer phase does to a view -/

structure Delta where
  an : List RR := []
  ns : List RR := []
  ar : List RR := []
  aa : Option Bool := none
  rcode : Option Nat := none
  deriving DecidableEq, Repr

def Delta.apply (d : Delta) (v : View) : View :=
  { rcode := d.rcode.getD v.rcode, aa := d.aa.getD v.aa, tc := v.tc,
    answer := v.answer ++ d.an, authority := v.authority ++ d.ns, additional := v.additional ++ d.ar }

def Delta.seq (a b : Delta) : Delta :=
  { an := a.an ++ b.an, ns := a.ns ++ b.ns, ar := a.ar ++ b.ar,
    aa := b.aa.orElse (fun _ => a.aa), rcode := b.rcode.orElse (fun _ => a.rcode) }

theorem Delta.apply_seq (a b : Delta) (v : View) : (a.seq b).apply v = b.apply (a.apply v) := by
  cases a with | mk an ns ar aa rc =>
  cases b with | mk an' ns' ar' aa' rc' =>
  cases aa' <;> cases rc' <;> simp [Delta.apply, Delta.seq, List.append_assoc]

theorem Delta.apply_nil (v : View) : ({} : Delta).apply v = v := by
  simp [Delta.apply]

theorem Delta.seq_nil_left (d : Delta) : ({} : Delta).seq d = d := by
  cases d with | mk an ns ar aa rc => cases aa <;> cases rc <;> simp [Delta.seq]

theorem Delta.seq_nil_right (d : Delta) : d.seq {} = d := by
  cases d with | mk an ns ar aa rc => simp [Delta.seq]

theorem Delta.seq_assoc (a b c : Delta) : (a.seq b).seq c = a.seq (b.seq c) := by
  cases a with | mk an ns ar aa rc =>
  cases b with | mk an' ns' ar' aa' rc' =>
  cases c with | mk an'' ns'' ar'' aa'' rc'' =>
  cases aa'' <;> cases rc'' <;> simp [Delta.seq, List.append_assoc]

/-- the delta of adding `rs` to section `sec` -/
def Delta.add (sec : RrSection) (rs : List RR) : Delta :=
  match sec with
  | .answer => { an := rs }
  | .authority => { ns := rs }
  | .additional => { ar := rs }

theorem Delta.add_apply (sec : RrSection) (rs : List RR) (v : View) :
    (Delta.add sec rs).apply v = v.addTo sec rs := by
  cases sec <;> simp [Delta.add, Delta.apply, View.addTo]

theorem Delta.add_append (sec : RrSection) (a b : List RR) :
    Delta.add sec (a ++ b) = (Delta.add sec a).seq (Delta.add sec b) := by
  cases sec <;> simp [Delta.add, Delta.seq]

theorem Delta.add_nil (sec : RrSection) : Delta.add sec [] = {} := by
  cases sec <;> rfl

/-- optional deltas: `none` = the specification says SERVFAIL -/
abbrev OD := Option Delta

def OD.seq (a b : OD) : OD :=
  match a, b with
  | some x, some y => some (x.seq y)
  | _, _ => none

@[simp] theorem OD.seq_none_left (b : OD) : OD.seq none b = none := rfl
@[simp] theorem OD.seq_none_right (a : OD) : OD.seq a none = none := by cases a <;> rfl
@[simp] theorem OD.seq_some (x y : Delta) : OD.seq (some x) (some y) = some (x.seq y) := rfl
@[simp] theorem OD.seq_id_left (b : OD) : OD.seq (some {}) b = b := by
  cases b <;> simp [OD.seq, Delta.seq_nil_left]
@[simp] theorem OD.seq_id_right (a : OD) : OD.seq a (some {}) = a := by
  cases a <;> simp [OD.seq, Delta.seq_nil_right]
theorem OD.seq_assoc (a b c : OD) : OD.seq (OD.seq a b) c = OD.seq a (OD.seq b c) := by
  cases a <;> cases b <;> cases c <;> simp [OD.seq, Delta.seq_assoc]

/-- add `rs` to `sec` if every record is renderable, else SERVFAIL -/
def okAdd (sec : RrSection) (rs : List RR) : OD :=
  if allRenderable rs then some (Delta.add sec rs) else none

theorem allRenderable_append (a b : List RR) :
    allRenderable (a ++ b) = (allRenderable a && allRenderable b) := by
  simp [allRenderable, List.all_append]

theorem okAdd_append (sec : RrSection) (a b : List RR) :
    okAdd sec (a ++ b) = OD.seq (okAdd sec a) (okAdd sec b) := by
  unfold okAdd
  rw [allRenderable_append]
  cases allRenderable a <;> cases allRenderable b <;> simp [Delta.add_append]

theorem okAdd_nil (sec : RrSection) : okAdd sec [] = some {} := by
  simp [okAdd, allRenderable, Delta.add_nil]

/-! ### `Does`: a computation of the answer phase against an optional delta -/

/-- the recorded result of a call agrees with the specification's `renderable` on its RDATA:
    accepted ⇒ every RDATA renderable; `InvalidRdata` ⇒ some RDATA not renderable -/
def FaithRes (a : AddEv) : Prop :=
  (a.res = .ok () → a.rdatas.all (renderable a.cls a.ty) = true) ∧
  (a.res = .err .InvalidRdata → a.rdatas.all (renderable a.cls a.ty) = false)

/-- **what C05 needs of the writer** (a statement about `QV.Model.Writer` alone; proved as
    `writerRdataFaithful`, Proofs/WriterFaithful.lean): `add_*_rrset` / `add_*_rr` accept a call only if the embedded names of every RDATA can
    be located (`Rdata::components` succeeds), and report `InvalidRdata` only if some cannot. -/
def WriterRdataFaithful : Prop :=
  ∀ (sec : RrSection) (hint : Hint) (owner : WName) (ty cls ttl : Nat) (w : State),
    (∀ rds : List (List UInt8),
      ((addRrsetOp sec hint owner ty cls ttl rds w).1 = .ok () → rds.all (renderable cls ty) = true) ∧
      ((addRrsetOp sec hint owner ty cls ttl rds w).1 = .err .InvalidRdata → rds.all (renderable cls ty) = false)) ∧
    (∀ rd : List UInt8,
      ((addRrOp sec hint owner ty cls ttl rd w).1 = .ok () → renderable cls ty rd = true) ∧
      ((addRrOp sec hint owner ty cls ttl rd w).1 = .err .InvalidRdata → renderable cls ty rd = false))

/-- nothing in `evs` touches TC or clears the sections; optional calls (inside
    `execute_allowing_truncation`) only ever concern the additional section; the recorded results
    are faithful about RDATA if the writer is (`WriterRdataFaithful`) -/
def Inv (evs : List Ev) : Prop :=
  ∀ e ∈ evs, (∀ b, e ≠ .tc b) ∧ e ≠ .clear ∧
    (∀ a, e = .add a → (a.optional = true → a.sec = .additional) ∧ (WriterRdataFaithful → FaithRes a))

theorem Inv.nil : Inv [] := by simp [Inv]
theorem Inv.append {a b : List Ev} (ha : Inv a) (hb : Inv b) : Inv (a ++ b) :=
  List.forall_mem_append.mpr ⟨ha, hb⟩

/-- `m`, started in any state, appends events `evs` (invariantly harmless: `Inv`), yields only
    values satisfying `post`, and — if every appended event is good — behaves as `S` prescribes:
    succeeds with the effect of the delta, or fails with `ServFail` when `S = none`. -/
def Does {α} (m : PM α) (S : OD) (post : α → Prop) : Prop :=
  ∀ ps : PS, ∃ evs, (m ps).2.log = ps.log ++ evs ∧ Inv evs ∧
    (∀ a, (m ps).1 = .ok a → post a) ∧
    (GoodLog evs →
      match S with
      | some d => (∃ a, (m ps).1 = .ok a) ∧ ∀ v, evs.foldl View.step v = d.apply v
      | none => (m ps).1 = .err .servFail)

theorem bind_def {α β} (x : PM α) (f : α → PM β) (s : PS) :
    (x >>= f) s = match x s with
      | (.ok a, s') => f a s'
      | (.err e, s') => (.err e, s')
      | (.panic, s') => (.panic, s') := rfl

theorem pure_def {α} (a : α) (s : PS) : (pure a : PM α) s = (.ok a, s) := rfl

theorem Does.pure {α} (a : α) : Does (pure a : PM α) (some {}) (fun x => x = a) := by
  intro ps
  refine ⟨[], by simp [pure_def], Inv.nil, ?_, ?_⟩
  · intro x hx; simp [pure_def] at hx; exact hx.symm
  · intro _; exact ⟨⟨a, rfl⟩, fun v => by simp [Delta.apply_nil]⟩

theorem Does.fail {α} (post : α → Prop) : Does (PM.fail .servFail : PM α) none post := by
  intro ps
  refine ⟨[], by simp [PM.fail], Inv.nil, ?_, ?_⟩
  · intro x hx; simp [PM.fail] at hx
  · intro _; rfl

theorem Does.weaken {α} {m : PM α} {S : OD} {p q : α → Prop} (h : Does m S p) (hpq : ∀ a, p a → q a) :
    Does m S q := by
  intro ps
  obtain ⟨evs, h1, h2, h3, h4⟩ := h ps
  exact ⟨evs, h1, h2, fun a ha => hpq a (h3 a ha), h4⟩

/-- what a run appends to the log, whatever the writer does -/
theorem Does.events {α} {m : PM α} {S : OD} {p : α → Prop} (h : Does m S p) (ps : PS) :
    ∃ evs, (m ps).2.log = ps.log ++ evs ∧ Inv evs :=
  let ⟨evs, hl, hi, _⟩ := h ps
  ⟨evs, hl, hi⟩

/-- doing nothing -/
theorem Does.unit : Does (Pure.pure () : PM Unit) (some {}) (fun _ => True) :=
  (Does.pure ()).weaken (fun _ _ => trivial)

/-- a value read out of zone data: nothing is logged; `ServFail` when there is none -/
theorem Does.ofOption {α} (o : Option α) :
    Does (ofOption o) (if o.isSome then some {} else none) (fun a => o = some a) := by
  cases o with
  | none => exact Does.fail _
  | some a => exact (Does.pure a).weaken (fun x hx => by rw [hx])

theorem Does.bind {α β} {m : PM α} {f : α → PM β} {S1 S2 : OD} {p1 : α → Prop} {p2 : β → Prop}
    (h1 : Does m S1 p1) (h2 : ∀ a, p1 a → Does (f a) S2 p2) : Does (m >>= f) (OD.seq S1 S2) p2 := by
  intro ps
  obtain ⟨evs1, hl1, hi1, hp1, hc1⟩ := h1 ps
  rw [bind_def]
  rcases hm : m ps with ⟨(a | e | _), ps1⟩
  · -- `m` succeeded
    rw [hm] at hl1 hp1 hc1
    have hpa : p1 a := hp1 a rfl
    obtain ⟨evs2, hl2, hi2, hp2, hc2⟩ := h2 a hpa ps1
    refine ⟨evs1 ++ evs2, ?_, hi1.append hi2, hp2, ?_⟩
    · simp only [] at hl1 ⊢; rw [hl2, hl1, List.append_assoc]
    · intro hg
      obtain ⟨hg1, hg2⟩ := GoodLog.append.mp hg
      have c1 := hc1 hg1
      have c2 := hc2 hg2
      cases S1 with
      | none => simp at c1
      | some d1 =>
        cases S2 with
        | none => simpa using c2
        | some d2 =>
          simp only [OD.seq_some]
          refine ⟨c2.1, fun v => ?_⟩
          rw [List.foldl_append, c1.2 v, c2.2, Delta.apply_seq]
  · -- `m` failed
    rw [hm] at hl1 hc1
    refine ⟨evs1, hl1, hi1, by intro x hx; simp at hx, ?_⟩
    intro hg
    have c1 := hc1 hg
    cases S1 with
    | none => simpa using c1
    | some d1 => simp at c1
  · rw [hm] at hl1 hc1
    refine ⟨evs1, hl1, hi1, by intro x hx; simp at hx, ?_⟩
    intro hg
    have c1 := hc1 hg
    cases S1 with
    | none => simp at c1
    | some d1 => simp at c1

/-- change the optional delta to an equal one -/
theorem Does.congr {α} {m : PM α} {S S' : OD} {p : α → Prop} (h : Does m S p) (e : S = S') : Does m S' p :=
  e ▸ h

theorem Does.hdrOp (ev : Ev) (m : M Unit) (d : Delta) (hinv : Inv [ev])
    (hstep : ∀ v, View.step v ev = d.apply v) : Does (PM.hdrOp ev m) (some d) (fun _ => True) := by
  intro ps
  unfold PM.hdrOp
  rcases h : m ps.w with ⟨(u | e | _), w'⟩
  · refine ⟨[ev], by simp, hinv, by simp, ?_⟩
    intro _
    exact ⟨⟨(), by simp⟩, fun v => by simp [hstep]⟩
  · refine ⟨[.bad], by simp, by simp [Inv], by simp, ?_⟩
    intro hg; exact absurd (hg .bad (by simp)) (by simp [GoodEv])
  · refine ⟨[.bad], by simp, by simp [Inv], by simp, ?_⟩
    intro hg; exact absurd (hg .bad (by simp)) (by simp [GoodEv])

theorem Does.setAa (b : Bool) : Does (PM.setAa b) (some { aa := some b }) (fun _ => True) :=
  Does.hdrOp _ _ _ (by simp [Inv]) (by intro v; simp [View.step, Delta.apply])

theorem Does.setRcode (r : Nat) : Does (PM.setRcode r) (some { rcode := some r }) (fun _ => True) :=
  Does.hdrOp _ _ _ (by simp [Inv]) (by intro v; simp [View.step, Delta.apply])

/-- the records of an RRset handed to the writer, as the specification lists them -/
theorem evRecords_eq (sec : RrSection) (owner : WName) (ty cls ttl : Nat) (rds : List (List UInt8)) (o : Bool)
    (res : Out WriterErr Unit) :
    evRecords ⟨sec, owner, ty, cls, ttl, rds, o, res⟩ = Spec.Resolve.rrs (fold owner) ty cls ⟨ty, ttl, rds⟩ := by
  simp [evRecords, Spec.Resolve.rrs]

theorem allRenderable_rrs (owner : NameL.Name) (ty cls : Nat) (s : Rrset) :
    allRenderable (Spec.Resolve.rrs owner ty cls s) = s.rdatas.all (renderable cls ty) := by
  simp [allRenderable, Spec.Resolve.rrs, List.all_map, Function.comp_def]

/-- the result of the writer call `m` is faithful about the RDATA of `ev` -/
def FaithCall (ev : AddEv) (m : M HV) : Prop :=
  ∀ w, (∀ hv, (m w).1 = .ok hv → ev.rdatas.all (renderable ev.cls ev.ty) = true) ∧
       ((m w).1 = .err .InvalidRdata → ev.rdatas.all (renderable ev.cls ev.ty) = false)

theorem inv_addEv (ev : AddEv) (m : M HV) (hopt : ev.optional = true → ev.sec = .additional)
    (hm : WriterRdataFaithful → FaithCall ev m) (w : State) (r : Out WriterErr Unit)
    (hr : r = match (m w).1 with | .ok _ => .ok () | .err e => .err e | .panic => .panic) :
    Inv [Ev.add { ev with res := r }] := by
  intro e he
  simp only [List.mem_singleton] at he
  subst he
  refine ⟨by simp, by simp, ?_⟩
  intro a ha
  cases ha
  refine ⟨hopt, fun hW => ⟨?_, ?_⟩⟩
  · intro h1
    simp only [] at h1
    rw [hr] at h1
    rcases h : (m w).1 with hv | e | _
    · exact (hm hW w).1 hv h
    · rw [h] at h1; cases h1
    · rw [h] at h1; cases h1
  · intro h1
    simp only [] at h1
    rw [hr] at h1
    rcases h : (m w).1 with hv | e | _
    · rw [h] at h1; cases h1
    · rw [h] at h1; cases h1; exact (hm hW w).2 h
    · rw [h] at h1; cases h1

/-! ### a call whose `Truncation` may be swallowed, followed by a continuation -/

theorem Does.bindOpt {β} (ev : AddEv) (m : M HV) (hopt : ev.optional = true → ev.sec = .additional)
    (hm : WriterRdataFaithful → FaithCall ev m) {k : HV → PM β} {b : β} {S2 : OD} {p2 : β → Prop} (hk : ∀ x, Does (k x) S2 p2) (hb : p2 b) :
    Does (PM.addCall ev m >>= fun o => match o with
            | some x => k x
            | none => (Pure.pure b : PM β))
      (OD.seq (okAdd ev.sec (evRecords ev)) S2) p2 := by
  intro ps
  have hrec : ∀ r, evRecords { ev with res := r } = evRecords ev := fun r => rfl
  have hren : allRenderable (evRecords ev) = ev.rdatas.all (renderable ev.cls ev.ty) := by
    simp [allRenderable, evRecords, List.all_map, Function.comp_def]
  rw [bind_def]
  unfold PM.addCall
  rcases h : m ps.w with ⟨(hv | e | _), w'⟩
  · -- accepted: continue with `k hv`
    simp only []
    obtain ⟨evs2, hl2, hi2, hp2, hc2⟩ := hk hv { w := w', log := ps.log ++ [.add { ev with res := .ok () }] }
    refine ⟨[.add { ev with res := .ok () }] ++ evs2, ?_, (inv_addEv ev m hopt hm ps.w _ (by simp [h])).append hi2, hp2, ?_⟩
    · rw [hl2]; simp
    · intro hg
      obtain ⟨hg1, hg2⟩ := GoodLog.append.mp hg
      have g := hg1 _ (List.mem_singleton.mpr rfl)
      simp only [GoodEv] at g
      rcases g with ⟨_, g⟩ | ⟨g, _⟩
      · have c2 := hc2 hg2
        simp only [okAdd, hren, g, if_true]
        cases S2 with
        | none => simpa using c2
        | some d2 =>
          simp only [OD.seq_some]
          refine ⟨c2.1, fun v => ?_⟩
          rw [List.foldl_append, c2.2, Delta.apply_seq]
          simp [View.step, Delta.add_apply, hrec]
      · cases g
  · by_cases ht : ev.optional = true ∧ e = .Truncation
    · -- swallowed
      simp only []
      rw [if_pos ht]
      refine ⟨[.add { ev with res := .err e }], by simp [pure_def], (inv_addEv ev m hopt hm ps.w _ (by simp [h])), ?_, ?_⟩
      · intro a ha; simp [pure_def] at ha; rw [← ha]; exact hb
      · intro hg
        have g := hg _ (List.mem_singleton.mpr rfl)
        simp only [GoodEv] at g
        rcases g with ⟨g, _⟩ | ⟨g, _⟩
        · cases g
        · rw [ht.2] at g; cases g
    · simp only []
      rw [if_neg ht]
      refine ⟨[.add { ev with res := .err e }], by simp, (inv_addEv ev m hopt hm ps.w _ (by simp [h])), by simp, ?_⟩
      intro hg
      have g := hg _ (List.mem_singleton.mpr rfl)
      simp only [GoodEv] at g
      rcases g with ⟨g, _⟩ | ⟨g, g2⟩
      · cases g
      · cases g
        simp [okAdd, hren, g2, PErr.ofWriter]
  · simp only []
    refine ⟨[.add { ev with res := .panic }], by simp, (inv_addEv ev m hopt hm ps.w _ (by simp [h])), by simp, ?_⟩
    intro hg
    have g := hg _ (List.mem_singleton.mpr rfl)
    simp only [GoodEv] at g
    rcases g with ⟨g, _⟩ | ⟨g, _⟩ <;> cases g

/-- one logged writer call: the case of a continuation that hands the result on -/
theorem Does.addCall (ev : AddEv) (m : M HV) (hopt : ev.optional = true → ev.sec = .additional)
    (hm : WriterRdataFaithful → FaithCall ev m) :
    Does (PM.addCall ev m) (okAdd ev.sec (evRecords ev)) (fun _ => True) := by
  have h := Does.bindOpt ev m hopt hm (k := fun x => (Pure.pure (some x) : PM (Option HV))) (b := none)
    (S2 := some {}) (p2 := fun _ => True) (fun x => (Does.pure (some x)).weaken (fun _ _ => trivial)) trivial
  have e : (PM.addCall ev m >>= fun o => match o with
      | some x => (Pure.pure (some x) : PM (Option HV))
      | none => Pure.pure none) = PM.addCall ev m := by
    funext ps
    rw [bind_def]
    rcases PM.addCall ev m ps with ⟨(o | e | _), ps'⟩
    · cases o <;> rfl
    · rfl
    · rfl
  rw [e, OD.seq_id_right] at h
  exact h

/-- lending a `HintPointerVec` changes neither acceptance nor the error reported -/
theorem faith_withHv (ev : AddEv) (f : M Unit)
    (h : ∀ w, ((f w).1 = .ok () → ev.rdatas.all (renderable ev.cls ev.ty) = true) ∧
      ((f w).1 = .err .InvalidRdata → ev.rdatas.all (renderable ev.cls ev.ty) = false)) :
    FaithCall ev (withHv [] f) := by
  intro w
  have h := h { w with hv := some [] }
  unfold Server.withHv
  rcases hr : f { w with hv := some [] } with ⟨(u | e | _), w'⟩ <;> rw [hr] at h
  · exact ⟨fun _ _ => h.1 rfl, by simp⟩
  · exact ⟨by simp, fun he => by simp only [Out.err.injEq] at he; subst he; exact h.2 rfl⟩
  · exact ⟨by simp, by simp⟩

theorem faith_addRrs (hW : WriterRdataFaithful) (sec : RrSection) (hint : Hint) (owner : WName) (ty cls ttl : Nat)
    (rds : List (List UInt8)) (opt : Bool) (r : Out WriterErr Unit) :
    FaithCall ⟨sec, owner, ty, cls, ttl, rds, opt, r⟩ (withHv [] (addRrsetOp sec hint owner ty cls ttl rds)) :=
  faith_withHv _ _ fun w => (hW sec hint owner ty cls ttl w).1 rds

theorem Does.addRrs (opt : Bool) (sec : RrSection) (hint : Hint) (owner : WName) (ty cls : Nat) (r : Rrset)
    (hopt : opt = true → sec = .additional) :
    Does (PM.addRrs opt sec hint owner ty cls r.ttl r.rdatas)
      (okAdd sec (Spec.Resolve.rrs (fold owner) ty cls r)) (fun _ => True) := by
  have := Does.addCall ⟨sec, owner, ty, cls, r.ttl, r.rdatas, opt, .ok ()⟩
    (withHv [] (addRrsetOp sec hint owner ty cls r.ttl r.rdatas)) hopt
    (fun hW => faith_addRrs hW sec hint owner ty cls r.ttl r.rdatas opt _)
  rw [evRecords_eq] at this
  exact this

theorem Does.addRr1 (sec : RrSection) (hint : Hint) (owner : WName) (ty cls ttl : Nat) (rd : List UInt8) :
    Does (PM.addRr1 sec hint owner ty cls ttl rd)
      (okAdd sec [⟨fold owner, ty, cls, ttl, rd⟩]) (fun _ => True) := by
  rw [PM.addRr1_eq]
  have h := Does.bind (Does.addRrs false sec hint owner ty cls ⟨ty, ttl, [rd]⟩ (by simp)) (fun _ _ => Does.unit)
  rwa [OD.seq_id_right] at h

/-! ### names in RDATA: the writer's structural parser and the specification's -/

theorem parseLabels_eq (fuel : Nat) (b : List UInt8) : WName.parseLabels fuel b = labelsAt fuel b := by
  induction fuel generalizing b with
  | zero => rfl
  | succ f ih =>
    cases b with
    | nil => rfl
    | cons l rest =>
      simp only [WName.parseLabels, labelsAt, ih]
      have : Gen.MAX_LABEL_LEN = 63 := rfl
      rw [this]
      rfl

theorem wire_length (ls : List Label) : (WName.mk ls).wire.length = wireLen ls := by
  simp only [WName.wire, wireLen, List.length_append, List.length_singleton]
  congr 1
  induction ls with
  | nil => rfl
  | cons l ls ih => simp [List.flatMap_cons, WName.encLabel, ih]; omega

theorem parse_eq (b : List UInt8) :
    WName.parse b = match labelsAt (b.length + 1) b with
      | some (ls, r) => if wireLen ls ≤ 255 then some (⟨ls⟩, r) else none
      | none => none := by
  unfold WName.parse
  rw [parseLabels_eq]
  have : Gen.MAX_WIRE_LEN = 255 := rfl
  cases labelsAt (b.length + 1) b with
  | none => rfl
  | some p => simp only [wire_length, this]

theorem nameAt_eq (b : List UInt8) : Spec.Resolve.nameAt b = (WName.parse b).map (fun p => (fold p.1, p.2)) := by
  rw [parse_eq]
  unfold Spec.Resolve.nameAt
  cases labelsAt (b.length + 1) b with
  | none => rfl
  | some p =>
    by_cases h : wireLen p.1 ≤ 255 <;> simp [h, fold]

theorem exactName_eq (b : List UInt8) :
    exactName b = match WName.parse b with
      | some (n, []) => some (fold n)
      | _ => none := by
  unfold exactName
  rw [nameAt_eq]
  rcases WName.parse b with _ | ⟨n, r⟩
  · rfl
  · cases r <;> rfl

theorem parse_wire (b : List UInt8) (n : WName) (h : WName.parse b = some (n, [])) : n.wire = b := by
  rw [Writer.parse_content h, List.append_nil]

/-- the name a record's RDATA holds from offset `start` on (`read_name_from_rdata`) -/
def targetAt (start : Nat) (rd : List UInt8) : Option NameL.Name :=
  if rd.length < start then none else exactName (rd.drop start)

theorem targetOf_eq (t : Nat) (rd : List UInt8) :
    targetOf t rd = if t = MX then targetAt 2 rd else if t = SRV then targetAt 6 rd else targetAt 0 rd := by
  unfold targetOf targetAt
  simp

theorem targetAt_eq (start : Nat) (rd : List UInt8) : targetAt start rd = (nameIn rd start).map fold := by
  unfold targetAt nameIn
  by_cases hs : start > rd.length
  · rw [if_pos hs, if_pos (show rd.length < start from hs)]; rfl
  · rw [if_neg hs, if_neg (show ¬ rd.length < start from hs), exactName_eq]
    rcases WName.parse (rd.drop start) with _ | ⟨n, _ | _⟩ <;> rfl

theorem Does.readName (rd : List UInt8) (start : Nat) :
    Does (readNameFromRdata rd start) (if (targetAt start rd).isSome then some {} else none)
      (fun n => targetAt start rd = some (fold n)) := by
  rw [readName_eq, targetAt_eq, Option.isSome_map]
  exact (Does.ofOption _).weaken (fun n h => by rw [h]; rfl)

/-! ### address records (`add_additional_addresses`) -/

theorem Does.aaaaPart (z : Zone.Zone) (sz : SZone) (hc : z.cls = sz.cls) (hint : Hint) (owner : WName) (opt : Bool)
    (aaaa : Option Rrset) :
    Does (addAaaa z hint owner opt aaaa)
      (okAdd .additional (if sz.cls = IN then optRrs (fold owner) AAAA IN aaaa else [])) (fun _ => True) := by
  unfold addAaaa
  rw [CLASS_IN_eq, hc, T_AAAA_eq]
  by_cases hin : sz.cls = IN
  · simp only [hin, if_true]
    cases aaaa with
    | none => simpa [optRrs, okAdd_nil] using Does.unit
    | some r =>
      have h2 : Does _ _ (fun _ : Unit => True) :=
        Does.bind (Does.addRrs opt .additional hint owner AAAA IN r (fun _ => rfl)) (fun a _ => Does.unit)
      rw [OD.seq_id_right] at h2
      exact h2
  · simp only [hin, if_false]
    simpa [okAdd_nil] using Does.unit

theorem Does.addrs {z : Zone.Zone} {sz : SZone} (hR : Rel z sz) (hint : Hint) (owner : WName) (sbc opt : Bool) :
    Does (addAdditionalAddresses z hint owner sbc opt)
      (okAdd .additional (addrRRs sz (fold owner) sbc)) (fun _ => True) := by
  unfold addAdditionalAddresses addrRRs
  rw [lookupAddrs_eq_spec hR (fold owner) ⟨false, sbc⟩ (by simp [constrained])]
  cases specLookupAddrs sz (fold owner) ⟨false, sbc⟩ with
  | found a aaaa sos =>
    simp only []
    cases a with
    | none =>
      simpa [optRrs] using Does.aaaaPart z sz hR.cls hint owner opt aaaa
    | some r =>
      simp only []
      rw [okAdd_append]
      have hk := Does.aaaaPart z sz hR.cls Hint.mostRecentOwner owner opt aaaa
      unfold PM.addRrs
      rw [T_A_eq, hR.cls]
      have := Does.bindOpt ⟨.additional, owner, A, sz.cls, r.ttl, r.rdatas, opt, .ok ()⟩
        (withHv [] (addRrsetOp .additional hint owner A sz.cls r.ttl r.rdatas)) (fun _ => rfl)
        (fun hW => faith_addRrs hW .additional hint owner A sz.cls r.ttl r.rdatas opt _)
        (k := fun _ => Server.addAaaa z Hint.mostRecentOwner owner opt aaaa) (b := ()) (fun _ => hk) True.intro
      rw [evRecords_eq] at this
      exact this
  | referral c ns => simpa [okAdd_nil] using Does.unit
  | nxDomain => simpa [okAdd_nil] using Does.unit
  | wrongZone => simpa [okAdd_nil] using Does.unit

/-- a name all of whose labels are lower-case already -/
def Folded (n : NameL.Name) : Prop := n.map NameL.lowerLabel = n

theorem lowerLabel_idem (l : NameL.Label) : NameL.lowerLabel (NameL.lowerLabel l) = NameL.lowerLabel l := by
  simp [NameL.lowerLabel, List.map_map, Function.comp_def, lowerU8_idem]

theorem folded_fold (n : WName) : Folded (fold n) := by
  simp [Folded, fold, List.map_map, Function.comp_def, lowerLabel_idem]

theorem Folded.suffix {c n : NameL.Name} (h : Folded n) (hs : c <:+ n) : Folded c := by
  obtain ⟨p, rfl⟩ := hs
  unfold Folded at h ⊢
  rw [List.map_append] at h
  exact (List.append_inj h (by simp)).2

theorem fold_unfold {n : NameL.Name} (h : Folded n) : fold (unfold n) = n := h

/-! ### the loops of additional-section processing -/

/-- the specification's additional records for the targets of an RRset, `start` octets in -/
def loopS (sz : SZone) (start : Nat) (rds : List (List UInt8)) : OD :=
  match allSome (rds.map (targetAt start)) with
  | some ts => okAdd .additional (ts.flatMap (fun n => addrRRs sz n false))
  | none => none

theorem Does.additionalLoop {z : Zone.Zone} {sz : SZone} (hR : Rel z sz) (start : Nat) (hv : Option HV)
    (rds : List (List UInt8)) (idx : Nat) :
    Does (Server.additionalLoop z start hv rds idx) (loopS sz start rds) (fun _ => True) := by
  induction rds generalizing idx with
  | nil =>
    simpa [Server.additionalLoop, loopS, allSome, okAdd_nil] using
      Does.unit
  | cons rd rest ih =>
    unfold Server.additionalLoop
    refine Does.congr (Does.bind (Does.readName rd start)
      (S2 := match targetAt start rd with
        | some t => OD.seq (okAdd .additional (addrRRs sz t false)) (loopS sz start rest)
        | none => none)
      (fun n hn => by rw [hn]; exact Does.bind (Does.addrs hR _ n false true) (fun _ _ => ih (idx + 1)))) ?_
    unfold loopS
    cases ht : targetAt start rd with
    | none => simp [allSome, ht]
    | some t =>
      simp only [List.map_cons, ht, allSome, Option.isSome_some, if_true, OD.seq_id_left]
      cases allSome (List.map (targetAt start) rest) with
      | none => simp
      | some ts => simp [List.flatMap_cons, okAdd_append]

theorem T_MB : T "MB" = MB := rfl
theorem T_MD : T "MD" = MD := rfl
theorem T_MF : T "MF" = MF := rfl
theorem T_NS : T "NS" = NS := rfl
theorem T_MX : T "MX" = MX := rfl
theorem T_SRV : T "SRV" = SRV := rfl
theorem T_SOA : T "SOA" = SOA := rfl
theorem T_CNAME : T "CNAME" = CNAME := rfl
theorem RC_NXDOMAIN : RC "NXDOMAIN" = NXDOMAIN := rfl
theorem QT_ANY : QT "ANY" = ANY := rfl

/-- additional-section processing of the specification, as an optional delta -/
def additionalS (sz : SZone) (t : Nat) (s : Rrset) : OD :=
  match additionalFor sz t s with
  | some ar => okAdd .additional ar
  | none => none

theorem Does.additionalProcessing {z : Zone.Zone} {sz : SZone} (hR : Rel z sz) (t : Nat) (s : Rrset) (hv : Option HV) :
    Does (doAdditionalSectionProcessing z t s hv) (additionalS sz t s) (fun _ => True) := by
  unfold doAdditionalSectionProcessing additionalS additionalFor
  rw [CLASS_IN_eq, CLASS_CH_eq, hR.cls, T_MB, T_MD, T_MF, T_NS, T_MX, T_SRV]
  by_cases hc : sz.cls ≠ IN ∧ sz.cls ≠ CH
  · rw [if_pos hc, if_pos hc]
    simpa [okAdd_nil] using Does.unit
  · rw [if_neg hc, if_neg hc]
    have key : ∀ start, (∀ rd, targetOf t rd = targetAt start rd) →
        Does (Server.additionalLoop z start hv s.rdatas 0)
          (match (allSome (List.map (targetOf t) s.rdatas)).map
              (fun ts => List.flatMap (fun n => addrRRs sz n false) ts) with
            | some ar => okAdd .additional ar
            | none => none) (fun _ => True) := by
      intro start hst
      have := Does.additionalLoop hR start hv s.rdatas 0
      refine Does.congr this ?_
      unfold loopS
      have e : List.map (targetOf t) s.rdatas = List.map (targetAt start) s.rdatas :=
        List.map_congr_left (fun rd _ => hst rd)
      rw [e]
      cases allSome (List.map (targetAt start) s.rdatas) <;> rfl
    by_cases h1 : t = MB ∨ t = MD ∨ t = MF ∨ t = NS
    · have hp : hasAdditionalProcessing t = true := by
        rcases h1 with h | h | h | h <;> subst h <;> decide
      simp only [h1, if_true, hp]
      apply key 0
      intro rd
      rw [targetOf_eq]
      rcases h1 with h | h | h | h <;> subst h <;> simp [MB, MD, MF, NS, MX, SRV]
    · simp only [h1, if_false]
      by_cases h2 : t = MX
      · subst h2
        simp only [if_true]
        have hp : hasAdditionalProcessing MX = true := by decide
        simp only [hp, if_true]
        apply key 2
        intro rd; rw [targetOf_eq]; simp
      · simp only [h2, if_false]
        by_cases h3 : t = SRV
        · subst h3
          simp only [if_true]
          have hp : hasAdditionalProcessing SRV = true := by decide
          simp only [hp, if_true]
          apply key 6
          intro rd; rw [targetOf_eq]; simp [SRV, MX]
        · simp only [h3, if_false]
          have hp : hasAdditionalProcessing t = false := by
            simp only [hasAdditionalProcessing, Bool.or_eq_false_iff, beq_eq_false_iff_ne, ne_eq]
            simp only [not_or] at h1
            exact ⟨⟨⟨⟨⟨h1.2.2.2, h1.2.1⟩, h1.2.2.1⟩, h1.1⟩, h2⟩, h3⟩
          simp only [hp]
          simpa [okAdd_nil] using Does.unit

theorem eqOrSub_eq (n c : NameL.Name) : NameL.eqOrSubdomainOf n c = c.isSuffixOf n := by
  rw [Bool.eq_iff_iff, eqOrSubdomainOf_iff, List.isSuffixOf_iff_suffix]

/-- `classify` against the specification's split of the name-server names -/
theorem classify_targets (child : NameL.Name) (hc : Folded child) (rds : List (List UInt8)) (idx : Nat) :
    match classify (unfold child) rds idx with
    | some p => ∃ ts, allSome (rds.map (targetAt 0)) = some ts ∧
        p.1.map (fun x => fold x.2) = ts.filter (fun n => child.isSuffixOf n) ∧
        p.2.map (fun x => fold x.2) = ts.filter (fun n => !child.isSuffixOf n)
    | none => allSome (rds.map (targetAt 0)) = none := by
  induction rds generalizing idx with
  | nil => exact ⟨[], rfl, rfl, rfl⟩
  | cons rd rest ih =>
    unfold classify
    cases hn : nameIn rd 0 with
    | none => simp [allSome, targetAt_eq, hn]
    | some n =>
      have ih := ih (idx + 1)
      cases hq : classify (unfold child) rest (idx + 1) with
      | none => rw [hq] at ih; simp [allSome, targetAt_eq, hn, ih]
      | some q =>
        rw [hq] at ih
        obtain ⟨ts, hts, hg, ha⟩ := ih
        simp only [Option.bind_some, fold_unfold hc, eqOrSub_eq]
        by_cases hb : child.isSuffixOf (fold n) = true
        · rw [if_pos hb]
          exact ⟨fold n :: ts, by simp [allSome, targetAt_eq, hn, hts], by simp [hb, hg], by simp [hb, ha]⟩
        · rw [if_neg hb]
          exact ⟨fold n :: ts, by simp [allSome, targetAt_eq, hn, hts], by simp [hb, hg], by simp [hb, ha]⟩

theorem Does.classifyNs (child : NameL.Name) (hc : Folded child) (rds : List (List UInt8)) (idx : Nat) :
    Does (Server.classifyNs (unfold child) rds idx)
      (if (allSome (rds.map (targetAt 0))).isSome then some {} else none)
      (fun p => ∃ ts, allSome (rds.map (targetAt 0)) = some ts ∧
        p.1.map (fun x => fold x.2) = ts.filter (fun n => child.isSuffixOf n) ∧
        p.2.map (fun x => fold x.2) = ts.filter (fun n => !child.isSuffixOf n)) := by
  rw [classifyNs_eq]
  have h := classify_targets child hc rds idx
  cases hq : classify (unfold child) rds idx with
  | none => rw [hq] at h; rw [h]; exact Does.fail _
  | some p =>
    rw [hq] at h
    obtain ⟨ts, hts, hg, ha⟩ := h
    rw [hts]
    exact (Does.pure p).weaken (fun x hx => by subst hx; exact ⟨ts, rfl, hg, ha⟩)

theorem Does.glueLoop {z : Zone.Zone} {sz : SZone} (hR : Rel z sz) (hv : HV) (opt : Bool) (l : List (Nat × WName)) :
    Does (Server.glueLoop z hv opt l)
      (okAdd .additional ((l.map (fun x => fold x.2)).flatMap (fun n => addrRRs sz n true))) (fun _ => True) := by
  induction l with
  | nil => simpa [Server.glueLoop, okAdd_nil] using Does.unit
  | cons p rest ih =>
    unfold Server.glueLoop
    refine Does.congr (Does.bind (Does.addrs hR _ p.2 true opt) (fun _ _ => ih)) ?_
    simp [List.flatMap_cons, okAdd_append]

/-- the referral part of the specification as an optional delta -/
def referralS (sz : SZone) (child : NameL.Name) (ns : Rrset) : OD :=
  OD.seq (okAdd .authority (Spec.Resolve.rrs child NS sz.cls ns))
    (match nsTargets child ns with
     | some (inb, others) =>
       okAdd .additional (inb.flatMap (fun n => addrRRs sz n true) ++ others.flatMap (fun n => addrRRs sz n true))
     | none => none)

theorem targetOf_NS (rd : List UInt8) : targetOf NS rd = targetAt 0 rd := by
  rw [targetOf_eq]; simp [NS, MX, SRV]

theorem Does.referral {z : Zone.Zone} {sz : SZone} (hR : Rel z sz) (child : NameL.Name) (hc : Folded child)
    (ns : Rrset) : Does (doReferral z child ns) (referralS sz child ns) (fun _ => True) := by
  unfold doReferral referralS
  rw [T_NS, hR.cls]
  have h1 := Does.addRrs false .authority .none (unfold child) NS sz.cls ns (by simp)
  rw [fold_unfold hc] at h1
  refine Does.congr (Does.bind h1 (fun hv _ => Does.bind (Does.classifyNs child hc ns.rdatas 0)
    (p2 := fun _ => True)
    (S2 := match nsTargets child ns with
     | some (inb, others) =>
       OD.seq (okAdd .additional (inb.flatMap (fun n => addrRRs sz n true)))
        (okAdd .additional (others.flatMap (fun n => addrRRs sz n true)))
     | none => none) ?_)) ?_
  · rintro ⟨g, a⟩ ⟨ts, hts, hg, ha⟩
    have e : nsTargets child ns = some (ts.filter (fun n => child.isSuffixOf n), ts.filter (fun n => !child.isSuffixOf n)) := by
      unfold nsTargets
      have : List.map (targetOf NS) ns.rdatas = List.map (targetAt 0) ns.rdatas :=
        List.map_congr_left (fun rd _ => targetOf_NS rd)
      rw [this, hts]; rfl
    rw [e]
    simp only []
    rw [← hg, ← ha]
    exact Does.bind (Does.glueLoop hR _ false g) (fun _ _ => Does.glueLoop hR _ true a)
  · congr 1
    unfold nsTargets
    have : List.map (targetOf NS) ns.rdatas = List.map (targetAt 0) ns.rdatas :=
      List.map_congr_left (fun rd _ => targetOf_NS rd)
    rw [this]
    cases allSome (List.map (targetAt 0) ns.rdatas) with
    | none => simp
    | some ts => simp [okAdd_append]

/-! ### the negative-caching SOA -/

/-- `read_soa_minimum` reads the specification's MINIMUM: two names, then exactly 20 octets, the last four
    big-endian -/
theorem soaMinimumIn_eq (rd : List UInt8) : soaMinimumIn rd = soaMinimum rd := by
  unfold soaMinimum soaMinimumIn
  simp only [nameAt_eq]
  rcases WName.parse rd with _ | ⟨n1, r1⟩
  · rfl
  · simp only [Option.map_some]
    rcases WName.parse r1 with _ | ⟨n2, r2⟩
    · rfl
    · simp only [Option.map_some]
      by_cases h16 : 16 > r2.length
      · rw [if_pos h16, if_neg (by omega)]
      · rw [if_neg h16]
        by_cases h4 : (r2.drop 16).length = 4
        · have h20 : r2.length = 20 := by rw [List.length_drop] at h4; omega
          rw [if_pos h4, if_pos h20]
          match hd : r2.drop 16, h4 with
          | [a, b, c, d], _ => simp [be32]
        · have h20 : ¬ r2.length = 20 := by rw [List.length_drop] at h4; omega
          rw [if_neg h4, if_neg h20]

theorem Does.readSoaMinimum (rd : List UInt8) :
    Does (Server.readSoaMinimum rd) (if (soaMinimum rd).isSome then some {} else none)
      (fun m => soaMinimum rd = some m) := by
  rw [readSoaMinimum_eq, ← soaMinimumIn_eq]
  exact Does.ofOption _

/-- the negative answer's authority section as an optional delta -/
def negativeS (sz : SZone) : OD :=
  match negativeSoa sz with
  | some soa => okAdd .authority [soa]
  | none => none

theorem Does.negativeSoa {z : Zone.Zone} {sz : SZone} (hR : Rel z sz) (ha : Folded sz.apex) :
    Does (addNegativeCachingSoa z) (negativeS sz) (fun _ => True) := by
  unfold addNegativeCachingSoa negativeS Spec.Resolve.negativeSoa
  rw [soa_eq_spec hR]
  cases specSoa sz with
  | none => simpa using Does.fail _
  | some s =>
    simp only []
    cases hrd : s.rdatas with
    | nil => simpa using Does.fail _
    | cons rd rest =>
      simp only []
      rw [T_SOA, hR.cls, hR.apex]
      have h2 : ∀ m, soaMinimum rd = some m →
          Does (PM.addRr1 .authority .none (unfold sz.apex) SOA sz.cls (Nat.min (ttlFrom m) s.ttl) rd)
            (match soaMinimum rd with
              | some m => okAdd .authority [⟨sz.apex, SOA, sz.cls, min (if 2147483648 ≤ m then 0 else m) s.ttl, rd⟩]
              | none => none) (fun _ => True) := by
        intro m hm
        rw [hm]
        have := Does.addRr1 .authority .none (unfold sz.apex) SOA sz.cls (Nat.min (ttlFrom m) s.ttl) rd
        rw [fold_unfold ha] at this
        have e : Nat.min (ttlFrom m) s.ttl = min (if 2147483648 ≤ m then 0 else m) s.ttl := by
          unfold ttlFrom
          by_cases h : m > 2147483647
          · have : 2147483648 ≤ m := h
            simp [h, this]
          · have : ¬ 2147483648 ≤ m := by omega
            simp [h, this]
        rw [e] at this
        exact this
      refine Does.congr (Does.bind (Does.readSoaMinimum rd) h2) ?_
      cases soaMinimum rd <;> simp

/-! ### the end of the last query cycle, and the CNAME chain -/

/-- what the specification prescribes after the CNAME records, as an optional delta -/
def endS (sz : SZone) (qtype : Nat) : End → OD
  | .data owner s => OD.seq (okAdd .answer (Spec.Resolve.rrs owner qtype sz.cls s)) (additionalS sz qtype s)
  | .referral c ns => referralS sz c ns
  | .noData => negativeS sz
  | .nxDomain => OD.seq (some { rcode := some NXDOMAIN }) (negativeS sz)
  | .outOfZone => some {}
  | .fail => none

def chainS (sz : SZone) (qtype : Nat) (links : Nat) (visited : List NameL.Name) (owner : NameL.Name) (cn : Rrset) : OD :=
  match chase sz qtype links visited owner cn with
  | (_, .fail) => none
  | (ls, e) => OD.seq (okAdd .answer ls) (endS sz qtype e)

theorem chainS_zero (sz : SZone) (qtype : Nat) (visited : List NameL.Name) (owner : NameL.Name) (cn : Rrset) :
    chainS sz qtype 0 visited owner cn = none := by
  simp [chainS, chase]

theorem chainS_succ (sz : SZone) (qtype : Nat) (links : Nat) (visited : List NameL.Name) (owner : NameL.Name)
    (cn : Rrset) :
    chainS sz qtype (links + 1) visited owner cn =
      match cn.rdatas with
      | [] => none
      | rd :: _ =>
        match exactName rd with
        | none => none
        | some target =>
          if visited.contains target then none
          else OD.seq (okAdd .answer [⟨owner, CNAME, sz.cls, cn.ttl, rd⟩])
            (match specLookup sz target qtype ⟨false, false⟩ with
             | .cname next _ => chainS sz qtype links (target :: visited) target next
             | r => endS sz qtype ((cycleEnd target r).getD .fail)) := by
  unfold chainS
  rw [chase]
  cases cn.rdatas with
  | nil => rfl
  | cons rd rest =>
    simp only []
    cases exactName rd with
    | none => rfl
    | some target =>
      simp only []
      by_cases hv : visited.contains target = true
      · rw [if_pos hv, if_pos hv]
      · rw [if_neg hv, if_neg hv]
        have hcons : ∀ ls, okAdd .answer ((⟨owner, CNAME, sz.cls, cn.ttl, rd⟩ : RR) :: ls) =
            OD.seq (okAdd .answer [⟨owner, CNAME, sz.cls, cn.ttl, rd⟩]) (okAdd .answer ls) := by
          intro ls
          rw [← okAdd_append]; rfl
        cases hl : specLookup sz target qtype ⟨false, false⟩ with
        | cname next sos =>
          simp only []
          rcases hc : chase sz qtype links (target :: visited) target next with ⟨ls, e⟩
          cases e <;> simp only [] <;> (try rw [hcons ls]) <;> simp [OD.seq_assoc]
        | _ => simp [cycleEnd, endS]

/-- a delegation point found on the way to `n` is a suffix of `n` -/
theorem specLookupBase_referral_suffix {sz : SZone} {n : NameL.Name} {sbc : Bool} {c : NameL.Name} {ns : Rrset}
    (h : specLookupBase sz n sbc = .referral c ns) : c <:+ n := by
  have hs := specLookupBase_sound sz n sbc
  rw [h] at hs
  cases hs with
  | referral _ _ hc _ => exact hc.2.1

theorem specLookup_referral_suffix {sz : SZone} {n : NameL.Name} {t : Nat} {o : Opts} {c : NameL.Name} {ns : Rrset}
    (h : specLookup sz n t o = .referral c ns) : c <:+ n := by
  unfold specLookup at h
  cases hb : specLookupBase sz n o.searchBelowCuts with
  | found rrsets sos =>
    rw [hb] at h
    simp only [] at h
    split at h
    · cases h
    · split at h <;> cases h
  | referral c' s => rw [hb] at h; cases h; exact specLookupBase_referral_suffix hb
  | nxDomain => rw [hb] at h; cases h
  | wrongZone => rw [hb] at h; cases h

theorem specLookupAll_referral_suffix {sz : SZone} {n : NameL.Name} {o : Opts} {c : NameL.Name} {ns : Rrset}
    (h : specLookupAll sz n o = .referral c ns) : c <:+ n := by
  unfold specLookupAll at h
  cases hb : specLookupBase sz n o.searchBelowCuts with
  | found rrsets sos => rw [hb] at h; cases h
  | referral c' s => rw [hb] at h; cases h; exact specLookupBase_referral_suffix hb
  | nxDomain => rw [hb] at h; cases h
  | wrongZone => rw [hb] at h; cases h

/-- the model's loop test is membership in the specification's visited list -/
theorem loop_test (cname qname : WName) (os : List WName) :
    ((os.map fold).reverse ++ [fold qname]).contains (fold cname) =
      (nameEq cname qname || os.any (nameEq cname)) := by
  rw [Bool.eq_iff_iff]
  simp only [List.contains_iff_mem, List.mem_append, List.mem_reverse, List.mem_map, List.mem_singleton,
    Bool.or_eq_true, List.any_eq_true, nameEq, beq_iff_eq]
  constructor
  · rintro (⟨o, ho, he⟩ | h)
    · exact Or.inr ⟨o, ho, he.symm⟩
    · exact Or.inl h
  · rintro (h | ⟨o, ho, he⟩)
    · exact Or.inr h
    · exact Or.inl ⟨o, ho, he.symm⟩

/-- the end of a query cycle for the name `cname`, in the model -/
theorem Does.cycleEnd {z : Zone.Zone} {sz : SZone} (hR : Rel z sz) (ha : Folded sz.apex)
    (cname : WName) (qtype : Nat) (r : LookupResult) (hr : specLookup sz (fold cname) qtype ⟨false, false⟩ = r)
    (hnc : ∀ c sos, r ≠ .cname c sos) (hint : Hint) :
    Does (match r with
      | .found found _ => do
        let hv ← PM.addRrs false .answer hint cname qtype z.cls found.ttl found.rdatas
        doAdditionalSectionProcessing z qtype found hv
      | .cname _ _ => PM.fail .servFail
      | .referral child ns => doReferral z child ns
      | .noRecords _ => addNegativeCachingSoa z
      | .nxDomain => do
        PM.setRcode (RC "NXDOMAIN")
        addNegativeCachingSoa z
      | .wrongZone => Pure.pure ())
      (endS sz qtype ((Spec.Resolve.cycleEnd (fold cname) r).getD .fail)) (fun _ => True) := by
  cases r with
  | found s sos =>
    simp only [Spec.Resolve.cycleEnd, Option.getD_some, endS]
    rw [hR.cls]
    exact Does.bind (Does.addRrs false .answer hint cname qtype sz.cls s (by simp))
      (fun hv _ => Does.additionalProcessing hR qtype s hv)
  | cname c sos => exact absurd rfl (hnc c sos)
  | referral c ns =>
    simp only [Spec.Resolve.cycleEnd, Option.getD_some, endS]
    exact Does.referral hR c ((folded_fold cname).suffix (specLookup_referral_suffix hr)) ns
  | noRecords sos =>
    simp only [Spec.Resolve.cycleEnd, Option.getD_some, endS]
    exact Does.negativeSoa hR ha
  | nxDomain =>
    simp only [Spec.Resolve.cycleEnd, Option.getD_some, endS]
    rw [RC_NXDOMAIN]
    exact Does.bind (Does.setRcode NXDOMAIN) (fun _ _ => Does.negativeSoa hR ha)
  | wrongZone =>
    simp only [Spec.Resolve.cycleEnd, Option.getD_some, endS]
    exact Does.unit

theorem MAX_CHAIN : Gen.MAX_CNAME_CHAIN_LEN = 8 := rfl

theorem Does.followCname {z : Zone.Zone} {sz : SZone} (hR : Rel z sz) (ha : Folded sz.apex)
    (qname : WName) (qtype : Nat) :
    ∀ (fuel : Nat) (cn : Rrset) (os : List WName), os.length + fuel = 9 → 2 ≤ fuel →
      Does (Server.followCname z qname qtype fuel cn os)
        (chainS sz qtype (fuel - 1) ((os.map fold).reverse ++ [fold qname]) (fold (os.getLast?.getD qname)) cn)
        (fun _ => True) := by
  intro fuel
  induction fuel with
  | zero => intro cn os _ h2; omega
  | succ f ih =>
    intro cn os hlen h2
    obtain ⟨f', rfl⟩ : ∃ f', f = f' + 1 := ⟨f - 1, by omega⟩
    rw [Server.followCname]
    have e1 : f' + 1 + 1 - 1 = f' + 1 := by omega
    rw [e1, chainS_succ]
    cases cn.rdatas with
    | nil => exact Does.fail _
    | cons rd rest =>
      simp only []
      rw [exactName_eq]
      cases hp : WName.parse rd with
      | none => exact Does.fail _
      | some p =>
        obtain ⟨cname, r⟩ := p
        cases r with
        | cons x xs => exact Does.fail _
        | nil =>
          simp only []
          rw [loop_test]
          by_cases hloop : (nameEq cname qname || os.any (nameEq cname)) = true
          · rw [if_pos hloop, if_pos hloop]; exact Does.fail _
          · rw [if_neg hloop, if_neg hloop]
            have hw : cname.wire = rd := parse_wire rd cname hp
            -- whichever hint and owner the chain has reached: the CNAME record, then the next query cycle
            have ho : fold (match os.getLast? with
                | some o => (Hint.mostRecentNameInRdata, o)
                | none => (Hint.qname, qname)).2 = fold (os.getLast?.getD qname) := by cases os.getLast? <;> rfl
            refine Does.bind (by rw [T_CNAME, hR.cls, hw, ← ho]; exact Does.addRr1 .answer _ _ CNAME sz.cls cn.ttl rd)
              (fun _ _ => ?_)
            rw [lookup_eq_spec hR (fold cname) qtype ⟨false, false⟩ (by simp [constrained])]
            cases hl : specLookup sz (fold cname) qtype ⟨false, false⟩ with
            | cname next sos =>
              simp only []
              rw [MAX_CHAIN]
              by_cases hk : os.length < 8 - 1
              · rw [if_pos hk]
                have := ih next (os ++ [cname]) (by simp; omega) (by omega)
                simpa using this
              · rw [if_neg hk]
                have : f' = 0 := by omega
                subst this
                rw [chainS_zero]
                exact Does.fail _
            | _ =>
              exact Does.cycleEnd hR ha cname qtype _ hl (by intro c s h; cases h) .mostRecentNameInRdata

/-! ### `answer` and `answer_any` -/

theorem specLookup_unchecked (sz : SZone) (n : NameL.Name) (t : Nat) (u sbc : Bool) :
    specLookup sz n t ⟨u, sbc⟩ = specLookup sz n t ⟨false, sbc⟩ := rfl

theorem specLookupAll_unchecked (sz : SZone) (n : NameL.Name) (u sbc : Bool) :
    specLookupAll sz n ⟨u, sbc⟩ = specLookupAll sz n ⟨false, sbc⟩ := rfl

theorem specLookupBase_ne_wrongZone {sz : SZone} {n : NameL.Name} (hq : sz.apex <:+ n) (sbc : Bool) :
    specLookupBase sz n sbc ≠ .wrongZone := by
  intro h
  have hs := specLookupBase_sound sz n sbc
  rw [h] at hs
  cases hs with
  | wrongZone hn => exact hn hq

theorem specLookup_ne_wrongZone {sz : SZone} {n : NameL.Name} (hq : sz.apex <:+ n) (t : Nat) (o : Opts) :
    specLookup sz n t o ≠ .wrongZone := by
  unfold specLookup
  have := specLookupBase_ne_wrongZone hq o.searchBelowCuts
  cases hb : specLookupBase sz n o.searchBelowCuts with
  | found rrsets sos =>
    simp only []
    split
    · simp
    · split <;> simp
  | referral c s => simp
  | nxDomain => simp
  | wrongZone => exact absurd hb this

theorem specLookupAll_ne_wrongZone {sz : SZone} {n : NameL.Name} (hq : sz.apex <:+ n) (o : Opts) :
    specLookupAll sz n o ≠ .wrongZone := by
  unfold specLookupAll
  have := specLookupBase_ne_wrongZone hq o.searchBelowCuts
  cases hb : specLookupBase sz n o.searchBelowCuts with
  | found rrsets sos => simp
  | referral c s => simp
  | nxDomain => simp
  | wrongZone => exact absurd hb this

/-- `answer` (a specific QTYPE) of the specification, as an optional delta -/
def answerS (sz : SZone) (qn : NameL.Name) (qt : Nat) : OD :=
  match specLookup sz qn qt ⟨false, false⟩ with
  | .found s _ => OD.seq (some { aa := some true }) (endS sz qt (.data qn s))
  | .cname cn _ => OD.seq (some { aa := some true }) (chainS sz qt 8 [qn] qn cn)
  | .referral c ns => endS sz qt (.referral c ns)
  | .noRecords _ => OD.seq (some { aa := some true }) (negativeS sz)
  | .nxDomain => OD.seq (some { rcode := some NXDOMAIN }) (OD.seq (some { aa := some true }) (negativeS sz))
  | .wrongZone => none

theorem Does.answer {z : Zone.Zone} {sz : SZone} (hR : Rel z sz) (ha : Folded sz.apex)
    (qname : WName) (qtype : Nat) (hq : sz.apex <:+ fold qname) :
    Does (Server.answer z qname qtype) (answerS sz (fold qname) qtype) (fun _ => True) := by
  unfold Server.answer answerS
  rw [lookup_eq_spec hR (fold qname) qtype ⟨true, false⟩
    (by simp [constrained, List.isSuffixOf_iff_suffix.mpr hq]), specLookup_unchecked]
  cases hl : specLookup sz (fold qname) qtype ⟨false, false⟩ with
  | found s sos =>
    simp only [endS]
    refine Does.bind (Does.setAa true) (fun _ _ => ?_)
    rw [hR.cls]
    exact Does.bind (Does.addRrs false .answer .qname qname qtype sz.cls s (by simp))
      (fun hv _ => Does.additionalProcessing hR qtype s hv)
  | cname cn sos =>
    simp only []
    unfold Server.doCname
    refine Does.bind (Does.setAa true) (fun _ _ => ?_)
    have := Does.followCname hR ha qname qtype 9 cn [] (by simp) (by omega)
    simpa [MAX_CHAIN] using this
  | referral c ns =>
    simp only [endS]
    exact Does.referral hR c ((folded_fold qname).suffix (specLookup_referral_suffix hl)) ns
  | noRecords sos =>
    simp only []
    exact Does.bind (Does.setAa true) (fun _ _ => Does.negativeSoa hR ha)
  | nxDomain =>
    simp only []
    rw [RC_NXDOMAIN]
    exact Does.bind (Does.setRcode NXDOMAIN) (fun _ _ => Does.bind (Does.setAa true) (fun _ _ => Does.negativeSoa hR ha))
  | wrongZone => exact absurd hl (specLookup_ne_wrongZone hq _ _)

/-- QTYPE `*` of the specification, as an optional delta -/
def anyS (sz : SZone) (qn : NameL.Name) : OD :=
  match specLookupAll sz qn ⟨false, false⟩ with
  | .found rrsets _ =>
    OD.seq (some { aa := some true })
      (if rrsets.isEmpty then negativeS sz
       else okAdd .answer (rrsets.flatMap (fun s => Spec.Resolve.rrs qn s.rtype sz.cls s)))
  | .referral c ns => referralS sz c ns
  | .nxDomain => OD.seq (some { rcode := some NXDOMAIN }) (OD.seq (some { aa := some true }) (negativeS sz))
  | .wrongZone => none

theorem Does.answerAnyLoop {z : Zone.Zone} {sz : SZone} (hR : Rel z sz) (qname : WName) (rrsets : List Rrset) (n : Nat) :
    Does (Server.answerAnyLoop z qname rrsets n)
      (okAdd .answer (rrsets.flatMap (fun s => Spec.Resolve.rrs (fold qname) s.rtype sz.cls s)))
      (fun m => m = n + rrsets.length) := by
  induction rrsets generalizing n with
  | nil =>
    simp only [Server.answerAnyLoop, List.flatMap_nil, okAdd_nil, List.length_nil, Nat.add_zero]
    exact Does.pure n
  | cons r rest ih =>
    unfold Server.answerAnyLoop
    rw [hR.cls]
    refine Does.congr (Does.bind (Does.addRrs false .answer .qname qname r.rtype sz.cls r (by simp)) (fun _ _ => Does.weaken (ih (n + 1)) (fun m hm => ?_))) ?_
    · simp only [List.length_cons]; omega
    · simp [List.flatMap_cons, okAdd_append]

theorem Does.answerAny {z : Zone.Zone} {sz : SZone} (hR : Rel z sz) (ha : Folded sz.apex)
    (qname : WName) (hq : sz.apex <:+ fold qname) :
    Does (Server.answerAny z qname) (anyS sz (fold qname)) (fun _ => True) := by
  unfold Server.answerAny anyS
  rw [lookupAll_eq_spec hR (fold qname) ⟨true, false⟩
    (by simp [constrained, List.isSuffixOf_iff_suffix.mpr hq]), specLookupAll_unchecked]
  cases hl : specLookupAll sz (fold qname) ⟨false, false⟩ with
  | found rrsets sos =>
    simp only []
    refine Does.bind (Does.setAa true) (fun _ _ => ?_)
    have h2 : ∀ n : Nat, n = 0 + rrsets.length →
        Does (if n = 0 then addNegativeCachingSoa z else (Pure.pure () : PM Unit))
          (if rrsets.isEmpty then negativeS sz else some {}) (fun _ => True) := by
      intro n hn
      cases rrsets with
      | nil =>
        simp only [List.length_nil] at hn
        subst hn
        simpa using Does.negativeSoa hR ha
      | cons r rest =>
        have : n ≠ 0 := by simp at hn; omega
        simp only [this, if_false, List.isEmpty_cons]
        exact Does.unit
    refine Does.congr (Does.bind (Does.answerAnyLoop hR qname rrsets 0) h2) ?_
    cases rrsets with
    | nil => simp [okAdd_nil]
    | cons r rest => simp
  | referral c ns =>
    simp only []
    exact Does.referral hR c ((folded_fold qname).suffix (specLookupAll_referral_suffix hl)) ns
  | nxDomain =>
    simp only []
    rw [RC_NXDOMAIN]
    exact Does.bind (Does.setRcode NXDOMAIN) (fun _ _ => Does.bind (Does.setAa true) (fun _ _ => Does.negativeSoa hR ha))
  | wrongZone => exact absurd hl (specLookupAll_ne_wrongZone hq _)

/-! ### the specification in delta form: `specResolve` is the view of `resolveS` -/

def servfailView : View := { rcode := SERVFAIL, aa := false, tc := false }

/-- the view an optional delta amounts to, starting from the empty response -/
def OD.view : OD → View
  | some d => d.apply {}
  | none => servfailView

@[simp] theorem allRenderable_nil : allRenderable [] = true := rfl

/-- a guarded delta: `some d` if `c`, else the specification's SERVFAIL -/
def gd (c : Bool) (d : Delta) : OD := if c then some d else none

theorem some_gd (d : Delta) : (some d : OD) = gd true d := rfl
theorem okAdd_gd (sec : RrSection) (rs : List RR) : okAdd sec rs = gd (allRenderable rs) (Delta.add sec rs) := rfl
theorem gd_seq (c1 c2 : Bool) (d1 d2 : Delta) : OD.seq (gd c1 d1) (gd c2 d2) = gd (c1 && c2) (d1.seq d2) := by
  cases c1 <;> cases c2 <;> rfl
theorem gd_view (c : Bool) (d : Delta) : OD.view (gd c d) = if c then d.apply {} else servfailView := by
  cases c <;> rfl
theorem checked_view (r : Resolution) :
    View.ofResolution (checked r) =
      if allRenderable r.answer && allRenderable r.authority && allRenderable r.additional then View.ofResolution r
      else servfailView := by
  unfold checked; split <;> rfl

/-- AA of the finished response: clear only for a referral straight from the QNAME -/
def aaOf (ls : List RR) : End → Bool
  | .referral _ _ => !ls.isEmpty
  | _ => true

theorem finish_view (sz : SZone) (qt : Nat) (ls : List RR) (e : End) :
    View.ofResolution (Spec.Resolve.finish sz qt ls e) =
      OD.view (OD.seq (some { aa := some (aaOf ls e) }) (OD.seq (okAdd .answer ls) (endS sz qt e))) := by
  cases e with
  | data o s =>
    simp only [Spec.Resolve.finish, endS, additionalS, aaOf]
    cases additionalFor sz qt s with
    | none => simp [OD.view, View.ofResolution, servfailView, servfail]
    | some ar =>
      simp only [some_gd, okAdd_gd, gd_seq, gd_view, checked_view, allRenderable_append, allRenderable_nil,
        Bool.and_true, Bool.true_and, Bool.and_assoc]
      split <;> simp [Delta.seq, Delta.apply, Delta.add, View.ofResolution, servfailView, NOERROR]
  | referral c ns =>
    simp only [Spec.Resolve.finish, endS, referralS, aaOf]
    cases nsTargets c ns with
    | none => simp [OD.view, View.ofResolution, servfailView, servfail]
    | some p =>
      obtain ⟨inb, others⟩ := p
      simp only [some_gd, okAdd_gd, gd_seq, gd_view, checked_view, allRenderable_append, Bool.true_and,
        Bool.and_assoc]
      split <;> simp [Delta.seq, Delta.apply, Delta.add, View.ofResolution, servfailView, NOERROR]
  | noData =>
    simp only [Spec.Resolve.finish, negative, endS, negativeS, aaOf]
    cases Spec.Resolve.negativeSoa sz with
    | none => simp [OD.view, View.ofResolution, servfailView, servfail]
    | some soa =>
      simp only [some_gd, okAdd_gd, gd_seq, gd_view, checked_view, allRenderable_nil, Bool.and_true, Bool.true_and]
      split <;> simp [Delta.seq, Delta.apply, Delta.add, View.ofResolution, servfailView, NOERROR]
  | nxDomain =>
    simp only [Spec.Resolve.finish, negative, endS, negativeS, aaOf]
    cases Spec.Resolve.negativeSoa sz with
    | none => simp [OD.view, View.ofResolution, servfailView, servfail]
    | some soa =>
      simp only [some_gd, okAdd_gd, gd_seq, gd_view, checked_view, allRenderable_nil, Bool.and_true, Bool.true_and]
      split <;> simp [Delta.seq, Delta.apply, Delta.add, View.ofResolution, servfailView]
  | outOfZone =>
    simp only [Spec.Resolve.finish, endS, aaOf]
    simp only [some_gd, okAdd_gd, gd_seq, gd_view, checked_view, allRenderable_nil, Bool.and_true, Bool.true_and]
    split <;> simp [Delta.seq, Delta.apply, Delta.add, View.ofResolution, servfailView, NOERROR]
  | fail => simp [Spec.Resolve.finish, endS, OD.view, View.ofResolution, servfailView, servfail]

/-- what `chase` returns, when it does not fail, is a chain in the sense of `Chain` -/
theorem chase_sound (sz : SZone) (qt : Nat) (k : Nat) (visited : List NameL.Name) (owner : NameL.Name)
    (cn : Rrset) (ls : List RR) (e : End) (h : chase sz qt k visited owner cn = (ls, e)) (he : e ≠ .fail) :
    Chain sz qt visited owner cn k ls e := by
  induction k generalizing visited owner cn ls e with
  | zero => simp [chase] at h; exact absurd h.2.symm he
  | succ k ih =>
    rw [chase] at h
    cases hrd : cn.rdatas with
    | nil => rw [hrd] at h; cases h; exact absurd rfl he
    | cons rd rest =>
      rw [hrd] at h
      simp only [] at h
      cases ht : exactName rd with
      | none => rw [ht] at h; cases h; exact absurd rfl he
      | some target =>
        rw [ht] at h
        simp only [] at h
        by_cases hv : visited.contains target = true
        · rw [if_pos hv] at h; cases h; exact absurd rfl he
        · rw [if_neg hv] at h
          have hv' : visited.contains target = false := by simpa using hv
          cases hl : specLookup sz target qt ⟨false, false⟩ with
          | cname next sos =>
            rw [hl] at h
            simp only [] at h
            rcases hc : chase sz qt k (target :: visited) target next with ⟨ls', e'⟩
            rw [hc] at h
            by_cases hf : e' = .fail
            · subst hf; cases h; exact absurd rfl he
            · have h' : ((⟨owner, CNAME, sz.cls, cn.ttl, rd⟩ : RR) :: ls', e') = (ls, e) := by
                cases e' <;> first | exact absurd rfl hf | exact h
              cases h'
              exact Chain.link hrd ht hv' hl (ih _ _ _ _ _ hc hf)
          | _ =>
            -- the chain ends here, whatever else the lookup finds
            rw [hl] at h; cases h
            exact Chain.last hrd ht hv' hl rfl

/-- a chain that does not fail has collected at least one CNAME record -/
theorem chase_nonempty (sz : SZone) (qt links : Nat) (visited : List NameL.Name) (owner : NameL.Name) (cn : Rrset)
    (ls : List RR) (e : End) (h : chase sz qt links visited owner cn = (ls, e)) (he : e ≠ .fail) : ls ≠ [] := by
  cases chase_sound sz qt links visited owner cn ls e h he <;> simp

/-- the answer phase of the specification, as an optional delta (mirrors `specResolve`) -/
def resolveS (sz : SZone) (qn : NameL.Name) (qt : Nat) : OD :=
  if qt = ANY then anyS sz qn else answerS sz qn qt

/-- AA is clear in the empty response: clearing it first changes nothing -/
theorem view_aa_false (X : OD) : OD.view (OD.seq (some { aa := some false }) X) = OD.view X := by
  cases X with
  | none => rfl
  | some d => cases d with | mk an ns ar aa rc => cases aa <;> simp [OD.view, OD.seq, Delta.seq, Delta.apply]

/-- setting RCODE and setting AA commute -/
theorem rcode_aa_comm (r : Nat) (b : Bool) (X : OD) :
    OD.seq (some { rcode := some r }) (OD.seq (some { aa := some b }) X) =
      OD.seq (some { aa := some b }) (OD.seq (some { rcode := some r }) X) := by
  cases X with
  | none => rfl
  | some d => cases d with | mk an ns ar aa rc => cases aa <;> cases rc <;> simp [OD.seq, Delta.seq]

theorem answerS_view (sz : SZone) (qn : NameL.Name) (qt : Nat) (hne : qt ≠ ANY) (hq : sz.apex <:+ qn) :
    OD.view (answerS sz qn qt) = View.ofResolution (specResolve sz qn qt) := by
  unfold answerS specResolve
  rw [if_neg hne]
  cases hl : specLookup sz qn qt ⟨false, false⟩ with
  | cname cn sos =>
    simp only [chainS]
    rcases hc : chase sz qt 8 [qn] qn cn with ⟨ls, e⟩
    rw [finish_view]
    cases e with
    | fail => simp [endS]
    | referral c ns =>
      have : ls.isEmpty = false := by
        simpa using chase_nonempty sz qt 8 [qn] qn cn ls _ hc (by simp)
      simp [aaOf, this]
    | _ => rfl
  | wrongZone => exact absurd hl (specLookup_ne_wrongZone hq _ _)
  | referral c ns =>
    simp only [Spec.Resolve.cycleEnd, Option.getD_some]
    rw [finish_view, aaOf, okAdd_nil, OD.seq_id_left]
    exact (view_aa_false _).symm
  | nxDomain =>
    simp only [Spec.Resolve.cycleEnd, Option.getD_some]
    rw [finish_view, okAdd_nil, OD.seq_id_left, endS, rcode_aa_comm]; rfl
  | _ =>
    simp only [Spec.Resolve.cycleEnd, Option.getD_some]
    rw [finish_view, okAdd_nil, OD.seq_id_left]; rfl

theorem anyS_view (sz : SZone) (qn : NameL.Name) (hq : sz.apex <:+ qn) :
    OD.view (anyS sz qn) = View.ofResolution (resolveAny sz qn) := by
  unfold anyS resolveAny
  cases hl : specLookupAll sz qn ⟨false, false⟩ with
  | found rrsets sos =>
    simp only []
    split
    · exact (finish_view sz ANY [] .noData).trans (by rw [okAdd_nil, OD.seq_id_left]; rfl) |>.symm
    · simp only [some_gd, okAdd_gd, gd_seq, gd_view, checked_view, allRenderable_nil, Bool.and_true, Bool.true_and]
      split <;> simp [Delta.seq, Delta.apply, Delta.add, View.ofResolution, servfailView, NOERROR]
  | referral c ns =>
    simp only []
    rw [finish_view, aaOf, okAdd_nil, OD.seq_id_left]
    exact (view_aa_false _).symm
  | nxDomain =>
    exact (finish_view sz ANY [] .nxDomain).trans (by rw [okAdd_nil, OD.seq_id_left, endS, rcode_aa_comm]; rfl) |>.symm
  | wrongZone => exact absurd hl (specLookupAll_ne_wrongZone hq _)

/-- **the specification is the view of its delta form** -/
theorem resolveS_view (sz : SZone) (qn : NameL.Name) (qt : Nat) (hq : sz.apex <:+ qn) :
    OD.view (resolveS sz qn qt) = View.ofResolution (specResolve sz qn qt) := by
  unfold resolveS
  by_cases h : qt = ANY
  · rw [if_pos h, anyS_view sz qn hq]
    unfold specResolve
    rw [if_pos h]
  · rw [if_neg h, answerS_view sz qn qt h hq]

/-! ### `handle_non_axfr_query`: the epilogue -/

/-- no header operation failed -/
def NoBad (evs : List Ev) : Prop := Ev.bad ∉ evs

theorem GoodLog.noBad {evs : List Ev} (h : GoodLog evs) : NoBad evs := by
  intro hb
  exact h _ hb

theorem hdrOp_log (ev : Ev) (m : M Unit) (ps : PS) :
    ((PM.hdrOp ev m ps).2.log = ps.log ++ [ev] ∧ (PM.hdrOp ev m ps).1 = .ok ()) ∨
    (PM.hdrOp ev m ps).2.log = ps.log ++ [.bad] := by
  unfold PM.hdrOp
  rcases h : m ps.w with ⟨(u | e | _), w'⟩ <;> simp

/-- the events `handle_non_axfr_query` appends after the answering logic returned `r` -/
def tailEvs (tr : Transport) : Out PErr Unit → List Ev
  | .ok _ => []
  | .err .servFail => [.aa false, .rcode SERVFAIL, .clear]
  | .err .truncation => if tr = .tcp then [.clear, .aa false, .rcode SERVFAIL] else [.clear, .tc true]
  | .panic => []

/-- the epilogue logs header operations only -/
theorem tailEvs_hdr (tr : Transport) (r : Out PErr Unit) : ∀ e ∈ tailEvs tr r, e ≠ .bad ∧ ∀ a, e ≠ .add a := by
  rcases r with _ | (_ | _) | _ <;> cases tr <;> simp [tailEvs]

/-- a run of header operations (each succeeds or panics: `Total`) logging `evs` -/
inductive HdrOps : PM Unit → List Ev → Prop
  | one (ev : Ev) (m : M Unit) : Total m → HdrOps (PM.hdrOp ev m) [ev]
  | cons (ev : Ev) (m : M Unit) {k : PM Unit} {evs : List Ev} : Total m → HdrOps k evs →
      HdrOps (PM.hdrOp ev m >>= fun _ => k) (ev :: evs)

/-- either every operation succeeds — exactly `evs` is logged, the result is `Ok` — or one panics:
    then `bad` is logged and the run panics -/
theorem HdrOps.run {p : PM Unit} {evs : List Ev} (h : HdrOps p evs) (ps : PS) :
    ((p ps).2.log = ps.log ++ evs ∧ (p ps).1 = .ok ()) ∨ (Ev.bad ∈ (p ps).2.log ∧ (p ps).1 = .panic) := by
  induction h generalizing ps with
  | one ev m t =>
    unfold PM.hdrOp
    rcases h : m ps.w with ⟨(u | e | _), w'⟩
    · exact Or.inl ⟨rfl, rfl⟩
    · exact absurd (by rw [h]) ((t ps.w).1 e)
    · exact Or.inr ⟨by simp, rfl⟩
  | cons ev m t _ ih =>
    rw [bind_def]
    unfold PM.hdrOp
    rcases h : m ps.w with ⟨(u | e | _), w'⟩
    · rcases ih ⟨w', ps.log ++ [ev]⟩ with ⟨h1, h2⟩ | ⟨h1, h2⟩
      · exact Or.inl ⟨by rw [h1]; simp, h2⟩
      · exact Or.inr ⟨h1, h2⟩
    · exact absurd (by rw [h]) ((t ps.w).1 e)
    · exact Or.inr ⟨by simp, rfl⟩

/-- the answering logic proper: `answer_any` for QTYPE `*`, `answer` otherwise -/
def inner (z : Zone.Zone) (qname : WName) (qtype : Nat) : PM Unit :=
  if qtype = QT "ANY" then answerAny z qname else Server.answer z qname qtype

theorem inner_apply (z : Zone.Zone) (qname : WName) (qtype : Nat) (ps : PS) :
    inner z qname qtype ps =
      if qtype = QT "ANY" then answerAny z qname ps else Server.answer z qname qtype ps := by
  unfold inner; split <;> rfl

/-- **the epilogue of `handle_non_axfr_query`**: after the answering logic returned `r`, exactly the
    events `tailEvs tr r` are appended and the result is `Ok` — a panic of the answering logic is
    passed on — unless a header operation of the epilogue panics, which logs `bad` -/
theorem handle_log_cases (z : Zone.Zone) (qname : WName) (qtype : Nat) (tr : Transport) (ps : PS) :
    ((handleNonAxfrQueryL z qname qtype tr ps).2.log
        = (inner z qname qtype ps).2.log ++ tailEvs tr (inner z qname qtype ps).1 ∧
      (((inner z qname qtype ps).1 = .panic ∧ (handleNonAxfrQueryL z qname qtype tr ps).1 = .panic) ∨
       ((inner z qname qtype ps).1 ≠ .panic ∧ (handleNonAxfrQueryL z qname qtype tr ps).1 = .ok ()))) ∨
    (Ev.bad ∈ (handleNonAxfrQueryL z qname qtype tr ps).2.log ∧
      (handleNonAxfrQueryL z qname qtype tr ps).1 = .panic) := by
  have tAa : ∀ b, Total (Writer.setAa b) := fun b => total_setBit _ _ b
  have tTc : ∀ b, Total (Writer.setTc b) := fun b => total_setBit _ _ b
  unfold handleNonAxfrQueryL
  simp only [← inner_apply]
  rcases hr : inner z qname qtype ps with ⟨(u | e | _), ps1⟩
  · exact Or.inl ⟨by simp [tailEvs], Or.inr ⟨by simp, rfl⟩⟩
  · have ep : ∀ {p : PM Unit} {evs : List Ev}, HdrOps p evs → tailEvs tr (.err e) = evs →
        ((p ps1).2.log = ps1.log ++ tailEvs tr (.err e) ∧
          ((Out.err e : Out PErr Unit) = .panic ∧ (p ps1).1 = .panic ∨ (Out.err e : Out PErr Unit) ≠ .panic ∧ (p ps1).1 = .ok ())) ∨
        (Ev.bad ∈ (p ps1).2.log ∧ (p ps1).1 = .panic) := by
      intro p evs hp he
      rcases hp.run ps1 with ⟨h1, h2⟩ | h
      · exact Or.inl ⟨by rw [he]; exact h1, Or.inr ⟨by simp, h2⟩⟩
      · exact Or.inr h
    cases e with
    | servFail =>
      exact ep (.cons _ _ (tAa false) (.cons _ _ (total_setRcode _) (.one _ _ total_clearRrs)))
        rfl
    | truncation =>
      by_cases htr : tr = Transport.tcp
      · subst htr
        simp only [if_true]
        exact ep (.cons _ _ total_clearRrs (.cons _ _ (tAa false) (.one _ _ (total_setRcode _))))
          rfl
      · simp only [htr, if_false]
        exact ep (.cons _ _ total_clearRrs (.one _ _ (tTc true))) (by simp [tailEvs, htr])
  · exact Or.inl ⟨by simp [tailEvs], Or.inl ⟨rfl, rfl⟩⟩

/-- the epilogue, when no header operation failed -/
theorem handle_log (z : Zone.Zone) (qname : WName) (qtype : Nat) (tr : Transport) (ps : PS)
    (hnb : NoBad (handleNonAxfrQueryL z qname qtype tr ps).2.log) :
    (handleNonAxfrQueryL z qname qtype tr ps).2.log
      = (inner z qname qtype ps).2.log ++ tailEvs tr (inner z qname qtype ps).1 ∧
    ((inner z qname qtype ps).1 ≠ .panic → (handleNonAxfrQueryL z qname qtype tr ps).1 = .ok ()) := by
  rcases handle_log_cases z qname qtype tr ps with ⟨h1, h2⟩ | ⟨h1, _⟩
  · refine ⟨h1, fun hnp => ?_⟩
    rcases h2 with ⟨h, _⟩ | ⟨_, h⟩
    · exact absurd h hnp
    · exact h
  · exact absurd h1 hnb

theorem Does.inner {z : Zone.Zone} {sz : SZone} (hR : Rel z sz) (ha : Folded sz.apex)
    (qname : WName) (qtype : Nat) (hq : sz.apex <:+ fold qname) :
    Does (inner z qname qtype) (resolveS sz (fold qname) qtype) (fun _ => True) := by
  unfold ServerAnswer.inner resolveS
  rw [QT_ANY]
  by_cases h : qtype = ANY
  · rw [if_pos h, if_pos h]; exact Does.answerAny hR ha qname hq
  · rw [if_neg h, if_neg h]; exact Does.answer hR ha qname qtype hq

/-- only `set_tc` touches TC -/
theorem foldl_tc {evs : List Ev} (hi : ∀ e ∈ evs, ∀ b, e ≠ Ev.tc b) (v : View) : (evs.foldl View.step v).tc = v.tc := by
  induction evs generalizing v with
  | nil => rfl
  | cons e rest ih =>
    rw [List.foldl_cons, ih (fun x hx => hi x (List.mem_cons_of_mem _ hx))]
    have := hi e List.mem_cons_self
    cases e with
    | add a => exact (step_add_flags v a).2.1
    | tc b => exact absurd rfl (this b)
    | _ => rfl

/-- **C05, model side**: started with an empty log, if every logged writer call is good (no
    capacity error, no panic, RDATA check faithful), `handle_non_axfr_query` returns `Ok` and the
    view of its log is the specification's resolution of `(qname, qtype)` -/
theorem handle_view {z : Zone.Zone} {sz : SZone} (hR : Rel z sz) (ha : Folded sz.apex)
    (qname : WName) (qtype : Nat) (hq : sz.apex <:+ fold qname) (tr : Transport) (ps : PS) (h0 : ps.log = [])
    (hg : GoodLog (handleNonAxfrQueryL z qname qtype tr ps).2.log) :
    (handleNonAxfrQueryL z qname qtype tr ps).1 = .ok () ∧
    view (handleNonAxfrQueryL z qname qtype tr ps).2.log
      = View.ofResolution (specResolve sz (fold qname) qtype) := by
  obtain ⟨hlog, hres⟩ := handle_log z qname qtype tr ps hg.noBad
  obtain ⟨evs, hl, hi, _, hc⟩ := Does.inner hR ha qname qtype hq ps
  rw [h0, List.nil_append] at hl
  rw [hlog, hl] at hg
  obtain ⟨hg1, hg2⟩ := GoodLog.append.mp hg
  have c := hc hg1
  rw [← resolveS_view sz (fold qname) qtype hq]
  cases hS : resolveS sz (fold qname) qtype with
  | some d =>
    rw [hS] at c
    obtain ⟨⟨a, hok⟩, hv⟩ := c
    refine ⟨hres (by rw [hok]; simp), ?_⟩
    rw [hlog, hl, hok]
    simp [tailEvs, view, hv, OD.view]
  | none =>
    rw [hS] at c
    simp only [] at c
    refine ⟨hres (by rw [c]; simp), ?_⟩
    rw [hlog, hl, c]
    simp only [tailEvs, view, List.foldl_append, List.foldl_cons, List.foldl_nil, View.step, OD.view, servfailView]
    have := foldl_tc (fun e he => (hi e he).1) ({} : View)
    simp [this]



/-! ### from "no capacity error" to `GoodLog` -/

/-- no logged writer call hit a capacity limit (`Truncation`, `CountOverflow`), was out of order
    or panicked, and no header operation failed: every record-adding call ended `Ok` or
    `InvalidRdata` -/
def NoCapErr (evs : List Ev) : Prop :=
  ∀ e ∈ evs, e ≠ .bad ∧ ∀ a, e = .add a → a.res = .ok () ∨ a.res = .err .InvalidRdata

theorem goodLog_of_inv (hW : WriterRdataFaithful) {evs : List Ev} (hi : Inv evs) (hn : NoCapErr evs) : GoodLog evs := by
  intro e he
  have h1 := hi e he
  have h2 := hn e he
  cases e with
  | add a =>
    have hf := (h1.2.2 a rfl).2 hW
    rcases h2.2 a rfl with h | h
    · exact Or.inl ⟨h, hf.1 h⟩
    · exact Or.inr ⟨h, hf.2 h⟩
  | aa b => trivial
  | rcode r => trivial
  | tc b => trivial
  | clear => trivial
  | bad => exact absurd rfl h2.1

theorem NoCapErr.append {a b : List Ev} : NoCapErr (a ++ b) ↔ NoCapErr a ∧ NoCapErr b :=
  List.forall_mem_append

theorem NoCapErr.noBad {evs : List Ev} (h : NoCapErr evs) : NoBad evs := fun hb => (h _ hb).1 rfl

/-- the epilogue logs header operations only -/
theorem goodLog_tail (tr : Transport) (r : Out PErr Unit) : GoodLog (tailEvs tr r) := by
  intro e he
  obtain ⟨h1, h2⟩ := tailEvs_hdr tr r e he
  cases e with
  | add a => exact absurd rfl (h2 a)
  | bad => exact absurd rfl h1
  | _ => trivial

/-- **C05, model side, for a faithful writer**: started with an empty log, if no logged writer call
    reports a capacity error (or panics), `handle_non_axfr_query` returns `Ok` and the view of its
    log — RCODE, AA, TC, the three sections — is the specification's resolution -/
theorem handle_view_nocap (hW : WriterRdataFaithful) {z : Zone.Zone} {sz : SZone} (hR : Rel z sz) (ha : Folded sz.apex)
    (qname : WName) (qtype : Nat) (hq : sz.apex <:+ fold qname) (tr : Transport) (ps : PS) (h0 : ps.log = [])
    (hn : NoCapErr (handleNonAxfrQueryL z qname qtype tr ps).2.log) :
    (handleNonAxfrQueryL z qname qtype tr ps).1 = .ok () ∧
    view (handleNonAxfrQueryL z qname qtype tr ps).2.log
      = View.ofResolution (specResolve sz (fold qname) qtype) := by
  refine handle_view hR ha qname qtype hq tr ps h0 ?_
  obtain ⟨hlog, _⟩ := handle_log z qname qtype tr ps hn.noBad
  obtain ⟨evs, hl, hi⟩ := (Does.inner hR ha qname qtype hq).events ps
  rw [h0, List.nil_append] at hl
  rw [hlog, hl] at hn ⊢
  exact GoodLog.append.mpr ⟨goodLog_of_inv hW hi (NoCapErr.append.mp hn).1, goodLog_tail _ _⟩



/-! ### C04: truncation, and which calls may be dropped -/

/-- the view after the epilogue, in terms of the view of the answering logic's own log -/
theorem view_tail (l : List Ev) (tr : Transport) (r : Out PErr Unit) :
    view (l ++ tailEvs tr r) =
      match r with
      | .ok _ => view l
      | .panic => view l
      | .err .servFail => { rcode := SERVFAIL, aa := false, tc := (view l).tc }
      | .err .truncation =>
        if tr = .tcp then { rcode := SERVFAIL, aa := false, tc := (view l).tc }
        else { rcode := (view l).rcode, aa := (view l).aa, tc := true } := by
  cases r with
  | ok u => simp [tailEvs]
  | panic => simp [tailEvs]
  | err e =>
    cases e with
    | servFail => simp [tailEvs, view, List.foldl_append, View.step]
    | truncation =>
      by_cases h : tr = Transport.tcp
      · simp [tailEvs, h, view, List.foldl_append, View.step]
      · simp [tailEvs, h, view, List.foldl_append, View.step]

/-- a lighter judgement than `Does`: `m` only appends events satisfying `P`, and yields only values
    satisfying `post` — for every writer behaviour, good or not -/
def Logs {α} (m : PM α) (P : Ev → Prop) (post : α → Prop) : Prop :=
  ∀ ps : PS, ∃ evs, (m ps).2.log = ps.log ++ evs ∧ (∀ e ∈ evs, P e) ∧ ∀ a, (m ps).1 = .ok a → post a

/-- what a run appends to the log -/
theorem Logs.events {α} {m : PM α} {P : Ev → Prop} {post : α → Prop} (h : Logs m P post) (ps : PS) :
    ∃ evs, (m ps).2.log = ps.log ++ evs ∧ ∀ e ∈ evs, P e :=
  let ⟨evs, hl, hP, _⟩ := h ps
  ⟨evs, hl, hP⟩

theorem Logs.pure {α} (a : α) (P : Ev → Prop) : Logs (Pure.pure a : PM α) P (fun x => x = a) := by
  intro ps
  exact ⟨[], by simp [pure_def], by simp, fun x hx => by simp [pure_def] at hx; exact hx.symm⟩

theorem Logs.fail {α} (e : PErr) (P : Ev → Prop) (post : α → Prop) : Logs (PM.fail e : PM α) P post := by
  intro ps
  exact ⟨[], by simp [PM.fail], by simp, fun x hx => by simp [PM.fail] at hx⟩

theorem Logs.panic {α} (P : Ev → Prop) (post : α → Prop) : Logs (PM.panic : PM α) P post := by
  intro ps
  exact ⟨[], by simp [PM.panic], by simp, fun x hx => by simp [PM.panic] at hx⟩

theorem Logs.weaken {α} {m : PM α} {P Q : Ev → Prop} {p q : α → Prop} (h : Logs m P p)
    (hPQ : ∀ e, P e → Q e) (hpq : ∀ a, p a → q a) : Logs m Q q := by
  intro ps
  obtain ⟨evs, h1, h2, h3⟩ := h ps
  exact ⟨evs, h1, fun e he => hPQ e (h2 e he), fun a ha => hpq a (h3 a ha)⟩

theorem Logs.bind {α β} {m : PM α} {f : α → PM β} {P : Ev → Prop} {p1 : α → Prop} {p2 : β → Prop}
    (h1 : Logs m P p1) (h2 : ∀ a, p1 a → Logs (f a) P p2) : Logs (m >>= f) P p2 := by
  intro ps
  obtain ⟨evs1, hl1, hP1, hp1⟩ := h1 ps
  rw [bind_def]
  rcases hm : m ps with ⟨(a | e | _), ps1⟩
  · rw [hm] at hl1 hp1
    obtain ⟨evs2, hl2, hP2, hp2⟩ := h2 a (hp1 a rfl) ps1
    refine ⟨evs1 ++ evs2, ?_, ?_, hp2⟩
    · simp only [] at hl1 ⊢; rw [hl2, hl1, List.append_assoc]
    · intro e he
      rcases List.mem_append.mp he with h | h
      · exact hP1 e h
      · exact hP2 e h
  · rw [hm] at hl1
    exact ⟨evs1, hl1, hP1, by intro x hx; simp at hx⟩
  · rw [hm] at hl1
    exact ⟨evs1, hl1, hP1, by intro x hx; simp at hx⟩

theorem Logs.addCall (ev : AddEv) (m : M HV) (P : Ev → Prop) (hP : ∀ r, P (.add { ev with res := r })) :
    Logs (PM.addCall ev m) P (fun _ => True) := by
  intro ps
  unfold PM.addCall
  rcases h : m ps.w with ⟨(hv | e | _), w'⟩
  · exact ⟨[.add { ev with res := .ok () }], by simp, by simpa using hP _, by simp⟩
  · refine ⟨[.add { ev with res := .err e }], ?_, by simpa using hP _, by simp⟩
    simp only []; split <;> rfl
  · exact ⟨[.add { ev with res := .panic }], by simp, by simpa using hP _, by simp⟩

end QV.ServerAnswer
