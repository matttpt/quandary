/-
  QV.Proofs.Rrl — lemmas behind C26, C27 (and the sequential core of C28): the configuration is
  valid, the critical section of `process_response` refines one response of the eager token
  bucket, keys are streams, and over whole histories every key sees its own bucket.
-/
import QV.Model.Rrl
import QV.Spec.Rrl
import QV.Proofs.Bytes

namespace QV.Rrl
open QV

/-! ### parameters -/

/-- the configured responses-per-second of a category -/
def rateOf (p : RrlParams) : Category → Nat
  | .NoError => p.noerror_rate
  | .NxDomain => p.nxdomain_rate
  | .Error => p.error_rate

/-- the limit of a category's buckets: rate × window -/
def capOf (p : RrlParams) (c : Category) : Nat := rateOf p c * p.window

/-- what every configuration accepted by `RrlParams::new` and the setters satisfies -/
structure RrlParams.Valid (p : RrlParams) : Prop where
  rate_pos : ∀ c, 1 ≤ rateOf p c
  window_pos : 1 ≤ p.window
  cap_u32 : ∀ c, capOf p c ≤ U32_MAX
  size_pos : 1 ≤ p.size

theorem RrlParams.Valid.cap_pos {p : RrlParams} (hv : p.Valid) (c : Category) : 1 ≤ capOf p c :=
  Nat.mul_le_mul (hv.rate_pos c) hv.window_pos

/-- what `RrlParams::new` accepts, and what it then returns: the arguments and the defaults -/
theorem new_ok {ne nx er w : Nat} {p : RrlParams} (h : RrlParams.new ne nx er w = .ok p) :
    (1 ≤ ne ∧ 1 ≤ nx ∧ 1 ≤ er ∧ 1 ≤ w ∧ ne * w ≤ U32_MAX ∧ nx * w ≤ U32_MAX ∧ er * w ≤ U32_MAX) ∧
    p = { noerror_rate := ne, nxdomain_rate := nx, error_rate := er, window := w,
          slip := Gen.RRL_DEFAULT_SLIP,
          ipv4_netmask := UInt32.ofNat Gen.RRL_DEFAULT_IPV4_NETMASK,
          ipv6_netmask := UInt64.ofNat Gen.RRL_DEFAULT_IPV6_NETMASK,
          size := Gen.RRL_DEFAULT_SIZE } := by
  unfold RrlParams.new at h
  by_cases h1 : ne = 0
  · rw [if_pos h1] at h; cases h
  by_cases h2 : nx = 0
  · rw [if_neg h1, if_pos h2] at h; cases h
  by_cases h3 : er = 0
  · rw [if_neg h1, if_neg h2, if_pos h3] at h; cases h
  by_cases h4 : w = 0
  · rw [if_neg h1, if_neg h2, if_neg h3, if_pos h4] at h; cases h
  by_cases h5 : (u32MulOverflows ne w || u32MulOverflows nx w || u32MulOverflows er w) = true
  · rw [if_neg h1, if_neg h2, if_neg h3, if_neg h4, if_pos h5] at h; cases h
  rw [if_neg h1, if_neg h2, if_neg h3, if_neg h4, if_neg h5] at h
  simp only [u32MulOverflows, Bool.or_eq_true, decide_eq_true_eq, not_or, Nat.not_lt] at h5
  cases h
  exact ⟨⟨by omega, by omega, by omega, by omega, h5.1.1, h5.1.2, h5.2⟩, rfl⟩

/-- validity only depends on the rates, the window and the size -/
theorem valid_of {p : RrlParams} {ne nx er w : Nat}
    (h : 1 ≤ ne ∧ 1 ≤ nx ∧ 1 ≤ er ∧ 1 ≤ w ∧ ne * w ≤ U32_MAX ∧ nx * w ≤ U32_MAX ∧ er * w ≤ U32_MAX)
    (h1 : p.noerror_rate = ne) (h2 : p.nxdomain_rate = nx) (h3 : p.error_rate = er) (h4 : p.window = w)
    (h5 : 1 ≤ p.size) : p.Valid := by
  obtain ⟨a1, a2, a3, a4, c1, c2, c3⟩ := h
  subst h1 h2 h3 h4
  exact ⟨fun c => by cases c <;> assumption, a4, fun c => by cases c <;> assumption, h5⟩

theorem setIpv4PrefixLen_ok {p q : RrlParams} {len : Nat} (h : p.setIpv4PrefixLen len = .ok q) :
    len ≤ 32 ∧ q = { p with ipv4_netmask := if len = 0 then 0 else ipv4MaskOfLen len } := by
  unfold RrlParams.setIpv4PrefixLen at h
  split at h
  · cases h
  · next hl => split at h <;> cases h <;> exact ⟨Nat.not_lt.mp hl, by simp only [*, if_true, if_false]⟩

theorem setIpv6PrefixLen_ok {p q : RrlParams} {len : Nat} (h : p.setIpv6PrefixLen len = .ok q) :
    len ≤ 64 ∧ q = { p with ipv6_netmask := if len = 0 then 0 else ipv6MaskOfLen len } := by
  unfold RrlParams.setIpv6PrefixLen at h
  split at h
  · cases h
  · next hl => split at h <;> cases h <;> exact ⟨Nat.not_lt.mp hl, by simp only [*, if_true, if_false]⟩

theorem setSize_ok {p q : RrlParams} {size : Nat} (h : p.setSize size = .ok q) :
    1 ≤ size ∧ q = { p with size } := by
  unfold RrlParams.setSize at h
  split at h
  · cases h
  · next hs => cases h; exact ⟨Nat.pos_of_ne_zero hs, rfl⟩

/-- The configuration sequence (constructor + setters) only produces valid parameters, with
    the slip and the netmasks of the requested prefix lengths. -/
theorem configure_ok {ne nx er w slip v4len v6len size : Nat} {p : RrlParams}
    (h : RrlParams.configure ne nx er w slip v4len v6len size = .ok p) :
    p.Valid ∧ p.noerror_rate = ne ∧ p.nxdomain_rate = nx ∧ p.error_rate = er ∧ p.window = w ∧
    p.slip = slip ∧ p.size = size ∧ v4len ≤ 32 ∧ v6len ≤ 64 ∧
    p.ipv4_netmask = (if v4len = 0 then 0 else ipv4MaskOfLen v4len) ∧
    p.ipv6_netmask = (if v6len = 0 then 0 else ipv6MaskOfLen v6len) := by
  unfold RrlParams.configure at h
  obtain ⟨p0, h0, h⟩ := Out.bind_eq_ok h
  obtain ⟨p4, h4, h⟩ := Out.bind_eq_ok h
  obtain ⟨p6, h6, h⟩ := Out.bind_eq_ok h
  obtain ⟨hb, rfl⟩ := new_ok h0
  obtain ⟨g4, rfl⟩ := setIpv4PrefixLen_ok h4
  obtain ⟨g6, rfl⟩ := setIpv6PrefixLen_ok h6
  obtain ⟨gs, rfl⟩ := setSize_ok h
  exact ⟨valid_of hb rfl rfl rfl rfl gs, rfl, rfl, rfl, rfl, rfl, rfl, g4, g6, rfl, rfl⟩

theorem rateAndLimit_ok {p : RrlParams} (hv : p.Valid) (c : Category) :
    rateAndLimitForCategory p c = .ok (rateOf p c, capOf p c) := by
  have h := hv.cap_u32 c
  cases c <;> simp [rateAndLimitForCategory, u32Mul, capOf, rateOf] at h ⊢ <;> simp [h] <;> rfl

/-! ### the refill arithmetic (u64 saturating multiplication, clamp, cast) -/

/-- For **all** rates and gaps the refill of the code is the ℕ value `min (rate·secs) (2³²−1)`:
    no overflow, no truncation. -/
theorem refillOf_eq (rate secs : Nat) : refillOf rate secs = min (rate * secs) U32_MAX := by
  unfold refillOf satMulU64 U32_MAX U64_MAX
  split <;> omega

/-- … so `count.saturating_sub(refill)` is the unbounded `count ∸ rate·secs` for every `u32` count. -/
theorem sub_refillOf (count rate secs : Nat) (h : count ≤ U32_MAX) :
    count - refillOf rate secs = count - rate * secs := by
  rw [refillOf_eq]; omega

/-! ### one pass through the critical section = one response of the eager bucket -/

/-- `n` ticks in closed form -/
theorem ticks_eq_min (cap rate n tokens : Nat) (h : tokens ≤ cap) :
    Spec.Rrl.ticks cap rate n tokens = min cap (tokens + rate * n) := by
  rw [Spec.Rrl.ticks_eq_ticksFast _ _ _ _ h]
  unfold Spec.Rrl.ticksFast
  split
  · next hn => rw [hn, Nat.mul_zero, Nat.add_zero, Nat.min_eq_right h]
  · rfl

/-- the refinement relation between a table entry and the eager bucket of its stream -/
structure Rel (cap : Nat) (key : Key) (e : Entry) (b : Spec.Rrl.Bucket) : Prop where
  key_eq : e.key = key
  tokens : e.count + b.tokens = cap
  phase : e.last_refill = b.t0 + b.ticksDone * NANOS_PER_SEC

/-- the action for a response the bucket sends / limits -/
def verdict (p : RrlParams) (rnd : Bool) (send : Bool) : Action :=
  if send then .Send else if shouldSlip p rnd then .Slip else .Drop

/-- a limited response is slipped or dropped, and `slip` = 0 / 1 leaves no choice -/
theorem verdict_false_cases (p : RrlParams) (rnd : Bool) :
    (verdict p rnd false = .Slip ∧ p.slip ≠ 0) ∨ (verdict p rnd false = .Drop ∧ p.slip ≠ 1) := by
  unfold verdict shouldSlip
  by_cases h0 : p.slip = 0
  · exact Or.inr ⟨by simp only [h0, if_true, Bool.false_eq_true, if_false], by omega⟩
  · by_cases h1 : p.slip = 1
    · exact Or.inl ⟨by simp only [h1, if_true, Bool.false_eq_true, if_false, Nat.succ_ne_self], h0⟩
    · cases rnd
      · exact Or.inr ⟨by simp only [h0, h1, Bool.false_eq_true, if_false], h1⟩
      · exact Or.inl ⟨by simp only [h0, h1, if_true, Bool.false_eq_true, if_false], h0⟩

/-- the entry once `process_response` has credited the whole seconds since the last refill -/
def refilled (rate : Nat) (e : Entry) (now : Nat) : Entry :=
  if NANOS_PER_SEC ≤ now - e.last_refill then
    { e with count := e.count - refillOf rate ((now - e.last_refill) / NANOS_PER_SEC),
             last_refill := now - (now - e.last_refill) % NANOS_PER_SEC }
  else e

theorem refilled_key (rate : Nat) (e : Entry) (now : Nat) : (refilled rate e now).key = e.key := by
  unfold refilled; split <;> rfl

theorem refilled_of_lt {rate : Nat} {e : Entry} {now : Nat} (h : now - e.last_refill < NANOS_PER_SEC) :
    refilled rate e now = e := if_neg (Nat.not_le.mpr h)

theorem refilled_count {rate : Nat} {e : Entry} (now : Nat) (h : e.count ≤ U32_MAX) :
    (refilled rate e now).count = e.count - rate * ((now - e.last_refill) / NANOS_PER_SEC) := by
  unfold refilled
  split
  · exact sub_refillOf _ _ _ h
  · rw [Nat.div_eq_of_lt (by omega)]; rfl

/-- the refill moves `last_refill` forward by the whole seconds credited: its phase stays -/
theorem refilled_last {rate : Nat} {e : Entry} {now : Nat} (h : e.last_refill ≤ now) :
    (refilled rate e now).last_refill =
      e.last_refill + (now - e.last_refill) / NANOS_PER_SEC * NANOS_PER_SEC := by
  have := Nat.div_add_mod' (now - e.last_refill) NANOS_PER_SEC
  unfold refilled
  split
  · simp only; omega
  · rw [Nat.div_eq_of_lt (by omega)]; rfl

/-- a bucket holding another key is overwritten (hash collision, or first use) -/
theorem processBucket_create (p : RrlParams) (key : Key) (cat : Category) (e : Entry) (now : Nat)
    (rnd : Bool) (h : e.key ≠ key) :
    processBucket p key cat e now rnd = .ok ({ key, count := 1, last_refill := now }, .Send) := by
  unfold processBucket
  rw [if_neg h]

/-- The critical section on the bucket of its own key: the limit, then refill (`now − subsec` is
    always representable), compare, count. -/
theorem processBucket_own (p : RrlParams) {key : Key} (cat : Category) {e : Entry} (hk : e.key = key)
    (now : Nat) (rnd : Bool) :
    processBucket p key cat e now rnd =
      rateAndLimitForCategory p cat >>= fun rl =>
        if rl.2 ≤ (refilled rl.1 e now).count then .ok (refilled rl.1 e now, verdict p rnd false)
        else if (refilled rl.1 e now).count + 1 ≤ U32_MAX then
          .ok ({ refilled rl.1 e now with count := (refilled rl.1 e now).count + 1 }, .Send)
        else .panic := by
  have hsub : (now - e.last_refill) % NANOS_PER_SEC ≤ now :=
    Nat.le_trans (Nat.mod_le _ _) (Nat.sub_le _ _)
  have hR : ∀ rate, (if NANOS_PER_SEC ≤ now - e.last_refill then
        (if (now - e.last_refill) % NANOS_PER_SEC ≤ now then
          Out.ok { e with count := e.count - refillOf rate ((now - e.last_refill) / NANOS_PER_SEC),
                          last_refill := now - (now - e.last_refill) % NANOS_PER_SEC }
        else .panic)
      else .ok e : Out Empty Entry) = .ok (refilled rate e now) := by
    intro rate; unfold refilled; rw [if_pos hsub]; split <;> rfl
  subst hk
  unfold processBucket
  rw [if_pos rfl]
  cases rateAndLimitForCategory p cat with
  | panic => rfl
  | err x => exact nomatch x
  | ok rl =>
    simp only [Out.bind_ok, ge_iff_le, hR]
    generalize refilled rl.1 e now = e₁
    by_cases hc : rl.2 ≤ e₁.count
    · simp only [hc, if_true, verdict]; cases shouldSlip p rnd <;> rfl
    · simp only [hc, if_false]

/-- … and for a valid configuration none of the checked operations fails: `rate * window` and
    `count + 1` stay below 2³². -/
theorem processBucket_eq {p : RrlParams} (hv : p.Valid) {key : Key} (cat : Category) {e : Entry}
    (hk : e.key = key) (now : Nat) (rnd : Bool) :
    processBucket p key cat e now rnd =
      .ok (if capOf p cat ≤ (refilled (rateOf p cat) e now).count
           then (refilled (rateOf p cat) e now, verdict p rnd false)
           else ({ refilled (rateOf p cat) e now with
                     count := (refilled (rateOf p cat) e now).count + 1 }, .Send)) := by
  have hcap := hv.cap_u32 cat
  rw [processBucket_own p cat hk, rateAndLimit_ok hv, Out.bind_ok]
  split
  · rfl
  · rw [if_pos (by omega)]

/-- what a refill of `R` takes from the count is what `R` more tokens, capped, put into the bucket -/
theorem refill_tokens {cap count tokens : Nat} (h : count + tokens = cap) (R : Nat) :
    count - R + min cap (tokens + R) = cap := by omega

theorem processBucket_step {p : RrlParams} (hv : p.Valid) (key : Key) (cat : Category) (e : Entry)
    (b : Spec.Rrl.Bucket) (now : Nat) (rnd : Bool)
    (hrel : Rel (capOf p cat) key e b) (hnow : e.last_refill ≤ now) :
    ∃ e', processBucket p key cat e now rnd =
        .ok (e', verdict p rnd (b.respond (capOf p cat) (rateOf p cat) now).2) ∧
      Rel (capOf p cat) key e' (b.respond (capOf p cat) (rateOf p cat) now).1 ∧ e'.last_refill ≤ now := by
  obtain ⟨hk, htok, hph⟩ := hrel
  have hcap := hv.cap_u32 cat
  have hcount := refilled_count (rate := rateOf p cat) now (show e.count ≤ U32_MAX by omega)
  have hlast := refilled_last (rate := rateOf p cat) hnow
  have hkey := refilled_key (rateOf p cat) e now
  rw [processBucket_eq hv cat hk]
  generalize refilled (rateOf p cat) e now = e₁ at *
  -- the ticks the bucket has seen by `now`: those credited before plus the whole seconds since
  have hn : Spec.Rrl.ticksUpTo b.t0 now = b.ticksDone + (now - e.last_refill) / NANOS_PER_SEC := by
    show (now - b.t0) / NANOS_PER_SEC = _
    rw [show now - b.t0 = now - e.last_refill + b.ticksDone * NANOS_PER_SEC by omega,
      Nat.add_mul_div_right _ _ (by decide), Nat.add_comm]
  have hle := Nat.div_mul_le_self (now - e.last_refill) NANOS_PER_SEC
  unfold Spec.Rrl.Bucket.respond
  simp only [hn, Nat.add_sub_cancel_left]
  generalize (now - e.last_refill) / NANOS_PER_SEC = q at *
  have hT := ticks_eq_min (capOf p cat) (rateOf p cat) q b.tokens (by omega)
  generalize Spec.Rrl.ticks (capOf p cat) (rateOf p cat) q b.tokens = T at *
  -- what the refill took from the count is what the ticks put into the bucket
  have hsum : e₁.count + T = capOf p cat := by rw [hcount, hT]; exact refill_tokens htok _
  have hnow₁ : e₁.last_refill ≤ now := hlast ▸ Nat.add_le_of_le_sub' hnow hle
  have hph₁ : e₁.last_refill = b.t0 + (b.ticksDone + q) * NANOS_PER_SEC := by
    rw [hlast, hph, Nat.add_mul, Nat.add_assoc]
  clear hcount hT hlast hph hle hn htok hnow
  by_cases hT0 : T > 0
  · rw [if_pos hT0, if_neg (by omega)]
    exact ⟨_, rfl, ⟨hkey.trans hk, by simp only; omega, hph₁⟩, hnow₁⟩
  · rw [if_neg hT0, if_pos (by omega)]
    exact ⟨_, rfl, ⟨hkey.trans hk, hsum, hph₁⟩, hnow₁⟩

/-- the critical section never panics, whatever the bucket holds -/
theorem processBucket_no_panic {p : RrlParams} (hv : p.Valid) (key : Key) (cat : Category) (e : Entry)
    (now : Nat) (rnd : Bool) : processBucket p key cat e now rnd ≠ .panic := by
  by_cases hk : e.key = key
  · rw [processBucket_eq hv cat hk]; exact nofun
  · rw [processBucket_create _ _ _ _ _ _ hk]; exact nofun

/-! ### netmasks -/

theorem mask_eq_iff (w k : Nat) (a b : BitVec w) :
    a &&& (BitVec.allOnes w <<< k) = b &&& (BitVec.allOnes w <<< k) ↔ a >>> k = b >>> k := by
  constructor
  · intro h
    apply BitVec.eq_of_getLsbD_eq
    intro i hi
    have := congrArg (fun x => x.getLsbD (k + i)) h
    simp only [BitVec.getLsbD_and, BitVec.getLsbD_shiftLeft, BitVec.getLsbD_allOnes, BitVec.getLsbD_ushiftRight] at this ⊢
    by_cases hki : k + i < w
    · have h1 : ¬ (k + i < k) := by omega
      have h2 : k + i - k < w := by omega
      have h3 : i < w := by omega
      simpa [hki, h1, h2, h3] using this
    · have ha : a.getLsbD (k + i) = false := BitVec.getLsbD_of_ge _ _ (by omega)
      have hb : b.getLsbD (k + i) = false := BitVec.getLsbD_of_ge _ _ (by omega)
      rw [ha, hb]
  · intro h
    apply BitVec.eq_of_getLsbD_eq
    intro i hi
    simp only [BitVec.getLsbD_and, BitVec.getLsbD_shiftLeft, BitVec.getLsbD_allOnes]
    by_cases hik : i < k
    · simp [hik]
    · have := congrArg (fun x => x.getLsbD (i - k)) h
      simp only [BitVec.getLsbD_ushiftRight] at this
      have e : k + (i - k) = i := by omega
      rw [e] at this
      rw [this]

theorem ushiftRight_toNat_eq (w k : Nat) (a b : BitVec w) :
    a >>> k = b >>> k ↔ a.toNat / 2 ^ k = b.toNat / 2 ^ k := by
  rw [← BitVec.toNat_inj, BitVec.toNat_ushiftRight, BitVec.toNat_ushiftRight, Nat.shiftRight_eq_div_pow, Nat.shiftRight_eq_div_pow]


theorem ipv4MaskOfLen_toBitVec (len : Nat) (h1 : 1 ≤ len) (h2 : len ≤ 32) :
    (ipv4MaskOfLen len).toBitVec = BitVec.allOnes 32 <<< (32 - len) := by
  unfold ipv4MaskOfLen
  rw [UInt32.toBitVec_shiftLeft]
  have : (UInt32.ofNat (32 - len)).toBitVec = BitVec.ofNat 32 (32 - len) := rfl
  simp [this]
  rw [Nat.mod_eq_of_lt (by omega)]

theorem ipv6MaskOfLen_toBitVec (len : Nat) (h1 : 1 ≤ len) (h2 : len ≤ 64) :
    (ipv6MaskOfLen len).toBitVec = BitVec.allOnes 64 <<< (64 - len) := by
  unfold ipv6MaskOfLen
  rw [UInt64.toBitVec_shiftLeft]
  have : (UInt64.ofNat (64 - len)).toBitVec = BitVec.ofNat 64 (64 - len) := rfl
  simp [this]
  rw [Nat.mod_eq_of_lt (by omega)]

theorem ipv4_masked_eq_iff (len : Nat) (h1 : 1 ≤ len) (h2 : len ≤ 32) (a b : UInt32) :
    a &&& ipv4MaskOfLen len = b &&& ipv4MaskOfLen len ↔
      a.toNat / 2 ^ (32 - len) = b.toNat / 2 ^ (32 - len) := by
  rw [← UInt32.toBitVec_inj, UInt32.toBitVec_and, UInt32.toBitVec_and, ipv4MaskOfLen_toBitVec len h1 h2,
    mask_eq_iff, ushiftRight_toNat_eq]
  rfl

theorem ipv6_masked_eq_iff (len : Nat) (h1 : 1 ≤ len) (h2 : len ≤ 64) (a b : UInt64) :
    a &&& ipv6MaskOfLen len = b &&& ipv6MaskOfLen len ↔
      a.toNat / 2 ^ (64 - len) = b.toNat / 2 ^ (64 - len) := by
  rw [← UInt64.toBitVec_inj, UInt64.toBitVec_and, UInt64.toBitVec_and, ipv6MaskOfLen_toBitVec len h1 h2,
    mask_eq_iff, ushiftRight_toNat_eq]
  rfl

/-! ### keys ↔ streams -/

/-- the number an address denotes -/
def IpAddr.toSpec : IpAddr → Spec.Rrl.Addr
  | .v4 a => .v4 a.toNat
  | .v6 hi lo => .v6 (hi.toNat * 2 ^ 64 + lo.toNat)

/-- the specification's category of a response -/
def Category.toSpec : Category → Spec.Rrl.Cat
  | .NoError => .noerror
  | .NxDomain => .nxdomain
  | .Error => .other

theorem category_toSpec (rcode : Nat) :
    (Category.ofExtendedRcode rcode).toSpec = Spec.Rrl.catOf rcode := by
  unfold Category.ofExtendedRcode Gen.rrlCategoryCode Spec.Rrl.catOf
  by_cases h0 : rcode = 0
  · simp [h0, Category.toSpec]
  · by_cases h3 : rcode = 3
    · simp [h3, Category.toSpec]
    · simp [h0, h3, Category.toSpec]

theorem Category.toSpec_inj (a b : Category) : a.toSpec = b.toSpec ↔ a = b := by
  cases a <;> cases b <;> simp [Category.toSpec]

theorem lowerName_eq_foldCase (n : List UInt8) : lowerName n = Spec.Rrl.foldCase n := rfl

/-- `ReceivedInfo::new` is the spec's "IPv4-mapped IPv6 counts as IPv4" -/
theorem receivedInfo_toSpec (src : IpAddr) : (ReceivedInfo.new src).toSpec = src.toSpec.canonical := by
  cases src with
  | v4 a => rfl
  | v6 hi lo =>
    unfold ReceivedInfo.new
    simp only [IpAddr.toSpec, Spec.Rrl.Addr.canonical]
    have hlo := lo.toNat_lt
    have hhi := hi.toNat_lt
    have hsh : lo >>> 32 = 0xFFFF ↔ lo.toNat / 2 ^ 32 = 0xFFFF := by
      rw [← UInt64.toNat_inj, UInt64.toNat_shiftRight, Nat.shiftRight_eq_div_pow]
      rfl
    have hz : hi = 0 ↔ hi.toNat = 0 := by
      rw [← UInt64.toNat_inj]; rfl
    by_cases hc : hi = 0 ∧ lo >>> 32 = 0xFFFF
    · have h1 := hz.mp hc.1
      have h2 := hsh.mp hc.2
      rw [if_pos hc]
      have : (hi.toNat * 2 ^ 64 + lo.toNat) / 2 ^ 32 = 0xFFFF := by omega
      rw [if_pos this]
      simp only [UInt64.toNat_toUInt32]
      congr 1
      omega
    · rw [if_neg hc]
      have : ¬ (hi.toNat * 2 ^ 64 + lo.toNat) / 2 ^ 32 = 0xFFFF := by
        intro h
        apply hc
        rw [hz, hsh]
        omega
      rw [if_neg this]


/-- the configured prefix lengths and the netmasks they produce -/
structure MasksOf (p : RrlParams) (v4len v6len : Nat) : Prop where
  v4le : v4len ≤ 32
  v6le : v6len ≤ 64
  m4 : p.ipv4_netmask = (if v4len = 0 then 0 else ipv4MaskOfLen v4len)
  m6 : p.ipv6_netmask = (if v6len = 0 then 0 else ipv6MaskOfLen v6len)

theorem toUInt64_inj (a b : UInt32) : a.toUInt64 = b.toUInt64 ↔ a = b := by
  rw [← UInt64.toNat_inj, ← UInt32.toNat_inj, UInt32.toNat_toUInt64, UInt32.toNat_toUInt64]

theorem v6_prefix (hi lo len : Nat) (hlo : lo < 2 ^ 64) (hl : len ≤ 64) :
    (hi * 2 ^ 64 + lo) / 2 ^ (128 - len) = hi / 2 ^ (64 - len) := by
  have e : 128 - len = 64 + (64 - len) := by omega
  rw [e, Nat.pow_add, ← Nat.div_div_eq_div_mul]
  congr 1
  omega

/-- Same address family and same masked destination ↔ the (canonicalised) sources agree on the
    first `len` bits — for every IPv4 length 0..32 and every IPv6 length 0..64. -/
theorem dest_eq_iff {p : RrlParams} {v4len v6len : Nat} (hm : MasksOf p v4len v6len) (a b : IpAddr) :
    (a.isIpv6 = b.isIpv6 ∧ ipToDestU64 p a = ipToDestU64 p b) ↔
      (match a.toSpec, b.toSpec with
       | .v4 x, .v4 y => Spec.Rrl.samePrefix 32 v4len x y
       | .v6 x, .v6 y => Spec.Rrl.samePrefix 128 v6len x y
       | _, _ => False) := by
  cases a with
  | v4 x =>
    cases b with
    | v4 y =>
      simp only [IpAddr.isIpv6, ipToDestU64, IpAddr.toSpec, true_and, toUInt64_inj, Spec.Rrl.samePrefix]
      rw [hm.m4]
      by_cases h0 : v4len = 0
      · subst h0
        have hx := x.toNat_lt
        have hy := y.toNat_lt
        simp only [if_true, UInt32.and_zero, true_iff]
        rw [Nat.div_eq_of_lt (by omega), Nat.div_eq_of_lt (by omega)]
      · rw [if_neg h0]
        exact ipv4_masked_eq_iff v4len (by omega) hm.v4le x y
    | v6 hi lo => simp [IpAddr.isIpv6, IpAddr.toSpec]
  | v6 hi lo =>
    cases b with
    | v4 y => simp [IpAddr.isIpv6, IpAddr.toSpec]
    | v6 hi' lo' =>
      simp only [IpAddr.isIpv6, ipToDestU64, IpAddr.toSpec, true_and, Spec.Rrl.samePrefix]
      rw [v6_prefix _ _ _ lo.toNat_lt hm.v6le, v6_prefix _ _ _ lo'.toNat_lt hm.v6le, hm.m6]
      by_cases h0 : v6len = 0
      · subst h0
        have hx := hi.toNat_lt
        have hy := hi'.toNat_lt
        simp only [if_true, UInt64.and_zero, true_iff]
        rw [Nat.div_eq_of_lt (by omega), Nat.div_eq_of_lt (by omega)]
      · rw [if_neg h0]
        exact ipv6_masked_eq_iff v6len (by omega) hm.v6le hi hi'


/-- the name that identifies a NOERROR stream: the source of synthesis if there is one, else the
    QNAME, else (no question at all) the root name -/
def Context.streamName (c : Context) : List UInt8 :=
  match c.source_of_synthesis with
  | some s => s
  | none => c.question.getD ROOT_NAME

/-- the key `process_response` builds, as a total function -/
def keyFn (rs : RandomState) (p : RrlParams) (c : Context) : Key :=
  { dest := ipToDestU64 p c.source, ipv6 := c.source.isIpv6,
    qname_hash := if Category.ofExtendedRcode c.extended_rcode = .NoError
                  then rs.hashName (lowerName c.streamName) else 0,
    category := Category.ofExtendedRcode c.extended_rcode }

/-- computing the key never panics — for *every* context, with or without a question (this is
    where the code before commit 2232f31 had `question.unwrap()`; the proof depends on the
    extracted fact `RRL_QNAME_FALLBACK_IS_ROOT`) -/
theorem keyOf_ok (rs : RandomState) (p : RrlParams) (c : Context) :
    keyOf rs p c = .ok (keyFn rs p c) := by
  unfold keyOf keyFn qnameHashOf Context.streamName
  by_cases hc : Category.ofExtendedRcode c.extended_rcode = .NoError
  · simp only [hc, if_true]
    cases hs : c.source_of_synthesis with
    | some s => simp
    | none =>
      cases hq : c.question with
      | some q => simp
      | none => simp [Gen.RRL_QNAME_FALLBACK_IS_ROOT]
  · simp only [hc, if_false]

/-- **Key construction** (C27, model side): two responses get the same key iff same address
    family, same masked destination, same category, and — for NOERROR only — same QNAME hash. -/
theorem keyFn_eq_iff (rs : RandomState) (p : RrlParams) (c₁ c₂ : Context) :
    keyFn rs p c₁ = keyFn rs p c₂ ↔
      (c₁.source.isIpv6 = c₂.source.isIpv6 ∧ ipToDestU64 p c₁.source = ipToDestU64 p c₂.source) ∧
      Category.ofExtendedRcode c₁.extended_rcode = Category.ofExtendedRcode c₂.extended_rcode ∧
      (Category.ofExtendedRcode c₁.extended_rcode = .NoError →
        rs.hashName (lowerName c₁.streamName) = rs.hashName (lowerName c₂.streamName)) := by
  unfold keyFn
  simp only [Key.mk.injEq]
  constructor
  · rintro ⟨hd, hi, hh, hc⟩
    refine ⟨⟨hi, hd⟩, hc, ?_⟩
    intro hn
    rw [← hc] at hh
    simpa [hn] using hh
  · rintro ⟨⟨hi, hd⟩, hc, hh⟩
    refine ⟨hd, hi, ?_, hc⟩
    rw [← hc]
    by_cases hn : Category.ofExtendedRcode c₁.extended_rcode = .NoError
    · simp [hn, hh hn]
    · simp [hn]

/-- the response as the specification sees it (`src` = the source address before
    `ReceivedInfo::new`) -/
def toSpecResponse (src : IpAddr) (c : Context) (t : Nat) : Spec.Rrl.Response :=
  { src := src.toSpec, rcode := c.extended_rcode, name := c.streamName,
    udp := decide (c.transport = .Udp), opcode := c.opcode, time := t }

/-- **C27**: same key ↔ same stream, when the QNAME hash separates the two names. -/
theorem keyFn_eq_iff_sameStream (rs : RandomState) {p : RrlParams} {v4len v6len : Nat}
    (hm : MasksOf p v4len v6len) (s₁ s₂ : IpAddr) (c₁ c₂ : Context) (t₁ t₂ : Nat)
    (h₁ : c₁.source = ReceivedInfo.new s₁) (h₂ : c₂.source = ReceivedInfo.new s₂)
    (hinj : rs.hashName (lowerName c₁.streamName) = rs.hashName (lowerName c₂.streamName) →
      lowerName c₁.streamName = lowerName c₂.streamName) :
    keyFn rs p c₁ = keyFn rs p c₂ ↔
      Spec.Rrl.SameStream v4len v6len (toSpecResponse s₁ c₁ t₁) (toSpecResponse s₂ c₂ t₂) := by
  rw [keyFn_eq_iff, dest_eq_iff hm]
  unfold Spec.Rrl.SameStream Spec.Rrl.sameNetwork toSpecResponse
  simp only [h₁, h₂, receivedInfo_toSpec, ← category_toSpec, Category.toSpec_inj, ← lowerName_eq_foldCase]
  constructor
  · rintro ⟨hn, hc, hh⟩
    exact ⟨hn, hc, fun h => hinj (hh ((Category.toSpec_inj _ .NoError).mp h))⟩
  · rintro ⟨hn, hc, hh⟩
    exact ⟨hn, hc, fun h => by rw [hh ((Category.toSpec_inj _ .NoError).mpr h)]⟩

theorem subject_iff (c : Context) (s : IpAddr) (t : Nat) :
    subjectToRrl c = true ↔ c.send_response = true ∧ Spec.Rrl.Limitable (toSpecResponse s c t) := by
  unfold subjectToRrl Spec.Rrl.Limitable toSpecResponse Gen.RRL_LIMITED_TRANSPORT_IS_UDP Gen.RRL_LIMITED_OPCODE
  simp [and_assoc]

/-! ### whole histories -/

section spec_lemmas
variable (cap rate : Nat)

/-- the bucket a stream's history (times of its earlier responses) leaves behind -/
def bucketAfter : List Nat → Option Spec.Rrl.Bucket
  | [] => none
  | t0 :: ts => some (ts.foldl (fun b t => (b.respond cap rate t).1) (Spec.Rrl.Bucket.create cap t0))

/-- the eager bucket's verdict on a response at `t` whose stream has the history `hist` -/
def eagerVerdict (hist : List Nat) (t : Nat) : Bool :=
  ((Spec.Rrl.eager cap rate (hist ++ [t])).getLast?).getD true

theorem run_append (b : Spec.Rrl.Bucket) (ts : List Nat) (t : Nat) :
    Spec.Rrl.Bucket.run cap rate b (ts ++ [t]) =
      Spec.Rrl.Bucket.run cap rate b ts ++
        [((ts.foldl (fun b t => (b.respond cap rate t).1) b).respond cap rate t).2] := by
  induction ts generalizing b with
  | nil => simp [Spec.Rrl.Bucket.run]
  | cons u us ih => simp [Spec.Rrl.Bucket.run, ih]

/-- the eager bucket of a stream after one more response at `t`, and whether that response is
    sent: the first response of a stream creates its bucket and is sent -/
def respondO (ob : Option Spec.Rrl.Bucket) (t : Nat) : Spec.Rrl.Bucket × Bool :=
  match ob with
  | none => (Spec.Rrl.Bucket.create cap t, true)
  | some b => b.respond cap rate t

theorem eagerVerdict_eq (hist : List Nat) (t : Nat) :
    eagerVerdict cap rate hist t = (respondO cap rate (bucketAfter cap rate hist) t).2 := by
  unfold eagerVerdict
  cases hist with
  | nil => simp [Spec.Rrl.eager, bucketAfter, Spec.Rrl.Bucket.run, respondO]
  | cons t0 ts =>
    simp only [List.cons_append, Spec.Rrl.eager, bucketAfter, run_append]
    rw [← List.cons_append, List.getLast?_concat]
    rfl

theorem bucketAfter_append (hist : List Nat) (t : Nat) :
    bucketAfter cap rate (hist ++ [t]) = some (respondO cap rate (bucketAfter cap rate hist) t).1 := by
  cases hist with
  | nil => simp [bucketAfter, respondO]
  | cons t0 ts => simp [bucketAfter, List.foldl_append, respondO]

end spec_lemmas

/-- a time-stamped request: source address as received, the instant `process_response` reads
    under the lock, the random bit of `should_slip`, and the context the handler prepared -/
structure Req where
  src : IpAddr
  now : Nat
  rnd : Bool
  ctx : Context

/-- `process_response` over a whole history, one request after the other -/
def runAll (rs : RandomState) : Rrl → List Req → Out Empty (List Context)
  | _, [] => .ok []
  | r, q :: qs =>
    match processResponse rs r q.now q.rnd q.ctx with
    | .ok (r', c') =>
      (match runAll rs r' qs with
       | .ok cs => .ok (c' :: cs)
       | .err e => nomatch e
       | .panic => .panic)
    | .err e => nomatch e
    | .panic => .panic

/-- the key of a request that is subject to rate limiting -/
def Req.key? (rs : RandomState) (p : RrlParams) (q : Req) : Option Key :=
  if subjectToRrl q.ctx then some (keyFn rs p q.ctx) else none

/-- the times of the earlier responses with key `k` -/
def keyTimes (rs : RandomState) (p : RrlParams) (k : Key) (past : List Req) : List Nat :=
  (past.filter fun q => decide (q.key? rs p = some k)).map (·.now)

/-- what the eager bucket of the request's key says -/
def keyDecision (rs : RandomState) (p : RrlParams) (past : List Req) (q : Req) : Bool :=
  match q.key? rs p with
  | none => true
  | some k => eagerVerdict (capOf p k.category) (rateOf p k.category) (keyTimes rs p k past) q.now

/-- the context `process_response` must leave behind, given the bucket's verdict -/
def expectedCtx (p : RrlParams) (send : Bool) (q : Req) : Context :=
  if subjectToRrl q.ctx then applyAction q.ctx (verdict p q.rnd send) else q.ctx

/-- the contexts a history must leave behind when `dec past q` is the bucket's verdict on `q` after
    the requests `past` -/
def expectedFrom (dec : List Req → Req → Bool) (p : RrlParams) : List Req → List Req → List Context
  | _, [] => []
  | past, q :: rest => expectedCtx p (dec past q) q :: expectedFrom dec p (past ++ [q]) rest

/-- request times never decrease (they are read from a monotonic clock, in lock order) -/
def Mono : Nat → List Req → Prop
  | _, [] => True
  | t, q :: qs => t ≤ q.now ∧ Mono q.now qs

/-- the bucket a key hashes to: `hash(key) % buckets.len()` -/
def bucketIdx (rs : RandomState) (p : RrlParams) (k : Key) : Nat := rs.hashKey k % p.size

/-- different keys of the history use different buckets -/
def NoBucketCollision (rs : RandomState) (p : RrlParams) (reqs : List Req) : Prop :=
  ∀ q ∈ reqs, ∀ q' ∈ reqs, ∀ k k', q.key? rs p = some k → q'.key? rs p = some k' →
    bucketIdx rs p k = bucketIdx rs p k' → k = k'

/-- no response has the key the table is initialised with (IPv4, destination 0, NOERROR, hash 0) -/
def NoInitialKey (rs : RandomState) (p : RrlParams) (reqs : List Req) : Prop :=
  ∀ q ∈ reqs, q.key? rs p ≠ some initialKey


/-- what the invariant says of the bucket a key hashes to: it holds another key as long as the
    key has no history, and afterwards refines the key's eager bucket -/
def Tracks (cap : Nat) (key : Key) (e : Entry) (tlast : Nat) : Option Spec.Rrl.Bucket → Prop
  | none => e.key ≠ key
  | some b => Rel cap key e b ∧ e.last_refill ≤ tlast

theorem Tracks.mono {cap : Nat} {key : Key} {e : Entry} {t t' : Nat} {ob : Option Spec.Rrl.Bucket}
    (h : Tracks cap key e t ob) (ht : t ≤ t') : Tracks cap key e t' ob := by
  cases ob with
  | none => exact h
  | some b => exact ⟨h.1, Nat.le_trans h.2 ht⟩

/-- invariant of the table after the requests `past` -/
def Inv (rs : RandomState) (p : RrlParams) (all past : List Req) (R : Rrl) (tlast : Nat) : Prop :=
  R.params = p ∧
  ∀ k, (∃ q ∈ all, q.key? rs p = some k) →
    Tracks (capOf p k.category) k (R.buckets (bucketIdx rs p k)) tlast
      (bucketAfter (capOf p k.category) (rateOf p k.category) (keyTimes rs p k past))

theorem keyTimes_append (rs : RandomState) (p : RrlParams) (k : Key) (past : List Req) (q : Req) :
    keyTimes rs p k (past ++ [q]) =
      keyTimes rs p k past ++ (if q.key? rs p = some k then [q.now] else []) := by
  unfold keyTimes
  rw [List.filter_append, List.map_append]
  by_cases h : q.key? rs p = some k <;> simp [h]

theorem rel_create {p : RrlParams} (hv : p.Valid) (key : Key) (cat : Category) (now : Nat) :
    Rel (capOf p cat) key { key, count := 1, last_refill := now } (Spec.Rrl.Bucket.create (capOf p cat) now) := by
  have := hv.cap_pos cat
  refine ⟨rfl, ?_, ?_⟩ <;> simp [Spec.Rrl.Bucket.create] <;> omega


/-- `process_response` in one equation: the key computation never fails (`keyOf_ok`) -/
theorem processResponse_eq (rs : RandomState) (R : Rrl) (now : Nat) (rnd : Bool) (c : Context) :
    processResponse rs R now rnd c =
      if subjectToRrl c = true then
        if R.params.size = 0 then .panic
        else processBucket R.params (keyFn rs R.params c) (keyFn rs R.params c).category
            (R.buckets (bucketIdx rs R.params (keyFn rs R.params c))) now rnd >>= fun ea =>
          .ok (R.setBucket (bucketIdx rs R.params (keyFn rs R.params c)) ea.1, applyAction c ea.2)
      else .ok (R, c) := by
  unfold processResponse bucketIdx
  by_cases hs : subjectToRrl c = true
  · simp only [hs, Bool.not_true, Bool.false_eq_true, if_false, if_true, keyOf_ok rs R.params c]
    split
    · rfl
    · cases processBucket R.params (keyFn rs R.params c) (keyFn rs R.params c).category
        (R.buckets (rs.hashKey (keyFn rs R.params c) % R.params.size)) now rnd with
      | ok ea => rfl
      | err x => exact nomatch x
      | panic => rfl
  · simp [hs]

theorem processResponse_not_subject (rs : RandomState) (R : Rrl) (now : Nat) (rnd : Bool) (c : Context)
    (h : ¬ subjectToRrl c = true) : processResponse rs R now rnd c = .ok (R, c) := by
  rw [processResponse_eq, if_neg h]

theorem processResponse_subject (rs : RandomState) (R : Rrl) (now : Nat) (rnd : Bool) (c : Context)
    (h : subjectToRrl c = true) (hsz : 1 ≤ R.params.size) (e : Entry) (a : Action)
    (hb : processBucket R.params (keyFn rs R.params c) (keyFn rs R.params c).category
      (R.buckets (bucketIdx rs R.params (keyFn rs R.params c))) now rnd = .ok (e, a)) :
    processResponse rs R now rnd c =
      .ok (R.setBucket (bucketIdx rs R.params (keyFn rs R.params c)) e, applyAction c a) := by
  rw [processResponse_eq, if_pos h, if_neg (by omega), hb]; rfl

/-- the invariant is re-established after a subject request with key `k` whose bucket becomes `e'` -/
theorem inv_step {rs : RandomState} {p : RrlParams} {all past : List Req} {R : Rrl} {tlast : Nat}
    (hnc : NoBucketCollision rs p all) (hinv : Inv rs p all past R tlast) (q : Req) (hq : q ∈ all)
    (k : Key) (hk : q.key? rs p = some k) (htq : tlast ≤ q.now) (e' : Entry)
    (he' : Tracks (capOf p k.category) k e' q.now (some (respondO (capOf p k.category) (rateOf p k.category)
      (bucketAfter (capOf p k.category) (rateOf p k.category) (keyTimes rs p k past)) q.now).1)) :
    Inv rs p all (past ++ [q]) (R.setBucket (bucketIdx rs p k) e') q.now := by
  obtain ⟨hRp, hI⟩ := hinv
  refine ⟨hRp, fun k' ⟨q', hq', hk'q⟩ => ?_⟩
  rw [keyTimes_append]
  by_cases hkk : k' = k
  · subst hkk
    simpa only [hk, if_true, bucketAfter_append, Rrl.setBucket] using he'
  · have hne : ¬ q.key? rs p = some k' := by rw [hk]; intro h; cases h; exact hkk rfl
    have hidx : ¬ bucketIdx rs p k' = bucketIdx rs p k := fun h => hkk (hnc q' hq' q hq k' k hk'q hk h)
    simp only [hne, if_false, List.append_nil, Rrl.setBucket, hidx]
    exact (hI k' ⟨q', hq', hk'q⟩).mono htq

theorem inv_skip {rs : RandomState} {p : RrlParams} {all past : List Req} {R : Rrl} {tlast : Nat}
    (hinv : Inv rs p all past R tlast) (q : Req) (hk : q.key? rs p = none) (htq : tlast ≤ q.now) :
    Inv rs p all (past ++ [q]) R q.now := by
  refine ⟨hinv.1, fun k' hk' => ?_⟩
  rw [keyTimes_append, hk, if_neg nofun, List.append_nil]
  exact (hinv.2 k' hk').mono htq

/-- one pass through the critical section keeps the bucket on the track of its key's eager bucket -/
theorem processBucket_tracks {p : RrlParams} (hv : p.Valid) {key : Key} {cat : Category} {e : Entry}
    {tlast now : Nat} {ob : Option Spec.Rrl.Bucket} (rnd : Bool)
    (h : Tracks (capOf p cat) key e tlast ob) (ht : tlast ≤ now) :
    ∃ e', processBucket p key cat e now rnd =
        .ok (e', verdict p rnd (respondO (capOf p cat) (rateOf p cat) ob now).2) ∧
      Tracks (capOf p cat) key e' now (some (respondO (capOf p cat) (rateOf p cat) ob now).1) := by
  cases ob with
  | none => exact ⟨_, processBucket_create _ _ _ _ _ _ h, rel_create hv _ _ _, Nat.le_refl _⟩
  | some b => exact processBucket_step hv key cat e b now rnd h.1 (Nat.le_trans h.2 ht)

/-- **Refinement of whole histories.** From any table state satisfying the invariant, running
    `process_response` over the remaining requests produces exactly the contexts the eager buckets
    (one per key) prescribe — stated for any decision function `dec` that agrees with the buckets'
    on the limitable requests of the history. -/
theorem runAll_refines {rs : RandomState} {p : RrlParams} (hv : p.Valid) (all : List Req)
    (hnc : NoBucketCollision rs p all) {dec : List Req → Req → Bool}
    (hdec : ∀ pre q post, all = pre ++ q :: post → subjectToRrl q.ctx = true →
      dec pre q = keyDecision rs p pre q) :
    ∀ (rest past : List Req) (R : Rrl) (tlast : Nat), all = past ++ rest →
      Inv rs p all past R tlast → Mono tlast rest →
      runAll rs R rest = .ok (expectedFrom dec p past rest) := by
  intro rest
  induction rest with
  | nil => intro past R tlast _ _ _; rfl
  | cons q rest ih =>
    intro past R tlast hall hinv hmono
    obtain ⟨htq, hmono'⟩ := hmono
    have hq : q ∈ all := by rw [hall]; simp
    have hall' : all = (past ++ [q]) ++ rest := by rw [hall]; simp
    have hRp := hinv.1
    by_cases hs : subjectToRrl q.ctx = true
    · have hk : q.key? rs p = some (keyFn rs p q.ctx) := by simp [Req.key?, hs]
      have hsz : 1 ≤ R.params.size := by rw [hRp]; exact hv.size_pos
      obtain ⟨e', hpb, htr⟩ := processBucket_tracks hv q.rnd (hinv.2 _ ⟨q, hq, hk⟩) htq
      have hpr := processResponse_subject rs R q.now q.rnd q.ctx hs hsz _ _ (by rw [hRp]; exact hpb)
      rw [hRp] at hpr
      have hinv' := inv_step hnc hinv q hq _ hk htq e' htr
      simp only [runAll, hpr, ih _ _ _ hall' hinv' hmono', expectedFrom]
      congr 2
      simp [hdec past q rest hall hs, keyDecision, hk, eagerVerdict_eq, expectedCtx, hs]
    · have hk : q.key? rs p = none := by simp [Req.key?, hs]
      have hinv' := inv_skip hinv q hk htq
      have hpr := processResponse_not_subject rs R q.now q.rnd q.ctx hs
      simp only [runAll, hpr, ih _ _ _ hall' hinv' hmono', expectedFrom]
      simp [expectedCtx, hs]

/-- a freshly created table satisfies the invariant when no response has the initial key -/
theorem inv_new (rs : RandomState) (p : RrlParams) (all : List Req) (T₀ : Nat)
    (hni : NoInitialKey rs p all) : Inv rs p all [] (Rrl.new p T₀) T₀ := by
  refine ⟨rfl, ?_⟩
  intro k ⟨q, hq, hk⟩
  simp only [keyTimes, List.filter_nil, List.map_nil, bucketAfter, Rrl.new]
  intro h
  exact hni q hq (hk.trans (congrArg some h.symm))

/-! ### keys of a history ↔ streams of the specification -/

/-- the request as a response of the specification: `toSpecResponse` at its own source, context and instant -/
def Req.toSpec (q : Req) : Spec.Rrl.Response := toSpecResponse q.src q.ctx q.now

/-- the responses the handler produced, as the specification sees them -/
def specPast (past : List Req) : List Spec.Rrl.Response :=
  (past.filter fun q => q.ctx.send_response).map Req.toSpec

/-- the configuration in the vocabulary of the documentation -/
def cfgOf (p : RrlParams) (v4len v6len : Nat) : Spec.Rrl.Config :=
  { noerrorRate := p.noerror_rate, nxdomainRate := p.nxdomain_rate, errorRate := p.error_rate,
    window := p.window, slip := p.slip, v4len, v6len }

/-- the specification's verdict on a request of a history -/
def specDecision (cfg : Spec.Rrl.Config) (past : List Req) (q : Req) : Bool :=
  Spec.Rrl.shouldSend cfg (specPast past) q.toSpec

/-- the 32-bit QNAME hash separates the names of the history (ignoring case) -/
def HashInjectiveOn (rs : RandomState) (reqs : List Req) : Prop :=
  ∀ q ∈ reqs, ∀ q' ∈ reqs,
    rs.hashName (lowerName q.ctx.streamName) = rs.hashName (lowerName q'.ctx.streamName) →
    lowerName q.ctx.streamName = lowerName q'.ctx.streamName

/-- every context carries the source canonicalised by `ReceivedInfo::new` -/
def SourcesCanonical (reqs : List Req) : Prop := ∀ q ∈ reqs, q.ctx.source = ReceivedInfo.new q.src

theorem rateOf_spec (p : RrlParams) (v4len v6len : Nat) (q : Req) :
    Spec.Rrl.rateOf (cfgOf p v4len v6len).noerrorRate (cfgOf p v4len v6len).nxdomainRate
      (cfgOf p v4len v6len).errorRate q.toSpec = rateOf p (Category.ofExtendedRcode q.ctx.extended_rcode) := by
  unfold Spec.Rrl.rateOf Req.toSpec toSpecResponse cfgOf
  simp only [← category_toSpec]
  cases Category.ofExtendedRcode q.ctx.extended_rcode <;> rfl

/-- under the hypotheses, "earlier responses with the same key" are exactly "earlier limitable
    responses of the same stream" -/
theorem keyTimes_eq_streamPast (rs : RandomState) {p : RrlParams} {v4len v6len : Nat}
    (hm : MasksOf p v4len v6len) (all past : List Req) (q : Req)
    (hsub : ∀ x ∈ past, x ∈ all) (hq : q ∈ all)
    (hinj : HashInjectiveOn rs all) (hsrc : SourcesCanonical all) :
    keyTimes rs p (keyFn rs p q.ctx) past =
      (Spec.Rrl.streamPast (cfgOf p v4len v6len) (specPast past) q.toSpec).map (·.time) := by
  unfold keyTimes Spec.Rrl.streamPast specPast
  rw [List.filter_map, List.filter_filter, List.map_map]
  have hf : (fun x : Req => x.now) = (fun r : Spec.Rrl.Response => r.time) ∘ Req.toSpec := by
    funext x; rfl
  rw [hf]
  congr 1
  apply List.filter_congr
  intro x hx
  have hxa := hsub x hx
  rw [Bool.eq_iff_iff]
  simp only [Function.comp, Bool.and_eq_true, decide_eq_true_eq, Req.key?]
  unfold Req.toSpec cfgOf
  simp only
  by_cases hs : subjectToRrl x.ctx = true
  · have hsl := (subject_iff x.ctx x.src x.now).mp hs
    have hk := keyFn_eq_iff_sameStream rs hm x.src q.src x.ctx q.ctx x.now q.now (hsrc x hxa) (hsrc q hq)
      (hinj x hxa q hq)
    simp only [hs, if_true, Option.some.injEq, hk, decide_eq_true_eq]
    constructor
    · intro h; exact ⟨⟨hsl.2, h⟩, hsl.1⟩
    · intro h; exact h.1.2
  · have hns : ¬ (x.ctx.send_response = true ∧ Spec.Rrl.Limitable (toSpecResponse x.src x.ctx x.now)) :=
      fun h => hs ((subject_iff x.ctx x.src x.now).mpr h)
    simp only [hs]
    constructor
    · intro h; simp at h
    · intro h; exact absurd ⟨h.2, h.1.1⟩ hns

theorem keyDecision_eq_specDecision (rs : RandomState) {p : RrlParams} {v4len v6len : Nat}
    (hm : MasksOf p v4len v6len) (all past : List Req) (q : Req)
    (hsub : ∀ x ∈ past, x ∈ all) (hq : q ∈ all) (hs : subjectToRrl q.ctx = true)
    (hinj : HashInjectiveOn rs all) (hsrc : SourcesCanonical all) :
    keyDecision rs p past q = specDecision (cfgOf p v4len v6len) past q := by
  have hk : q.key? rs p = some (keyFn rs p q.ctx) := by simp [Req.key?, hs]
  have hl : Spec.Rrl.Limitable q.toSpec := ((subject_iff q.ctx q.src q.now).mp hs).2
  unfold keyDecision specDecision Spec.Rrl.shouldSend eagerVerdict
  rw [hk]
  simp only [hl, if_true, rateOf_spec]
  rw [keyTimes_eq_streamPast rs hm all past q hsub hq hinj hsrc]
  rfl

/-! ### one stream on its bucket; totality -/

/-- the critical section, run once per `(now, rnd)` on one bucket (no other key touches it) -/
def bucketRun (p : RrlParams) (key : Key) (cat : Category) : Entry → List (Nat × Bool) → Out Empty (List Action)
  | _, [] => .ok []
  | e, (now, rnd) :: rest =>
    match processBucket p key cat e now rnd with
    | .ok (e', a) =>
      (match bucketRun p key cat e' rest with
       | .ok as => .ok (a :: as)
       | .err x => nomatch x
       | .panic => .panic)
    | .err x => nomatch x
    | .panic => .panic

/-- times never decrease -/
def MonoT : Nat → List (Nat × Bool) → Prop
  | _, [] => True
  | t, (now, _) :: rest => t ≤ now ∧ MonoT now rest

/-- the actions of a run, from the bucket's decisions and the `should_slip` draws -/
def verdicts (p : RrlParams) : List (Nat × Bool) → List Bool → List Action
  | (_, rnd) :: rest, d :: ds => verdict p rnd d :: verdicts p rest ds
  | _, _ => []

theorem bucketRun_rel {p : RrlParams} (hv : p.Valid) (key : Key) (cat : Category) :
    ∀ (hist : List (Nat × Bool)) (e : Entry) (b : Spec.Rrl.Bucket) (tlast : Nat),
      Rel (capOf p cat) key e b → e.last_refill ≤ tlast → MonoT tlast hist →
      bucketRun p key cat e hist =
        .ok (verdicts p hist (Spec.Rrl.Bucket.run (capOf p cat) (rateOf p cat) b (hist.map (·.1)))) := by
  intro hist
  induction hist with
  | nil => intros; rfl
  | cons h rest ih =>
    obtain ⟨now, rnd⟩ := h
    intro e b tlast hrel hle hmono
    obtain ⟨e', hpb, hrel', hle'⟩ := processBucket_step hv key cat e b now rnd hrel (Nat.le_trans hle hmono.1)
    simp only [bucketRun, hpb, ih e' _ now hrel' hle' hmono.2, List.map_cons, Spec.Rrl.Bucket.run, verdicts]

theorem processResponse_no_panic (rs : RandomState) (R : Rrl) (hv : R.params.Valid) (now : Nat)
    (rnd : Bool) (c : Context) :
    processResponse rs R now rnd c ≠ .panic := by
  have := hv.size_pos
  rw [processResponse_eq]
  split
  · rw [if_neg (by omega)]
    cases hb : processBucket R.params (keyFn rs R.params c) (keyFn rs R.params c).category
        (R.buckets (bucketIdx rs R.params (keyFn rs R.params c))) now rnd with
    | panic => exact absurd hb (processBucket_no_panic hv _ _ _ _ _)
    | err x => exact nomatch x
    | ok r => exact nofun
  · exact nofun

/-- the critical section sends, or limits as `should_slip` says -/
theorem processBucket_action {p : RrlParams} {key : Key} {cat : Category} {e e' : Entry} {now : Nat}
    {rnd : Bool} {a : Action} (h : processBucket p key cat e now rnd = .ok (e', a)) :
    a = .Send ∨ a = verdict p rnd false := by
  by_cases hk : e.key = key
  · rw [processBucket_own p cat hk] at h
    obtain ⟨rl, _, h⟩ := Out.bind_eq_ok h
    split at h
    · cases h; exact Or.inr rfl
    · split at h
      · cases h; exact Or.inl rfl
      · cases h
  · rw [processBucket_create _ _ _ _ _ _ hk] at h
    cases h; exact Or.inl rfl

/-- shape of the outcome: what `process_response` may do to a context -/
theorem processResponse_shape (rs : RandomState) (R : Rrl) (now : Nat) (rnd : Bool) (c : Context)
    (R' : Rrl) (c' : Context) (h : processResponse rs R now rnd c = .ok (R', c')) :
    (¬ subjectToRrl c = true ∧ R' = R ∧ c' = c) ∨
    (subjectToRrl c = true ∧ ∃ a, c' = applyAction c a ∧ (a = .Send ∨ a = verdict R.params rnd false)) := by
  rw [processResponse_eq] at h
  split at h
  · next hs =>
    split at h
    · cases h
    · obtain ⟨ea, hb, h⟩ := Out.bind_eq_ok h
      cases h
      exact Or.inr ⟨hs, ea.2, rfl, processBucket_action hb⟩
  · next hs => cases h; exact Or.inl ⟨hs, rfl, rfl⟩

end QV.Rrl
