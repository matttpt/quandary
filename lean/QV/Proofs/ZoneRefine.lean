/-
  QV.Proofs.ZoneRefine — the refinement relation `Rel` between the tree (`QV.Model.Zone`) and the
  flat record list (`QV.Spec.Zone`), its preservation by `add`, and what it gives for lookups.
-/
import QV.Proofs.Zone
import QV.Proofs.ZoneSpec

namespace QV.Zone
open QV QV.NameL QV.Spec.Zone

/-! ### bridging the two vocabularies -/

theorem lookupRrset_eq_findType (l : List Rrset) (t : Nat) : lookupRrset l t = findType l t := by
  induction l with
  | nil => rfl
  | cons a rest ih =>
    simp only [lookupRrset, findType, List.find?_cons]
    by_cases h : a.rtype = t
    · simp [h]
    · have hb : (a.rtype == t) = false := by simp [h]
      simp only [h, if_false]; rw [ih]; simp [findType, hb]

theorem filterMap_sorted (f : Nat → Option Rrset) (ts : List Nat) (hs : SortedN ts)
    (hf : ∀ t ∈ ts, ∃ x, f t = some x ∧ x.rtype = t) :
    SortedT (ts.filterMap f) ∧ (∀ x ∈ ts.filterMap f, x.rtype ∈ ts) ∧
      ∀ t, lookupRrset (ts.filterMap f) t = if t ∈ ts then f t else none := by
  induction ts with
  | nil => simp [SortedT, lookupRrset]
  | cons a rest ih =>
    obtain ⟨x, hx, hxt⟩ := hf a (by simp)
    obtain ⟨ih1, ih2, ih3⟩ := ih hs.2 (fun t ht => hf t (by simp [ht]))
    simp only [List.filterMap_cons, hx]
    refine ⟨⟨?_, ih1⟩, ?_, ?_⟩
    · intro s' hs'
      have := hs.1 _ (ih2 s' hs')
      omega
    · intro y hy
      simp at hy
      rcases hy with hy | hy
      · subst hy; simp [hxt]
      · have := ih2 y (by simpa using hy); simp [this]
    · intro t
      simp only [lookupRrset]
      by_cases h : x.rtype = t
      · subst h; simp [hxt, hx]
      · have hne : ¬ t = a := fun e => h (by rw [hxt, e])
        simp only [h, if_false, ih3, List.mem_cons, hne, false_or]

theorem rrsetsAt_sorted (s : SZone) (n : Name) : SortedT (rrsetsAt s n) :=
  (filterMap_sorted (rrset s n) (typesAt s n) (sorted_typesAt s n) (by
    intro t ht
    have ho := (mem_typesAt s n t).mp ht
    cases h : rrset s n t with
    | none => exact absurd ho ((rrset_eq_none s n t).mp h)
    | some x => exact ⟨x, rfl, rrset_rtype h⟩)).1

theorem lookup_rrsetsAt (s : SZone) (n : Name) (t : Nat) : lookupRrset (rrsetsAt s n) t = rrset s n t := by
  have := (filterMap_sorted (rrset s n) (typesAt s n) (sorted_typesAt s n) (by
    intro t ht
    have ho := (mem_typesAt s n t).mp ht
    cases h : rrset s n t with
    | none => exact absurd ho ((rrset_eq_none s n t).mp h)
    | some x => exact ⟨x, rfl, rrset_rtype h⟩)).2.2 t
  unfold rrsetsAt
  rw [this]
  split
  · rfl
  · rename_i h
    rw [mem_typesAt] at h
    exact ((rrset_eq_none s n t).mpr h).symm

/-! ### names and paths -/

theorem zip_append_self {α : Type} (xs t : List α) (p : α × α) (hp : p ∈ (xs ++ t).zip xs) : p.1 = p.2 := by
  induction xs with
  | nil => simp at hp
  | cons x xs ih =>
    simp [List.zip_cons_cons] at hp
    rcases hp with hp | hp
    · subst hp; rfl
    · exact ih hp

theorem eqOrSubdomainOf_iff (n a : Name) : eqOrSubdomainOf n a = true ↔ a <:+ n := by
  unfold eqOrSubdomainOf
  rw [← List.reverse_prefix]
  simp only [Bool.and_eq_true, decide_eq_true_eq, List.all_eq_true, beq_iff_eq]
  constructor
  · rintro ⟨hl, hall⟩
    generalize hr : n.reverse = nr at *
    generalize har : a.reverse = ar at *
    have hl' : ar.length ≤ nr.length := by rw [← hr, ← har]; simpa using hl
    clear hl hr har
    induction ar generalizing nr with
    | nil => exact List.nil_prefix
    | cons x xs ih =>
      cases nr with
      | nil => simp at hl'
      | cons y ys =>
        have h0 := hall (y, x) (by simp)
        simp at h0; subst h0
        rw [List.cons_prefix_cons]
        refine ⟨rfl, ih ys (fun p hp => hall p (by simp [List.zip_cons_cons, hp])) (by simpa using hl')⟩
  · intro hp
    obtain ⟨t, ht⟩ := hp
    refine ⟨?_, ?_⟩
    · have := congrArg List.length ht; simp at this; omega
    · rw [← ht]
      intro p hp
      exact zip_append_self _ _ p hp

theorem eqOrSubdomainOf_eq_false {n a : Name} (h : ¬ a <:+ n) : eqOrSubdomainOf n a = false :=
  Bool.eq_false_iff.mpr fun he => h ((eqOrSubdomainOf_iff _ _).mp he)

/-- the name of the node at path `p` below the apex -/
def nameAt (apex : Name) (p : List Label) : Name := p.reverse ++ apex

theorem relPath_nameAt (apex : Name) (p : List Label) : relPath apex.length (nameAt apex p) = p := by
  simp [relPath, nameAt]

theorem nameAt_relPath (apex n : Name) (h : apex <:+ n) : nameAt apex (relPath apex.length n) = n := by
  obtain ⟨t, rfl⟩ := h
  simp [relPath, nameAt]

theorem nameAt_suffix (apex : Name) (p q : List Label) : nameAt apex p <:+ nameAt apex q ↔ p <+: q := by
  unfold nameAt
  rw [← List.reverse_prefix]
  simp only [List.reverse_append, List.reverse_reverse]
  rw [List.prefix_append_right_inj]

theorem nameAt_inj (apex : Name) (p q : List Label) : nameAt apex p = nameAt apex q ↔ p = q := by
  unfold nameAt
  simp

theorem apex_suffix_nameAt (apex : Name) (p : List Label) : apex <:+ nameAt apex p :=
  List.suffix_append _ _

theorem nameAt_cons (apex : Name) (l : Label) (p : List Label) :
    nameAt apex (p ++ [l]) = l :: nameAt apex p := by
  simp [nameAt]

/-! ### the refinement relation -/

/-- the tree `z` represents the flat zone `s`: a node exists exactly at the existing names, its
    RRset list is strictly sorted by type and holds, for each type, the RRset of the flat list -/
structure Rel (z : Zone) (s : SZone) : Prop where
  apex : z.apex = s.apex
  cls : z.cls = s.cls
  glue : z.glue = s.glue
  inZone : ∀ r ∈ s.recs, s.apex <:+ r.owner
  clsOk : ∀ r ∈ s.recs, r.cls = s.cls
  ttl : TtlUniform s
  ex : ∀ p, (rrs z.root p).isSome = nameExists s (nameAt s.apex p)
  sorted : ∀ p l, rrs z.root p = some l → SortedT l
  look : ∀ p l t, rrs z.root p = some l → lookupRrset l t = rrset s (nameAt s.apex p) t

theorem Rel.init (apex : Name) (cls : Nat) (glue : GluePolicy) :
    Rel (Zone.new apex cls glue) ⟨apex, cls, glue, []⟩ := by
  refine ⟨rfl, rfl, rfl, by simp, by simp, by simp [TtlUniform], ?_, ?_, ?_⟩
  · intro p
    simp only [Zone.new, rrs_empty, nameExists, List.any_nil, Bool.or_false]
    by_cases hp : p = []
    · subst hp; simp [nameAt]
    · have : nameAt apex p ≠ apex := by
        intro e; apply hp
        have := (nameAt_inj apex p []).mp (by simpa [nameAt] using e)
        exact this
      simp [hp, this]
  · intro p l hl
    simp only [Zone.new, rrs_empty] at hl
    split at hl
    · cases hl; trivial
    · cases hl
  · intro p l t hl
    simp only [Zone.new, rrs_empty] at hl
    split at hl
    · cases hl; simp [lookupRrset, rrset]
    · cases hl

theorem Rel.look' {z s} (h : Rel z s) (p : List Label) (t : Nat) :
    lookupRrset ((rrs z.root p).getD []) t = rrset s (nameAt s.apex p) t := by
  cases hr : rrs z.root p with
  | some l => simpa using h.look p l t hr
  | none =>
    have he := h.ex p
    rw [hr] at he
    simp only [Option.isSome_none, Option.getD_none, lookupRrset] at he ⊢
    symm
    rw [rrset_eq_none]
    intro ho
    have := (nameExists_iff s _).mpr ho.exists
    rw [this] at he; cases he

theorem Rel.sorted' {z s} (h : Rel z s) (p : List Label) : SortedT ((rrs z.root p).getD []) := by
  cases hr : rrs z.root p with
  | some l => simpa using h.sorted p l hr
  | none => simp [SortedT]

/-- the RRset list of a node is exactly the specification's list for its name -/
theorem Rel.rrs_eq {z s} (h : Rel z s) (p : List Label) :
    rrs z.root p = if nameExists s (nameAt s.apex p) then some (rrsetsAt s (nameAt s.apex p)) else none := by
  have he := h.ex p
  cases hr : rrs z.root p with
  | none => rw [hr] at he; simp at he; simp [he]
  | some l =>
    rw [hr] at he; simp at he
    simp only [← he, if_true, Option.some.injEq]
    apply sortedT_ext _ _ (h.sorted p l hr) (rrsetsAt_sorted s _)
    intro t
    rw [h.look p l t hr, lookup_rrsetsAt]

/-- Frame for `addAt`: the new tree differs from the old one at `q` (the list `l'`) and at the
    proper prefixes of `q` (nodes that now exist); if the new record list differs from the old one
    in the same way, the relation is kept. -/
theorem Rel.set_node {z s} (h : Rel z s) (recs' : List Rec) (root' : Node) (q : List Label) (l' : List Rrset)
    (hin : ∀ r ∈ recs', s.apex <:+ r.owner) (hcls : ∀ r ∈ recs', r.cls = s.cls)
    (httl : TtlUniform { s with recs := recs' })
    (hrrs : ∀ p, rrs root' p =
      if p = q then some l' else if p <+: q then some ((rrs z.root p).getD []) else rrs z.root p)
    (hex : ∀ p, nameExists { s with recs := recs' } (nameAt s.apex p) =
      (nameExists s (nameAt s.apex p) || decide (p <+: q)))
    (hsorted : SortedT l') (hlook : ∀ t, lookupRrset l' t = rrset { s with recs := recs' } (nameAt s.apex q) t)
    (hother : ∀ p t, p ≠ q →
      rrset { s with recs := recs' } (nameAt s.apex p) t = rrset s (nameAt s.apex p) t) :
    Rel { z with root := root' } { s with recs := recs' } := by
  refine ⟨h.apex, h.cls, h.glue, hin, hcls, httl, ?_, ?_, ?_⟩
  · intro p
    show (rrs root' p).isSome = _
    rw [hrrs, hex]
    by_cases hp1 : p = q
    · subst hp1; simp
    · by_cases hp2 : p <+: q
      · simp [hp1, hp2]
      · simp only [hp1, hp2, if_false, decide_false, Bool.or_false]; exact h.ex p
  · intro p l hl
    change rrs root' p = some l at hl
    rw [hrrs] at hl
    by_cases hp1 : p = q
    · simp [hp1] at hl; subst hl; exact hsorted
    · by_cases hp2 : p <+: q
      · simp [hp1, hp2] at hl; subst hl; exact h.sorted' p
      · simp only [hp1, hp2, if_false] at hl; exact h.sorted p l hl
  · intro p l t hl
    change rrs root' p = some l at hl
    rw [hrrs] at hl
    show lookupRrset l t = rrset { s with recs := recs' } (nameAt s.apex p) t
    by_cases hp1 : p = q
    · simp [hp1] at hl; subst hl; subst hp1
      exact hlook t
    · rw [hother p t hp1]
      by_cases hp2 : p <+: q
      · simp [hp1, hp2] at hl; subst hl; exact h.look' p t
      · simp only [hp1, hp2, if_false] at hl; exact h.look p l t hl

/-- a record is appended to the flat list -/
theorem Rel.add_new {z s} (h : Rel z s) (eqv : Eqv) (r : Rec) (q : List Label)
    (hname : nameAt s.apex q = r.owner) (l' : List Rrset) (hl'sorted : SortedT l')
    (hrrs : ∀ p, rrs (addAt eqv s.cls r.rtype r.ttl r.rdata z.root q).1 p =
      if p = q then some l' else if p <+: q then some ((rrs z.root p).getD []) else rrs z.root p)
    (hlook : ∀ t, lookupRrset l' t = rrset { s with recs := s.recs ++ [r] } r.owner t)
    (httl : ∀ r' ∈ s.recs, r'.owner = r.owner → r'.rtype = r.rtype → r'.ttl = r.ttl)
    (hz : s.apex <:+ r.owner) (hc : r.cls = s.cls) :
    Rel { z with root := (addAt eqv s.cls r.rtype r.ttl r.rdata z.root q).1 } { s with recs := s.recs ++ [r] } := by
  have hmem : ∀ {P : Rec → Prop}, (∀ r' ∈ s.recs, P r') → P r → ∀ r' ∈ s.recs ++ [r], P r' := by
    intro P h1 h2 r' hr'
    rcases List.mem_append.mp hr' with hr' | hr'
    · exact h1 r' hr'
    · cases List.mem_singleton.mp hr'; exact h2
  refine h.set_node _ _ q l' (hmem h.inZone hz) (hmem h.clsOk hc) ?_ hrrs ?_ hl'sorted
    (hname ▸ hlook) ?_
  · intro r1 h1 r2 h2 ho ht
    simp only [List.mem_append, List.mem_singleton] at h1 h2
    rcases h1 with h1 | h1 <;> rcases h2 with h2 | h2
    · exact h.ttl r1 h1 r2 h2 ho ht
    · subst h2; exact httl r1 h1 ho ht
    · subst h1; exact (httl r2 h2 ho.symm ht.symm).symm
    · subst h1; subst h2; rfl
  · intro p
    have : (nameAt s.apex p).isSuffixOf r.owner = decide (p <+: q) := by
      rw [← hname, Bool.eq_iff_iff, List.isSuffixOf_iff_suffix, nameAt_suffix, decide_eq_true_iff]
    simp [nameExists, List.any_append, Bool.or_assoc, this]
  · intro p t hp
    rw [rrset_append]
    have : ¬ (r.owner = nameAt s.apex p ∧ r.rtype = t) := by
      intro hh; apply hp
      rw [← hname] at hh
      exact ((nameAt_inj _ _ _).mp hh.1).symm
    simp [this]

/-- `add` on the tree and on the flat list keep the relation, and report the same error -/
theorem Rel.add {z s} (h : Rel z s) (eqv : Eqv) (r : Rec) :
    Rel (addM eqv z r).1 (specAddM eqv s r) ∧
      (addM eqv z r).2 = (match specAdd eqv s r with | .ok _ => none | .error e => some e) := by
  obtain ⟨za, zc, zg, zr⟩ := z
  have ha := h.apex; have hcl := h.cls; have hg := h.glue
  simp only at ha hcl hg
  subst ha hcl hg
  unfold addM specAddM specAdd
  simp only
  by_cases hz : s.apex <:+ r.owner
  case neg =>
    have e1 := eqOrSubdomainOf_eq_false hz
    have e2 := isSuffixOf_eq_false hz
    simp only [e1, e2, Bool.not_false, if_true]
    exact ⟨h, trivial⟩
  have e1 : eqOrSubdomainOf r.owner s.apex = true := (eqOrSubdomainOf_iff _ _).mpr hz
  have e2 : s.apex.isSuffixOf r.owner = true := List.isSuffixOf_iff_suffix.mpr hz
  simp only [e1, e2, Bool.not_true, Bool.false_eq_true, if_false]
  by_cases hc : r.cls = s.cls
  case neg =>
    simp only [ne_eq, hc, not_false_eq_true, if_true]
    exact ⟨h, trivial⟩
  simp only [ne_eq, hc, not_true_eq_false, if_false]
  -- the walk
  generalize hq : relPath s.apex.length r.owner = q
  have hname : nameAt s.apex q = r.owner := by rw [← hq]; exact nameAt_relPath _ _ hz
  have hsnd := addAt_snd eqv s.cls r.rtype r.ttl r.rdata zr q
  have hlk : lookupRrset ((rrs zr q).getD []) r.rtype = rrset s r.owner r.rtype := by
    rw [h.look' q r.rtype, hname]
  have hsort := h.sorted' q
  -- TTL test
  by_cases httl : ∃ x, rrset s r.owner r.rtype = some x ∧ x.ttl ≠ r.ttl
  · have hany := (ttlAny_iff s h.ttl r.owner r.rtype r.ttl).mpr httl
    simp only [hany, if_true]
    have herr : addErrOf eqv s.cls r.rtype r.ttl r.rdata ((rrs zr q).getD []) = some .TtlMismatch := by
      unfold addErrOf
      have := (rrsetsAdd_error eqv s.cls r.rtype r.ttl r.rdata _ hsort .TtlMismatch).mpr ⟨rfl, by rw [hlk]; exact httl⟩
      rw [this]
    rw [herr] at hsnd
    have heq := addAt_err_eq eqv s.cls r.rtype r.ttl r.rdata zr q _ hsnd
    refine ⟨?_, hsnd⟩
    rw [heq]
    exact h
  have hany : s.recs.any (fun r' => r'.owner == r.owner && r'.rtype == r.rtype && r'.ttl != r.ttl) = false :=
    Bool.eq_false_iff.mpr fun ha => httl ((ttlAny_iff s h.ttl r.owner r.rtype r.ttl).mp ha)
  simp only [hany, Bool.false_eq_true, if_false]
  -- the add succeeds on the tree
  obtain ⟨l', hl'⟩ : ∃ l', rrsetsAdd eqv s.cls r.rtype r.ttl r.rdata ((rrs zr q).getD []) = .ok l' := by
    cases hr : rrsetsAdd eqv s.cls r.rtype r.ttl r.rdata ((rrs zr q).getD []) with
    | ok l' => exact ⟨l', rfl⟩
    | error e =>
      have := (rrsetsAdd_error eqv s.cls r.rtype r.ttl r.rdata _ hsort e).mp hr
      rw [hlk] at this
      exact absurd this.2 httl
  have hnoerr : (addAt eqv s.cls r.rtype r.ttl r.rdata zr q).2 = none := by
    rw [hsnd]; unfold addErrOf; rw [hl']
  have hadded : addedList eqv s.cls r.rtype r.ttl r.rdata ((rrs zr q).getD []) = l' := by
    unfold addedList; rw [hl']
  obtain ⟨hl'sorted, hl'look⟩ := rrsetsAdd_ok eqv s.cls r.rtype r.ttl r.rdata _ l' hsort hl'
  rw [hlk] at hl'look
  have hrrs := rrs_addAt eqv s.cls r.rtype r.ttl r.rdata zr q
  rw [hadded] at hrrs
  have hdup := dupAny_eq s r.owner r.rtype (fun rd' => eqv s.cls r.rtype r.rdata rd')
  rw [hdup]
  -- existence of prefixes of the owner
  have hexq : ∀ s' : SZone, s'.apex = s.apex → NameExists s' r.owner → ∀ p, p <+: q → nameExists s' (nameAt s.apex p) = true := by
    intro s' ha hex p hp
    rw [nameExists_iff]
    refine hex.up ?_ (by rw [ha]; exact apex_suffix_nameAt _ _)
    rw [← hname]; exact (nameAt_suffix _ _ _).mpr hp
  cases hx : rrset s r.owner r.rtype with
  | some x =>
    simp only [hx] at hl'look ⊢
    have hxt := rrset_rtype hx
    by_cases hd : x.rdatas.any (fun rd' => eqv s.cls r.rtype r.rdata rd') = true
    · -- duplicate RDATA: nothing changes
      simp only [hd, if_true]
      refine ⟨?_, hnoerr⟩
      have hsame : addedRrset eqv s.cls r.rtype r.ttl r.rdata (some x) = x := by
        simp only [addedRrset, rdataInsert, hd, if_true]
      have hexo : NameExists s r.owner := (rrset_some_owns hx).exists
      refine h.set_node s.recs _ q l' h.inZone h.clsOk h.ttl hrrs ?_ hl'sorted ?_ (fun _ _ _ => rfl)
      · intro p
        by_cases hp : p <+: q
        · simp [hp, hexq s rfl hexo p hp]
        · simp [hp]
      · intro t
        rw [hl'look, hname, hsame]
        by_cases ht : t = r.rtype
        · subst ht; simp [hx]
        · simp only [ht, if_false]; rw [h.look' q t, hname]
    · -- new RDATA in an existing RRset
      have hd' : x.rdatas.any (fun rd' => eqv s.cls r.rtype r.rdata rd') = false := by simpa using hd
      simp only [hd', Bool.false_eq_true, if_false]
      refine ⟨?_, hnoerr⟩
      exact Rel.add_new h eqv r q hname l' hl'sorted hrrs (by
        intro t
        rw [hl'look, rrset_append]
        by_cases ht : t = r.rtype
        · subst ht
          simp only [and_self, if_true, hx, addedRrset, rdataInsert, hd', Bool.false_eq_true, if_false, hxt]
        · have hne : ¬ (r.rtype = t) := fun hh => ht hh.symm
          simp only [ht, if_false]
          rw [h.look' q t, hname]; simp [hne])
        (by
          intro r' hr' ho ht
          obtain ⟨r0, hr0, ho0, ht0, httl0⟩ := rrset_ttl hx
          have hx_ttl : x.ttl = r.ttl := Classical.not_not.mp (fun hne => httl ⟨x, hx, hne⟩)
          rw [← hx_ttl, ← httl0]
          exact h.ttl r' hr' r0 hr0 (by rw [ho, ho0]) (by rw [ht, ht0]))
        hz hc
  | none =>
    simp only [hx] at hl'look ⊢
    simp only [Bool.false_eq_true, if_false]
    refine ⟨?_, hnoerr⟩
    exact Rel.add_new h eqv r q hname l' hl'sorted hrrs (by
      intro t
      rw [hl'look, rrset_append]
      by_cases ht : t = r.rtype
      · subst ht
        simp [hx, addedRrset]
      · have hne : ¬ (r.rtype = t) := fun hh => ht hh.symm
        simp only [ht, if_false]
        rw [h.look' q t, hname]; simp [hne])
      (by
        intro r' hr' ho ht
        exact absurd ⟨r', hr', ho, ht⟩ ((rrset_eq_none s _ _).mp hx))
      hz hc

end QV.Zone
