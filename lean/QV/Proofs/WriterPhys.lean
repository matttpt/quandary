/-
  QV.Proofs.WriterPhys — C12 / C13: the physical shape of a name occurrence is unique: the octets at a
  position can be split in only one way into literal labels followed by a root label or a pointer octet
  (`chunk_unique`).  So the label starts a name write records (`PhysLab`, defined in WriterNames) are the
  label starts any reader finds there (`physLab_iff`), they lie inside the name's octets and depend on these
  only; with that, what a name writer left (`NameAdded`) stays while the buffer grows above it.
-/
import QV.Proofs.WriterItems

namespace QV.Writer
open QV QV.Wire QV.Spec

/-- literal labels followed by a root label or a pointer octet: only one way to read them -/
theorem chunk_unique {oct : Bytes} : ∀ (pre pre' : List Label) (a : Nat) (b b' : UInt8),
    LabelsWF pre → LabelsWF pre' →
    BytesAt oct a (pre.flatMap WName.encLabel ++ [b]) → BytesAt oct a (pre'.flatMap WName.encLabel ++ [b']) →
    (b = 0 ∨ isPtr b = true) → (b' = 0 ∨ isPtr b' = true) → pre = pre' ∧ b = b' := by
  intro pre
  induction pre with
  | nil =>
    intro pre' a b b' _ hwf' hb hb' hc _
    have h0 : oct[a]? = some b := by simpa using hb 0 (by simp)
    cases pre' with
    | nil =>
      have h0' : oct[a]? = some b' := by simpa using hb' 0 (by simp)
      rw [h0] at h0'
      exact ⟨rfl, by simpa using h0'⟩
    | cons l ls =>
      exfalso
      have hl := hwf' l List.mem_cons_self
      have h0' : oct[a]? = some (UInt8.ofNat l.length) := by
        have := hb' 0 (by simp [WName.encLabel])
        simpa [WName.encLabel] using this
      rw [h0] at h0'
      have hbe : b = UInt8.ofNat l.length := by simpa using h0'
      rcases hc with h | h
      · exact ofNat_len_ne_zero hl.1 hl.2 (hbe ▸ h)
      · rw [hbe, ofNat_len_notPtr hl.2] at h; cases h
  | cons l ls ih =>
    intro pre' a b b' hwf hwf' hb hb' hc hc'
    have hl := hwf l List.mem_cons_self
    have h0 : oct[a]? = some (UInt8.ofNat l.length) := by
      have := hb 0 (by simp [WName.encLabel])
      simpa [WName.encLabel] using this
    cases pre' with
    | nil =>
      exfalso
      have h0' : oct[a]? = some b' := by simpa using hb' 0 (by simp)
      rw [h0] at h0'
      have hbe : UInt8.ofNat l.length = b' := by simpa using h0'
      rcases hc' with h | h
      · exact ofNat_len_ne_zero hl.1 hl.2 (hbe ▸ h)
      · rw [← hbe, ofNat_len_notPtr hl.2] at h; cases h
    | cons l' ls' =>
      have hl' := hwf' l' List.mem_cons_self
      have h0' : oct[a]? = some (UInt8.ofNat l'.length) := by
        have := hb' 0 (by simp [WName.encLabel])
        simpa [WName.encLabel] using this
      rw [h0] at h0'
      have hlen : l.length = l'.length := by
        have := congrArg UInt8.toNat (Option.some.inj h0')
        rwa [ofNat_len_toNat hl.2, ofNat_len_toNat hl'.2] at this
      have e1 : BytesAt oct a (WName.encLabel l ++ (ls.flatMap WName.encLabel ++ [b])) := by
        simpa [List.flatMap_cons, List.append_assoc] using hb
      have e2 : BytesAt oct a (WName.encLabel l' ++ (ls'.flatMap WName.encLabel ++ [b'])) := by
        simpa [List.flatMap_cons, List.append_assoc] using hb'
      obtain ⟨f1, r1⟩ := bytesAt_append e1
      obtain ⟨f2, r2⟩ := bytesAt_append e2
      have hll : l = l' := by
        apply List.ext_getElem?
        intro i
        by_cases hi : i < l.length
        · have x1 := f1 (i + 1) (by simp [WName.encLabel]; omega)
          have x2 := f2 (i + 1) (by simp [WName.encLabel]; omega)
          simp only [WName.encLabel, List.getElem?_cons_succ] at x1 x2
          rw [← x1, ← x2]
        · rw [List.getElem?_eq_none (by omega), List.getElem?_eq_none (by omega)]
      subst hll
      obtain ⟨e, eb⟩ := ih ls' (a + (WName.encLabel l).length) b b'
        (fun x hx => hwf x (List.mem_cons_of_mem _ hx)) (fun x hx => hwf' x (List.mem_cons_of_mem _ hx))
        r1 r2 hc hc'
      exact ⟨by rw [e], eb⟩

/-- the label starts of a chunk: those of its literal labels, and the root label's if it ends so -/
def chunkLabs (a : Nat) (pre : List Label) (b : UInt8) : List Nat :=
  labelStartsFrom a pre ++ (if b = 0 then [a + encLen pre] else [])

theorem physLab_iff {oct : Bytes} {a g : Nat} {pre : List Label} {b : UInt8} (hwf : LabelsWF pre)
    (hb : BytesAt oct a (pre.flatMap WName.encLabel ++ [b])) (hc : b = 0 ∨ isPtr b = true) :
    PhysLab oct a g ↔ g ∈ chunkLabs a pre b := by
  constructor
  · rintro ⟨pre', b', hwf', hb', hc', hg⟩
    obtain ⟨rfl, rfl⟩ := chunk_unique pre' pre a b' b hwf' hwf hb' hb hc' hc
    unfold chunkLabs
    rcases hg with hg | ⟨h0, hg⟩
    · exact List.mem_append_left _ hg
    · subst h0; simp [hg]
  · intro hg
    refine ⟨pre, b, hwf, hb, hc, ?_⟩
    unfold chunkLabs at hg
    rcases List.mem_append.mp hg with hg | hg
    · exact Or.inl hg
    · right
      by_cases h0 : b = 0
      · simpa [h0] using hg
      · simp [h0] at hg

/-- a recorded label start lies inside the octets of the name it belongs to -/
theorem physLab_range {oct : Bytes} {a k g : Nat} (hck : ChunkAt oct a k) (h : PhysLab oct a g) :
    a ≤ g ∧ g < a + k := by
  obtain ⟨pre, b, hwf, hb, hk⟩ := hck
  have hc : b = 0 ∨ isPtr b = true := by rcases hk with ⟨h, _⟩ | ⟨h, _⟩; exact Or.inl h; exact Or.inr h
  have hg := (physLab_iff hwf hb hc).mp h
  unfold chunkLabs at hg
  rcases List.mem_append.mp hg with hg | hg
  · have := labelStartsFrom_ge a pre g hg
    rcases hk with ⟨_, e⟩ | ⟨_, e⟩ <;> omega
  · by_cases h0 : b = 0
    · simp [h0] at hg
      rcases hk with ⟨_, e⟩ | ⟨_, e⟩ <;> omega
    · simp [h0] at hg

/-- frame: the label starts of a name only depend on the octets the name occupies -/
theorem physLab_frame {oct oct' : Bytes} {a k g : Nat} (hck : ChunkAt oct a k) (h : PhysLab oct a g)
    (hpre : ∀ i, a ≤ i → i < a + k → oct'[i]? = oct[i]?) : PhysLab oct' a g := by
  obtain ⟨pre, b, hwf, hb, hk⟩ := hck
  have hc : b = 0 ∨ isPtr b = true := by rcases hk with ⟨h, _⟩ | ⟨h, _⟩; exact Or.inl h; exact Or.inr h
  have hg := (physLab_iff hwf hb hc).mp h
  have hlen := chunk_length pre b
  have hb' : BytesAt oct' a (pre.flatMap WName.encLabel ++ [b]) :=
    bytesAt_frame hb (fun i h1 h2 => hpre i h1 (by rw [hlen] at h2; rcases hk with ⟨_, e⟩ | ⟨_, e⟩ <;> omega))
  exact (physLab_iff hwf hb' hc).mpr hg

/-- what a name writer left stays where it is while the buffer grows above it -/
theorem NameAdded.mono {s s1 s2 : State} {n : WName} (h : NameAdded s s1 n) (hc0 : s.cursor ≤ s1.cursor)
    (hpre : ∀ i, i < s1.cursor → s2.octets[i]? = s1.octets[i]?) (hc : s1.cursor ≤ s2.cursor)
    (hg : ∀ g ∈ s1.gLabels, g ∈ s2.gLabels) :
    Item s2 s.cursor (s1.cursor - s.cursor) ∧ NameIs s2 s.cursor s.mode n ∧
      ∀ g, g ∈ s1.gLabels → g ∈ s.gLabels ∨ PhysLab s2.octets s.cursor g :=
  ⟨item_move (lo := 0) h.item (fun _ _ => Nat.zero_le _) (fun i _ hi => hpre i (by omega)) (by omega)
      (fun g hg' _ => hg g hg'),
    nameIs_frame (lo := 0) h.name (fun _ _ => Nat.zero_le _) (fun i _ hi => hpre i hi) hc hg,
    fun g hg' => (h.labels g hg').imp id fun hp =>
      physLab_frame h.item.2.1 hp (fun i _ h2 => hpre i (by omega))⟩

/-- a name that ends with its root label and uses no pointer -/
def RootEnd (oct : Bytes) (a : Nat) : Prop :=
  ∃ pre, LabelsWF pre ∧ BytesAt oct a (pre.flatMap WName.encLabel ++ [0])

theorem rootEnd_frame {oct oct' : Bytes} {a k : Nat} (hck : ChunkAt oct a k) (h : RootEnd oct a)
    (hpre : ∀ i, a ≤ i → i < a + k → oct'[i]? = oct[i]?) : RootEnd oct' a := by
  obtain ⟨pre', hwf', hb'⟩ := h
  obtain ⟨pre, b, hwf, hb, hk⟩ := hck
  have hc : b = 0 ∨ isPtr b = true := by rcases hk with ⟨h, _⟩ | ⟨h, _⟩; exact Or.inl h; exact Or.inr h
  obtain ⟨rfl, rfl⟩ := chunk_unique pre' pre a 0 b hwf' hwf hb' hb (Or.inl rfl) hc
  have hlen := chunk_length pre' (0 : UInt8)
  exact ⟨pre', hwf', bytesAt_frame hb (fun i h1 h2 => hpre i h1 (by
    rw [hlen] at h2; rcases hk with ⟨_, e⟩ | ⟨_, e⟩ <;> omega))⟩

theorem rootEnd_of_wire {oct : Bytes} {a : Nat} {n : WName} (hn : n.WF) (h : BytesAt oct a n.wire) :
    RootEnd oct a := by
  refine ⟨n.labels, ?_, ?_⟩
  · intro l hl; exact hn.1 l hl
  · simpa [WName.wire] using h

end QV.Writer
