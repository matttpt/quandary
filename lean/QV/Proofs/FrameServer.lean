/-
  QV.Proofs.FrameServer — the writer operations the server issues after the question frame
  (`QV.Proofs.Frame`): the answering phase (src/server/query.rs: `handle_non_axfr_query` and
  everything below it) and the OPT/TSIG processing of the scan (src/server/mod.rs). Whatever a
  loaded zone answers, the ID, QR, opcode, RD, RA, Z/AD/CD bits, the question octets, QDCOUNT, the
  EDNS payload size and the TSIG slot are as the scan left them.
-/
import QV.Proofs.Frame
import QV.Proofs.ServerAnswerProg
import QV.Proofs.ServerNoErr
import QV.Proofs.TsigStep

namespace QV.Server
open QV QV.Writer

/-- `Framed` for the processing monad (`ProcessingResult`): the writer component of the state
    (the ghost log is irrelevant) -/
def PFramed {α} (k : Bool) (b : Nat) (m : PM α) : Prop :=
  ∀ s : PS, b ≤ s.w.cursor → b ≤ s.w.rrStart → Fr k b s.w (m s).2.w

variable {k : Bool}

/-- the RCODEs the server sets through `set_rcode` fit the four RCODE bits (read off the generated table) -/
structure RcodesFit : Prop where
  noerror : RC "NOERROR" < 16
  formerr : RC "FORMERR" < 16
  servfail : RC "SERVFAIL" < 16
  nxdomain : RC "NXDOMAIN" < 16
  notimp : RC "NOTIMP" < 16
  refused : RC "REFUSED" < 16

theorem rcodesFit : RcodesFit := by constructor <;> decide

theorem pframed_pure {α} (b : Nat) (a : α) : PFramed k b (pure a : PM α) := fun s hc _ => Fr.refl _ b s.w hc
theorem pframed_fail {α} (b : Nat) (e : PErr) : PFramed k b (PM.fail e : PM α) := fun s hc _ => Fr.refl _ b s.w hc
theorem pframed_panic {α} (b : Nat) : PFramed k b (PM.panic : PM α) := fun s hc _ => Fr.refl _ b s.w hc

theorem pframed_bind {α β} {b : Nat} {x : PM α} {f : α → PM β} (hx : PFramed k b x) (hf : ∀ a, PFramed k b (f a)) :
    PFramed k b (x >>= f) := by
  intro s hc hr
  have h1 := hx s hc hr
  show Fr k b s.w (PM.bind x f s).2.w
  unfold PM.bind
  rcases hxs : x s with ⟨(a | e | _), s1⟩
  · rw [hxs] at h1
    simp only
    exact h1.trans (hf a s1 h1.cur (by rw [h1.rrStart]; exact hr))
  · rw [hxs] at h1; exact h1
  · rw [hxs] at h1; exact h1

/-- a logged header operation -/
theorem pframed_hdrOp (b : Nat) (ev : Ev) (m : M Unit) (h : Framed k b m) : PFramed k b (PM.hdrOp ev m) := by
  intro s hc hr
  have := h s.w hc hr
  unfold PM.hdrOp
  rcases hm : m s.w with ⟨(a | e | _), s1⟩ <;> (rw [hm] at this; exact this)

/-- a logged record-adding call -/
theorem pframed_addCall (b : Nat) (ev : AddEv) (m : M HV) (h : Framed k b m) : PFramed k b (PM.addCall ev m) := by
  intro s hc hr
  have := h s.w hc hr
  unfold PM.addCall
  rcases hm : m s.w with ⟨(a | e | _), s1⟩
  · rw [hm] at this; exact this
  · rw [hm] at this
    dsimp only
    split <;> exact this
  · rw [hm] at this; exact this

theorem framed_withHv (b : Nat) (hv : HV) (m : M Unit) (h : Framed k b m) : Framed k b (withHv hv m) := by
  intro s hc hr
  unfold withHv
  have h0 : Fr k b s { s with hv := some hv } := fr_same b s _ rfl rfl rfl hc (fun _ => ⟨rfl, rfl⟩)
  have h1 := h { s with hv := some hv } hc hr
  rcases hm : m { s with hv := some hv } with ⟨(a | e | _), s1⟩
  all_goals
    rw [hm] at h1
    exact (h0.trans h1).trans (fr_same b s1 _ rfl rfl rfl h1.cur (fun _ => ⟨rfl, rfl⟩))

/-! ### the answering phase (src/server/query.rs) -/

variable (b : Nat)

theorem pframed_addRrs (hb : 4 ≤ b) (optional : Bool) (sec : RrSection) (hint : Hint) (owner : WName)
    (ty cls ttl : Nat) (rds : List (List UInt8)) : PFramed k b (PM.addRrs optional sec hint owner ty cls ttl rds) :=
  pframed_addCall b _ _ (framed_withHv b _ _ (framed_addRrsetOp b hb _ _ _ _ _ _ _))

theorem pframed_setAa (hb : 4 ≤ b) (v : Bool) : PFramed k b (PM.setAa v) :=
  pframed_hdrOp b _ _ (framed_setAa b hb v)

theorem pframed_setRcode (hb : 4 ≤ b) (rc : Nat) (hrc : rc < 16) : PFramed k b (PM.setRcode rc) :=
  pframed_hdrOp b _ _ (framed_setRcode b hb rc hrc)

theorem pframed_setTc (hb : 4 ≤ b) (v : Bool) : PFramed k b (PM.setTc v) :=
  pframed_hdrOp b _ _ (framed_setTc b hb v)

theorem pframed_clearRrs : PFramed k b PM.clearRrs := pframed_hdrOp b _ _ (framed_clearRrs b)

/-- a program built from the primitives of the answer phase (`ServerAnswer.Prog`) frames, since each
    primitive does -/
theorem pframed_of_prog {Q : AddEv → Prop} {α : Type} {m : PM α} {r r' : Nat} (h : ServerAnswer.Prog Q m r r')
    (hb : 4 ≤ b) : PFramed k b m := by
  induction h with
  | pure a _ => exact pframed_pure b a
  | fail e _ _ => exact pframed_fail b e
  | panic _ _ => exact pframed_panic b
  | bind _ _ ih1 ih2 => exact pframed_bind ih1 ih2
  | weaken _ _ _ ih => exact ih
  | setAa v _ => exact pframed_setAa b hb v
  | nxDomain _ => exact pframed_setRcode b hb _ rcodesFit.nxdomain
  | addRrs opt sec hint owner ty cls ttl rds _ => exact pframed_addRrs b hb opt sec hint owner ty cls ttl rds

/-- `handle_non_axfr_query` on the writer plus the ghost log frames -/
theorem pframed_handleNonAxfrQueryL (hb : 4 ≤ b) (z : Zone.Zone) (qname : WName) (qtype : Nat) (tr : Transport) :
    PFramed k b (handleNonAxfrQueryL z qname qtype tr) := by
  intro s hc hr
  unfold handleNonAxfrQueryL
  have h1 : Fr k b s.w (if qtype = QT "ANY" then answerAny z qname s else answer z qname qtype s).2.w := by
    rw [← ServerAnswer.inner_apply]
    exact pframed_of_prog b (ServerAnswer.Prog.inner' z qname qtype) hb s hc hr
  simp only
  rcases hres : (if qtype = QT "ANY" then answerAny z qname s else answer z qname qtype s) with ⟨(a | e | _), s1⟩
  · rw [hres] at h1; exact h1
  · rw [hres] at h1
    have hr1 : b ≤ s1.w.rrStart := by rw [h1.rrStart]; exact hr
    cases e with
    | servFail =>
      simp only
      refine h1.trans (pframed_bind (pframed_setAa b hb false) (fun _ =>
        pframed_bind (pframed_setRcode b hb _ rcodesFit.servfail) fun _ => pframed_clearRrs b) s1 h1.cur hr1)
    | truncation =>
      simp only
      refine h1.trans (pframed_bind (pframed_clearRrs b) (fun _ => ?_) s1 h1.cur hr1)
      split
      · exact pframed_bind (pframed_setAa b hb false) fun _ => pframed_setRcode b hb _ rcodesFit.servfail
      · exact pframed_setTc b hb true
  · rw [hres] at h1; exact h1

/-- **`handle_non_axfr_query` frames**: whatever the zone answers — records, CNAME chains,
    referrals, negative answers, the SERVFAIL and truncation epilogues — the header bits outside
    AA/TC/RCODE, the question, QDCOUNT, `rr_start`, the EDNS payload size and the TSIG slot stay as
    they were, and the cursor stays at or above the start of the records. -/
theorem framed_handleNonAxfrQuery (hb : 4 ≤ b) (z : Zone.Zone) (qname : WName) (qtype : Nat) (tr : Transport) :
    Framed k b (handleNonAxfrQuery z qname qtype tr) := by
  intro s hc hr
  have h := pframed_handleNonAxfrQueryL (k := k) b hb z qname qtype tr { w := s } hc hr
  unfold handleNonAxfrQuery
  rcases hres : handleNonAxfrQueryL z qname qtype tr { w := s } with ⟨(a | e | _), s1⟩ <;>
    (rw [hres] at h; exact h)


/-! ### the scan (src/server/mod.rs) -/

theorem rc_lt (n : String) (h : RC n < 16 := by decide) : RC n < 16 := h

theorem framed_setTsigOrTruncate (hb : 4 ≤ b) (mode : TsigMode) (rr : TsigRr) : Framed false b (setTsigOrTruncate mode rr) := by
  intro s hc hr
  unfold setTsigOrTruncate
  have h1 := framed_setTsig b mode rr s hc hr
  rcases hs : setTsig mode rr s with ⟨(a | e | _), s1⟩
  · rw [hs] at h1; exact h1
  · rw [hs] at h1
    simp only
    exact h1.trans (framed_bind (framed_setRcode b hb _ rcodesFit.noerror) (fun _ =>
      framed_bind (framed_setTc b hb true) fun _ => framed_pure b false) s1 h1.cur (by rw [h1.rrStart]; exact hr))
  · rw [hs] at h1; exact h1

theorem framed_formErr {α} (hb : 4 ≤ b) (a : α) : Framed k b (do setRcode (RC "FORMERR"); pure a : M α) :=
  framed_bind (framed_setRcode b hb _ rcodesFit.formerr) fun _ => framed_pure b a

open ServerScan in
theorem framed_handleTsig (hb : 4 ≤ b) (cfg : Cfg) (now : Nat) (p : Reader.PeekRr) (raw : Nat) :
    Framed false b (handleTsig cfg now p raw) := by
  intro s hc hr
  obtain e | e | ⟨nowT, t, mw, r', _, e⟩ := ServerSafety.handleTsig_cases cfg now p raw s <;> rw [e]
  · exact Fr.refl _ b s hc
  · exact framed_formErr b hb _ s hc hr
  · rcases tsigProcess_out (hm := Tsig.realHmac) (keys := cfg.keys) (nowT := nowT) (r := t) (msg := mw) s r' with
      e | ⟨h3, e⟩ | ⟨_, _, rc, mode, rr, _, _, _, _, hrc, h3, e⟩ <;> rw [e]
    · exact Fr.refl _ b s hc
    · have := framed_setRcode (k := false) b hb 9 (by omega) s hc hr
      rwa [setRcode_eq 9 s h3] at this
    · -- `stepSt` is what `set_rcode; set_tsig_or_truncate` leave (`tsigStep_eq`), and both frame
      have := framed_bind (framed_setRcode b hb rc hrc) (fun _ => framed_bind (framed_setTsigOrTruncate b hb mode rr)
        fun added => show Framed false b (if added && false then pure (some default) else pure none : M (Option Reader.Reader))
          by split <;> exact framed_pure b _) s hc hr
      rwa [tsigStep_eq rc mode rr false default s h3] at this

theorem framed_scanAr (hb : 4 ≤ b) (cfg : Cfg) (tr : Transport) (now arcount : Nat) :
    ∀ (n index : Nat) (st : ScanSt), Framed false b (scanAr cfg tr now arcount n index st) := by
  intro n index st s0 hc hr
  -- a framed step from a state framed with respect to `s0`
  have step : ∀ {α} {m : M α} {s : State}, Fr false b s0 s → Framed false b m → Fr false b s0 (m s).2 :=
    fun h hm => h.trans (hm _ h.cur (by rw [h.rrStart]; exact hr))
  have L : ServerSafety.Rule cfg tr now arcount (fun _ _ => True) (fun _ _ => Fr false b s0)
      (fun _ _ => Fr false b s0) (fun _ => Fr false b s0) :=
    { arith := fun _ _ _ => trivial
      done := fun _ _ _ h => h
      weak := fun _ _ _ h => h
      rpanic := fun _ _ _ h _ => h
      stop := fun _ _ _ v hv h => step h (framed_bind (framed_setRcode b hb v hv) fun _ => framed_pure b _)
      xstop := fun _ _ _ v _ h =>
        step h (framed_bind (framed_unwrap b _ (framed_setExtendedRcode b hb v)) fun _ => framed_pure b _)
      edns := fun _ _ s s1 h he => by have := step h (framed_setEdns b cfg.payload); rwa [he] at this
      limit := fun _ _ _ _ _ _ _ h _ _ => ⟨fun _ => step h (framed_setLimit b _), fun _ => step h (framed_setLimit b _)⟩
      nextOpt := fun _ _ _ _ _ _ h _ _ => h
      skip := fun _ _ _ _ h _ => h
      tsig := fun _ _ _ _ p raw _ _ h _ _ =>
        have hT := step h (framed_handleTsig b hb cfg now p raw)
        ServerSafety.tsigPost.intro _ _ (fun _ _ => hT) fun _ _ _ _ _ => hT }
  exact L.scanAr n index st s0 trivial (Fr.refl _ b s0 hc)

theorem framed_handleQuery (hb : 4 ≤ b) (cfg : Cfg) (question : Option (WName × Nat × Nat)) (tr : Transport) :
    Framed k b (handleQuery cfg question tr) := by
  unfold handleQuery
  split
  · exact framed_setRcode b hb _ rcodesFit.formerr
  · split
    · exact framed_setRcode b hb _ rcodesFit.notimp
    · split
      · exact framed_setRcode b hb _ rcodesFit.notimp
      · split
        · split
          · split
            · exact framed_handleNonAxfrQuery b hb _ _ _ _
            · exact framed_panic b
          · exact framed_setRcode b hb _ rcodesFit.servfail
        · exact framed_setRcode b hb _ rcodesFit.refused

end QV.Server
