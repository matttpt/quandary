/-
  QV.Proofs.ScanTsigCont — what `handle_message_with_context` does when the scan reaches a TSIG
  record that passes the syntactic checks (the spec's verdict `tsigReached`): it runs the TSIG step
  (`tsigAfter` = clock + `tsigProcess`, characterised by C10) and then

  * if the step does not authenticate (returns no reader): it stops there and responds;
  * if the step authenticates: the *same* end-of-message check and decision table as for unsigned
    requests (`endVerdict`) apply, on the writer state the TSIG step left — FORMERR for trailing
    octets or a QUERY without question, NOTIMP for other opcodes / QTYPE 251–254 / QCLASS ANY,
    REFUSED / SERVFAIL by the catalog, otherwise `handle_query` — with nothing but the RCODE
    changed in the no-data cases.
-/
import QV.Proofs.ScanTsig
import QV.Proofs.ServerMsg

namespace QV.ServerScan
open QV QV.Wire QV.Reader QV.Writer

/-- the writer on which the TSIG step runs: header copy, question, and the EDNS slot / UDP limit the
    scan of the records before the TSIG dictates -/
def preTsigState (cfg : Server.Cfg) (tr : Server.Transport) (bufLen : Nat) (req : Bytes) : State :=
  arSt (qSt (hdrSt (w0 bufLen (lim0 tr)) (Spec.Server.hdr req 0) (((req.getD 2 0).toNat &&& 120) >>> 3)
        (((req.getD 2 0).toNat &&& 1) != 0)) (Spec.Server.specScanWith (catKind cfg) cfg.payload req).question)
    tr cfg.payload (Spec.Server.specScanWith (catKind cfg) cfg.payload req).edns
    (Spec.Server.specScanWith (catKind cfg) cfg.payload req).limitUdp

/-- `handle_message` on a request whose scan reaches a well-formed TSIG record, in one equation -/
theorem handleMessage_tsig_eq (cfg : Server.Cfg) (tr : Server.Transport) (now bufLen : Nat) (req : Bytes)
    (hbuf : minBuf tr cfg.payload ≤ bufLen) (hpay : 512 ≤ cfg.payload) (hreq : req.size ≤ Rdata.USIZE_MAX)
    (hr : (Spec.Server.specScanWith (catKind cfg) cfg.payload req).respond = true)
    (hv : (Spec.Server.specScanWith (catKind cfg) cfg.payload req).verdict = .tsigReached) :
    ∃ (t : Tsig.ReadTsigRr) (mw : Bytes) (r' : Reader) (question : Option (WName × Nat × Nat)),
      r'.octets = req ∧ r'.cursor ≤ req.size ∧
      QRel (Spec.Server.specScanWith (catKind cfg) cfg.payload req).question question ∧
      (Server.handleMessage cfg tr now bufLen req =
        match afterTsig cfg tr req (Spec.Server.specScanWith (catKind cfg) cfg.payload req).question question
            ((req.getD 2 0).toNat / 8 % 16) r'.cursor
            (Server.tsigAfter cfg now t mw r' (preTsigState cfg tr bufLen req)) with
        | (.ok true, w1) =>
          (match Writer.finish w1 Server.macFn with
           | .ok (bytes, _) => .ok (some bytes)
           | _ => .panic)
        | (.ok false, _) => .ok none
        | _ => .panic) ∧
      -- where the record lies: after the question (if any) and the answer and authority records, the last of
      -- the additional records, at which the spec's scan stops
      ∃ p1 p2 d, (if Spec.Server.hdr req 4 = 0 then p1 = 12
          else ∃ x : Spec.DQuestion, Spec.specQuestionAt req 12 = some (x.qname, x.qtype, x.qclass, p1)) ∧
        Spec.Server.scanPlain req (Spec.Server.hdr req 6 + Spec.Server.hdr req 8) p1 = some p2 ∧
        (∃ e l, Spec.Server.scanAr req cfg.payload (Spec.Server.hdr req 10) (Spec.Server.hdr req 10) p2 false 512 =
          (.tsig, e, l)) ∧
        Spec.ServerTsig.walk req (Spec.Server.hdr req 10) p2 = some d ∧ TsigView req d t mw r' := by
  obtain ⟨h12, hqr, hsce⟩ := specScanWith_respond _ _ _ hr
  unfold preTsigState
  rw [hsce] at hv ⊢
  -- the header counts and the question are processed as for any request; the scan leaves the writer in
  -- the state `arSt`, the TSIG step runs on it, and `afterTsig` gives the rest
  rcases hwc_head cfg tr now req h12 _ (hdrSt_ok bufLen tr cfg.payload (Spec.Server.hdr req 0)
      (((req.getD 2 0).toNat &&& 120) >>> 3) (((req.getD 2 0).toNat &&& 1) != 0) hbuf hpay) with
    ⟨_, hsc, _⟩ | ⟨hsc, _⟩ | ⟨q, question, p1, hq, hp1, hsq, hqd, hsc, hb, _, _, h⟩
  · rw [hsc] at hv; cases hv
  · rw [hsc] at hv; cases hv
  rw [hsc] at hv ⊢
  obtain ⟨t, mw, r', h1, h2, h3, p2, d, hpl, hwalk, hview⟩ := scanAndDispatch_tsig_view cfg tr now req q question hq
    ⟨req, p1, none⟩ ⟨h12, hp1⟩ rfl _ hb hreq _ _ _ _ hv
  rw [specTail_question]
  refine ⟨t, mw, r', question, h1, h2, hq, ?_, p1, p2, d, ?_, hpl, ?_, hwalk, hview⟩
  · rw [handleMessage_eq cfg tr now bufLen req hbuf hpay h12 hqr, h.trans h3]
    rfl
  · split at hqd
    · rename_i h0; rw [if_pos h0]; exact hqd.2
    · rename_i h0
      obtain ⟨x, rfl⟩ := hqd
      rw [if_neg h0]; exact ⟨x, hsq x rfl⟩
  · rw [specTail_eq] at hv
    simp only [hpl] at hv
    generalize Spec.Server.scanAr req cfg.payload (Spec.Server.hdr req 10) (Spec.Server.hdr req 10) p2 false 512 = res at hv
    obtain ⟨en, e, l⟩ := res
    cases en with
    | formErr => cases hv
    | badVers => cases hv
    | done p3 =>
      rcases endVerdict_range (catKind cfg) req.size q p3 ((req.getD 2 0).toNat / 8 % 16) with h | h | h | h | h <;>
        exact absurd (h.symm.trans hv) nofun
    | tsig => exact ⟨e, l, rfl⟩

/-- **`handle_message` on a request whose scan reaches a well-formed TSIG record.**  There are a TSIG
    record `t`, the message without it `mw` and the reader `r'` after it such that: whenever the TSIG
    step authenticates the request (returns a reader) leaving the writer `S`, and the end-of-message
    check / decision table (`endVerdict`, the very table of unsigned requests) yields a no-data
    verdict `v`, the response is `finish` of `S` with nothing but the RCODE of `v` set. -/
theorem handleMessage_after_tsig (cfg : Server.Cfg) (tr : Server.Transport) (now bufLen : Nat) (req : Bytes)
    (hbuf : minBuf tr cfg.payload ≤ bufLen) (hpay : 512 ≤ cfg.payload) (hreq : req.size ≤ Rdata.USIZE_MAX)
    (hr : (Spec.Server.specScanWith (catKind cfg) cfg.payload req).respond = true)
    (hv : (Spec.Server.specScanWith (catKind cfg) cfg.payload req).verdict = .tsigReached) :
    ∃ (t : Tsig.ReadTsigRr) (mw : Bytes) (r' : Reader), r'.octets = req ∧ r'.cursor ≤ req.size ∧
      ∀ r'' S, Server.tsigAfter cfg now t mw r' (preTsigState cfg tr bufLen req) = (.ok (some r''), S) →
        endVerdict (catKind cfg) req.size (Spec.Server.specScanWith (catKind cfg) cfg.payload req).question
          r'.cursor ((req.getD 2 0).toNat / 8 % 16) ≠ .answer →
        Server.handleMessage cfg tr now bufLen req =
          match Writer.finish (endState (endVerdict (catKind cfg) req.size
              (Spec.Server.specScanWith (catKind cfg) cfg.payload req).question r'.cursor
              ((req.getD 2 0).toNat / 8 % 16)) S) Server.macFn with
          | .ok (bytes, _) => .ok (some bytes)
          | _ => .panic := by
  obtain ⟨t, mw, r', question, h1, h2, _, h4, _⟩ := handleMessage_tsig_eq cfg tr now bufLen req hbuf hpay hreq hr hv
  refine ⟨t, mw, r', h1, h2, fun r'' S hT hne => ?_⟩
  rw [h4, hT]
  simp only [afterTsig, if_neg hne]

end QV.ServerScan
