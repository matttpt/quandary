/-
  QV.Proofs.Zone — the tree of `QV.Model.Zone` seen as a partial function from paths to RRset
  lists (`rrs`), and how `add` changes that function.
-/
import QV.Model.Zone

namespace QV.Zone
open QV QV.NameL

/-! ### hash map of children -/

theorem childGet_childSet (cs : List (Label × Node)) (l l' : Label) (n : Node) :
    childGet (childSet cs l n) l' = if l = l' then some n else childGet cs l' := by
  induction cs with
  | nil => simp [childSet, childGet]
  | cons kv rest ih =>
    obtain ⟨k, v⟩ := kv
    by_cases hk : k = l
    · subst hk
      by_cases h2 : k = l' <;> simp [childSet, childGet, h2]
    · by_cases h2 : l = l'
      · subst h2; simp [childSet, childGet, hk, ih]
      · simp [childSet, childGet, hk, ih, h2]

theorem childSet_of_childGet (cs : List (Label × Node)) (l : Label) (n : Node)
    (h : childGet cs l = some n) : childSet cs l n = cs := by
  induction cs with
  | nil => simp [childGet] at h
  | cons kv rest ih =>
    obtain ⟨k, v⟩ := kv
    by_cases hk : k = l
    · simp [childGet, hk] at h; simp [childSet, hk, h]
    · simp [childGet, hk] at h; simp [childSet, hk, ih h]

/-! ### the tree as a function of paths -/

/-- the node reached by the labels `p` (top-down) -/
def find : Node → List Label → Option Node
  | n, [] => some n
  | .mk _ ch, l :: rest =>
    match childGet ch l with
    | some c => find c rest
    | none => none

/-- the RRset list of the node at `p`, if that node exists -/
def rrs (n : Node) (p : List Label) : Option (List Rrset) := (find n p).map Node.rrsets

@[simp] theorem rrs_nil (rr : List Rrset) (ch) : rrs (.mk rr ch) [] = some rr := rfl

theorem rrs_cons (rr : List Rrset) (ch) (l : Label) (p : List Label) :
    rrs (.mk rr ch) (l :: p) = match childGet ch l with | some c => rrs c p | none => none := by
  simp only [rrs, find]; cases childGet ch l <;> rfl

theorem rrs_empty (p : List Label) : rrs Node.empty p = if p = [] then some [] else none := by
  cases p with
  | nil => rfl
  | cons l p => simp [Node.empty, rrs_cons, childGet]

/-- existence is upward closed: a node's ancestors exist -/
theorem rrs_prefix_isSome (n : Node) (p q : List Label) (h : (rrs n (p ++ q)).isSome) : (rrs n p).isSome := by
  induction p generalizing n with
  | nil => cases n; simp
  | cons l p ih =>
    obtain ⟨rr, ch⟩ := n
    simp only [List.cons_append, rrs_cons] at h ⊢
    cases hc : childGet ch l with
    | none => simp [hc] at h
    | some c => simp only [hc] at h ⊢; exact ih c h

/-- `RrsetList` invariant: strictly ascending types -/
def SortedT : List Rrset → Prop
  | [] => True
  | s :: rest => (∀ s' ∈ rest, s.rtype < s'.rtype) ∧ SortedT rest

/-- the RRset that `add` leaves for type `t` -/
def addedRrset (eqv : Eqv) (cls t ttl : Nat) (rd : Rdata) (old : Option Rrset) : Rrset :=
  match old with
  | some s => ⟨s.rtype, s.ttl, rdataInsert eqv cls t s.rdatas rd⟩
  | none => ⟨t, ttl, [rd]⟩

theorem lookupRrset_rtype {l : List Rrset} {t : Nat} {s : Rrset} (h : lookupRrset l t = some s) : s.rtype = t := by
  induction l with
  | nil => simp [lookupRrset] at h
  | cons a rest ih =>
    simp only [lookupRrset] at h
    split at h
    · cases h; assumption
    · exact ih h

theorem lookupRrset_mem {l : List Rrset} {t : Nat} {s : Rrset} (h : lookupRrset l t = some s) : s ∈ l := by
  induction l with
  | nil => simp [lookupRrset] at h
  | cons a rest ih =>
    simp only [lookupRrset] at h
    split at h
    · cases h; simp
    · simp [ih h]

theorem lookupRrset_none_of_lt {l : List Rrset} {t : Nat} (h : ∀ s ∈ l, t < s.rtype) : lookupRrset l t = none := by
  induction l with
  | nil => rfl
  | cons a rest ih =>
    have := h a (by simp)
    simp only [lookupRrset]
    rw [if_neg (by omega)]
    exact ih (fun s hs => h s (by simp [hs]))

/-- error ⇔ an RRset of that type exists with a different TTL -/
theorem rrsetsAdd_error (eqv : Eqv) (cls t ttl : Nat) (rd : Rdata) (l : List Rrset) (hs : SortedT l) (e : AddErr) :
    rrsetsAdd eqv cls t ttl rd l = .error e ↔ e = .TtlMismatch ∧ ∃ s, lookupRrset l t = some s ∧ s.ttl ≠ ttl := by
  induction l with
  | nil => simp [rrsetsAdd, lookupRrset]
  | cons a rest ih =>
    simp only [rrsetsAdd, lookupRrset]
    by_cases h1 : a.rtype = t
    · simp only [h1, if_true]
      by_cases h2 : a.ttl = ttl
      · simp [h2]
      · simp [h2]; exact eq_comm
    · simp only [h1, if_false]
      by_cases h3 : t < a.rtype
      · simp only [h3, if_true]
        have : lookupRrset rest t = none :=
          lookupRrset_none_of_lt (fun s hm => Nat.lt_trans h3 (hs.1 s hm))
        simp [this]
      · simp only [h3, if_false]
        have ih' := ih hs.2
        cases hr : rrsetsAdd eqv cls t ttl rd rest with
        | ok r => simp [hr] at ih' ⊢; intro he; exact ih' he
        | error e' => simp only [hr] at ih' ⊢; exact ih'

theorem lookupRrset_of_mem {l : List Rrset} (hs : SortedT l) {x : Rrset} (hx : x ∈ l) :
    lookupRrset l x.rtype = some x := by
  induction l with
  | nil => simp at hx
  | cons a rest ih =>
    simp only [List.mem_cons] at hx
    simp only [lookupRrset]
    rcases hx with hx | hx
    · subst hx; simp
    · have := hs.1 x hx
      rw [if_neg (by omega)]
      exact ih hs.2 hx

/-- on success the list stays strictly sorted; the RRset of type `t` is the updated / new one and
    all others are untouched -/
theorem rrsetsAdd_ok (eqv : Eqv) (cls t ttl : Nat) (rd : Rdata) (l l' : List Rrset) (hs : SortedT l)
    (h : rrsetsAdd eqv cls t ttl rd l = .ok l') :
    SortedT l' ∧ ∀ t', lookupRrset l' t' =
      if t' = t then some (addedRrset eqv cls t ttl rd (lookupRrset l t)) else lookupRrset l t' := by
  induction l generalizing l' with
  | nil =>
    simp only [rrsetsAdd] at h; cases h
    refine ⟨⟨nofun, trivial⟩, fun t' => ?_⟩
    by_cases ht : t' = t <;> simp [lookupRrset, addedRrset, ht]
    intro h; exact absurd h.symm ht
  | cons a rest ih =>
    simp only [rrsetsAdd] at h
    by_cases h1 : a.rtype = t
    · simp only [h1, if_true] at h
      by_cases h2 : a.ttl = ttl
      · simp [h2] at h; subst h
        refine ⟨⟨fun s' hm => h1 ▸ hs.1 s' hm, hs.2⟩, fun t' => ?_⟩
        by_cases ht : t' = t
        · subst ht; simp [lookupRrset, h1, addedRrset]; exact h2.symm
        · simp [lookupRrset, ht, h1, Ne.symm ht]
      · simp [h2] at h
    · simp only [h1, if_false] at h
      by_cases h3 : t < a.rtype
      · simp only [h3, if_true] at h; cases h
        have hn : lookupRrset rest t = none :=
          lookupRrset_none_of_lt (fun s hm => Nat.lt_trans h3 (hs.1 s hm))
        refine ⟨⟨fun s' hm => ?_, hs⟩, fun t' => ?_⟩
        · rcases List.mem_cons.mp hm with rfl | hm
          · exact h3
          · exact Nat.lt_trans h3 (hs.1 s' hm)
        · by_cases ht : t' = t
          · subst ht; simp [lookupRrset, h1, hn, addedRrset]
          · simp [lookupRrset, ht, Ne.symm ht]
      · simp only [h3, if_false] at h
        cases hr : rrsetsAdd eqv cls t ttl rd rest with
        | error e' => simp [hr] at h
        | ok r =>
          simp only [hr] at h; cases h
          obtain ⟨hsr, hlr⟩ := ih r hs.2 hr
          refine ⟨⟨fun s' hm => ?_, hsr⟩, fun t' => ?_⟩
          · -- an RRset of `r` has the new type, which lies beyond `a`, or was in `rest` already
            have := hlr s'.rtype
            rw [lookupRrset_of_mem hsr hm] at this
            by_cases ht : s'.rtype = t
            · omega
            · rw [if_neg ht] at this
              exact hs.1 s' (lookupRrset_mem this.symm)
          · have ih' := hlr t'
            by_cases ht : t' = t
            · subst ht; simp [lookupRrset, h1] at ih' ⊢; exact ih'
            · simp only [lookupRrset, ht, if_false] at ih' ⊢
              rw [ih']

theorem rrsetsAdd_sorted (eqv : Eqv) (cls t ttl : Nat) (rd : Rdata) (l l' : List Rrset) (hs : SortedT l)
    (h : rrsetsAdd eqv cls t ttl rd l = .ok l') : SortedT l' :=
  (rrsetsAdd_ok eqv cls t ttl rd l l' hs h).1

/-- two strictly sorted RRset lists with the same lookup function are equal -/
theorem sortedT_ext (l₁ l₂ : List Rrset) (h₁ : SortedT l₁) (h₂ : SortedT l₂)
    (h : ∀ t, lookupRrset l₁ t = lookupRrset l₂ t) : l₁ = l₂ := by
  induction l₁ generalizing l₂ with
  | nil =>
    cases l₂ with
    | nil => rfl
    | cons b r => have := h b.rtype; simp [lookupRrset] at this
  | cons a r ih =>
    cases l₂ with
    | nil => have := h a.rtype; simp [lookupRrset] at this
    | cons b r₂ =>
      have ha := h a.rtype
      have hb := h b.rtype
      simp only [lookupRrset, if_true] at ha hb
      have hab : a = b := by
        by_cases e : b.rtype = a.rtype
        · simp [e] at ha; exact ha
        · simp only [e, if_false] at ha
          by_cases e' : a.rtype = b.rtype
          · exact absurd e'.symm e
          · simp only [e', if_false] at hb
            have m1 := lookupRrset_mem ha.symm
            have m2 := lookupRrset_mem hb
            have := h₂.1 a m1
            have := h₁.1 b m2
            omega
      subst hab
      congr 1
      apply ih r₂ h₁.2 h₂.2
      intro t
      have ht := h t
      simp only [lookupRrset] at ht
      by_cases e : a.rtype = t
      · subst e
        rw [lookupRrset_none_of_lt (fun s hm => h₁.1 s hm), lookupRrset_none_of_lt (fun s hm => h₂.1 s hm)]
      · simpa [e] using ht

/-! ### `add` on the tree -/

/-- the RRset list that `RrsetList::add` leaves (unchanged on error) -/
def addedList (eqv : Eqv) (cls t ttl : Nat) (rd : Rdata) (old : List Rrset) : List Rrset :=
  match rrsetsAdd eqv cls t ttl rd old with
  | .ok r => r
  | .error _ => old

def addErrOf (eqv : Eqv) (cls t ttl : Nat) (rd : Rdata) (old : List Rrset) : Option AddErr :=
  match rrsetsAdd eqv cls t ttl rd old with
  | .ok _ => none
  | .error e => some e

theorem addErrOf_nil (eqv : Eqv) (cls t ttl : Nat) (rd : Rdata) : addErrOf eqv cls t ttl rd [] = none := by
  simp [addErrOf, rrsetsAdd]

theorem getD_rrs_cons (rr : List Rrset) (ch) (l : Label) (p : List Label) :
    (rrs (.mk rr ch) (l :: p)).getD [] = (rrs ((childGet ch l).getD .empty) p).getD [] := by
  rw [rrs_cons]
  cases childGet ch l with
  | none => simp [rrs_empty]; split <;> rfl
  | some c => rfl

/-- the error of `add` is decided by the RRset list at the target (empty if the node is new) -/
theorem addAt_snd (eqv : Eqv) (cls t ttl : Nat) (rd : Rdata) (node : Node) (q : List Label) :
    (addAt eqv cls t ttl rd node q).2 = addErrOf eqv cls t ttl rd ((rrs node q).getD []) := by
  induction q generalizing node with
  | nil =>
    obtain ⟨rr, ch⟩ := node
    simp only [addAt, addErrOf, rrs_nil, Option.getD_some]
    cases rrsetsAdd eqv cls t ttl rd rr <;> rfl
  | cons l rest ih =>
    obtain ⟨rr, ch⟩ := node
    simp only [addAt]
    rw [ih, getD_rrs_cons]

/-- how `add` changes the tree, as a function of paths -/
theorem rrs_addAt (eqv : Eqv) (cls t ttl : Nat) (rd : Rdata) (node : Node) (q p : List Label) :
    rrs (addAt eqv cls t ttl rd node q).1 p =
      if p = q then some (addedList eqv cls t ttl rd ((rrs node q).getD []))
      else if p <+: q then some ((rrs node p).getD [])
      else rrs node p := by
  induction q generalizing node p with
  | nil =>
    obtain ⟨rr, ch⟩ := node
    cases p with
    | nil =>
      simp only [addAt, addedList, rrs_nil, Option.getD_some, if_true]
      cases rrsetsAdd eqv cls t ttl rd rr <;> rfl
    | cons l' p' =>
      have : ¬ (l' :: p' <+: ([] : List Label)) := by simp
      simp only [addAt, this, if_false, reduceCtorEq]
      cases rrsetsAdd eqv cls t ttl rd rr <;> simp [rrs_cons]
  | cons l rest ih =>
    obtain ⟨rr, ch⟩ := node
    cases p with
    | nil => simp [addAt]
    | cons l' p' =>
      simp only [addAt, rrs_cons, childGet_childSet]
      by_cases hl : l = l'
      · subst hl
        simp only [if_true, ih, List.cons.injEq, true_and, List.cons_prefix_cons]
        cases hc : childGet ch l with
        | some c => simp
        | none =>
          simp only [Option.getD_none, rrs_empty]
          by_cases h1 : p' = rest
          · simp only [h1, if_true]; split <;> rfl
          · simp only [h1, if_false]
            by_cases h2 : p' <+: rest
            · simp only [h2, if_true]; split <;> rfl
            · have : p' ≠ [] := fun e => h2 (by simp [e])
              simp [h2, this]
      · have h1 : ¬ (l' :: p' = l :: rest) := by simp [Ne.symm hl]
        have h2 : ¬ (l' :: p' <+: l :: rest) := by simp [List.cons_prefix_cons, Ne.symm hl]
        simp [hl, h1, h2]

theorem addAt_empty_ok (eqv : Eqv) (cls t ttl : Nat) (rd : Rdata) (q : List Label) :
    (addAt eqv cls t ttl rd .empty q).2 = none := by
  rw [addAt_snd, rrs_empty]
  split <;> simp [addErrOf_nil]

/-- a failing `add` leaves the tree as it was: `TtlMismatch` needs an RRset at the target node,
    so that node — and every node on the way — existed already and nothing was created -/
theorem addAt_err_eq (eqv : Eqv) (cls t ttl : Nat) (rd : Rdata) (node : Node) (q : List Label) (e : AddErr)
    (h : (addAt eqv cls t ttl rd node q).2 = some e) : (addAt eqv cls t ttl rd node q).1 = node := by
  induction q generalizing node with
  | nil =>
    obtain ⟨rr, ch⟩ := node
    simp only [addAt] at h ⊢
    cases hr : rrsetsAdd eqv cls t ttl rd rr with
    | ok r => simp [hr] at h
    | error e' => rfl
  | cons l rest ih =>
    obtain ⟨rr, ch⟩ := node
    simp only [addAt] at h ⊢
    cases hc : childGet ch l with
    | none =>
      simp only [hc, Option.getD_none] at h
      rw [addAt_empty_ok] at h; cases h
    | some c =>
      simp only [hc, Option.getD_some] at h ⊢
      rw [ih c h, childSet_of_childGet ch l c hc]

end QV.Zone
