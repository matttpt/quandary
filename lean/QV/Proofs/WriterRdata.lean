/-
  QV.Proofs.WriterRdata — when does the writer report `InvalidRdata`?  Exactly when the RDATA
  cannot be split into the components of its type (`compsOK`): a name component does not parse as
  an uncompressed name, or a fixed-length component is longer than what is left. No other step of
  `add_rr` / `add_rrset` returns that error. (Used by the request-handler proofs, C05.)
-/
import QV.Proofs.Writer

namespace QV.Writer
open QV QV.Wire

/-- the RDATA can be split along the component list (mirrors the failure branches of
    `Components::next` as driven by the component loop of `add_rr`) -/
def compsOK : List CompType → List UInt8 → Bool
  | [], _ => true
  | .compressibleName :: ts, rd =>
    match WName.parse rd with
    | none => false
    | some (_, rest) => compsOK ts rest
  | .uncompressibleName :: ts, rd =>
    match WName.parse rd with
    | none => false
    | some (_, rest) => compsOK ts rest
  | .fixedLen k :: ts, rd => decide (k ≤ rd.length) && compsOK ts (rd.drop k)

/-- `rdataOK cls ty rd`: the RDATA is well formed for what `Rdata::components(class, type)` expects -/
def rdataOK (cls ty : Nat) (rd : List UInt8) : Bool :=
  match componentTypes cls ty with
  | some ts => compsOK ts rd
  | none => true

/-- `f` never reports `InvalidRdata` -/
abbrev NoInv {α} (f : M α) : Prop := Only (· ≠ .InvalidRdata) f

/-- apart from the component loop, no step of the record writer reports it -/
theorem niLaw : RecLaw (fun _ _ => True) (· ≠ .InvalidRdata) := errLaw nofun

theorem noInv_write (pos : Nat) (d : List UInt8) : NoInv (write pos d) := by
  intro s
  rcases write_cases pos d s with h | ⟨_, h⟩ <;> rw [StepsAt, h] <;> exact ⟨trivial, fun _ h => by cases h⟩

/-- what the outcome of a step says about `ok : Bool` ("the RDATA seen so far splits"):
    success needs it, `InvalidRdata` refutes it -/
def Tells {α} (ok : Bool) (f : M α) : Prop :=
  ∀ s, ((∃ a, (f s).1 = .ok a) → ok = true) ∧ ((f s).1 = .err .InvalidRdata → ok = false)

theorem tells_of_noInv {α} {f : M α} (h : NoInv f) : Tells true f :=
  fun _ => ⟨fun _ => rfl, fun he => absurd rfl (h.err he)⟩

/-- sequencing: a step that cannot report `InvalidRdata`, then one that tells about `ok` -/
theorem tells_bind {α β} {ok : Bool} {f : M α} {g : α → M β} (hf : NoInv f) (hg : ∀ a, Tells ok (g a)) :
    Tells ok (f >>= g) := by
  intro s
  simp only [M.bind_apply]
  cases hfs : f s with
  | mk r s1 =>
    cases r with
    | ok a => exact hg a s1
    | err e =>
      refine ⟨(fun ⟨a, h⟩ => by cases h), fun h => ?_⟩
      simp only [Out.err.injEq] at h; subst h
      exact absurd rfl (hf.err (s := s) (by rw [hfs]))
    | panic => exact ⟨(fun ⟨a, h⟩ => by cases h), fun h => by cases h⟩

theorem tells_writeComponents (ts : List CompType) (rd : List UInt8) :
    Tells (compsOK ts rd) (writeComponents ts rd) := by
  induction ts generalizing rd with
  | nil =>
    unfold writeComponents compsOK
    split
    · exact tells_of_noInv (niLaw.pure _)
    · exact tells_of_noInv (niLaw.tryPush _)
  | cons t ts ih =>
    cases t with
    | compressibleName =>
      unfold writeComponents compsOK
      cases hp : WName.parse rd with
      | none => exact fun s => ⟨(fun ⟨a, h⟩ => by cases h), fun _ => rfl⟩
      | some pr =>
        obtain ⟨n, rest⟩ := pr
        simp only []
        exact tells_bind (niLaw.setCtx _) fun _ => tells_bind (niLaw.writeUnhintedName n) fun p =>
          tells_bind (niLaw.setCtx _) fun _ => tells_bind (.modify _ fun _ => trivial) fun _ =>
          tells_bind (niLaw.hvPush _) fun _ => ih rest
    | uncompressibleName =>
      unfold writeComponents compsOK
      cases hp : WName.parse rd with
      | none => exact fun s => ⟨(fun ⟨a, h⟩ => by cases h), fun _ => rfl⟩
      | some pr =>
        obtain ⟨n, rest⟩ := pr
        simp only []
        exact tells_bind (niLaw.setCtx _) fun _ => tells_bind (niLaw.writeUncompressedName n) fun p =>
          tells_bind (niLaw.setCtx _) fun _ => tells_bind (.modify _ fun _ => trivial) fun _ =>
          tells_bind (niLaw.hvPush _) fun _ => ih rest
    | fixedLen k =>
      unfold writeComponents compsOK
      by_cases hk : rd.length < k
      · rw [if_pos hk]
        have : decide (k ≤ rd.length) = false := by simp; omega
        rw [this]
        exact fun s => ⟨(fun ⟨a, h⟩ => by cases h), fun _ => rfl⟩
      · rw [if_neg hk]
        have : decide (k ≤ rd.length) = true := by simp; omega
        rw [this, Bool.true_and]
        exact tells_bind (niLaw.tryPush _) fun _ => ih _

theorem tells_and {α β} {a b : Bool} {f : M α} {g : α → M β} (hf : Tells a f) (hg : ∀ x, Tells b (g x)) :
    Tells (a && b) (f >>= g) := by
  intro s
  simp only [M.bind_apply]
  have h1 := hf s
  cases hfs : f s with
  | mk r s1 =>
    rw [hfs] at h1
    cases r with
    | ok x =>
      have ha := h1.1 ⟨x, rfl⟩
      have h2 := hg x s1
      refine ⟨fun h => ?_, fun h => ?_⟩
      · rw [ha, h2.1 h]; rfl
      · rw [h2.2 h]; simp
    | err e =>
      refine ⟨(fun ⟨y, h⟩ => by cases h), fun h => ?_⟩
      simp only [Out.err.injEq] at h; subst h
      rw [h1.2 rfl]; rfl
    | panic => exact ⟨(fun ⟨y, h⟩ => by cases h), fun h => by cases h⟩

theorem tells_then {α β} {ok : Bool} {f : M α} {g : α → M β} (hf : Tells ok f) (hg : ∀ x, NoInv (g x)) :
    Tells ok (f >>= g) := by
  have := tells_and hf (fun x => tells_of_noInv (hg x))
  simpa using this

theorem tells_writeRdata (cls ty : Nat) (rd : List UInt8) : Tells (rdataOK cls ty rd) (writeRdata cls ty rd) := by
  unfold writeRdata rdataOK
  cases componentTypes cls ty with
  | some ts => exact tells_writeComponents ts rd
  | none => exact tells_of_noInv niLaw.panic

theorem tells_addRr (hint : Hint) (owner : WName) (ty cls ttl : Nat) (rd : List UInt8) :
    Tells (rdataOK cls ty rd) (addRr hint owner ty cls ttl rd) := by
  unfold addRr
  refine tells_bind (niLaw.setCtx _) fun _ => tells_bind (niLaw.writeHintedName _ _) fun p =>
    tells_bind (niLaw.setCtx _) fun _ => tells_bind (.modify _ fun _ => trivial) fun _ =>
    tells_bind (niLaw.tryPush _) fun _ => tells_bind (niLaw.tryPush _) fun _ =>
    tells_bind (niLaw.tryPush _) fun _ => tells_bind (niLaw.gets _) fun av =>
    tells_bind (niLaw.gets _) fun st => ?_
  split
  · intro s; exact ⟨(fun ⟨a, hh⟩ => by cases hh), fun hh => by cases hh⟩
  · split
    · intro s; exact ⟨(fun ⟨a, hh⟩ => by cases hh), fun hh => by cases hh⟩
    · refine tells_bind (.modify _ fun _ => trivial) fun _ => tells_then (tells_writeRdata cls ty rd) fun _ =>
        niLaw.bind (niLaw.gets _) fun c => .ite niLaw.panic (noInv_write _ _)

theorem tells_addRrset (owner : WName) (ty cls ttl : Nat) :
    ∀ (rds : List (List UInt8)) (hint : Hint) (n : Nat),
      Tells (rds.all (rdataOK cls ty)) (addRrset hint owner ty cls ttl rds n) := by
  intro rds
  induction rds with
  | nil => intro hint n; exact tells_of_noInv (niLaw.pure n)
  | cons rd rds ih =>
    intro hint n
    unfold addRrset
    simp only [List.all_cons]
    exact tells_and (tells_addRr hint owner ty cls ttl rd) fun _ => ih _ _

theorem noInv_changeSection (sec : RrSection) : NoInv (changeSection sec) := by
  intro s
  rcases changeSection_cases sec s with h' | ⟨_, h'⟩ <;> rw [StepsAt, h']
  · exact ⟨trivial, fun _ h => by cases h; nofun⟩
  · exact ⟨trivial, fun _ h => by cases h⟩

/-- **`add_*_rr`**: it can succeed only if the RDATA splits into the components of its type, and
    it reports `InvalidRdata` only if it does not -/
theorem addRrOp_rdata (sec : RrSection) (hint : Hint) (owner : WName) (ty cls ttl : Nat)
    (rd : List UInt8) (s : State) :
    ((addRrOp sec hint owner ty cls ttl rd s).1 = .ok () → rdataOK cls ty rd = true) ∧
    ((addRrOp sec hint owner ty cls ttl rd s).1 = .err .InvalidRdata → rdataOK cls ty rd = false) := by
  unfold addRrOp
  rw [withRollback_fst]
  have ht : Tells (rdataOK cls ty rd) (do
      changeSection sec
      addRr hint owner ty cls (ttlFrom ttl) rd
      let c ← M.gets (getCount sec)
      if c + 1 > 65535 then M.fail .CountOverflow else setCount sec (c + 1)) :=
    tells_bind (noInv_changeSection sec) fun _ => tells_then (tells_addRr _ _ _ _ _ _) fun _ =>
      niLaw.bind (niLaw.gets _) fun c => .ite (niLaw.fail nofun) (.modify _ fun _ => trivial)
  exact ⟨fun h => (ht s).1 ⟨(), h⟩, (ht s).2⟩

/-- the same for `add_*_rrset`: all / not all RDATAs of the set split -/
theorem addRrsetOp_rdata (sec : RrSection) (hint : Hint) (owner : WName) (ty cls ttl : Nat)
    (rds : List (List UInt8)) (s : State) :
    ((addRrsetOp sec hint owner ty cls ttl rds s).1 = .ok () → rds.all (rdataOK cls ty) = true) ∧
    ((addRrsetOp sec hint owner ty cls ttl rds s).1 = .err .InvalidRdata →
      rds.all (rdataOK cls ty) = false) := by
  unfold addRrsetOp
  rw [withRollback_fst]
  have ht : Tells (rds.all (rdataOK cls ty)) (do
      changeSection sec
      let n ← addRrset hint owner ty cls (ttlFrom ttl) rds 0
      let c ← M.gets (getCount sec)
      if n > 65535 then M.fail .CountOverflow
      else if c + n > 65535 then M.fail .CountOverflow
      else setCount sec (c + n)) :=
    tells_bind (noInv_changeSection sec) fun _ => tells_then (tells_addRrset _ _ _ _ _ _ _) fun n =>
      niLaw.bind (niLaw.gets _) fun c =>
        .ite (niLaw.fail nofun) (.ite (niLaw.fail nofun) (.modify _ fun _ => trivial))
  exact ⟨fun h => (ht s).1 ⟨(), h⟩, (ht s).2⟩

end QV.Writer
