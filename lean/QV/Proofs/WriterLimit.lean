/-
  QV.Proofs.WriterLimit — what the calls do to `limit`: only `set_limit` changes it, so a writer whose
  limit is at most 65535 (the largest DNS message) stays one.
-/
import QV.Proofs.WriterShape

namespace QV.Writer
open QV QV.Wire QV.Spec QV.ServerSafety

theorem setHdr_limit (i : Nat) (f : UInt8 → UInt8) (s : State) : (setHdr i f s).2.limit = s.limit := by
  unfold setHdr; split <;> rfl

theorem write_limit (pos : Nat) (d : List UInt8) (s : State) : (write pos d s).2.limit = s.limit := by
  unfold write; split <;> rfl

theorem setRcode_limit (v : Nat) (s : State) : (setRcode v s).2.limit = s.limit := by
  unfold setRcode
  simp only [M.bind_apply]
  have := setHdr_limit Gen.RCODE_BYTE (fun b => (b &&& ~~~ (UInt8.ofNat Gen.RCODE_MASK)) ||| UInt8.ofNat v) s
  cases hs : setHdr Gen.RCODE_BYTE (fun b => (b &&& ~~~ (UInt8.ofNat Gen.RCODE_MASK)) ||| UInt8.ofNat v) s with
  | mk r s1 =>
    rw [hs] at this
    cases r with
    | ok u => simp only [M.modify_apply]; split <;> exact this
    | err e => exact this
    | panic => exact this

theorem setExtendedRcode_limit (v : Nat) (s : State) : (setExtendedRcode v s).2.limit = s.limit := by
  unfold setExtendedRcode
  simp only [M.bind_apply, M.gets_apply]
  cases s.edns with
  | none => rfl
  | some e =>
    simp only []
    split
    · rfl
    · simp only [M.bind_apply]
      have := setHdr_limit Gen.RCODE_BYTE (fun b => (b &&& ~~~ (UInt8.ofNat Gen.RCODE_MASK)) |||
              (UInt8.ofNat (v % 256) &&& UInt8.ofNat Gen.RCODE_MASK)) s
      cases hs : setHdr Gen.RCODE_BYTE (fun b => (b &&& ~~~ (UInt8.ofNat Gen.RCODE_MASK)) |||
              (UInt8.ofNat (v % 256) &&& UInt8.ofNat Gen.RCODE_MASK)) s with
      | mk r s1 =>
        rw [hs] at this
        cases r with
        | ok u => exact this
        | err e => exact this
        | panic => exact this

theorem setLimit_limit (v : Nat) (s : State) (hv : v ≤ 65535) (hs : s.limit ≤ 65535) :
    (setLimit v s).2.limit ≤ 65535 := by
  unfold setLimit
  dsimp only
  repeat' split
  all_goals first
    | exact hs
    | (show min v _ ≤ 65535; omega)
    | (show max v _ ≤ 65535; omega)

theorem setEdns_limit (p : Nat) (s : State) : (setEdns p s).2.limit = s.limit := by
  rcases setEdns_cases p s with ⟨_, h, _⟩ | ⟨_, _, _, h⟩ <;> rw [h] <;> rfl

theorem setTsig_limit (m : TsigMode) (rr : TsigRr) (s : State) : (setTsig m rr s).2.limit = s.limit := by
  rcases setTsig_cases m rr s with ⟨_, h, _⟩ | ⟨_, _, _, h⟩ <;> rw [h] <;> rfl

theorem setCount_limit (sec : RrSection) (n : Nat) (s : State) : (setCount sec n s).2.limit = s.limit := by
  cases sec <;> rfl

theorem call_limit (c : Call) (s : State) (hp : c.Pre Den s) (hl : s.limit ≤ 65535) :
    (c.run s).2.limit ≤ 65535 := by
  cases c with
  | setId v => show (write _ _ s).2.limit ≤ _; rw [write_limit]; exact hl
  | setBit b m v => show (setHdr _ _ s).2.limit ≤ _; rw [setHdr_limit]; exact hl
  | setOpcode v => show (setHdr _ _ s).2.limit ≤ _; rw [setHdr_limit]; exact hl
  | setRcode v => show (setRcode v s).2.limit ≤ _; rw [setRcode_limit]; exact hl
  | setExtendedRcode v => show (setExtendedRcode v s).2.limit ≤ _; rw [setExtendedRcode_limit]; exact hl
  | setLimit v => exact setLimit_limit v s hp hl
  | setEdns p => show (setEdns p s).2.limit ≤ _; rw [setEdns_limit]; exact hl
  | setTsig m rr => show (setTsig m rr s).2.limit ≤ _; rw [setTsig_limit]; exact hl
  | addRr sec h o ty cls ttl rd =>
    exact addRrOp_pres (fun s' => s'.limit ≤ 65535) sec h o ty cls ttl rd s (fun _ e => by rw [e.limit]; exact hl)
      (fun _ e => by rw [e.limit]; exact hl) (fun _ _ h => by rw [setCount_limit]; exact h)
  | addRrset sec h o ty cls ttl rds =>
    exact addRrsetOp_pres (fun s' => s'.limit ≤ 65535) sec h o ty cls ttl rds s (fun _ e => by rw [e.limit]; exact hl)
      (fun _ e => by rw [e.limit]; exact hl) (fun _ _ h => by rw [setCount_limit]; exact h)

theorem addQuestion_limit (qn : WName) (qt qc : Nat) (s : State) : (addQuestion qn qt qc s).2.limit = s.limit :=
  addQuestion_pres (fun s' => s'.limit = s.limit) qn qt qc s (fun _ e => e.limit) (fun _ e => e.limit) (fun _ h => h)

theorem new_limit (buf : Bytes) (limit : Nat) (s : State) (h : Writer.new buf limit = .ok s) (hl : limit ≤ 65535) :
    s.limit ≤ 65535 := by
  unfold Writer.new at h
  dsimp only at h
  split at h
  · cases h
  · have hs := congrArg State.limit (Out.ok.inj h)
    simp only at hs
    rw [← hs]; omega

end QV.Writer
