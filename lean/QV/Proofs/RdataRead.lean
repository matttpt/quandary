/-
  QV.Proofs.RdataRead — helper lemmas for C18: the type-specific `read_*` functions of the model
  accept exactly the regions that expand along the format's layout (`Expands`, via the deterministic
  `expand?`, which each of them is shown to compute: `read*_computes`), yield that expansion, and
  never panic (`readFmt_spec`); expansion vs. splitting;
  `Rdata::components` on well-formed RDATA (`componentsAux_splits`); `Written`, the hypothesis about
  the writer under which C18 states the compressed round trip.
-/
import QV.Proofs.Rdata
import QV.Properties.C14
namespace QV.Rdata
open QV QV.Wire QV.Spec

/-- deterministic expansion, by the model's parser, of the fields `l` lying at `pos .. e` of `buf`,
    appended to the octets `acc` read so far -/
def expand? (buf : Bytes) (e : Nat) : List Field → Nat → List UInt8 → Option Bytes
  | [], pos, acc => if pos = e then some acc.toArray else none
  | .name :: ls, pos, acc =>
    (parseCompressed buf pos).toOption.bind fun p => expand? buf e ls (pos + p.len) (acc ++ p.wire)
  | .fixed n :: ls, pos, acc =>
    if pos + n ≤ buf.size then expand? buf e ls (pos + n) (acc ++ (buf.extract pos (pos + n)).toList) else none

theorem expand?_iff (buf : Bytes) (e : Nat) (l : List Field) : ∀ (pos : Nat) (acc : List UInt8) (r : Bytes),
    expand? buf e l pos acc = some r ↔ ∃ out, Expands buf l pos out e ∧ r.toList = acc ++ out := by
  induction l with
  | nil =>
    intro pos acc r
    simp only [expand?]
    constructor
    · intro h; split at h
      · cases h; subst_vars; exact ⟨[], Expands.nil, by simp⟩
      · cases h
    · rintro ⟨out, h, hr⟩; cases h; rw [if_pos rfl]; congr 1; apply Array.toList_inj.mp; simp [hr]
  | cons f ls ih =>
    intro pos acc r
    cases f with
    | name =>
      simp only [expand?]
      constructor
      · intro h
        cases hp : parseCompressed buf pos with
        | ok p =>
          rw [hp] at h
          obtain ⟨out, h1, h2⟩ := (ih _ _ _).mp h
          exact ⟨_, Expands.name ((QV.C14.C14_parse_ok_iff buf pos p).mp hp) h1, by simp [h2]⟩
        | err _ => rw [hp] at h; cases h
        | panic => rw [hp] at h; cases h
      · rintro ⟨out, h, hr⟩
        cases h with
        | @name _ _ w n k out _ hd tl =>
          rw [(QV.C14.C14_parse_ok_iff buf pos ⟨w, n, k⟩).mpr hd]
          exact (ih _ _ _).mpr ⟨_, tl, by simp [hr]⟩
    | fixed n =>
      simp only [expand?]
      constructor
      · intro h
        split at h
        · obtain ⟨out, h1, h2⟩ := (ih _ _ _).mp h
          exact ⟨_, Expands.fixed ‹_› h1, by simp [h2]⟩
        · cases h
      · rintro ⟨out, h, hr⟩
        cases h with
        | fixed hin tl => rw [if_pos hin]; exact (ih _ _ _).mpr ⟨_, tl, by simp [hr]⟩

/-- a last fixed field must end the region -/
theorem expand?_fixed_last (buf : Bytes) (e n pos : Nat) (acc : List UInt8) (he : e ≤ buf.size) :
    expand? buf e [.fixed n] pos acc =
      if pos + n = e then some (acc.toArray ++ buf.extract pos e) else none := by
  simp only [expand?]
  by_cases h : pos + n = e
  · subst h; rw [if_pos he, if_pos rfl, if_pos rfl]; simp
  · rw [if_neg h]; split <;> simp

theorem parseC_computes (buf : Bytes) (pos : Nat) :
    liftName (parseCompressed buf pos) ⇓ (parseCompressed buf pos).toOption :=
  Computes.mapErr ⟨QV.C14.C14_no_panic buf pos, rfl⟩ _

theorem parseC_facts {buf : Bytes} {pos : Nat} {p : Parsed} (h : (parseCompressed buf pos).toOption = some p) :
    pos + p.len ≤ buf.size ∧ p.wire.length ≤ 255 := by
  cases hp : parseCompressed buf pos <;> rw [hp] at h <;> cases h
  obtain ⟨hd, hl⟩ := (QV.C14.C14_parse_ok_iff buf pos p).mp hp
  exact ⟨(decodes_bounds hd).2.2.2, hl⟩

theorem prepare_cases (msg : Bytes) (cur len : Nat) :
    (cur + len > USIZE_MAX ∧ prepareToReadRdata msg cur len = .panic) ∨
    (cur + len ≤ USIZE_MAX ∧ cur + len > msg.size ∧ prepareToReadRdata msg cur len = .err .UnexpectedEom) ∨
    (cur + len ≤ USIZE_MAX ∧ cur + len ≤ msg.size ∧ prepareToReadRdata msg cur len = .ok (msg.extract 0 (cur + len))) := by
  unfold prepareToReadRdata
  by_cases h1 : cur + len > USIZE_MAX
  · exact Or.inl ⟨h1, by simp [h1]⟩
  · by_cases h2 : cur + len > msg.size
    · exact Or.inr (Or.inl ⟨by omega, h2, by simp [h1, h2]⟩)
    · exact Or.inr (Or.inr ⟨by omega, by omega, by simp [h1, h2]⟩)

theorem mkRdata_ok (b : Bytes) (h : b.size ≤ 65535) : mkRdata b = .ok b := by
  unfold mkRdata RDATA_MAX
  have : ¬ b.size > 65535 := by omega
  simp [this]

/-- what reading the layout `l` from `len` octets at `cur` of `msg` yields -/
def readTo? (l : List Field) (msg : Bytes) (cur len : Nat) : Option Bytes :=
  if cur + len ≤ msg.size then expand? (msg.extract 0 (cur + len)) (cur + len) l cur [] else none

theorem readTo?_iff (l : List Field) (msg : Bytes) (cur len : Nat) (r : Bytes) :
    readTo? l msg cur len = some r ↔
      cur + len ≤ msg.size ∧ Expands (msg.extract 0 (cur + len)) l cur r.toList (cur + len) := by
  unfold readTo?
  by_cases h : cur + len ≤ msg.size
  · rw [if_pos h, expand?_iff]; simp [h]
  · simp [h]

/-- the common frame of the `read_*` functions: bounds first (`prepare_to_read_rdata`), then a body
    that sees only the message up to the end of the RDATA -/
theorem read_of_prepared {msg : Bytes} {cur len : Nat} (hov : cur + len ≤ USIZE_MAX) (l : List Field)
    {body : Bytes → Out RErr Bytes}
    (h : ∀ buf : Bytes, buf.size = cur + len → body buf ⇓ expand? buf (cur + len) l cur []) :
    (prepareToReadRdata msg cur len >>= body) ⇓ readTo? l msg cur len := by
  unfold readTo?
  rcases prepare_cases msg cur len with ⟨h1, _⟩ | ⟨_, h2, hp⟩ | ⟨_, h2, hp⟩
  · omega
  · rw [hp, if_neg (by omega)]; exact .err _
  · rw [hp, if_pos h2]; exact h _ (by simp; omega)

/-! The readers of the six name-bearing formats: parse the names where the layout puts them, compare
    the region's length with the sum of the field lengths (each reader in its own arithmetic),
    assemble. -/

theorem readNameRdata_computes (msg : Bytes) (cur len : Nat) (hov : cur + len ≤ USIZE_MAX) :
    readNameRdata msg cur len ⇓ readTo? [.name] msg cur len := by
  refine read_of_prepared hov _ fun buf hsz => ?_
  simp only [expand?]
  refine (parseC_computes buf cur).bind fun p hp => ?_
  obtain ⟨f1, f2⟩ := parseC_facts hp
  rw [csub_ok _ _ (by omega), Out.bind_ok]
  by_cases h : buf.size - cur = p.len
  · rw [if_neg (by simpa using h), mkRdata_ok _ (by simp; omega), if_pos (by omega)]
    exact (Computes.ok _).congr (by simp)
  · rw [if_pos h, if_neg (by omega)]; exact .err _

theorem readChA_computes (msg : Bytes) (cur len : Nat) (hov : cur + len ≤ USIZE_MAX) :
    readChA msg cur len ⇓ readTo? [.name, .fixed 2] msg cur len := by
  refine read_of_prepared hov _ fun buf hsz => ?_
  simp only [expand?.eq_2]
  refine (parseC_computes buf cur).bind fun p hp => ?_
  obtain ⟨f1, f2⟩ := parseC_facts hp
  rw [csub_ok _ _ (by omega), Out.bind_ok, expand?_fixed_last _ _ _ _ _ (by omega)]
  by_cases h : buf.size - cur = p.len + 2
  · rw [if_pos h, sliceFrom_ok _ _ (by omega), Out.bind_ok, mkRdata_ok _ (by simp; omega), if_pos (by omega), ← hsz]
    exact (Computes.ok _).congr (by simp)
  · rw [if_neg h, if_neg (by omega)]; exact .err _

theorem readSoa_computes (msg : Bytes) (cur len : Nat) (hov : cur + len ≤ USIZE_MAX) :
    readSoa msg cur len ⇓ readTo? [.name, .name, .fixed 20] msg cur len := by
  refine read_of_prepared hov _ fun buf hsz => ?_
  simp only [expand?.eq_2]
  refine (parseC_computes buf cur).bind fun m hm => ?_
  obtain ⟨f1, f2⟩ := parseC_facts hm
  refine (parseC_computes buf _).bind fun r hr => ?_
  obtain ⟨g1, g2⟩ := parseC_facts hr
  rw [csub_ok _ _ (by omega), Out.bind_ok, csub_ok _ _ (by omega), Out.bind_ok, csub_ok _ _ (by omega), Out.bind_ok,
    expand?_fixed_last _ _ _ _ _ (by omega)]
  by_cases h : buf.size - cur - m.len - r.len = 20
  · rw [if_neg (by simpa using h), sliceFrom_ok _ _ (by omega), Out.bind_ok, mkRdata_ok _ (by simp; omega),
      if_pos (by omega), ← hsz]
    exact (Computes.ok _).congr (by simp)
  · rw [if_pos h, if_neg (by omega)]; exact .err _

theorem readMinfo_computes (msg : Bytes) (cur len : Nat) (hov : cur + len ≤ USIZE_MAX) :
    readMinfo msg cur len ⇓ readTo? [.name, .name] msg cur len := by
  refine read_of_prepared hov _ fun buf hsz => ?_
  simp only [expand?]
  refine (parseC_computes buf cur).bind fun p hp => ?_
  obtain ⟨f1, f2⟩ := parseC_facts hp
  refine (parseC_computes buf _).bind fun q hq => ?_
  obtain ⟨g1, g2⟩ := parseC_facts hq
  rw [csub_ok _ _ (by omega), Out.bind_ok]
  by_cases h : buf.size - cur = p.len + q.len
  · rw [if_neg (by simpa using h), mkRdata_ok _ (by simp; omega), if_pos (by omega)]
    exact (Computes.ok _).congr (by simp)
  · rw [if_pos h, if_neg (by omega)]; exact .err _

/-- `read_mx` (`n = 2`) and `read_in_srv` (`n = 6`) -/
theorem readFixedThenName_computes (n : Nat) (hn : n ≤ 20) (msg : Bytes) (cur len : Nat) (hov : cur + len ≤ USIZE_MAX) :
    readFixedThenName n msg cur len ⇓ readTo? [.fixed n, .name] msg cur len := by
  refine read_of_prepared hov _ fun buf hsz => ?_
  simp only [expand?]
  rw [csub_ok _ _ (by omega), Out.bind_ok]
  by_cases hlt : buf.size - cur < n
  · rw [if_pos hlt, if_neg (by omega)]; exact .err _
  rw [if_neg hlt, if_pos (by omega)]
  refine (parseC_computes buf _).bind fun p hp => ?_
  obtain ⟨f1, f2⟩ := parseC_facts hp
  rw [Out.bind_ok]
  by_cases h : buf.size - cur = p.len + n
  · rw [if_neg (by simpa using h), slice_ok _ _ _ (by omega), Out.bind_ok, mkRdata_ok _ (by simp; omega),
      if_pos (by omega)]
    exact (Computes.ok _).congr (by simp)
  · rw [if_pos h, if_neg (by omega)]; exact .err _

theorem readLayout_computes (f : Fmt) (l : List Field) (hl : layoutOf f = some l) (msg : Bytes) (cur len : Nat)
    (hov : cur + len ≤ USIZE_MAX) : readFmt f msg cur len ⇓ readTo? l msg cur len := by
  cases f <;> cases hl
  · exact readNameRdata_computes msg cur len hov
  · exact readChA_computes msg cur len hov
  · exact readSoa_computes msg cur len hov
  · exact readMinfo_computes msg cur len hov
  · exact readFixedThenName_computes 2 (by omega) msg cur len hov
  · exact readFixedThenName_computes 6 (by omega) msg cur len hov

theorem toArray_inj_toList (r : Bytes) (l : List UInt8) : l.toArray = r ↔ r.toList = l := by
  constructor
  · intro e; subst e; rfl
  · intro e; subst e; rfl

/-- `without_decompression`: the region is returned as it stands when the validator accepts it -/
theorem withoutDecompression_computes (v : Bytes → Out RErr Unit) (hv : ∀ r, v r ≠ .panic)
    (msg : Bytes) (cur len : Nat) (hov : cur + len ≤ USIZE_MAX) (hlen : len ≤ 65535) :
    withoutDecompression v msg cur len ⇓
      if cur + len ≤ msg.size then (v (msg.extract cur (cur + len))).toOption.map fun _ => msg.extract cur (cur + len)
      else none := by
  unfold withoutDecompression
  rcases prepare_cases msg cur len with ⟨h, _⟩ | ⟨_, h2, hp⟩ | ⟨_, h2, hp⟩
  · omega
  · rw [hp, if_neg (by omega)]; exact .err _
  · have hsz : (msg.extract 0 (cur + len)).size = cur + len := by simp; omega
    rw [hp, if_pos h2, Out.bind_ok, sliceFrom_ok _ _ (by rw [hsz]; omega), Out.bind_ok,
      extract_extract0 msg cur len h2, mkRdata_ok _ (by simp; omega), Out.bind_ok]
    exact Computes.map ⟨hv _, rfl⟩ _


/-- `SpecRead` with the format made explicit -/
def SpecReadFmt (f : Fmt) (msg : Bytes) (cursor rdlength : Nat) (r : List UInt8) : Prop :=
  cursor + rdlength ≤ msg.size ∧
  match layoutOf f with
  | some l => Expands (msg.extract 0 (cursor + rdlength)) l cursor r (cursor + rdlength)
  | none => r = (msg.extract cursor (cursor + rdlength)).toList ∧ FmtSpec f r

theorem readFmt_spec (f : Fmt) (msg : Bytes) (cur len : Nat) (hov : cur + len ≤ USIZE_MAX)
    (hlen : layoutOf f = none → len ≤ 65535) :
    readFmt f msg cur len ≠ .panic ∧
    ∀ r, readFmt f msg cur len = .ok r ↔ SpecReadFmt f msg cur len r.toList := by
  have nonlayout : ∀ g : Fmt, layoutOf g = none → len ≤ 65535 →
      withoutDecompression (validateFmt g) msg cur len ≠ .panic ∧
      ∀ r, withoutDecompression (validateFmt g) msg cur len = .ok r ↔ SpecReadFmt g msg cur len r.toList := by
    intro g hg hlen'
    have h := withoutDecompression_computes (validateFmt g) (validateFmt_no_panic g) msg cur len hov hlen'
    refine ⟨h.no_panic, fun r => ?_⟩
    rw [h.ok_iff, SpecReadFmt, hg, ← validateFmt_iff]
    simp only [Array.toList_inj]
    by_cases hc : cur + len ≤ msg.size
    · rw [if_pos hc]
      cases hv : validateFmt g (msg.extract cur (cur + len)) <;> simp [Out.toOption, hc]
      · exact ⟨fun e => ⟨e.symm, e ▸ hv⟩, fun e => e.1.symm⟩
      · rintro rfl; rw [hv]; nofun
      · rintro rfl; rw [hv]; nofun
    · simp [hc]
  cases hl : layoutOf f with
  | some l =>
    have h := readLayout_computes f l hl msg cur len hov
    exact ⟨h.no_panic, fun r => by rw [h.ok_iff, readTo?_iff, SpecReadFmt, hl]⟩
  | none => cases f <;> cases hl <;> exact nonlayout _ rfl (hlen rfl)


/-- every reader begins with the bounds test of `prepare_to_read_rdata` -/
theorem readFmt_prepared (f : Fmt) : ∃ body : Nat → Bytes → Out RErr Bytes, ∀ msg cur len,
    readFmt f msg cur len = prepareToReadRdata msg cur len >>= body cur := by
  cases f <;> exact ⟨_, fun _ _ _ => rfl⟩

theorem readFmt_overflow (f : Fmt) (msg : Bytes) (cur len : Nat) (h : cur + len > USIZE_MAX) :
    readFmt f msg cur len = .panic := by
  obtain ⟨body, hb⟩ := readFmt_prepared f
  rw [hb, prepareToReadRdata, if_pos h]; rfl

theorem withoutDecompression_long (v : Bytes → Out RErr Unit) (msg : Bytes) (cur len : Nat) (h : len > 65535)
    (r : Bytes) : withoutDecompression v msg cur len ≠ .ok r := by
  unfold withoutDecompression
  rcases prepare_cases msg cur len with ⟨_, hp⟩ | ⟨_, h2, hp⟩ | ⟨_, h2, hp⟩
  · rw [hp]; simp
  · rw [hp]; simp
  · rw [hp]
    have hsz : (msg.extract 0 (cur + len)).size = cur + len := by simp; omega
    rw [Out.bind_ok, sliceFrom_ok _ _ (by rw [hsz]; omega), Out.bind_ok, extract_extract0 msg cur len h2]
    have : mkRdata (msg.extract cur (cur + len)) = .panic := by
      unfold mkRdata RDATA_MAX
      have : (msg.extract cur (cur + len)).size > 65535 := by simp; omega
      rw [if_pos this]
    rw [this]; simp

/-- whenever `read` succeeds, the two preconditions of `readFmt_spec` held -/
theorem readFmt_ok_bounds (f : Fmt) (msg : Bytes) (cur len : Nat) (r : Bytes) (h : readFmt f msg cur len = .ok r) :
    cur + len ≤ USIZE_MAX ∧ (layoutOf f = none → len ≤ 65535) := by
  constructor
  · apply Decidable.byContradiction; intro hc
    rw [readFmt_overflow f msg cur len (by omega)] at h; cases h
  · intro hl
    apply Decidable.byContradiction; intro hc
    have hlong : len > 65535 := by omega
    cases f <;> simp [layoutOf] at hl <;> exact withoutDecompression_long _ msg cur len hlong r h

/-! ### spec-level facts about expansion -/

/-- the expansion of the fields of a layout is well-formed RDATA of that layout -/
theorem expands_splits {buf : Bytes} {l : List Field} {pos : Nat} {r : List UInt8} {e : Nat}
    (h : Expands buf l pos r e) : ∃ fs, Splits l r fs := by
  induction h with
  | nil => exact ⟨[], Splits.nil⟩
  | name hd tl ih =>
    obtain ⟨fs, hfs⟩ := ih
    obtain ⟨hdec, hlen⟩ := hd
    exact ⟨_, Splits.name ((wireName_iff _).mpr ⟨_, decodes_lname hdec, hlen⟩) hfs⟩
  | @fixed n ls pos out e hin tl ih =>
    obtain ⟨fs, hfs⟩ := ih
    exact ⟨_, Splits.fixed (by simp; omega) hfs⟩

/-- well-formed RDATA lying uncompressed in a buffer is its own expansion -/
theorem splits_expands {l : List Field} {R : List UInt8} {fs : List (List UInt8)} (h : Splits l R fs) :
    ∀ (buf : Bytes) (pos : Nat), (buf.extract pos (pos + R.length)).toList = R → pos + R.length ≤ buf.size →
      Expands buf l pos R (pos + R.length) := by
  induction h with
  | nil => intro buf pos _ _; simpa using Expands.nil
  | @name w rest ls fs hw tl ih =>
    intro buf pos hx hs
    rw [List.length_append] at hx hs ⊢
    obtain ⟨n, hl, h255⟩ := (wireName_iff w).mp hw
    obtain ⟨e1, e2⟩ := extract_append buf pos w rest hx hs
    rw [← Nat.add_assoc]
    exact Expands.name ⟨lname_decodes hl buf pos pos e1 (by omega), h255⟩ (ih buf (pos + w.length) e2 (by omega))
  | @fixed n f rest ls fs hf tl ih =>
    intro buf pos hx hs
    rw [List.length_append] at hx hs ⊢
    obtain ⟨e1, e2⟩ := extract_append buf pos f rest hx hs
    subst hf
    have := Expands.fixed (n := f.length) (by omega) (ih buf (pos + f.length) e2 (by omega))
    rwa [e1, Nat.add_assoc] at this

/-! ### what the reader needs from the writer -/

/-- the message holds the components `comps` from `pos` to `e`: each name in *some* encoding that
    decodes (RFC 1035 §4.1.4) to it, everything else verbatim -/
inductive Written (buf : Bytes) : List Comp → Nat → Nat → Prop
  | nil {pos} : Written buf [] pos pos
  | cname {w n k rest pos e} (hd : DecodesName buf pos w n k) (tl : Written buf rest (pos + k) e) :
      Written buf (.compressibleName w :: rest) pos e
  | uname {w n rest pos e} (hd : DecodesName buf pos w n w.length) (tl : Written buf rest (pos + w.length) e) :
      Written buf (.uncompressibleName w :: rest) pos e
  | other {o rest pos e} (hin : pos + o.length ≤ buf.size) (ho : (buf.extract pos (pos + o.length)).toList = o)
      (tl : Written buf rest (pos + o.length) e) : Written buf (.other o :: rest) pos e

/-- `comps` are the fields `fs` of layout `l`, names tagged either way -/
inductive Tagged : List Field → List (List UInt8) → List Comp → Prop
  | nil : Tagged [] [] []
  | cname {ls fs cs w} (tl : Tagged ls fs cs) : Tagged (.name :: ls) (w :: fs) (.compressibleName w :: cs)
  | uname {ls fs cs w} (tl : Tagged ls fs cs) : Tagged (.name :: ls) (w :: fs) (.uncompressibleName w :: cs)
  | fixed {ls fs cs f n} (hf : f.length = n) (tl : Tagged ls fs cs) :
      Tagged (.fixed n :: ls) (f :: fs) (.other f :: cs)

theorem written_expands {l : List Field} {fs : List (List UInt8)} {cs : List Comp} (ht : Tagged l fs cs) :
    ∀ {buf : Bytes} {pos e : Nat}, Written buf cs pos e → Expands buf l pos fs.flatten e := by
  induction ht with
  | nil => intro buf pos e hw; cases hw; exact Expands.nil
  | cname tl ih =>
    intro buf pos e hw
    cases hw with
    | cname hd tl' => simpa using Expands.name hd (ih tl')
  | uname tl ih =>
    intro buf pos e hw
    cases hw with
    | uname hd tl' => simpa using Expands.name hd (ih tl')
  | @fixed ls fs cs f n hf tl ih =>
    intro buf pos e hw
    cases hw with
    | other hin ho tl' =>
      subst hf
      have := Expands.fixed hin (ih tl')
      rw [ho] at this
      simpa using this

/-- the one opaque component of RDATA without embedded names (none if empty) is the region itself -/
theorem written_opaque {buf r : Bytes} {pos e : Nat}
    (h : Written buf (if r.size = 0 then [] else [.other r.toList]) pos e) :
    r.toList = (buf.extract pos e).toList := by
  by_cases h0 : r.size = 0
  · rw [if_pos h0] at h; cases h
    rw [Array.eq_empty_of_size_eq_zero h0]; simp
  · rw [if_neg h0] at h
    cases h with | other hin ho tl => cases tl; exact ho.symm

/-! ### `Rdata::components`: dispatch, and its result on well-formed RDATA -/

/-- the `ComponentType`s `Rdata::components` walks for each format (the generated table, by format) -/
def compTypesFmt : Fmt → List CompType
  | .name => [("C", 0)]
  | .chA => [("U", 0)]
  | .soa => [("C", 0), ("C", 0)]
  | .minfo => [("C", 0), ("C", 0)]
  | .mx => [("F", 2), ("C", 0)]
  | .srv => [("F", 6), ("U", 0)]
  | _ => []

theorem compTypesFmt_none {f : Fmt} (h : layoutOf f = none) : compTypesFmt f = [] := by
  cases f <;> first | rfl | cases h

theorem components_eq (c t : Nat) (r : Bytes) : components c t r = componentsAux (compTypesFmt (fmtOf c t)) r := by
  rw [← lookupG_layout (fun f => componentsAux (compTypesFmt f) r) (by intro f hf; cases f <;> first | rfl | cases hf) c t]
  refine (map_lookup (fun h => match componentTypesOf h with | some tys => componentsAux tys r | none => .panic)
    Gen.rdataComponentsArms Gen.rdataComponentsDefault c t).trans ?_
  simp [Gen.rdataComponentsArms, Gen.rdataComponentsDefault, componentTypesOf, Gen.rdataComponentTypes, compTypesFmt]

theorem parseU_of_prefix (b : Bytes) (w rest : List UInt8) (hb : b.toList = w ++ rest) (hw : WireName w) :
    ∃ n, parseUncompressed b false = .ok ⟨w, n, w.length⟩ := by
  obtain ⟨n, hl, h255⟩ := (wireName_iff w).mp hw
  refine ⟨n, ?_⟩
  unfold parseUncompressed
  rw [uncompAux_track b 0 0 (by omega) (by omega)]
  rw [(uncompAux_ok_iff b w.length n).mpr ⟨w, rest, hb, hl, rfl, h255⟩]
  simp [hb]

/-- the components the writer is handed for well-formed RDATA of each format (`fs` = its fields) -/
def tagComps : Fmt → List (List UInt8) → List Comp
  | .name, [a] => [.compressibleName a]
  | .chA, [a, b] => [.uncompressibleName a, .other b]
  | .soa, [a, b, c] => [.compressibleName a, .compressibleName b, .other c]
  | .minfo, [a, b] => [.compressibleName a, .compressibleName b]
  | .mx, [a, b] => [.other a, .compressibleName b]
  | .srv, [a, b] => [.other a, .uncompressibleName b]
  | _, _ => []

/-- a buffer that begins with `x`: where `x` ends, and what follows it -/
theorem toList_append {b : Bytes} {x rest : List UInt8} (hb : b.toList = x ++ rest) :
    x.length ≤ b.size ∧ b.extract x.length b.size = rest.toArray := by
  refine ⟨by have := congrArg List.length hb; simp at this; omega, Array.toList_inj.mp ?_⟩
  rw [toList_extract_from, hb]; simp

theorem componentsAux_nil (r : Bytes) :
    componentsAux [] r = .ok (if r.size = 0 then [] else [.other r.toList]) := by
  unfold componentsAux; split <;> simp_all

/-- the field a `ComponentType` stands for -/
def fieldOf (t : CompType) : Field := if t.1 = "F" then .fixed t.2 else .name

/-- the component a `ComponentType` makes of its field -/
def tagOf (t : CompType) (x : List UInt8) : Comp :=
  if t.1 = "F" then .other x else if t.1 = "C" then .compressibleName x else .uncompressibleName x

/-- `Components` run over RDATA that splits along the component types (followed by any further
    fields `tail`): one component per type, then whatever is left as one opaque component -/
theorem componentsAux_splits : ∀ (tys : List CompType), (∀ t ∈ tys, t.1 = "F" ∨ t.1 = "C" ∨ t.1 = "U") →
    ∀ (tail : List Field) (r : Bytes) (fs : List (List UInt8)), Splits (tys.map fieldOf ++ tail) r.toList fs →
      componentsAux tys r = .ok (List.zipWith tagOf tys fs ++
        (if (fs.drop tys.length).flatten = [] then [] else [.other (fs.drop tys.length).flatten])) := by
  intro tys
  induction tys with
  | nil =>
    intro _ tail r fs h
    have := splits_flatten h
    simp only [List.zipWith_nil_left, List.length_nil, List.drop_zero, List.nil_append, this]
    rw [componentsAux_nil]
    by_cases h0 : r.size = 0
    · have : r.toList = [] := List.eq_nil_of_length_eq_zero (by simpa using h0)
      simp [h0, this]
    · have : r.toList ≠ [] := fun e => h0 (by simpa using congrArg List.length e)
      simp [h0, this]
  | cons t tys ih =>
    intro ht tail r fs h
    obtain ⟨k, n⟩ := t
    have ih' := ih (fun t h => ht t (List.mem_cons_of_mem _ h)) tail
    rcases ht (k, n) List.mem_cons_self with hk | hk
    · -- a fixed field
      simp only at hk; subst hk
      simp only [List.map_cons, fieldOf, if_true, List.cons_append, splits_fixed_iff] at h
      obtain ⟨f, rest, fs', hr, rfl, rfl, htl⟩ := h
      obtain ⟨hk, hx⟩ := toList_append hr
      have hf0 : (r.extract 0 f.length).toList = f := by simp [hr]
      rw [componentsAux]
      simp only [if_true, hk, sliceFrom_ok r _ hk, Out.bind_ok, hx, ih' rest.toArray fs' htl, hf0]
      simp [tagOf]
    · -- a name
      have hF : ¬ k = "F" := by rcases hk with h | h <;> (simp only at h; subst h; decide)
      simp only [List.map_cons, fieldOf, hF, if_false, List.cons_append, splits_name_iff] at h
      obtain ⟨w, rest, fs', hr, rfl, hw, htl⟩ := h
      obtain ⟨nl, hp⟩ := parseU_of_prefix r w rest hr hw
      obtain ⟨hle, hx⟩ := toList_append hr
      rw [componentsAux]
      simp only [hF, if_false, hk, if_true, hp, liftName, Out.mapErr, Out.bind_ok, sliceFrom_ok r _ hle, hx,
        ih' rest.toArray fs' htl]
      rcases hk with h | h <;> (simp only at h; subst h; simp [tagOf])

/-- `Rdata::components` on well-formed RDATA of a name-bearing format: its fields, tagged -/
theorem componentsFmt_valid (f : Fmt) (l : List Field) (hl : layoutOf f = some l) (r : Bytes)
    (fs : List (List UInt8)) (h : Splits l r.toList fs) :
    componentsAux (compTypesFmt f) r = .ok (tagComps f fs) ∧ Tagged l fs (tagComps f fs) := by
  have key := fun tys ht tail h' => componentsAux_splits tys ht tail r fs h'
  cases f <;> simp only [layoutOf, Option.some.injEq, reduceCtorEq] at hl <;> subst hl
  · have := key [("C", 0)] (by simp) [] (by simpa [fieldOf] using h)
    simp only [splits_name_iff, splits_nil_iff] at h
    obtain ⟨w, rest, fs', _, rfl, _, rfl, rfl⟩ := h
    exact ⟨by simpa [tagOf, tagComps, compTypesFmt] using this, Tagged.cname Tagged.nil⟩
  · have := key [("U", 0)] (by simp) [.fixed 2] (by simpa [fieldOf] using h)
    simp only [splits_name_iff, splits_fixed_iff, splits_nil_iff] at h
    obtain ⟨w, rest, fs', _, rfl, _, f, rest2, fs2, _, rfl, hf, _, rfl⟩ := h
    have hne : f ≠ [] := by rintro rfl; cases hf
    exact ⟨by simpa [tagOf, tagComps, compTypesFmt, hne] using this, Tagged.uname (Tagged.fixed hf Tagged.nil)⟩
  · have := key [("C", 0), ("C", 0)] (by simp) [.fixed 20] (by simpa [fieldOf] using h)
    simp only [splits_name_iff, splits_fixed_iff, splits_nil_iff] at h
    obtain ⟨w, rest, fs', _, rfl, _, w2, rest2, fs2, _, rfl, _, f, rest3, fs3, _, rfl, hf, _, rfl⟩ := h
    have hne : f ≠ [] := by rintro rfl; cases hf
    exact ⟨by simpa [tagOf, tagComps, compTypesFmt, hne] using this,
      Tagged.cname (Tagged.cname (Tagged.fixed hf Tagged.nil))⟩
  · have := key [("C", 0), ("C", 0)] (by simp) [] (by simpa [fieldOf] using h)
    simp only [splits_name_iff, splits_nil_iff] at h
    obtain ⟨w, rest, fs', _, rfl, _, w2, rest2, fs2, _, rfl, _, _, rfl⟩ := h
    exact ⟨by simpa [tagOf, tagComps, compTypesFmt] using this, Tagged.cname (Tagged.cname Tagged.nil)⟩
  · have := key [("F", 2), ("C", 0)] (by simp) [] (by simpa [fieldOf] using h)
    simp only [splits_name_iff, splits_fixed_iff, splits_nil_iff] at h
    obtain ⟨f, rest, fs', _, rfl, hf, w, rest2, fs2, _, rfl, _, _, rfl⟩ := h
    exact ⟨by simpa [tagOf, tagComps, compTypesFmt] using this, Tagged.fixed hf (Tagged.cname Tagged.nil)⟩
  · have := key [("F", 6), ("U", 0)] (by simp) [] (by simpa [fieldOf] using h)
    simp only [splits_name_iff, splits_fixed_iff, splits_nil_iff] at h
    obtain ⟨f, rest, fs', _, rfl, hf, w, rest2, fs2, _, rfl, _, _, rfl⟩ := h
    exact ⟨by simpa [tagOf, tagComps, compTypesFmt] using this, Tagged.fixed hf (Tagged.uname Tagged.nil)⟩

end QV.Rdata
