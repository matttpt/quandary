/-
  QV.Proofs.ServerScan — layer L1 of C01: the scan phase of `handle_message_with_context`
  (question, answer/authority scan, additional scan with OPT and TSIG handling).

  Every reader call is made on a reader satisfying `Reader.Inv` (C15), so none panics; the
  `PeekRr` accessors are in range after a successful `peek_rr`; the names the reader returns convert
  to `WName`s (C14); `set_extended_rcode` cannot fail after `set_edns`; `index != arcount - 1` does
  not underflow; `ReadTsigRr::try_from` is only applied to validated TSIG RDATA; `verify_request`
  is only applied to a message whose ARCOUNT counts the TSIG record; the time is representable
  (environment assumption `now < 2^48`).
-/
import QV.Proofs.ServerWriter
import QV.Proofs.ServerNoErr
import QV.Properties.C15

namespace QV.ServerSafety
open QV QV.Writer QV.Server QV.Reader QV.Wire

variable (W : WriterSafe)


/-! ### the reader side of the scan -/

/-- what the server needs from `Rdata::read` (C18 `C18_read_no_panic`): no panic for an RDLENGTH
    that fits a `u16` and a region whose end is a `usize` -/
def RdataSafe : Prop :=
  ∀ c t (msg : Bytes) cur len, len ≤ 65535 → cur + len < 2^64 → Rdata.read c t msg cur len ≠ .panic

/-- … which is C18's theorem about the RDATA model -/
theorem rdataSafe : RdataSafe := fun c t msg cur len h1 h2 =>
  C18.C18_read_no_panic c t msg cur len h1 (by unfold Rdata.USIZE_MAX; omega)

/-- `PeekRr::parse` spelled out after a successful `peek_rr` -/
theorem peek_parse_eq (rdr : RdRead) (r : Reader) (p : PeekRr) (h : peekRr r = .ok p) :
    p.parse rdr =
      match parseCompressed r.octets r.cursor with
      | .panic => (.panic, r)
      | .err e => (.err (.InvalidOwner e), r)
      | .ok n =>
        match rdr (be16 r.octets (p.ownerEnd + 2)) (be16 r.octets p.ownerEnd) r.octets (p.ownerEnd + 10)
                (be16 r.octets (p.ownerEnd + 8)) with
        | .panic => (.panic, r)
        | .err e => (.err (.InvalidRdata e), r)
        | .ok rd => (.ok ⟨n.wire, be16 r.octets p.ownerEnd, be16 r.octets (p.ownerEnd + 2),
                      Reader.ttlFrom (be32 r.octets (p.ownerEnd + 4)), rd⟩, { r with cursor := p.rrEnd }) := by
  obtain ⟨hr0, a1, a2, a3, a4, a5, a6, a7⟩ := C15.C15_peek_accessors r p h
  unfold PeekRr.parse PeekRr.owner
  rw [hr0]
  cases hp : parseCompressed r.octets r.cursor with
  | panic => rfl
  | err e => rfl
  | ok n =>
    simp only [a1, a2, a4, a5]
    cases rdr (be16 r.octets (p.ownerEnd + 2)) (be16 r.octets p.ownerEnd) r.octets (p.ownerEnd + 10)
        (be16 r.octets (p.ownerEnd + 8)) <;> rfl

theorem rdRead_no_panic (hrd : RdataSafe) (c t : Nat) (msg : Bytes) (cur len : Nat)
    (h1 : len ≤ 65535) (h2 : cur + len < 2^64) : rdRead c t msg cur len ≠ .panic := by
  unfold rdRead
  cases h : Rdata.read c t msg cur len with
  | panic => exact absurd h (hrd c t msg cur len h1 h2)
  | err e => simp
  | ok b => simp

/-- `peek_rr().parse()` with the real RDATA reader: never a panic; on success the reader has
    moved to the end of the record -/
theorem peek_parse_safe (hrd : RdataSafe) (r : Reader) (hsz : r.octets.size < 2^64) (p : PeekRr)
    (h : peekRr r = .ok p) :
    (p.parse rdRead).1 ≠ .panic ∧
    (∀ rr r', p.parse rdRead = (.ok rr, r') →
      r' = { r with cursor := p.rrEnd } ∧ rr.rrType = be16 r.octets p.ownerEnd ∧
      (∃ n, parseCompressed r.octets r.cursor = .ok n ∧ rr.owner = n.wire) ∧
      rdRead rr.cls rr.rrType r.octets (p.ownerEnd + 10) (be16 r.octets (p.ownerEnd + 8)) = .ok rr.rdata ∧
      rr.cls = be16 r.octets (p.ownerEnd + 2)) := by
  obtain ⟨hr0, a1, a2, a3, a4, a5, a6, a7⟩ := C15.C15_peek_accessors r p h
  rw [peek_parse_eq rdRead r p h]
  cases hp : parseCompressed r.octets r.cursor with
  | panic => exact absurd hp (C14.C14_no_panic _ _)
  | err e => exact ⟨by simp, fun rr r' hh => by cases hh⟩
  | ok n =>
    simp only
    have hb := be16_lt r.octets (p.ownerEnd + 8)
    cases h5 : rdRead (be16 r.octets (p.ownerEnd + 2)) (be16 r.octets p.ownerEnd) r.octets (p.ownerEnd + 10)
        (be16 r.octets (p.ownerEnd + 8)) with
    | panic => exact absurd h5 (rdRead_no_panic hrd _ _ _ _ _ (by omega) (by omega))
    | err e => exact ⟨by simp, fun rr r' hh => by cases hh⟩
    | ok rd =>
      refine ⟨by simp, fun rr r' hh => ?_⟩
      simp only [Prod.mk.injEq, Out.ok.injEq] at hh
      obtain ⟨rfl, rfl⟩ := hh
      exact ⟨rfl, rfl, ⟨n, rfl, rfl⟩, h5, rfl⟩



/-! ### answer + authority scan -/

/-- `scanAnNs` with the reader's panics made explicit (the model folds them into "FORMERR") -/
def scanAnNsP : Nat → Reader → Out Unit (Option Reader)
  | 0, r => .ok (some r)
  | n+1, r =>
    match Reader.peekRr r with
    | .ok p =>
      match p.rrType with
      | .ok t => if t = T "OPT" ∨ t = T "TSIG" then .ok none else scanAnNsP n p.skip
      | .err _ => .ok none
      | .panic => .panic
    | .err _ => .ok none
    | .panic => .panic

theorem peek_skip_inv (r : Reader) (hi : Reader.Inv r) (p : PeekRr) (h : peekRr r = .ok p) :
    Reader.Inv p.skip ∧ p.skip.octets = r.octets := by
  obtain ⟨hr0, _, _, _, _, _, _, a7⟩ := C15.C15_peek_accessors r p h
  unfold PeekRr.skip
  rw [hr0]
  exact ⟨⟨hi.1, a7⟩, rfl⟩

/-- on a reader satisfying the invariant no call of the answer/authority scan panics, so the
    model's `scanAnNs` (which has no panic outcome) loses nothing -/
theorem scanAnNs_no_panic (n : Nat) (r : Reader) (hi : Reader.Inv r) :
    scanAnNsP n r = .ok (scanAnNs n r) := by
  induction n generalizing r with
  | zero => rfl
  | succ n ih =>
    unfold scanAnNsP scanAnNs
    cases hp : peekRr r with
    | panic => exact absurd hp (C15.C15_peek_rr_no_panic r hi)
    | err e => rfl
    | ok p =>
      obtain ⟨_, a1, _⟩ := C15.C15_peek_accessors r p hp
      simp only [a1]
      split
      · rfl
      · exact ih _ (peek_skip_inv r hi p hp).1

/-- what every `skip` of the answer/authority scan keeps, the scan keeps -/
theorem scanAnNs_ind (P : Reader → Prop) (hstep : ∀ r p, P r → peekRr r = .ok p → P p.skip) :
    ∀ (n : Nat) (r r' : Reader), P r → scanAnNs n r = some r' → P r' := by
  intro n
  induction n with
  | zero => intro r r' hP h; cases h; exact hP
  | succ n ih =>
    intro r r' hP h
    unfold scanAnNs at h
    split at h
    · split at h
      · split at h
        · cases h
        · exact ih _ _ (hstep _ _ hP ‹_›) h
      · cases h
    · cases h

theorem scanAnNs_inv (n : Nat) (r r' : Reader) (hi : Reader.Inv r) (h : scanAnNs n r = some r') :
    Reader.Inv r' ∧ r'.octets = r.octets :=
  scanAnNs_ind (fun x => Reader.Inv x ∧ x.octets = r.octets)
    (fun x p hx hp => let ⟨a, b⟩ := peek_skip_inv x hx.1 p hp; ⟨a, b.trans hx.2⟩) n r r' ⟨hi, rfl⟩ h

/-! ### writer calls: what holds by unfolding -/

theorem setEdns_ok_edns (p : Nat) (s s1 : State) (h : setEdns p s = (.ok (), s1)) : s1.edns.isSome := by
  obtain ⟨_, e, _⟩ | ⟨_, _, _, e⟩ := setEdns_cases p s <;> rw [e] at h <;> cases h
  rfl

theorem setLimit_edns (v : Nat) (s : State) : (setLimit v s).2.edns = s.edns := by
  obtain ⟨_, h⟩ | ⟨_, _, h, _⟩ := setLimit_cases v s <;> rw [h]

theorem setExtendedRcode_not_err (v : Nat) (hv : v ≤ 4095) (s : State) (he : s.edns.isSome) :
    ∀ e, (setExtendedRcode v s).1 ≠ .err e := by
  intro e
  rcases setExtendedRcode_cases v s with ⟨hn, _⟩ | ⟨_, _, ⟨h, _⟩ | ⟨_, _, _, _, ⟨_, _, h⟩ | ⟨_, h⟩⟩⟩
  · rw [hn] at he; cases he
  · omega
  · rw [h]; nofun
  · rw [h]; nofun

theorem safe_unwrap {α : Type} {f : M α} {s : State} {Q : α → State → Prop} (h : Safe W f s Q)
    (hne : ∀ e, (f s).1 ≠ .err e) : Safe W (Writer.unwrap f) s Q := by
  obtain ⟨h1, h2, h3, h4⟩ := h
  unfold Safe
  dsimp only [Writer.unwrap]
  generalize f s = r at h1 h2 h3 h4 hne
  obtain ⟨o, s'⟩ := r
  cases o with
  | ok a => exact ⟨by simp, h2, h3, fun b hb => by cases hb; exact h4 a rfl⟩
  | err e => exact absurd rfl (hne e)
  | panic => exact absurd rfl h1



/-! ### TSIG: what the scan relies on -/

theorem T_consts : T "TSIG" = Gen.TYPE_TSIG ∧ T "TSIG" = 250 ∧ T "OPT" = 41 := by decide

/-- RDATA that the `without_decompression` closure returned passed its validator -/
theorem withoutDecompression_ok {v : Bytes → Out Rdata.RErr Unit} {msg : Bytes} {cur len : Nat} {b : Bytes}
    (h : Rdata.withoutDecompression v msg cur len = .ok b) : v b = .ok () := by
  unfold Rdata.withoutDecompression at h
  obtain ⟨buf, -, h⟩ := Out.bind_eq_ok h
  obtain ⟨sl, -, h⟩ := Out.bind_eq_ok h
  obtain ⟨rd, -, h⟩ := Out.bind_eq_ok h
  obtain ⟨⟨⟩, hv, h⟩ := Out.bind_eq_ok h
  cases h
  exact hv

/-- RDATA of type TSIG that `Rdata::read` accepted passed `validate_as_tsig`: type 250 has the format
    `tsig` in every class (`Rdata.read_eq`) -/
theorem read_tsig_valid (c : Nat) (msg : Bytes) (cur len : Nat) (b : Bytes)
    (h : Rdata.read c 250 msg cur len = .ok b) : Rdata.validateAsTsig b = .ok () :=
  withoutDecompression_ok (v := Rdata.validateAsTsig) ((Rdata.read_eq c 250 msg cur len).symm.trans h)

theorem validateAsTsig_ok (b : Bytes) (h : Rdata.validateAsTsig b = .ok ()) :
    ∃ p, parseUncompressed b false = .ok p ∧ p.len + 10 ≤ b.size := by
  unfold Rdata.validateAsTsig at h
  cases hv : validateUncompressed b false with
  | panic => rw [hv] at h; cases h
  | err e => rw [hv] at h; cases h
  | ok alg =>
    rw [hv] at h
    simp only [Rdata.liftName, Out.mapErr, Out.bind_ok] at h
    obtain ⟨p, hp, hl⟩ := (C14.C14_validate_ok_iff b false alg).mp hv
    refine ⟨p, hp, ?_⟩
    by_cases h10 : alg + 10 ≤ b.size
    · omega
    · simp only [h10, if_false] at h; cases h

/-- `ReadTsigRr::try_from` on a record of type TSIG whose RDATA the reader validated: never
    `NotTsig`, never one of its `expect`s -/
theorem tsig_tryFrom_cases (owner : List UInt8) (cls ttl : Nat) (b : Bytes)
    (hv : Rdata.validateAsTsig b = .ok ()) :
    Tsig.ReadTsigRr.tryFrom owner (T "TSIG") cls ttl b.toList = .err .FormErr ∨
    ∃ p, parseUncompressed b false = .ok p ∧
      Tsig.ReadTsigRr.tryFrom owner (T "TSIG") cls ttl b.toList =
        .ok ⟨Tsig.lowerName owner, Tsig.lowerName p.wire, (Tsig.rd16 b.toList (p.len + 8)).toNat, b.toList⟩ := by
  obtain ⟨p, hp, hl⟩ := validateAsTsig_ok b hv
  unfold Tsig.ReadTsigRr.tryFrom
  have e1 : ¬ (T "TSIG" ≠ Gen.TYPE_TSIG) := fun h => h T_consts.1
  simp only [e1, if_false]
  by_cases hc : cls ≠ Gen.QCLASS_ANY ∨ ttl ≠ 0
  · left; simp only [hc, if_true]
  · right
    refine ⟨p, hp, ?_⟩
    simp only [hc, if_false, Array.toArray_toList, hp]
    have : ¬ (b.toList.length < p.len + 10) := by simp; omega
    simp only [this, if_false]



theorem lowerName_idem (w : List UInt8) : Tsig.lowerName (Tsig.lowerName w) = Tsig.lowerName w := by
  simp [Tsig.lowerName, lowerU8_idem]

theorem fromName_lower (w : List UInt8) (alg : Tsig.Algorithm)
    (h : Tsig.Algorithm.fromName (Tsig.lowerName w) = some alg) : Tsig.lowerName w = alg.name := by
  unfold Tsig.Algorithm.fromName at h
  rw [lowerName_idem] at h
  split at h
  · cases h; assumption
  · split at h
    · cases h; assumption
    · cases h

/-- `verify_request` does not panic when the algorithm is the record's own and the covered
    message has a header whose ARCOUNT counts the TSIG record (`ARCOUNT − 1`) -/
theorem verifyRequest_no_panic (hm : Tsig.Algorithm → Tsig.Octets → Tsig.Octets → Tsig.Octets)
    (r : Tsig.ReadTsigRr) (message : Tsig.Octets) (alg : Tsig.Algorithm) (key : Tsig.Octets)
    (now : Tsig.TimeSigned) (ha : r.algorithm = alg.name) (hl : 12 ≤ message.length)
    (har : Tsig.rd16 message Gen.ARCOUNT_START ≠ 0) :
    Tsig.verifyRequest hm r message alg key now ≠ .panic := by
  unfold Tsig.verifyRequest Tsig.verificationCore
  simp only [ha, ne_eq, not_true_eq_false, if_false]
  have hin : ∃ d, (Tsig.requestInput message r.originalId r.vars : Out Tsig.VerificationError Tsig.Octets) = .ok d := by
    unfold Tsig.requestInput Tsig.addModifiedMessage
    have c : Gen.ARCOUNT_START = 10 ∧ Gen.ARCOUNT_END = 12 := by decide
    have h1 : ¬ message.length < Gen.ARCOUNT_START := by rw [c.1]; omega
    have h2 : ¬ message.length < Gen.ARCOUNT_END := by rw [c.2]; omega
    simp only [h1, h2, har, if_false]
    exact ⟨_, rfl⟩
  obtain ⟨d, hd⟩ := hin
  rw [hd]
  cases hc : Tsig.checkMacSize alg r.macSize with
  | panic => unfold Tsig.checkMacSize at hc; simp only at hc; split at hc <;> cases hc
  | err e => simp
  | ok u =>
    simp only [Out.bind_ok]
    split
    · unfold Tsig.checkTime; simp only; split <;> simp
    · simp




theorem safe_congr {ε α : Type} {f g : State → Out ε α × State} {s : State} {Q : α → State → Prop}
    (h : f s = g s) (hg : Safe W g s Q) : Safe W f s Q := by
  unfold Safe at hg ⊢; rw [h]; exact hg

theorem safe_setRcode (v : Nat) (s : State) (hi : W.I s) : Safe W (setRcode v) s (fun _ _ => True) :=
  safe_call W (.setRcode v) s hi trivial

theorem safe_setBit (b m : Nat) (v : Bool) (hb : b < Gen.HEADER_SIZE) (s : State) (hi : W.I s) :
    Safe W (setBit b m v) s (fun _ _ => True) :=
  safe_call W (.setBit b m v) s hi hb

theorem safe_setTc (v : Bool) (s : State) (hi : W.I s) : Safe W (setTc v) s (fun _ _ => True) :=
  safe_setBit W _ _ v (by decide) s hi

theorem safe_setAa (v : Bool) (s : State) (hi : W.I s) : Safe W (setAa v) s (fun _ _ => True) :=
  safe_setBit W _ _ v (by decide) s hi

/-- `set_rcode(x); return` in the scan: the result is "stop" -/
theorem safe_rcode_none {β : Type} (v : Nat) (s : State) (hi : W.I s) {Q : Option β → State → Prop}
    (hq : ∀ s', Q none s') :
    Safe W (do setRcode v; pure (none : Option β) : M (Option β)) s Q :=
  safe_bind_M W (safe_setRcode W v s hi) (fun _ s' hi' _ _ => safe_pure_M W none s' hi' (hq s'))

/-- `set_tsig_or_truncate` -/
theorem safe_setTsigOrTruncate (m : TsigMode) (rr : TsigRr) (s : State) (hi : W.I s)
    (hp : (Call.setTsig m rr).Pre W.Den s) : Safe W (setTsigOrTruncate m rr) s (fun _ _ => True) := by
  obtain ⟨h1, h2, h3⟩ := W.call (.setTsig m rr) s hi hp
  have e : (Call.setTsig m rr).run = setTsig m rr := rfl
  rw [e] at h1 h2 h3
  unfold Safe
  dsimp only [setTsigOrTruncate]
  generalize setTsig m rr s = r at h1 h2 h3
  obtain ⟨o, s'⟩ := r
  cases o with
  | ok a => exact ⟨by simp, h2, h3, fun _ _ => trivial⟩
  | panic => exact absurd rfl h1
  | err e =>
    have hs : Safe W (do setRcode (RC "NOERROR"); setTc true; pure false : M Bool) s' (fun _ _ => True) :=
      safe_bind_M W (safe_setRcode W _ s' h2) (fun _ s1 hi1 _ _ =>
        safe_bind_M W (safe_setTc W true s1 hi1) (fun _ s2 hi2 _ _ =>
          safe_pure_M W false s2 hi2 (Q := fun _ _ => True) trivial))
    obtain ⟨g1, g2, g3, _⟩ := hs
    exact ⟨g1, g2, h3.trans g3, fun _ _ => trivial⟩

theorem asSlice_length (t : Tsig.TimeSigned) : t.asSlice.length = 6 := rfl

theorem utf1 : "hmac-sha1".toUTF8.toList = [104, 109, 97, 99, 45, 115, 104, 97, 49] := by decide +kernel
theorem utf2 : "hmac-sha256".toUTF8.toList = [104, 109, 97, 99, 45, 115, 104, 97, 50, 53, 54] := by
  decide +kernel

theorem algName_WF (a : Alg) : (algName a).WF := by
  cases a
  · unfold algName; rw [utf1]; decide
  · unfold algName; rw [utf2]; decide

theorem algName_parses (alg : Hmac.Alg) :
    ∃ n, WName.parse (Tsig.Algorithm.name alg) = some (n, []) ∧ n.WF := by
  cases alg
  · exact ⟨⟨[[104, 109, 97, 99, 45, 115, 104, 97, 49]]⟩, by decide, by decide⟩
  · exact ⟨⟨[[104, 109, 97, 99, 45, 115, 104, 97, 50, 53, 54]]⟩, by decide, by decide⟩

/-- `PreparedTsigRr::new_from_read` always exists and meets the contract of `set_tsig` -/
theorem preparedFromRead_ok (r : Tsig.ReadTsigRr) (now : Tsig.TimeSigned) (e : Nat) (kn : WName)
    (hk : WName.parse r.keyName = some (kn, [])) :
    ∃ prep, preparedFromRead r now e = some prep ∧ prep.keyName = kn ∧ prep.timeSigned.length = 6 ∧
      prep.serverTime.length = 6 := by
  unfold preparedFromRead
  rw [hk]
  refine ⟨_, rfl, rfl, ?_, rfl⟩
  dsimp only
  split <;> rfl


end QV.ServerSafety
