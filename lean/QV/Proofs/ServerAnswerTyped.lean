/-
  QV.Proofs.ServerAnswerTyped — the records the answering logic hands to the writer have 16-bit TYPEs,
  provided the question's QTYPE and the zone's RRsets do (the API's `Type` is a `u16`; the model's
  types are naturals).  Read off the shape of the phase (`Prog`, with the TYPEs of the mandatory
  calls among the 16-bit ones); needed by the decoder congruence of C10 row 3 (a record of type
  65536 + 2 is written opaque but decoded as type 2).
-/
import QV.Proofs.ServerAnswerHdrLog
import QV.Proofs.ServerAnswerContent

namespace QV.ServerAnswer
open QV QV.Writer QV.Server QV.Zone QV.ServerSafety

/-- a logged `add_*` call has a 16-bit TYPE -/
def TyEv (e : Ev) : Prop := ∀ a, e = .add a → a.ty < 65536

theorem Prog.logsY {α : Type} {m : PM α} {r r' : Nat} (h : Prog (AnsAdd (· < 65536)) m r r') :
    Logs m TyEv (fun _ => True) := by
  refine h.logs (fun a r ha x hx => ?_) (fun b x hx => by cases hx) (fun x hx => by cases hx) (fun x hx => by cases hx)
  cases hx
  rcases ha with ⟨_, h | h⟩ | ⟨_, _, h | h | h | h⟩
  · rw [h]; decide
  · rw [h]; decide
  · rw [h]; decide
  · rw [h]; decide
  · rw [h]; decide
  · exact h

theorem LogsY.referral (z : Zone.Zone) (child : NameL.Name) (ns : Rrset) :
    Logs (doReferral z child ns) TyEv (fun _ => True) :=
  (Prog.referral z child ns).logsY

theorem LogsY.answer (z : Zone.Zone) (qname : WName) (qtype : Nat) (hq : qtype < 65536) :
    Logs (Server.answer z qname qtype) TyEv (fun _ => True) :=
  (Prog.answer z qname qtype hq).logsY

/-- what `lookup_all` finds comes from the tree -/
theorem lookupAll_found_P (P : Zone.Rrset → Prop) (z : Zone.Zone) (h : NodeOK P z.root) (name : NameL.Name)
    (o : Zone.Opts) (rrsets : List Zone.Rrset) (sos : Option NameL.Name)
    (hl : Zone.lookupAll z name o = .ok (.found rrsets sos)) : ∀ r ∈ rrsets, P r := by
  unfold Zone.lookupAll at hl
  rcases hb : Zone.lookupBase z name o with (b | e | _)
  · rw [hb] at hl
    unfold Zone.lookupBase at hb
    split at hb
    · cases hb; simp at hl
    · split at hb
      · cases hb
      · cases hb
        obtain ⟨_, g2, _⟩ := lookupImpl_spec P o.searchBelowCuts (Zone.relPath z.apex.length name) z.root z.apex true h
        generalize Zone.lookupImpl o.searchBelowCuts z.root z.apex (Zone.relPath z.apex.length name) true = res at hl g2
        cases res with
        | found rr ss => simp only at hl; cases hl; exact g2 _ _ rfl
        | referral c ns => simp at hl
        | nxDomain => simp at hl
        | wrongZone => simp at hl
  · rw [hb] at hl; simp at hl
  · rw [hb] at hl; simp at hl

theorem LogsY.inner (z : Zone.Zone) (hz : NodeOK (fun r => r.rtype < 65536) z.root) (qname : WName) (qtype : Nat)
    (hq : qtype < 65536) : Logs (inner z qname qtype) TyEv (fun _ => True) :=
  (Prog.inner z qname qtype hq (fun _ _ hl => lookupAll_found_P _ z hz _ _ _ _ hl)).logsY

end QV.ServerAnswer
