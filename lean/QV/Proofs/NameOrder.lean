/-
  QV.Proofs.NameOrder — lemmas for C16, part 2: equality, hash input, canonical order, hierarchy,
  accessors, lower-casing, the executable well-formedness check, `finish_with_suffix`.

  All model functions are evaluated on `toWire n` and shown equal to the spec's list-level
  definitions; `lexCmp` is shown to be a total order whenever the element comparison is
  (`OrdLaws`), which gives the laws of RFC 4034 §6.1's comparison.
-/
import QV.Proofs.Name
namespace QV.Name
open QV QV.Spec.NameText
open QV.Codes (eqIgnoreAsciiCase eqIgnoreAsciiCase_iff lowerByte_eq)
open QV.Wire (consts)

/-! ### lower-casing -/

theorem lowerOctet_eq (b : UInt8) : lowerOctet b = lowerU8 b := lowerByte_eq b

theorem lowerLabel_eq (l : Label) : lowerLabel l = l.map lowerU8 := by
  unfold lowerLabel; apply List.map_congr_left; intro b _; exact lowerOctet_eq b

theorem lowerLabel_length (l : Label) : (lowerLabel l).length = l.length := by simp [lowerLabel]

theorem labelEq_iff (a b : Label) : labelEq a b = true ↔ lowerLabel a = lowerLabel b := by
  rw [lowerLabel_eq, lowerLabel_eq]; exact eqIgnoreAsciiCase_iff a b

theorem LabelsOK_lower {n : DName} (h : LabelsOK n) : LabelsOK (lowerName n) := by
  intro l hl
  simp only [lowerName, List.mem_map] at hl
  obtain ⟨x, hx, rfl⟩ := hl
  rw [lowerLabel_length]; exact h x hx

theorem toWire_injective {a b : DName} (ha : LabelsOK a) (hb : LabelsOK b) (h : toWire a = toWire b) : a = b := by
  have := congrArg labelsOf h
  rw [labelsOf_toWire a ha, labelsOf_toWire b hb] at this
  exact List.append_cancel_right this

theorem lowerName_idem (n : DName) : lowerName (lowerName n) = lowerName n := by
  unfold lowerName
  simp only [List.map_map]
  apply List.map_congr_left
  intro l _
  simp only [Function.comp, lowerLabel_eq, List.map_map]
  apply List.map_congr_left
  intro b _
  exact lowerU8_idem b

theorem wireLength_lower (n : DName) : wireLength (lowerName n) = wireLength n := by
  unfold wireLength lowerName
  simp only [List.map_map]
  congr 2
  apply List.map_congr_left
  intro l _
  simp [lowerLabel_length]

/-! ### equality -/

theorem zip_all_labelEq (xs ys : List Label) (hl : xs.length = ys.length) :
    (xs.zip ys).all (fun p => labelEq p.1 p.2) = true ↔ xs.map lowerLabel = ys.map lowerLabel := by
  induction xs generalizing ys with
  | nil => cases ys <;> simp at hl ⊢
  | cons x xs ih =>
    cases ys with
    | nil => simp at hl
    | cons y ys =>
      simp only [List.length_cons, Nat.add_right_cancel_iff] at hl
      simp only [List.zip_cons_cons, List.all_cons, Bool.and_eq_true, List.map_cons, List.cons.injEq,
        labelEq_iff, ih ys hl]

theorem nameEq_toWire (a b : DName) (ha : LabelsOK a) (hb : LabelsOK b) :
    nameEq (toWire a) (toWire b) = true ↔ SameName a b := by
  unfold nameEq SameName lowerName
  rw [nLabels_toWire a ha, nLabels_toWire b hb, labelsOf_toWire a ha, labelsOf_toWire b hb]
  simp only [Bool.and_eq_true, beq_iff_eq, Nat.add_right_cancel_iff]
  constructor
  · intro ⟨hl, hz⟩
    rw [zip_all_labelEq _ _ (by simp [hl])] at hz
    simpa using hz
  · intro h
    have hl : a.length = b.length := by simpa using congrArg List.length h
    refine ⟨hl, ?_⟩
    rw [zip_all_labelEq _ _ (by simp [hl])]
    simp [h]

/-! ### hash input -/

theorem hashInput_toWire (n : DName) (h : LabelsOK n) : hashInput (toWire n) = toWire (lowerName n) := by
  unfold hashInput
  rw [labelsOf_toWire n h]
  simp only [List.flatMap_append, List.flatMap_cons, List.flatMap_nil, List.append_nil]
  have : labelHashInput [] = [0] := by simp [labelHashInput]
  rw [this, toWire_eq]
  congr 1
  induction n with
  | nil => rfl
  | cons l n ih =>
    simp only [List.flatMap_cons, lowerName, List.map_cons, body_cons]
    rw [ih h.tail]
    simp [labelHashInput, lowerLabel_eq, lowerName]

theorem map_lower_toWire (n : DName) (h : LabelsOK n) : (toWire n).map lowerU8 = toWire (lowerName n) := by
  rw [toWire_eq, toWire_eq, List.map_append]
  congr 1
  induction n with
  | nil => rfl
  | cons l n ih =>
    have hl := h l (by simp)
    simp only [body_cons, List.map_cons, List.map_append, lowerName, lowerLabel_length]
    rw [lowerU8_of_le63 _ (by rw [ofNat_len_toNat hl.2]; exact hl.2)]
    have := ih h.tail
    simp only [lowerName] at this
    rw [this, lowerLabel_eq]

/-! ### ordering -/

theorem nat_compare_succ (a b : Nat) : compare (a + 1) (b + 1) = compare a b := by
  simp only [compare, compareOfLessAndEq]
  by_cases h : a < b
  · simp [h]
  · by_cases h2 : a = b
    · simp [h2]
    · simp [h, h2]

theorem zipFindNe_lexCmp {α : Type} (cmp : α → α → Ordering) (xs ys : List α) :
    (zipFindNe cmp xs ys).getD (compare xs.length ys.length) = lexCmp cmp xs ys := by
  induction xs generalizing ys with
  | nil =>
    cases ys with
    | nil => simp [zipFindNe, lexCmp]
    | cons y ys => simp [zipFindNe, lexCmp, compare, compareOfLessAndEq]
  | cons x xs ih =>
    cases ys with
    | nil => simp [zipFindNe, lexCmp, compare, compareOfLessAndEq]
    | cons y ys =>
      simp only [zipFindNe, lexCmp]
      cases hc : cmp x y with
      | eq =>
        simp only [bne_self_eq_false, Bool.false_eq_true, ↓reduceIte, List.length_cons, nat_compare_succ]
        exact ih ys
      | lt => simp
      | gt => simp

theorem lexCmp_map {α β : Type} (c : β → β → Ordering) (f : α → β) (a b : List α) :
    lexCmp (fun x y => c (f x) (f y)) a b = lexCmp c (a.map f) (b.map f) := by
  induction a generalizing b with
  | nil => cases b <;> simp [lexCmp]
  | cons x xs ih =>
    cases b with
    | nil => simp [lexCmp]
    | cons y ys => simp only [lexCmp, List.map_cons]; rw [ih]

theorem labelCmp_eq (a b : Label) : labelCmp a b = cmpOctetString (lowerLabel a) (lowerLabel b) := by
  unfold labelCmp cmpOctetString
  rw [zipFindNe_lexCmp, lowerLabel_eq, lowerLabel_eq, ← lexCmp_map]
  rfl

theorem nameCmp_toWire (a b : DName) (ha : LabelsOK a) (hb : LabelsOK b) :
    nameCmp (toWire a) (toWire b) = canonicalCmp a b := by
  unfold nameCmp canonicalCmp
  rw [nLabels_toWire a ha, nLabels_toWire b hb, labelsOf_toWire a ha, labelsOf_toWire b hb]
  have h1 : (a ++ [[]]).reverse.length = a.length + 1 := by simp
  have h2 : (b ++ [[]]).reverse.length = b.length + 1 := by simp
  rw [← h1, ← h2, zipFindNe_lexCmp]
  simp only [List.reverse_append, List.reverse_cons, List.reverse_nil, List.nil_append, List.cons_append]
  have : labelCmp [] [] = .eq := by simp [labelCmp, zipFindNe]
  simp only [lexCmp, this]
  have hf : labelCmp = fun x y => cmpOctetString (lowerLabel x) (lowerLabel y) := by
    funext x y; exact labelCmp_eq x y
  rw [hf, lexCmp_map, lowerName, lowerName, List.map_reverse, List.map_reverse]



/-! ### `lexCmp` is a total order whenever the element comparison is -/

structure OrdLaws {α : Type} (cmp : α → α → Ordering) : Prop where
  eq_iff : ∀ x y, cmp x y = .eq ↔ x = y
  swap : ∀ x y, cmp x y = (cmp y x).swap
  trans : ∀ x y z, cmp x y = .lt → cmp y z = .lt → cmp x z = .lt

theorem octetOrdLaws : OrdLaws (fun x y : UInt8 => compare x.toNat y.toNat) where
  eq_iff x y := by
    simp only [compare, compareOfLessAndEq]
    constructor
    · intro h
      by_cases h1 : x.toNat < y.toNat
      · simp [h1] at h
      · by_cases h2 : x.toNat = y.toNat
        · exact UInt8.toNat_inj.mp h2
        · simp [h1, h2] at h
    · intro h; subst h; simp
  swap x y := by
    simp only [compare, compareOfLessAndEq]
    by_cases h1 : x.toNat < y.toNat
    · have : ¬ y.toNat < x.toNat := by omega
      have : ¬ y.toNat = x.toNat := by omega
      simp [*]
    · by_cases h2 : x.toNat = y.toNat
      · simp [h2]
      · have : y.toNat < x.toNat := by omega
        simp [*]
  trans x y z := by
    simp only [compare, compareOfLessAndEq]
    intro h1 h2
    have a : x.toNat < y.toNat := by
      by_cases h : x.toNat < y.toNat
      · exact h
      · by_cases h' : x.toNat = y.toNat <;> simp [h, h'] at h1
    have b : y.toNat < z.toNat := by
      by_cases h : y.toNat < z.toNat
      · exact h
      · by_cases h' : y.toNat = z.toNat <;> simp [h, h'] at h2
    have : x.toNat < z.toNat := by omega
    simp [this]

theorem lexCmp_laws {α : Type} {cmp : α → α → Ordering} (L : OrdLaws cmp) : OrdLaws (lexCmp cmp) where
  eq_iff a b := by
    induction a generalizing b with
    | nil => cases b <;> simp [lexCmp]
    | cons x xs ih =>
      cases b with
      | nil => simp [lexCmp]
      | cons y ys =>
        simp only [lexCmp, List.cons.injEq]
        cases hc : cmp x y with
        | eq => simp only [(L.eq_iff x y).mp hc, true_and]; exact ih ys
        | lt =>
          have : x ≠ y := fun e => by rw [(L.eq_iff x y).mpr e] at hc; cases hc
          simp [this]
        | gt =>
          have : x ≠ y := fun e => by rw [(L.eq_iff x y).mpr e] at hc; cases hc
          simp [this]
  swap a b := by
    induction a generalizing b with
    | nil => cases b <;> simp [lexCmp, Ordering.swap]
    | cons x xs ih =>
      cases b with
      | nil => simp [lexCmp, Ordering.swap]
      | cons y ys =>
        simp only [lexCmp]
        rw [L.swap x y]
        cases cmp y x <;> simp [Ordering.swap, ih ys]
  trans a b c := by
    induction a generalizing b c with
    | nil =>
      cases b with
      | nil => simp [lexCmp]
      | cons y ys => cases c <;> simp [lexCmp]
    | cons x xs ih =>
      cases b with
      | nil => simp [lexCmp]
      | cons y ys =>
        cases c with
        | nil =>
          simp only [lexCmp]
          intro _ h2
          cases hyz : cmp y (y) <;> simp at h2
        | cons z zs =>
          simp only [lexCmp]
          intro h1 h2
          cases hxy : cmp x y with
          | gt => simp [hxy] at h1
          | lt =>
            cases hyz : cmp y z with
            | gt => simp [hyz] at h2
            | lt => simp [L.trans x y z hxy hyz]
            | eq =>
              have := (L.eq_iff y z).mp hyz; subst this
              simp [hxy]
          | eq =>
            have := (L.eq_iff x y).mp hxy; subst this
            cases hyz : cmp x z with
            | gt => simp [hyz] at h2
            | lt => simp
            | eq =>
              simp only [hxy] at h1
              simp only [hyz] at h2
              simp only
              exact ih ys zs h1 h2

theorem cmpOctetString_laws : OrdLaws cmpOctetString := lexCmp_laws octetOrdLaws

theorem labelListCmp_laws : OrdLaws (lexCmp cmpOctetString) := lexCmp_laws cmpOctetString_laws

/-- laws of the RFC 4034 §6.1 comparison, on names -/
theorem canonicalCmp_eq_iff (a b : DName) : canonicalCmp a b = .eq ↔ SameName a b := by
  unfold canonicalCmp SameName
  rw [labelListCmp_laws.eq_iff]
  exact List.reverse_inj

theorem canonicalCmp_swap (a b : DName) : canonicalCmp a b = (canonicalCmp b a).swap :=
  labelListCmp_laws.swap _ _

theorem canonicalCmp_trans (a b c : DName) (h1 : canonicalCmp a b = .lt) (h2 : canonicalCmp b c = .lt) :
    canonicalCmp a c = .lt :=
  labelListCmp_laws.trans _ _ _ h1 h2

/-- equal names compare alike against any third name (congruence) -/
theorem canonicalCmp_congr (a b c : DName) (h : SameName a b) : canonicalCmp a c = canonicalCmp b c := by
  unfold canonicalCmp; unfold SameName at h; rw [h]



/-! ### hierarchy -/

theorem zip_all_prefix (xs ys : List Label) :
    (ys.length ≤ xs.length ∧ (xs.zip ys).all (fun p => labelEq p.1 p.2) = true) ↔
      ys.map lowerLabel <+: xs.map lowerLabel := by
  induction xs generalizing ys with
  | nil =>
    cases ys with
    | nil => simp
    | cons y ys => simp
  | cons x xs ih =>
    cases ys with
    | nil => simp
    | cons y ys =>
      simp only [List.length_cons, Nat.add_le_add_iff_right, List.zip_cons_cons, List.all_cons,
        Bool.and_eq_true, List.map_cons, List.cons_prefix_cons, labelEq_iff]
      rw [← ih ys]
      constructor
      · intro ⟨h1, h2, h3⟩; exact ⟨h2.symm, h1, h3⟩
      · intro ⟨h1, h2, h3⟩; exact ⟨h2, h1.symm, h3⟩

theorem eqOrSubdomainOf_toWire (a b : DName) (ha : LabelsOK a) (hb : LabelsOK b) :
    eqOrSubdomainOf (toWire a) (toWire b) = true ↔ IsSubdomainOrEq a b := by
  unfold eqOrSubdomainOf IsSubdomainOrEq
  rw [nLabels_toWire a ha, nLabels_toWire b hb, labelsOf_toWire a ha, labelsOf_toWire b hb]
  simp only [Bool.and_eq_true, decide_eq_true_eq, ge_iff_le]
  have h := zip_all_prefix (a ++ [[]]).reverse (b ++ [[]]).reverse
  simp only [List.length_reverse, List.length_append, List.length_cons, List.length_nil] at h
  rw [h]
  simp only [List.reverse_append, List.reverse_cons, List.reverse_nil, List.nil_append, List.cons_append,
    List.map_cons, List.cons_prefix_cons, true_and]
  simp only [lowerName]
  rw [List.map_reverse, List.map_reverse, List.reverse_prefix]

theorem superdomain_toWire (n : DName) (h : LabelsOK n) (k : Nat) :
    Name.superdomain (toWire n) k = (Spec.NameText.superdomain n k).map toWire := by
  unfold Name.superdomain Spec.NameText.superdomain
  rw [nLabels_toWire n h]
  by_cases hk : k ≤ n.length
  · have : k < n.length + 1 := by omega
    simp [hk, this, drop_labelOffset_toWire n h k hk]
  · have : ¬ k < n.length + 1 := by omega
    simp [hk, this]

theorem isRoot_toWire (n : DName) (h : LabelsOK n) : isRoot (toWire n) = true ↔ n = [] := by
  unfold isRoot; rw [nLabels_toWire n h]; simp

theorem index_toWire (n : DName) (h : LabelsOK n) (i : Nat) :
    index (toWire n) i = if i ≤ n.length then .ok ((allLabels n)[i]?.getD []) else .panic := by
  unfold index allLabels
  rw [nLabels_toWire n h, labelsOf_toWire n h]
  by_cases hi : i ≤ n.length
  · have h1 : i < n.length + 1 := by omega
    simp [hi, h1]
  · have h1 : ¬ i < n.length + 1 := by omega
    simp [hi, h1]

theorem isWildcard_toWire (n : DName) (h : LabelsOK n) :
    Name.isWildcard (toWire n) = .ok (Spec.NameText.isWildcard n) := by
  unfold Name.isWildcard Spec.NameText.isWildcard
  rw [index_toWire n h 0]
  simp only [Nat.zero_le, ↓reduceIte, allLabels]
  cases n with
  | nil => simp [labelEq, eqIgnoreAsciiCase]
  | cons l n =>
    simp only [List.cons_append, List.getElem?_cons_zero, Option.getD_some, List.head?_cons, Out.ok.injEq]
    have : (labelEq l [42] = true) ↔ l = [42] := by
      rw [labelEq_iff]
      constructor
      · intro e
        match l, e with
        | [x], e =>
          simp [lowerLabel] at e
          -- `*` is not a letter and no letter folds onto it
          have hx : x = 42 := by
            rw [lowerOctet_eq, lowerOctet_eq, show lowerU8 42 = 42 from rfl] at e
            have := congrArg UInt8.toNat e
            rw [lowerU8_toNat, show (42 : UInt8).toNat = 42 from rfl] at this
            apply UInt8.toNat_inj.mp
            rw [show (42 : UInt8).toNat = 42 from rfl]
            split at this <;> omega
          rw [hx]
        | [], e => simp [lowerLabel] at e
        | _ :: _ :: _, e => simp [lowerLabel] at e
      · intro e; subst e; rfl
    by_cases hl : l = [42]
    · subst hl; simp [this.mpr rfl]
    · have : labelEq l [42] = false := by
        cases hc : labelEq l [42] with
        | false => rfl
        | true => exact absurd (this.mp hc) hl
      simp [this, hl]

theorem wireReprTo_toWire (n : DName) (h : LabelsOK n) (k : Nat) :
    wireReprTo (toWire n) k =
      if k = n.length + 1 then .ok (toWire n) else if k ≤ n.length then .ok (body (n.take k)) else .panic := by
  unfold wireReprTo
  rw [nLabels_toWire n h]
  by_cases h1 : k = n.length + 1
  · simp [h1]
  · by_cases h2 : k ≤ n.length
    · have : k < n.length + 1 := by omega
      simp [h1, h2, this, take_labelOffset_toWire n h k h2]
    · have : ¬ k < n.length + 1 := by omega
      simp [h1, h2, this]

theorem wireReprFrom_toWire (n : DName) (h : LabelsOK n) (k : Nat) :
    wireReprFrom (toWire n) k =
      if k = n.length + 1 then .ok [] else if k ≤ n.length then .ok (toWire (n.drop k)) else .panic := by
  unfold wireReprFrom
  rw [nLabels_toWire n h]
  by_cases h1 : k = n.length + 1
  · simp [h1]
  · by_cases h2 : k ≤ n.length
    · have : k < n.length + 1 := by omega
      simp [h1, h2, this, drop_labelOffset_toWire n h k h2]
    · have : ¬ k < n.length + 1 := by omega
      simp [h1, h2, this]

theorem makeAsciiLowercase_toWire (n : DName) (h : LabelsOK n) :
    makeAsciiLowercase (toWire n) = toWire (lowerName n) := by
  induction n with
  | nil => simp [toWire, makeAsciiLowercase, lowerName]
  | cons l n ih =>
    have hl := h l (by simp)
    rw [toWire_cons, List.cons_append, makeAsciiLowercase]
    simp only [ofNat_len_ne_zero hl.1 hl.2, ↓reduceIte, ofNat_len_toNat hl.2]
    simp only [List.take_left', List.drop_left', ih h.tail, lowerName, List.map_cons, toWire_cons,
      lowerLabel_eq]
    simp



/-! ### the executable well-formedness check decides `IsName` -/

theorem wfAux_toWire (n : DName) (h : LabelsOK n) : wfAux (toWire n) = true := by
  obtain ⟨c1, _, _⟩ := consts
  induction n with
  | nil => simp [toWire, wfAux]
  | cons l n ih =>
    have hl := h l (by simp)
    rw [toWire_cons, List.cons_append, wfAux]
    simp only [ofNat_len_ne_zero hl.1 hl.2, ↓reduceIte, ofNat_len_toNat hl.2, c1]
    simp [hl.2, ih h.tail]

theorem wfAux_sound (w : List UInt8) (h : wfAux w = true) : ∃ n, LabelsOK n ∧ w = toWire n := by
  obtain ⟨c1, _, _⟩ := consts
  induction hn : w.length using Nat.strongRecOn generalizing w with
  | _ k ih =>
    cases w with
    | nil => simp [wfAux] at h
    | cons l rest =>
      rw [wfAux] at h
      by_cases h0 : l = 0
      · subst h0
        simp only [↓reduceIte, List.isEmpty_iff] at h
        subst h
        exact ⟨[], (by intro l hl; simp at hl), rfl⟩
      · simp only [h0, ↓reduceIte, c1, Bool.and_eq_true, decide_eq_true_eq] at h
        obtain ⟨⟨h63, hlen⟩, hrest⟩ := h
        obtain ⟨n', hok, hd⟩ := ih (rest.drop l.toNat).length (by subst hn; simp; omega) _ hrest rfl
        have hpos : 1 ≤ l.toNat := by
          have : l.toNat ≠ 0 := fun e => h0 (UInt8.toNat_inj.mp (by simpa using e))
          omega
        have htl : (rest.take l.toNat).length = l.toNat := by simp; omega
        refine ⟨rest.take l.toNat :: n', ?_, ?_⟩
        · intro x hx
          simp at hx
          rcases hx with hx | hx
          · subst hx; rw [htl]; exact ⟨hpos, h63⟩
          · exact hok x hx
        · rw [toWire_cons, htl, ← hd]
          simp

theorem wfb_iff (w : List UInt8) : wfb w = true ↔ IsName w := by
  obtain ⟨_, c2, _⟩ := consts
  unfold wfb IsName
  simp only [Bool.and_eq_true, decide_eq_true_eq, c2]
  constructor
  · intro ⟨h1, h2⟩
    obtain ⟨n, hok, rfl⟩ := wfAux_sound w h1
    exact ⟨n, ⟨hok, by rw [← toWire_length]; exact h2⟩, rfl⟩
  · intro ⟨n, hv, e⟩
    subst e
    exact ⟨wfAux_toWire n hv.1, by rw [toWire_length]; exact hv.2⟩

/-! ### finish_with_suffix against the reference builder -/

theorem pushSuffixLabels_eq (w : List UInt8) (sfx : DName) :
    pushSuffixLabels w (sfx ++ [[]]) =
      if w.length + wireLength sfx ≤ 255 then .ok (w ++ toWire sfx) else .err .NameTooLong := by
  obtain ⟨_, c2, _⟩ := consts
  induction sfx generalizing w with
  | nil =>
    simp only [List.nil_append, pushSuffixLabels, c2, wireLength, List.map_nil, List.sum_nil, Nat.zero_add,
      List.length_nil, Nat.add_zero]
    by_cases h : w.length < 255
    · have : w.length + 1 ≤ 255 := by omega
      simp [h, this, toWire]
    · have : ¬ w.length + 1 ≤ 255 := by omega
      simp [h, this]
  | cons l sfx ih =>
    simp only [List.cons_append, pushSuffixLabels, c2]
    have hwl := wireLength_pos sfx
    rw [wireLength_cons]
    by_cases h1 : w.length < 255
    · by_cases h2 : w.length + 1 + l.length ≤ 255
      · simp only [h1, h2, ↓reduceIte]
        rw [ih]
        simp only [List.length_append, List.length_cons, List.length_nil]
        by_cases h3 : w.length + (l.length + 1 + wireLength sfx) ≤ 255
        · have : w.length + (0 + 1) + l.length + wireLength sfx ≤ 255 := by omega
          simp [h3, this, toWire_cons]
        · have : ¬ w.length + (0 + 1) + l.length + wireLength sfx ≤ 255 := by omega
          simp [h3, this]
      · have : ¬ w.length + (l.length + 1 + wireLength sfx) ≤ 255 := by omega
        simp [h1, h2, this]
    · have : ¬ w.length + (l.length + 1 + wireLength sfx) ≤ 255 := by omega
      simp [h1, this]

theorem pushSuffixOffsets_eq (offs : List Nat) (base : Nat) (os : List Nat)
    (h1 : ∀ o ∈ os, o + base ≤ 255) (h2 : offs.length + os.length ≤ 128) :
    pushSuffixOffsets offs base os = .ok (offs ++ os.map (· + base)) := by
  obtain ⟨_, _, c3⟩ := consts
  induction os generalizing offs with
  | nil => simp [pushSuffixOffsets]
  | cons o os ih =>
    have ho := h1 o (by simp)
    simp only [List.length_cons] at h2
    rw [pushSuffixOffsets, if_neg (by omega), c3, if_neg (by omega)]
    rw [ih (offs ++ [o + base]) (fun x hx => h1 x (List.mem_cons_of_mem _ hx)) (by simp; omega)]
    simp

theorem body_take_length_le (n : DName) (i : Nat) : (body (n.take i)).length ≤ (body n).length := by
  conv => rhs; rw [← List.take_append_drop i n, body_append]
  simp

theorem offsetsList_append (a b : DName) :
    offsetsList (a ++ b) = (offsetsList a).dropLast ++ (offsetsList b).map (· + (body a).length) := by
  unfold offsetsList
  have e : (a ++ b).length + 1 = a.length + (b.length + 1) := by simp; omega
  rw [e, List.range_add, List.map_append, List.range_succ (n := a.length), List.map_append]
  simp only [List.map_cons, List.map_nil, List.dropLast_concat, List.map_map]
  congr 1
  · apply List.map_congr_left
    intro i hi
    simp at hi
    rw [List.take_append_of_le_length (by omega)]
  · apply List.map_congr_left
    intro j _
    simp only [Function.comp]
    rw [List.take_length_add_append, body_append]
    simp; omega

theorem InvDC.finishWithSuffix {rb : RefBuilder} (h : InvDC rb.done rb.cur) {sfx n : DName} (hs : ValidName sfx)
    (hr : rb.finishWithSuffix sfx = .ok n) : ValidName n := by
  simp only [RefBuilder.finishWithSuffix, List.isEmpty_iff] at hr
  split at hr
  · cases hr
  · rename_i hc
    split at hr
    · cases hr
    · cases hr; exact ⟨LabelsOK_append.mpr ⟨h.snoc hc, hs.1⟩, by omega⟩

theorem finishWithSuffix_ref (rb : RefBuilder) (hinv : InvDC rb.done rb.cur) (sfx : DName) (hs : ValidName sfx) :
    (stateOf rb.done rb.cur).finishWithSuffix (toWire sfx) = match rb.finishWithSuffix sfx with
      | .ok n => .ok ⟨toWire n, offsetsList n⟩
      | .error e => .err (errOf e) := by
  obtain ⟨done, cur⟩ := rb
  simp only [RefBuilder.finishWithSuffix, List.isEmpty_iff]
  have hq : (stateOf done cur).isFullyQualified = decide (cur = []) := by
    cases cur <;> simp [Builder.isFullyQualified, stateOf]
  unfold Builder.finishWithSuffix
  rw [hq]
  by_cases hc : cur = []
  · simp [hc, errOf]
  · have hpos : 0 < cur.length := List.length_pos_iff.mpr hc
    simp only [hc, decide_false, Bool.false_eq_true, ↓reduceIte]
    have hup : (stateOf done cur).updateLabelLen = some (body (done ++ [cur])) := by
      unfold Builder.updateLabelLen
      have : (stateOf done cur).labelStart < (stateOf done cur).wire.length := by simp [stateOf]
      rw [if_pos this]
      simp only [stateOf]
      rw [List.set_append_right _ _ (by omega)]
      simp
    rw [hup]
    simp only
    rw [labelsOf_toWire sfx hs.1, pushSuffixLabels_eq, labelOffsets_toWire sfx hs.1]
    have hwl : (body (done ++ [cur])).length + wireLength sfx = wireLength (done ++ [cur] ++ sfx) := by
      rw [wireLength_append]
    rw [hwl]
    by_cases hsz : wireLength (done ++ [cur] ++ sfx) > 255
    · have : ¬ wireLength (done ++ [cur] ++ sfx) ≤ 255 := by omega
      rw [if_neg this, if_pos hsz]; rfl
    · have hle : wireLength (done ++ [cur] ++ sfx) ≤ 255 := by omega
      rw [if_pos hle, if_neg hsz]
      have hok : LabelsOK (done ++ [cur] ++ sfx) := LabelsOK_append.mpr ⟨hinv.snoc hc, hs.1⟩
      have h2 := two_mul_length_le_body _ hok
      have hbl : (body (done ++ [cur] ++ sfx)).length + 1 = wireLength (done ++ [cur] ++ sfx) := by
        rw [← toWire_length, toWire_eq]; simp only [List.length_append, List.length_cons, List.length_nil]
      have hB : (body (done ++ [cur] ++ sfx)).length = (body done).length + (cur.length + 1) + (body sfx).length := by
        simp only [body_append, List.length_append, body_cons, body_nil, List.length_cons, List.append_nil]
      have hL : (done ++ [cur] ++ sfx).length = done.length + 1 + sfx.length := by simp; omega
      have hW : (body (done ++ [cur])).length = (body done).length + (cur.length + 1) := by
        simp only [body_append, List.length_append, body_cons, body_nil, List.length_cons, List.append_nil]
      simp only
      rw [pushSuffixOffsets_eq]
      · simp only [stateOf]
        rw [offsetsList_append (done ++ [cur]) sfx, offsetsList_snoc, List.dropLast_concat, toWire_eq, toWire_eq]
        simp only [body_append, List.append_assoc]
      · intro o ho
        simp only [offsetsList, List.mem_map, List.mem_range] at ho
        obtain ⟨i, _, rfl⟩ := ho
        have := body_take_length_le sfx i
        rw [hW]
        omega
      · simp only [stateOf, offsetsList, List.length_map, List.length_range]
        omega

end QV.Name
