/-
  QV.Proofs.FinishTsig — `Writer.finish` read backwards, in every compression mode, with a pending
  TSIG record:

      finished message = octets below the cursor (four counts patched)
                         ++ OPT record             (iff the EDNS slot is set)
                         ++ TSIG record            (iff the TSIG slot is set)

  where the TSIG record is  owner ++ TYPE 250 ++ CLASS 255 ++ TTL 0 ++ RDLENGTH ++ RDATA  with the
  RDATA of RFC 8945 §4.2 built from the recorded `TsigRr` and the MAC `macFn ts m`, `m` being exactly
  the octets that precede the TSIG record in the finished message; `owner` is what
  `write_hinted_name(Hint::None, key_name)` wrote — the key name literally, or (compression enabled)
  a literal prefix of it followed by a pointer (`nameEnc_none_shape`).

  Nothing is assumed about the state except that `finish` succeeds and that the cursor is past the
  header (`12 ≤ s.cursor`); there is no layout or mode hypothesis (`finish_octets`; `finish_octets_tsig` with a
  pending TSIG record). `finish_bytes` is the instance in `Disabled` mode over a layout `Lay` (C12 (d), model side).
-/
import QV.Proofs.FinishInv
import QV.Proofs.WriterFinish

namespace QV.Writer
open QV QV.Wire

/-! ### appended octets, read off the buffer -/

theorem appB_of_ext {s s' : State} (e : Ext s s') (hsz : s'.cursor ≤ s'.octets.size) :
    AppB s s' (s'.octets.extract s.cursor s'.cursor).toList := by
  have hc := e.cur
  have hl : (s'.octets.extract s.cursor s'.cursor).toList.length = s'.cursor - s.cursor := by
    simp only [Array.length_toList, Array.size_extract]; omega
  refine ⟨by rw [hl]; omega, ?_, e.pre, e.mode⟩
  intro i hi
  rw [hl] at hi
  rw [Array.getElem?_toList, Array.getElem?_extract]
  rw [if_pos (by omega)]

theorem AppB.size_le {s s' : State} {d : List UInt8} (_ : AppB s s' d) : True := trivial

/-- what `write_hinted_name(hint, n)` appended when it was called in state `s` (with the ghost
    context set to `owner`, as `add_rr` does) -/
def NameEnc (s : State) (hint : Hint) (n : WName) (oe : List UInt8) : Prop :=
  ∃ p s1, writeHintedName hint n { s with gCtx := .owner } = (.ok p, s1) ∧
    oe = (s1.octets.extract s.cursor s1.cursor).toList

/-- three adjacent blocks, the last written before the middle one -/
theorem bytesAt_blocks {o : Bytes} {c : Nat} {F L R : List UInt8} (hz : c + F.length + L.length + R.length ≤ o.size) :
    BytesAt (writeAt (writeAt (writeAt o c F) (c + F.length + L.length) R) (c + F.length) L) c (F ++ (L ++ R)) := by
  refine bytesAt_append_intro ?_ (bytesAt_append_intro (bytesAt_writeAt _ _ _ (by simp only [writeAt_size]; omega)) ?_)
  · refine bytesAt_frame (bytesAt_writeAt o c F (by omega)) fun i _ h2 => ?_
    rw [writeAt_get_lt _ _ _ _ (by omega), writeAt_get_lt _ _ _ _ (by omega)]
  · refine bytesAt_frame (bytesAt_writeAt (writeAt o c F) (c + F.length + L.length) R
      (by simp only [writeAt_size]; omega)) fun i h1 _ => ?_
    exact writeAt_get_ge _ _ _ _ h1

/-- **one record without names in its RDATA, any compression mode**: on success `add_rr` has appended
    the owner as `write_hinted_name` encoded it, TYPE, CLASS, TTL, RDLENGTH and the RDATA verbatim -/
theorem appB_addRr_plain (hint : Hint) (owner : WName) (ty cls ttl : Nat) (rd : List UInt8)
    (hty : componentTypes cls ty = some []) (s s' : State) (u : Unit)
    (h : addRr hint owner ty cls ttl rd s = (.ok u, s')) :
    ∃ oe, NameEnc s hint owner oe ∧
      AppB s s' (oe ++ (u16be ty ++ u16be cls ++ u32be ttl ++ u16be (rd.length % 65536) ++ rd)) ∧
      s'.octets.size = s.octets.size ∧ s'.cursor ≤ s'.octets.size := by
  obtain ⟨p, sB, sR, hB, a4, z4, hR, cR, zR, rfl⟩ := addRr_eq_ok.mp h
  have x1 : Ext { s with gCtx := .owner } sB := by
    have := frame_writeHintedName hint owner { s with gCtx := .owner }; rw [hB] at this; exact this
  have a1 := appB_of_ext x1 (by omega)
  -- the RDATA is pushed verbatim (or is empty)
  obtain ⟨oR, cR', mR, zR'⟩ : sR.octets = writeAt (rdStart sB p ty cls ttl).octets (sB.cursor + 10) rd ∧
      sR.cursor = sB.cursor + 10 + rd.length ∧ sR.mode = sB.mode ∧ sB.cursor + 10 + rd.length ≤ sB.octets.size := by
    rcases (writeRdata_nil_eq_ok hty).mp hR with ⟨rfl, rfl⟩ | ⟨_, _, z, rfl⟩
    · exact ⟨rfl, rfl, rfl, by simpa [rdStart_octets] using zR⟩
    · rw [rdStart_cursor, rdStart_octets, writeAt_size] at z
      exact ⟨by rw [← rdStart_cursor sB p ty cls ttl]; rfl, by rw [pushed_cursor, rdStart_cursor], rfl, z⟩
  rw [rdStart_octets] at oR
  -- the fixed fields and RDLENGTH as opaque lists of eight and two octets
  generalize hF : fixedFields ty cls ttl = F at oR
  have lF : F.length = 8 := by rw [← hF]; exact fixedFields_length ..
  rw [show (sR.cursor - (sB.cursor + 10)) % 65536 = rd.length % 65536 by rw [cR']; congr 1; omega]
  generalize hL : u16be (rd.length % 65536) = L
  have lL : L.length = 2 := by rw [← hL]; rfl
  have a2 : AppB sB { sR with octets := writeAt sR.octets (sB.cursor + 8) L } (F ++ (L ++ rd)) := by
    refine ⟨by show sR.cursor = _; simp only [List.length_append, lF, lL]; omega, ?_, fun i hi => ?_, mR⟩
    · show BytesAt (writeAt sR.octets _ L) _ _
      rw [oR, show sB.cursor + 10 = sB.cursor + F.length + L.length by omega,
        show sB.cursor + 8 = sB.cursor + F.length by omega]
      exact bytesAt_blocks (by omega)
    · show (writeAt sR.octets _ L)[i]? = _
      rw [oR, writeAt_get_lt _ _ _ _ (by omega), writeAt_get_lt _ _ _ _ (by omega), writeAt_get_lt _ _ _ _ hi]
  refine ⟨_, ⟨p, sB, hB, rfl⟩, ?_, ?_, ?_⟩
  · have := AppB.trans (a := s) ⟨a1.cur, a1.bytes, a1.pre, a1.mode⟩ a2
    rw [← hF, fixedFields_eq] at this
    simpa only [List.append_assoc] using this
  · show (writeAt sR.octets _ L).size = _
    rw [oR, writeAt_size, writeAt_size, writeAt_size]; exact x1.size
  · show sR.cursor ≤ (writeAt sR.octets _ L).size
    rw [oR, writeAt_size, writeAt_size, writeAt_size, cR']; exact zR'

/-! ### what `write_hinted_name` appends -/

theorem extract_writeAt_self (a : Bytes) (c : Nat) (d : List UInt8) (h : c + d.length ≤ a.size) :
    ((writeAt a c d).extract c (c + d.length)).toList = d :=
  bytesAt_extract (bytesAt_writeAt a c d h)

/-- the three shapes of a name on the wire: literal; a pointer; a literal prefix of the labels and a
    pointer (RFC 1035 §4.1.4) -/
inductive NameShape (n : WName) : List UInt8 → Prop
  | literal : NameShape n n.wire
  | pointer (pp : Nat) : NameShape n (u16be (49152 + pp))
  | prefixPointer (k pp : Nat) (hk : k < n.len) :
      NameShape n ((n.labels.take k).flatMap WName.encLabel ++ u16be (49152 + pp))

theorem writeCompressedUnhintedName_shape {n : WName} {s s1 : State} {p : Option Prior}
    (h : writeCompressedUnhintedName n s = (.ok p, s1)) :
    NameShape n (s1.octets.extract s.cursor s1.cursor).toList := by
  unfold writeCompressedUnhintedName at h
  rw [M.gets_bind, M.gets_bind] at h
  have hl2 : ∀ x, (u16be x).length = 2 := fun _ => rfl
  rcases hdec : compressDecision s.octets s.mode (s.mostRecentOwner.orElse fun _ => s.qname) s.mostRecentNameInRdata n
    with (_ | m) | e | _ <;> simp only [hdec] at h
  · obtain ⟨_, h3, _, rfl⟩ := writeUncompressedName_eq_ok.mp h
    show NameShape n ((writeAt s.octets s.cursor n.wire).extract s.cursor (s.cursor + n.wire.length)).toList
    rw [extract_writeAt_self _ _ _ h3]
    exact .literal
  · have hcol : m.startColumn < n.labels.length := compressDecision_col hdec
    split at h
    · obtain ⟨_, sx, hp, h⟩ := M.bind_eq_ok.mp h
      cases h
      obtain ⟨_, h3, rfl⟩ := pushPointer_eq_ok.mp hp
      show NameShape n ((writeAt s.octets s.cursor (u16be (49152 + m.priorPointer))).extract s.cursor
        (s.cursor + (u16be (49152 + m.priorPointer)).length)).toList
      rw [extract_writeAt_self _ _ _ (by rw [hl2]; exact h3)]
      exact .pointer _
    · obtain ⟨_, sx, ht, h⟩ := M.bind_eq_ok.mp h
      obtain ⟨_, r2, rfl⟩ := tryPush_eq_ok.mp ht
      obtain ⟨_, _, hg, h⟩ := M.bind_eq_ok.mp h
      cases hg
      obtain ⟨_, sy, hp, h⟩ := M.bind_eq_ok.mp h
      cases h
      obtain ⟨_, h3, rfl⟩ := pushPointer_eq_ok.mp hp
      have hb := bytesAt_two s.octets s.cursor (n.wireTo m.startColumn) (u16be (49152 + m.priorPointer))
        (by rw [hl2]; simpa only [pushed, writeAt_size] using h3)
      have := bytesAt_extract hb
      rw [List.length_append, hl2, ← Nat.add_assoc] at this
      show NameShape n ((writeAt (writeAt s.octets s.cursor (n.wireTo m.startColumn))
        (s.cursor + (n.wireTo m.startColumn).length) (u16be (49152 + m.priorPointer))).extract s.cursor
        (s.cursor + (n.wireTo m.startColumn).length + 2)).toList
      rw [this]
      by_cases hk : m.startColumn ≥ n.len
      · exact absurd hcol (by unfold WName.len at hk; omega)
      · unfold WName.wireTo
        rw [if_neg hk]
        exact .prefixPointer _ _ (by omega)
  · cases h
  · cases h

theorem nameEnc_literal {s : State} {hint : Hint} {n : WName} {oe : List UInt8}
    (hm : s.mode = .disabled ∨ n.wire.length ≤ 2) (h : NameEnc s hint n oe) : oe = n.wire := by
  obtain ⟨p, s1, h1, rfl⟩ := h
  rw [writeHintedName_literal hint n { s with gCtx := .owner } hm] at h1
  obtain ⟨_, k3, _, rfl⟩ := writeUncompressedName_eq_ok.mp h1
  exact extract_writeAt_self _ _ _ k3

theorem nameEnc_none_shape {s : State} {n : WName} {oe : List UInt8} (h : NameEnc s .none n oe) :
    NameShape n oe := by
  by_cases hm : s.mode = .disabled ∨ n.wire.length ≤ 2
  · rw [nameEnc_literal hm h]; exact .literal
  · obtain ⟨p, s1, h1, rfl⟩ := h
    unfold writeHintedName at h1
    rw [bind_ok (M.gets_apply _ _), if_neg hm] at h1
    split at h1
    · exact writeCompressedUnhintedName_shape (s := { s with gCtx := .owner }) h1
    · simp only at h1
      exact writeCompressedUnhintedName_shape (s := { s with gCtx := .owner }) h1

/-! ### the three parts of `finish_with_mac` -/

/-- the OPT record, in every mode (its owner is the root: never compressed) -/
theorem appB_finishOpt_any (edns : Option Edns) (s s' : State) (h : finishOpt edns s = (.ok (), s')) :
    AppB s s' (optEnc edns) ∧ s'.octets.size = s.octets.size ∧ s'.tsig = s.tsig := by
  rcases finishOpt_ok_inv h with ⟨rfl, hs⟩ | ⟨e, rfl, ha⟩
  · rw [hs]; exact ⟨AppB.refl s, rfl, rfl⟩
  · have hx := frame_addRr .none WName.root T_OPT e.payload ((e.upper * 16777216) % 4294967296) []
      { s with available := s.available + Gen.OPT_RECORD_SIZE }
    rw [ha] at hx
    obtain ⟨oe, hoe, a, hz, _⟩ := appB_addRr_plain .none WName.root T_OPT e.payload
      ((e.upper * 16777216) % 4294967296) [] (by rw [T_OPT_eq]; exact componentTypes_opt41 _) _ _ _ ha
    have : oe = WName.root.wire := nameEnc_literal (Or.inr (by rw [root_wire]; decide)) hoe
    subst this
    refine ⟨?_, hz, hx.tsig⟩
    unfold optEnc encRR
    have hl : ([] : List UInt8).length % 65536 = 0 := rfl
    rw [hl] at a
    have e0 : ([] : List UInt8).length % 65536 = 0 := rfl
    simp only [List.append_assoc, e0] at a ⊢
    exact ⟨a.cur, a.bytes, a.pre, a.mode⟩

theorem T_TSIG_eq : T_TSIG = 250 := by decide

/-- the TSIG record `finish` appends, with `oe` the encoding of the owner -/
def tsigRecordOctets (oe : List UInt8) (ts : Tsig) (mac : Option (List UInt8)) : List UInt8 :=
  oe ++ (u16be T_TSIG ++ u16be QC_ANY ++ u32be (ttlFrom 0) ++
    u16be ((tsigRdata ts.rr (tsigAlgName ts.mode) (mac.getD [])).length % 65536) ++
    tsigRdata ts.rr (tsigAlgName ts.mode) (mac.getD []))

theorem appB_finishTsig_any (macFn : Tsig → List UInt8 → List UInt8) (ts : Tsig) (s s' : State)
    (r : Nat × Option (List UInt8)) (h : finishTsig macFn (some ts) s = (.ok r, s')) :
    ∃ oe, NameEnc { s with tsig := none, available := s.available + ts.reservedLen } .none ts.rr.keyName oe ∧
      s.cursor ≤ s.octets.size ∧
      r.2 = finishMac macFn ts (s.octets.extract 0 s.cursor).toList ∧
      AppB s s' (tsigRecordOctets oe ts r.2) ∧ r.1 = s'.cursor ∧ s'.octets.size = s.octets.size ∧
      s'.cursor ≤ s'.octets.size := by
  obtain ⟨len, mac⟩ := r
  rcases finishTsig_ok_inv h with ⟨hn, _⟩ | ⟨ts', hts', hc, hmac, hlen, ha⟩
  · cases hn
  · cases hts'
    obtain ⟨oe, hoe, a, hz, hcz⟩ := appB_addRr_plain .none ts.rr.keyName T_TSIG QC_ANY (ttlFrom 0) _
      (componentTypes_tsig _) _ _ _ ha
    exact ⟨oe, hoe, hc, hmac, ⟨a.cur, a.bytes, a.pre, a.mode⟩, hlen, hz, hcz⟩

/-! ### `finish` -/

/-- the octets below the cursor with the four counts patched in -/
def finishPrefix (s : State) : List UInt8 :=
  s.octets.toList.take 4 ++ (u16be s.qdcount ++ u16be s.ancount ++ u16be s.nscount ++ u16be s.arcount) ++
    (s.octets.extract 12 s.cursor).toList

theorem finishPrefix_length (s : State) (h12 : 12 ≤ s.cursor) (hc : s.cursor ≤ s.octets.size) :
    (finishPrefix s).length = s.cursor := by
  have hl8 : (u16be s.qdcount ++ u16be s.ancount ++ u16be s.nscount ++ u16be s.arcount).length = 8 := rfl
  simp only [finishPrefix, List.length_append, hl8, List.length_take, Array.length_toList, Array.size_extract]
  omega

theorem bytesAt_self_extract (oct : Bytes) (a b : Nat) : BytesAt oct a (oct.extract a b).toList := by
  intro i hi
  simp only [Array.length_toList, Array.size_extract] at hi
  rw [Array.getElem?_toList, Array.getElem?_extract, if_pos (by omega)]

/-- **`finish` read backwards, every compression mode.** If `finish` succeeds on a writer whose cursor is past
    the header, the finished message is `finishPrefix s ++ OPT ++ TSIG`: the OPT record iff the EDNS slot is set,
    the TSIG record iff the TSIG slot holds some `ts` (without one, the cursor is assumed to lie in the buffer); then the MAC is `macFn ts` of exactly the octets before
    the TSIG record (none in `Unsigned` mode), the record's owner is what `write_hinted_name(None, key_name)`
    wrote in the state `sT` that holds exactly those octets, and its RDATA is `tsigRdata` of the recorded RR. -/
theorem finish_octets (macFn : Tsig → List UInt8 → List UInt8) (s : State) (hc12 : 12 ≤ s.cursor)
    (hcz0 : s.tsig = none → s.cursor ≤ s.octets.size) (m : Bytes) (mac : Option (List UInt8)) (hf : finish s macFn = .ok (m, mac)) :
    s.cursor ≤ s.octets.size ∧
    match s.tsig with
    | none => mac = none ∧ m.toList = finishPrefix s ++ optEnc s.edns
    | some ts =>
      mac = finishMac macFn ts (finishPrefix s ++ optEnc s.edns) ∧
      ∃ oe sT, NameEnc sT .none ts.rr.keyName oe ∧ sT.mode = s.mode ∧
        (sT.octets.extract 0 sT.cursor).toList = finishPrefix s ++ optEnc s.edns ∧
        sT.cursor = (finishPrefix s ++ optEnc s.edns).length ∧
        m.toList = finishPrefix s ++ optEnc s.edns ++ tsigRecordOctets oe ts mac := by
  obtain ⟨len, sF, hw, hm⟩ := finish_eq_ok.mp hf
  replace hm := hm.symm
  obtain ⟨ksz, s1, ho, hw⟩ := finishWithMac_eq_ok.mp hw
  -- `sA`: the state with the counts written
  have kpre := withCounts_getElem? s
  have kcnt := withCounts_counts s ksz
  have zA := withCounts_size s
  generalize hsA : ({ s with octets := withCounts s } : State) = sA at ho
  rw [show withCounts s = sA.octets by rw [← hsA]] at kpre kcnt zA
  have kcur : sA.cursor = s.cursor := by rw [← hsA]
  have kmode : sA.mode = s.mode := by rw [← hsA]
  obtain ⟨a1, z1, t1⟩ := appB_finishOpt_any s.edns sA s1 ho
  have hl : ∀ x, (u16be x).length = 2 := fun _ => rfl
  have hlen8 : (u16be s.qdcount ++ u16be s.ancount ++ u16be s.nscount ++ u16be s.arcount).length = 8 := rfl
  have hlen4 : (s.octets.toList.take 4).length = 4 := by simp; omega
  -- with a TSIG record to append, `finish` checks that the cursor lies in the buffer
  have hcz : s.cursor ≤ s.octets.size := by
    rcases finishTsig_ok_inv hw with ⟨hn, _⟩ | ⟨_, _, hcz1, _⟩
    · exact hcz0 hn
    · have := a1.cur
      rw [← zA, ← z1, ← kcur]; omega
  -- the prefix as it stands in `s1`
  have q1 : BytesAt s1.octets 0 (s.octets.toList.take 4) := by
    intro i hi
    rw [hlen4] at hi
    rw [Nat.zero_add, a1.pre i (by omega), kpre i (Or.inl (by omega)), List.getElem?_take]
    simp [show i < 4 by omega]
  have q2 : BytesAt s1.octets 4 (u16be s.qdcount ++ u16be s.ancount ++ u16be s.nscount ++
      u16be s.arcount) := by
    intro i hi
    rw [hlen8] at hi
    rw [a1.pre _ (by omega)]
    exact kcnt i (by rw [hlen8]; exact hi)
  have q3len : (s.octets.extract 12 s.cursor).toList.length = s.cursor - 12 := by
    simp only [Array.length_toList, Array.size_extract]; omega
  have q3 : BytesAt s1.octets 12 (s.octets.extract 12 s.cursor).toList := by
    intro i hi
    rw [q3len] at hi
    rw [a1.pre _ (by omega), kpre _ (Or.inr (by omega))]
    exact bytesAt_self_extract s.octets 12 s.cursor i (by rw [q3len]; exact hi)
  have hpl := finishPrefix_length s hc12 hcz
  have qP : BytesAt s1.octets 0 (finishPrefix s) := by
    unfold finishPrefix
    exact bytesAt_append_intro (bytesAt_append_intro q1 (by rw [hlen4]; exact q2))
      (by rw [List.length_append, hlen4, hlen8]; exact q3)
  have qPO : BytesAt s1.octets 0 (finishPrefix s ++ optEnc s.edns) :=
    bytesAt_append_intro qP (by rw [hpl, Nat.zero_add, ← kcur]; exact a1.bytes)
  have hc1 : s1.cursor = (finishPrefix s ++ optEnc s.edns).length := by
    rw [a1.cur, kcur, List.length_append, hpl]
  have e1 : (s1.octets.extract 0 s1.cursor).toList = finishPrefix s ++ optEnc s.edns := by
    have := bytesAt_extract qPO
    rw [Nat.zero_add, ← hc1] at this
    exact this
  refine ⟨hcz, ?_⟩
  cases hts : s.tsig with
  | none =>
    rw [hts] at hw
    simp only [finishTsig, M.bind_apply, M.gets_apply, M.pure_apply] at hw
    cases hw
    exact ⟨rfl, by rw [← hm, e1]⟩
  | some ts =>
    rw [hts] at hw
    obtain ⟨oe, hoe, hcz1, hmacE, a2, hlen, z2, hczF⟩ := appB_finishTsig_any macFn ts s1 sF (len, mac) hw
    simp only at hmacE a2 hlen
    refine ⟨by rw [hmacE, e1], oe, _, hoe, by show s1.mode = s.mode; rw [a1.mode, kmode], e1, hc1, ?_⟩
    have qF : BytesAt sF.octets 0 ((finishPrefix s ++ optEnc s.edns) ++ tsigRecordOctets oe ts mac) := by
      refine bytesAt_append_intro ?_ (by rw [Nat.zero_add, ← hc1]; exact a2.bytes)
      intro i hi
      rw [← hc1] at hi
      rw [Nat.zero_add, a2.pre i hi]
      have := qPO i (by rw [← hc1]; exact hi)
      rw [Nat.zero_add] at this
      exact this
    have := bytesAt_extract qF
    rw [Nat.zero_add] at this
    rw [← hm, hlen, a2.cur, hc1, ← List.length_append]
    exact this

/-- … with a pending TSIG record -/
theorem finish_octets_tsig (macFn : Tsig → List UInt8 → List UInt8) (s : State) (hc12 : 12 ≤ s.cursor)
    (ts : Tsig) (hts : s.tsig = some ts)
    (m : Bytes) (mac : Option (List UInt8)) (hf : finish s macFn = .ok (m, mac)) :
    s.cursor ≤ s.octets.size ∧
    mac = finishMac macFn ts (finishPrefix s ++ optEnc s.edns) ∧
    ∃ oe sT, NameEnc sT .none ts.rr.keyName oe ∧ sT.mode = s.mode ∧
      (sT.octets.extract 0 sT.cursor).toList = finishPrefix s ++ optEnc s.edns ∧
      sT.cursor = (finishPrefix s ++ optEnc s.edns).length ∧
      m.toList = finishPrefix s ++ optEnc s.edns ++ tsigRecordOctets oe ts mac := by
  have h := finish_octets macFn s hc12 (fun hn => by rw [hts] at hn; cases hn) m mac hf
  rw [hts] at h
  exact h

/-- **C12 (d), model side.** In `Disabled` mode the finished message is: the first four header
    octets as set, the four counts, the canonical encoding of the questions and records of the
    calls that succeeded, then the OPT record and the TSIG record. -/
theorem finish_bytes (macFn : Tsig → List UInt8 → List UInt8) (s : State) (b : Body) (h : Lay s b)
    (m : Bytes) (mac : Option (List UInt8)) (hf : finish s macFn = .ok (m, mac)) :
    m.toList = s.octets.toList.take 4 ++ (u16be s.qdcount ++ u16be s.ancount ++ u16be s.nscount ++
      u16be s.arcount) ++ b.enc ++ (optEnc s.edns ++ tsigEncOpt s.tsig mac) ∧
    (mac = none ∨ ∃ ts msg, s.tsig = some ts ∧ mac = some (macFn ts msg)) := by
  obtain ⟨_, _, hw, _⟩ := finish_eq_ok.mp hf
  have hcz : s.cursor ≤ s.octets.size := by
    rw [h.cur]
    rcases Nat.eq_zero_or_pos b.enc.length with h0 | hp
    · have := (finishWithMac_eq_ok.mp hw).1; omega
    · have := bytesAt_lt h.bytes (i := b.enc.length - 1) (by omega); omega
  obtain ⟨_, hT⟩ := finish_octets macFn s (by rw [h.cur]; omega) (fun _ => hcz) m mac hf
  -- the body is what lies between the header and the cursor
  have hP : finishPrefix s = s.octets.toList.take 4 ++ (u16be s.qdcount ++ u16be s.ancount ++ u16be s.nscount ++
      u16be s.arcount) ++ b.enc := by
    have := bytesAt_extract h.bytes
    rw [← h.cur] at this
    rw [finishPrefix, this]
  cases hts : s.tsig with
  | none =>
    rw [hts] at hT
    exact ⟨by rw [hT.2, hP, tsigEncOpt, List.append_nil], Or.inl hT.1⟩
  | some ts =>
    rw [hts] at hT
    obtain ⟨hmac, oe, sT, hoe, hmode, _, _, hm⟩ := hT
    -- nothing is compressed: the owner of the TSIG record is the key name as it stands
    obtain rfl : oe = ts.rr.keyName.wire := nameEnc_literal (Or.inl (by rw [hmode]; exact h.mode)) hoe
    refine ⟨by rw [hm, hP]; simp only [tsigEncOpt, tsigRecordOctets, tsigEnc, encRR, List.append_assoc], ?_⟩
    rw [hmac]; unfold finishMac
    cases ts.mode with
    | unsigned _ => exact .inl rfl
    | request _ _ => exact .inr ⟨_, _, rfl, rfl⟩
    | response _ _ _ => exact .inr ⟨_, _, rfl, rfl⟩
    | subsequent _ _ _ => exact .inr ⟨_, _, rfl, rfl⟩

end QV.Writer
