/-
  QV.Proofs.ServerSignedPlain — "answered normally" for answered requests (C10 row 3), the two runs.
  What C10 uses (through `compare_core`, Proofs/ServerSignedCompare.lean): `plain_answer_run` — the request
  without its TSIG record, under the audit's guard `plainComparable`, is answered by `handle_query` run on
  *the same scan state* as the signed request's pre-TSIG state (same ID, opcode, RD, question, EDNS state
  and UDP limit; the analogue of `plain_nodata_of_comparable` in Proofs/AuditPlain.lean for the verdict
  `answer`) — and `twin_view` — under the guards of the comparison clause two runs of
  `handle_non_axfr_query` from twin start states (`Twin`, Proofs/ServerAnswerTwoRunI.lean) show the same
  view, and leave twins when the plain answering logic succeeded; `twin_withTsig`: reserving the TSIG slot
  makes a twin.
  Standing for themselves: `signed_handler_eq_plain` (`twin_view` at the scan state and the scan state with
  the slot reserved) and `signed_handler_eq_plain_allok` (the case in which the plain run accepted every
  call: same log, without the writer fact `ScratchIndepI`).
-/
import QV.Proofs.AuditPlain
import QV.Proofs.ServerSignedTable
import QV.Proofs.ServerAnswerFields
import QV.Proofs.ServerAnswerMono
import QV.Proofs.ServerAnswerTwoRun
import QV.Proofs.ServerAnswerTwoRunI

namespace QV.ServerContent
open QV QV.Wire QV.Reader QV.Writer QV.Server QV.ServerSafety QV.ServerScan QV.ServerAnswer QV.Spec QV.ServerTsig
open QV.Spec.Server QV.Spec.ServerTsig

theorem hdr_of_getD (a b : Bytes) (i : Nat) (h0 : a.getD i 0 = b.getD i 0) (h1 : a.getD (i + 1) 0 = b.getD (i + 1) 0) :
    Spec.Server.hdr a i = Spec.Server.hdr b i := by
  unfold Spec.Server.hdr; rw [h0, h1]

/-- **the plain run**: under `plainComparable`, when the decision table after the TSIG record says "a
    loaded zone answers", the request without its TSIG record is answered by `handle_query` on the scan
    state of the signed request (before the TSIG step), for the same question -/
theorem plain_answer_run (cfg : Cfg) (cat : List ZoneCfg) (tr : Transport) (now : Nat)
    (req : Bytes) (hpay : 512 ≤ cfg.payload) (hp16 : cfg.payload ≤ 65535) (hreq : req.size ≤ Rdata.USIZE_MAX)
    (d : Delim) (hfind : findTsig req = some d) (h12 : 12 ≤ d.pos)
    (hdsz : d.pos ≤ req.size) (hnext : d.pos ≤ d.next) (hnsz : d.next ≤ req.size)
    (iq : (specScan cat cfg.payload req).question = (specScanWith (catKind cfg) cfg.payload req).question)
    (ie : (specScan cat cfg.payload req).edns = (specScanWith (catKind cfg) cfg.payload req).edns)
    (il : (specScan cat cfg.payload req).limitUdp = (specScanWith (catKind cfg) cfg.payload req).limitUdp)
    (hev : endVerdict (catKind cfg) req.size (specScanWith (catKind cfg) cfg.payload req).question d.next
      ((req.getD 2 0).toNat / 8 % 16) = .answer)
    (hcmp : plainComparable cat cfg.payload req = true)
    (hrq : (specScanWith (catKind cfg) cfg.payload req).respond = true) :
    ∃ p q qn, stripTsigRr req = some p ∧ (specScanWith (catKind cfg) cfg.payload req).question = some q ∧
      WName.parse q.qname = some (qn, []) ∧
      Server.handleMessage cfg tr now 65535 p =
        match (Server.handleQuery cfg (some (qn, q.qtype, q.qclass)) tr >>= fun _ => (pure true : M Bool))
            (scanState cfg tr 65535 req (Spec.Server.hdr req 0) (((req.getD 2 0).toNat &&& 120) >>> 3)
              (((req.getD 2 0).toNat &&& 1) != 0) q) with
        | (.ok true, w1) =>
          (match Writer.finish w1 Server.macFn with
           | .ok (bytes, _) => .ok (some bytes)
           | _ => .panic)
        | (.ok false, _) => .ok none
        | _ => .panic := by
  obtain ⟨p, hstrip, hp10, hpsz, hp12, hrP, hqP, heP, hlP, hvP⟩ :=
    plain_scan_of_comparable cfg cat req d hfind h12 hdsz hnext hnsz iq hcmp
  have hp2 := hp10 2 (by omega)
  rw [iq] at hqP
  rw [ie] at heP
  rw [il] at hlP
  rw [hev] at hvP
  -- the scan of `p` in `specBody` form
  have hqr : (p.getD 2 0).toNat < 128 := by
    by_cases hc : (p.getD 2 0).toNat ≥ 128
    · rw [specScanWith_eq] at hrP
      simp only [show ¬ p.size < 12 by omega, hc, if_false, if_true] at hrP; cases hrP
    · omega
  have hsb : specScanWith (catKind cfg) cfg.payload p = specBody (catKind cfg) cfg.payload p := by
    rw [specScanWith_eq]
    simp only [show ¬ p.size < 12 by omega, show ¬ (p.getD 2 0).toNat ≥ 128 by omega, if_false]
  rw [hsb] at hvP hqP heP hlP
  have hbuf : minBuf tr cfg.payload ≤ 65535 := by cases tr <;> simp only [minBuf] <;> omega
  obtain ⟨q, qn, nx, hq0, hsq, hqn, hqw, hwl, _, _, _, heq⟩ :=
    hwc_answer_state cfg tr now 65535 p hbuf hpay hp12 (Nat.le_trans hpsz hreq) (Spec.Server.hdr p 0)
      (((p.getD 2 0).toNat &&& 120) >>> 3) (((p.getD 2 0).toNat &&& 1) != 0) hvP
  refine ⟨p, q, qn, hstrip, by rw [← hqP, hq0], hqn, ?_⟩
  rw [handleMessage_eq cfg tr now 65535 p hbuf hpay hp12 hqr, heq]
  have hid : Spec.Server.hdr p 0 = Spec.Server.hdr req 0 := hdr_of_getD p req 0 (hp10 0 (by omega)) (hp10 1 (by omega))
  unfold scanState
  rw [heP, hlP, hid, hp2]
  have hsr : specScanWith (catKind cfg) cfg.payload req = specBody (catKind cfg) cfg.payload req :=
    (specScanWith_respond _ _ _ hrq).2.2
  rw [hsr]
  rfl

/-! ### the two runs coincide when the plain run accepted everything and fits -/

theorem setIfInBounds_same (a : Bytes) (i : Nat) (v : UInt8) (h : a.getD i 0 = v) :
    a.setIfInBounds i v = a := by
  apply Array.ext
  · simp
  · intro j h1 h2
    rw [Array.getElem_setIfInBounds]
    split
    · rename_i hij
      subst hij
      rw [← h, Array.getD_eq_getD_getElem?, Array.getElem?_eq_getElem h2]; rfl
    · rfl

/-- reserving the TSIG slot, as a change of the room, the slot and ARCOUNT -/
theorem lift_withTsig (s : State) (mode : TsigMode) (rr : TsigRr) (hR : reservedLen mode rr ≤ s.available) :
    lift (reservedLen mode rr) (withTsig s mode rr) =
      modS (s.limit + reservedLen mode rr) (some ⟨mode, reservedLen mode rr, rr⟩) s := by
  unfold modS lift withTsig
  simp only
  congr 1
  omega

/-- **more room changes nothing when everything was accepted and fits** (model level, for the
    answering logic): if the run on `s` accepts every call and its result still leaves `R` octets of
    room (and ARCOUNT below its maximum), the run on `withTsig s mode rr` — ARCOUNT + 1, `R` octets
    reserved, TSIG pending — makes the same calls with the same results: same log, and the final
    writers differ exactly by those three fields -/
theorem signed_run_eq_plain_run_allok (z : Zone.Zone) (qname : WName) (qtype : Nat) (s : State)
    (mode : TsigMode) (rr : TsigRr) (hR : reservedLen mode rr ≤ s.available) (pt : PS)
    (h : inner z qname qtype ⟨s, []⟩ = (.ok (), pt)) (hok : ∀ e ∈ pt.log, OkEv e)
    (hfit : pt.w.cursor + reservedLen mode rr ≤ s.available) (hcnt : pt.w.arcount + 1 ≤ 65535) :
    ∃ ps', inner z qname qtype ⟨withTsig s mode rr, []⟩ = (.ok (), ps') ∧ ps'.log = pt.log ∧
      lift (reservedLen mode rr) ps'.w =
        modS (s.limit + reservedLen mode rr) (some ⟨mode, reservedLen mode rr, rr⟩) pt.w := by
  obtain ⟨ps', h1, h2, h3, _⟩ := (Prog.inner' z qname qtype).twoPAt
    (callTwo_twin _ _ (reservedLen mode rr) (s.available - reservedLen mode rr))
    ⟨s, []⟩ (withTsig s mode rr) () pt ⟨lift_withTsig s mode rr hR, rfl⟩ h ⟨hok, by omega, by omega⟩ (fun hf => hf.elim)
  exact ⟨ps', h1, h2, h3⟩


theorem handle_of_inner_ok (z : Zone.Zone) (qname : WName) (qtype : Nat) (tr : Transport) (ps pt : PS)
    (h : inner z qname qtype ps = (.ok (), pt)) : handleNonAxfrQueryL z qname qtype tr ps = (.ok (), pt) := by
  have hin : (if qtype = QT "ANY" then answerAny z qname ps else Server.answer z qname qtype ps)
      = inner z qname qtype ps := by
    unfold inner; split <;> rfl
  unfold handleNonAxfrQueryL
  simp only [hin, h]

/-- the scan state already has RCODE 0 and extended-RCODE octet 0: `set_rcode(NOERROR)` changes nothing -/
theorem stRcode0_scanState (cfg : Cfg) (tr : Transport) (bufLen : Nat) (req : Bytes)
    (hbuf : minBuf tr cfg.payload ≤ bufLen) (hpay : 512 ≤ cfg.payload) (id opcode : Nat) (rd : Bool)
    (q : Spec.DQuestion) (nx : Nat) (hsq : Spec.specQuestionAt req 12 = some (q.qname, q.qtype, q.qclass, nx)) :
    stRcode 0 (scanState cfg tr bufLen req id opcode rd q) = scanState cfg tr bufLen req id opcode rd q := by
  have hq : ∀ x, (some q) = some x → ∃ nx, Spec.specQuestionAt req 12 = some (x.qname, x.qtype, x.qclass, nx) := by
    intro x hx; cases hx; exact ⟨nx, hsq⟩
  obtain ⟨hbase, _, _, _, _, h30, _⟩ := s1_facts bufLen tr cfg.payload id opcode rd hbuf hpay req (some q) hq
  obtain ⟨f1, _, _, _, _, _, _, f8⟩ := arSt_fields (qSt (hdrSt (w0 bufLen (lim0 tr)) id opcode rd) (some q)) tr cfg.payload
    (specBody (catKind cfg) cfg.payload req).edns (specBody (catKind cfg) cfg.payload req).limitUdp
  unfold scanState
  generalize arSt (qSt (hdrSt (w0 bufLen (lim0 tr)) id opcode rd) (some q)) tr cfg.payload
    (specBody (catKind cfg) cfg.payload req).edns (specBody (catKind cfg) cfg.payload req).limitUdp = S at f1 f8
  have h3 : S.octets.getD 3 0 = 0 := by rw [f1]; exact h30
  have ho : (stHdr 3 (fun b => (b &&& ~~~ (15 : UInt8)) ||| UInt8.ofNat 0) S) = S := by
    unfold stHdr
    rw [h3]
    have : (fun b : UInt8 => (b &&& ~~~ (15 : UInt8)) ||| UInt8.ofNat 0) 0 = 0 := by decide
    rw [this, setIfInBounds_same S.octets 3 0 h3]
  have hed : S.edns = none ∨ S.edns = some ⟨cfg.payload, 0⟩ := by
    rw [f8, hbase.edns]; cases (specBody (catKind cfg) cfg.payload req).edns <;> simp
  unfold stRcode
  simp only [ho]
  rcases hed with h | h
  · rw [h]
  · cases S with | mk a1 a2 a3 a4 a5 a6 a7 a8 a9 a10 a11 a12 a13 a14 a15 a16 a17 a18 a19 a20 =>
      simp only at h
      subst h
      rfl


/-- **model level: the signed run equals the plain run when the plain run accepted every call and
    its result leaves room for the TSIG record.**  `SS` is the scan state both requests share
    (`plain_answer_run`, `signed_answer_state_of_run`); the signed run starts from
    `withTsig (stRcode 0 SS) mode rr`.  If the answering logic on `SS` succeeds with every logged call
    accepted, ends with `reservedLen mode rr` octets to spare and ARCOUNT below its maximum, then
    `handle_non_axfr_query` logs exactly the same operations in both runs — hence the same view: RCODE,
    AA, TC and the three sections (`Proofs/ServerAnswerFields`: the run does not look at `limit`, the
    TSIG slot or ARCOUNT + 1; `inner_limit_independent`: nor at room it does not need). -/
theorem signed_handler_eq_plain_allok (cfg : Cfg) (tr : Transport) (bufLen : Nat) (req : Bytes)
    (hbuf : minBuf tr cfg.payload ≤ bufLen) (hpay : 512 ≤ cfg.payload) (id opcode : Nat) (rd : Bool)
    (q : Spec.DQuestion) (nx : Nat) (hsq : Spec.specQuestionAt req 12 = some (q.qname, q.qtype, q.qclass, nx))
    (z : Zone.Zone) (qn : WName) (mode : TsigMode) (rr : TsigRr)
    (hR : reservedLen mode rr ≤ (scanState cfg tr bufLen req id opcode rd q).available) (pt : PS)
    (h : inner z qn q.qtype ⟨scanState cfg tr bufLen req id opcode rd q, []⟩ = (.ok (), pt))
    (hok : ∀ e ∈ pt.log, OkEv e)
    (hfit : pt.w.cursor + reservedLen mode rr ≤ (scanState cfg tr bufLen req id opcode rd q).available)
    (hcnt : pt.w.arcount + 1 ≤ 65535) :
    (handleNonAxfrQueryL z qn q.qtype tr ⟨scanState cfg tr bufLen req id opcode rd q, []⟩).1 = .ok () ∧
    (handleNonAxfrQueryL z qn q.qtype tr
      ⟨withTsig (stRcode 0 (scanState cfg tr bufLen req id opcode rd q)) mode rr, []⟩).1 = .ok () ∧
    (handleNonAxfrQueryL z qn q.qtype tr
      ⟨withTsig (stRcode 0 (scanState cfg tr bufLen req id opcode rd q)) mode rr, []⟩).2.log =
      (handleNonAxfrQueryL z qn q.qtype tr ⟨scanState cfg tr bufLen req id opcode rd q, []⟩).2.log := by
  rw [stRcode0_scanState cfg tr bufLen req hbuf hpay id opcode rd q nx hsq]
  obtain ⟨ps', g1, g2, _⟩ := signed_run_eq_plain_run_allok z qn q.qtype _ mode rr hR pt h hok hfit hcnt
  rw [handle_of_inner_ok z qn q.qtype tr _ _ h, handle_of_inner_ok z qn q.qtype tr _ _ g1]
  exact ⟨rfl, rfl, g2⟩


/-! ### the plain run may have dropped optional calls, or failed: twin start states (with `ScratchIndepI` as a parameter) -/

/-- reserving the TSIG slot makes a twin -/
theorem twin_withTsig (s : State) (mode : TsigMode) (rr : TsigRr) (hR : reservedLen mode rr ≤ s.available) :
    Twin (s.limit + reservedLen mode rr) (some ⟨mode, reservedLen mode rr, rr⟩) (reservedLen mode rr)
      (withTsig s mode rr) s :=
  ⟨withTsig s mode rr, lift_withTsig s mode rr hR, Same.refl _, rfl⟩

/-- the view after `handle_non_axfr_query` when the answering logic failed and TC is not set:
    SERVFAIL, AA clear, no records -/
theorem view_handle_err (z : Zone.Zone) (qname : WName) (qtype : Nat) (tr : Transport) (w : State) (e : PErr)
    (pt : PS) (h : inner z qname qtype ⟨w, []⟩ = (.err e, pt))
    (hnp : (handleNonAxfrQueryL z qname qtype tr ⟨w, []⟩).1 ≠ .panic)
    (htc : (view (handleNonAxfrQueryL z qname qtype tr ⟨w, []⟩).2.log).tc = false) :
    view (handleNonAxfrQueryL z qname qtype tr ⟨w, []⟩).2.log =
      { rcode := 2, aa := false, tc := false, answer := [], authority := [], additional := [] } := by
  obtain ⟨hlog, _⟩ := handle_log_np z qname qtype tr ⟨w, []⟩ hnp
  obtain ⟨f1, _⟩ := view_inner_ok z qname qtype w _ pt h
  rw [hlog] at htc ⊢
  rw [h] at htc ⊢
  simp only at htc ⊢
  unfold view at htc f1 ⊢
  rw [List.foldl_append] at htc ⊢
  generalize pt.log.foldl View.step {} = v0 at htc f1 ⊢
  obtain ⟨rc, aa, tc, an, ns, ar⟩ := v0
  simp only at f1
  subst f1
  cases e with
  | servFail => simp [tailEvs, View.step, Resolve.SERVFAIL]
  | truncation =>
    by_cases htr : tr = Transport.tcp
    · simp [tailEvs, htr, View.step, Resolve.SERVFAIL]
    · simp [tailEvs, htr, View.step] at htc

/-- **the signed run shows the view of the plain run**, for any twin start states: `SS` satisfies the
    writer's invariant with a valid question hint, `A` is a twin of it.  Under the three
    guards of the comparison clause the two runs of `handle_non_axfr_query` show the same view, and when
    the plain answering logic succeeded, so did the signed one, with the same log, leaving twins. -/
theorem twin_view (hSI : ScratchIndepI) (z : Zone.Zone) (hz : ZoneOK z) (qn : WName) (hqwf : qn.WF) (qtype : Nat)
    (tr : Transport) (hsub : z.apex <:+ fold qn) (SS : State) (hiS : Writer.I SS)
    (hhS : HintOK Writer.Den SS .qname qn) {L : Nat} {T : Option Writer.Tsig} {R : Nat} (A : State)
    (hT : Twin L T R A SS)
    (hnpP : (handleNonAxfrQueryL z qn qtype tr ⟨SS, []⟩).1 ≠ .panic)
    (hnpS : (handleNonAxfrQueryL z qn qtype tr ⟨A, []⟩).1 ≠ .panic)
    (htcP : (view (handleNonAxfrQueryL z qn qtype tr ⟨SS, []⟩).2.log).tc = false)
    (htcS : (view (handleNonAxfrQueryL z qn qtype tr ⟨A, []⟩).2.log).tc = false)
    (hrc2 : (view (handleNonAxfrQueryL z qn qtype tr ⟨SS, []⟩).2.log).rcode = 2 →
      (view (handleNonAxfrQueryL z qn qtype tr ⟨A, []⟩).2.log).rcode = 2)
    (hfit : ∀ pt, inner z qn qtype ⟨SS, []⟩ = (.ok (), pt) →
      pt.w.cursor ≤ A.available ∧ pt.w.arcount + 1 ≤ 65535) :
    view (handleNonAxfrQueryL z qn qtype tr ⟨A, []⟩).2.log = view (handleNonAxfrQueryL z qn qtype tr ⟨SS, []⟩).2.log ∧
    (∀ pt, inner z qn qtype ⟨SS, []⟩ = (.ok (), pt) →
      handleNonAxfrQueryL z qn qtype tr ⟨SS, []⟩ = (.ok (), pt) ∧
      ∃ ps', handleNonAxfrQueryL z qn qtype tr ⟨A, []⟩ = (.ok (), ps') ∧ ps'.log = pt.log ∧ Twin L T R ps'.w pt.w) := by
  have hnpSi := (handle_log_np z qn qtype tr ⟨A, []⟩ hnpS).2
  have hok : ∀ pt, inner z qn qtype ⟨SS, []⟩ = (.ok (), pt) →
      handleNonAxfrQueryL z qn qtype tr ⟨SS, []⟩ = (.ok (), pt) ∧
      ∃ ps', handleNonAxfrQueryL z qn qtype tr ⟨A, []⟩ = (.ok (), ps') ∧ ps'.log = pt.log ∧ Twin L T R ps'.w pt.w := by
    intro pt h
    obtain ⟨hf1, hf2⟩ := hfit pt h
    obtain ⟨_, hM, hTwo⟩ := inner_safeX hSI z hz qn hqwf qtype hsub ⟨SS, []⟩ hiS hhS
    have hav : pt.w.available = SS.available := (hM () pt h).2.1
    obtain ⟨ps', g1, g2, g3⟩ := hTwo L T R A () pt hT h ⟨by have := hT.avail_hv.1; omega, hf2⟩ (fun _ => hnpSi)
    exact ⟨handle_of_inner_ok z qn qtype tr _ _ h, ps', handle_of_inner_ok z qn qtype tr _ _ g1, g2, g3⟩
  refine ⟨?_, hok⟩
  rcases hr : inner z qn qtype ⟨SS, []⟩ with ⟨(u | e | _), pt⟩
  · obtain ⟨k1, ps', k2, k3, _⟩ := hok pt hr
    rw [k1, k2]
    simp only
    rw [k3]
  · have vP := view_handle_err z qn qtype tr SS e pt hr hnpP htcP
    have hS2 := hrc2 (by rw [vP])
    rcases hrS : inner z qn qtype ⟨A, []⟩ with ⟨(u | e' | _), ptS⟩
    · have := view_inner_ok z qn qtype _ _ ptS hrS
      rw [handle_of_inner_ok z qn qtype tr _ _ hrS] at hS2
      simp only at hS2
      rw [hS2] at this
      rcases this.2 with h' | h' <;> cases h'
    · rw [vP, view_handle_err z qn qtype tr _ e' ptS hrS hnpS htcS]
    · rw [hrS] at hnpSi; exact absurd rfl hnpSi
  · have := (handle_log_np z qn qtype tr ⟨SS, []⟩ hnpP).2
    rw [hr] at this; exact absurd rfl this

/-- **model level: the signed run shows the same view as the plain run** — RCODE, AA, TC and the
    three sections — whenever neither response is truncated, the plain result (when the answering logic
    succeeds) leaves room for the TSIG record, and a plain SERVFAIL is a signed SERVFAIL (the three
    guards of the audit's comparison clause).  Modulo `ScratchIndepI`.  When the plain answering logic
    succeeded, so did the signed one, with the same log, and the final writers agree up to the room,
    the TSIG slot, ARCOUNT + 1 and the octets at and above the cursor. -/
theorem signed_handler_eq_plain (hSI : ScratchIndepI) (cfg : Cfg) (tr : Transport) (bufLen : Nat) (req : Bytes)
    (hbuf : minBuf tr cfg.payload ≤ bufLen) (hpay : 512 ≤ cfg.payload) (id opcode : Nat) (rd : Bool)
    (q : Spec.DQuestion) (nx : Nat) (hsq : Spec.specQuestionAt req 12 = some (q.qname, q.qtype, q.qclass, nx))
    (z : Zone.Zone) (hz : ZoneOK z) (qn : WName) (hqwf : qn.WF) (hsub : z.apex <:+ fold qn)
    (hiS : Writer.I (scanState cfg tr bufLen req id opcode rd q))
    (hhS : HintOK Writer.Den (scanState cfg tr bufLen req id opcode rd q) .qname qn)
    (mode : TsigMode) (rr : TsigRr)
    (hR : reservedLen mode rr ≤ (scanState cfg tr bufLen req id opcode rd q).available)
    (hnpP : (handleNonAxfrQueryL z qn q.qtype tr ⟨scanState cfg tr bufLen req id opcode rd q, []⟩).1 ≠ .panic)
    (hnpS : (handleNonAxfrQueryL z qn q.qtype tr
      ⟨withTsig (stRcode 0 (scanState cfg tr bufLen req id opcode rd q)) mode rr, []⟩).1 ≠ .panic)
    (htcP : (view (handleNonAxfrQueryL z qn q.qtype tr ⟨scanState cfg tr bufLen req id opcode rd q, []⟩).2.log).tc = false)
    (htcS : (view (handleNonAxfrQueryL z qn q.qtype tr
      ⟨withTsig (stRcode 0 (scanState cfg tr bufLen req id opcode rd q)) mode rr, []⟩).2.log).tc = false)
    (hrc2 : (view (handleNonAxfrQueryL z qn q.qtype tr ⟨scanState cfg tr bufLen req id opcode rd q, []⟩).2.log).rcode = 2 →
      (view (handleNonAxfrQueryL z qn q.qtype tr
        ⟨withTsig (stRcode 0 (scanState cfg tr bufLen req id opcode rd q)) mode rr, []⟩).2.log).rcode = 2)
    (hfit : ∀ pt, inner z qn q.qtype ⟨scanState cfg tr bufLen req id opcode rd q, []⟩ = (.ok (), pt) →
      pt.w.cursor + reservedLen mode rr ≤ (scanState cfg tr bufLen req id opcode rd q).available ∧
      pt.w.arcount + 1 ≤ 65535) :
    view (handleNonAxfrQueryL z qn q.qtype tr
      ⟨withTsig (stRcode 0 (scanState cfg tr bufLen req id opcode rd q)) mode rr, []⟩).2.log =
      view (handleNonAxfrQueryL z qn q.qtype tr ⟨scanState cfg tr bufLen req id opcode rd q, []⟩).2.log ∧
    (∀ pt, inner z qn q.qtype ⟨scanState cfg tr bufLen req id opcode rd q, []⟩ = (.ok (), pt) →
      handleNonAxfrQueryL z qn q.qtype tr ⟨scanState cfg tr bufLen req id opcode rd q, []⟩ = (.ok (), pt) ∧
      ∃ ps' t0, handleNonAxfrQueryL z qn q.qtype tr
          ⟨withTsig (stRcode 0 (scanState cfg tr bufLen req id opcode rd q)) mode rr, []⟩ = (.ok (), ps') ∧
        ps'.log = pt.log ∧
        modS ((scanState cfg tr bufLen req id opcode rd q).limit + reservedLen mode rr)
          (some ⟨mode, reservedLen mode rr, rr⟩) pt.w = lift (reservedLen mode rr) t0 ∧ Same ps'.w t0) := by
  rw [stRcode0_scanState cfg tr bufLen req hbuf hpay id opcode rd q nx hsq] at hnpS htcS hrc2 ⊢
  obtain ⟨hv, hok⟩ := twin_view hSI z hz qn hqwf q.qtype tr hsub _ hiS hhS _ (twin_withTsig _ mode rr hR) hnpP hnpS htcP htcS hrc2
    (fun pt h => ⟨by have := (hfit pt h).1; show pt.w.cursor ≤ _ - reservedLen mode rr; omega, (hfit pt h).2⟩)
  refine ⟨hv, fun pt h => ?_⟩
  obtain ⟨k1, ps', k2, k3, t0, k4, k5, _⟩ := hok pt h
  exact ⟨k1, ps', t0, k2, k3, k4.symm, k5⟩


end QV.ServerContent
