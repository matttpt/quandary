/-
  QV.Proofs.CompressC — `NameAtC`: a stored name read with the RFC 1035 §4.1.4 discipline made
  explicit. `NameAt` (QV.Proofs.Compress) follows pointers the way the writer's scan does ("target
  < position of the pointer"); `NameAtC G oct cur cs p ls` additionally records the start `cs` of
  the contiguous chunk `p` lies in and demands of every pointer "target < start of the chunk that
  contains the pointer" — what the independent decoder (`QV.Spec.Decodes`) demands. The writer
  only ever emits pointers to positions below the start of the name it is writing, so every
  recorded label start begins such a name (`WInv.clabs`).
-/
import QV.Proofs.Compress

namespace QV.Writer
open QV QV.Wire

inductive NameAtC (G : Nat → Prop) (oct : Bytes) (cur : Nat) : Nat → Nat → List Label → Prop
  | root {cs p : Nat} (hcs : cs ≤ p) (hg : G p) (hp : p < cur) (h0 : oct[p]? = some 0) :
      NameAtC G oct cur cs p []
  | label {cs cs' p p' : Nat} {l : Label} {ls : List Label} (hcs : cs ≤ p) (hg : G p) (h1 : 1 ≤ l.length)
      (h63 : l.length ≤ 63) (hb : oct[p]? = some (UInt8.ofNat l.length))
      (hd : (oct.extract (p + 1) (p + 1 + l.length)).toList = l)
      (hop : Hop oct cur (p + 1 + l.length) p')
      (hch : (p' = p + 1 + l.length ∧ cs' = cs) ∨ (p' < cs ∧ cs' = p'))
      (rest : NameAtC G oct cur cs' p' ls) :
      NameAtC G oct cur cs p (l :: ls)

theorem nameAtC_cs {G : Nat → Prop} {oct : Bytes} {cur cs p : Nat} {ls : List Label}
    (h : NameAtC G oct cur cs p ls) : cs ≤ p := by
  cases h with
  | root hcs _ _ _ => exact hcs
  | label hcs _ _ _ _ _ _ _ _ => exact hcs

/-- forgetting the chunk discipline -/
theorem nameAtC_forget {G : Nat → Prop} {oct : Bytes} {cur cs p : Nat} {ls : List Label}
    (h : NameAtC G oct cur cs p ls) : NameAt G oct cur p ls := by
  induction h with
  | root _ hg hp h0 => exact .root hg hp h0
  | label _ hg h1 h63 hb hd hop _ _ ih => exact .label hg h1 h63 hb hd hop ih

/-- the chunk start may be moved up to the position itself -/
theorem nameAtC_mono {G : Nat → Prop} {oct : Bytes} {cur cs cs2 p : Nat} {ls : List Label}
    (h : NameAtC G oct cur cs p ls) (h1 : cs ≤ cs2) (h2 : cs2 ≤ p) : NameAtC G oct cur cs2 p ls := by
  induction h generalizing cs2 with
  | root _ hg hp h0 => exact .root h2 hg hp h0
  | @label cs cs' p p' l ls hcs hg hl1 h63 hb hd hop hch rest ih =>
    rcases hch with ⟨e1, e2⟩ | ⟨e1, e2⟩
    · subst e2
      exact .label (cs' := cs2) h2 hg hl1 h63 hb hd hop (Or.inl ⟨e1, rfl⟩) (ih h1 (by omega))
    · exact .label h2 hg hl1 h63 hb hd hop (Or.inr ⟨by omega, e2⟩) rest

theorem nameAtC_frame {G G' : Nat → Prop} {oct oct' : Bytes} {cur cur' cs p lo : Nat} {ls : List Label}
    (h : NameAtC G oct cur cs p ls) (hG : ∀ x, G x → G' x) (hlo : ∀ x, G x → lo ≤ x)
    (hpre : ∀ i, lo ≤ i → i < cur → oct'[i]? = oct[i]?) (hc : cur ≤ cur') :
    NameAtC G' oct' cur' cs p ls := by
  induction h with
  | root hcs hg hp h0 => exact .root hcs (hG _ hg) (by omega) (by rw [hpre _ (hlo _ hg) hp]; exact h0)
  | @label cs cs' p p' l ls hcs hg h1 h63 hb hd hop hch rest ih =>
    have hlt := hop_start_lt hop
    have hsz := hop_start_size hop
    have hp'lo : lo ≤ p' := hlo _ (nameAt_start (nameAtC_forget rest)).1
    have hop' := hop_frame hop hpre hc hp'lo
    have hsz' := hop_start_size hop'
    have hpl := hlo _ hg
    refine .label hcs (hG _ hg) h1 h63 (by rw [hpre _ hpl (by omega)]; exact hb) ?_ hop' hch ih
    rw [extract_congr_range (fun k hk1 hk2 => hpre k (by omega) (by omega)) (by omega) (by omega)]
    exact hd

/-- a chunk-disciplined reading and a plain reading of the same position read the same labels -/
theorem nameAtC_unique {G G' : Nat → Prop} {oct : Bytes} {cur cur' cs p : Nat} {ls ls' : List Label}
    (h : NameAtC G oct cur cs p ls) (h' : NameAt G' oct cur' p ls') : ls = ls' :=
  nameAt_unique (nameAtC_forget h) h'

/-- from a plain reading inside `[0, a)` of a position whose chunk-disciplined reading is known
    (in a larger window), the chunk-disciplined reading fits the smaller window too -/
theorem nameAtC_shrink {G G' : Nat → Prop} {oct : Bytes} {cur a cs p : Nat} {ls ls' : List Label}
    (h : NameAtC G oct cur cs p ls) (h' : NameAt G' oct a p ls') : NameAtC G' oct a cs p ls := by
  induction h generalizing ls' with
  | root hcs hg hp h0 =>
    have := nameAt_start h'
    exact .root hcs this.1 this.2.1 h0
  | @label cs cs' p p1 l ls hcs hg h1 h63 hb hd hop hch rest ih =>
    cases h' with
    | root _ _ h0 =>
      rw [h0] at hb
      have := ofNat_len_inj (b := 0) h63 (by omega) (Option.some.inj hb).symm
      omega
    | @label _ p2 l' ls2 hg' h1' h63' hb' hd' hop' rest' =>
      rw [hb] at hb'
      have hl : l.length = l'.length := ofNat_len_inj h63 h63' (Option.some.inj hb')
      have : l = l' := by rw [← hd, ← hd', hl]
      subst this
      have := hop_unique hop hop'
      subst this
      exact .label hcs hg' h1 h63 hb hd hop' hch (ih rest')

/-- the analogue of `nameAt_agree`: the chunk conditions speak of positions only, and `label_agree`
    keeps the positions -/
theorem nameAtC_agree {G : Nat → Prop} {oct oct' : Bytes} {cur cs p : Nat} {a : Option Nat} {ls : List Label}
    (h : NameAtC G oct cur cs p ls) (hc : Clear G oct cur a) (hag : AgreeOut a oct oct' cur) :
    NameAtC G oct' cur cs p ls := by
  induction h with
  | root hcs hg hp h0 => exact .root hcs hg hp (by rw [hag _ hp fun x e => (hc x e).2.2 _ hg]; exact h0)
  | label hcs hg h1 h63 hb hd hop hch rest ih =>
    obtain ⟨p', hb', _, _, hd', _, hop', hop'', _⟩ :=
      label_agree (.label hg h1 h63 hb hd hop (nameAtC_forget rest)) hc hag
    obtain rfl := hop_unique hop hop''
    exact .label hcs hg h1 h63 hb' hd' hop' hch ih

end QV.Writer
