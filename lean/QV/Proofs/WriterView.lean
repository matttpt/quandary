/-
  QV.Proofs.WriterView — "view lemmas" about the writer model (`QV.Model.Writer`): what each
  operation the request handler uses does to the header octets, the counts, the `edns` field, the
  size limits and the octets of the question, stated as equations between states, and what
  `finish` makes of such a state (counts written, OPT record appended; `withCounts`, `finishWithMac_eq` of
  `QV.Proofs.WriterBase`).

  No invariant of the writer (C12/C13) is assumed: the hypotheses are room and sizes, and the record and
  question writers are used through the equivalences of `QV.Proofs.WriterInv` (`addRr_eq_ok`,
  `addQuestionBody_eq_ok`) in the direction "there is room, hence it succeeds and leaves …". The successful
  states are the pure updates `stHdr … stLimit` of `QV.Proofs.WriterBase`. Only the small frame facts the
  server theorems C03/C07/C08/C09 need.
-/
import QV.Proofs.WriterRecords
import QV.Proofs.WriterInv

namespace QV.Writer
open QV

/-! ### `writeAt` -/

theorem writeAt_getElem? (data : List UInt8) : ∀ (a : Bytes) (pos i : Nat),
    (writeAt a pos data)[i]? =
      if pos ≤ i ∧ i < pos + data.length ∧ i < a.size then data[i - pos]? else a[i]? := by
  induction data with
  | nil =>
    intro a pos i
    rw [if_neg (by simp only [List.length_nil]; omega)]
    rfl
  | cons b bs ih =>
    intro a pos i
    simp only [writeAt]
    rw [ih, Array.size_setIfInBounds]
    by_cases h1 : pos = i
    · subst h1
      by_cases hs : pos < a.size
      · rw [if_neg (by omega), if_pos (by simp only [List.length_cons]; omega)]
        simp [hs]
      · rw [if_neg (by omega), if_neg (by omega)]
        simp [hs]
    · by_cases h2 : pos + 1 ≤ i ∧ i < pos + 1 + bs.length ∧ i < a.size
      · rw [if_pos h2, if_pos (by simp only [List.length_cons]; omega)]
        have : i - pos = (i - (pos + 1)) + 1 := by omega
        rw [this, List.getElem?_cons_succ]
      · rw [if_neg h2, if_neg (by simp only [List.length_cons]; omega)]
        simp [Array.getElem?_setIfInBounds, h1]

/-! ### the monad, pointwise -/

theorem bind_ok {α β} {x : M α} {f : α → M β} {s s' : State} {a : α} (h : x s = (.ok a, s')) :
    (x >>= f) s = f a s' := by rw [M.bind_apply, h]



/-! ### header operations as state transformers -/

theorem setHdr_eq (i : Nat) (f : UInt8 → UInt8) (s : State) (h : i < s.octets.size) :
    setHdr i f s = (.ok (), stHdr i f s) := by
  unfold setHdr stHdr
  simp only [h, dite_true]
  congr 2
  simp [Array.setIfInBounds, h, Array.getD]

theorem setId_eq (id : Nat) (s : State) (h : 2 ≤ s.octets.size) :
    setId id s = (.ok (), { s with octets := writeAt s.octets 0 (u16be id) }) := by
  unfold setId
  rw [write_eq_ok (u := ()).mpr ⟨by simp [Gen.ID_START, u16be_length]; omega, rfl⟩]
  rfl

theorem setRcode_eq (rc : Nat) (s : State) (h : 3 < s.octets.size) :
    setRcode rc s = (.ok (), stRcode rc s) := by
  unfold setRcode
  rw [bind_ok (setHdr_eq _ _ s (by simpa [Gen.RCODE_BYTE] using h))]
  rw [M.modify_apply]
  rfl

theorem setExtendedRcode_eq (raw : Nat) (e : Edns) (s : State) (he : s.edns = some e) (hr : raw ≤ 4095)
    (h : 3 < s.octets.size) : setExtendedRcode raw s = (.ok (), stXRcode raw e s) := by
  rcases setExtendedRcode_cases raw s with ⟨hn, _⟩ | ⟨e', he', ⟨hv, _⟩ | ⟨_, r, s1, hs1, hc⟩⟩
  · rw [he] at hn; cases hn
  · omega
  · rw [setHdr_eq _ _ s (by simpa [Gen.RCODE_BYTE] using h)] at hs1
    rw [he] at he'
    cases hs1; cases he'
    rcases hc with ⟨hp, _⟩ | ⟨_, h'⟩
    · cases hp
    · exact h'

theorem setEdns_eq (payload : Nat) (s : State) (h1 : s.edns = none) (h2 : s.cursor + 11 ≤ s.available)
    (h3 : s.arcount + 1 ≤ 65535) : setEdns payload s = (.ok (), stEdns payload s) := by
  rcases setEdns_cases payload s with ⟨_, _, ⟨_, a⟩ | ⟨_, a⟩ | ⟨_, a⟩⟩ | ⟨_, _, _, h⟩
  · rw [h1] at a; cases a
  · have : Gen.OPT_RECORD_SIZE = 11 := rfl
    omega
  · omega
  · exact h

theorem setLimit_up (nl : Nat) (s : State) (h1 : s.limit ≤ nl) (h2 : nl ≤ s.octets.size) :
    setLimit nl s = (.ok (), stLimit nl s) := by
  unfold setLimit stLimit
  have e : min nl s.octets.size = nl := Nat.min_eq_left h2
  simp only [show nl ≥ s.limit from h1, if_true, e, show ¬ nl < s.limit by omega, if_false]

/-! ### `add_question` on a writer that holds nothing but the header -/

theorem writeAt_append' (d1 d2 : List UInt8) (a : Bytes) (pos pos2 : Nat) (h : pos2 = pos + d1.length) :
    writeAt (writeAt a pos d1) pos2 d2 = writeAt a pos (d1 ++ d2) := by
  subst h; exact writeAt_append d1 d2 a pos

theorem root_wire : WName.root.wire = [0] := rfl

/-- the first question: written uncompressed at the cursor, `QDCOUNT = 1`, RRs start after it;
    the limits, the counts of the RR sections, `edns`, `tsig` are untouched -/
theorem addQuestion_first (qn : WName) (qt qc : Nat) (s : State)
    (hsect : s.sect = .question) (hqd : s.qdcount = 0)
    (hq : s.qname = none) (ho : s.mostRecentOwner = none) (hr : s.mostRecentNameInRdata = none)
    (h1 : s.cursor + qn.wire.length + 4 ≤ s.available) (h2 : s.available ≤ s.octets.size) :
    ∃ s', addQuestion qn qt qc s = (.ok (), s') ∧
      s'.octets = writeAt (writeAt (writeAt s.octets s.cursor qn.wire) (s.cursor + qn.wire.length) (u16be qt))
                    (s.cursor + qn.wire.length + 2) (u16be qc) ∧
      s'.cursor = s.cursor + qn.wire.length + 4 ∧ s'.rrStart = s.cursor + qn.wire.length + 4 ∧
      s'.qdcount = 1 ∧ s'.ancount = s.ancount ∧ s'.nscount = s.nscount ∧ s'.arcount = s.arcount ∧
      s'.limit = s.limit ∧ s'.available = s.available ∧ s'.edns = s.edns ∧ s'.tsig = s.tsig ∧
      s'.sect = .question := by
  -- the name is written uncompressed: there is no prior name to point to
  have hname : writeUnhintedName qn { s with gCtx := .qname } = writeUncompressedName qn { s with gCtx := .qname } := by
    unfold writeUnhintedName
    rw [M.gets_bind]
    split
    · unfold writeCompressedUnhintedName compressDecision
      rw [M.gets_bind, M.gets_bind]
      simp [hq, ho, hr]
    · rfl
  obtain ⟨p, gl, hB⟩ : ∃ p gl, writeUnhintedName qn { s with gCtx := .qname } =
      (.ok p, { pushed { s with gCtx := .qname } qn.wire with gLabels := gl }) :=
    ⟨_, _, hname.trans (writeUncompressedName_eq_ok.mpr ⟨by show s.cursor + _ ≤ s.available; omega,
      by show s.cursor + _ ≤ s.octets.size; omega, rfl, rfl⟩)⟩
  generalize hsB : ({ pushed { s with gCtx := .qname } qn.wire with gLabels := gl } : State) = sB at hB
  have hqB : qStart sB p = { sB with gCtx := .none, qname := p } := by
    unfold qStart; rw [← hsB]; exact if_pos hqd
  have cB : sB.cursor = s.cursor + qn.wire.length := by rw [← hsB]; rfl
  have zB : sB.octets.size = s.octets.size := by rw [← hsB]; exact writeAt_size ..
  have step : addQuestionBody qn qt qc s = (.ok (), pushed (qStart sB p) (u16be qt ++ u16be qc)) :=
    addQuestionBody_eq_ok.mpr ⟨p, sB, hB, by rw [cB, ← hsB]; show _ ≤ s.available; omega, by rw [cB, zB]; omega, rfl⟩
  have hoct := (writeAt_append' (u16be qt) (u16be qc) (writeAt s.octets s.cursor qn.wire) (s.cursor + qn.wire.length)
    (s.cursor + qn.wire.length + 2) rfl).symm
  have lD : (u16be qt ++ u16be qc).length = 4 := rfl
  -- QTYPE and QCLASS as an opaque list of four octets
  generalize u16be qt ++ u16be qc = D at step hoct lD
  refine ⟨{ pushed (qStart sB p) D with qdcount := 1, rrStart := sB.cursor + 4 }, ?_, ?_⟩
  · unfold addQuestion
    rw [M.gets_bind, M.gets_bind, if_neg (by rw [hsect]; exact fun h => h rfl), if_neg (by omega),
      M.bind_eq_ok.mpr ⟨(), _, by rw [withRollback_apply, step], rfl⟩]
    rw [hqB, ← hsB]
    simp only [pushed, hqd, lD]
  · rw [hqB, ← hsB]
    refine ⟨hoct, ?_, ?_, rfl, rfl, rfl, rfl, rfl, rfl, rfl, rfl, hsect⟩
    · show s.cursor + qn.wire.length + D.length = _; rw [lD]
    · show s.cursor + qn.wire.length + 4 = _; rfl

/-! ### `finish` on a response without TSIG -/

/-- the OPT record `finish` appends: root owner, TYPE 41, CLASS = payload size, TTL = extended
    RCODE bits / version 0 / flags 0, empty RDATA -/
def optRecord (e : Edns) : List UInt8 :=
  [0] ++ u16be 41 ++ u16be e.payload ++ u32be ((e.upper * 16777216) % 4294967296) ++ u16be 0

theorem T_OPT_eq : T_OPT = 41 := by decide

theorem componentTypes_opt41 (cls : Nat) : componentTypes cls 41 = some [] :=
  componentTypes_unknown cls 41 (by decide)

/-- `add_rr` for the root owner and empty RDATA of a type without name components (OPT): the
    eleven octets are appended at the cursor -/
theorem addRr_root_empty (ty cls ttl : Nat) (s0 : State) (hty : componentTypes cls ty = some [])
    (h1 : s0.cursor + 11 ≤ s0.available) (h2 : s0.cursor + 11 ≤ s0.octets.size) :
    ∃ s', addRr .none WName.root ty cls ttl [] s0 = (.ok (), s') ∧
      s'.octets = writeAt s0.octets s0.cursor ([0] ++ u16be ty ++ u16be cls ++ u32be ttl ++ u16be 0) ∧
      s'.cursor = s0.cursor + 11 := by
  -- the owner: one octet
  obtain ⟨p, sB, hB, cB, aB, oB⟩ : ∃ p sB, writeHintedName .none WName.root { s0 with gCtx := .owner } = (.ok p, sB) ∧
      sB.cursor = s0.cursor + 1 ∧ sB.available = s0.available ∧ sB.octets = writeAt s0.octets s0.cursor [0] :=
    ⟨_, _, (writeHintedName_literal .none WName.root _ (Or.inr (by decide))).trans
      (writeUncompressedName_eq_ok.mpr ⟨by rw [root_wire]; show s0.cursor + 1 ≤ s0.available; omega,
        by rw [root_wire]; show s0.cursor + 1 ≤ s0.octets.size; omega, rfl, rfl⟩), rfl, rfl, rfl⟩
  have zB : sB.octets.size = s0.octets.size := by rw [oB, writeAt_size]
  -- the fixed fields as an opaque list of eight octets, the (empty) RDATA, RDLENGTH
  generalize hF : fixedFields ty cls ttl = F
  have lF : F.length = 8 := by rw [← hF]; exact fixedFields_length ..
  have oR : (rdStart sB p ty cls ttl).octets = writeAt sB.octets sB.cursor F := by rw [← hF]; rfl
  have cR := rdStart_cursor sB p ty cls ttl
  refine ⟨_, addRr_eq_ok.mpr ⟨p, sB, _, hB, by omega, by omega,
    (writeRdata_nil_eq_ok hty).mpr (Or.inl ⟨rfl, rfl⟩), by rw [cR]; exact Nat.le_refl _,
    by rw [oR, writeAt_size]; omega, rfl⟩, ?_, by show (rdStart sB p ty cls ttl).cursor = _; rw [cR]; omega⟩
  show writeAt (rdStart sB p ty cls ttl).octets _ _ = _
  rw [oR, oB, cR, Nat.sub_self, writeAt_append' _ _ _ _ _ (by rw [lF]),
    writeAt_append' _ _ _ _ _ (by rw [cB]; rfl), ← hF, fixedFields_eq]
  simp only [List.append_assoc]

theorem finish_plain (s : State) (macFn : Tsig → List UInt8 → List UInt8) (ht : s.tsig = none)
    (he : s.edns = none) (hsz : 12 ≤ s.octets.size) :
    finish s macFn = .ok ((withCounts s).extract 0 s.cursor, none) := by
  unfold finish
  rw [finishWithMac_eq macFn s hsz, show finishOpt s.edns = finishOpt none by rw [he],
    show finishTsig macFn s.tsig = finishTsig macFn none by rw [ht]]
  simp only [finishOpt, finishTsig, M.bind_apply, M.pure_apply, M.gets_apply]

/-- the EDNS part of `finish`: the reserved octets are released and the OPT record is appended at the cursor -/
theorem finishOpt_some (s4 : State) (e : Edns) (h1 : s4.cursor ≤ s4.available) (h2 : s4.cursor + 11 ≤ s4.octets.size) :
    ∃ s1, finishOpt (some e) s4 = (.ok (), s1) ∧
      s1.octets = writeAt s4.octets s4.cursor (optRecord e) ∧ s1.cursor = s4.cursor + 11 := by
  have hty : componentTypes e.payload T_OPT = some [] := by rw [T_OPT_eq]; exact componentTypes_opt41 _
  obtain ⟨s1, hadd, hoct, hcur1⟩ := addRr_root_empty T_OPT e.payload ((e.upper * 16777216) % 4294967296)
    { s4 with available := s4.available + Gen.OPT_RECORD_SIZE } hty
    (by show s4.cursor + 11 ≤ s4.available + 11; omega) (by show s4.cursor + 11 ≤ s4.octets.size; omega)
  refine ⟨s1, ?_, by rw [hoct, T_OPT_eq]; rfl, hcur1⟩
  unfold finishOpt
  dsimp only
  rw [bind_ok (M.modify_apply _ _)]
  exact unwrap_eq_ok.mpr hadd

theorem finish_edns (s : State) (macFn : Tsig → List UInt8 → List UInt8) (e : Edns) (ht : s.tsig = none)
    (he : s.edns = some e) (hsz : 12 ≤ s.octets.size) (hcur : s.cursor ≤ s.available)
    (hroom : s.cursor + 11 ≤ s.octets.size) :
    finish s macFn = .ok ((writeAt (withCounts s) s.cursor (optRecord e)).extract 0 (s.cursor + 11), none) := by
  obtain ⟨s1, hk, ho, hc⟩ := finishOpt_some { s with octets := withCounts s } e hcur
    (by rw [withCounts_size]; exact hroom)
  unfold finish
  rw [finishWithMac_eq macFn s hsz, show finishOpt s.edns = finishOpt (some e) by rw [he],
    show finishTsig macFn s.tsig = finishTsig macFn none by rw [ht], bind_ok hk]
  show Out.ok (s1.octets.extract 0 s1.cursor, none) = _
  rw [ho, hc]

end QV.Writer
