/-
  QV.Proofs.RequestFits — C10 (1b): the audit's "the reply fits" (the uncompressed size of the
  response with its TSIG record is at most the limit) is the model's `TsigFits` on the scan state.
-/
import QV.Proofs.RequestOutcome

namespace QV.ServerScan
open QV QV.Wire QV.Reader QV.Writer

/-- the scan of the additional section sets the EDNS flag and the UDP limit only at an OPT record: if it
    ends with the flag clear, the flag was clear and the limit is the one it started with -/
theorem scanAr_noedns (msg : Bytes) (S : Nat) (n total pos : Nat) (e : Bool) (lim : Nat)
    (h : (Spec.Server.scanAr msg S n total pos e lim).2.1 = false) :
    e = false ∧ (Spec.Server.scanAr msg S n total pos e lim).2.2 = lim := by
  rcases scanAr_state msg S n total pos e lim with ⟨hs, _⟩ | ⟨hs, _⟩
  · rw [hs] at h ⊢; exact ⟨h, rfl⟩
  · rw [hs] at h; cases h

/-- without an OPT record the UDP limit of the scan is the default 512 -/
theorem specTail_noedns (lookup : List UInt8 → Nat → Option Spec.Server.ZoneKind) (S : Nat) (msg : Bytes)
    (q : Option Spec.DQuestion) (p1 an ns ar op : Nat)
    (h : (specTail lookup S msg q p1 an ns ar op).edns = false) :
    (specTail lookup S msg q p1 an ns ar op).limitUdp = 512 := by
  cases hpl : Spec.Server.scanPlain msg (an + ns) p1 with
  | none => unfold specTail; rw [hpl]
  | some p2 =>
    rcases ha : Spec.Server.scanAr msg S ar ar p2 false 512 with ⟨en, e, l⟩
    have hp := scanAr_noedns msg S ar ar p2 false 512
    rw [ha] at hp
    cases en with
    | done p3 =>
      rw [ServerContent.specTail_done_eq lookup S msg q p1 an ns ar op p2 p3 e l hpl ha] at h ⊢
      exact (hp h).2
    | formErr => unfold specTail at h ⊢; simp only [hpl, ha] at h ⊢; exact (hp h).2
    | badVers => unfold specTail at h ⊢; simp only [hpl, ha] at h ⊢; exact (hp h).2
    | tsig => unfold specTail at h ⊢; simp only [hpl, ha] at h ⊢; exact (hp h).2

theorem specBody_noedns (lookup : List UInt8 → Nat → Option Spec.Server.ZoneKind) (S : Nat) (msg : Bytes)
    (h : (specBody lookup S msg).edns = false) : (specBody lookup S msg).limitUdp = 512 := by
  unfold specBody at h ⊢
  by_cases hq4 : Spec.Server.hdr msg 4 > 1
  · simp only [hq4, if_true]
  · simp only [hq4, if_false] at h ⊢
    generalize (if Spec.Server.hdr msg 4 = 0 then some ((none : Option Spec.DQuestion), 12)
      else match Spec.specQuestionAt msg 12 with
        | some (w, t, c, nx) => some (some ⟨w, t, c⟩, nx)
        | none => none) = qres at h ⊢
    cases qres with
    | none => rfl
    | some qp => exact specTail_noedns _ _ _ _ _ _ _ _ _ h

end QV.ServerScan

namespace QV.ServerContent
open QV QV.Writer QV.Server QV.ServerScan

/-- the response-size limit of the transport -/
def limOf (tr : Transport) (l : Nat) : Nat :=
  match tr with
  | .udp => l
  | .tcp => 65535

/-- the room of the writer the scan leaves (`arSt`: the EDNS slot and the UDP limit `l` are set iff the
    scan met an OPT, `e`; without one the limit is 512, `hne`): cursor and start of the records as
    before, the OPT counted, and `available` is the response-size limit of the transport minus the
    reserved OPT -/
theorem arSt_room (s1 : State) (tr : Transport) (payload : Nat) (e : Bool) (l : Nat) (hb : Base s1 tr payload)
    (hne : e = false → l = 512) (hl1 : 512 ≤ l) :
    (arSt s1 tr payload e l).tsig = none ∧ (arSt s1 tr payload e l).cursor = s1.cursor ∧
    (arSt s1 tr payload e l).rrStart = s1.rrStart ∧
    (arSt s1 tr payload e l).arcount = s1.arcount + (if e then 1 else 0) ∧
    (arSt s1 tr payload e l).edns.isSome = e ∧
    (arSt s1 tr payload e l).available + (if e then 11 else 0) = limOf tr l := by
  have hav := hb.avail
  have hlim := hb.lim
  have hroom := hb.room
  have c11 : Gen.OPT_RECORD_SIZE = 11 := rfl
  cases e with
  | false =>
    have hl := hne rfl
    refine ⟨hb.tsig, rfl, rfl, rfl, by rw [show arSt s1 tr payload false l = s1 from rfl, hb.edns]; rfl, ?_⟩
    show s1.available + 0 = limOf tr l
    cases tr <;> simp only [limOf, lim0] at hlim ⊢ <;> omega
  | true =>
    cases tr with
    | udp =>
      refine ⟨hb.tsig, rfl, rfl, rfl, rfl, ?_⟩
      show s1.available - Gen.OPT_RECORD_SIZE + (l - s1.limit) + 11 = l
      simp only [lim0] at hlim
      omega
    | tcp =>
      refine ⟨hb.tsig, rfl, rfl, rfl, rfl, ?_⟩
      show s1.available - Gen.OPT_RECORD_SIZE + 11 = 65535
      simp only [lim0] at hlim
      omega
end QV.ServerContent

namespace QV.ServerScan
open QV QV.Wire QV.Reader QV.Writer

/-- **C10 (1b): `TsigFits` on the state the scan left, in numbers.**  The reply TSIG record fits iff
    header + question + (OPT) + the reserved length of the record is within the limit — 65535 over
    TCP, the scan's UDP limit (512, or the clamped requestor payload size after an OPT) over UDP. -/
theorem tsigFits_iff (cfg : Server.Cfg) (tr : Server.Transport) (bufLen : Nat) (req : Bytes)
    (hbuf : minBuf tr cfg.payload ≤ bufLen) (hpay : 512 ≤ cfg.payload)
    (hr : (Spec.Server.specScanWith (catKind cfg) cfg.payload req).respond = true)
    (mode : TsigMode) (rr : TsigRr) :
    ServerTsig.TsigFits (preTsigState cfg tr bufLen req) mode rr ↔
      12 + (qOctets (Spec.Server.specScanWith (catKind cfg) cfg.payload req).question).length +
        (if (Spec.Server.specScanWith (catKind cfg) cfg.payload req).edns then 11 else 0) +
        ServerTsig.reservedLen mode rr ≤
      (match tr with
       | .udp => (Spec.Server.specScanWith (catKind cfg) cfg.payload req).limitUdp
       | .tcp => 65535) := by
  have hlim : ∀ l, (match tr with | .udp => l | .tcp => 65535) = ServerContent.limOf tr l := fun l => by
    cases tr <;> rfl
  rw [hlim]
  have hG := scan_facts cfg tr bufLen req hbuf hpay hr
  have hne : (Spec.Server.specScanWith (catKind cfg) cfg.payload req).edns = false →
      (Spec.Server.specScanWith (catKind cfg) cfg.payload req).limitUdp = 512 := by
    rw [hG.body]; exact specBody_noedns _ _ _
  unfold preTsigState
  generalize Spec.Server.specScanWith (catKind cfg) cfg.payload req = sc at *
  generalize qSt _ sc.question = s1 at *
  have hcur := hG.s1.cur
  have har := hG.s1.ar
  obtain ⟨r1, r2, _, r4, _, r6⟩ := ServerContent.arSt_room s1 tr cfg.payload sc.edns sc.limitUdp hG.s1.base hne hG.lim512
  unfold ServerTsig.TsigFits
  rw [r1, r2, r4, hcur, har, ← r6]
  generalize (arSt s1 tr cfg.payload sc.edns sc.limitUdp).available = A
  cases sc.edns
  · simp only [Bool.false_eq_true, if_false]
    exact ⟨fun h => by omega, fun h => ⟨trivial, by omega, by omega⟩⟩
  · simp only [if_true]
    exact ⟨fun h => by omega, fun h => ⟨trivial, by omega, by omega⟩⟩

/-- the length of the canonical form of a name is the length of its wire form -/
theorem canonName_length (n : WName) (h : n.WF) : (Spec.Tsig.canonName n.labels).length = n.wire.length := by
  rw [← lowerName_wire n h]; simp [Tsig.lowerName]

/-- the reserved length of an unsigned reply TSIG (BADKEY / BADSIG / FORMERR rows): no MAC, no other data -/
theorem reservedLen_unsigned (an : WName) (rr : TsigRr) (he : rr.error ≠ 18) :
    ServerTsig.reservedLen (.unsigned an) rr = rr.keyName.wire.length + 10 + an.wire.length + 16 + 0 + 0 := by
  show unsignedLen rr an = _
  unfold unsignedLen
  have : XR_BADTIME = 18 := ServerTsig.xr_badtime
  rw [this, if_neg he]; omega

/-- the reserved length of a signed reply TSIG (authenticated: error 0; BADTIME: error 18, six octets
    of other data) -/
theorem reservedLen_response (a : Writer.Alg) (m k : List UInt8) (rr : TsigRr) :
    ServerTsig.reservedLen (.response a m k) rr =
      rr.keyName.wire.length + 10 + (algName a).wire.length + 16 + algOutputSize a +
        (if rr.error = 18 then 6 else 0) := by
  show signedLen rr a = _
  unfold signedLen unsignedLen
  have : XR_BADTIME = 18 := ServerTsig.xr_badtime
  rw [this]; omega

end QV.ServerScan
