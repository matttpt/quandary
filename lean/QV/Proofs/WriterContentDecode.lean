/-
  QV.Proofs.WriterContentDecode — the independent message decoder reads, item by item, the
  questions and records that were given (content half of C12 (d) in every compression mode).
-/
import QV.Proofs.WriterDecodes
import QV.Proofs.WriterRefine

namespace QV.Writer
open QV QV.Wire QV.Spec QV.ServerSafety

variable {P : CMode → Prop}

/-- two lists related element by element -/
inductive All2 {α β : Type} (R : α → β → Prop) : List α → List β → Prop
  | nil : All2 R [] []
  | cons {a b as bs} (h : R a b) (t : All2 R as bs) : All2 R (a :: as) (b :: bs)

theorem All2.length {α β : Type} {R : α → β → Prop} {as : List α} {bs : List β} (h : All2 R as bs) :
    as.length = bs.length := by
  induction h with
  | nil => rfl
  | cons _ _ ih => simp [ih]

theorem All2.append {α β : Type} {R : α → β → Prop} {as as' : List α} {bs bs' : List β} (h : All2 R as bs)
    (h' : All2 R as' bs') : All2 R (as ++ as') (bs ++ bs') := by
  induction h with
  | nil => exact h'
  | cons hr _ ih => exact .cons hr ih


/-- a decoded question is the question given -/
def QMatch (it : QItC) (dq : DQuestion) : Prop :=
  dq.qname.map lowerU8 = it.q.qname.wire.map lowerU8 ∧ (it.m ≠ .standard → dq.qname = it.q.qname.wire) ∧
  dq.qtype = it.q.qtype % 65536 ∧ dq.qclass = it.q.qclass % 65536

/-- a decoded record is the record given (owner, TYPE, CLASS, TTL; RDATA octet for octet if its
    type holds no compressible name) -/
def RMatch (it : RItC) (dr : DRr) : Prop :=
  dr.owner.map lowerU8 = it.r.owner.wire.map lowerU8 ∧ (it.m ≠ .standard → dr.owner = it.r.owner.wire) ∧
  dr.ty = it.r.ty % 65536 ∧ dr.cls = it.r.cls % 65536 ∧ dr.rawTtl = it.r.ttl % 4294967296 ∧ dr.pos = it.a ∧
  (it.r.ty < 65536 → ∀ ts, componentTypes it.r.cls it.r.ty = some ts → CompType.compressibleName ∉ ts →
    dr.rdata = it.r.rdata ∧ dr.rdOk = true)

theorem bytesAt_extract_prefix {o : Bytes} {c p : Nat} {d : List UInt8} (hc : c ≤ o.size) (h : BytesAt o p d)
    (hp : p + d.length ≤ c) : BytesAt (o.extract 0 c) p d := by
  intro i hi
  rw [extract_prefix_get o c hc _ (by omega)]
  exact h i hi

theorem all2_map_of_mem {α β : Type} {R : α → β → Prop} (f : α → β) :
    ∀ (l : List α), (∀ x ∈ l, R x (f x)) → All2 R l (l.map f)
  | [], _ => .nil
  | x :: r, h => .cons (h x List.mem_cons_self) (all2_map_of_mem f r fun y hy => h y (List.mem_cons_of_mem _ hy))

/-- what the content of a question item says about the question the decoder reads there -/
theorem qfacts_qAt {s : State} (hw : WInv s) {x : QItC} (hf : QFacts s x) (hle : x.a + x.k + 4 ≤ s.cursor) :
    QMatch x (qAt (s.octets.extract 0 s.cursor) x.a x.k) := by
  unfold qAt
  have hcs : s.cursor ≤ s.octets.size := Nat.le_trans hw.cur_av hw.av_size
  obtain ⟨hit, hnm, hby⟩ := hf
  obtain ⟨w, hd, hcase, hex⟩ := item_decodes_name hw hit hnm
  have hl2 : ∀ y, (u16be y).length = 2 := fun _ => rfl
  obtain ⟨b1, b2⟩ := bytesAt_append hby
  rw [hl2] at b2
  refine ⟨?_, fun hm => ?_, be16_of_bytesAt_mod (bytesAt_extract_prefix hcs b1 (by rw [hl2]; omega)),
    be16_of_bytesAt_mod (bytesAt_extract_prefix hcs b2 (by rw [hl2]; omega))⟩
  · show List.map lowerU8 (nameAtD _ _) = _
    rw [nameAtD_eq hd]; exact hcase
  · show nameAtD _ _ = _
    rw [nameAtD_eq hd]; exact hex hm

/-! ### the expanded RDATA of the types with compressible names -/

/-- the decoded name `w` is the name given: equal up to ASCII case, octet for octet if `ex` -/
def NameSim (ex : Prop) (n : WName) (w : List UInt8) : Prop :=
  n.WF ∧ w.map lowerU8 = n.wire.map lowerU8 ∧ (ex → w = n.wire)

/-- the RDATA given is well formed for its type, as far as the decoder's expansion looks: the
    RFC 1035 types with compressible names consist of exactly the names (and fixed octets) of
    their layout — one name (NS, MD, MF, CNAME, MB, MG, MR, PTR), two names and 20 octets (SOA),
    two names (MINFO), two octets and a name (MX) -/
def RdShape (ty : Nat) (rd : List UInt8) : Prop :=
  if ty = 2 ∨ ty = 3 ∨ ty = 4 ∨ ty = 5 ∨ ty = 7 ∨ ty = 8 ∨ ty = 9 ∨ ty = 12 then ∃ n, WName.parse rd = some (n, [])
  else if ty = 6 then ∃ a r1 b tl, WName.parse rd = some (a, r1) ∧ WName.parse r1 = some (b, tl) ∧ tl.length = 20
  else if ty = 14 then ∃ a r1 b, WName.parse rd = some (a, r1) ∧ WName.parse r1 = some (b, [])
  else if ty = 15 then 2 ≤ rd.length ∧ ∃ a, WName.parse (rd.drop 2) = some (a, [])
  else True

/-- **the expanded RDATA `d` is the RDATA given `g` with every compressible name written out**: the
    names equal to those given up to ASCII case (octet for octet if `ex`), all other octets as
    given -/
def RdExpands (ex : Prop) (ty : Nat) (g d : List UInt8) : Prop :=
  if ty = 2 ∨ ty = 3 ∨ ty = 4 ∨ ty = 5 ∨ ty = 7 ∨ ty = 8 ∨ ty = 9 ∨ ty = 12 then
    ∃ n w, g = n.wire ∧ d = w ∧ NameSim ex n w
  else if ty = 6 then
    ∃ a b tl wa wb, g = a.wire ++ b.wire ++ tl ∧ d = wa ++ wb ++ tl ∧ NameSim ex a wa ∧ NameSim ex b wb ∧
      tl.length = 20
  else if ty = 14 then ∃ a b wa wb, g = a.wire ++ b.wire ∧ d = wa ++ wb ∧ NameSim ex a wa ∧ NameSim ex b wb
  else if ty = 15 then ∃ pre a wa, pre.length = 2 ∧ g = pre ++ a.wire ∧ d = pre ++ wa ∧ NameSim ex a wa
  else d = g

theorem nameSim_lower {ex : Prop} {n : WName} {w : List UInt8} (h : NameSim ex n w) :
    w.map lowerU8 = n.wire.map lowerU8 := h.2.1

/-- up to ASCII case the expanded RDATA is the RDATA given; octet for octet if `ex` -/
theorem rdExpands_lower {ex : Prop} {ty : Nat} {g d : List UInt8} (h : RdExpands ex ty g d) :
    d.map lowerU8 = g.map lowerU8 ∧ (ex → d = g) := by
  unfold RdExpands at h
  split at h
  · obtain ⟨n, w, rfl, rfl, hs⟩ := h
    exact ⟨hs.2.1, hs.2.2⟩
  · split at h
    · obtain ⟨a, b, tl, wa, wb, rfl, rfl, ha, hb, _⟩ := h
      exact ⟨by simp only [List.map_append, ha.2.1, hb.2.1], fun hx => by rw [ha.2.2 hx, hb.2.2 hx]⟩
    · split at h
      · obtain ⟨a, b, wa, wb, rfl, rfl, ha, hb⟩ := h
        exact ⟨by simp only [List.map_append, ha.2.1, hb.2.1], fun hx => by rw [ha.2.2 hx, hb.2.2 hx]⟩
      · split at h
        · obtain ⟨pre, a, wa, _, rfl, rfl, ha⟩ := h
          exact ⟨by simp only [List.map_append, ha.2.1], fun hx => by rw [ha.2.2 hx]⟩
        · exact ⟨by rw [h], fun _ => h⟩

theorem rdName_item {s : State} {a k e : Nat} {m : CMode} {n : WName} (hw : WInv s) (hit : Item s a k)
    (hnm : NameIs s a m n) (hn : n.WF) (he : a + k ≤ e) :
    ∃ w, rdName (s.octets.extract 0 s.cursor) a e = some (w, k) ∧ NameSim (m ≠ .standard) n w := by
  obtain ⟨w, hd, hc, hx⟩ := item_decodes_name hw hit hnm
  refine ⟨w, ?_, hn, hc, hx⟩
  unfold rdName
  rw [hd]
  simp only [if_pos he]

/-- RDATA without compressible names is stored as the octets given -/
theorem rdAt_literal {s : State} {m : CMode} : ∀ {ts : List CompType} {rd : List UInt8} {p e : Nat} {ps : List Nat},
    RdAt s m ts rd p e ps → CompType.compressibleName ∉ ts → BytesAt s.octets p rd ∧ e = p + rd.length := by
  intro ts
  induction ts with
  | nil => intro rd p e ps h _; exact ⟨h.1, h.2.1⟩
  | cons t ts ih =>
    intro rd p e ps h hn
    have hn' : CompType.compressibleName ∉ ts := fun hx => hn (List.mem_cons_of_mem _ hx)
    cases t with
    | compressibleName => exact absurd List.mem_cons_self hn
    | uncompressibleName =>
      obtain ⟨n, rest, hp, hb, _, _, h4⟩ := h
      obtain ⟨hb2, he⟩ := ih h4 hn'
      have hc := parse_content hp
      subst hc
      exact ⟨bytesAt_append_intro hb hb2, by rw [he, List.length_append]; omega⟩
    | fixedLen k =>
      obtain ⟨hk, hb, h4⟩ := h
      obtain ⟨hb2, he⟩ := ih h4 hn'
      have hl : (rd.take k).length = k := by rw [List.length_take]; omega
      refine ⟨?_, by rw [he, List.length_drop]; omega⟩
      have := bytesAt_append_intro hb (by rw [hl]; exact hb2)
      rw [List.take_append_drop] at this
      exact this

/-- the types whose RDATA holds no compressible name are not those of RFC 1035 §3.3 that do -/
theorem literal_types {cls ty : Nat} {ts : List CompType} (h : componentTypes cls ty = some ts)
    (hn : CompType.compressibleName ∉ ts) :
    ¬(ty = 2 ∨ ty = 3 ∨ ty = 4 ∨ ty = 5 ∨ ty = 7 ∨ ty = 8 ∨ ty = 9 ∨ ty = 12) ∧ ty ≠ 6 ∧ ty ≠ 14 ∧ ty ≠ 15 := by
  rw [componentTypes_layout] at h
  simp only [Option.some.injEq] at h
  subst h
  unfold QV.Spec.Message.layoutOf at hn
  refine ⟨fun h1 => ?_, fun h1 => ?_, fun h1 => ?_, fun h1 => ?_⟩
  · rw [if_pos h1] at hn; exact hn (by simp [layToComp])
  · subst h1; simp [layToComp] at hn
  · subst h1; simp [layToComp] at hn
  · subst h1; simp [layToComp] at hn

/-- **the MsgDecode decoder's RDATA expansion on what the writer wrote**: where the parts of an
    RDATA lie (`RdAt`) and the RDATA given is well formed for its type, `expandRdata` succeeds and
    returns the RDATA given with its compressible names written out -/
theorem expandRdata_rdAt (s : State) (hw : WInv s) (m : CMode) (cls ty : Nat) (ts : List CompType)
    (rd : List UInt8) (p len : Nat) (ps : List Nat) (hct : componentTypes cls ty = some ts)
    (h : RdAt s m ts rd p (p + len) ps) (hstop : p + len ≤ s.cursor) (hsh : RdShape ty rd) :
    ∃ rd', expandRdata (s.octets.extract 0 s.cursor) ty p len = some rd' ∧
      RdExpands (m ≠ .standard) ty rd rd' := by
  have hcs : s.cursor ≤ s.octets.size := Nat.le_trans hw.cur_av hw.av_size
  rw [componentTypes_layout] at hct
  simp only [Option.some.injEq] at hct
  subst hct
  unfold RdShape at hsh
  unfold RdExpands expandRdata Message.layoutOf at *
  by_cases h1 : ty = 2 ∨ ty = 3 ∨ ty = 4 ∨ ty = 5 ∨ ty = 7 ∨ ty = 8 ∨ ty = 9 ∨ ty = 12
  · simp only [h1, if_true, List.map_cons, List.map_nil, layToComp, RdAt] at h hsh ⊢
    obtain ⟨n, rest, k, hp, hit, hnm, _, _, hb, he, _⟩ := h
    obtain ⟨n', hp'⟩ := hsh
    rw [hp] at hp'
    simp only [Option.some.injEq, Prod.mk.injEq] at hp'
    obtain ⟨rfl, rfl⟩ := hp'
    simp only [List.length_nil, Nat.add_zero] at he
    obtain ⟨w, hrn, hsim⟩ := rdName_item (e := p + len) hw hit hnm (parse_wf hp) (by omega)
    refine ⟨w, ?_, n, w, by have := parse_content hp; simpa using this, rfl, hsim⟩
    rw [hrn]
    simp only [if_pos he.symm]
  · simp only [h1, if_false] at h hsh ⊢
    by_cases h6 : ty = 6
    · subst h6
      simp only [true_or, if_true, List.map_cons, List.map_nil, layToComp, RdAt] at h hsh ⊢
      obtain ⟨a, r1, k1, hp1, hit1, hnm1, _, _, b, r2, k2, hp2, hit2, hnm2, _, _, hb, he, _⟩ := h
      obtain ⟨a', r1', b', tl, hq1, hq2, htl⟩ := hsh
      rw [hp1] at hq1
      simp only [Option.some.injEq, Prod.mk.injEq] at hq1
      obtain ⟨rfl, rfl⟩ := hq1
      rw [hp2] at hq2
      simp only [Option.some.injEq, Prod.mk.injEq] at hq2
      obtain ⟨rfl, rfl⟩ := hq2
      obtain ⟨wa, hra, hsa⟩ := rdName_item (e := p + len) hw hit1 hnm1 (parse_wf hp1) (by omega)
      obtain ⟨wb, hrb, hsb⟩ := rdName_item (e := p + len) hw hit2 hnm2 (parse_wf hp2) (by omega)
      have hex : ((s.octets.extract 0 s.cursor).extract (p + k1 + k2) (p + len)).toList = r2 := by
        have := bytesAt_extract (bytesAt_extract_prefix hcs hb (by omega))
        rw [← he] at this; exact this
      refine ⟨wa ++ wb ++ r2, ?_, a, b, r2, wa, wb, ?_, rfl, hsa, hsb, htl⟩
      · rw [hra]
        simp only []
        rw [hrb]
        simp only []
        rw [if_pos (by omega), hex]
      · have c1 := parse_content hp1
        have c2 := parse_content hp2
        rw [c1, c2, List.append_assoc]
    · by_cases h14 : ty = 14
      · subst h14
        simp only [Nat.reduceEqDiff, or_true, if_true, if_false, List.map_cons, List.map_nil, layToComp, RdAt] at h hsh ⊢
        obtain ⟨a, r1, k1, hp1, hit1, hnm1, _, _, b, r2, k2, hp2, hit2, hnm2, _, _, hb, he, _⟩ := h
        obtain ⟨a', r1', b', hq1, hq2⟩ := hsh
        rw [hp1] at hq1
        simp only [Option.some.injEq, Prod.mk.injEq] at hq1
        obtain ⟨rfl, rfl⟩ := hq1
        rw [hp2] at hq2
        simp only [Option.some.injEq, Prod.mk.injEq] at hq2
        obtain ⟨rfl, rfl⟩ := hq2
        simp only [List.length_nil, Nat.add_zero] at he
        obtain ⟨wa, hra, hsa⟩ := rdName_item (e := p + len) hw hit1 hnm1 (parse_wf hp1) (by omega)
        obtain ⟨wb, hrb, hsb⟩ := rdName_item (e := p + len) hw hit2 hnm2 (parse_wf hp2) (by omega)
        refine ⟨wa ++ wb, ?_, a, b, wa, wb, ?_, rfl, hsa, hsb⟩
        · rw [hra]
          simp only []
          rw [hrb]
          simp only []
          rw [if_pos he.symm]
        · have c1 := parse_content hp1
          have c2 := parse_content hp2
          rw [c1, c2]; simp
      · by_cases h15 : ty = 15
        · subst h15
          simp only [Nat.reduceEqDiff, or_self, if_true, if_false, List.map_cons, List.map_nil, layToComp, RdAt] at h hsh ⊢
          obtain ⟨h2, hb2, a, r1, k1, hp1, hit1, hnm1, _, _, hb, he, _⟩ := h
          obtain ⟨_, a', hq1⟩ := hsh
          rw [hp1] at hq1
          simp only [Option.some.injEq, Prod.mk.injEq] at hq1
          obtain ⟨rfl, rfl⟩ := hq1
          simp only [List.length_nil, Nat.add_zero] at he
          obtain ⟨wa, hra, hsa⟩ := rdName_item (e := p + len) hw hit1 hnm1 (parse_wf hp1) (by omega)
          have htl : (rd.take 2).length = 2 := by rw [List.length_take]; omega
          have hex : ((s.octets.extract 0 s.cursor).extract p (p + 2)).toList = rd.take 2 := by
            have := bytesAt_extract (bytesAt_extract_prefix hcs hb2 (by rw [htl]; omega))
            rw [htl] at this; exact this
          refine ⟨rd.take 2 ++ wa, ?_, rd.take 2, a, wa, htl, ?_, rfl, hsa⟩
          · rw [if_neg (by omega), hra]
            simp only []
            rw [if_pos he.symm, hex]
          · have c1 := parse_content hp1
            rw [List.append_nil] at c1
            rw [← c1, List.take_append_drop]
        · have hn : CompType.compressibleName ∉ List.map layToComp
              (if ty = 6 ∨ ty = 14 then [Message.Lay.cname, Message.Lay.cname]
               else if ty = 15 then [Message.Lay.fixed 2, Message.Lay.cname]
               else if ty = 33 ∧ cls = 1 then [Message.Lay.fixed 6, Message.Lay.uname]
               else if ty = 1 ∧ cls = 3 then [Message.Lay.uname] else []) := by
            rw [if_neg (by omega), if_neg h15]
            split
            · simp [layToComp]
            · split <;> simp [layToComp]
          obtain ⟨hbb, hee⟩ := rdAt_literal h hn
          have hrl : len = rd.length := by omega
          refine ⟨rd, ?_, ?_⟩
          · simp only [h6, h14, h15, if_false]
            rw [hrl]
            congr 1
            exact bytesAt_extract (bytesAt_extract_prefix hcs hbb (by omega))
          · simp only [h6, h14, h15, if_false]

/-- the decoder's expanded RDATA is the RDATA given with its compressible names written out (for
    16-bit types and RDATA that is well formed for its type) -/
def RdMatch (it : RItC) (dr : DRr) : Prop :=
  it.r.ty < 65536 → RdShape it.r.ty it.r.rdata →
    RdExpands (it.m ≠ .standard) it.r.ty it.r.rdata dr.rdata ∧ dr.rdOk = true

/-- `RMatch` and `RdMatch` together -/
def RMatchX (it : RItC) (dr : DRr) : Prop := RMatch it dr ∧ RdMatch it dr

theorem All2.imp {α β : Type} {R S : α → β → Prop} (hRS : ∀ a b, R a b → S a b) {as : List α} {bs : List β}
    (h : All2 R as bs) : All2 S as bs := by
  induction h with
  | nil => exact .nil
  | cons hh _ ih => exact .cons (hRS _ _ hh) ih

/-- **what the content of a record item says about the record the decoder reads there** -/
theorem rfacts_recAt {s : State} (hw : WInv s) {x : RItC} (hf : RFacts s x) (hle : x.a + x.k + 10 + x.rdlen ≤ s.cursor) :
    RMatchX x (recAt (s.octets.extract 0 s.cursor) x.a x.k) := by
  unfold recAt
  have hcs : s.cursor ≤ s.octets.size := Nat.le_trans hw.cur_av hw.av_size
  obtain ⟨hit, hnm, hby, hb, ts, hct, hrd⟩ := hf
  obtain ⟨w, hd, hcase, hex⟩ := item_decodes_name hw hit hnm
  have hl2 : ∀ y, (u16be y).length = 2 := fun _ => rfl
  obtain ⟨b12, b3⟩ := bytesAt_append hby
  obtain ⟨b1, b2⟩ := bytesAt_append b12
  simp only [List.length_append, hl2] at b2 b3
  have e1 : be16 (s.octets.extract 0 s.cursor) (x.a + x.k) = x.r.ty % 65536 :=
    be16_of_bytesAt_mod (bytesAt_extract_prefix hcs b1 (by rw [hl2]; omega))
  have e2 : be16 (s.octets.extract 0 s.cursor) (x.a + x.k + 2) = x.r.cls % 65536 :=
    be16_of_bytesAt_mod (bytesAt_extract_prefix hcs b2 (by rw [hl2]; omega))
  have e3 : be32 (s.octets.extract 0 s.cursor) (x.a + x.k + 4) = x.r.ttl % 4294967296 :=
    be32_of_bytesAt_mod (bytesAt_extract_prefix hcs (by rw [show x.a + x.k + 4 = x.a + x.k + (2 + 2) by omega]; exact b3)
      (by show _ + 4 ≤ _; omega))
  have e8 : be16 (s.octets.extract 0 s.cursor) (x.a + x.k + 8) = x.rdlen := by
    rw [be16_extract _ _ _ hcs (by omega)]; exact hb
  refine ⟨⟨by show List.map lowerU8 (nameAtD _ _) = _; rw [nameAtD_eq hd]; exact hcase,
      fun hm => by show nameAtD _ _ = _; rw [nameAtD_eq hd]; exact hex hm, e1, e2, e3, rfl, fun hty ts' hct' hn => ?_⟩,
    fun hty hsh => ?_⟩
  · -- a type without compressible names: the RDATA lies there octet for octet
    rw [hct] at hct'
    simp only [Option.some.injEq] at hct'
    subst hct'
    obtain ⟨n1, n2, n3, n4⟩ := literal_types hct hn
    obtain ⟨hbb, hee⟩ := rdAt_literal hrd hn
    have hrl : x.rdlen = x.r.rdata.length := by omega
    have hlit : expandRdata (s.octets.extract 0 s.cursor) (x.r.ty % 65536) (x.a + x.k + 10) x.rdlen = some x.r.rdata := by
      unfold expandRdata
      rw [Nat.mod_eq_of_lt hty]
      simp only [n1, n2, n3, n4, if_false]
      rw [hrl]
      congr 1
      exact bytesAt_extract (bytesAt_extract_prefix hcs hbb (by omega))
    show (rdOf _ _ _ _).1 = _ ∧ (rdOf _ _ _ _).2 = true
    rw [e1, e8, rdOf_some hlit]
    exact ⟨rfl, rfl⟩
  · obtain ⟨rd', h1, h2⟩ := expandRdata_rdAt s hw x.m x.r.cls x.r.ty ts x.r.rdata _ _ x.ps hct hrd (by omega) hsh
    show RdExpands _ _ _ (rdOf _ _ _ _).1 ∧ (rdOf _ _ _ _).2 = true
    rw [e1, e8, Nat.mod_eq_of_lt hty, rdOf_some h1]
    exact ⟨h2, rfl⟩

/-- the decoder on a chain of record items with content -/
theorem decodeRrs_rchainC (s : State) (hw : WInv s) {rs : List RItC} {p e : Nat} (h : RChainC s rs p e)
    (he : e ≤ s.cursor) :
    decodeRrs (s.octets.extract 0 s.cursor) rs.length p =
        some (rs.map fun it => recAt (s.octets.extract 0 s.cursor) it.a it.k, e) ∧
      All2 RMatchX rs (rs.map fun it => recAt (s.octets.extract 0 s.cursor) it.a it.k) := by
  have hd := decodeRrs_rchain s hw _ p e (rchain_of_chainC h) he
  rw [List.length_map, List.map_map] at hd
  exact ⟨hd, all2_map_of_mem _ rs fun x hx => by
    obtain ⟨_, hf, hle⟩ := rchainC_mem h x hx
    exact rfacts_recAt hw hf (by omega)⟩

theorem rchainC_split {s : State} : ∀ {l1 l2 : List RItC} {p e : Nat}, RChainC s (l1 ++ l2) p e →
    ∃ m, RChainC s l1 p m ∧ RChainC s l2 m e := by
  intro l1
  induction l1 with
  | nil => intro l2 p e h; exact ⟨p, rfl, h⟩
  | cons x r ih =>
    intro l2 p e h
    obtain ⟨h1, h2, h3⟩ := h
    obtain ⟨m, ha, hb⟩ := ih h3
    exact ⟨m, ⟨h1, h2, ha⟩, hb⟩

/-- the first `n` records of a chain, and the chain that is left -/
theorem decodeRrs_chainCX (s : State) (hw : WInv s) :
    ∀ (rs : List RItC) (p e : Nat), RChainC s rs p e → e ≤ s.cursor → ∀ n, n ≤ rs.length →
      ∃ l p', decodeRrs (s.octets.extract 0 s.cursor) n p = some (l, p') ∧
        All2 RMatchX (rs.take n) l ∧ RChainC s (rs.drop n) p' e := by
  intro rs p e h he n hn
  rw [← List.take_append_drop n rs] at h
  obtain ⟨m, h1, h2⟩ := rchainC_split h
  obtain ⟨hd, hm⟩ := decodeRrs_rchainC s hw h1 (Nat.le_trans (rchainC_le h2) he)
  rw [List.length_take, Nat.min_eq_left hn] at hd
  exact ⟨_, m, hd, hm, h2⟩


/-! ### what `finish` appends, with content -/

/-- the final chains with content -/
structure FinLayC (P : CMode → Prop) (s sF : State) (len : Nat) (mac : Option (List UInt8)) (b : Body)
    (mb : MBody) : Prop where
  winv : WInv sF
  len : len = sF.cursor
  /-- the first four header octets are untouched -/
  hdr : ∀ i, i < 4 → sF.octets[i]? = s.octets[i]?
  counts : BytesAt sF.octets 4 (u16be s.qdcount ++ u16be s.ancount ++ u16be s.nscount ++ u16be s.arcount)
  chains : ∃ qs rs, QChainC sF qs 12 s.rrStart ∧ RChainC sF rs s.rrStart sF.cursor ∧
    qs.map (·.q) = b.qs ∧
    rs.map (·.r) = b.an ++ b.ns ++ (b.ar ++ optRecs' s.edns ++ tsigRecs s.tsig mac) ∧
    (∀ it ∈ qs, P it.m) ∧ (∀ it ∈ rs, P it.m) ∧ qs.map (·.m) = mb.qs ∧
    rs.map (·.m) = mb.an ++ mb.ns ++ (mb.ar ++ (optRecs' s.edns).map (fun _ => s.mode) ++
      (tsigRecs s.tsig mac).map (fun _ => s.mode)) ∧
    -- the items are those of the state before `finish`, followed by the pseudo-records
    ∃ rs0 ex, rs = rs0 ++ ex ∧ QChainC s qs 12 s.rrStart ∧ RChainC s rs0 s.rrStart s.cursor ∧
      -- every recorded label start belongs to a name of the chains
      Labs sF s.rrStart qs rs

theorem finishWithMac_finLayC (macFn : Tsig → List UInt8 → List UInt8) (s : State) (b : Body) (mb : MBody)
    (hI : I s) (hL : CLay P s b mb) (len : Nat) (mac : Option (List UInt8)) (sF : State)
    (hw : finishWithMac macFn s = (.ok (len, mac), sF)) (hle : sF.cursor ≤ 65535) :
    FinLayC P s sF len mac b mb := by
  obtain ⟨wF, hlen, pr, hhdr, kcnt, ha⟩ := finishWithMac_appended hI hw
  obtain ⟨its, ap, hrecs⟩ := ha hle
  obtain ⟨qs, hq, hqm, hqP, hqM, hqJ⟩ := hL.q
  obtain ⟨rs, hr, hrm, hrP, hrM, hrJ⟩ := hL.r (by have := pr.cur; omega)
  have hmodes : its.map (·.m) = (optRecs' s.edns ++ tsigRecs s.tsig mac).map (fun _ => s.mode) := by
    rw [← hrecs, List.map_map]; exact List.map_congr_left (fun it hx => ap.modes it hx)
  exact { winv := wF, len := hlen, hdr := hhdr, counts := kcnt,
          chains := ⟨qs, rs ++ its, qchainC_pres hI.winv pr (Nat.le_refl _) hI.inv.rr_hi hq,
            rchainC_append (rchainC_pres hI.winv pr (qchainC_le hq) (Nat.le_refl _) hr) ap.chain, hqm,
            by rw [List.map_append, hrm, hrecs]; simp only [List.append_assoc], hqP,
            fun it hx => (List.mem_append.mp hx).elim (hrP it) (fun h => by rw [ap.modes it h]; exact hL.pm), hqM,
            by rw [List.map_append, hrM, hmodes, List.map_append]; simp only [List.append_assoc],
            rs, its, rfl, hq, hr, labs_appended pr hq hr (labs_of hqJ hrJ) ap⟩ }

/-- a list whose image is three sections in a row splits into the three -/
theorem map_sections {α β : Type} (f : α → β) (l : List α) (a b c : List β) (h : l.map f = a ++ b ++ c) :
    (l.take a.length).map f = a ∧ ((l.drop a.length).take b.length).map f = b ∧
      ((l.drop a.length).drop b.length).map f = c := by
  rw [List.append_assoc] at h
  obtain ⟨h1, h2⟩ := map_take_eq f l a (b ++ c) h
  exact ⟨h1, map_take_eq f _ b c h2⟩

/-- the three sections of a list are the list -/
theorem sections_append {α : Type} (l : List α) (i j : Nat) :
    l.take i ++ (l.drop i).take j ++ (l.drop i).drop j = l := by
  rw [List.append_assoc, List.take_append_drop, List.take_append_drop]

/-- **`finish`, with content**: the message is the buffer of `finish_with_mac` below its cursor; its
    header counts are the writer's; the items of the final chains are as many as the counts say
    and, cut into the three sections, hold the records given and were written in the modes given -/
theorem finish_finLayC (macFn : Tsig → List UInt8 → List UInt8) (s : State) (b : Body) (mb : MBody)
    (hI : I s) (hL : CLay P s b mb) (m : Bytes) (mac : Option (List UInt8)) (hf : finish s macFn = .ok (m, mac))
    (hsz : m.size ≤ 65535) :
    ∃ sF len qs rs, finishWithMac macFn s = (.ok (len, mac), sF) ∧ m = sF.octets.extract 0 sF.cursor ∧
      sF.cursor ≤ sF.octets.size ∧ WInv sF ∧ (∀ i, i < 4 → sF.octets[i]? = s.octets[i]?) ∧
      (be16 m 4 = s.qdcount ∧ be16 m 6 = s.ancount ∧ be16 m 8 = s.nscount ∧ be16 m 10 = s.arcount) ∧
      QChainC sF qs 12 s.rrStart ∧ RChainC sF rs s.rrStart sF.cursor ∧
      qs.length = s.qdcount ∧ rs.length = s.ancount + s.nscount + s.arcount ∧ qs.map (·.q) = b.qs ∧
      ((rs.take s.ancount).map (·.r) = b.an ∧ ((rs.drop s.ancount).take s.nscount).map (·.r) = b.ns ∧
        ((rs.drop s.ancount).drop s.nscount).map (·.r) = b.ar ++ optRecs' s.edns ++ tsigRecs s.tsig mac) ∧
      (∀ it ∈ qs, P it.m) ∧ (∀ it ∈ rs, P it.m) ∧ qs.map (·.m) = mb.qs ∧
      ((rs.take s.ancount).map (·.m) = mb.an ∧ ((rs.drop s.ancount).take s.nscount).map (·.m) = mb.ns ∧
        ((rs.drop s.ancount).drop s.nscount).map (·.m) =
          mb.ar ++ (optRecs' s.edns).map (fun _ => s.mode) ++ (tsigRecs s.tsig mac).map (fun _ => s.mode)) ∧
      (∃ rs0 ex, rs = rs0 ++ ex ∧ QChainC s qs 12 s.rrStart ∧ RChainC s rs0 s.rrStart s.cursor) ∧
      Labs sF s.rrStart qs rs := by
  obtain ⟨sF, len, hw, hlc, rfl, hcF⟩ := finish_ok_inv hI.inv hf
  have hsz' := extract_size sF.octets sF.cursor hcF
  have hF := finishWithMac_finLayC macFn s b mb hI hL len mac sF hw (by rw [← hsz']; exact hsz)
  obtain ⟨qs, rs, hq, hr, hqm, hrm, hqP, hrP, hqM, hrM, rs0, ex, hrs0, hq0, hr0, hlabF⟩ := hF.chains
  have hpl : (optRecs' s.edns ++ tsigRecs s.tsig mac).length = pend s := by
    unfold pend
    cases s.edns <;> cases s.tsig <;> simp [optRecs', tsigRecs]
  have hrl : rs.length = s.ancount + s.nscount + s.arcount := by
    have := congrArg List.length hrm
    rw [List.length_map] at this
    rw [this, hL.an, hL.ns, hL.ar]
    simp only [List.length_append] at hpl ⊢
    omega
  have hsr := map_sections (·.r) rs _ _ _ hrm
  have hsm := map_sections (·.m) rs _ _ _ hrM
  rw [← hL.an, ← hL.ns] at hsr
  rw [hL.ml.1, hL.ml.2.1, ← hL.an, ← hL.ns] at hsm
  exact ⟨sF, len, qs, rs, hw, rfl, hcF, hF.winv, hF.hdr,
    counts_be16 hcF hF.winv.c12 hF.counts hI.inv.qd hI.inv.an hI.inv.ns hI.inv.ar, hq, hr,
    by rw [← List.length_map (f := (·.q)), hqm, hL.qd], hrl, hqm, hsr, hqP, hrP, hqM, hsm,
    ⟨rs0, ex, hrs0, hq0, hr0⟩, hlabF⟩

/-- the finished message decodes section by section along the final record chain `rs` of the buffer
    `sF` of `finish_with_mac`: the items of the state before `finish` (`rs0`) followed by the
    pseudo-records (`ex`), cut by the counts into answers, authorities and additionals -/
theorem finish_decodes_chain (macFn : Tsig → List UInt8 → List UInt8) (s : State) (b : Body) (mb : MBody)
    (hI : I s) (hL : CLay P s b mb) (m : Bytes) (mac : Option (List UInt8)) (hf : finish s macFn = .ok (m, mac))
    (hsz : m.size ≤ 65535) :
    ∃ (d : DMsg) (qs : List QItC) (rs rs0 ex : List RItC) (sF : State) (len p2 p3 : Nat),
      specDecodeMsg m = some d ∧ qs.map (·.q) = b.qs ∧
      ((rs.take s.ancount).map (·.r) = b.an ∧ ((rs.drop s.ancount).take s.nscount).map (·.r) = b.ns ∧
        ((rs.drop s.ancount).drop s.nscount).map (·.r) = b.ar ++ optRecs' s.edns ++ tsigRecs s.tsig mac) ∧
      All2 QMatch qs d.questions ∧ All2 RMatchX (rs.take s.ancount) d.an ∧
      All2 RMatchX ((rs.drop s.ancount).take s.nscount) d.ns ∧
      All2 RMatchX ((rs.drop s.ancount).drop s.nscount) d.ar ∧
      (∀ it ∈ qs, P it.m) ∧ (∀ it ∈ rs, P it.m) ∧
      finishWithMac macFn s = (.ok (len, mac), sF) ∧ m = sF.octets.extract 0 sF.cursor ∧ WInv sF ∧
      decodeRrs m s.ancount s.rrStart = some (d.an, p2) ∧ decodeRrs m s.nscount p2 = some (d.ns, p3) ∧
      RChainC sF rs s.rrStart sF.cursor ∧ rs.length = s.ancount + s.nscount + s.arcount ∧
      rs = rs0 ++ ex ∧ RChainC s rs0 s.rrStart s.cursor := by
  obtain ⟨sF, len, qs, rs, hw, rfl, hcF, wF, _, ⟨e4, e6, e8, e10⟩, hq, hr, hql, hrl, hqm, hrsec, hqP, hrP, _, _,
      ⟨rs0, ex, hrs0, _, hr0⟩, _⟩ := finish_finLayC macFn s b mb hI hL m mac hf hsz
  have hsz' := extract_size sF.octets sF.cursor hcF
  have hrs := rchainC_le hr
  -- questions
  have hdq := decodeQuestions_qchain sF wF _ 12 s.rrStart (qchain_of_chainC hq) hrs
  rw [List.length_map, hql, List.map_map] at hdq
  -- the record chain, cut by the counts into the three sections
  have hr' := hr
  rw [← List.take_append_drop s.ancount rs, ← List.take_append_drop s.nscount (rs.drop s.ancount)] at hr'
  obtain ⟨p2, ha, hr'⟩ := rchainC_split hr'
  obtain ⟨p3, hn, hrr⟩ := rchainC_split hr'
  have l3 := rchainC_le hrr; have l2 := rchainC_le hn
  obtain ⟨hda, hma⟩ := decodeRrs_rchainC sF wF ha (by omega)
  obtain ⟨hdn, hmn⟩ := decodeRrs_rchainC sF wF hn (by omega)
  obtain ⟨hdr, hmr⟩ := decodeRrs_rchainC sF wF hrr (Nat.le_refl _)
  rw [List.length_take, Nat.min_eq_left (by omega)] at hda
  rw [List.length_take, List.length_drop, Nat.min_eq_left (by omega)] at hdn
  rw [List.length_drop, List.length_drop, show rs.length - s.ancount - s.nscount = s.arcount by omega] at hdr
  refine ⟨⟨be16 (sF.octets.extract 0 sF.cursor) 0, be16 (sF.octets.extract 0 sF.cursor) 2, _, _, _, _⟩,
    qs, rs, rs0, ex, sF, len, p2, p3, ?_, hqm, hrsec,
    all2_map_of_mem _ qs (fun x hx => qfacts_qAt wF (qchainC_mem hq x hx).2.1 (by
      have := (qchainC_mem hq x hx).2.2; omega)),
    hma, hmn, hmr, hqP, hrP, hw, rfl, wF, hda, hdn, hr, hrl, hrs0, hr0⟩
  exact specDecodeMsg_of_sections (by rw [hsz']; exact wF.c12) (by rw [e4]; exact hdq) (by rw [e6]; exact hda)
    (by rw [e8]; exact hdn) (by rw [e10]; exact hdr) hsz'.symm

/-- **C12 (d) in every compression mode, content and expanded RDATA.** As `finish_decodes_content`
    below, and in addition (`RdMatch`): for every record of a 16-bit type whose given RDATA is well
    formed for its type (`RdShape`), the RDATA the decoder reports — with the names of the RFC 1035
    types NS, MD, MF, CNAME, SOA, MB, MG, MR, PTR, MINFO, MX expanded — is the RDATA given with those
    names written out: equal up to ASCII case, octet for octet when the record was written outside
    `Standard` mode (`RdExpands`, `rdExpands_lower`), and `rdOk = true`. -/
theorem finish_decodes_core (macFn : Tsig → List UInt8 → List UInt8) (s : State) (b : Body) (mb : MBody)
    (hI : I s) (hL : CLay P s b mb) (m : Bytes) (mac : Option (List UInt8)) (hf : finish s macFn = .ok (m, mac))
    (hsz : m.size ≤ 65535) :
    ∃ (d : DMsg) (qs : List QItC) (ian ins iar : List RItC), specDecodeMsg m = some d ∧
      qs.map (·.q) = b.qs ∧ ian.map (·.r) = b.an ∧ ins.map (·.r) = b.ns ∧
      iar.map (·.r) = b.ar ++ optRecs' s.edns ++ tsigRecs s.tsig mac ∧
      All2 QMatch qs d.questions ∧ All2 RMatchX ian d.an ∧ All2 RMatchX ins d.ns ∧ All2 RMatchX iar d.ar ∧
      (∀ it ∈ qs, P it.m) ∧ (∀ it ∈ ian ++ ins ++ iar, P it.m) ∧
      -- how the message came about: the final buffer, and the answer / authority sections as the
      -- decoder's record loop returns them
      ∃ sF len p2 p3, finishWithMac macFn s = (.ok (len, mac), sF) ∧ m = sF.octets.extract 0 sF.cursor ∧ WInv sF ∧
        decodeRrs m s.ancount s.rrStart = some (d.an, p2) ∧ decodeRrs m s.nscount p2 = some (d.ns, p3) := by
  obtain ⟨d, qs, rs, rs0, ex, sF, len, p2, p3, hd, hqm, ⟨hra, hrn, hrr⟩, hmq, hma, hmn, hmr, hqP, hrP, hw, hm, wF, hda,
      hdn, _⟩ := finish_decodes_chain macFn s b mb hI hL m mac hf hsz
  exact ⟨d, qs, rs.take s.ancount, (rs.drop s.ancount).take s.nscount, (rs.drop s.ancount).drop s.nscount, hd, hqm,
    hra, hrn, hrr, hmq, hma, hmn, hmr, hqP, by rw [sections_append]; exact hrP, sF, len, p2, p3, hw, hm, wF, hda, hdn⟩

/-- `finish_decodes_core` without the description of how the message came about -/
theorem finish_decodes_rdata (macFn : Tsig → List UInt8 → List UInt8) (s : State) (b : Body) (mb : MBody)
    (hI : I s) (hL : CLay P s b mb) (m : Bytes) (mac : Option (List UInt8)) (hf : finish s macFn = .ok (m, mac))
    (hsz : m.size ≤ 65535) :
    ∃ (d : DMsg) (qs : List QItC) (ian ins iar : List RItC), specDecodeMsg m = some d ∧
      qs.map (·.q) = b.qs ∧ ian.map (·.r) = b.an ∧ ins.map (·.r) = b.ns ∧
      iar.map (·.r) = b.ar ++ optRecs' s.edns ++ tsigRecs s.tsig mac ∧
      All2 QMatch qs d.questions ∧ All2 RMatchX ian d.an ∧ All2 RMatchX ins d.ns ∧ All2 RMatchX iar d.ar ∧
      (∀ it ∈ qs, P it.m) ∧ ∀ it ∈ ian ++ ins ++ iar, P it.m := by
  obtain ⟨d, qs, ian, ins, iar, h1, h2, h3, h4, h5, h6, h7, h8, h9, h10, h11, _⟩ :=
    finish_decodes_core macFn s b mb hI hL m mac hf hsz
  exact ⟨d, qs, ian, ins, iar, h1, h2, h3, h4, h5, h6, h7, h8, h9, h10, h11⟩

/-- **C12 (d) in every compression mode, content.** From a valid writer state whose layout holds the
    questions and records `b`: whatever `finish` returns (if at most 65535 octets) decodes completely
    under the independent message decoder, and — section by section, in order — every decoded
    question and record is the one given: name equal up to ASCII case (octet for octet when it was
    written in `CasePreserving` or `Disabled` mode), TYPE, CLASS, TTL as given (as 16/16/32-bit
    values); the additional section ends with the OPT and TSIG records `finish` appends. -/
theorem finish_decodes_content (macFn : Tsig → List UInt8 → List UInt8) (s : State) (b : Body) (mb : MBody)
    (hI : I s) (hL : CLay P s b mb) (m : Bytes) (mac : Option (List UInt8)) (hf : finish s macFn = .ok (m, mac))
    (hsz : m.size ≤ 65535) :
    ∃ (d : DMsg) (qs : List QItC) (ian ins iar : List RItC), specDecodeMsg m = some d ∧
      qs.map (·.q) = b.qs ∧ ian.map (·.r) = b.an ∧ ins.map (·.r) = b.ns ∧
      iar.map (·.r) = b.ar ++ optRecs' s.edns ++ tsigRecs s.tsig mac ∧
      All2 QMatch qs d.questions ∧ All2 RMatch ian d.an ∧ All2 RMatch ins d.ns ∧ All2 RMatch iar d.ar ∧
      (∀ it ∈ qs, P it.m) ∧ ∀ it ∈ ian ++ ins ++ iar, P it.m := by
  obtain ⟨d, qs, ian, ins, iar, h1, h2, h3, h4, h5, h6, h7, h8, h9, h10, h11⟩ :=
    finish_decodes_rdata macFn s b mb hI hL m mac hf hsz
  exact ⟨d, qs, ian, ins, iar, h1, h2, h3, h4, h5, h6, h7.imp (fun _ _ hx => hx.1), h8.imp (fun _ _ hx => hx.1),
    h9.imp (fun _ _ hx => hx.1), h10, h11⟩

end QV.Writer
