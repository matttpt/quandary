/-
  QV.Proofs.WriterSafe — the writer's theorems seen from a caller (interface used by C01/C02):
  the invariant `I` (C12's numeric invariant ∧ C13's anchor validity), the hint contract `Den`,
  and, call by call: no panic, `I` again, every valid anchor stays valid — whatever the call
  returns — plus which anchors / `HintPointerVec` entries are valid after a successful call.

  `HintOK … MacLenOK` and `WriterSafe` (namespace `QV.ServerSafety`) are the interface the request
  handler's proofs are written against; `writerSafe` instantiates it.
-/
import QV.Proofs.WriterRdPos
import QV.Proofs.WriterSingle
import QV.Proofs.WriterBudget

namespace QV.Writer
open QV QV.Wire

/-! ### the caller-visible invariant -/

/-- the part of the message that `clear_rrs` keeps (everything below `rr_start`) is
    self-contained: every label start recorded there begins a name stored below `rr_start`, and
    so does the QNAME anchor -/
structure QInv (s : State) : Prop where
  labs : ∀ g ∈ s.gLabels, g < s.rrStart → ∃ ls, NameAt (GL s) s.octets s.rrStart g ls
  qn : ∀ p, s.qname = some p → PriorOK (GL s) s.octets s.rrStart p

/-- the TSIG configuration is what `set_tsig` stored for well-formed arguments -/
def TsigOK (s : State) : Prop :=
  ∀ ts, s.tsig = some ts → ts.reservedLen = reservedLenOf ts.mode ts.rr ∧ ts.rr.keyName.WF ∧
    (tsigAlgName ts.mode).WF ∧ ts.rr.timeSigned.length = 6 ∧ ts.rr.serverTime.length = 6

/-- **the writer invariant** -/
structure I (s : State) : Prop where
  inv : Inv s
  winv : WInv s
  qinv : QInv s
  tsig : TsigOK s
  log : PtrLogOK s

/-- what a state transformation must keep for the structural invariants to carry over -/
structure Keeps (s s' : State) : Prop where
  stored : ∀ c, c ≤ s.cursor → ∀ p ls, NameAt (GL s) s.octets c p ls → NameAt (GL s') s'.octets c p ls
  cursor : s'.cursor = s.cursor
  rrStart : s'.rrStart = s.rrStart
  gl : s'.gLabels = s.gLabels
  qn : s'.qname = s.qname
  ow : s'.mostRecentOwner = s.mostRecentOwner
  rd : s'.mostRecentNameInRdata = s.mostRecentNameInRdata
  gp : s'.gPtrs = s.gPtrs
  cstored : ∀ g, CStored s g → CStored s' g

theorem ptrLog_keeps {s s' : State} (k : Keeps s s') (h : PtrLogOK s) : PtrLogOK s' := by
  intro x hx
  rw [k.gp] at hx
  obtain ⟨h1, h2, h3, h4, h5, ls, h6⟩ := h x hx
  refine ⟨h1, by rw [k.cursor]; exact h2, h3, h4, by rw [k.gl]; exact h5, ls, ?_⟩
  have := k.stored s.cursor (Nat.le_refl _) _ _ h6
  unfold StoredAt; rw [k.cursor]; exact this

theorem den_keeps {s s' : State} (k : Keeps s s') {p : Prior} {n : WName} (h : Den s p n) : Den s' p n := by
  obtain ⟨h1, h2, h3, ls, h4, h5⟩ := h
  refine ⟨h1, h2, h3, ls, ?_, h5⟩
  have := k.stored s.cursor (Nat.le_refl _) _ _ h4
  unfold StoredAt; rw [k.cursor]; exact this

theorem anchorOK_keeps {s s' : State} (k : Keeps s s') {a : Option Prior} (h : AnchorOK s a) :
    AnchorOK s' a := by
  intro p hp
  obtain ⟨h1, h2, ls, h3, h4⟩ := h p hp
  refine ⟨h1, h2, ls, ?_, h4⟩
  have := k.stored s.cursor (Nat.le_refl _) _ _ h3
  rw [k.cursor]; exact this

/-- structural invariants along a `Keeps` step whose numeric side is given by `Inv` -/
theorem i_keeps {s s' : State} (h : I s) (k : Keeps s s') (hinv : Inv s') (ht : TsigOK s') : I s' := by
  have w := h.winv
  refine ⟨hinv, ⟨hinv.hdr, hinv.cur_av, Nat.le_trans hinv.av_lim hinv.lim_size, by rw [k.gl]; exact w.g12, ?_,
    by rw [k.qn]; exact anchorOK_keeps k w.qn, by rw [k.ow]; exact anchorOK_keeps k w.ow,
    by rw [k.rd]; exact anchorOK_keeps k w.rd,
    fun g hg => k.cstored g (w.clabs g (by rw [← k.gl]; exact hg))⟩, ⟨?_, ?_⟩, ht, ptrLog_keeps k h.log⟩
  · intro g hg
    rw [k.gl] at hg
    obtain ⟨ls, hl⟩ := w.labs g hg
    refine ⟨ls, ?_⟩
    have := k.stored s.cursor (Nat.le_refl _) _ _ hl
    unfold StoredAt; rw [k.cursor]; exact this
  · intro g hg hlt
    rw [k.gl] at hg
    rw [k.rrStart] at hlt ⊢
    obtain ⟨ls, hl⟩ := h.qinv.labs g hg hlt
    exact ⟨ls, k.stored s.rrStart h.inv.rr_hi _ _ hl⟩
  · intro p hp
    rw [k.qn] at hp
    obtain ⟨ls, hl, hlen⟩ := h.qinv.qn p hp
    rw [k.rrStart]
    exact ⟨ls, k.stored s.rrStart h.inv.rr_hi _ _ hl, hlen⟩

/-- nothing that names depend on changed -/
theorem keeps_same {s s' : State} (ho : s'.octets = s.octets) (hc : s'.cursor = s.cursor)
    (hr : s'.rrStart = s.rrStart) (hg : s'.gLabels = s.gLabels) (hq : s'.qname = s.qname)
    (how : s'.mostRecentOwner = s.mostRecentOwner)
    (hrd : s'.mostRecentNameInRdata = s.mostRecentNameInRdata) (hgp : s'.gPtrs = s.gPtrs := by rfl) :
    Keeps s s' := by
  have hG : GL s' = GL s := by unfold GL; rw [hg]
  refine ⟨?_, hc, hr, hg, hq, how, hrd, hgp, ?_⟩
  · intro c _ p ls hn
    rw [hG, ho]; exact hn
  · intro g ⟨ls, hn, hb⟩
    refine ⟨ls, ?_, hb⟩
    rw [hG, ho, hc]; exact hn

/-- octets changed only inside the header, everything else that names depend on untouched -/
theorem keeps_header' {s s' : State} (h : WInv s) (hpre : ∀ i, 12 ≤ i → s'.octets[i]? = s.octets[i]?)
    (hc : s'.cursor = s.cursor) (hr : s'.rrStart = s.rrStart) (hg : s'.gLabels = s.gLabels)
    (hq : s'.qname = s.qname) (how : s'.mostRecentOwner = s.mostRecentOwner)
    (hrd : s'.mostRecentNameInRdata = s.mostRecentNameInRdata) (hgp : s'.gPtrs = s.gPtrs := by rfl) :
    Keeps s s' := by
  have hG : GL s' = GL s := by unfold GL; rw [hg]
  refine ⟨?_, hc, hr, hg, hq, how, hrd, hgp, ?_⟩
  · intro c _ p ls hn
    rw [hG]
    exact nameAt_frame (lo := 12) hn (fun _ hx => hx) (fun x hx => h.g12 x hx) (fun i hi _ => hpre i hi)
      (Nat.le_refl _)
  · intro g ⟨ls, hn, hb⟩
    refine ⟨ls, ?_, hb⟩
    rw [hG, hc]
    exact nameAtC_frame (lo := 12) hn (fun _ hx => hx) (fun x hx => h.g12 x hx) (fun i hi _ => hpre i hi)
      (Nat.le_refl _)

/-- octets changed only inside the 12-octet header -/
theorem keeps_header {s : State} (h : WInv s) (o : Bytes) (hsz : o.size = s.octets.size)
    (hpre : ∀ i, 12 ≤ i → o[i]? = s.octets[i]?) : Keeps s { s with octets := o } :=
  keeps_header' h hpre rfl rfl rfl rfl rfl rfl

end QV.Writer

/-! ## the interface -/

namespace QV.ServerSafety
open QV QV.Writer

/-- a hint is *valid* for the name it accompanies: the anchor it resolves to (if any) starts an
    earlier copy of that name -/
def HintOK (Den : State → Prior → WName → Prop) (s : State) : Hint → WName → Prop
  | .qname, n => ∀ q, s.qname = some q → Den s q n
  | .mostRecentOwner, n => ∀ q, s.mostRecentOwner = some q → Den s q n
  | .mostRecentNameInRdata, n => ∀ q, s.mostRecentNameInRdata = some q → Den s q n
  | .explicit p, n => p < s.cursor → Den s ⟨p, n.len⟩ n
  | .none, _ => True

theorem hintOK_iff (s : State) (h : Hint) (n : WName) : HintOK Writer.Den s h n ↔ Writer.HintOK s h n := by
  cases h <;> exact Iff.rfl

/-- the writer calls the server makes besides `add_question`, `clear_rrs` and `finish` -/
inductive Call where
  | setId (v : Nat) | setBit (byte mask : Nat) (v : Bool) | setOpcode (v : Nat) | setRcode (v : Nat)
  | setExtendedRcode (v : Nat) | setLimit (v : Nat) | setEdns (p : Nat)
  | setTsig (m : TsigMode) (rr : TsigRr)
  | addRr (sec : RrSection) (hint : Hint) (owner : WName) (ty cls ttl : Nat) (rdata : List UInt8)
  | addRrset (sec : RrSection) (hint : Hint) (owner : WName) (ty cls ttl : Nat)
      (rdatas : List (List UInt8))

def Call.run : Call → M Unit
  | .setId v => Writer.setId v
  | .setBit b m v => Writer.setBit b m v
  | .setOpcode v => Writer.setOpcode v
  | .setRcode v => Writer.setRcode v
  | .setExtendedRcode v => Writer.setExtendedRcode v
  | .setLimit v => Writer.setLimit v
  | .setEdns p => Writer.setEdns p
  | .setTsig m rr => Writer.setTsig m rr
  | .addRr sec h o ty cls ttl rd => addRrOp sec h o ty cls ttl rd
  | .addRrset sec h o ty cls ttl rds => addRrsetOp sec h o ty cls ttl rds

/-- the documented contract of each call -/
def Call.Pre (Den : State → Prior → WName → Prop) (s : State) : Call → Prop
  | .setBit b _ _ => b < Gen.HEADER_SIZE
  | .setLimit v => v ≤ 65535
  | .setTsig m rr => rr.keyName.WF ∧ (tsigAlgName m).WF ∧ rr.timeSigned.length = 6 ∧ rr.serverTime.length = 6
  | .addRr _ h o _ _ _ _ => o.WF ∧ HintOK Den s h o
  | .addRrset _ h o _ _ _ _ => o.WF ∧ HintOK Den s h o
  | _ => True

/-- what every call preserves of the anchors: the QNAME anchor itself, and the validity of every
    anchor that was valid -/
def Mono (Den : State → Prior → WName → Prop) (s s' : State) : Prop :=
  s'.qname = s.qname ∧ ∀ p n, Den s p n → Den s' p n

/-- the MAC handed back by the signing function fits the reservation made by `set_tsig` -/
def MacLenOK (macFn : Tsig → List UInt8 → List UInt8) : Prop :=
  ∀ ts msg, (macFn ts msg).length ≤
    (match ts.mode with
     | .request a _ => algOutputSize a
     | .response a _ _ => algOutputSize a
     | .subsequent a _ _ => algOutputSize a
     | .unsigned _ => 0)

/-- **Interface to the writer's theorems.** -/
structure WriterSafe where
  I : State → Prop
  Den : State → Prior → WName → Prop
  /-- the caller's `HintPointerVec` is not part of the writer -/
  I_hv : ∀ s v, I s → I { s with hv := v }
  Den_hv : ∀ s v p n, Den s p n → Den { s with hv := v } p n
  /-- a DNS message is at most 65535 octets: so are the limits the server asks for -/
  new_I : ∀ buf limit s, limit ≤ 65535 → Writer.new buf limit = .ok s → I s
  call : ∀ (c : Call) s, I s → c.Pre Den s →
    (c.run s).1 ≠ .panic ∧ I (c.run s).2 ∧ Mono Den s (c.run s).2
  addQuestion : ∀ qn qt qc s, I s → qn.WF →
    (Writer.addQuestion qn qt qc s).1 ≠ .panic ∧ I (Writer.addQuestion qn qt qc s).2 ∧
    (∀ p n, Den s p n → Den (Writer.addQuestion qn qt qc s).2 p n) ∧
    ((Writer.addQuestion qn qt qc s).1 = .ok () → s.sect = .question → s.qdcount = 0 →
      HintOK Den (Writer.addQuestion qn qt qc s).2 .qname qn)
  addRr_post : ∀ sec hint owner ty cls ttl rd s, I s → owner.WF → HintOK Den s hint owner →
    (addRrOp sec hint owner ty cls ttl rd s).1 = .ok () →
    HintOK Den (addRrOp sec hint owner ty cls ttl rd s).2 .mostRecentOwner owner ∧
    ∀ n, (rdataNames cls ty rd).getLast? = some n →
      HintOK Den (addRrOp sec hint owner ty cls ttl rd s).2 .mostRecentNameInRdata n
  addRrset_post : ∀ sec hint owner ty cls ttl rds s, I s → owner.WF → HintOK Den s hint owner →
    rds ≠ [] → (addRrsetOp sec hint owner ty cls ttl rds s).1 = .ok () →
    HintOK Den (addRrsetOp sec hint owner ty cls ttl rds s).2 .mostRecentOwner owner ∧
    (s.hv = some [] → ∀ v : List (Option Nat), (addRrsetOp sec hint owner ty cls ttl rds s).2.hv = some v →
      ∀ i p : Nat, v[i]? = some (some p) →
        ∃ n, (rds.flatMap (rdataNames cls ty))[i]? = some n ∧
          Den (addRrsetOp sec hint owner ty cls ttl rds s).2 ⟨p, n.len⟩ n)
  clearRrs_I : ∀ s, I s → I (clearRrs s).2
  finish : ∀ s macFn, I s → MacLenOK macFn → Writer.finish s macFn ≠ .panic

end QV.ServerSafety

namespace QV.Writer
open QV QV.Wire QV.ServerSafety

/-! ## the calls that do not write names -/

theorem call_of_keeps {r : Out WriterErr Unit × State} {s : State} (hI : I s) (hnp : r.1 ≠ .panic)
    (k : Keeps s r.2) (hinv : Inv r.2) (ht : TsigOK r.2) :
    r.1 ≠ .panic ∧ I r.2 ∧ Mono Den s r.2 :=
  ⟨hnp, i_keeps hI k hinv ht, k.qn, fun _ _ h => den_keeps k h⟩

theorem size12 {s : State} (h : Inv s) : 12 ≤ s.octets.size := by
  have := h.hdr; have := h.cur_av; have := h.av_lim; have := h.lim_size; omega

theorem safe_write_hdr (pos : Nat) (d : List UInt8) (hp : pos + d.length ≤ 12) (s : State) (hI : I s) :
    (write pos d s).1 ≠ .panic ∧ I (write pos d s).2 ∧ Mono Den s (write pos d s).2 := by
  have hs := size12 hI.inv
  have hinv := (total_write pos d s).2 hI.inv
  refine call_of_keeps hI ?_ ?_ hinv ?_
  · unfold write; rw [if_pos (by omega)]; simp
  · unfold write; rw [if_pos (by omega)]
    exact keeps_header' hI.winv (fun i hi => writeAt_get_ge _ _ _ _ (by omega)) rfl rfl rfl rfl rfl rfl
  · unfold write; rw [if_pos (by omega)]; exact hI.tsig

theorem safe_setHdr (i : Nat) (f : UInt8 → UInt8) (hi : i < 12) (s : State) (hI : I s) :
    (setHdr i f s).1 ≠ .panic ∧ I (setHdr i f s).2 ∧ Mono Den s (setHdr i f s).2 := by
  have hs := size12 hI.inv
  have hinv := (total_setHdr i f s).2 hI.inv
  have hlt : i < s.octets.size := by omega
  refine call_of_keeps hI ?_ ?_ hinv ?_
  · unfold setHdr; rw [dif_pos hlt]; simp
  · unfold setHdr; rw [dif_pos hlt]
    refine keeps_header' hI.winv (fun j hj => ?_) rfl rfl rfl rfl rfl rfl
    simp only [Array.getElem?_set]
    rw [if_neg (by omega)]
  · unfold setHdr; rw [dif_pos hlt]; exact hI.tsig


theorem safe_setRcode (v : Nat) (s : State) (hI : I s) :
    (setRcode v s).1 ≠ .panic ∧ I (setRcode v s).2 ∧ Mono Den s (setRcode v s).2 := by
  have hs := size12 hI.inv
  have hinv := (total_setRcode v s).2 hI.inv
  have hlt : Gen.RCODE_BYTE < s.octets.size := by show 3 < _; omega
  have hpre : ∀ (x : UInt8) (j : Nat), 12 ≤ j → (s.octets.set Gen.RCODE_BYTE x hlt)[j]? = s.octets[j]? := by
    intro x j hj
    simp only [Array.getElem?_set]
    rw [if_neg (by show ¬ 3 = j; omega)]
  unfold setRcode at hinv ⊢
  simp only [M.bind_apply, setHdr, dif_pos hlt, M.modify_apply] at hinv ⊢
  refine call_of_keeps (r := (Out.ok (), _)) hI (by simp) ?_ hinv ?_
  · cases he : s.edns <;> simp only [he] <;>
      exact keeps_header' hI.winv (hpre _) rfl rfl rfl rfl rfl rfl
  · cases he : s.edns <;> simp only [he] <;> exact hI.tsig

theorem safe_setExtendedRcode (v : Nat) (s : State) (hI : I s) :
    (setExtendedRcode v s).1 ≠ .panic ∧ I (setExtendedRcode v s).2 ∧ Mono Den s (setExtendedRcode v s).2 := by
  have hinv := (clean_setExtendedRcode v s).2 hI.inv
  rcases setExtendedRcode_cases v s with ⟨_, h⟩ | ⟨ed, he, ⟨_, h⟩ | ⟨_, r, s1, hs1, hc⟩⟩
  · rw [h]; exact ⟨nofun, hI, rfl, fun _ _ h => h⟩
  · rw [h]; exact ⟨nofun, hI, rfl, fun _ _ h => h⟩
  · -- the RCODE octet lies in the header: `set_hdr` is safe there; then only the EDNS slot changes
    have k : (r, s1).1 ≠ .panic ∧ I (r, s1).2 ∧ Mono Den s (r, s1).2 :=
      hs1 ▸ safe_setHdr Gen.RCODE_BYTE _ (by decide) s hI
    rcases hc with ⟨hp, _, _⟩ | ⟨_, h⟩
    · exact absurd hp k.1
    · rw [h] at hinv ⊢
      obtain ⟨a, b, m2⟩ := call_of_keeps (r := (Out.ok (), { s1 with edns := some { ed with upper := v / 16 % 256 } }))
        k.2.1 nofun (keeps_same rfl rfl rfl rfl rfl rfl rfl) hinv k.2.1.tsig
      exact ⟨a, b, m2.1.trans k.2.2.1, fun p n hd => m2.2 p n (k.2.2.2 p n hd)⟩

theorem safe_setLimit (v : Nat) (s : State) (hI : I s) :
    (setLimit v s).1 ≠ .panic ∧ I (setLimit v s).2 ∧ Mono Den s (setLimit v s).2 := by
  have hinv := (total_setLimit v s).2 hI.inv
  rcases setLimit_cases v s with ⟨hn, _⟩ | ⟨l, a, h, _⟩
  · exact absurd ⟨hI.inv.cur_av, hI.inv.av_lim, hI.inv.lim_size⟩ hn
  · rw [h] at hinv ⊢
    exact call_of_keeps (r := (Out.ok (), _)) hI nofun (keeps_same rfl rfl rfl rfl rfl rfl rfl) hinv hI.tsig

theorem safe_setEdns (p : Nat) (s : State) (hI : I s) :
    (setEdns p s).1 ≠ .panic ∧ I (setEdns p s).2 ∧ Mono Den s (setEdns p s).2 := by
  have hinv := (clean_setEdns p s).2 hI.inv
  rcases setEdns_cases p s with ⟨_, h, _⟩ | ⟨_, _, _, h⟩ <;> rw [h] at hinv ⊢
  · exact ⟨nofun, hI, rfl, fun _ _ h => h⟩
  · exact call_of_keeps (r := (Out.ok (), _)) hI nofun (keeps_same rfl rfl rfl rfl rfl rfl rfl) hinv hI.tsig

theorem safe_setTsig (m : TsigMode) (rr : TsigRr) (s : State) (hI : I s)
    (hp : rr.keyName.WF ∧ (tsigAlgName m).WF ∧ rr.timeSigned.length = 6 ∧ rr.serverTime.length = 6) :
    (setTsig m rr s).1 ≠ .panic ∧ I (setTsig m rr s).2 ∧ Mono Den s (setTsig m rr s).2 := by
  have hinv := (clean_setTsig m rr s).2 hI.inv
  rcases setTsig_cases m rr s with ⟨_, h, _⟩ | ⟨_, _, _, h⟩ <;> rw [h] at hinv ⊢
  · exact ⟨nofun, hI, rfl, fun _ _ h => h⟩
  · refine call_of_keeps (r := (Out.ok (), _)) hI nofun (keeps_same rfl rfl rfl rfl rfl rfl rfl) hinv ?_
    intro ts hts
    simp only [Option.some.injEq] at hts
    subst hts
    exact ⟨rfl, hp.1, hp.2.1, hp.2.2.1, hp.2.2.2⟩


/-! ## the calls that write names -/

/-- a failed call leaves a state that is the same as far as names are concerned -/
theorem keeps_of_same {s s' : State} (e : Same s s') : Keeps s s' := by
  have hG : GL s' = GL s := by unfold GL; rw [e.gLabels]
  refine ⟨?_, e.cursor, e.rrStart, e.gLabels, e.qname, e.owner, e.inRdata, e.gPtrs, ?_⟩
  · intro c hc p ls hn
    rw [hG]
    exact nameAt_frame (lo := 0) hn (fun _ hx => hx) (fun _ _ => Nat.zero_le _)
      (fun i _ hi => e.pre i (by omega)) (Nat.le_refl _)
  · intro g ⟨ls, hn, hb⟩
    refine ⟨ls, ?_, hb⟩
    rw [hG, e.cursor]
    exact nameAtC_frame (lo := 0) hn (fun _ hx => hx) (fun _ _ => Nat.zero_le _)
      (fun i _ hi => e.pre i hi) (Nat.le_refl _)

theorem tsigOK_of_eq {s s' : State} (h : TsigOK s) (e : s'.tsig = s.tsig) : TsigOK s' := by
  intro ts hts; rw [e] at hts; exact h ts hts

theorem i_same {s s' : State} (h : I s) (e : Same s s') : I s' :=
  i_keeps h (keeps_of_same e) (inv_of_same h.inv e) (tsigOK_of_eq h.tsig e.tsig)

theorem mono_same {s s' : State} (e : Same s s') : Mono Den s s' :=
  ⟨e.qname, fun _ _ h => den_keeps (keeps_of_same e) h⟩

/-- the question part along an extension -/
theorem qinv_ext {s s' : State} (h : QInv s) (hi : Inv s) (e : Ext s s') (hq : s'.qname = s.qname) :
    QInv s' := by
  have hrr := hi.rr_hi
  constructor
  · intro g hg hlt
    rw [e.rrStart] at hlt ⊢
    have hgs : g ∈ s.gLabels := by
      rcases e.gnew g hg with h1 | h1
      · exact h1
      · omega
    obtain ⟨ls, hl⟩ := h.labs g hgs hlt
    exact ⟨ls, nameAt_frame (lo := 0) hl (fun x hx => e.glab x hx) (fun _ _ => Nat.zero_le _)
      (fun i _ hi' => e.pre i (by omega)) (Nat.le_refl _)⟩
  · intro p hp
    rw [hq] at hp
    obtain ⟨ls, hl, hlen⟩ := h.qn p hp
    rw [e.rrStart]
    exact ⟨ls, nameAt_frame (lo := 0) hl (fun x hx => e.glab x hx) (fun _ _ => Nat.zero_le _)
      (fun i _ hi' => e.pre i (by omega)) (Nat.le_refl _), hlen⟩

theorem recSt_init {s : State} (h : WInv s) (hl : PtrLogOK s) :
    RecSt (s.hv = some []) s s [] [] s.mostRecentOwner none := by
  refine ⟨h, Ext.refl s, ?_, (fun n hn => by cases hn), rfl, (fun n hn => by cases hn), rfl, hl⟩
  intro t v hv
  rw [t] at hv
  cases hv
  exact ⟨rfl, fun i p hp => by simp at hp⟩


theorem changeSection_gPtrs (sec : RrSection) (s : State) : (changeSection sec s).2.gPtrs = s.gPtrs := by
  rcases changeSection_cases sec s with h | ⟨x, h⟩ <;> rw [h]

theorem changeSection_spec (sec : RrSection) (s : State) :
    (changeSection sec s).1 ≠ .panic ∧ (changeSection sec s).2.hv = s.hv ∧
    (changeSection sec s).2.qname = s.qname ∧
    (changeSection sec s).2.mostRecentOwner = s.mostRecentOwner ∧
    (changeSection sec s).2.mostRecentNameInRdata = s.mostRecentNameInRdata ∧
    (changeSection sec s).2.cursor = s.cursor ∧ (changeSection sec s).2.gLabels = s.gLabels := by
  rcases changeSection_cases sec s with h | ⟨x, h⟩ <;> rw [h] <;>
    exact ⟨(fun h => by cases h), rfl, rfl, rfl, rfl, rfl, rfl⟩

/-- the section switch in front of a record call leaves an intermediate state of that call, and
    the hint stays valid -/
theorem recSt_changeSection {s : State} (hw : WInv s) (hl : PtrLogOK s) (sec : RrSection) {hint : Hint}
    {owner : WName} (hh : Writer.HintOK s hint owner) :
    RecSt (s.hv = some []) s (changeSection sec s).2 [] [] s.mostRecentOwner none ∧
      Writer.HintOK (changeSection sec s).2 hint owner := by
  obtain ⟨_, c2, c3, c4, c5, c6, c7⟩ := changeSection_spec sec s
  have e := frame_changeSection sec s
  exact ⟨recSt_step (recSt_init hw hl) e (winv_ext hw e c7 c3 c4 c5) c2 c5 c4 c3 (changeSection_gPtrs sec s),
    hintOK_ext hh e c3 c4 c5 c6⟩

/-- the counts do not matter for anything about names -/
theorem keeps_setCount (sec : RrSection) (n : Nat) (s : State) : Keeps s (setCount sec n s).2 := by
  cases sec <;> exact keeps_same rfl rfl rfl rfl rfl rfl rfl

theorem setCount_fields (sec : RrSection) (n : Nat) (s : State) :
    (setCount sec n s).2.qname = s.qname ∧ (setCount sec n s).2.mostRecentOwner = s.mostRecentOwner ∧
    (setCount sec n s).2.mostRecentNameInRdata = s.mostRecentNameInRdata ∧
    (setCount sec n s).2.hv = s.hv ∧ (setCount sec n s).2.tsig = s.tsig ∧
    (setCount sec n s).2.cursor = s.cursor := by
  cases sec <;> simp [setCount]

theorem setCount_apply (sec : RrSection) (n : Nat) (s : State) :
    setCount sec n s = (.ok (), (setCount sec n s).2) := by
  cases sec <;> rfl

/-- an intermediate state of a call that started in a state satisfying the writer invariant
    satisfies it -/
theorem i_of_recSt {track : Prop} {s0 s : State} {names loc : List WName} {o : Option Prior} {on : Option WName}
    (hI : I s0) (h : RecSt track s0 s names loc o on) : I s :=
  ⟨inv_of_ext hI.inv h.ext, h.winv, qinv_ext hI.qinv hI.inv h.ext h.qn, tsigOK_of_eq hI.tsig h.ext.tsig, h.log⟩

/-- … and so does the state after the count of the section is raised; every valid anchor of the
    start is still valid -/
theorem i_setCount {track : Prop} {s0 s : State} {names loc : List WName} {o : Option Prior} {on : Option WName}
    (hI : I s0) (h : RecSt track s0 s names loc o on) (sec : RrSection) (n : Nat) (hn : getCount sec s + n ≤ 65535) :
    I (setCount sec (getCount sec s + n) s).2 ∧ Mono Den s0 (setCount sec (getCount sec s + n) s).2 := by
  have hi := i_of_recSt hI h
  have k := keeps_setCount sec (getCount sec s + n) s
  exact ⟨i_keeps hi k (inv_setCount hi.inv sec n hn) (tsigOK_of_eq hi.tsig (setCount_fields sec _ s).2.2.2.2.1),
    k.qn.trans h.qn, fun _ _ hd => den_keeps k (den_ext h.ext hd)⟩

/-- everything about `add_*_rrset` at once -/
theorem addRrsetOp_full (sec : RrSection) (hint : Hint) (owner : WName) (ty cls ttl : Nat)
    (rds : List (List UInt8)) (s : State) (hI : I s) (hwf : owner.WF) (hh : Writer.HintOK s hint owner) :
    (addRrsetOp sec hint owner ty cls ttl rds s).1 ≠ .panic ∧ I (addRrsetOp sec hint owner ty cls ttl rds s).2 ∧
    Mono Den s (addRrsetOp sec hint owner ty cls ttl rds s).2 ∧
    ((addRrsetOp sec hint owner ty cls ttl rds s).1 = .ok () → ∃ s2 p on n,
      RecSt (s.hv = some []) s s2 (rds.flatMap (rdataNames cls ty))
        ((rds.getLast?.map (rdataNames cls ty)).getD []) p on ∧
      (rds ≠ [] → on = some owner) ∧
      (addRrsetOp sec hint owner ty cls ttl rds s).2 = (setCount sec n s2).2) := by
  have hcases := addRrsetOp_cases sec hint owner ty cls ttl rds s
  have c1 := (changeSection_spec sec s).1
  obtain ⟨h1, hh1⟩ := recSt_changeSection hI.winv hI.log sec hh
  obtain ⟨hnp2, hok2⟩ := sp_addRrset (track := s.hv = some []) (s0 := s) owner ty cls (ttlFrom ttl) hwf rds
    hint 0 [] [] none (changeSection sec s).2 ⟨_, h1, hh1⟩
  unfold addRrsetOp at hcases ⊢
  rw [withRollback_apply] at hcases ⊢
  simp only [M.bind_apply] at hcases ⊢
  cases hcs : changeSection sec s with
  | mk r1 s1 =>
    rw [hcs] at c1 hnp2 hok2 hcases
    cases r1 with
    | panic => exact absurd rfl c1
    | err e =>
      simp only [] at hcases ⊢
      exact ⟨by simp, i_same hI hcases, mono_same hcases, fun h => by cases h⟩
    | ok u1 =>
      simp only [] at hcases ⊢
      cases har : addRrset hint owner ty cls (ttlFrom ttl) rds 0 s1 with
      | mk r2 s2 =>
        rw [har] at hnp2 hok2 hcases
        cases r2 with
        | panic => exact absurd rfl hnp2
        | err e =>
          simp only [] at hcases ⊢
          exact ⟨by simp, i_same hI hcases, mono_same hcases, fun h => by cases h⟩
        | ok n =>
          obtain ⟨p, on, hrec, hon, _⟩ := hok2 n s2 rfl
          simp only [List.nil_append] at hrec
          simp only [M.gets_apply] at hcases ⊢
          by_cases hn : n > 65535
          · rw [if_pos hn] at hcases ⊢
            simp only [M.fail_apply] at hcases ⊢
            exact ⟨by simp, i_same hI hcases, mono_same hcases, fun h => by cases h⟩
          · rw [if_neg hn] at hcases ⊢
            by_cases hc : getCount sec s2 + n > 65535
            · rw [if_pos hc] at hcases ⊢
              simp only [M.fail_apply] at hcases ⊢
              exact ⟨by simp, i_same hI hcases, mono_same hcases, fun h => by cases h⟩
            · rw [if_neg hc, setCount_apply]
              obtain ⟨hi, hm⟩ := i_setCount hI hrec sec n (by omega)
              exact ⟨by simp, hi, hm, fun _ => ⟨s2, p, on, _, hrec, hon, rfl⟩⟩

/-- everything about `add_*_rr` at once: it is `add_*_rrset` of one record -/
theorem addRrOp_full (sec : RrSection) (hint : Hint) (owner : WName) (ty cls ttl : Nat)
    (rd : List UInt8) (s : State) (hI : I s) (hwf : owner.WF) (hh : Writer.HintOK s hint owner) :
    (addRrOp sec hint owner ty cls ttl rd s).1 ≠ .panic ∧ I (addRrOp sec hint owner ty cls ttl rd s).2 ∧
    Mono Den s (addRrOp sec hint owner ty cls ttl rd s).2 ∧
    ((addRrOp sec hint owner ty cls ttl rd s).1 = .ok () → ∃ s2 p n,
      RecSt (s.hv = some []) s s2 (rdataNames cls ty rd) (rdataNames cls ty rd) p (some owner) ∧
      (addRrOp sec hint owner ty cls ttl rd s).2 = (setCount sec n s2).2) := by
  rw [addRrOp_eq_addRrsetOp]
  obtain ⟨a, b, c, d⟩ := addRrsetOp_full sec hint owner ty cls ttl [rd] s hI hwf hh
  refine ⟨a, b, c, fun hok => ?_⟩
  obtain ⟨s2, p, on, n, hrec, hon, heq⟩ := d hok
  obtain rfl := hon (by simp)
  exact ⟨s2, p, n, by simpa using hrec, heq⟩


theorem addQuestionBody_spec (qn : WName) (qt qc : Nat) (s : State) (hw : WInv s) (hwf : qn.WF) :
    (addQuestionBody qn qt qc s).1 ≠ .panic ∧
    ((addQuestionBody qn qt qc s).1 = .ok () → WInv (addQuestionBody qn qt qc s).2 ∧
      (s.qdcount = 0 → ∀ q, (addQuestionBody qn qt qc s).2.qname = some q →
        Den (addQuestionBody qn qt qc s).2 q qn) ∧
      (s.qdcount ≠ 0 → (addQuestionBody qn qt qc s).2.qname = s.qname) ∧
      (PtrLogOK s → PtrLogOK (addQuestionBody qn qt qc s).2)) := by
  have e1 := ext_setCtx s .qname
  have hs := writeUnhintedName_spec qn _ (winv_ext hw e1 rfl rfl rfl rfl) hwf
  have hf := frame_writeUnhintedName qn { s with gCtx := .qname }
  -- "no panic, and on success …", bind by bind
  suffices h : (addQuestionBody qn qt qc s).1 ≠ .panic ∧ ∀ u s', addQuestionBody qn qt qc s = (.ok u, s') →
      WInv s' ∧ (s.qdcount = 0 → ∀ q, s'.qname = some q → Den s' q qn) ∧ (s.qdcount ≠ 0 → s'.qname = s.qname) ∧
        (PtrLogOK s → PtrLogOK s') by
    refine ⟨h.1, fun hok => ?_⟩
    rcases hr : addQuestionBody qn qt qc s with ⟨r, s'⟩
    rw [hr] at hok
    cases hok
    exact h.2 () s' hr
  unfold addQuestionBody
  refine M.bind_total (by simp [setCtx]) fun _ s1 h1 => ?_
  obtain rfl : s1 = { s with gCtx := .qname } := by cases h1; rfl
  refine M.bind_total hs.nopanic fun p sB hB => ?_
  rw [hB] at hs hf
  obtain ⟨hw2, hden, hq, _⟩ := hs.ok p rfl
  refine M.bind_total (by simp [setCtx]) fun _ s3 h3 => M.bind_total (by simp) fun _ s4 h4 => ?_
  -- `qStart sB p`: the state in which QTYPE and QCLASS are pushed
  obtain rfl : s4 = qStart sB p := by cases h3; cases h4; rfl
  obtain ⟨_, _, _, _, gp4, _, _⟩ := qStart_fields sB p
  have e4 : Ext sB (qStart sB p) := by unfold qStart; dsimp only; split <;> constructor <;> simp
  have hw4 : WInv (qStart sB p) := by
    have w := winv_ext (s' := { sB with gCtx := .none }) hw2 (by constructor <;> simp) rfl rfl rfl rfl
    unfold qStart; dsimp only
    split
    · exact ⟨w.c12, w.cur_av, w.av_size, w.g12, w.labs, den_anchorOK hden, w.ow, w.rd, w.clabs⟩
    · exact w
  have hq4 : (s.qdcount = 0 → (qStart sB p).qname = p) ∧ (s.qdcount ≠ 0 → (qStart sB p).qname = s.qname) := by
    have hqd : sB.qdcount = s.qdcount := hf.qd
    unfold qStart; dsimp only
    exact ⟨fun h0 => by rw [if_pos (by show sB.qdcount = 0; rw [hqd]; exact h0)],
      fun h0 => by rw [if_neg (by show ¬ sB.qdcount = 0; rw [hqd]; exact h0)]; exact hq⟩
  -- the two 16-bit fields; what they contain plays no role (and concrete octets would make
  -- the unifier evaluate `writeAt` whenever two states are compared)
  have push : ∀ (d : List UInt8) (t : State), WInv t → (tryPush d t).1 ≠ .panic ∧ ∀ u t', tryPush d t = (.ok u, t') →
      t' = pushed t d ∧ WInv t' ∧ Ext t t' := fun d t wt => by
    refine ⟨?_, fun u t' h => ?_⟩
    · rw [tryPush_eq d t wt.cur_av wt.av_size]; split <;> simp
    · obtain ⟨r, _, rfl⟩ := tryPush_eq_ok.mp h
      exact ⟨rfl, winv_push wt d (by omega), ext_push t d r⟩
  unfold tryPushU16
  generalize u16be qt = dt
  generalize u16be qc = dc
  obtain ⟨n5, k5⟩ := push dt _ hw4
  refine M.bind_total n5 fun _ s5 h5 => ?_
  obtain ⟨rfl, w5, e5⟩ := k5 _ _ h5
  obtain ⟨n6, k6⟩ := push dc _ w5
  refine ⟨n6, fun _ s' h6 => ?_⟩
  obtain ⟨rfl, w6, e6⟩ := k6 _ _ h6
  have e46 := Ext.trans e5 e6
  exact ⟨w6, fun h0 q hq' => den_ext e46 (den_ext e4 (hden q ((hq4.1 h0).symm.trans hq'))), fun h0 => hq4.2 h0,
    fun hl => ptrLog_ext (ptrLog_ext (hs.log p rfl (ptrLog_ext hl e1 rfl)) e4 gp4) e46 rfl⟩


theorem addQuestion_full (qn : WName) (qt qc : Nat) (s : State) (hI : I s) (hwf : qn.WF) :
    (addQuestion qn qt qc s).1 ≠ .panic ∧ I (addQuestion qn qt qc s).2 ∧
    (∀ p n, Den s p n → Den (addQuestion qn qt qc s).2 p n) ∧
    ((addQuestion qn qt qc s).1 = .ok () → s.sect = .question → s.qdcount = 0 →
      ∀ q, (addQuestion qn qt qc s).2.qname = some q → Den (addQuestion qn qt qc s).2 q qn) := by
  have hstep := addQuestion_step ⟨s, []⟩ qn qt qc
  simp only [liftW] at hstep
  obtain ⟨hb1, hb2⟩ := addQuestionBody_spec qn qt qc s hI.winv hwf
  have hfr := frame_addQuestionBody qn qt qc s
  unfold addQuestion at hstep ⊢
  simp only [M.bind_apply, M.gets_apply] at hstep ⊢
  by_cases h1 : s.sect ≠ .question
  · rw [if_pos h1] at hstep ⊢
    exact ⟨by simp, hI, fun _ _ h => h, fun h => by cases h⟩
  · rw [if_neg h1] at hstep ⊢
    by_cases h2 : s.qdcount + 1 > 65535
    · rw [if_pos h2] at hstep ⊢
      exact ⟨by simp, hI, fun _ _ h => h, fun h => by cases h⟩
    · rw [if_neg h2] at hstep ⊢
      simp only [M.bind_apply, withRollback_apply, M.modify_apply] at hstep ⊢
      cases hb : addQuestionBody qn qt qc s with
      | mk r s3 =>
        rw [hb] at hb1 hb2 hfr hstep
        cases r with
        | panic => exact absurd rfl hb1
        | err e =>
          simp only [] at hstep ⊢
          have hsame : Same s (restore s s3) := same_restore hfr
          exact ⟨by simp, i_same hI hsame, fun _ _ h => den_keeps (keeps_of_same hsame) h, fun h => by cases h⟩
        | ok u =>
          simp only [] at hstep ⊢
          obtain ⟨hw3, hq0, hq1, hlg⟩ := hb2 rfl
          have hinv := hstep.1 hI.inv
          have hrr : s3.rrStart = s.rrStart := hfr.rrStart
          refine ⟨by simp, ⟨hinv, ⟨hw3.c12, hw3.cur_av, hw3.av_size, hw3.g12, hw3.labs, hw3.qn, hw3.ow, hw3.rd, hw3.clabs⟩,
            ⟨fun g hg _ => hw3.labs g hg, fun p hp => (hw3.qn p hp).2.2⟩,
            tsigOK_of_eq hI.tsig hfr.tsig, hlg hI.log⟩, fun p n hd => den_ext hfr hd, ?_⟩
          intro _ _ hqd q hq'
          exact hq0 hqd q hq'


/-! ## `finish` -/

/-- a record of a type without name components, written without a hint into enough room, succeeds -/
theorem addRr_nameless_ok (owner : WName) (ty cls ttl : Nat) (rd : List UInt8) (s : State)
    (hw : WInv s) (hl : PtrLogOK s) (hwf : owner.WF) (hct : componentTypes cls ty = some [])
    (hroom : s.cursor + rrLen owner rd ≤ s.available) :
    ∃ s', addRr .none owner ty cls ttl rd s = (.ok (), s') ∧ WInv s' ∧ Ext s s' ∧
      s'.cursor ≤ s.cursor + rrLen owner rd ∧ PtrLogOK s' := by
  obtain ⟨hnp, hok⟩ := sp_addRr (track := s.hv = some []) (s0 := s) (names := []) .none owner ty cls ttl rd hwf s
    ⟨[], _, none, recSt_init hw hl, trivial⟩
  have hot := (onlyTrunc_addRr_nameless owner ty cls ttl rd hct s).2
  obtain ⟨hb1, hb2⟩ := bud_addRr .none owner ty cls ttl rd s
  cases har : addRr .none owner ty cls ttl rd s with
  | mk r s' =>
    rw [har] at hnp hot hb1
    cases r with
    | panic => exact absurd rfl hnp
    | err e =>
      have := hot e rfl
      subst this
      have := hb1 rfl
      omega
    | ok u =>
      obtain ⟨p, hrec⟩ := hok u s' har
      exact ⟨s', rfl, hrec.winv, hrec.ext, (hb2 u s' har).1, hrec.log⟩

theorem root_wf : WName.root.WF := by
  constructor
  · intro l hl; cases hl
  · decide

theorem componentTypes_opt (cls : Nat) : componentTypes cls T_OPT = some [] :=
  componentTypes_unknown cls T_OPT (by decide)

theorem componentTypes_tsig (cls : Nat) : componentTypes cls T_TSIG = some [] :=
  componentTypes_unknown cls T_TSIG (by decide)


/-- octets changed only inside the header (as by the counts `finish` writes): the invariant stays -/
theorem i_octets {s : State} (hI : I s) (o : Bytes) (hsz : o.size = s.octets.size)
    (hpre : ∀ i, 12 ≤ i → o[i]? = s.octets[i]?) : I { s with octets := o } :=
  i_keeps hI (keeps_header hI.winv o hsz hpre) (inv_octets hI.inv o hsz) hI.tsig

/-- raising `available` (undoing a reservation) keeps the name invariants -/
theorem winv_raise {s : State} (h : WInv s) (k : Nat) (hk : s.available + k ≤ s.octets.size)
    (ts : Option Tsig) : WInv { s with available := s.available + k, tsig := ts } :=
  ⟨h.c12, by have := h.cur_av; show s.cursor ≤ s.available + k; omega, hk, h.g12, h.labs, h.qn, h.ow, h.rd, h.clabs⟩

theorem finishOpt_spec (s : State) (hw : WInv s) (hl : PtrLogOK s) (k : Nat)
    (hroom : ∀ e, s.edns = some e → s.available + Gen.OPT_RECORD_SIZE + k ≤ s.octets.size)
    (hk : s.available + k ≤ s.octets.size) :
    ∃ s', finishOpt s.edns s = (.ok (), s') ∧ WInv s' ∧ s'.available + k ≤ s'.octets.size ∧
      s'.tsig = s.tsig ∧ PtrLogOK s' := by
  unfold finishOpt
  cases he : s.edns with
  | none => exact ⟨s, rfl, hw, hk, rfl, hl⟩
  | some e =>
    simp only [M.bind_apply, M.modify_apply]
    have h11 : Gen.OPT_RECORD_SIZE = 11 := rfl
    have hr := hroom e he
    have w1 : WInv { s with available := s.available + Gen.OPT_RECORD_SIZE } := by
      have := winv_raise hw Gen.OPT_RECORD_SIZE (by omega) s.tsig
      exact this
    have hlen : rrLen WName.root [] = 11 := by decide
    obtain ⟨s', h1, h2, h3, h4, h5⟩ := addRr_nameless_ok WName.root T_OPT e.payload
      ((e.upper * 16777216) % 4294967296) [] _ w1 hl root_wf (componentTypes_opt _)
      (by show s.cursor + rrLen WName.root [] ≤ s.available + Gen.OPT_RECORD_SIZE; have := hw.cur_av; omega)
    rw [unwrap_eq_ok.mpr h1]
    refine ⟨s', rfl, h2, ?_, h3.tsig, h5⟩
    rw [h3.available, h3.size]
    show s.available + Gen.OPT_RECORD_SIZE + k ≤ s.octets.size
    exact hr

theorem tsigRdata_length (rr : TsigRr) (alg : WName) (mac : List UInt8) (h6 : rr.timeSigned.length = 6)
    (h6' : rr.serverTime.length = 6) :
    (tsigRdata rr alg mac).length =
      alg.wire.length + 16 + mac.length + (if rr.error = XR_BADTIME then 6 else 0) := by
  unfold tsigRdata
  have : ∀ n, (u16be n).length = 2 := fun _ => rfl
  by_cases hb : rr.error = XR_BADTIME
  · simp [hb, this, h6, h6']; omega
  · simp [hb, this, h6]; omega

theorem finishTsig_tail (s : State) (hw : WInv s) (hl : PtrLogOK s) (ts : Tsig) (mac : Option (List UInt8))
    (hkey : ts.rr.keyName.WF) (ht6 : ts.rr.timeSigned.length = 6) (hs6 : ts.rr.serverTime.length = 6)
    (hroom : s.available + ts.reservedLen ≤ s.octets.size)
    (hlen : (mac.getD []).length + (tsigAlgName ts.mode).wire.length + 26 +
      (if ts.rr.error = XR_BADTIME then 6 else 0) + ts.rr.keyName.wire.length ≤ ts.reservedLen) :
    ∃ len s', (do
      M.modify fun s => { s with tsig := none, available := s.available + ts.reservedLen }
      unwrap (addRr .none ts.rr.keyName T_TSIG QC_ANY (ttlFrom 0)
        (tsigRdata ts.rr (tsigAlgName ts.mode) (mac.getD [])))
      let len ← M.gets (·.cursor)
      pure (len, mac) : M (Nat × Option (List UInt8))) s = (.ok (len, mac), s') ∧ PtrLogOK s' := by
  simp only [M.bind_apply, M.modify_apply]
  have w3 : WInv { s with tsig := none, available := s.available + ts.reservedLen } :=
    winv_raise hw ts.reservedLen hroom none
  have hrl := tsigRdata_length ts.rr (tsigAlgName ts.mode) (mac.getD []) ht6 hs6
  obtain ⟨s', h1, _, _, _, hl'⟩ := addRr_nameless_ok ts.rr.keyName T_TSIG QC_ANY (ttlFrom 0)
    (tsigRdata ts.rr (tsigAlgName ts.mode) (mac.getD [])) _ w3 hl hkey (componentTypes_tsig _)
    (by
      show s.cursor + rrLen ts.rr.keyName _ ≤ s.available + ts.reservedLen
      unfold rrLen
      rw [hrl]
      have := hw.cur_av
      omega)
  rw [unwrap_eq_ok.mpr h1]
  exact ⟨_, _, rfl, hl'⟩

/-- a MAC that fits what the signing function promises fits the room `set_tsig` reserved -/
theorem finishMac_fits {macFn : Tsig → List UInt8 → List UInt8} (hmac : MacLenOK macFn) (ts : Tsig) (msg : List UInt8) :
    ((finishMac macFn ts msg).getD []).length + (tsigAlgName ts.mode).wire.length + 26 +
      (if ts.rr.error = XR_BADTIME then 6 else 0) + ts.rr.keyName.wire.length ≤ reservedLenOf ts.mode ts.rr := by
  have hm := hmac ts msg
  unfold finishMac
  cases hmode : ts.mode <;> rw [hmode] at hm <;>
    simp only [reservedLenOf, signedLen, unsignedLen, tsigAlgName, Option.getD_some, Option.getD_none,
      List.length_nil] at hm ⊢ <;> omega

theorem finishTsig_spec (macFn : Tsig → List UInt8 → List UInt8) (hmac : MacLenOK macFn) (s : State)
    (hw : WInv s) (hl : PtrLogOK s) (ts : Tsig) (hts : s.tsig = some ts)
    (hok : ts.reservedLen = reservedLenOf ts.mode ts.rr ∧ ts.rr.keyName.WF ∧
      (tsigAlgName ts.mode).WF ∧ ts.rr.timeSigned.length = 6 ∧ ts.rr.serverTime.length = 6)
    (hroom : s.available + ts.reservedLen ≤ s.octets.size) :
    ∃ r s', finishTsig macFn s.tsig s = (.ok r, s') ∧ PtrLogOK s' := by
  obtain ⟨hres, hkey, _, ht6, hs6⟩ := hok
  rw [hts, finishTsig_some macFn ts s (by have := hw.cur_av; have := hw.av_size; omega)]
  obtain ⟨len, s', h, hl'⟩ := finishTsig_tail s hw hl ts (finishMac macFn ts (s.octets.extract 0 s.cursor).toList)
    hkey ht6 hs6 hroom (by rw [hres]; exact finishMac_fits hmac ts _)
  exact ⟨_, _, h, hl'⟩


/-- **`finish` succeeds** from any state satisfying the invariant, provided the signing function
    returns a MAC that fits the reservation (the two `unwrap`s are covered by the reservations
    made by `set_edns` / `set_tsig`) -/
theorem finishWithMac_ok (macFn : Tsig → List UInt8 → List UInt8) (hmac : MacLenOK macFn) (s : State)
    (hI : I s) : ∃ r s', finishWithMac macFn s = (.ok r, s') ∧ PtrLogOK s' := by
  rw [finishWithMac_eq macFn s (size12 hI.inv), M.bind_apply]
  have hIA := i_octets hI _ (withCounts_size s) fun i hi => withCounts_getElem? s i (Or.inr hi)
  have hosz := withCounts_size s
  generalize withCounts s = o at hIA hosz ⊢
  have hres := inv_reserved' hI.inv
  have h2 := hI.inv.av_lim; have h3 := hI.inv.lim_size
  have h11 : Gen.OPT_RECORD_SIZE = 11 := rfl
  obtain ⟨s1, hf1, hw1, hroom1, hts1, hl1⟩ := finishOpt_spec { s with octets := o } hIA.winv hIA.log (tsigReserved s.tsig)
    (by
      intro e he
      show s.available + Gen.OPT_RECORD_SIZE + tsigReserved s.tsig ≤ o.size
      have he' : s.edns = some e := he
      rw [he'] at hres
      simp at hres
      omega)
    (by
      show s.available + tsigReserved s.tsig ≤ o.size
      cases he : s.edns with
      | none => rw [he] at hres; simp at hres; omega
      | some e => rw [he] at hres; simp at hres; omega)
  have hf1' : finishOpt s.edns { s with octets := o } = (.ok (), s1) := hf1
  rw [hf1']
  simp only []
  have hts1' : s1.tsig = s.tsig := hts1
  cases hts : s.tsig with
  | none =>
    unfold finishTsig
    simp only [M.bind_apply, M.gets_apply, M.pure_apply]
    exact ⟨_, _, rfl, hl1⟩
  | some ts =>
    have := finishTsig_spec macFn hmac s1 hw1 hl1 ts (by rw [hts1', hts]) (hI.tsig ts hts)
      (by rw [hts] at hroom1; exact hroom1)
    rw [hts1', hts] at this
    exact this

theorem finish_ok (macFn : Tsig → List UInt8 → List UInt8) (hmac : MacLenOK macFn) (s : State)
    (hI : I s) : ∃ m mac, finish s macFn = .ok (m, mac) := by
  obtain ⟨⟨len, mac⟩, s', h, _⟩ := finishWithMac_ok macFn hmac s hI
  exact ⟨_, _, finish_eq_ok.mpr ⟨_, _, h, rfl⟩⟩


/-! ## the instance -/

theorem i_hv (s : State) (v : Option HV) (h : I s) : I { s with hv := v } :=
  ⟨inv_hv h.inv v, ⟨h.winv.c12, h.winv.cur_av, h.winv.av_size, h.winv.g12, h.winv.labs, h.winv.qn,
    h.winv.ow, h.winv.rd, h.winv.clabs⟩, ⟨h.qinv.labs, h.qinv.qn⟩, h.tsig, h.log⟩

theorem new_i (buf : Bytes) (limit : Nat) (s : State) (h : Writer.new buf limit = .ok s) : I s := by
  have hinv := new_inv buf limit s h
  unfold Writer.new at h
  dsimp only at h
  split at h
  · cases h
  · have hs := Out.ok.inj h
    subst hs
    refine ⟨hinv, ⟨hinv.hdr, hinv.cur_av, Nat.le_trans hinv.av_lim hinv.lim_size, ?_, ?_, ?_, ?_, ?_, ?_⟩,
      ⟨?_, ?_⟩, ?_, fun x hx => by cases hx⟩
    · intro g hg; cases hg
    · intro g hg; cases hg
    · intro p hp; cases hp
    · intro p hp; cases hp
    · intro p hp; cases hp
    · intro g hg; cases hg
    · intro g hg; cases hg
    · intro p hp; cases hp
    · intro ts hts; cases hts

theorem clearRrs_i (s : State) (h : I s) : I (clearRrs s).2 := by
  have hinv := (total_clearRrs s).2 h.inv
  have hrr := h.inv.rr_hi
  simp only [clearRrs, M.modify_apply] at hinv ⊢
  -- recorded label starts below `rr_start` are stored below `rr_start`, in terms of the kept set
  have hG : ∀ x, (GL s x ∧ x < s.rrStart) → x ∈ s.gLabels.filter (· < s.rrStart) := by
    intro x ⟨h1, h2⟩
    simp only [List.mem_filter, decide_eq_true_eq]
    exact ⟨h1, h2⟩
  have conv : ∀ p ls, NameAt (GL s) s.octets s.rrStart p ls →
      NameAt (fun x => x ∈ s.gLabels.filter (· < s.rrStart)) s.octets s.rrStart p ls := by
    intro p ls hn
    exact nameAt_frame (lo := 0) (nameAt_restrict hn) hG (fun _ _ => Nat.zero_le _) (fun _ _ _ => rfl)
      (Nat.le_refl _)
  have hlabs : ∀ g ∈ s.gLabels.filter (· < s.rrStart), ∃ ls,
      NameAt (fun x => x ∈ s.gLabels.filter (· < s.rrStart)) s.octets s.rrStart g ls := by
    intro g hg
    simp only [List.mem_filter, decide_eq_true_eq] at hg
    obtain ⟨ls, hl⟩ := h.qinv.labs g hg.1 hg.2
    exact ⟨ls, conv _ _ hl⟩
  have hqn : ∀ p, s.qname = some p →
      PriorOK (fun x => x ∈ s.gLabels.filter (· < s.rrStart)) s.octets s.rrStart p := by
    intro p hp
    obtain ⟨ls, hl, hlen⟩ := h.qinv.qn p hp
    exact ⟨ls, conv _ _ hl, hlen⟩
  refine ⟨hinv, ⟨h.inv.rr_lo, by show s.rrStart ≤ s.available; have := h.inv.cur_av; omega,
    h.winv.av_size, ?_, hlabs, ?_, (fun p hp => by cases hp), (fun p hp => by cases hp), ?_⟩, ⟨?_, hqn⟩, h.tsig, ?_⟩
  · intro g hg
    simp only [List.mem_filter] at hg
    exact h.winv.g12 g hg.1
  · intro p hp
    exact ⟨(h.winv.qn p hp).1, (h.winv.qn p hp).2.1, hqn p hp⟩
  · intro g hg
    obtain ⟨ls', hl'⟩ := hlabs g hg
    simp only [List.mem_filter, decide_eq_true_eq] at hg
    obtain ⟨ls, hc, hb⟩ := h.winv.clabs g hg.1
    exact ⟨ls, nameAtC_shrink hc hl', hb⟩
  · intro g hg _
    exact hlabs g hg
  · intro x hx
    simp only [List.mem_filter, decide_eq_true_eq] at hx
    obtain ⟨h1, h2, h3, h4, h5, ls, h6⟩ := h.log x hx.1
    have hlt : x.target < s.rrStart := by omega
    have hmem : x.target ∈ s.gLabels.filter (· < s.rrStart) := by
      simp only [List.mem_filter, decide_eq_true_eq]; exact ⟨h5, hlt⟩
    obtain ⟨ls', hl'⟩ := hlabs x.target hmem
    exact ⟨h1, hx.2, h3, h4, hmem, ls', hl'⟩


theorem call_safe (c : Call) (s : State) (hI : I s) (hp : c.Pre Den s) :
    (c.run s).1 ≠ .panic ∧ I (c.run s).2 ∧ Mono Den s (c.run s).2 := by
  cases c with
  | setId v => exact safe_write_hdr Gen.ID_START (u16be v) (by show _ + 2 ≤ 12; decide) s hI
  | setBit b m v => exact safe_setHdr b _ hp s hI
  | setOpcode v => exact safe_setHdr Gen.OPCODE_BYTE _ (by decide) s hI
  | setRcode v => exact safe_setRcode v s hI
  | setExtendedRcode v => exact safe_setExtendedRcode v s hI
  | setLimit v => exact safe_setLimit v s hI
  | setEdns p => exact safe_setEdns p s hI
  | setTsig m rr => exact safe_setTsig m rr s hI hp
  | addRr sec h o ty cls ttl rd =>
    obtain ⟨a, b, c, _⟩ := addRrOp_full sec h o ty cls ttl rd s hI hp.1 ((hintOK_iff s h o).mp hp.2)
    exact ⟨a, b, c⟩
  | addRrset sec h o ty cls ttl rds =>
    obtain ⟨a, b, c, _⟩ := addRrsetOp_full sec h o ty cls ttl rds s hI hp.1 ((hintOK_iff s h o).mp hp.2)
    exact ⟨a, b, c⟩

/-- **the interface is met** -/
def writerSafe : WriterSafe where
  I := Writer.I
  Den := Writer.Den
  I_hv := i_hv
  Den_hv := fun _ _ _ _ h => h
  new_I := fun buf limit s _ h => new_i buf limit s h
  call := call_safe
  addQuestion := by
    intro qn qt qc s hI hwf
    obtain ⟨a, b, c, d⟩ := addQuestion_full qn qt qc s hI hwf
    exact ⟨a, b, c, d⟩
  addRr_post := by
    intro sec hint owner ty cls ttl rd s hI hwf hh hok
    obtain ⟨_, _, _, post⟩ := addRrOp_full sec hint owner ty cls ttl rd s hI hwf ((hintOK_iff s hint owner).mp hh)
    obtain ⟨s2, p, n, hrec, heq⟩ := post hok
    rw [heq]
    have k := keeps_setCount sec n s2
    exact ⟨fun q hq => den_keeps k (recSt_ownerHint hrec q (k.ow ▸ hq)),
      fun m hm q hq => den_keeps k (hrec.rd m hm q (k.rd ▸ hq))⟩
  addRrset_post := by
    intro sec hint owner ty cls ttl rds s hI hwf hh hne hok
    obtain ⟨_, _, _, post⟩ := addRrsetOp_full sec hint owner ty cls ttl rds s hI hwf ((hintOK_iff s hint owner).mp hh)
    obtain ⟨s2, p, on, n, hrec, hon, heq⟩ := post hok
    rw [heq]
    have k := keeps_setCount sec n s2
    obtain rfl := hon hne
    refine ⟨fun q hq => den_keeps k (recSt_ownerHint hrec q (k.ow ▸ hq)), fun hv0 v hv i q hq => ?_⟩
    rw [(setCount_fields sec n s2).2.2.2.1] at hv
    obtain ⟨m, hm, hd⟩ := (hrec.hv hv0 v hv).2 i q hq
    exact ⟨m, hm, den_keeps k hd⟩
  clearRrs_I := clearRrs_i
  finish := by
    intro s macFn hI hmac
    obtain ⟨m, mac, h⟩ := finish_ok macFn hmac s hI
    rw [h]; simp


/-- `finish` never returns an error either -/
theorem finish_not_err (s : State) (macFn : Tsig → List UInt8 → List UInt8) (hI : I s)
    (hmac : MacLenOK macFn) (e : WriterErr) : finish s macFn ≠ .err e := by
  obtain ⟨m, mac, h⟩ := finish_ok macFn hmac s hI
  rw [h]; simp

/-- with TSIG configured the additional count already includes the TSIG record -/
theorem arcount_of_tsig (s : State) (hI : I s) (ht : s.tsig.isSome) : 1 ≤ s.arcount ∧ s.arcount ≤ 65535 := by
  have h1 := hI.inv.ar_ge
  have h2 := hI.inv.ar
  simp only [ht, if_true] at h1
  exact ⟨by omega, h2⟩

/-! ## the component lists of the common types (class IN = 1) -/

theorem componentTypes_of_ns : componentTypes 1 2 = some [.compressibleName] := componentTypes_arms 1 2
theorem componentTypes_of_md : componentTypes 1 3 = some [.compressibleName] := componentTypes_arms 1 3
theorem componentTypes_of_mf : componentTypes 1 4 = some [.compressibleName] := componentTypes_arms 1 4
theorem componentTypes_of_cname : componentTypes 1 5 = some [.compressibleName] := componentTypes_arms 1 5
theorem componentTypes_of_mb : componentTypes 1 7 = some [.compressibleName] := componentTypes_arms 1 7
theorem componentTypes_of_mx : componentTypes 1 15 = some [.fixedLen 2, .compressibleName] := componentTypes_arms 1 15
theorem componentTypes_of_srv : componentTypes 1 33 = some [.fixedLen 6, .uncompressibleName] := componentTypes_arms 1 33
theorem componentTypes_of_a : componentTypes 1 1 = some [] := componentTypes_arms 1 1
theorem componentTypes_of_aaaa : componentTypes 1 28 = some [] := componentTypes_arms 1 28

end QV.Writer
