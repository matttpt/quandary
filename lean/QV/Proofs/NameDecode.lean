/-
  QV.Proofs.NameDecode — a stored name read with the chunk discipline (`NameAtC`) is a name of the
  RFC 1035 §4.1.4 relation `QV.Spec.Decodes`; hence the independent executable decoder
  `QV.Spec.specDecodeName` succeeds there and returns exactly the stored labels.
-/
import QV.Proofs.CompressC
import QV.Proofs.NameWireExec
import QV.Proofs.Wire
import QV.Proofs.WriterNames

namespace QV.Writer
open QV QV.Wire QV.Spec

theorem decodes_null' {msg : Bytes} {p cs : Nat} (hb : msg[p]? = some 0) : Decodes msg p cs [0] 1 1 := by
  have hlt := getElem?_some_lt hb
  exact .null hlt (getElem_of_getElem? hb hlt)

theorem decodes_label' {msg : Bytes} {p cs : Nat} {w : List UInt8} {n k : Nat} (b : UInt8)
    (hb : msg[p]? = some b) (h0 : b ≠ 0) (h63 : b.toNat ≤ 63) (hin : p + b.toNat + 1 ≤ msg.size)
    (rest : Decodes msg (p + b.toNat + 1) cs w n k) :
    Decodes msg p cs ((msg.extract p (p + b.toNat + 1)).toList ++ w) (n + 1) (b.toNat + 1 + k) := by
  have hlt := getElem?_some_lt hb
  have e : msg[p] = b := getElem_of_getElem? hb hlt
  have := Decodes.label (msg := msg) (pos := p) (cs := cs) (w := w) (n := n) (k := k) hlt
    (by rw [e]; exact h0) (by rw [e]; exact h63) (by rw [e]; exact hin) (by rw [e]; exact rest)
  rw [e] at this
  exact this

theorem decodes_ptr' {msg : Bytes} {q cs : Nat} {w : List UInt8} {n k : Nat} (b1 b2 : UInt8)
    (h1 : msg[q]? = some b1) (h2 : msg[q+1]? = some b2) (hp : isPtr b1 = true) (hlt : ptrOf b1 b2 < cs)
    (rest : Decodes msg (ptrOf b1 b2) (ptrOf b1 b2) w n k) : Decodes msg q cs w n 2 := by
  have hs1 := getElem?_some_lt h1
  have hs2 := getElem?_some_lt h2
  have e1 : msg[q] = b1 := getElem_of_getElem? h1 hs1
  have e2 : msg[q+1] = b2 := getElem_of_getElem? h2 hs2
  have hsp : specIsPtr b1 := (isPtr_iff b1).mp hp
  have hpe : ptrOf b1 b2 = specPtr b1 b2 := ptrOf_eq b1 b2 hsp
  refine Decodes.ptr (msg := msg) (pos := q) (cs := cs) (k := k) hs2 (by rw [e1]; exact hsp) ?_ ?_
  · rw [e1, e2, ← hpe]; exact hlt
  · rw [e1, e2, ← hpe]; exact rest

/-- wire form of a list of labels -/
def wireOf (ls : List Label) : List UInt8 := ls.flatMap WName.encLabel ++ [0]

theorem wireOf_cons (l : Label) (ls : List Label) : wireOf (l :: ls) = WName.encLabel l ++ wireOf ls := by
  simp [wireOf]

/-- What decodes at the end of a hop decodes at its start: the name continues in the same chunk, or
    the hop is a pointer to below the start of the chunk. (`msg` agrees with the buffer from `lo` up
    to the cursor.) -/
theorem hop_decodes_at {oct msg : Bytes} {cur lo a q cs cs' : Nat} {w : List UInt8} {n k : Nat}
    (hop : Hop oct cur a q) (hm : ∀ i, lo ≤ i → i < cur → msg[i]? = oct[i]?) (hlo : lo ≤ a) (hcs : cs ≤ a)
    (hch : (q = a ∧ cs' = cs) ∨ (q < cs ∧ cs' = q)) (hd : Decodes msg q cs' w n k) :
    ∃ k', Decodes msg a cs w n k' := by
  cases hop with
  | here _ _ _ =>
    rcases hch with ⟨_, e⟩ | ⟨e, _⟩
    · exact ⟨k, e ▸ hd⟩
    · omega
  | jump hq h1 h2 hp hlt _ _ =>
    rcases hch with ⟨e, _⟩ | ⟨e1, e2⟩
    · omega
    · exact ⟨2, decodes_ptr' _ _ (by rw [hm _ hlo (by omega)]; exact h1) (by rw [hm _ (by omega) hq]; exact h2)
        hp e1 (e2 ▸ hd)⟩

/-- a chunk-disciplined stored name is a name of the RFC relation, on every message that agrees
    with the buffer from `lo` — below which no label start is recorded — up to the cursor -/
theorem nameAtC_decodes_from {G : Nat → Prop} {oct msg : Bytes} {cur lo cs p : Nat} {ls : List Label}
    (h : NameAtC G oct cur cs p ls) (hlo : ∀ x, G x → lo ≤ x)
    (hm : ∀ i, lo ≤ i → i < cur → msg[i]? = oct[i]?) :
    ∃ k, Decodes msg p cs (wireOf ls) (ls.length + 1) k := by
  induction h with
  | root hcs hg hp h0 => exact ⟨1, decodes_null' (by rw [hm _ (hlo _ hg) hp]; exact h0)⟩
  | @label cs cs' p p' l ls hcs hg h1 h63 hb hd hop hch rest ih =>
    obtain ⟨k, ihd⟩ := ih
    have hq := hop_start_lt hop
    have hpl := hlo _ hg
    obtain ⟨k', hd'⟩ := hop_decodes_at hop hm (by omega) (by omega) hch ihd
    have hqm := (decodes_bounds hd').2.2
    have hbm : msg[p]? = some (UInt8.ofNat l.length) := by rw [hm _ hpl (by omega)]; exact hb
    have hn := ofNat_len_toNat h63
    have hex : (msg.extract p (p + l.length + 1)).toList = WName.encLabel l := by
      have hs := getElem?_some_lt hbm
      have := hop_start_size hop
      rw [extract_cons msg p l.length hs, getElem_of_getElem? hbm hs,
        show p + l.length + 1 = p + 1 + l.length by omega,
        extract_congr_range (fun k h1 h2 => hm k (by omega) (by omega)) (by omega) (by omega), hd]
      rfl
    have := decodes_label' (UInt8.ofNat l.length) hbm (ofNat_len_ne_zero h1 h63) (by rw [hn]; exact h63)
      (by rw [hn]; omega) (by rw [hn, show p + l.length + 1 = p + 1 + l.length by omega]; exact hd')
    rw [hn, hex] at this
    rw [wireOf_cons]
    exact ⟨_, this⟩

/-- **a chunk-disciplined stored name is a name of the RFC relation**, on every message that agrees
    with the buffer below the cursor -/
theorem nameAtC_decodes {G : Nat → Prop} {oct msg : Bytes} {cur cs p : Nat} {ls : List Label}
    (h : NameAtC G oct cur cs p ls) (hm : ∀ i, i < cur → msg[i]? = oct[i]?) :
    ∃ k, Decodes msg p cs (wireOf ls) (ls.length + 1) k :=
  nameAtC_decodes_from (lo := 0) h (fun _ _ => Nat.zero_le _) fun i _ hi => hm i hi

/-- … and so the independent decoder reads exactly the stored labels there -/
theorem nameAtC_specDecodeName {G : Nat → Prop} {oct msg : Bytes} {cur p : Nat} {ls : List Label}
    (h : NameAtC G oct cur p p ls) (hm : ∀ i, i < cur → msg[i]? = oct[i]?)
    (hlen : (wireOf ls).length ≤ 255) :
    ∃ k, specDecodeName msg p = some (wireOf ls, ls.length + 1, k) := by
  obtain ⟨k, hd⟩ := nameAtC_decodes h hm
  exact ⟨k, (specDecodeName_iff msg p _ _ _).mpr ⟨hd, hlen⟩⟩


theorem wireOf_length (ls : List Label) : (wireOf ls).length = encLen ls + 1 := by
  simp [wireOf, encLen]

/-- **at every recorded label start of a valid writer state the independent RFC 1035 decoder
    succeeds** on the message written so far, and reads a name of at most 255 octets -/
theorem cstored_specDecodeName {s : State} {g : Nat} (h : CStored s g) (hc : s.cursor ≤ s.octets.size) :
    ∃ ls k, NameAtC (GL s) s.octets s.cursor g g ls ∧
      specDecodeName (s.octets.extract 0 s.cursor) g = some (wireOf ls, ls.length + 1, k) := by
  obtain ⟨ls, hn, hb⟩ := h
  obtain ⟨k, hk⟩ := nameAtC_specDecodeName (msg := s.octets.extract 0 s.cursor) hn
    (extract_prefix_get s.octets s.cursor hc) (by rw [wireOf_length]; exact hb)
  exact ⟨ls, k, hn, hk⟩

end QV.Writer
