/-
  QV.Proofs.FinishInv — `finish` read backwards: whenever `finish` succeeds on a writer whose TSIG
  slot is empty, the finished message is the writer's content with the four counts filled in,
  followed — exactly when the EDNS slot is set — by the eleven octets of the OPT record.

  (`finish_plain`/`finish_edns` in WriterView need room hypotheses; here the room is *derived* from
  the success of `finish`, so the statement applies to the writer state after any answering phase.)
-/
import QV.Proofs.WriterView

namespace QV.Writer
open QV

/-- a successful `add_rr` of a root-owned record without RDATA had room for its eleven octets -/
theorem addRr_root_room {ty cls ttl : Nat} {s0 s' : State} {u : Unit} (hty : componentTypes cls ty = some [])
    (h : addRr .none WName.root ty cls ttl [] s0 = (.ok u, s')) :
    s0.cursor + 11 ≤ s0.available ∧ s0.cursor + 11 ≤ s0.octets.size := by
  obtain ⟨p, sB, sR, hB, a4, _, hR, _, zR, _⟩ := addRr_eq_ok.mp h
  rw [writeHintedName_literal _ _ _ (Or.inr (by decide))] at hB
  obtain ⟨_, _, _, rfl⟩ := writeUncompressedName_eq_ok.mp hB
  rcases (writeRdata_nil_eq_ok hty).mp hR with ⟨_, rfl⟩ | ⟨hne, _⟩
  · simp only [rdStart, pushed, writeAt_size] at zR
    exact ⟨a4, zR⟩
  · exact absurd rfl hne

theorem optRecord_length (e : Edns) : (optRecord e).length = 11 := by
  simp [optRecord, u16be, u32be]

/-- a `finish` that appended an OPT record found room for it: that is read off its success -/
theorem finish_edns_room {s : State} {macFn : Tsig → List UInt8 → List UInt8} {e : Edns} (ht : s.tsig = none)
    (he : s.edns = some e) (hsz : 12 ≤ s.octets.size) {b : Bytes} {mac : Option (List UInt8)}
    (h : finish s macFn = .ok (b, mac)) : s.cursor ≤ s.available ∧ s.cursor + 11 ≤ s.octets.size := by
  obtain ⟨_, _, hw, _⟩ := finish_eq_ok.mp h
  obtain ⟨_, _, h2, _⟩ := finishWithMac_eq_ok.mp hw
  rcases finishOpt_ok_inv h2 with ⟨hn, _⟩ | ⟨e', he', h2⟩
  · rw [he] at hn; cases hn
  have hr := addRr_root_room (by rw [T_OPT_eq]; exact componentTypes_opt41 _) h2
  have : Gen.OPT_RECORD_SIZE = 11 := rfl
  simp only [this, withCounts_size] at hr
  omega

/-- `finish` read backwards, for a writer without a pending TSIG record -/
theorem finish_inv (s : State) (macFn : Tsig → List UInt8 → List UInt8) (ht : s.tsig = none)
    (hsz : 12 ≤ s.octets.size) (b : Bytes) (mac : Option (List UInt8)) (h : finish s macFn = .ok (b, mac)) :
    mac = none ∧
    (match s.edns with
     | none => b = (withCounts s).extract 0 s.cursor
     | some e => b = (writeAt (withCounts s) s.cursor (optRecord e)).extract 0 (s.cursor + 11)) := by
  cases he : s.edns with
  | none =>
    rw [finish_plain s macFn ht he hsz] at h
    simp only [Out.ok.injEq, Prod.mk.injEq] at h
    exact ⟨h.2.symm, h.1.symm⟩
  | some e =>
    simp only
    have hroom := finish_edns_room ht he hsz h
    rw [finish_edns s macFn e ht he hsz hroom.1 hroom.2] at h
    simp only [Out.ok.injEq, Prod.mk.injEq] at h
    exact ⟨h.2.symm, h.1.symm⟩

/-- the OPT record `finish` appends: owner root, TYPE 41, CLASS = the payload size, a TTL whose
    version and flag octets are 0, RDLENGTH 0 -/
theorem optRecord_shape (e : Edns) :
    optRecord e = [0] ++ u16be 41 ++ u16be e.payload ++ [UInt8.ofNat e.upper, 0, 0, 0] ++ u16be 0 := by
  have a1 : e.upper * 16777216 % 4294967296 / 16777216 % 256 = e.upper % 256 := by omega
  have a2 : e.upper * 16777216 % 4294967296 / 65536 % 256 = 0 := by omega
  have a3 : e.upper * 16777216 % 4294967296 / 256 % 256 = 0 := by omega
  have a4 : e.upper * 16777216 % 4294967296 % 256 = 0 := by omega
  have a5 : UInt8.ofNat (e.upper % 256) = UInt8.ofNat e.upper := by
    apply UInt8.toNat_inj.mp
    simp [UInt8.toNat_ofNat]
  unfold optRecord u32be
  rw [a1, a2, a3, a4, a5]
  rfl

theorem extract_writeAt_tail (a : Bytes) (pos : Nat) (d : List UInt8) (h : pos + d.length ≤ a.size) :
    ((writeAt a pos d).extract 0 (pos + d.length)).size = pos + d.length ∧
    ((writeAt a pos d).extract 0 (pos + d.length)).toList.drop pos = d := by
  have hs : ((writeAt a pos d).extract 0 (pos + d.length)).size = pos + d.length := by
    rw [Array.size_extract, writeAt_size]; omega
  refine ⟨hs, ?_⟩
  apply List.ext_getElem?
  intro i
  rw [List.getElem?_drop, Array.getElem?_toList, Array.getElem?_extract, writeAt_getElem?]
  simp only [writeAt_size, Nat.zero_add, Nat.sub_zero]
  rw [Nat.min_eq_left h]
  by_cases hi : i < d.length
  · rw [if_pos (by omega), if_pos ⟨by omega, by omega, by omega⟩]
    congr 1; omega
  · rw [if_neg (by omega)]
    exact (List.getElem?_eq_none (by omega)).symm

/-- **what `finish` appends** when no TSIG is pending and the EDNS slot is set: the message ends
    with the eleven octets of the OPT record; when the slot is empty, nothing is appended -/
theorem finish_inv_tail (s : State) (macFn : Tsig → List UInt8 → List UInt8) (ht : s.tsig = none)
    (hsz : 12 ≤ s.octets.size) (b : Bytes) (mac : Option (List UInt8)) (h : finish s macFn = .ok (b, mac)) :
    mac = none ∧
    (match s.edns with
     | none => b = (withCounts s).extract 0 s.cursor
     | some e => b.size = s.cursor + 11 ∧ b.toList.drop s.cursor = optRecord e ∧
        ∀ i, i < s.cursor → b[i]? = (withCounts s)[i]?) := by
  obtain ⟨hm, hb⟩ := finish_inv s macFn ht hsz b mac h
  refine ⟨hm, ?_⟩
  cases he : s.edns with
  | none => rw [he] at hb; exact hb
  | some e =>
    rw [he] at hb
    simp only at hb ⊢
    have hroom := (finish_edns_room ht he hsz h).2
    have hz := withCounts_size s
    have l := optRecord_length e
    obtain ⟨t1, t2⟩ := extract_writeAt_tail (withCounts s) s.cursor (optRecord e) (by rw [hz, l]; exact hroom)
    rw [l] at t1 t2
    rw [hb]
    refine ⟨t1, t2, ?_⟩
    intro i hi
    rw [Array.getElem?_extract, writeAt_getElem?]
    simp only [writeAt_size, Nat.zero_add, Nat.sub_zero]
    rw [if_pos (by omega), if_neg (by omega)]

end QV.Writer
