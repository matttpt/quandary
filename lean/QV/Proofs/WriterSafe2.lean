/-
  QV.Proofs.WriterSafe2 — a second instance of the server's writer interface whose invariant also
  carries the layout (with content, hence also the structural layout `SLay`), so that what the
  server hands to `finish` is known to decode: `writerSafeL`, and `finish_decodes` for it.
-/
import QV.Proofs.WriterDecodes

namespace QV.Writer
open QV QV.Wire QV.Spec QV.ServerSafety

/-- the writer invariant together with a layout (of some questions and records, written in some
    modes) and "a DNS message is at most 65535 octets" -/
def IL (s : State) : Prop := I s ∧ (∃ b mb, CLay (fun _ => True) s b mb) ∧ s.limit ≤ 65535

theorem il_i {s : State} (h : IL s) : I s := h.1

theorem il_slay {s : State} (h : IL s) : SLay s := by
  obtain ⟨b, mb, hc⟩ := h.2.1
  exact slay_of_clay hc

theorem il_limit {s : State} (h : IL s) : s.limit ≤ 65535 := h.2.2

/-- every call of the server's interface keeps a layout, whatever it returns -/
theorem call_clay (c : Call) (s : State) (hI : I s) (hL : ∃ b mb, CLay (fun _ => True) s b mb)
    (hp : c.Pre Den s) : ∃ b mb, CLay (fun _ => True) (c.run s).2 b mb := by
  obtain ⟨b, mb, hL⟩ := hL
  have hnp := (call_safe c s hI hp).1
  cases c with
  | setId v => exact ⟨b, mb, clay_hdrOnly hL hI (hdrOnly_write _ _ (by show _ + 2 ≤ 12; decide) s)⟩
  | setBit b' m v => exact ⟨b, mb, clay_hdrOnly hL hI (hdrOnly_setHdr b' _ hp s)⟩
  | setOpcode v => exact ⟨b, mb, clay_hdrOnly hL hI (hdrOnly_setHdr Gen.OPCODE_BYTE _ (by decide) s)⟩
  | setRcode v => exact ⟨b, mb, clay_hdrOnly hL hI (hdrOnly_setRcode v s)⟩
  | setExtendedRcode v => exact ⟨b, mb, clay_hdrOnly hL hI (hdrOnly_setExtendedRcode v s)⟩
  | setLimit v => exact ⟨b, mb, clay_hdrOnly hL hI (hdrOnly_setLimit v s)⟩
  | setEdns p => exact ⟨b, mb, clay_setEdns p s hL⟩
  | setTsig m rr => exact ⟨b, mb, clay_setTsig m rr s hL⟩
  | addRr sec h o ty cls ttl rd =>
    have hc := addRrOp_cases sec h o ty cls ttl rd s
    show ∃ b mb, CLay _ (addRrOp sec h o ty cls ttl rd s).2 b mb
    change (addRrOp sec h o ty cls ttl rd s).1 ≠ .panic at hnp
    cases hr : addRrOp sec h o ty cls ttl rd s with
    | mk r s' =>
      rw [hr] at hc hnp
      cases r with
      | ok u => exact ⟨_, _, clay_addRrOp sec h o ty cls ttl rd s s' hI hL hp.1 ((hintOK_iff s h o).mp hp.2) hr⟩
      | err e => exact ⟨b, mb, clay_same hL hI hc⟩
      | panic => exact absurd rfl hnp
  | addRrset sec h o ty cls ttl rds =>
    have hc := addRrsetOp_cases sec h o ty cls ttl rds s
    show ∃ b mb, CLay _ (addRrsetOp sec h o ty cls ttl rds s).2 b mb
    change (addRrsetOp sec h o ty cls ttl rds s).1 ≠ .panic at hnp
    cases hr : addRrsetOp sec h o ty cls ttl rds s with
    | mk r s' =>
      rw [hr] at hc hnp
      cases r with
      | ok u => exact ⟨_, _, clay_addRrsetOp sec h o ty cls ttl rds s s' hI hL hp.1 ((hintOK_iff s h o).mp hp.2) hr⟩
      | err e => exact ⟨b, mb, clay_same hL hI hc⟩
      | panic => exact absurd rfl hnp

theorem addQuestion_clay (qn : WName) (qt qc : Nat) (s : State) (hI : I s)
    (hL : ∃ b mb, CLay (fun _ => True) s b mb) (hwf : qn.WF) :
    ∃ b mb, CLay (fun _ => True) (addQuestion qn qt qc s).2 b mb := by
  obtain ⟨b, mb, hL⟩ := hL
  have hnp := (addQuestion_full qn qt qc s hI hwf).1
  have hc := addQuestion_cases qn qt qc s
  cases hr : addQuestion qn qt qc s with
  | mk r s' =>
    rw [hr] at hc hnp
    cases r with
    | ok u => exact ⟨_, _, clay_addQuestion qn qt qc s s' hI hL hwf hr⟩
    | err e => exact ⟨b, mb, clay_same hL hI hc⟩
    | panic => exact absurd rfl hnp

/-- **the writer interface, with the layout in the invariant** -/
def writerSafeL : WriterSafe where
  I := IL
  Den := Writer.Den
  I_hv := fun s v h => ⟨writerSafe.I_hv s v h.1, h.2.1.imp fun _ hb => hb.imp fun _ hc => clay_hv s v hc, h.2.2⟩
  Den_hv := fun _ _ _ _ h => h
  new_I := fun buf limit s hl h =>
    ⟨new_i buf limit s h, ⟨{}, {}, clay_new buf limit s h s.mode trivial⟩, new_limit buf limit s h hl⟩
  call := fun c s h hp => by
    obtain ⟨a, b, d⟩ := call_safe c s h.1 hp
    exact ⟨a, ⟨b, call_clay c s h.1 h.2.1 hp, call_limit c s hp h.2.2⟩, d⟩
  addQuestion := fun qn qt qc s h hwf => by
    obtain ⟨a, b, c, d⟩ := writerSafe.addQuestion qn qt qc s h.1 hwf
    exact ⟨a, ⟨b, addQuestion_clay qn qt qc s h.1 h.2.1 hwf, by rw [addQuestion_limit]; exact h.2.2⟩, c, d⟩
  addRr_post := fun sec hint owner ty cls ttl rd s h => writerSafe.addRr_post sec hint owner ty cls ttl rd s h.1
  addRrset_post := fun sec hint owner ty cls ttl rds s h =>
    writerSafe.addRrset_post sec hint owner ty cls ttl rds s h.1
  clearRrs_I := fun s h => ⟨clearRrs_i s h.1, by
    obtain ⟨b, mb, hc⟩ := h.2.1
    exact ⟨_, _, clay_clearRrs s hc h.1⟩, h.2.2⟩
  finish := fun s macFn h => writerSafe.finish s macFn h.1

end QV.Writer
