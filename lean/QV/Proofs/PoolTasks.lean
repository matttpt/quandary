/-
  QV.Proofs.PoolTasks — the task-table invariant of the pool transition system (C29): every task
  is in exactly one place (a submitter's hands, the queue, a worker's hands, finished or
  rejected), its status only moves forward, and it is started at most once.
-/
import QV.Proofs.Pool

namespace QV.Pool

variable {cfg : Cfg} {s s' : State} {ths ths' : List Local} {t u k : Nat} {a b l : Local} {w : WKind} {reg to dl : Bool}
  {target : Option Nat} {tasks : List Status} {queue runs : List Nat} {st st0 st1 : Status}

/-- the task a thread carries and the status the task table must show for it -/
def expect (t : Nat) : Local → Option (Nat × Status)
  | .subWantP k | .subInP k | .subWait k | .sosWantP k | .sosInP k | .sosWantG k | .sosInG k =>
    some (k, .pending t)
  | .wRun _ k | .auxStart k => some (k, .handed t)
  | .wRunning _ k | .auxRunning k => some (k, .running t)
  | _ => none

/-- the thread in whose hands a task is, if any -/
def Status.holder : Status → Option Nat
  | .pending t | .handed t | .running t => some t
  | _ => none

/-- whether the task has been started -/
def Status.started : Status → Bool
  | .running _ | .done => true
  | _ => false

/-- expectation of the thread at index `u` -/
def E (ths : List Local) (u : Nat) : Option (Nat × Status) := (ths[u]?).bind (expect u)

theorem expect_holder (h : expect u l = some (k, st)) :
    st.holder = some u := by
  cases l <;> simp [expect] at h <;> obtain ⟨_, rfl⟩ := h <;> rfl

theorem E_holder (h : E ths u = some (k, st)) : st.holder = some u := by
  unfold E at h
  cases hg : ths[u]? with
  | none => simp [hg] at h
  | some l => simp [hg] at h; exact expect_holder h

theorem E_of_get (h : ths[u]? = some l) : E ths u = expect u l := by
  simp [E, h]

theorem E_set_ne (b : Local) (h : u ≠ t) : E (ths.set t b) u = E ths u := by
  simp [E, Ne.symm h]

theorem E_set_self (b : Local) (h : ths[t]? = some a) :
    E (ths.set t b) t = expect t b := by
  simp [E, get_lt h]

/-- replacing a thread's local state by one with the same expectation changes nothing -/
theorem E_set_same {v : Nat} (b : Local) (h : ths[v]? = some l)
    (hb : expect v b = expect v l) (u : Nat) : E (ths.set v b) u = E ths u := by
  by_cases e : u = v
  · subst e; rw [E_set_self b h, E_of_get h, hb]
  · exact E_set_ne b e


theorem E_map (f : Local → Local) (hf : ∀ u l, expect u (f l) = expect u l) (ths : List Local) (u : Nat) :
    E (ths.map f) u = E ths u := by
  unfold E
  rw [List.getElem?_map]
  cases ths[u]? with
  | none => rfl
  | some l => simp [hf]

@[simp] theorem E_map_wakeTask (ths : List Local) (u : Nat) : E (ths.map wakeTask) u = E ths u :=
  E_map _ (fun u => wakeTask_eq (expect u) fun _ => rfl) ths u
@[simp] theorem E_map_wakeAvail (ths : List Local) (u : Nat) : E (ths.map wakeAvail) u = E ths u :=
  E_map _ (fun u => wakeAvail_eq (expect u) fun _ => rfl) ths u
@[simp] theorem E_map_wakeShut (ths : List Local) (u : Nat) : E (ths.map wakeShut) u = E ths u :=
  E_map _ (fun u => wakeShut_eq (expect u) rfl rfl) ths u

theorem E_append (ths : List Local) (x : Local) (u : Nat) :
    E (ths ++ [x]) u = if u = ths.length then expect u x else E ths u := by
  unfold E
  split
  · next h => subst h; simp
  · next h => rw [getElem?_append_singleton_ne h]

theorem E_ge (h : ths.length ≤ u) : E ths u = none := by
  simp [E, List.getElem?_eq_none h]

/-! ### the invariant -/

/-- the task-table invariant, over the lists it relates (arguments, not a state, for the reason given at `CInv'`) -/
structure TInv' (ths : List Local) (tasks : List Status) (queue : List Nat) (runs : List Nat) : Prop where
  /-- every task has its start counter -/
  len : runs.length = tasks.length
  /-- a thread that carries a task is recorded as its holder, with the matching status -/
  th : ∀ (u k : Nat) (st : Status), E ths u = some (k, st) → tasks[k]? = some st
  /-- a task recorded as held by thread `u` is carried by thread `u` -/
  st : ∀ (k : Nat) (st : Status) (u : Nat), tasks[k]? = some st → st.holder = some u → E ths u = some (k, st)
  /-- the queue holds exactly the tasks recorded as queued, each once -/
  q1 : ∀ k, k ∈ queue → tasks[k]? = some .queued
  q2 : ∀ k, tasks[k]? = some .queued → k ∈ queue
  nodup : queue.Nodup
  /-- a task has been started once iff it is running or done, and never more than once -/
  runsOk : ∀ (k : Nat) (st : Status), tasks[k]? = some st → runs[k]? = some (if st.started then 1 else 0)

/-- the task-table invariant of a state -/
abbrev TInv (s : State) : Prop := TInv' s.threads s.tasks s.queue s.runs

theorem tinv_init : TInv init := by
  refine ⟨rfl, ?_, ?_, ?_, ?_, ?_, ?_⟩ <;> simp [init, E]

/-- steps that move no task: the expectation of every thread is unchanged -/
theorem tinv_neutral
    (h : TInv' ths tasks queue runs) (hE : ∀ u, E ths' u = E ths u) : TInv' ths' tasks queue runs :=
  ⟨h.len, fun u k st he => h.th u k st (hE u ▸ he), fun k st u hk hh => (hE u).symm ▸ h.st k st u hk hh,
   h.q1, h.q2, h.nodup, h.runsOk⟩

theorem bump_get_self {rs : List Nat} {k v : Nat} (h : rs[k]? = some v) : (bump rs k)[k]? = some (v + 1) := by
  unfold bump
  rw [get_set_self h, h]; rfl

/-- the table changes at task `k` only, which gets status `st1`: only thread `t` — the task's holder before or
    after, if it has one — changes its expectation, and `queue'`, `runs'` account for the new status -/
theorem TInv'.changeTask {tasks' : List Status} {queue' runs' : List Nat} (h : TInv' ths tasks queue runs)
    (hk' : tasks'[k]? = some st1) (ho : ∀ j, j ≠ k → tasks'[j]? = tasks[j]?)
    (hold : ∀ st u, tasks[k]? = some st → st.holder = some u → u = t)
    (only : ∀ k' st', E ths t = some (k', st') → k' = k)
    (hE : ∀ u, u ≠ t → E ths' u = E ths u)
    (h1 : E ths' t = if st1.holder = some t then some (k, st1) else none)
    (h1' : st1.holder = some t ∨ st1.holder = none)
    (hq : ∀ j, j ∈ queue' ↔ (j ≠ k ∧ j ∈ queue) ∨ (j = k ∧ st1 = .queued)) (hnd : queue'.Nodup)
    (hlen : runs'.length = tasks'.length) (hrk : runs'[k]? = some (if st1.started then 1 else 0))
    (hr : ∀ j, j ≠ k → runs'[j]? = runs[j]?) :
    TInv' ths' tasks' queue' runs' := by
  refine ⟨hlen, ?_, ?_, ?_, ?_, hnd, ?_⟩
  · intro u k2 st he
    by_cases hu : u = t
    · subst hu
      rw [h1] at he
      split at he
      · cases he; exact hk'
      · cases he
    · rw [hE u hu] at he
      have hk2 := h.th u k2 st he
      have hne : k2 ≠ k := fun e => hu (hold st u (e ▸ hk2) (E_holder he))
      rw [ho k2 hne]; exact hk2
  · intro k2 st u hk2 hh
    by_cases hne : k2 = k
    · subst hne
      rw [hk'] at hk2; cases hk2
      rcases h1' with h1' | h1'
      · rw [h1'] at hh; cases hh
        rw [h1]; simp [h1']
      · rw [h1'] at hh; cases hh
    · rw [ho k2 hne] at hk2
      have he := h.st k2 st u hk2 hh
      have hu : u ≠ t := fun e => hne (only k2 st (e ▸ he))
      rw [hE u hu]; exact he
  · intro j hj
    rcases (hq j).mp hj with ⟨hne, hj⟩ | ⟨rfl, rfl⟩
    · rw [ho j hne]; exact h.q1 j hj
    · exact hk'
  · intro j hj
    by_cases hne : j = k
    · subst hne; rw [hk'] at hj; exact (hq j).mpr (.inr ⟨rfl, Option.some.inj hj⟩)
    · rw [ho j hne] at hj; exact (hq j).mpr (.inl ⟨hne, h.q2 j hj⟩)
  · intro j st hj
    by_cases hne : j = k
    · subst hne; rw [hk'] at hj; cases hj; exact hrk
    · rw [ho j hne] at hj; rw [hr j hne]; exact h.runsOk j st hj

/-- task `k` goes from status `st0` to `st1` -/
theorem TInv'.setTask {queue' runs' : List Nat} (h : TInv' ths tasks queue runs) (hk : tasks[k]? = some st0)
    (h0 : E ths t = some (k, st0) ∨ (E ths t = none ∧ st0.holder = none))
    (hE : ∀ u, u ≠ t → E ths' u = E ths u)
    (h1 : E ths' t = if st1.holder = some t then some (k, st1) else none)
    (h1' : st1.holder = some t ∨ st1.holder = none)
    (hq : ∀ j, j ∈ queue' ↔ (j ≠ k ∧ j ∈ queue) ∨ (j = k ∧ st1 = .queued)) (hnd : queue'.Nodup)
    (hlen : runs'.length = runs.length) (hrk : runs'[k]? = some (if st1.started then 1 else 0))
    (hr : ∀ j, j ≠ k → runs'[j]? = runs[j]?) :
    TInv' ths' (tasks.set k st1) queue' runs' := by
  refine h.changeTask (get_set_self hk) (fun j hne => get_set_ne (Ne.symm hne)) (fun st u hs hh => ?_)
    (fun k' st' he => ?_) hE h1 h1' hq hnd (by rw [List.length_set, hlen, h.len]) hrk hr
  · rw [hk] at hs; cases hs
    rcases h0 with h0 | ⟨_, h0⟩
    · exact Option.some.inj ((E_holder h0).symm.trans hh) |>.symm
    · rw [h0] at hh; cases hh
  · rcases h0 with h0 | ⟨h0, _⟩ <;> rw [h0] at he <;> cases he
    rfl

/-- the queue clause of `setTask` when neither the queue nor queuedness changes -/
theorem mem_unchanged {queue : List Nat} {k : Nat} {st1 : Status} (hnq : k ∉ queue) (n1 : st1 ≠ .queued) (j : Nat) :
    j ∈ queue ↔ (j ≠ k ∧ j ∈ queue) ∨ (j = k ∧ st1 = .queued) :=
  ⟨fun hj => .inl ⟨fun e => hnq (e ▸ hj), hj⟩, fun hj => hj.elim (·.2) fun e => absurd e.2 n1⟩

/-- a task that some thread carries is not in the queue -/
theorem TInv'.not_queued (h : TInv' ths tasks queue runs) (he : E ths t = some (k, st0)) : k ∉ queue := fun hm => by
  have := h.q1 k hm
  rw [h.th t k st0 he] at this
  cases this
  cases E_holder he

/-- what moving thread `t` from `a` to `b` does to the expectations -/
theorem E_move (hg : ths[t]? = some a) (b : Local) :
    E ths t = expect t a ∧ (∀ u, u ≠ t → E (ths.set t b) u = E ths u) ∧ E (ths.set t b) t = expect t b :=
  ⟨E_of_get hg, fun _ hu => E_set_ne b hu, E_set_self b hg⟩

/-- thread `t` moves between local states that carry the same task, or none -/
theorem TInv'.move (h : TInv' ths tasks queue runs) (hg : ths[t]? = some a) (heb : expect t b = expect t a) :
    TInv' (ths.set t b) tasks queue runs :=
  tinv_neutral h (E_set_same b hg heb)

/-- thread `t` takes the task it carries to a status other than `queued`, keeping it or letting go of
    it (reject, finish) -/
theorem TInv'.update (h : TInv' ths tasks queue runs) (hg : ths[t]? = some a)
    (hea : expect t a = some (k, st0)) (heb : expect t b = if st1.holder = some t then some (k, st1) else none)
    (h1' : st1.holder = some t ∨ st1.holder = none) (n1 : st1 ≠ .queued) (hs : st1.started = st0.started) :
    TInv' (ths.set t b) (tasks.set k st1) queue runs := by
  obtain ⟨h0, hE, h1⟩ := E_move hg b
  rw [hea] at h0
  have hk := h.th t k st0 h0
  have hnq := h.not_queued h0
  exact h.setTask hk (.inl h0) hE (h1.trans heb) h1'
    (mem_unchanged hnq n1) h.nodup rfl (hs ▸ h.runsOk k st0 hk) (fun _ _ => rfl)

theorem TInv'.reject (h : TInv' ths tasks queue runs) (hg : ths[t]? = some a)
    (hea : expect t a = some (k, .pending t)) (heb : expect t b = none) :
    TInv' (ths.set t b) (tasks.set k .rejected) queue runs :=
  h.update hg hea heb (Or.inr rfl) nofun rfl

theorem TInv'.finish (h : TInv' ths tasks queue runs) (hg : ths[t]? = some a)
    (hea : expect t a = some (k, .running t)) (heb : expect t b = none) :
    TInv' (ths.set t b) (tasks.set k .done) queue runs :=
  h.update hg hea heb (Or.inr rfl) nofun rfl

/-- a worker starts the task it holds: `handed t → running t`, and the start counter goes 0 → 1 -/
theorem TInv'.run (h : TInv' ths tasks queue runs) (hg : ths[t]? = some a)
    (hea : expect t a = some (k, .handed t)) (heb : expect t b = some (k, .running t)) :
    TInv' (ths.set t b) (tasks.set k (.running t)) queue (bump runs k) := by
  obtain ⟨h0, hE, h1⟩ := E_move hg b
  rw [hea] at h0
  have hk := h.th t k _ h0
  have hnq := h.not_queued h0
  exact h.setTask hk (.inl h0) hE (by simp [Status.holder, h1, heb]) (.inl rfl)
    (mem_unchanged hnq nofun) h.nodup (by simp [bump]) (bump_get_self (h.runsOk k (.handed t) hk))
    (fun j hne => by unfold bump; exact get_set_ne (Ne.symm hne))

/-- a submitter pushes the task it holds -/
theorem TInv'.push (h : TInv' ths tasks queue runs) (hg : ths[t]? = some a)
    (hea : expect t a = some (k, .pending t)) (heb : expect t b = none) :
    TInv' (ths.set t b) (tasks.set k .queued) (queue ++ [k]) runs := by
  obtain ⟨h0, hE, h1⟩ := E_move hg b
  rw [hea] at h0
  have hk := h.th t k _ h0
  have hnq := h.not_queued h0
  refine h.setTask hk (.inl h0) hE (h1.trans heb) (.inr rfl)
    (fun j => ?_) (List.nodup_append.mpr ⟨h.nodup, by simp, fun a ha b hb e => hnq (by rw [List.mem_singleton.mp hb] at e; exact e ▸ ha)⟩) rfl
    (h.runsOk k (.pending t) hk) (fun _ _ => rfl)
  rw [List.mem_append, List.mem_singleton]
  constructor
  · rintro (hj | rfl)
    · exact .inl ⟨fun e => hnq (e ▸ hj), hj⟩
    · exact .inr ⟨rfl, rfl⟩
  · rintro (⟨_, hj⟩ | ⟨rfl, _⟩)
    · exact .inl hj
    · exact .inr rfl

/-- a worker pops the head of the queue -/
theorem TInv'.pop {q : List Nat} (h : TInv' ths tasks (k :: q) runs) (hg : ths[t]? = some a)
    (hea : expect t a = none) (heb : expect t b = some (k, .handed t)) :
    TInv' (ths.set t b) (tasks.set k (.handed t)) q runs := by
  obtain ⟨h0, hE, h1⟩ := E_move hg b
  rw [hea] at h0
  have hk := h.q1 k (List.mem_cons_self ..)
  have hnd := List.nodup_cons.mp h.nodup
  exact h.setTask hk (.inr ⟨h0, rfl⟩) hE (by simp [Status.holder, h1, heb]) (.inl rfl)
    (fun j => ⟨fun hj => .inl ⟨fun e => hnd.1 (e ▸ hj), List.mem_cons_of_mem _ hj⟩,
      fun hj => hj.elim (fun e => (List.mem_cons.mp e.2).resolve_left e.1) fun e => nomatch e.2⟩)
    hnd.2 rfl (h.runsOk k .queued hk) (fun _ _ => rfl)

/-- a thread begins a submission with a fresh task id: the table grows at `tasks.length` -/
theorem TInv'.newTask (h : TInv' ths tasks queue runs) (hg : ths[t]? = some a)
    (hea : expect t a = none) (heb : expect t b = some (tasks.length, .pending t)) :
    TInv' (ths.set t b) (tasks ++ [.pending t]) queue (runs ++ [0]) := by
  obtain ⟨h0, hE, h1⟩ := E_move hg b
  rw [hea] at h0
  have hnone : tasks[tasks.length]? = none := List.getElem?_eq_none (Nat.le_refl _)
  have hnq : tasks.length ∉ queue := fun hm => by rw [h.q1 _ hm] at hnone; cases hnone
  exact h.changeTask (k := tasks.length) (st1 := .pending t) (by simp) (fun j => getElem?_append_singleton_ne)
    (fun st u hs => by rw [hnone] at hs; cases hs) (fun k' st' he => by rw [h0] at he; cases he) hE
    (by simp [Status.holder, h1, heb]) (.inl rfl) (mem_unchanged hnq nofun) h.nodup (by simp [h.len])
    (by rw [← h.len]; simp [Status.started]) (fun j hne => getElem?_append_singleton_ne (h.len ▸ hne))

/-- `submit_or_spawn` hands its task to a newly created auxiliary thread: the submitter lets go of it, then
    the new thread picks it up -/
theorem TInv'.handAux {x : Local} (h : TInv' ths tasks queue runs) (hg : ths[t]? = some a)
    (h0 : expect t a = some (k, .pending t)) (hb : expect t b = none)
    (hx : expect ths.length x = some (k, .handed ths.length)) :
    TInv' (ths.set t b ++ [x]) (tasks.set k (.handed ths.length)) queue runs := by
  have step1 := h.reject hg h0 hb
  have hk1 : (tasks.set k Status.rejected)[k]? = some .rejected :=
    get_set_self (h.th t k _ ((E_of_get hg).trans h0))
  have hlen : (ths.set t b).length = ths.length := List.length_set ..
  have hnq : k ∉ queue := fun hm => by have := step1.q1 k hm; rw [hk1] at this; cases this
  have := step1.setTask (ths' := ths.set t b ++ [x]) (t := ths.length) (st1 := .handed ths.length) hk1
    (.inr ⟨E_ge (by simp), rfl⟩) (fun u hu => by rw [E_append, hlen]; simp [hu])
    (by rw [E_append, hlen]; simp [Status.holder, hx]) (.inl rfl)
    (mem_unchanged hnq nofun) h.nodup rfl (step1.runsOk k .rejected hk1) (fun _ _ => rfl)
  rwa [List.set_set] at this

theorem E_append_none {x : Local} (hx : ∀ u, expect u x = none) (u : Nat) :
    E (ths ++ [x]) u = E ths u := by
  rw [E_append]
  split
  · rename_i h; subst h; rw [hx, E_ge (Nat.le_refl _)]
  · rfl

theorem E_endThread (s : State) (u : Nat) : E (endThread s).threads u = E s.threads u := by
  unfold endThread
  simp only
  split
  · exact E_map_wakeShut _ _
  · rfl

theorem tinv_pushTask (h : TInv s)
    (hg : s.threads[t]? = some a) (ha : expect t a = some (k, .pending t))
    (hn : pushTask s t k target = some s') : TInv s' := by
  obtain ⟨ths, hno, rfl⟩ := Option.map_eq_some_iff.mp hn
  have inner : TInv' (s.threads.set t .idle) (s.tasks.set k .queued) (s.queue ++ [k]) s.runs :=
    h.push hg ha rfl
  rcases notify_task_spec hno with ⟨_, rfl⟩ | ⟨v, w, hv, rfl⟩
  · exact inner
  · exact inner.move hv rfl

theorem tinv_relWorker
    (h : TInv s) (hg : s.threads[t]? = some (.wInP w reg to))
    (hn : relWorker cfg s t w reg to target dl = some s') : TInv s' := by
  have h2 : TInv (relWorkerBody cfg s t w reg to dl) := by
    rcases relWorkerBody_cases cfg s t w reg to dl with ⟨e, _⟩ | ⟨k, q, hq, e⟩ | ⟨_, _, e⟩ | ⟨_, _, e⟩ <;> rw [e]
    · exact h.move hg (by cases w <;> rfl)
    · exact TInv'.pop (hq ▸ h) hg rfl rfl
    · exact h.move hg (by cases w <;> rfl)
    · exact h.move hg rfl
  unfold relWorker at hn
  cases reg
  · obtain ⟨ths, hno, rfl⟩ := Option.map_eq_some_iff.mp hn
    rcases notify_avail_spec hno with ⟨_, rfl⟩ | ⟨v, k, hv, rfl⟩
    · exact h2
    · exact h2.move hv rfl
  · simp only [↓reduceIte] at hn
    split at hn
    · cases hn; exact h2
    · cases hn

end QV.Pool
