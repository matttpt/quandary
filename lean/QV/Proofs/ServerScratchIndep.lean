/-
  QV.Proofs.ServerScratchIndep — `ScratchIndepI` (`QV.Proofs.ServerAnswerTwoRunI`), case by case:
  the header calls and `add_*_rr` (`QV.Proofs.WriterThread`) have the
  same outcome on two writers that agree below the cursor and leave them agreeing below the cursor.
  The server says "agree below the cursor" with `Same` and the hint vector, the writer with `wo` and
  `Rl none`: `same_wo`, `rl_of_same`, `same_of_rl` translate, `same_of_scratch` carries a whole call over.
-/
import QV.Proofs.ServerAnswerTwoRunI
import QV.Proofs.WriterThread

namespace QV.ServerContent
open QV QV.Writer QV.Server QV.ServerSafety QV.ServerAnswer

theorem same_wo {s t : State} (h : Same s t) (hhv : s.hv = t.hv) : t = wo s t.octets := by
  obtain ⟨_, _, c1, c2, c3, c4, c5, c6, c7, c8, c9, c10, c11, c12, c13, c14, c15, c16, c17, c18⟩ := h
  cases s; cases t
  simp only [wo] at *
  subst c1 c2 c3 c4 c5 c6 c7 c8 c9 c10 c11 c12 c13 c14 c15 c16 c17 c18 hhv
  rfl

theorem rl_of_same {s t : State} (h : Same s t) : Rl none s t.octets :=
  ⟨h.size, fun i hi _ => h.pre i hi⟩

theorem same_of_rl {s : State} {o : Bytes} (h : Rl none s o) : Same s (wo s o) :=
  ⟨h.size, fun i hi => h.pre i hi (outside_none i), rfl, rfl, rfl, rfl, rfl, rfl, rfl, rfl, rfl, rfl, rfl, rfl, rfl,
    rfl, rfl, rfl, rfl, rfl⟩

/-- a writer routine that does the same on a writer with other scratch octets (`Rl none`, the writer's
    words) does the same on two writers that agree below the cursor (`Same`, the server's words) -/
theorem same_of_scratch {f : M Unit} {s t : State} (hS : Same s t) (hhv : s.hv = t.hv)
    (h : ∃ o', f (wo s t.octets) = ((f s).1, wo (f s).2 o') ∧ Rl none (f s).2 o') :
    (f t).1 = (f s).1 ∧ Same (f s).2 (f t).2 ∧ (f s).2.hv = (f t).2.hv := by
  obtain ⟨o', e, r⟩ := h
  rw [same_wo hS hhv, e]
  exact ⟨rfl, same_of_rl r, rfl⟩

/-- the first writer of `ScratchIndepI` satisfies what the writer-level congruence asks for; its bounds
    `cursor ≤ available ≤ |octets|` are part of `FieldsOnly` -/
theorem fieldsOnly_winv {u s : State} {h : Hint} {o : WName} (hI : Writer.I u) (hpre : HintOK Writer.Den u h o)
    (hf : FieldsOnly u s) : WInv s ∧ PtrLogOK s ∧ Writer.HintOK s h o := by
  obtain ⟨⟨l, a, ts, ar, rfl⟩, hb1, hb2⟩ := hf
  have w := hI.winv
  exact ⟨⟨w.c12, hb1, hb2, w.g12, w.labs, w.qn, w.ow, w.rd, w.clabs⟩, hI.log, (hintOK_iff u h o).mp hpre⟩

/-- **`ScratchIndepI` holds**: octets at or above the cursor are scratch space that no call of the
    answering phase reads (the parameter `hSI` of `compare_core` and `C10_full_of`; `theorem C10` supplies it) -/
theorem scratchIndepI : ScratchIndepI := by
  intro c u s t hI hpre hf hS hhv
  have h12 : 12 ≤ s.cursor := by obtain ⟨⟨l, a, ts, ar, rfl⟩, _⟩ := hf; exact hI.winv.c12
  cases c with
  | setAa b => exact same_of_scratch hS hhv (scratch_setAa b s t.octets h12 (rl_of_same hS))
  | setRcode v => exact same_of_scratch hS hhv (scratch_setRcode v s t.octets h12 (rl_of_same hS))
  | addRr sec h o ty cls ttl rd =>
    obtain ⟨hw, hl, hh⟩ := fieldsOnly_winv hI hpre.2 hf
    exact same_of_scratch hS hhv (addRrOp_scratch sec h o ty cls ttl rd s t.octets hw hl hpre.1 hh (rl_of_same hS))
  | addRrset sec h o ty cls ttl rds =>
    obtain ⟨hw, hl, hh⟩ := fieldsOnly_winv hI hpre.2 hf
    exact same_of_scratch hS hhv (addRrsetOp_scratch sec h o ty cls ttl rds s t.octets hw hl hpre.1 hh (rl_of_same hS))

end QV.ServerContent
