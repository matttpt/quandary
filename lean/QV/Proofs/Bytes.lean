/-
  QV.Proofs.Bytes — what every layer needs to know about single octets, big-endian fields and
  slices of a buffer: an octet as a number, ASCII case folding (`lowerU8`), the two octets `u16be`
  writes and what `be16` reads, `Array.extract` and the octets it holds.  At the end, for the same
  reason (it is needed everywhere and `Out` lives in the prelude): a successful `>>=`, inverted.
-/
import QV.Prelude

namespace QV

/-! ### single octets -/

/-- a statement about all octets may be checked on the 256 numerals -/
theorem forall_uint8 (P : UInt8 → Prop) (h : ∀ n, n < 256 → P (UInt8.ofNat n)) : ∀ b, P b := by
  intro b
  have := h b.toNat b.toNat_lt
  simpa using this

theorem toNat_eq_zero_iff (b : UInt8) : b.toNat = 0 ↔ b = 0 := by
  constructor
  · intro h; exact UInt8.toNat_inj.mp (by simpa using h)
  · intro h; subst h; rfl

theorem toNat_pos_of_ne_zero (b : UInt8) (h : b ≠ 0) : 0 < b.toNat := by
  have : b.toNat ≠ 0 := fun e => h ((toNat_eq_zero_iff b).mp e)
  omega

/-- a label length as an octet -/
theorem ofNat_len_toNat {n : Nat} (h : n ≤ 63) : (UInt8.ofNat n).toNat = n := by
  rw [UInt8.toNat_ofNat']; omega

theorem ofNat_len_inj {a b : Nat} (ha : a ≤ 63) (hb : b ≤ 63) (h : UInt8.ofNat a = UInt8.ofNat b) : a = b := by
  have := congrArg UInt8.toNat h
  rw [UInt8.toNat_ofNat', UInt8.toNat_ofNat'] at this
  omega

theorem ofNat_len_ne_zero {n : Nat} (h1 : 1 ≤ n) (h : n ≤ 63) : UInt8.ofNat n ≠ 0 := by
  intro e
  have := congrArg UInt8.toNat e
  rw [ofNat_len_toNat h] at this
  simp at this; omega

/-! ### case folding -/

theorem lowerU8_toNat (b : UInt8) :
    (lowerU8 b).toNat = if 65 ≤ b.toNat ∧ b.toNat ≤ 90 then b.toNat + 32 else b.toNat := by
  unfold lowerU8
  split
  · rw [UInt8.toNat_add, Nat.mod_eq_of_lt]; · rfl
    have : (32 : UInt8).toNat = 32 := rfl
    omega
  · rfl

/-- length octets (≤ 63) lie below the letters: case folding leaves them alone -/
theorem lowerU8_of_le63 (b : UInt8) (h : b.toNat ≤ 63) : lowerU8 b = b := by
  unfold lowerU8
  rw [if_neg (by omega)]

theorem lowerU8_idem (b : UInt8) : lowerU8 (lowerU8 b) = lowerU8 b := by
  apply UInt8.toNat_inj.mp
  rw [lowerU8_toNat (lowerU8 b), lowerU8_toNat b]
  repeat' split
  all_goals omega

/-! ### big-endian fields -/

theorem u16be_length (n : Nat) : (u16be n).length = 2 := rfl
theorem u32be_length (n : Nat) : (u32be n).length = 4 := rfl

theorem u16be_mod (n : Nat) : u16be (n % 65536) = u16be n := by
  unfold u16be
  rw [show n % 65536 / 256 % 256 = n / 256 % 256 by omega, show n % 65536 % 256 = n % 256 by omega]

theorem be16_eq (b : Bytes) (pos : Nat) (h : pos + 1 < b.size) :
    be16 b pos = (b[pos]'(by omega)).toNat * 256 + (b[pos+1]'h).toNat := by
  unfold be16
  simp [Array.getD, h, show pos < b.size by omega]

theorem be32_eq (b : Bytes) (pos : Nat) (h : pos + 3 < b.size) :
    be32 b pos = (b[pos]'(by omega)).toNat * 16777216 + (b[pos+1]'(by omega)).toNat * 65536 +
        (b[pos+2]'(by omega)).toNat * 256 + (b[pos+3]'h).toNat := by
  unfold be32
  simp [Array.getD, h, show pos < b.size by omega, show pos + 1 < b.size by omega,
    show pos + 2 < b.size by omega]

theorem be16_lt (b : Bytes) (pos : Nat) : be16 b pos < 65536 := by
  unfold be16
  have h1 := (b.getD pos 0).toNat_lt
  have h2 := (b.getD (pos + 1) 0).toNat_lt
  omega

theorem getD_of_getElem? {o o' : Bytes} {i : Nat} (h : o'[i]? = o[i]?) : o'.getD i 0 = o.getD i 0 := by
  simp only [Array.getD_eq_getD_getElem?, h]

/-- `be16` looks at two octets -/
theorem be16_congr {o o' : Bytes} {i : Nat} (h0 : o'[i]? = o[i]?) (h1 : o'[i+1]? = o[i+1]?) :
    be16 o' i = be16 o i := by
  unfold be16
  rw [getD_of_getElem? h0, getD_of_getElem? h1]

/-! ### octets of a buffer and of its slices -/

theorem getElem?_some_lt {oct : Bytes} {q : Nat} {b : UInt8} (h : oct[q]? = some b) : q < oct.size := by
  by_cases hq : q < oct.size
  · exact hq
  · simp [Array.getElem?_eq_none (Nat.le_of_not_lt hq)] at h

theorem getElem_of_getElem? {oct : Bytes} {q : Nat} {b : UInt8} (h : oct[q]? = some b)
    (hq : q < oct.size) : oct[q] = b := by
  rw [Array.getElem?_eq_getElem hq] at h
  exact Option.some.inj h

theorem getD_toList (b : Bytes) (i : Nat) : b.getD i 0 = b.toList.getD i 0 := by
  simp [Array.getD, List.getD]
  by_cases h : i < b.size <;> simp [h]

theorem extract_prefix_get (oct : Bytes) (cur : Nat) (hc : cur ≤ oct.size) (i : Nat) (hi : i < cur) :
    (oct.extract 0 cur)[i]? = oct[i]? := by
  simp only [Array.getElem?_extract]
  rw [if_pos (by omega)]
  simp

theorem extract_head (b : Bytes) (i j : Nat) (x : UInt8) (xs : List UInt8)
    (h : (b.extract i j).toList = x :: xs) : ∃ hi : i < b.size, b[i] = x := by
  have hl := congrArg List.length h
  simp at hl
  have hi : i < b.size := by omega
  refine ⟨hi, ?_⟩
  have h0 : 0 < (b.extract i j).toList.length := by rw [h]; simp
  have e := List.getElem_of_eq h h0
  simpa using e

theorem extract_split (b : Bytes) (i j k : Nat) (h1 : i ≤ j) (h2 : j ≤ k) :
    (b.extract i k).toList = (b.extract i j).toList ++ (b.extract j k).toList := by
  simp only [← Array.toList_append]
  congr 1
  rw [Array.extract_append_extract]
  congr 1 <;> omega

theorem extract_cons (msg : Bytes) (pos k : Nat) (h : pos < msg.size) :
    (msg.extract pos (pos + k + 1)).toList = msg[pos] :: (msg.extract (pos + 1) (pos + k + 1)).toList := by
  simp only [Array.toList_extract, List.extract_eq_take_drop]
  have hl : pos < msg.toList.length := by simpa using h
  rw [List.drop_eq_getElem_cons hl]
  have e1 : pos + k + 1 - pos = k + 1 := by omega
  have e2 : pos + k + 1 - (pos + 1) = k := by omega
  rw [e1, e2, List.take_succ_cons]
  simp

theorem toList_extract_from (b : Bytes) (k : Nat) : (b.extract k b.size).toList = b.toList.drop k := by
  simp; rw [List.take_of_length_le]; simp

theorem extract_extract0 (msg : Bytes) (cur len : Nat) (h : cur + len ≤ msg.size) :
    (msg.extract 0 (cur + len)).extract cur (msg.extract 0 (cur + len)).size = msg.extract cur (cur + len) := by
  simp [Array.extract_extract]
  rw [Nat.min_eq_left h]

theorem extract_extract_prefix (msg : Bytes) (e i j : Nat) (hj : j ≤ e) (he : e ≤ msg.size) :
    ((msg.extract 0 e).extract i j).toList = (msg.extract i j).toList := by
  simp
  omega

/-- an extract only depends on the octets of its range -/
theorem extract_congr_range {x y : Bytes} {i j : Nat} (h : ∀ k, i ≤ k → k < j → y[k]? = x[k]?)
    (hx : j ≤ x.size) (hy : j ≤ y.size) : y.extract i j = x.extract i j := by
  apply Array.ext_getElem?
  intro k
  simp only [Array.getElem?_extract]
  by_cases hk : k < min j x.size - i
  · rw [if_pos hk, if_pos (by omega)]
    exact h _ (by omega) (by omega)
  · rw [if_neg hk, if_neg (by omega)]

/-! ### outcomes -/

/-- a `>>=` that succeeded: its first part succeeded, and the rest on that value -/
theorem Out.bind_eq_ok {ε α β : Type} {x : Out ε α} {f : α → Out ε β} {b : β} (h : x >>= f = .ok b) :
    ∃ a, x = .ok a ∧ f a = .ok b := by
  cases x with
  | ok a => exact ⟨a, rfl, h⟩
  | err e => cases h
  | panic => cases h

end QV
