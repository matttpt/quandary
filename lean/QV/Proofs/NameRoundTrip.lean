/-
  QV.Proofs.NameRoundTrip — from where a name was written (`ReadsAt`: labels, labels and a pointer,
  or a bare pointer) the independent RFC 1035 decoder reads the labels stored there; and how labels
  that match in a compression mode compare as wire forms (octet for octet in `CasePreserving`, up to
  ASCII case in `Standard` mode).
-/
import QV.Proofs.NameDecode

namespace QV.Writer
open QV QV.Wire QV.Spec

/-- the independent decoder reads, from where a name was written, the labels `ReadsAt` speaks of — on
    every message that agrees with the buffer from `lo`, below which no label start is recorded, up
    to the cursor -/
theorem readsAt_decodes {s : State} {a lo : Nat} {ls : List Label} (h : ReadsAt s a ls) {msg : Bytes}
    (hlo : ∀ g ∈ s.gLabels, lo ≤ g) (hm : ∀ i, lo ≤ i → i < s.cursor → msg[i]? = s.octets[i]?) :
    ∃ k, specDecodeName msg a = some (wireOf ls, ls.length + 1, k) := by
  obtain ⟨q, cs', hop, hch, hn, hb⟩ := h
  obtain ⟨k, hd⟩ := nameAtC_decodes_from hn hlo hm
  have hqa := (hop_le hop).1
  have hql := hlo q (nameAt_start (nameAtC_forget hn)).1
  obtain ⟨k', hd'⟩ := hop_decodes_at (cs := a) hop hm (by omega) (Nat.le_refl _) hch hd
  exact ⟨k', (specDecodeName_iff _ a _ _ _).mpr ⟨hd', by rw [wireOf_length]; exact hb⟩⟩

theorem labelsMatch_cp_eq {a b : List Label} (h : labelsMatch .casePreserving a b = true) : a = b :=
  labelsMatch_rec (P := fun a b => a = b) rfl (fun h1 _ ih => by
    simp only [labelMatch, if_true, decide_eq_true_eq] at h1
    rw [h1, ih]) h

theorem labelsMatch_std_wire {a b : List Label} (h : labelsMatch .standard a b = true) :
    (wireOf a).map lowerU8 = (wireOf b).map lowerU8 :=
  labelsMatch_rec (P := fun a b => (wireOf a).map lowerU8 = (wireOf b).map lowerU8) rfl (fun {x y _ _} h1 _ ih => by
    have hl := labelMatch_length h1
    have hx : x.map lowerU8 = y.map lowerU8 := by
      unfold labelMatch at h1
      simp only [show (CMode.standard = CMode.casePreserving) = False by simp, if_false] at h1
      exact eq_of_beq h1
    rw [wireOf_cons, wireOf_cons, List.map_append, List.map_append, ih]
    simp only [WName.encLabel, List.map_cons, hl, hx]) h

theorem wireOf_labels (n : WName) : wireOf n.labels = n.wire := rfl

end QV.Writer
