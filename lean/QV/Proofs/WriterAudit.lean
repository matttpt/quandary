/-
  C12 / C13 — the pointer audit of the specification passes on what the writer produced.

  `audit_go`: the induction over `auditPointers.go`, stated on the octets alone. The name
  occurrences are the names at a list of positions in ascending order; at each position literal
  labels are followed by a root label, or by a pointer whose target lies below the name and is a
  recorded label start (and then the item was not written in `Disabled` mode); every recorded
  label start is the first octet of a label of one of the names. Then every pointer points to a
  label of an earlier name, and the audit returns `ok`.

  `audit_of_finAudit`, `segment_audit` (what other files use): the decoder's name occurrences of a
  finished message satisfy these hypotheses, so `auditPointers` passes on it.
-/
import QV.Proofs.WriterWalk

namespace QV.Writer
open QV QV.Wire QV.Spec

/-- at the position `pr.1` (of the item with index `pr.2`): literal labels, then the root label —
    or a pointer to a recorded label start below the name, in an item not written in `Disabled`
    mode -/
def ChunkOK (msg : Bytes) (G : List Nat) (modes : List Message.Mode) (fin : Message.Mode) (pr : Nat × Nat) : Prop :=
  ∃ pre b, LabelsWF pre ∧ BytesAt msg pr.1 (pre.flatMap WName.encLabel ++ [b]) ∧
    (b = 0 ∨ (isPtr b = true ∧ ∃ b2, msg[pr.1 + encLen pre + 1]? = some b2 ∧ ptrOf b b2 < pr.1 ∧
      ptrOf b b2 ∈ G ∧ modes.getD pr.2 fin ≠ .disabled))

theorem physLab_ge {oct : Bytes} {a g : Nat} (h : PhysLab oct a g) : a ≤ g := by
  obtain ⟨pre, b, _, _, _, hg⟩ := h
  rcases hg with hg | ⟨_, hg⟩
  · exact (labelStartsFrom_ge a pre g hg).1
  · omega

theorem ptrOf_le (b b2 : UInt8) : ptrOf b b2 ≤ 16383 := by
  unfold ptrOf
  have := b2.toNat_lt
  have : b.toNat % 64 < 64 := Nat.mod_lt _ (by decide)
  omega

theorem audit_go (msg : Bytes) (G : List Nat) (modes : List Message.Mode) (fin : Message.Mode) :
    ∀ (pairs2 : List (Nat × Nat)) (names : List Message.NameOcc) (pairs1 : List (Nat × Nat)) (seen : List Nat),
      All2 (Occ msg) pairs2 names →
      (pairs1 ++ pairs2).Pairwise (fun x y => x.1 < y.1) →
      (∀ pr ∈ pairs2, ChunkOK msg G modes fin pr) →
      (∀ g ∈ G, ∃ pr ∈ pairs1 ++ pairs2, PhysLab msg pr.1 g) →
      (∀ pr ∈ pairs1, ∀ g, PhysLab msg pr.1 g → g ∈ seen) →
      Message.auditPointers.go modes fin names seen = .ok () := by
  intro pairs2
  induction pairs2 with
  | nil =>
    intro names pairs1 seen hocc _ _ _ _
    cases hocc
    rfl
  | cons pr rest ih =>
    intro names pairs1 seen hocc hsorted hchunk hlabs hseen
    cases hocc with
    | @cons _ o _ ns ho hrest =>
    obtain ⟨o1, o2, o3, o4⟩ := ho
    obtain ⟨pre, b, hwf, hb, hcase⟩ := hchunk pr List.mem_cons_self
    have hc : b = 0 ∨ isPtr b = true := by
      rcases hcase with h | ⟨h, _⟩
      · exact Or.inl h
      · exact Or.inr h
    obtain ⟨e1, e2, e3⟩ := physical_inv msg b pre pr.1 130 [] _ hwf hb hc o3
    simp only [List.reverse_nil, List.nil_append] at e1
    replace e2 : b = 0 → o.ptr = none := e2
    replace e3 : isPtr b = true → ∃ b2, msg[pr.1 + encLen pre + 1]? = some b2 ∧
      o.ptr = some (pr.1 + encLen pre, ptrOf b b2) := e3
    -- after this occurrence: its label starts are seen
    have hnext : Message.auditPointers.go modes fin ns (o.labelStarts ++ seen) = .ok () := by
      refine ih ns (pairs1 ++ [pr]) (o.labelStarts ++ seen) hrest (by simpa using hsorted)
        (fun x hx => hchunk x (List.mem_cons_of_mem _ hx)) (by simpa using hlabs) ?_
      intro x hx g hg
      rcases List.mem_append.mp hx with hx | hx
      · exact List.mem_append_right _ (hseen x hx g hg)
      · simp only [List.mem_singleton] at hx
        subst hx
        apply List.mem_append_left
        rw [e1]
        exact (physLab_iff hwf hb hc).mp hg
    rcases hcase with h0 | ⟨hp, b2, hb2, hlt, hG, hmode⟩
    · have hnone : o.ptr = none := e2 h0
      unfold Message.auditPointers.go
      rw [hnone]
      exact hnext
    · obtain ⟨b2', hb2', hptr⟩ := e3 hp
      rw [hb2] at hb2'
      have : b2 = b2' := Option.some.inj hb2'
      subst this
      -- the target is a label start of an earlier name
      have hseenT : ptrOf b b2 ∈ seen := by
        obtain ⟨x, hx, hpl⟩ := hlabs _ hG
        have hge := physLab_ge hpl
        rcases List.mem_append.mp hx with hx | hx
        · exact hseen x hx _ hpl
        · exfalso
          rcases List.mem_cons.mp hx with rfl | hx
          · omega
          · have hpw := (List.pairwise_append.mp hsorted).2.1
            have := (List.pairwise_cons.mp hpw).1 x hx
            omega
      unfold Message.auditPointers.go
      rw [hptr]
      simp only []
      rw [if_neg (by omega), if_neg (by have := ptrOf_le b b2; omega)]
      rw [if_neg (by simp [hseenT])]
      have hplace : (o.place == Message.Where.rdataUncompressible) = false := by
        cases hpl : o.place <;> first | rfl | (exfalso; have := o4 hpl; rw [hptr] at this; cases this)
      rw [hplace]
      simp only [Bool.false_eq_true, if_false]
      have hm : (modes.getD o.item fin == Message.Mode.disabled) = false := by
        rw [o2]
        cases hmm : modes.getD pr.2 fin <;> first | rfl | exact absurd hmm hmode
      rw [hm]
      simp only [Bool.false_eq_true, if_false]
      exact hnext

/-! ### pointers inside a stored name -/

theorem nameAtC_G {G : Nat → Prop} {oct : Bytes} {cur cs p : Nat} {ls : List Label}
    (h : NameAtC G oct cur cs p ls) : G p := by
  cases h with
  | root _ hg _ _ => exact hg
  | label _ hg _ _ _ _ _ _ _ => exact hg

/-- literal labels of a stored name followed by a pointer: the pointer leads below the chunk, to a
    recorded label start -/
theorem nameAtC_chunk_ptr {G : Nat → Prop} {oct : Bytes} {cur : Nat} (b : UInt8) (hp : isPtr b = true) :
    ∀ (pre : List Label) (cs p : Nat) (ls : List Label), pre ≠ [] → LabelsWF pre →
      BytesAt oct p (pre.flatMap WName.encLabel ++ [b]) → NameAtC G oct cur cs p ls →
      ∃ b2, oct[p + encLen pre + 1]? = some b2 ∧ ptrOf b b2 < cs ∧ G (ptrOf b b2) := by
  intro pre
  induction pre with
  | nil => intro cs p ls hne; exact absurd rfl hne
  | cons l0 pre' ih =>
    intro cs p ls _ hwf hb hn
    have hl0 := hwf l0 List.mem_cons_self
    have hb' : BytesAt oct p (WName.encLabel l0 ++ (pre'.flatMap WName.encLabel ++ [b])) := by
      simpa [List.flatMap_cons, List.append_assoc] using hb
    obtain ⟨b1, brest⟩ := bytesAt_append hb'
    have h0 : oct[p]? = some (UInt8.ofNat l0.length) := by
      have := b1 0 (by simp [WName.encLabel])
      simpa [WName.encLabel] using this
    have hlen : (WName.encLabel l0).length = l0.length + 1 := by simp [WName.encLabel]
    rw [hlen] at brest
    cases hn with
    | root _ _ _ h00 =>
      rw [h0] at h00
      exact absurd (Option.some.inj h00) (ofNat_len_ne_zero hl0.1 hl0.2)
    | @label _ cs' _ p' l ls' hcs hg h1 h63 hbl hd hop hch rest =>
      rw [h0] at hbl
      have hll : l0.length = l.length := by
        have := congrArg UInt8.toNat (Option.some.inj hbl)
        rwa [ofNat_len_toNat hl0.2, ofNat_len_toNat h63] at this
      rw [← hll] at hop
      cases pre' with
      | nil =>
        have hbb : oct[p + (l0.length + 1)]? = some b := by simpa using brest 0 (by simp)
        rw [show p + 1 + l0.length = p + (l0.length + 1) by omega] at hop
        cases hop with
        | here _ hb2 hnp =>
          rw [hbb] at hb2
          rw [← Option.some.inj hb2, hp] at hnp; cases hnp
        | @jump c1 c2 c3 hq h1' h2' hp' hlt h3' hnp' =>
          rw [hbb] at h1'
          have : b = c1 := Option.some.inj h1'
          subst this
          refine ⟨c2, ?_, ?_, nameAtC_G rest⟩
          · simp only [encLen_cons, encLen_nil]
            rw [show p + (1 + l0.length + 0) + 1 = p + (l0.length + 1) + 1 by omega]; exact h2'
          · rcases hch with ⟨e1, _⟩ | ⟨e1, _⟩
            · omega
            · exact e1
      | cons l1 pre'' =>
        have hl1 := hwf l1 (List.mem_cons_of_mem _ List.mem_cons_self)
        have hbb : oct[p + (l0.length + 1)]? = some (UInt8.ofNat l1.length) := by
          have := brest 0 (by simp [WName.encLabel])
          simpa [WName.encLabel] using this
        rw [show p + 1 + l0.length = p + (l0.length + 1) by omega] at hop
        have hp'eq : p' = p + (l0.length + 1) := by
          cases hop with
          | here _ _ _ => rfl
          | @jump c1 c2 c3 hq h1' h2' hp' hlt h3' hnp' =>
            rw [hbb] at h1'
            rw [← Option.some.inj h1', ofNat_len_notPtr hl1.2] at hp'; cases hp'
        subst hp'eq
        have hcs' : cs' = cs := by
          rcases hch with ⟨_, e2⟩ | ⟨e1, _⟩
          · exact e2
          · omega
        subst hcs'
        obtain ⟨b2, x1, x2, x3⟩ := ih cs' (p + (l0.length + 1)) ls' (by simp)
          (fun x hx => hwf x (List.mem_cons_of_mem _ hx)) brest rest
        refine ⟨b2, ?_, x2, x3⟩
        rw [encLen_cons, show p + (1 + l0.length + encLen (l1 :: pre'')) + 1 =
          p + (l0.length + 1) + encLen (l1 :: pre'') + 1 by omega]
        exact x1

/-- **a pointer that ends the name of an item** leads to a recorded label start below the item -/
theorem item_ptr_target {s : State} {a k : Nat} (hw : WInv s) (hit : Item s a k) (pre : List Label) (b : UInt8)
    (hwf : LabelsWF pre) (hb : BytesAt s.octets a (pre.flatMap WName.encLabel ++ [b])) (hp : isPtr b = true) :
    ∃ b2, s.octets[a + encLen pre + 1]? = some b2 ∧ ptrOf b b2 < a ∧ ptrOf b b2 ∈ s.gLabels := by
  obtain ⟨⟨q, hop, hq⟩, _, _⟩ := hit
  cases pre with
  | nil =>
    have hbb : s.octets[a]? = some b := by simpa using hb 0 (by simp)
    cases hop with
    | here _ hb2 hnp =>
      rw [hbb] at hb2
      rw [← Option.some.inj hb2, hp] at hnp; cases hnp
    | @jump c1 c2 c3 hq' h1' h2' hp' hlt h3' hnp' =>
      rw [hbb] at h1'
      have : b = c1 := Option.some.inj h1'
      subst this
      exact ⟨c2, by simpa using h2', hlt, hq⟩
  | cons l0 pre' =>
    have hl0 := hwf l0 List.mem_cons_self
    have hbb : s.octets[a]? = some (UInt8.ofNat l0.length) := by
      have := hb 0 (by simp [WName.encLabel])
      simpa [WName.encLabel] using this
    have hqa : q = a := by
      cases hop with
      | here _ _ _ => rfl
      | @jump c1 c2 c3 hq' h1' h2' hp' hlt h3' hnp' =>
        rw [hbb] at h1'
        rw [← Option.some.inj h1', ofNat_len_notPtr hl0.2] at hp'; cases hp'
    subst hqa
    obtain ⟨ls, hn, _⟩ := hw.clabs q hq
    exact nameAtC_chunk_ptr b hp (l0 :: pre') q q ls (by simp) hwf hb hn

/-! ### the name positions of the chains -/

/-- what lies at the name positions of an RDATA: an item holding a name, or a literal name -/
theorem rdAt_pos {s : State} {m : CMode} : ∀ {ts : List CompType} {rd : List UInt8} {p e : Nat} {ps : List Nat},
    RdAt s m ts rd p e ps → ∀ a ∈ ps, (∃ k n, Item s a k ∧ NameIs s a m n) ∨
      (∃ n : WName, n.WF ∧ BytesAt s.octets a n.wire ∧ a + n.wire.length ≤ e) := by
  intro ts
  induction ts with
  | nil => intro rd p e ps h a ha; rw [h.2.2] at ha; cases ha
  | cons t ts ih =>
    intro rd p e ps h a ha
    cases t with
    | compressibleName =>
      obtain ⟨n, rest, k, _, hit, hnm, ps', hps, h4⟩ := h
      subst hps
      rcases List.mem_cons.mp ha with rfl | ha
      · exact Or.inl ⟨k, n, hit, hnm⟩
      · exact ih h4 a ha
    | uncompressibleName =>
      obtain ⟨n, rest, hp, hb, ps', hps, h4⟩ := h
      subst hps
      rcases List.mem_cons.mp ha with rfl | ha
      · exact Or.inr ⟨n, parse_wf hp, hb, rdAt_le h4⟩
      · exact ih h4 a ha
    | fixedLen k =>
      obtain ⟨_, _, h4⟩ := h
      exact ih h4 a ha

theorem chunkOK_item {s : State} {a k : Nat} {m : CMode} {n : WName} (hw : WInv s) (hit : Item s a k)
    (hnm : NameIs s a m n) (modes : List Message.Mode) (fin : Message.Mode) (idx : Nat)
    (hmode : modes.getD idx fin = .disabled → m = .disabled) :
    ChunkOK (s.octets.extract 0 s.cursor) s.gLabels modes fin (a, idx) := by
  have hcs : s.cursor ≤ s.octets.size := Nat.le_trans hw.cur_av hw.av_size
  obtain ⟨pre, b, hwf, hb, hk⟩ := hit.2.1
  have hle := hit.2.2
  have hlen := chunk_length pre b
  refine ⟨pre, b, hwf, bytesAt_extract_prefix hcs hb (by rw [hlen]; rcases hk with ⟨_, e⟩ | ⟨_, e⟩ <;> omega), ?_⟩
  rcases hk with ⟨h0, _⟩ | ⟨hp, hk⟩
  · exact Or.inl h0
  · obtain ⟨b2, x1, x2, x3⟩ := item_ptr_target hw hit pre b hwf hb hp
    refine Or.inr ⟨hp, b2, ?_, x2, x3, fun hdis => ?_⟩
    · show (s.octets.extract 0 s.cursor)[a + encLen pre + 1]? = some b2
      rw [extract_prefix_get _ _ hcs _ (by omega)]; exact x1
    · obtain ⟨pre', w1, w2, _⟩ := hnm.2 (hmode hdis)
      obtain ⟨_, e2⟩ := chunk_unique pre' pre a 0 b w1 hwf w2 hb (Or.inl rfl) (Or.inr hp)
      rw [← e2] at hp
      exact absurd hp (by decide)

theorem chunkOK_wire {s : State} {a : Nat} {n : WName} (hw : WInv s) (hn : n.WF) (hb : BytesAt s.octets a n.wire)
    (hle : a + n.wire.length ≤ s.cursor) (modes : List Message.Mode) (fin : Message.Mode) (idx : Nat) :
    ChunkOK (s.octets.extract 0 s.cursor) s.gLabels modes fin (a, idx) := by
  have hcs : s.cursor ≤ s.octets.size := Nat.le_trans hw.cur_av hw.av_size
  refine ⟨n.labels, 0, fun l hl => hn.1 l hl, ?_, Or.inl rfl⟩
  have := bytesAt_extract_prefix hcs hb hle
  simpa [WName.wire] using this

/-! ### the pairs of the chains: membership, order -/

theorem qPairs_mem : ∀ (qs : List QItC) (i : Nat) (pr : Nat × Nat), pr ∈ qPairs i qs →
    ∃ j it, qs[j]? = some it ∧ pr = (it.a, i + j) := by
  intro qs
  induction qs with
  | nil => intro i pr h; cases h
  | cons x r ih =>
    intro i pr h
    simp only [qPairs, List.mem_cons] at h
    rcases h with rfl | h
    · exact ⟨0, x, rfl, rfl⟩
    · obtain ⟨j, it, h1, h2⟩ := ih (i + 1) pr h
      exact ⟨j + 1, it, by simpa using h1, by rw [h2, show i + 1 + j = i + (j + 1) by omega]⟩

theorem rPairs_mem : ∀ (rs : List RItC) (i : Nat) (pr : Nat × Nat), pr ∈ rPairs i rs →
    ∃ j it, rs[j]? = some it ∧ pr.2 = i + j ∧ pr.1 ∈ it.a :: it.ps := by
  intro rs
  induction rs with
  | nil => intro i pr h; cases h
  | cons x r ih =>
    intro i pr h
    simp only [rPairs, List.mem_append, List.mem_map] at h
    rcases h with ⟨a, ha, rfl⟩ | h
    · exact ⟨0, x, rfl, rfl, ha⟩
    · obtain ⟨j, it, h1, h2, h3⟩ := ih (i + 1) pr h
      exact ⟨j + 1, it, by simpa using h1, by rw [h2]; omega, h3⟩

theorem qPairs_of_mem : ∀ (qs : List QItC) (i : Nat) (it : QItC), it ∈ qs → ∃ j, (it.a, j) ∈ qPairs i qs := by
  intro qs
  induction qs with
  | nil => intro i it h; cases h
  | cons x r ih =>
    intro i it h
    rcases List.mem_cons.mp h with rfl | h
    · exact ⟨i, List.mem_cons_self⟩
    · obtain ⟨j, hj⟩ := ih (i + 1) it h
      exact ⟨j, List.mem_cons_of_mem _ hj⟩

theorem rPairs_of_mem : ∀ (rs : List RItC) (i : Nat) (it : RItC) (a : Nat), it ∈ rs → a ∈ it.a :: it.ps →
    ∃ j, (a, j) ∈ rPairs i rs := by
  intro rs
  induction rs with
  | nil => intro i it a h; cases h
  | cons x r ih =>
    intro i it a h ha
    rcases List.mem_cons.mp h with rfl | h
    · exact ⟨i, by simp only [rPairs]; exact List.mem_append_left _ (List.mem_map.mpr ⟨a, ha, rfl⟩)⟩
    · obtain ⟨j, hj⟩ := ih (i + 1) it a h ha
      exact ⟨j, by simp only [rPairs]; exact List.mem_append_right _ hj⟩

theorem qPairs_sorted {s : State} : ∀ (qs : List QItC) (p e i : Nat), QChainC s qs p e →
    (qPairs i qs).Pairwise (fun x y => x.1 < y.1) ∧ ∀ pr ∈ qPairs i qs, p ≤ pr.1 ∧ pr.1 < e := by
  intro qs
  induction qs with
  | nil => intro p e i _; exact ⟨List.Pairwise.nil, fun _ h => by cases h⟩
  | cons x r ih =>
    intro p e i h
    obtain ⟨h1, h2, h3⟩ := h
    obtain ⟨a1, a2⟩ := ih _ e (i + 1) h3
    have hk := chunkAt_pos h2.1.2.1
    have hle := qchainC_le h3
    refine ⟨List.Pairwise.cons (fun y hy => ?_) a1, fun pr hpr => ?_⟩
    · have := (a2 y hy).1
      show x.a < y.1
      omega
    · rcases List.mem_cons.mp hpr with rfl | hpr
      · show p ≤ x.a ∧ x.a < e
        omega
      · have := a2 pr hpr
        omega

theorem rPairs_sorted {s : State} : ∀ (rs : List RItC) (p e i : Nat), RChainC s rs p e →
    (rPairs i rs).Pairwise (fun x y => x.1 < y.1) ∧ ∀ pr ∈ rPairs i rs, p ≤ pr.1 ∧ pr.1 < e := by
  intro rs
  induction rs with
  | nil => intro p e i _; exact ⟨List.Pairwise.nil, fun _ h => by cases h⟩
  | cons x r ih =>
    intro p e i h
    obtain ⟨h1, h2, h3⟩ := h
    obtain ⟨a1, a2⟩ := ih _ e (i + 1) h3
    have hk := chunkAt_pos h2.1.2.1
    have hle := rchainC_le h3
    obtain ⟨_, _, _, _, ts, _, hrd⟩ := h2
    have hps := rdAt_chunk hrd
    have hsorted := rdAt_sorted hrd
    have hfirst : ∀ a ∈ x.a :: x.ps, p ≤ a ∧ a < x.a + x.k + 10 + x.rdlen := by
      intro a ha
      rcases List.mem_cons.mp ha with rfl | ha
      · omega
      · obtain ⟨b1, k, b2, b3⟩ := hps a ha
        have := chunkAt_pos b2
        omega
    refine ⟨?_, fun pr hpr => ?_⟩
    · simp only [rPairs]
      refine List.pairwise_append.mpr ⟨?_, a1, fun y hy z hz => ?_⟩
      · rw [List.pairwise_map]
        refine List.Pairwise.cons (fun a ha => ?_) hsorted
        have := (hps a ha).1
        show x.a < a
        omega
      · obtain ⟨a, ha, rfl⟩ := List.mem_map.mp hy
        have := (hfirst a ha).2
        have := (a2 z hz).1
        show a < z.1
        omega
    · simp only [rPairs, List.mem_append, List.mem_map] at hpr
      rcases hpr with ⟨a, ha, rfl⟩ | hpr
      · have := hfirst a ha
        show p ≤ a ∧ a < e
        omega
      · have := a2 pr hpr
        omega

/-! ### the audit passes on what `finish` returns -/

/-- **the pointer audit of the specification passes** on a finished message, given which item
    indices the audit takes for written in `Disabled` mode -/
theorem audit_of_finAudit {s : State} {m : Bytes} {d : Message.Decoded} {qs : List QItC} {rs : List RItC}
    (h : FinAudit s m d qs rs) (modes : List Message.Mode) (fin : Message.Mode)
    (hmq : ∀ j it, qs[j]? = some it → modes.getD j fin = .disabled → it.m = .disabled)
    (hmr : ∀ j it, rs[j]? = some it → modes.getD (qs.length + j) fin = .disabled → it.m = .disabled) :
    Message.auditPointers d modes fin = .ok () := by
  obtain ⟨sF, rfl, wF, hq, hr, hlab, hocc⟩ := h
  have hcs : sF.cursor ≤ sF.octets.size := Nat.le_trans wF.cur_av wF.av_size
  have hmsg : ∀ i, i < sF.cursor → (sF.octets.extract 0 sF.cursor)[i]? = sF.octets[i]? :=
    fun i hi => extract_prefix_get _ _ hcs i hi
  obtain ⟨sq1, sq2⟩ := qPairs_sorted qs 12 s.rrStart 0 hq
  obtain ⟨sr1, sr2⟩ := rPairs_sorted rs s.rrStart sF.cursor qs.length hr
  have hre := rchainC_le hr
  unfold Message.auditPointers
  refine audit_go _ sF.gLabels modes fin _ d.names [] [] hocc ?_ ?_ ?_ (fun _ hx => by cases hx)
  · -- ascending positions
    simp only [List.nil_append]
    refine List.pairwise_append.mpr ⟨sq1, sr1, fun y hy z hz => ?_⟩
    have := (sq2 y hy).2
    have := (sr2 z hz).1
    omega
  · -- what lies at each position
    intro pr hpr
    obtain ⟨a, idx⟩ := pr
    rcases List.mem_append.mp hpr with hpr | hpr
    · obtain ⟨j, it, h1, h2⟩ := qPairs_mem qs 0 _ hpr
      simp only [Prod.mk.injEq] at h2
      obtain ⟨rfl, rfl⟩ := h2
      obtain ⟨_, hf, _⟩ := qchainC_mem hq it (List.mem_of_getElem? h1)
      exact chunkOK_item wF hf.1 hf.2.1 modes fin _ (by rw [Nat.zero_add]; exact hmq j it h1)
    · obtain ⟨j, it, h1, h2, h3⟩ := rPairs_mem rs qs.length _ hpr
      simp only at h2 h3
      subst h2
      obtain ⟨_, hf, hend⟩ := rchainC_mem hr it (List.mem_of_getElem? h1)
      rcases List.mem_cons.mp h3 with rfl | h3
      · exact chunkOK_item wF hf.1 hf.2.1 modes fin _ (hmr j it h1)
      · obtain ⟨_, _, _, _, ts, _, hrd⟩ := hf
        rcases rdAt_pos hrd a h3 with ⟨k, n, x1, x2⟩ | ⟨n, x1, x2, x3⟩
        · exact chunkOK_item wF x1 x2 modes fin _ (hmr j it h1)
        · exact chunkOK_wire wF x1 x2 (by omega) modes fin _
  · -- every recorded label start is a label of one of the names
    intro g hg
    obtain ⟨a1, a2⟩ := hlab g hg
    by_cases hlt : g < s.rrStart
    · obtain ⟨it, b1, b2⟩ := a1 hlt
      obtain ⟨_, hf, _⟩ := qchainC_mem hq it b1
      obtain ⟨j, hj⟩ := qPairs_of_mem qs 0 it b1
      refine ⟨(it.a, j), List.mem_append_right _ (List.mem_append_left _ hj), ?_⟩
      exact physLab_frame hf.1.2.1 b2 (fun i _ c2 => hmsg i (by have := hf.1.2.2; omega))
    · obtain ⟨it, b1, a, b2, b3⟩ := a2 (by omega)
      obtain ⟨_, hf, hend⟩ := rchainC_mem hr it b1
      obtain ⟨_, k, c1, c2⟩ := rfacts_chunk hf a b2
      obtain ⟨j, hj⟩ := rPairs_of_mem rs qs.length it a b1 b2
      refine ⟨(a, j), List.mem_append_right _ (List.mem_append_right _ hj), ?_⟩
      exact physLab_frame c1 b3 (fun i _ d2 => hmsg i (by omega))

/-! ### the modes the audit uses are the modes the items were written in -/

theorem toSpecMode_disabled {x : CMode} (h : Driver.toSpecMode x = .disabled) : x = .disabled := by
  cases x <;> first | rfl | cases h

theorem getD_map_append {pref tail : List CMode} {fin : Message.Mode} {c : CMode} (htail : ∀ x ∈ tail, x = c)
    (hfin : fin = Driver.toSpecMode c) : ∀ (i : Nat) (x : CMode), (pref ++ tail)[i]? = some x →
      (pref.map Driver.toSpecMode).getD i fin = Driver.toSpecMode x := by
  intro i x h
  by_cases hi : i < pref.length
  · rw [List.getElem?_append_left hi] at h
    rw [List.getD_eq_getElem?_getD, List.getElem?_map, h]
    rfl
  · rw [List.getElem?_append_right (by omega)] at h
    rw [List.getD_eq_getElem?_getD, List.getElem?_eq_none (by rw [List.length_map]; omega)]
    show fin = _
    rw [hfin, htail x (List.mem_of_getElem? h)]

/-- **the pointer audit passes on every finished message** whose layout holds `B` with modes `MB`,
    when the abstract state `aF` lists those modes -/
theorem segment_audit {P : CMode → Prop} (macFn : Tsig → List UInt8 → List UInt8) (sR : State) (B : Body)
    (MB : MBody) (aF : Message.AState) (hIR : I sR) (hLR : CLay P sR B MB)
    (hst : ∀ r ∈ B.an ++ B.ns ++ B.ar, LayoutStable r)
    (hmodes : aF.itemModes.reverse = (MB.qs ++ MB.an ++ MB.ns ++ MB.ar).map Driver.toSpecMode)
    (hmode : aF.mode = Driver.toSpecMode sR.mode)
    (m : Bytes) (mac : Option (List UInt8)) (hf : finish sR macFn = .ok (m, mac)) (hsz : m.size ≤ 65535) :
    ∃ d : Message.Decoded, Message.specDecodeMsg m = some d ∧
      Message.auditPointers d aF.itemModes.reverse aF.mode = .ok () := by
  obtain ⟨d, qs, ian, ins, iar, hd, _, _, _, _, _, _, _, _, _, _, _, hqM, haM, hnM, hrM, _, _, _, _, _, _, haud⟩ :=
    finish_refines macFn sR B MB hIR hLR hst m mac hf hsz
  refine ⟨d, hd, ?_⟩
  -- the modes of all items, in order
  have hall : qs.map (·.m) ++ (ian ++ ins ++ iar).map (·.m) = (MB.qs ++ MB.an ++ MB.ns ++ MB.ar) ++
      ((optRecs' sR.edns).map (fun _ => sR.mode) ++ (tsigRecs sR.tsig mac).map (fun _ => sR.mode)) := by
    rw [List.map_append, List.map_append, hqM, haM, hnM, hrM]
    simp only [List.append_assoc]
  have htail : ∀ x ∈ (optRecs' sR.edns).map (fun _ => sR.mode) ++ (tsigRecs sR.tsig mac).map (fun _ => sR.mode),
      x = sR.mode := by
    intro x hx
    rcases List.mem_append.mp hx with hx | hx <;>
    · obtain ⟨_, _, rfl⟩ := List.mem_map.mp hx; rfl
  have key := getD_map_append (pref := MB.qs ++ MB.an ++ MB.ns ++ MB.ar) htail hmode
  rw [← hall] at key
  rw [hmodes]
  refine audit_of_finAudit haud _ _ (fun j it hj hdis => ?_) (fun j it hj hdis => ?_)
  · have hj' : (qs.map (·.m) ++ (ian ++ ins ++ iar).map (·.m))[j]? = some it.m := by
      have hlt : j < qs.length := (List.getElem?_eq_some_iff.mp hj).1
      rw [List.getElem?_append_left (by rw [List.length_map]; exact hlt), List.getElem?_map, hj]; rfl
    rw [key j it.m hj'] at hdis
    exact toSpecMode_disabled hdis
  · have hj' : (qs.map (·.m) ++ (ian ++ ins ++ iar).map (·.m))[qs.length + j]? = some it.m := by
      rw [List.getElem?_append_right (by rw [List.length_map]; omega), List.length_map,
        show qs.length + j - qs.length = j by omega, List.getElem?_map, hj]; rfl
    rw [key _ it.m hj'] at hdis
    exact toSpecMode_disabled hdis

end QV.Writer
