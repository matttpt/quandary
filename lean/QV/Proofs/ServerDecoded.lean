/-
  QV.Proofs.ServerDecoded — what `finish` of a `Good` writer decodes to.  The decoded message is the
  writer's body — question, answer, authority, additional, record for record — followed by the OPT record
  iff the EDNS slot is set and by the TSIG record iff a TSIG is pending, under the header the writer's
  octets show (`Decoded`, `decoded_of_good`: C12's `finish_decodes_content` with the additional section
  split in its three parts).  What the properties say about a decoded response is read off `Decoded`.
-/
import QV.Proofs.ServerAnswerContent
import QV.Proofs.ServerSignedDecode

namespace QV.ServerContent
open QV QV.Wire QV.Reader QV.Writer QV.Server QV.ServerSafety QV.ServerScan QV.ServerAnswer QV.Spec.Resolve QV.Spec

/-! ### the header of the decoded message -/

theorem u8_flagbits (x : UInt8) : aaBit x = (x.toNat / 4 % 2 == 1) ∧ tcBit x = (x.toNat / 2 % 2 == 1) := by
  rw [aaBit_eq, tcBit_eq, Nat.testBit_eq_decide_div_mod_eq, Nat.testBit_eq_decide_div_mod_eq]
  exact ⟨(Bool.beq_eq_decide_eq _ _).symm, (Bool.beq_eq_decide_eq _ _).symm⟩

/-- the flag word `x * 256 + y` of the header: RCODE sits in `y`, AA and TC in `x` -/
theorem flagword (x y : Nat) (hy : y < 256) :
    (x * 256 + y) % 16 = y % 16 ∧ (x * 256 + y) / 1024 % 2 = x / 4 % 2 ∧ (x * 256 + y) / 512 % 2 = x / 2 % 2 := by
  omega

/-- the decoded RCODE, AA and TC are those the header octets of the final writer show -/
theorem flags_of_hdrView (b : Bytes) (F : State) (v : View) (h2 : b[2]? = F.octets[2]?) (h3 : b[3]? = F.octets[3]?)
    (hh : HdrView F v) (d : DMsg) (hd : specDecodeMsg b = some d) :
    d.rcode = v.rcode % 16 ∧ d.aa = v.aa ∧ d.tc = v.tc := by
  obtain ⟨a1, a2, a3⟩ := hh
  have e2 : b.getD 2 0 = F.octets.getD 2 0 := by
    rw [Array.getD_eq_getD_getElem?, Array.getD_eq_getD_getElem?, h2]
  have e3 : b.getD 3 0 = F.octets.getD 3 0 := by
    rw [Array.getD_eq_getD_getElem?, Array.getD_eq_getD_getElem?, h3]
  obtain ⟨f1, f2⟩ := u8_flagbits (F.octets.getD 2 0)
  obtain ⟨w1, w2, w3⟩ := flagword (F.octets.getD 2 0).toNat (F.octets.getD 3 0).toNat (F.octets.getD 3 0).toNat_lt
  have hr : (F.octets.getD 3 0).toNat % 16 = v.rcode % 16 := by
    have := congrArg UInt8.toNat a3
    rw [and15_toNat, and15_toNat, UInt8.toNat_ofNat'] at this
    omega
  unfold DMsg.rcode DMsg.aa DMsg.tc
  rw [decode_flags b d hd]
  unfold Spec.Server.hdr
  rw [e2, e3, w1, w2, w3, hr, ← a1, ← a2, f1, f2]
  exact ⟨rfl, rfl, rfl⟩

/-- `finish` without a pending TSIG leaves the flag octets alone -/
theorem finish_flags_plain (macFn : Writer.Tsig → List UInt8 → List UInt8) (F : State) (hI : Writer.I F)
    (ht : F.tsig = none) (b : Bytes) (mac : Option (List UInt8))
    (hf : Writer.finish F macFn = .ok (b, mac)) : b[2]? = F.octets[2]? ∧ b[3]? = F.octets[3]? := by
  have hi := hI.inv
  have hsz : 12 ≤ F.octets.size := by
    have := hi.hdr; have := hi.cur_av; have := hi.av_lim; have := hi.lim_size; omega
  obtain ⟨_, ft⟩ := finish_inv_tail F macFn ht hsz b mac hf
  have hc := hi.hdr
  have hcs : F.cursor ≤ F.octets.size := by
    have := hi.cur_av; have := hi.av_lim; have := hi.lim_size; omega
  cases he : F.edns with
  | none =>
    rw [he] at ft
    simp only at ft
    have key : ∀ i, i < 4 → b[i]? = F.octets[i]? := by
      intro i hi4
      rw [ft, ← withCounts_getElem? F i (Or.inl hi4)]
      have hws := withCounts_size F
      rw [Array.getElem?_extract]
      simp only [Nat.zero_add, Nat.sub_zero]
      rw [if_pos (by rw [hws]; omega)]
    exact ⟨key 2 (by omega), key 3 (by omega)⟩
  | some e =>
    rw [he] at ft
    simp only at ft
    exact ⟨by rw [ft.2.2 2 (by omega), withCounts_getElem? F 2 (Or.inl (by omega))],
      by rw [ft.2.2 3 (by omega), withCounts_getElem? F 3 (Or.inl (by omega))]⟩

/-- `finish` with a pending TSIG leaves the flag octets alone -/
theorem finish_flags_tsig (macFn : Writer.Tsig → List UInt8 → List UInt8) (F : State) (hI : Writer.I F)
    (ts : Writer.Tsig) (hts : F.tsig = some ts) (b : Bytes)
    (mac : Option (List UInt8)) (hf : Writer.finish F macFn = .ok (b, mac)) :
    b[2]? = F.octets[2]? ∧ b[3]? = F.octets[3]? := by
  have hi := hI.inv
  obtain ⟨_, _, oe, sT, _, _, _, _, hbl⟩ := finish_octets_tsig macFn F hi.hdr ts hts b mac hf
  have hsz : 12 ≤ F.octets.size := by
    have := hi.hdr; have := hi.cur_av; have := hi.av_lim; have := hi.lim_size; omega
  have key : ∀ i, i < 4 → b[i]? = F.octets[i]? := by
    intro i hi4
    rw [← Array.getElem?_toList, hbl]
    unfold finishPrefix
    have hl : (F.octets.toList.take 4).length = 4 := by
      rw [List.length_take, Array.length_toList]; omega
    rw [List.append_assoc, List.append_assoc, List.append_assoc, List.getElem?_append_left (by rw [hl]; exact hi4),
      List.getElem?_take, if_pos hi4, Array.getElem?_toList]
  exact ⟨key 2 (by omega), key 3 (by omega)⟩

/-- `finish` leaves the flag octets alone -/
theorem finish_flags (macFn : Writer.Tsig → List UInt8 → List UInt8) (F : State) (hI : Writer.I F) (b : Bytes)
    (mac : Option (List UInt8)) (hf : Writer.finish F macFn = .ok (b, mac)) :
    b[2]? = F.octets[2]? ∧ b[3]? = F.octets[3]? := by
  cases hts : F.tsig with
  | none => exact finish_flags_plain macFn F hI hts b mac hf
  | some ts => exact finish_flags_tsig macFn F hI ts hts b mac hf

/-! ### the three parts of the decoded additional section -/

theorem all2_append_left {α β : Type} {R : α → β → Prop} : ∀ (as1 as2 : List α) (bs : List β),
    All2 R (as1 ++ as2) bs → ∃ b1 b2, bs = b1 ++ b2 ∧ All2 R as1 b1 ∧ All2 R as2 b2 := by
  intro as1
  induction as1 with
  | nil => intro as2 bs h; exact ⟨[], bs, rfl, .nil, h⟩
  | cons a r ih =>
    intro as2 bs h
    cases h with
    | cons hr t =>
      obtain ⟨b1, b2, e, h1, h2⟩ := ih as2 _ t
      exact ⟨_ :: b1, b2, by rw [e]; rfl, .cons hr h1, h2⟩

/-- a list whose image is `a ++ b`, related one for one to `ds`, splits with it -/
theorem all2_map_append {α β γ : Type} {R : α → γ → Prop} (f : α → β) (its : List α) (a b : List β) (ds : List γ)
    (hm : its.map f = a ++ b) (h : All2 R its ds) :
    ∃ i1 i2 d1 d2, i1.map f = a ∧ i2.map f = b ∧ ds = d1 ++ d2 ∧ All2 R i1 d1 ∧ All2 R i2 d2 := by
  obtain ⟨t1, t2⟩ := map_take_eq f its a b hm
  rw [← List.take_append_drop a.length its] at h
  obtain ⟨d1, d2, e, h1, h2⟩ := all2_append_left _ _ _ h
  exact ⟨_, _, d1, d2, t1, t2, e, h1, h2⟩

theorem all2_singleton {α β : Type} {R : α → β → Prop} {a : α} {bs : List β} (h : All2 R [a] bs) :
    ∃ b, bs = [b] ∧ R a b := by
  cases h with
  | cons hr t => cases t; exact ⟨_, rfl, hr⟩

/-- the OPT record `finish` appends, decoded: none, or one record with owner root, TYPE 41, CLASS = the
    payload size, TTL = the extended-RCODE octet on top of version 0 and flags 0 -/
inductive OptDec : Option Edns → List DRr → Prop
  | none : OptDec none []
  | some (e : Edns) (o : DRr) (owner : o.owner = [0]) (ty : o.ty = 41) (cls : o.cls = e.payload % 65536)
      (ttl : o.rawTtl = (e.upper * 16777216) % 4294967296) : OptDec (some e) [o]

/-- the TSIG record `finish` appends, decoded: none, or one record of TYPE 250, CLASS ANY, TTL 0, owner
    the key name up to case, RDATA `tsigRdata` of the pending RR with the MAC `finish` computed -/
inductive TsigDec (mac : Option (List UInt8)) : Option Writer.Tsig → List DRr → Prop
  | none : TsigDec mac none []
  | some (ts : Writer.Tsig) (o : DRr) (ty : o.ty = 250) (cls : o.cls = 255) (ttl : o.rawTtl = 0)
      (owner : o.owner.map lowerU8 = ts.rr.keyName.wire.map lowerU8)
      (rdata : o.rdata = tsigRdata ts.rr (tsigAlgName ts.mode) (mac.getD [])) (rdOk : o.rdOk = true) :
      TsigDec mac (some ts) [o]

/-- the records `rs` as decoded: `ds` matches them one for one, in order (`RMatch`) -/
def RecsDec (rs : List RRec) (ds : List DRr) : Prop := ∃ its : List RItC, its.map (·.r) = rs ∧ All2 RMatch its ds

/-- `d` decodes what `finish F` returned together with the MAC `mac`, `bd` being the body of `F` -/
structure Decoded (F : State) (bd : Body) (mac : Option (List UInt8)) (d : DMsg) : Prop where
  qs : ∃ qs : List QItC, qs.map (·.q) = bd.qs ∧ All2 QMatch qs d.questions
  an : RecsDec bd.an d.an
  ns : RecsDec bd.ns d.ns
  ar : ∃ dar dopt dts, d.ar = dar ++ dopt ++ dts ∧ RecsDec bd.ar dar ∧ OptDec F.edns dopt ∧ TsigDec mac F.tsig dts
  hdr : ∀ v, HdrView F v → d.rcode = v.rcode % 16 ∧ d.aa = v.aa ∧ d.tc = v.tc

theorem optDec_of (e : Option Edns) (its : List RItC) (ds : List DRr) (hm : its.map (·.r) = optRecs' e)
    (h : All2 RMatch its ds) : OptDec e ds := by
  cases e with
  | none =>
    cases its with
    | nil => cases h; exact .none
    | cons _ _ => cases hm
  | some e =>
    obtain ⟨it, rfl, hit⟩ := List.map_eq_singleton_iff.mp hm
    obtain ⟨o, rfl, r1, _, r3, r4, r5, _, _⟩ := all2_singleton h
    rw [hit] at r1 r3 r4 r5
    refine .some e _ ?_ (by rw [r3]; show Writer.T_OPT % 65536 = 41; decide) r4 (by rw [r5]; simp)
    -- the root is its own lower case
    simp only [root_wire, List.map_cons, List.map_nil] at r1
    generalize o.owner = ow at r1 ⊢
    match ow, r1 with
    | [x], r1 =>
      simp only [List.map_cons, List.map_nil, List.cons.injEq, and_true] at r1
      rw [lowerU8_eq_of_lt x 0 (by rw [r1]; rfl) (by decide)]
    | [], r1 => simp at r1
    | _ :: _ :: _, r1 => simp at r1

theorem tsigDec_of (mac : Option (List UInt8)) (ts : Option Writer.Tsig) (its : List RItC) (ds : List DRr)
    (hm : its.map (·.r) = tsigRecs ts mac) (h : All2 RMatch its ds) : TsigDec mac ts ds := by
  cases ts with
  | none =>
    cases its with
    | nil => cases h; exact .none
    | cons _ _ => cases hm
  | some ts =>
    obtain ⟨it, rfl, hit⟩ := List.map_eq_singleton_iff.mp hm
    obtain ⟨o, rfl, r1, _, r3, r4, r5, _, r7⟩ := all2_singleton h
    rw [hit] at r1 r3 r4 r5 r7
    simp only at r1 r3 r4 r5 r7
    have hTT : Writer.T_TSIG = 250 := T_TSIG_eq
    obtain ⟨q1, q2⟩ := r7 (by rw [hTT]; omega) [] (componentTypes_tsig _) (by simp)
    exact .some ts _ (by rw [r3, hTT]) (by rw [r4, QC_ANY_eq]) (by rw [r5]; decide) r1 q1 q2

/-- **what `finish` of a `Good` writer decodes to** -/
theorem decoded_of_good (macFn : Writer.Tsig → List UInt8 → List UInt8) (F : State) (bd : Body) (hG : Good F bd)
    (b : Bytes) (mac : Option (List UInt8)) (hf : Writer.finish F macFn = .ok (b, mac)) :
    ∃ d, specDecodeMsg b = some d ∧ Decoded F bd mac d := by
  obtain ⟨hI, hlim, mb, hL⟩ := hG
  have hsz : b.size ≤ 65535 := Nat.le_trans (finish_size_le_limit macFn F hI.inv b mac hf) hlim
  obtain ⟨d, qs, ian, ins, iar, hd, e1, e2, e3, e4, m1, m2, m3, m4, _, _⟩ :=
    finish_decodes_content macFn F bd mb hI hL b mac hf hsz
  obtain ⟨i12, i3, d12, dts, f12, f3, hd12, a12, a3⟩ := all2_map_append (·.r) iar _ _ _ e4 m4
  obtain ⟨i1, i2, dar, dopt, f1, f2, hd1, a1, a2⟩ := all2_map_append (·.r) i12 _ _ _ f12 a12
  obtain ⟨hf2, hf3⟩ := finish_flags macFn F hI b mac hf
  exact ⟨d, hd, ⟨qs, e1, m1⟩, ⟨ian, e2, m2⟩, ⟨ins, e3, m3⟩,
    ⟨dar, dopt, dts, by rw [hd12, hd1], ⟨i1, f1, a1⟩, optDec_of _ _ _ f2 a2, tsigDec_of _ _ _ _ f3 a3⟩,
    fun v hv => flags_of_hdrView b F v hf2 hf3 hv d hd⟩

/-- … for a decoding at hand -/
theorem decoded_of_good' (macFn : Writer.Tsig → List UInt8 → List UInt8) (F : State) (bd : Body) (hG : Good F bd)
    (b : Bytes) (mac : Option (List UInt8)) (hf : Writer.finish F macFn = .ok (b, mac)) (d : DMsg)
    (hd : specDecodeMsg b = some d) : Decoded F bd mac d := by
  obtain ⟨d', hd', D⟩ := decoded_of_good macFn F bd hG b mac hf
  obtain rfl : d' = d := Option.some.inj (hd'.symm.trans hd)
  exact D

/-! ### reading `Decoded` -/

theorem RecsDec.length {rs : List RRec} {ds : List DRr} (h : RecsDec rs ds) : ds.length = rs.length := by
  obtain ⟨its, e, a⟩ := h
  rw [← a.length, ← e, List.length_map]

theorem RecsDec.nil {ds : List DRr} (h : RecsDec [] ds) : ds = [] := List.length_eq_zero_iff.mp h.length

theorem RecsDec.ty {rs : List RRec} {ds : List DRr} (h : RecsDec rs ds) : ∀ o ∈ ds, ∃ r ∈ rs, o.ty = r.ty % 65536 := by
  obtain ⟨its, e, a⟩ := h
  intro o ho
  obtain ⟨it, hit, hm⟩ := all2_mem_right a o ho
  exact ⟨it.r, by rw [← e]; exact List.mem_map_of_mem hit, hm.2.2.1⟩

theorem OptDec.length {e : Option Edns} {ds : List DRr} (h : OptDec e ds) : ds.length = if e.isSome then 1 else 0 := by
  cases h <;> rfl

theorem OptDec.mem {e : Option Edns} {ds : List DRr} (h : OptDec e ds) : ∀ o ∈ ds, o.ty = 41 ∧ ∃ e', e = Option.some e' ∧
    o.owner = [0] ∧ o.cls = e'.payload % 65536 ∧ o.rawTtl = (e'.upper * 16777216) % 4294967296 := by
  cases h with
  | none => intro o ho; cases ho
  | some e o owner ty cls ttl => intro o' ho; rw [List.mem_singleton.mp ho]; exact ⟨ty, e, rfl, owner, cls, ttl⟩

theorem TsigDec.length {mac : Option (List UInt8)} {ts : Option Writer.Tsig} {ds : List DRr} (h : TsigDec mac ts ds) :
    ds.length = if ts.isSome then 1 else 0 := by
  cases h <;> rfl

theorem TsigDec.ty {mac : Option (List UInt8)} {ts : Option Writer.Tsig} {ds : List DRr} (h : TsigDec mac ts ds) :
    ∀ o ∈ ds, o.ty = 250 ∧ ts.isSome = true := by
  cases h with
  | none => intro o ho; cases ho
  | some ts o ty _ _ _ _ _ => intro o' ho; rw [List.mem_singleton.mp ho]; exact ⟨ty, rfl⟩

end QV.ServerContent

namespace QV.ServerScan
open QV QV.Wire QV.Reader QV.Writer QV.Spec QV.ServerContent

/-! ### the OPT and the TSIG record of a decoded response -/

/-- **the OPT record in the decoded additional section.**  From a `Good` final writer whose own
    additional records are address records (types 1 / 28): in the independent decoding of whatever
    `finish` returns, the additional section holds exactly one type-41 record iff the EDNS slot is
    set, and that record has owner root, CLASS = the slot's payload size and TTL = the slot's
    extended-RCODE octet shifted to the top (version 0, flags 0). -/
theorem opt_of_good (macFn : Writer.Tsig → List UInt8 → List UInt8) (F : State) (bd : Body) (h : Good F bd)
    (hty : ∀ r ∈ bd.ar, r.ty = 1 ∨ r.ty = 28) (m : Bytes) (mac : Option (List UInt8))
    (hf : Writer.finish F macFn = .ok (m, mac)) (d : Spec.DMsg) (hd : Spec.specDecodeMsg m = some d) :
    (d.ar.filter (fun r => r.ty = 41)).length = (if F.edns.isSome then 1 else 0) ∧
    (∀ o ∈ d.ar, o.ty = 41 → ∃ e, F.edns = some e ∧ o.owner = [0] ∧ o.cls = e.payload % 65536 ∧
      o.rawTtl = (e.upper * 16777216) % 4294967296) ∧
    d.an.length = bd.an.length ∧ d.ns.length = bd.ns.length := by
  have D := decoded_of_good' macFn F bd h m mac hf d hd
  obtain ⟨dar, dopt, dts, e, har, hopt, htsd⟩ := D.ar
  -- only the middle part holds records of type 41
  have h1 : ∀ o ∈ dar, o.ty ≠ 41 := by
    intro o ho
    obtain ⟨r, hr, hor⟩ := har.ty o ho
    rcases hty r hr with h1 | h1 <;> (rw [hor, h1]; decide)
  have h3 : ∀ o ∈ dts, o.ty ≠ 41 := fun o ho => by rw [(htsd.ty o ho).1]; decide
  refine ⟨?_, ?_, D.an.length, D.ns.length⟩
  · have f1 : dar.filter (fun r => r.ty = 41) = [] := List.filter_eq_nil_iff.mpr (fun o ho => by simpa using h1 o ho)
    have f2 : dopt.filter (fun r => r.ty = 41) = dopt :=
      List.filter_eq_self.mpr (fun o ho => by simpa using (hopt.mem o ho).1)
    have f3 : dts.filter (fun r => r.ty = 41) = [] := List.filter_eq_nil_iff.mpr (fun o ho => by simpa using h3 o ho)
    rw [e, List.filter_append, List.filter_append, f1, f2, f3, List.nil_append, List.append_nil, hopt.length]
  · intro o ho hot
    rw [e] at ho
    rcases List.mem_append.mp ho with h | h
    · rcases List.mem_append.mp h with h | h
      · exact absurd hot (h1 o h)
      · exact (hopt.mem o h).2
    · exact absurd hot (h3 o h)

/-- the decoded TSIG record of a `Good` final writer with a pending TSIG: it is the last record of
    the additional section — TYPE 250, CLASS 255, TTL 0, owner = the key name up to ASCII case, RDATA =
    `tsigRdata` of the recorded RR with the MAC `finish` computed, octet for octet -/
theorem tsig_of_good (macFn : Writer.Tsig → List UInt8 → List UInt8) (F : State) (bd : Body) (h : Good F bd)
    (ts : Writer.Tsig) (hts : F.tsig = some ts) (m : Bytes) (mac : Option (List UInt8))
    (hf : Writer.finish F macFn = .ok (m, mac)) (d : Spec.DMsg) (hd : Spec.specDecodeMsg m = some d) :
    ∃ rest o, d.ar = rest ++ [o] ∧ o.ty = 250 ∧ o.cls = 255 ∧ o.rawTtl = 0 ∧
      o.owner.map lowerU8 = ts.rr.keyName.wire.map lowerU8 ∧
      o.rdata = tsigRdata ts.rr (tsigAlgName ts.mode) (mac.getD []) ∧ o.rdOk = true ∧
      rest.length = bd.ar.length + (if F.edns.isSome then 1 else 0) := by
  obtain ⟨dar, dopt, dts, e, har, hopt, htsd⟩ := (decoded_of_good' macFn F bd h m mac hf d hd).ar
  rw [hts] at htsd
  cases htsd with
  | some _ o ty cls ttl owner rdata rdOk =>
    exact ⟨dar ++ dopt, o, e, ty, cls, ttl, owner, rdata, rdOk, by rw [List.length_append, har.length, hopt.length]⟩

/-- … when the writer holds the question alone: no answer or authority data, and before the TSIG record
    just the OPT record, iff the EDNS slot is set -/
theorem question_tsig_of_good (macFn : Writer.Tsig → List UInt8 → List UInt8) (F : State) (q : Option Spec.DQuestion)
    (h : Good F (qBody q)) (ts : Writer.Tsig) (hts : F.tsig = some ts) (m : Bytes) (mac : Option (List UInt8))
    (hf : Writer.finish F macFn = .ok (m, mac)) (d : Spec.DMsg) (hd : Spec.specDecodeMsg m = some d) :
    d.an = [] ∧ d.ns = [] ∧
    ∃ rest o, d.ar = rest ++ [o] ∧ rest.length = (if F.edns.isSome then 1 else 0) ∧
      o.ty = 250 ∧ o.cls = 255 ∧ o.rawTtl = 0 ∧ o.owner.map lowerU8 = ts.rr.keyName.wire.map lowerU8 ∧
      o.rdata = tsigRdata ts.rr (tsigAlgName ts.mode) (mac.getD []) := by
  obtain ⟨hq1, hq2, hq3⟩ := qBody_norecs q
  have D := decoded_of_good' macFn F _ h m mac hf d hd
  obtain ⟨rest, o, g1, g2, g3, g4, g5, g6, _, g8⟩ := tsig_of_good macFn F _ h ts hts m mac hf d hd
  rw [hq3] at g8
  exact ⟨(hq1 ▸ D.an).nil, (hq2 ▸ D.ns).nil, rest, o, g1, by rw [g8, List.length_nil, Nat.zero_add], g2, g3, g4, g5, g6⟩

end QV.ServerScan
