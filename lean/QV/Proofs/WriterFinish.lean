/-
  QV.Proofs.WriterFinish — what `finish` appends, as octets and as records: `AppB` (octets appended,
  prefix kept), the encodings `optEnc` / `tsigEnc` of the OPT and TSIG records and the records themselves
  (`optRecs'`, `tsigRecs`), the counts in the header (`withCounts_counts`). The finished message is
  described in QV.Proofs.FinishTsig (`finish_octets`; in `Disabled` mode `finish_bytes`, C12 (d)).
-/
import QV.Proofs.WriterLayout
namespace QV.Writer
open QV QV.Wire QV.ServerSafety

/-- bytes appended, prefix kept (weaker than `App`: says nothing about the bookkeeping) -/
structure AppB (s s' : State) (d : List UInt8) : Prop where
  cur : s'.cursor = s.cursor + d.length
  bytes : BytesAt s'.octets s.cursor d
  pre : ∀ i, i < s.cursor → s'.octets[i]? = s.octets[i]?
  mode : s'.mode = s.mode

theorem AppB.of_app {s s' : State} {d : List UInt8} (a : App s s' d) : AppB s s' d :=
  ⟨a.cur, a.bytes, a.ext.pre, a.mode⟩

theorem AppB.refl (s : State) : AppB s s [] := ⟨by simp, (fun i hi => by simp at hi), (fun _ _ => rfl), rfl⟩

theorem AppB.trans {a b c : State} {d1 d2 : List UInt8} (h1 : AppB a b d1) (h2 : AppB b c d2) :
    AppB a c (d1 ++ d2) := by
  refine ⟨by rw [h2.cur, h1.cur]; simp; omega, ?_, ?_, by rw [h2.mode, h1.mode]⟩
  · intro i hi
    by_cases hlt : i < d1.length
    · rw [List.getElem?_append_left hlt, h2.pre _ (by rw [h1.cur]; omega)]
      exact h1.bytes i hlt
    · rw [List.getElem?_append_right (by omega)]
      have := h2.bytes (i - d1.length) (by simp at hi; omega)
      rw [h1.cur, show a.cursor + d1.length + (i - d1.length) = a.cursor + i by omega] at this
      exact this
  · intro i hi
    rw [h2.pre i (by rw [h1.cur]; omega), h1.pre i hi]

/-- what `finish` appends for EDNS: the OPT record (RFC 6891 §6.1.2) -/
def optEnc : Option Edns → List UInt8
  | some e => encRR WName.root T_OPT e.payload ((e.upper * 16777216) % 4294967296) []
  | none => []

/-- what `finish` appends for TSIG (RFC 8945 §4.2), given the MAC -/
def tsigEnc (ts : Tsig) (mac : Option (List UInt8)) : List UInt8 :=
  encRR ts.rr.keyName T_TSIG QC_ANY (ttlFrom 0) (tsigRdata ts.rr (tsigAlgName ts.mode) (mac.getD []))

/-! ### the two pseudo-records as records -/

/-- the OPT record as `finish` hands it to `add_rr` (class = the payload size as stored) -/
def optRecs' : Option Edns → List RRec
  | some e => [⟨WName.root, T_OPT, e.payload, (e.upper * 16777216) % 4294967296, []⟩]
  | none => []

/-- the TSIG record (RFC 8945 §4.2) with the MAC `finish` returned -/
def tsigRecs : Option Tsig → Option (List UInt8) → List RRec
  | some ts, mac => [⟨ts.rr.keyName, T_TSIG, QC_ANY, ttlFrom 0,
      tsigRdata ts.rr (tsigAlgName ts.mode) (mac.getD [])⟩]
  | none, _ => []

/-- the counts as they stand in the header once `finish` has written them -/
theorem withCounts_counts (s : State) (hsz : 12 ≤ s.octets.size) :
    BytesAt (withCounts s) 4 (u16be s.qdcount ++ u16be s.ancount ++ u16be s.nscount ++ u16be s.arcount) := by
  rw [withCounts_eq, List.append_assoc, List.append_assoc]
  exact bytesAt_writeAt _ _ _ hsz

/-- the TSIG record `finish` appends -/
def tsigEncOpt : Option Tsig → Option (List UInt8) → List UInt8
  | some ts, mac => tsigEnc ts mac
  | none, _ => []

end QV.Writer
