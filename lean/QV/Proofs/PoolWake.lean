/-
  QV.Proofs.PoolWake — the wake-up invariant of the pool transition system (C29): no waiter is
  left asleep when what it waits for has happened (no lost wake-up), plus the bookkeeping about
  the two shut_down calls that the environment assumption on `ThreadPool::shut_down` needs.

  The clauses fall into three groups that look at disjoint parts of the state (workers and
  submitters; awaiters; the calls made so far), so a step has to be examined only for the groups
  whose predicates or fields it touches.  Flags are compared through `b2n` so that every clause is
  linear arithmetic.
-/
import QV.Proofs.Pool

namespace QV.Pool

variable {cfg : Cfg} {s s' : State} {ths ths' : List Local} {t k : Nat} {a b : Local} {w : WKind} {reg to dl : Bool}
  {target : Option Nat} {ps gs shC pshC pr hp : Bool} {av q tc : Nat}

-- `isSubAwake`: a `submit` that will (re-)check `available`; `isAwWait`: asleep in `await_shutdown`;
-- `isShMid`: a group `shut_down` past the pool's section, which will still `notify_all`; `isShAny`, `isPshAny`:
-- anywhere inside `ThreadGroup::shut_down` / `ThreadPool::shut_down` (`isPshEarly`, in the model: before it has
-- taken the pool out of the group)
def isSubAwake : Local → Bool | .subWantP _ | .subInP _ => true | _ => false
def isAwWait : Local → Bool | .awWait => true | _ => false
def isShMid : Local → Bool | .shInP | .shInG2 => true | _ => false
def isShAny : Local → Bool | .shWantG | .shInG | .shInP | .shInG2 => true | _ => false
def isPshAny : Local → Bool | .pshWantG | .pshInG | .pshWantP | .pshInP => true | _ => false

def b2n (b : Bool) : Nat := if b then 1 else 0
@[simp] theorem b2n_true : b2n true = 1 := rfl
@[simp] theorem b2n_false : b2n false = 0 := rfl
theorem b2n_le_one (b : Bool) : b2n b ≤ 1 := by cases b <;> simp
theorem b2n_of_true {b : Bool} (h : b = true) : b2n b = 1 := by subst h; rfl
theorem b2n_of_false {b : Bool} (h : b = false) : b2n b = 0 := by subst h; rfl

theorem isSubAwake_wakeAvail (l : Local) : isSubAwake (wakeAvail l) = (isSubAwake l || isSubWait l) := by cases l <;> rfl

theorem pshEarly_le_any (l : List Local) : l.countP isPshEarly ≤ l.countP isPshAny :=
  List.countP_mono_left fun x _ => by cases x <;> first | exact id | exact fun _ => rfl

/-! ### the invariant -/

def workPreds : List (Local → Bool) := [isWWait, isSubWait, isSubAwake]
def awaitPreds : List (Local → Bool) := [isAwWait, isShMid]
def callPreds : List (Local → Bool) := [isShAny, isPshAny, isPshEarly]
def wakePreds : List (Local → Bool) := workPreds ++ awaitPreds ++ callPreds

/-- workers and submitters -/
structure WWork (ths : List Local) (pShutting : Bool) (available qlen : Nat) : Prop where
  /-- once the pool is shutting down no worker sleeps on `task_wakeup` … -/
  w1 : b2n pShutting = 0 ∨ ths.countP isWWait = 0
  /-- … and no submitter on `available_wakeup` -/
  w2 : b2n pShutting = 0 ∨ ths.countP isSubWait = 0
  /-- a submitter sleeps only while every surplus worker (`available − queue.len`) is matched by a
      submitter that is awake and will re-check (no lost `available_wakeup` notification) -/
  w3 : b2n pShutting = 1 ∨ ths.countP isSubWait = 0 ∨ available ≤ qlen + ths.countP isSubAwake

/-- awaiters -/
structure WAwait (ths : List Local) (gShutting : Bool) (threadCount : Nat) : Prop where
  /-- an awaiter sleeps after shutdown is complete only while a `shut_down` call that will still
      `notify_all` is in flight -/
  w4 : ths.countP isAwWait = 0 ∨ b2n gShutting = 0 ∨ threadCount ≠ 0 ∨ 0 < ths.countP isShMid

/-- the calls of the two `shut_down`s -/
structure WCalls (ths : List Local) (shCalled pshCalled poolReady hasPool : Bool) : Prop where
  f1 : ths.countP isShAny = 0 ∨ b2n shCalled = 1
  f2 : ths.countP isPshAny = 0 ∨ b2n pshCalled = 1
  f3 : b2n poolReady = 0 ∨ b2n pshCalled = 1 ∨ b2n shCalled = 1 ∨ b2n hasPool = 1
  /-- a `ThreadPool::shut_down` call that has yet to remove the pool finds it registered -/
  f4 : ths.countP isPshEarly = 0 ∨ (b2n hasPool = 1 ∧ b2n shCalled = 0)
  f5 : ths.countP isPshAny ≤ 1

/-- the wake-up invariant: the three groups, over the thread list and the fields they mention (see `CInv'`) -/
structure WInv' (ths : List Local) (pShutting : Bool) (available qlen : Nat) (gShutting : Bool) (threadCount : Nat)
    (shCalled pshCalled poolReady hasPool : Bool) : Prop where
  work : WWork ths pShutting available qlen
  await : WAwait ths gShutting threadCount
  calls : WCalls ths shCalled pshCalled poolReady hasPool

abbrev WInv (s : State) : Prop :=
  WInv' s.threads s.pShutting s.available s.queue.length s.gShutting s.threadCount s.shCalled s.pshCalled
    s.poolReady s.hasPool

theorem WWork.congr (h : WWork ths ps av q) (hc : SameCounts workPreds ths ths') : WWork ths' ps av q := by
  obtain ⟨w1, w2, w3⟩ := h
  rw [← hc isWWait (by simp [workPreds])] at w1
  rw [← hc isSubWait (by simp [workPreds])] at w2 w3
  rw [← hc isSubAwake (by simp [workPreds])] at w3
  exact ⟨w1, w2, w3⟩

theorem WAwait.congr (h : WAwait ths gs tc) (hc : SameCounts awaitPreds ths ths') : WAwait ths' gs tc := by
  obtain ⟨w4⟩ := h
  rw [← hc isAwWait (by simp [awaitPreds]), ← hc isShMid (by simp [awaitPreds])] at w4
  exact ⟨w4⟩

theorem WCalls.congr (h : WCalls ths shC pshC pr hp) (hc : SameCounts callPreds ths ths') :
    WCalls ths' shC pshC pr hp := by
  obtain ⟨f1, f2, f3, f4, f5⟩ := h
  rw [← hc isShAny (by simp [callPreds])] at f1
  rw [← hc isPshAny (by simp [callPreds])] at f2 f5
  rw [← hc isPshEarly (by simp [callPreds])] at f4
  exact ⟨f1, f2, f3, f4, f5⟩

theorem wakePreds_work : ∀ p ∈ workPreds, p ∈ wakePreds := fun _ hp =>
  List.mem_append_left _ (List.mem_append_left _ hp)
theorem wakePreds_await : ∀ p ∈ awaitPreds, p ∈ wakePreds := fun _ hp =>
  List.mem_append_left _ (List.mem_append_right _ hp)
theorem wakePreds_calls : ∀ p ∈ callPreds, p ∈ wakePreds := fun _ hp => List.mem_append_right _ hp

/-- a step that changes no wake-up count and none of the fields -/
theorem WInv'.congr (h : WInv' ths ps av q gs tc shC pshC pr hp) (hc : SameCounts wakePreds ths ths') :
    WInv' ths' ps av q gs tc shC pshC pr hp :=
  ⟨h.work.congr (hc.sub wakePreds_work), h.await.congr (hc.sub wakePreds_await),
   h.calls.congr (hc.sub wakePreds_calls)⟩

theorem WInv'.move {a b : Local} (h : WInv' ths ps av q gs tc shC pshC pr hp) (hg : ths[t]? = some a)
    (hab : profile wakePreds b = profile wakePreds a) : WInv' (ths.set t b) ps av q gs tc shC pshC pr hp :=
  h.congr (sameCounts_set hg hab)

/-- a step that concerns only workers and submitters -/
theorem WInv'.withWork {ps' : Bool} {av' q' : Nat} (h : WInv' ths ps av q gs tc shC pshC pr hp)
    (hc : SameCounts (awaitPreds ++ callPreds) ths ths') (hw : WWork ths' ps' av' q') :
    WInv' ths' ps' av' q' gs tc shC pshC pr hp :=
  ⟨hw, h.await.congr (hc.sub fun _ => List.mem_append_left _),
   h.calls.congr (hc.sub fun _ => List.mem_append_right _)⟩

/-- a step that concerns only awaiters -/
theorem WInv'.withAwait {gs' : Bool} {tc' : Nat} (h : WInv' ths ps av q gs tc shC pshC pr hp)
    (hc : SameCounts (workPreds ++ callPreds) ths ths') (ha : WAwait ths' gs' tc') :
    WInv' ths' ps av q gs' tc' shC pshC pr hp :=
  ⟨h.work.congr (hc.sub fun _ => List.mem_append_left _), ha,
   h.calls.congr (hc.sub fun _ => List.mem_append_right _)⟩

/-- a step that concerns only the bookkeeping of calls -/
theorem WInv'.withCalls {shC' pshC' pr' hp' : Bool} (h : WInv' ths ps av q gs tc shC pshC pr hp)
    (hc : SameCounts (workPreds ++ awaitPreds) ths ths') (hf : WCalls ths' shC' pshC' pr' hp') :
    WInv' ths' ps av q gs tc shC' pshC' pr' hp' :=
  ⟨h.work.congr (hc.sub fun _ => List.mem_append_left _),
   h.await.congr (hc.sub fun _ => List.mem_append_right _), hf⟩

/-- with one more group thread, `thread_count` is not zero -/
theorem WInv'.spawn (h : WInv' ths ps av q gs tc shC pshC pr hp) (hc : SameCounts wakePreds ths ths') :
    WInv' ths' ps av q gs (tc + 1) shC pshC pr hp :=
  ⟨h.work.congr (hc.sub wakePreds_work), ⟨.inr (.inr (.inl (Nat.succ_ne_zero _)))⟩,
   h.calls.congr (hc.sub wakePreds_calls)⟩

/-- expresses every count, before and after thread `t` (with `hg : ths[t]? = some a`) has moved, through
    the count over the other threads, and evaluates the predicates at the two local states; in all
    hypotheses and the goal, so that `omega` finds the old clauses and the new one over the same atoms
    (used here and in PoolInv) -/
macro "split_thread" hg:ident : tactic => `(tactic|
  simp only [State.setT, retLocal, countP_set_rest _ $hg, countP_rest _ $hg, isWWait, isSubWait, isSubAwake, isAwWait, isShMid, isShAny,
    isPshAny, isPshEarly, b2n_true, b2n_false, Bool.false_eq_true, ↓reduceIte, Nat.add_zero, true_or, or_true, true_and, and_true,
    List.length_append,
    List.length_cons, List.length_nil] at *)

theorem winv_init : WInv init :=
  ⟨⟨.inl rfl, .inl rfl, .inr (.inl rfl)⟩, ⟨.inl rfl⟩, ⟨.inl rfl, .inl rfl, .inl rfl, .inl rfl, Nat.zero_le _⟩⟩

/-- waking a sleeping worker (notification, timeout, spurious wake-up) loses nothing -/
theorem WWork.wakeWorker (h : WWork ths ps av q)
    (hu : ths[u]? = some (.wWait w)) (to : Bool) : WWork (ths.set u (.wWoken w to)) ps av q := by
  obtain ⟨w1, w2, w3⟩ := h
  refine ⟨?_, ?_, ?_⟩ <;> split_thread hu <;> omega

/-- `available_wakeup.notify_one()` makes up for one more available worker -/
theorem WWork.notifyAvail (h : WWork ths ps (av - 1) q)
    (hn : (ths.countP isSubWait = 0 ∧ ths' = ths) ∨
      ∃ u k, ths[u]? = some (.subWait k) ∧ ths' = ths.set u (.subWantP k)) : WWork ths' ps av q := by
  obtain ⟨w1, w2, w3⟩ := h
  rcases hn with ⟨hz, rfl⟩ | ⟨u, k, hu, rfl⟩
  · exact ⟨w1, w2, .inr (.inl hz)⟩
  · refine ⟨?_, ?_, ?_⟩ <;> split_thread hu <;> omega

theorem countP_map_none {p : Local → Bool} {f : Local → Local} (h : ∀ x, p (f x) = false) (l : List Local) :
    (l.map f).countP p = 0 :=
  List.countP_eq_zero.mpr fun a ha => by
    obtain ⟨b, _, rfl⟩ := List.mem_map.mp ha
    simp [h b]

/-- `shut_down_without_removing` wakes every worker and every blocked submitter -/
theorem WWork.shutdown (ths : List Local) (av q : Nat) : WWork ((ths.map wakeTask).map wakeAvail) true av q := by
  refine ⟨.inr ?_, .inr (countP_map_none (fun x => by cases x <;> rfl) _), .inl rfl⟩
  rw [sameCounts_map wakeAvail (wakeAvail_eq (profile [isWWait]) fun _ => rfl) _ isWWait (by simp)]
  exact countP_map_none (fun x => by cases x <;> rfl) _

theorem winv_push (h : WInv s)
    (hg : s.threads[t]? = some a) (ha : a = .subInP k ∨ a = .sosInP k) (hsh : s.pShutting = false)
    (hn : pushTask s t k target = some s') : WInv s' := by
  obtain ⟨ths, hno, rfl⟩ := Option.map_eq_some_iff.mp hn
  have hps := b2n_of_false hsh
  have h1 : WWork (s.threads.set t .idle) s.pShutting s.available (s.queue ++ [k]).length := by
    obtain ⟨w1, w2, w3⟩ := h.work
    rcases ha with rfl | rfl <;> refine ⟨?_, ?_, ?_⟩ <;> split_thread hg <;> omega
  have hc : SameCounts (awaitPreds ++ callPreds) s.threads (s.threads.set t .idle) := by
    rcases ha with rfl | rfl <;> exact sameCounts_set hg rfl
  rcases notify_task_spec hno with ⟨_, rfl⟩ | ⟨u, w, hu, rfl⟩
  · exact h.withWork hc h1
  · exact h.withWork (hc.trans (sameCounts_set hu rfl)) (h1.wakeWorker hu false)

/-- the worker's critical section up to the `available_wakeup.notify_one()` of an entering worker: the
    clauses hold with that worker's increment of `available` taken back -/
theorem winv_relWorkerBody (dl : Bool)
    (h : WInv s) (hg : s.threads[t]? = some (.wInP w reg to)) :
    let s2 := relWorkerBody cfg s t w reg to dl
    WInv' s2.threads s2.pShutting (s2.available - if reg then 0 else 1) s2.queue.length s2.gShutting s2.threadCount
      s2.shCalled s2.pshCalled s2.poolReady s2.hasPool := by
  obtain ⟨w1, w2, w3⟩ := h.work
  intro s2
  rcases relWorkerBody_cases cfg s t w reg to dl with ⟨e, _⟩ | ⟨k, q, hq, e⟩ | ⟨hq, hps, e⟩ | ⟨hq, hps, e⟩ <;>
    simp only [s2, e]
  · refine h.withWork (sameCounts_set hg (by cases w <;> rfl)) ⟨?_, ?_, ?_⟩ <;>
      cases w <;> cases reg <;> split_thread hg <;> omega
  · rw [hq] at w3
    refine h.withWork (sameCounts_set hg (by rfl)) ⟨?_, ?_, ?_⟩ <;> cases reg <;> split_thread hg <;> omega
  · have := b2n_of_true hps
    refine h.withWork (sameCounts_set hg (by cases w <;> rfl)) ⟨?_, ?_, ?_⟩ <;>
      cases w <;> cases reg <;> split_thread hg <;> omega
  · have := b2n_of_false hps
    rw [hq] at w3
    refine h.withWork (sameCounts_set hg (by rfl)) ⟨?_, ?_, ?_⟩ <;> cases reg <;> split_thread hg <;> omega

theorem winv_relWorker
    (h : WInv s) (hg : s.threads[t]? = some (.wInP w reg to))
    (hn : relWorker cfg s t w reg to target dl = some s') : WInv s' := by
  have h2 := winv_relWorkerBody (cfg := cfg) dl h hg
  unfold relWorker at hn
  cases reg
  · obtain ⟨ths, hno, rfl⟩ := Option.map_eq_some_iff.mp hn
    have hn := notify_avail_spec hno
    refine h2.withWork ?_ (h2.work.notifyAvail hn)
    rcases hn with ⟨_, rfl⟩ | ⟨u, k, hu, rfl⟩
    · exact fun _ _ => rfl
    · exact sameCounts_set hu rfl
  · simp only [↓reduceIte] at hn
    split at hn
    · cases hn; exact h2
    · cases hn

/-- `end_thread`: if this was the last thread of a group that is shutting down, every awaiter is woken -/
theorem winv_endThread (h : WInv s) : WInv (endThread s) := by
  obtain ⟨w4⟩ := h.await
  unfold endThread
  show WInv' (if _ then _ else _) _ _ _ s.gShutting (s.threadCount - 1) _ _ _ _
  split
  · exact h.withAwait (sameCounts_map wakeShut (wakeShut_eq _ rfl rfl) _)
      ⟨.inl (countP_map_none (fun x => by cases x <;> rfl) _)⟩
  · rename_i hc
    refine h.withAwait (fun _ _ => rfl) ⟨?_⟩
    cases hgs : s.gShutting
    · exact .inr (.inl rfl)
    · simp [hgs] at hc
      omega
end QV.Pool
