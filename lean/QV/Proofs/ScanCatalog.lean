/-
  QV.Proofs.ScanCatalog — the scan of a request and the catalog: `Spec.Server.specScanWith` consults the
  catalog only in the decision table after a clean scan (`endVerdict`); everything else — whether a
  response is due, the question, the EDNS state, the UDP limit, and the verdicts FORMERR / BADVERS /
  "TSIG reached" — is the same for every catalog (`specScanWith_cases`).
-/
import QV.Proofs.ScanTsigCont

namespace QV.ServerContent
open QV QV.Wire QV.Reader QV.Writer QV.Server QV.ServerScan QV.Spec

/-- after a clean scan of the three record sections, the scan is `endVerdict`'s verdict on what it found -/
theorem specTail_done_eq (lookup : List UInt8 → Nat → Option Spec.Server.ZoneKind) (S : Nat) (msg : Bytes)
    (q : Option Spec.DQuestion) (p1 an ns ar opcode p2 p3 : Nat) (e : Bool) (l : Nat)
    (h1 : Spec.Server.scanPlain msg (an + ns) p1 = some p2)
    (h2 : Spec.Server.scanAr msg S ar ar p2 false 512 = (.done p3, e, l)) :
    specTail lookup S msg q p1 an ns ar opcode =
      { respond := true, question := q, edns := e, limitUdp := l, verdict := endVerdict lookup msg.size q p3 opcode } := by
  rw [specTail_eq]
  simp only [h1, h2]

/-- **the scan and the catalog**: either the scan does not get to the decision table — then it is the same
    for every catalog, and its verdict is FORMERR, BADVERS or "TSIG reached" — or it ends cleanly at some
    position `p3`, and only the verdict, `endVerdict` there, depends on the catalog -/
theorem specScanWith_cases (S : Nat) (msg : Bytes) :
    (∃ sc : Spec.Server.Scan, (sc.verdict = .formErr ∨ sc.verdict = .badVers ∨ sc.verdict = .tsigReached) ∧
      ∀ l, Spec.Server.specScanWith l S msg = sc) ∨
    (∃ q e lim p3, ∀ l, Spec.Server.specScanWith l S msg =
      { respond := true, question := q, edns := e, limitUdp := lim,
        verdict := endVerdict l msg.size q p3 ((msg.getD 2 0).toNat / 8 % 16) }) := by
  by_cases h1 : msg.size < 12
  · exact Or.inl ⟨{ respond := false }, Or.inl rfl, fun l => by rw [specScanWith_eq, if_pos h1]⟩
  by_cases h2 : (msg.getD 2 0).toNat ≥ 128
  · exact Or.inl ⟨{ respond := false }, Or.inl rfl, fun l => by rw [specScanWith_eq, if_neg h1, if_pos h2]⟩
  have hB : ∀ l, Spec.Server.specScanWith l S msg = specBody l S msg := fun l => by
    rw [specScanWith_eq, if_neg h1, if_neg h2]
  simp only [hB]
  unfold specBody
  by_cases h3 : Spec.Server.hdr msg 4 > 1
  · exact Or.inl ⟨{ respond := false }, Or.inl rfl, fun l => by rw [if_pos h3]⟩
  simp only [if_neg h3]
  generalize (if Spec.Server.hdr msg 4 = 0 then some (none, 12)
    else match Spec.specQuestionAt msg 12 with
      | some (w, t, c, nx) => some (some (⟨w, t, c⟩ : Spec.DQuestion), nx)
      | none => none) = qres
  cases qres with
  | none => exact Or.inl ⟨_, Or.inl rfl, fun _ => rfl⟩
  | some v =>
    obtain ⟨q, p1⟩ := v
    -- `specTail` field by field: only the table's verdict mentions the catalog
    simp only [specTail_eq]
    cases Spec.Server.scanPlain msg (Spec.Server.hdr msg 6 + Spec.Server.hdr msg 8) p1 with
    | none => exact Or.inl ⟨{ respond := true, question := q }, Or.inl rfl, fun _ => rfl⟩
    | some p2 =>
      dsimp only
      generalize Spec.Server.scanAr msg S (Spec.Server.hdr msg 10) (Spec.Server.hdr msg 10) p2 false 512 = res
      obtain ⟨en, e, lim⟩ := res
      cases en with
      | formErr => exact Or.inl ⟨{ respond := true, question := q, edns := e, limitUdp := lim }, Or.inl rfl, fun _ => rfl⟩
      | badVers => exact Or.inl ⟨{ respond := true, question := q, edns := e, limitUdp := lim, verdict := .badVers }, Or.inr (Or.inl rfl), fun _ => rfl⟩
      | tsig => exact Or.inl ⟨{ respond := true, question := q, edns := e, limitUdp := lim, verdict := .tsigReached }, Or.inr (Or.inr rfl), fun _ => rfl⟩
      | done p3 => exact Or.inr ⟨q, e, lim, p3, fun _ => rfl⟩

/-- whether the scan answers at all, and whether it reaches a TSIG record (with which question, EDNS
    flag and UDP limit), does not depend on the catalog -/
theorem specScanWith_tsig_indep (l1 l2 : List UInt8 → Nat → Option Spec.Server.ZoneKind) (S : Nat) (msg : Bytes) :
    (Spec.Server.specScanWith l1 S msg).respond = (Spec.Server.specScanWith l2 S msg).respond ∧
    ((Spec.Server.specScanWith l1 S msg).verdict = .tsigReached ↔ (Spec.Server.specScanWith l2 S msg).verdict = .tsigReached) ∧
    ((Spec.Server.specScanWith l1 S msg).verdict = .tsigReached →
      (Spec.Server.specScanWith l1 S msg).question = (Spec.Server.specScanWith l2 S msg).question ∧
      (Spec.Server.specScanWith l1 S msg).edns = (Spec.Server.specScanWith l2 S msg).edns ∧
      (Spec.Server.specScanWith l1 S msg).limitUdp = (Spec.Server.specScanWith l2 S msg).limitUdp) := by
  rcases specScanWith_cases S msg with ⟨sc, _, h⟩ | ⟨q, e, lim, p3, h⟩
  · rw [h l1, h l2]; exact ⟨rfl, Iff.rfl, fun _ => ⟨rfl, rfl, rfl⟩⟩
  · rw [h l1, h l2]
    have hne : ∀ l, endVerdict l msg.size q p3 ((msg.getD 2 0).toNat / 8 % 16) ≠ .tsigReached := fun l hx => by
      rcases endVerdict_range l msg.size q p3 ((msg.getD 2 0).toNat / 8 % 16) with h | h | h | h | h <;>
        rw [h] at hx <;> cases hx
    exact ⟨rfl, ⟨fun hx => absurd hx (hne l1), fun hx => absurd hx (hne l2)⟩, fun hx => absurd hx (hne l1)⟩

end QV.ServerContent

namespace QV.ServerScan
open QV QV.Spec.Server

/-- where the table gives FORMERR it does so whatever the catalog -/
theorem endVerdict_formErr_indep (l l' : List UInt8 → Nat → Option ZoneKind) (sz : Nat) (q : Option Spec.DQuestion)
    (pos op : Nat) (h : endVerdict l sz q pos op = .formErr) : endVerdict l' sz q pos op = .formErr :=
  (endVerdict_formErr_iff l' sz q pos op).mpr ((endVerdict_formErr_iff l sz q pos op).mp h)

/-- two ends of scans with the same question that the table treats alike under one catalog are treated
    alike under every catalog -/
theorem endVerdict_transfer (l l' : List UInt8 → Nat → Option ZoneKind) (sz sz' : Nat) (q : Option Spec.DQuestion)
    (pos pos' op : Nat) (h : endVerdict l sz q pos op = endVerdict l sz' q pos' op) :
    endVerdict l' sz q pos op = endVerdict l' sz' q pos' op := by
  by_cases c1 : pos < sz
  · have e1 : ∀ l0, endVerdict l0 sz q pos op = .formErr := fun l0 => by unfold endVerdict; rw [if_pos c1]
    rw [e1 l] at h
    rw [e1 l', endVerdict_formErr_indep l l' sz' q pos' op h.symm]
  · by_cases c1' : pos' < sz'
    · have e1 : ∀ l0, endVerdict l0 sz' q pos' op = .formErr := fun l0 => by unfold endVerdict; rw [if_pos c1']
      rw [e1 l] at h
      rw [e1 l', endVerdict_formErr_indep l l' sz q pos op h]
    · unfold endVerdict
      rw [if_neg c1, if_neg c1']

/-- **the scan and the catalog**: whether a response is due, the question, the EDNS state and the UDP
    limit do not depend on the catalog; the verdict is either one the scan reaches before the decision
    table (the same for every catalog) or the table's, at the same position -/
theorem specScanWith_lookup_indep (l1 l2 : List UInt8 → Nat → Option ZoneKind) (S : Nat) (msg : Bytes) :
    (specScanWith l1 S msg).respond = (specScanWith l2 S msg).respond ∧
    (specScanWith l1 S msg).question = (specScanWith l2 S msg).question ∧
    (specScanWith l1 S msg).edns = (specScanWith l2 S msg).edns ∧
    (specScanWith l1 S msg).limitUdp = (specScanWith l2 S msg).limitUdp ∧
    (((specScanWith l1 S msg).verdict = (specScanWith l2 S msg).verdict ∧
        ((specScanWith l1 S msg).verdict = .formErr ∨ (specScanWith l1 S msg).verdict = .badVers ∨
          (specScanWith l1 S msg).verdict = .tsigReached)) ∨
      ∃ p3, (specScanWith l1 S msg).verdict =
          endVerdict l1 msg.size (specScanWith l1 S msg).question p3 ((msg.getD 2 0).toNat / 8 % 16) ∧
        (specScanWith l2 S msg).verdict =
          endVerdict l2 msg.size (specScanWith l1 S msg).question p3 ((msg.getD 2 0).toNat / 8 % 16)) := by
  rcases ServerContent.specScanWith_cases S msg with ⟨sc, hv, h⟩ | ⟨q, e, lim, p3, h⟩
  · rw [h l1, h l2]; exact ⟨rfl, rfl, rfl, rfl, Or.inl ⟨rfl, hv⟩⟩
  · rw [h l1, h l2]; exact ⟨rfl, rfl, rfl, rfl, Or.inr ⟨p3, rfl, rfl⟩⟩

end QV.ServerScan
