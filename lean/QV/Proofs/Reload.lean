/-
  QV.Proofs.Reload — helper lemmas relating `QV.Model.Reload` (load_impl on the catalog tree) to
  `QV.Spec.Reload` (the per-zone rule). The property's theorems are in `QV.Properties.C31`.
-/
import QV.Model.ReloadView
import QV.Proofs.Catalog

namespace QV.Reload
open QV QV.Catalog QV.Spec.Catalog QV.Spec.Reload

/-! ### the entry a configured zone gets -/

/-- the entry `load_impl` inserts for `zc` -/
def entryFor (fs : FS) (loadedZone : Option CEntry) (zc : ZoneConfig) : CEntry :=
  match checkMtime fs zc loadedZone with
  | .skip entry => entry
  | .load mtime =>
    match fs.load zc with
    | .ok d => ⟨zc.name, zc.cls, .Loaded, d, ⟨zc.path, mtime⟩⟩
    | .fail => makeErrorCatalogEntry zc loadedZone

theorem loadOne_eq (fs : FS) (loaded : Option Catalog) (catalog : Catalog) (zc : ZoneConfig) :
    loadOne fs loaded catalog zc =
      (insert catalog (entryFor fs (loaded.bind (fun c => get c zc.name zc.cls)) zc)).1 := by
  simp only [loadOne, entryFor]
  cases checkMtime fs zc (loaded.bind (fun c => get c zc.name zc.cls)) with
  | skip e => rfl
  | load m => cases fs.load zc <;> rfl

/-- falling back to the loaded entry means keeping the zone's previous state -/
theorem stateOf_makeError (zc : ZoneConfig) (lz : Option CEntry) :
    stateOf (makeErrorCatalogEntry zc lz) = keep (lz.map stateOf) := by
  cases lz <;> rfl

theorem keyOf_makeError (zc : ZoneConfig) (lz : Option CEntry)
    (h : ∀ e, lz = some e → keyOf e = cfgKey zc) : keyOf (makeErrorCatalogEntry zc lz) = cfgKey zc := by
  cases lz with
  | none => rfl
  | some e => exact h e rfl

theorem unchanged_eq_false {prev : Option SZone} {v : ZView} (h : ∀ t, v.stat ≠ .mtime t) :
    unchanged prev v = false := by
  unfold unchanged
  split
  · next t heq => exact absurd heq (h t)
  · rfl

/-- `check_mtime` on a file with a modification time: reuse exactly when the specification's
    `unchanged` says so -/
theorem checkMtime_ok {fs : FS} {zc : ZoneConfig} {t : Nat} (hs : fs.stat zc.path = .ok t)
    (lz : Option CEntry) :
    checkMtime fs zc lz =
      if unchanged (lz.map stateOf) (viewOfCfg fs zc) then .skip (makeErrorCatalogEntry zc lz)
      else .load (some t) := by
  unfold checkMtime unchanged viewOfCfg stateOf
  simp only [hs, statOf]
  cases lz with
  | none => rfl
  | some e =>
    by_cases hk : e.kind = .Loaded
    · simp only [hk, if_true, Option.map_some, makeErrorCatalogEntry]
      cases e.md.mtime <;> simp
    · simp only [hk, if_false, Option.map_some]; rfl

/-- the entry in closed form, in the shape of the specification's `specZone`: the one walk through
    `check_mtime` and the load -/
theorem entryFor_eq (fs : FS) (lz : Option CEntry) (zc : ZoneConfig) :
    entryFor fs lz zc =
      if unchanged (lz.map stateOf) (viewOfCfg fs zc) then makeErrorCatalogEntry zc lz
      else match (viewOfCfg fs zc).stat, (viewOfCfg fs zc).load with
        | .unreadable, _ => makeErrorCatalogEntry zc lz
        | st, some d => ⟨zc.name, zc.cls, .Loaded, d, ⟨zc.path, st.time⟩⟩
        | _, none => makeErrorCatalogEntry zc lz := by
  unfold entryFor
  cases hs : fs.stat zc.path with
  | ok t =>
    rw [checkMtime_ok hs]
    by_cases hu : unchanged (lz.map stateOf) (viewOfCfg fs zc) = true
    · simp only [hu, if_true]
    · simp only [hu, if_false]
      simp only [viewOfCfg, hs, statOf]; cases fs.load zc <;> rfl
  | err =>
    rw [unchanged_eq_false fun t => by simp only [viewOfCfg, hs, statOf]; nofun]
    simp only [checkMtime, viewOfCfg, hs, statOf]; rfl
  | unsupported =>
    rw [unchanged_eq_false fun t => by simp only [viewOfCfg, hs, statOf]; nofun]
    simp only [checkMtime, viewOfCfg, hs, statOf]; cases fs.load zc <;> rfl

/-- the entry is filed under the configuration's key, provided the previous entry was -/
theorem keyOf_entryFor (fs : FS) (lz : Option CEntry) (zc : ZoneConfig)
    (h : ∀ e, lz = some e → keyOf e = cfgKey zc) : keyOf (entryFor fs lz zc) = cfgKey zc := by
  rw [entryFor_eq]
  split
  · exact keyOf_makeError zc lz h
  · split <;> first | exact keyOf_makeError zc lz h | rfl

/-- **the per-zone rule, on entries**: what the inserted entry means is what the specification
    prescribes from the zone's own previous state and its own file -/
theorem stateOf_entryFor (fs : FS) (lz : Option CEntry) (zc : ZoneConfig) :
    stateOf (entryFor fs lz zc) = specZone (lz.map stateOf) (viewOfCfg fs zc) := by
  rw [entryFor_eq, specZone]
  by_cases hu : unchanged (lz.map stateOf) (viewOfCfg fs zc) = true
  · simp only [hu, if_true]; exact stateOf_makeError zc lz
  · simp only [hu, if_false]
    cases (viewOfCfg fs zc).stat <;> cases (viewOfCfg fs zc).load <;>
      first | exact stateOf_makeError zc lz | rfl

/-! ### the loop of `load_impl` -/

theorem foldl_insert_inv (g : ZoneConfig → CEntry) (zones : List ZoneConfig) (c0 : Catalog)
    (h : c0.Inv) : (zones.foldl (fun c zc => (insert c (g zc)).1) c0).Inv := by
  induction zones generalizing c0 with
  | nil => exact h
  | cons zc r ih => exact ih _ (inv_insert c0 (g zc) h)

theorem foldl_insert_find (g : ZoneConfig → CEntry) (hg : ∀ zc, keyOf (g zc) = cfgKey zc)
    (zones : List ZoneConfig) (c0 : Catalog) (k : Key) :
    absFind (zones.foldl (fun c zc => (insert c (g zc)).1) c0) k =
      match lastCfg k zones with
      | some zc => some (g zc)
      | none => absFind c0 k := by
  induction zones generalizing c0 with
  | nil => rfl
  | cons zc r ih =>
    simp only [List.foldl_cons, ih, lastCfg]
    cases lastCfg k r with
    | some x => rfl
    | none =>
      simp only [absFind_insert, hg]
      by_cases hk : cfgKey zc = k
      · simp [hk]
      · have : ¬ k = cfgKey zc := fun e => hk e.symm
        simp [hk, this]

/-- the previous entry of a zone, as `load_impl` fetches it (exact `get`) -/
def prevEntry (loaded : Option Catalog) (k : Key) : Option CEntry :=
  loaded.bind (fun c => absFind c k)

theorem get_eq_prevEntry (loaded : Option Catalog) (hl : ∀ c, loaded = some c → c.Inv)
    (zc : ZoneConfig) :
    loaded.bind (fun c => get c zc.name zc.cls) = prevEntry loaded (cfgKey zc) := by
  cases loaded with
  | none => rfl
  | some c => simp only [Option.bind_some, prevEntry]; exact get_eq_absFind c (hl c rfl).2 _ _

theorem loadImpl_eq (fs : FS) (zones : List ZoneConfig) (loaded : Option Catalog)
    (hl : ∀ c, loaded = some c → c.Inv) :
    loadImpl fs zones loaded =
      zones.foldl (fun c zc => (insert c (entryFor fs (prevEntry loaded (cfgKey zc)) zc)).1)
        Cat.empty := by
  unfold loadImpl
  congr 1
  funext c zc
  rw [loadOne_eq, get_eq_prevEntry loaded hl]

theorem keyOf_entryFor_prev (fs : FS) (loaded : Option Catalog)
    (hl : ∀ c, loaded = some c → c.Inv) (zc : ZoneConfig) :
    keyOf (entryFor fs (prevEntry loaded (cfgKey zc)) zc) = cfgKey zc := by
  apply keyOf_entryFor
  intro e he
  cases loaded with
  | none => simp [prevEntry] at he
  | some c => exact (hl c rfl).2 _ _ (by simpa [prevEntry] using he)

theorem loadImpl_inv (fs : FS) (zones : List ZoneConfig) (loaded : Option Catalog)
    (hl : ∀ c, loaded = some c → c.Inv) : (loadImpl fs zones loaded).Inv := by
  rw [loadImpl_eq fs zones loaded hl]
  exact foldl_insert_inv _ zones _ inv_empty

/-- the configuration in force for a key is one of the list and has that key -/
theorem lastCfg_mem (k : Key) (zones : List ZoneConfig) (zc : ZoneConfig)
    (h : lastCfg k zones = some zc) : zc ∈ zones ∧ cfgKey zc = k := by
  induction zones with
  | nil => simp [lastCfg] at h
  | cons z r ih =>
    simp only [lastCfg] at h
    cases hr : lastCfg k r with
    | some x =>
      rw [hr] at h; cases h
      exact ⟨List.mem_cons_of_mem _ (ih hr).1, (ih hr).2⟩
    | none =>
      rw [hr] at h
      by_cases hz : cfgKey z = k
      · simp only [hz, if_true, Option.some.injEq] at h; subst h; exact ⟨List.mem_cons_self, hz⟩
      · simp [hz] at h

/-- **one reload, key by key** -/
theorem loadImpl_find (fs : FS) (zones : List ZoneConfig) (loaded : Option Catalog)
    (hl : ∀ c, loaded = some c → c.Inv) (k : Key) :
    (absFind (loadImpl fs zones loaded) k).map stateOf =
      match lastCfg k zones with
      | some zc => some (specZone ((prevEntry loaded k).map stateOf) (viewOfCfg fs zc))
      | none => none := by
  rw [loadImpl_eq fs zones loaded hl,
    foldl_insert_find _ (keyOf_entryFor_prev fs loaded hl) zones Cat.empty k]
  cases hlc : lastCfg k zones with
  | none => simp [absFind, Cat.empty, aget]
  | some zc =>
    have := (lastCfg_mem k zones zc hlc).2
    simp only [Option.map_some, stateOf_entryFor, this]

/-! ### the daemon's history -/

/-- what the served catalog means for key `k` -/
def servedAt (st : Option Catalog) (k : Key) : Option SZone :=
  (prevEntry st k).map stateOf

theorem daemonStep_inv (st : Option Catalog) (step : Step) (h : ∀ c, st = some c → c.Inv) :
    ∀ c, daemonStep st step = some c → c.Inv := by
  intro c hc
  cases step with
  | configError => exact h c hc
  | reload zones fs =>
    cases st with
    | none =>
      simp only [daemonStep, load, Option.some.injEq] at hc
      subst hc; exact loadImpl_inv fs zones none (by simp)
    | some c0 =>
      simp only [daemonStep, reload, Option.some.injEq] at hc
      subst hc; exact loadImpl_inv fs zones (some c0) h

theorem daemonStep_served (st : Option Catalog) (step : Step) (h : ∀ c, st = some c → c.Inv)
    (k : Key) :
    servedAt (daemonStep st step) k = Spec.Reload.specStep (servedAt st k) (viewOf k step) := by
  cases step with
  | configError => rfl
  | reload zones fs =>
    have key : ∀ loaded : Option Catalog, (∀ c, loaded = some c → c.Inv) →
        servedAt (some (loadImpl fs zones loaded)) k =
          Spec.Reload.specStep (servedAt loaded k) (viewOf k (.reload zones fs)) := by
      intro loaded hl
      simp only [servedAt, prevEntry, Option.bind_some, loadImpl_find fs zones loaded hl k, viewOf]
      cases lastCfg k zones <;> rfl
    cases st with
    | none => exact key none (by simp)
    | some c0 => exact key (some c0) h

theorem daemonRun_foldl (steps : List Step) (st : Option Catalog) (f : Key → Option SZone)
    (h : ∀ c, st = some c → c.Inv) (hf : ∀ k, servedAt st k = f k) :
    (∀ c, steps.foldl daemonStep st = some c → c.Inv) ∧
      ∀ k, servedAt (steps.foldl daemonStep st) k =
        (steps.map (viewOf k)).foldl Spec.Reload.specStep (f k) := by
  induction steps generalizing st f with
  | nil => exact ⟨h, hf⟩
  | cons s r ih =>
    simp only [List.foldl_cons, List.map_cons]
    exact ih (daemonStep st s) (fun k => Spec.Reload.specStep (f k) (viewOf k s)) (daemonStep_inv st s h)
      (fun k => by rw [daemonStep_served st s h k, hf k])

/-- the idealised daemon: every served catalog satisfies the invariant and puts every key in the
    state its own view of the history prescribes -/
theorem daemonRun_spec (steps : List Step) :
    (∀ c, daemonRun steps = some c → c.Inv) ∧
      ∀ k, servedAt (daemonRun steps) k = specHist (steps.map (viewOf k)) :=
  daemonRun_foldl steps none (fun _ => none) (by simp) (fun _ => rfl)

/-! ### the signal loop with explicit plumbing -/

theorem loopStep_good (alt : Catalog) (s : Option Catalog) (step : Step) :
    loopStep .good alt ⟨s, s⟩ step = ⟨daemonStep s step, daemonStep s step⟩ := by
  cases step with
  | configError => rfl
  | reload zones fs => cases s <;> rfl

/-- a loop that installs and threads every catalog it builds is the idealised daemon -/
theorem loopRun_good (alt : Catalog) (steps : List Step) :
    loopRun .good alt steps = ⟨daemonRun steps, daemonRun steps⟩ := by
  unfold loopRun daemonRun
  generalize (none : Option Catalog) = s
  induction steps generalizing s with
  | nil => rfl
  | cons st r ih => simp only [List.foldl_cons, loopStep_good, ih]

end QV.Reload
