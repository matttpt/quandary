/-
  QV.Proofs.ScanOpt — the pieces of the additional-section scan that look *inside* a record:

  * `Rdata::read` for OPT (and the dispatch for TSIG): the model's `validate_as_opt` accepts exactly
    the RDATA the spec's `optRdataOk` accepts (EDNS option TLVs exactly filling the RDATA);
  * a name the parser returned is a well-formed `Name` (`WName.parse` of its wire form succeeds and
    gives back the same octets) — the `unreachable` arm of the model's question handling.
-/
import QV.Proofs.ScanBasic
import QV.Proofs.ServerNames

namespace QV.ServerScan
open QV QV.Wire QV.Reader

/-! ### `Rdata::read` dispatch for the two pseudo-RR types -/

theorem read_opt (c : Nat) (msg : Bytes) (cur len : Nat) :
    Rdata.read c 41 msg cur len = Rdata.withoutDecompression Rdata.validateAsOpt msg cur len :=
  Rdata.read_eq c 41 msg cur len

theorem read_tsig (c : Nat) (msg : Bytes) (cur len : Nat) :
    Rdata.read c 250 msg cur len = Rdata.withoutDecompression Rdata.validateAsTsig msg cur len :=
  Rdata.read_eq c 250 msg cur len

/-- `without_decompression(validator)` when the RDATA lies inside the message -/
theorem withoutDecompression_eq (v : Bytes → Out Rdata.RErr Unit) (msg : Bytes) (cur len : Nat)
    (h : cur + len ≤ msg.size) (hm : msg.size ≤ Rdata.USIZE_MAX) (hl : len ≤ 65535) :
    Rdata.withoutDecompression v msg cur len =
      (v (msg.extract cur (cur + len)) >>= fun _ => .ok (msg.extract cur (cur + len))) := by
  unfold Rdata.withoutDecompression Rdata.prepareToReadRdata
  simp only [show ¬ cur + len > Rdata.USIZE_MAX by omega, show ¬ cur + len > msg.size by omega, if_false]
  show (Rdata.sliceFrom (msg.extract 0 (cur + len)) cur >>= _) = _
  unfold Rdata.sliceFrom
  have hs : (msg.extract 0 (cur + len)).size = cur + len := by simp; omega
  simp only [hs, show cur ≤ cur + len by omega, if_true]
  show (Rdata.mkRdata ((msg.extract 0 (cur + len)).extract cur (cur + len)) >>= _) = _
  have he : (msg.extract 0 (cur + len)).extract cur (cur + len) = msg.extract cur (cur + len) := by
    have := extract_extract0 msg cur len h
    rwa [hs] at this
  rw [he]
  unfold Rdata.mkRdata
  have hs2 : (msg.extract cur (cur + len)).size = len := by simp; omega
  simp only [hs2, Rdata.RDATA_MAX, show ¬ len > 65535 by omega, if_false]
  rfl

/-! ### OPT RDATA -/

theorem getD_extract (msg : Bytes) (a b i : Nat) (h : a + i < b) (hb : b ≤ msg.size) :
    (msg.extract a b).getD i 0 = msg.getD (a + i) 0 := by
  have h1 : i < (msg.extract a b).size := by simp; omega
  have h2 : a + i < msg.size := by omega
  simp [Array.getD, h1, h2]
  rw [dif_pos (by omega)]

theorem be16_extract (msg : Bytes) (a b i : Nat) (h : a + i + 2 ≤ b) (hb : b ≤ msg.size) :
    be16 (msg.extract a b) i = be16 msg (a + i) := by
  unfold be16
  rw [getD_extract msg a b i (by omega) hb, getD_extract msg a b (i + 1) (by omega) hb]
  rfl

/-- `validate_as_opt` = the spec's "option TLVs exactly fill the RDATA" -/
theorem optLoop_spec (msg : Bytes) (cur len : Nat) (h : cur + len ≤ msg.size) :
    ∀ fuel off, off ≤ len → len - off < fuel →
      Rdata.optLoop (msg.extract cur (cur + len)) off ≠ .panic ∧
      (Rdata.optLoop (msg.extract cur (cur + len)) off = .ok () ↔
        Spec.Server.optRdataOk msg fuel (cur + off) (cur + len) = true) := by
  have hsz : (msg.extract cur (cur + len)).size = len := by simp; omega
  intro fuel
  induction fuel with
  | zero => intro off h1 h2; omega
  | succ f ih =>
    intro off h1 h2
    rw [Rdata.optLoop]
    unfold Spec.Server.optRdataOk
    by_cases hlt : off < len
    · have hne : (cur + off == cur + len) = false := by simp; omega
      simp only [hsz, hlt, if_true, hne, Bool.false_eq_true, if_false]
      unfold Rdata.validateOption
      have hsz2 : ((msg.extract cur (cur + len)).extract off len).size = len - off := by simp [hsz]; omega
      rw [specField16_eq]
      by_cases h4 : 4 ≤ len - off
      · have hbe : be16 ((msg.extract cur (cur + len)).extract off len) 2 = be16 msg (cur + off + 2) := by
          rw [be16_extract _ off len 2 (by omega) (by rw [hsz]; omega),
            be16_extract msg cur (cur + len) (off + 2) (by omega) h]
          congr 1
        simp only [hsz2, h4, if_true, hbe, show cur + off + 2 + 2 ≤ msg.size by omega]
        by_cases h5 : len - off ≥ be16 msg (cur + off + 2) + 4
        · have hn0 : ¬ be16 msg (cur + off + 2) + 4 = 0 := by omega
          simp only [h5, if_true, hn0, if_false,
            show cur + off + 4 + be16 msg (cur + off + 2) ≤ cur + len by omega]
          have := ih (off + (be16 msg (cur + off + 2) + 4)) (by omega) (by omega)
          have e : cur + (off + (be16 msg (cur + off + 2) + 4)) = cur + off + 4 + be16 msg (cur + off + 2) := by
            omega
          rw [e] at this
          exact this
        · simp only [h5, if_false, show ¬ cur + off + 4 + be16 msg (cur + off + 2) ≤ cur + len by omega]
          simp
      · simp only [hsz2, h4, if_false]
        refine ⟨by simp, ?_⟩
        constructor
        · intro hh; cases hh
        · intro hh
          split at hh
          · split at hh
            · rename_i v hv hle
              omega
            · cases hh
          · cases hh
    · have he : (cur + off == cur + len) = true := by simp; omega
      simp only [hsz, hlt, if_false, he, if_true]
      simp

/-- `Rdata::read` for OPT (as the reader sees it, `Server.rdRead`) never panics on a delimited
    record and accepts exactly the RDATA the spec accepts -/
theorem rdRead_opt (c : Nat) (msg : Bytes) (cur len : Nat) (h : cur + len ≤ msg.size)
    (hm : msg.size ≤ Rdata.USIZE_MAX) (hl : len ≤ 65535) :
    if Spec.Server.optRdataOk msg (len + 1) cur (cur + len) then
      ∃ rd, Server.rdRead c 41 msg cur len = .ok rd
    else ∃ e, Server.rdRead c 41 msg cur len = .err e := by
  unfold Server.rdRead
  rw [read_opt, withoutDecompression_eq _ _ _ _ h hm hl]
  unfold Rdata.validateAsOpt
  obtain ⟨hnp, hiff⟩ := optLoop_spec msg cur len h (len + 1) 0 (by omega) (by omega)
  simp only [Nat.add_zero] at hiff
  cases ho : Rdata.optLoop (msg.extract cur (cur + len)) 0 with
  | ok u =>
    have : Spec.Server.optRdataOk msg (len + 1) cur (cur + len) = true := hiff.mp (by rw [ho])
    rw [this]
    exact ⟨_, rfl⟩
  | err e =>
    have : ¬ Spec.Server.optRdataOk msg (len + 1) cur (cur + len) = true := by
      intro hh; have := hiff.mpr hh; rw [ho] at this; cases this
    simp only [this, if_false, Bool.false_eq_true]
    exact ⟨_, rfl⟩
  | panic => exact absurd ho hnp

/-! ### a parsed name is a `Name` -/

/-- the wire form a successful parse returns is accepted by `Name::try_from_uncompressed_all`, and
    converts back to the same octets -/
theorem wname_of_parse (msg : Bytes) (s : Nat) (p : Parsed) (h : parseCompressed msg s = .ok p) :
    ∃ n : Writer.WName, Writer.WName.parse p.wire = some (n, []) ∧ n.wire = p.wire := by
  obtain ⟨hd, hl⟩ := (C14.C14_parse_ok_iff msg s p).mp h
  obtain ⟨n, _, hw, hp⟩ := ServerSafety.isWire_parse (ServerSafety.decodes_isWire hd) hl
  exact ⟨n, hp, hw⟩

end QV.ServerScan
