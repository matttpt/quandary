/-
  QV.Proofs.AuditPlain — C10, "answered normally", no-data verdicts.

  Under the audit's guard `plainComparable` the scan of the request without its TSIG record has the
  question, EDNS state and UDP limit of the signed request's scan and ends with the verdict of the decision
  table after the TSIG record — for the audit's catalog.  The verdict transfers to the server's own
  catalog (`endVerdict_transfer`: the table's structural verdicts do not depend on the catalog, the others
  only on the question), so the response to the stripped request is the unsigned no-data response with
  the same RCODE.
-/
import QV.Proofs.AuditMac
import QV.Proofs.ServerProps

namespace QV.ServerScan
open QV QV.Spec.Server QV.ServerContent

theorem postVerdict_eq (l : List UInt8 → Nat → Option ZoneKind) (msg : Bytes) (q : Option Spec.DQuestion) (pos : Nat) :
    Spec.ServerTsig.postVerdict l msg q pos = endVerdict l msg.size q pos ((msg.getD 2 0).toNat / 8 % 16) := by
  unfold Spec.ServerTsig.postVerdict endVerdict
  rfl

/-! ### the response to a request the scan decides alone, decoded -/

/-- the unsigned no-data response: no answer or authority records, RCODE of the verdict, AA and TC clear -/
theorem plain_nodata_decoded (cfg : Server.Cfg) (tr : Server.Transport) (now bufLen : Nat) (req : Bytes)
    (hbuf : minBuf tr cfg.payload ≤ bufLen) (hpay : 512 ≤ cfg.payload) (hp16 : cfg.payload ≤ 65535)
    (hreq : req.size ≤ Rdata.USIZE_MAX)
    (hr : (specScanWith (catKind cfg) cfg.payload req).respond = true)
    (hv : noDataV (specScanWith (catKind cfg) cfg.payload req).verdict = true) :
    ∃ b, Server.handleMessage cfg tr now bufLen req = .ok (some b) ∧
      ∀ d, Spec.specDecodeMsg b = some d →
        d.an = [] ∧ d.ns = [] ∧
        d.rcode = (verdictRcode (specScanWith (catKind cfg) cfg.payload req).verdict).1 % 16 ∧
        d.aa = false ∧ d.tc = false := by
  obtain ⟨F, b, mac, hb, hf, hG, _, _⟩ := unsigned_nodata_final cfg tr now bufLen req hbuf hpay hp16 hreq hr hv
  obtain ⟨b2, hb2, hl⟩ := server_error_response cfg tr now bufLen req hbuf hpay hreq hr hv
  rw [hb] at hb2
  cases hb2
  refine ⟨b, hb, fun d hd => ?_⟩
  -- the sections from the writer's content, the flags from the octets of the response
  obtain ⟨hq1, hq2, hq3⟩ := qBody_norecs (specScanWith (catKind cfg) cfg.payload req).question
  obtain ⟨_, _, c3, c4⟩ := opt_of_good Server.macFn F _ hG (by rw [hq3]; intro r hr; cases hr) b mac hf d hd
  rw [hq1] at c3; rw [hq2] at c4
  obtain ⟨_, _, h2, h3, _⟩ := errResp_facts _ _ _ _ hl
  obtain ⟨_, _, f3, f4, _, _, _, f8⟩ := flags_facts b req _ (verdictRcode_lt _) h2 h3
  have hfl := decode_flags b d hd
  refine ⟨List.length_eq_zero_iff.mp c3, List.length_eq_zero_iff.mp c4, ?_, ?_, ?_⟩
  · show d.flags % 16 = _
    rw [hfl, f8, Nat.mod_eq_of_lt (verdictRcode_lt _)]
  · show (d.flags / 1024 % 2 == 1) = false
    rw [hfl, f3]; rfl
  · show (d.flags / 512 % 2 == 1) = false
    rw [hfl, f4]; rfl

/-! ### the request without its TSIG record -/

section
open Spec.ServerTsig

/-- `bump` rewrites the two octets of its field and nothing before them -/
theorem bump_getElem?_lt (m : Spec.Tsig.Octets) (off by' i : Nat) (hi : i < off) (ho : off ≤ m.length) :
    (bump m off by')[i]? = m[i]? := by
  unfold bump
  rw [List.append_assoc, List.getElem?_append_left (by rw [List.length_take]; omega), List.getElem?_take_of_lt hi]

theorem bump_length (m : Spec.Tsig.Octets) (off by' : Nat) (h : off + 2 ≤ m.length) : (bump m off by').length = m.length := by
  simp only [bump, List.length_append, List.length_take, List.length_drop, Spec.Tsig.u16, List.length_cons, List.length_nil]
  omega

/-- decrementing ARCOUNT in a message of at least twelve octets: the first ten octets and the length stay -/
theorem bump_arcount (m : Spec.Tsig.Octets) (h : 12 ≤ m.length) :
    (∀ i, i < 10 → (bump m 10 65535).toArray.getD i 0 = m.getD i 0) ∧ (bump m 10 65535).toArray.size = m.length := by
  refine ⟨fun i hi => ?_, by rw [List.size_toArray, bump_length _ _ _ (by omega)]⟩
  rw [Array.getD_eq_getD_getElem?, List.getElem?_toArray, bump_getElem?_lt _ _ _ _ hi (by omega), List.getD_eq_getElem?_getD]

/-- taking the TSIG record out leaves the first ten octets of the header alone -/
theorem strip_header (req : Bytes) (d : Delim) (hfind : findTsig req = some d) (h12 : 12 ≤ d.pos)
    (hdsz : d.pos ≤ req.size) (hnext : d.pos ≤ d.next) (hnsz : d.next ≤ req.size) :
    ∃ p, stripTsigRr req = some p ∧ (∀ i, i < 10 → p.getD i 0 = req.getD i 0) ∧ p.size ≤ req.size ∧ 12 ≤ p.size := by
  have hl : ((req.extract 0 d.pos).toList ++ (req.extract d.next req.size).toList).length =
      d.pos + (req.size - d.next) := by
    simp only [List.length_append, Array.length_toList, Array.size_extract]; omega
  obtain ⟨h1, h2⟩ := bump_arcount ((req.extract 0 d.pos).toList ++ (req.extract d.next req.size).toList) (by omega)
  refine ⟨_, by unfold stripTsigRr; rw [hfind], fun i hi => ?_, by omega, by omega⟩
  rw [h1 i hi, List.getD_eq_getElem?_getD, List.getElem?_append_left (by simp; omega), Array.getElem?_toList,
    Array.getElem?_extract, if_pos (by omega), Nat.zero_add, Array.getD_eq_getD_getElem?]
end

open Spec.ServerTsig in
/-- **the scan of the request without its TSIG record**, under the audit's guard `plainComparable`: a
    response is due; question, EDNS state and UDP limit are those of the audit's scan of the signed
    request; and the verdict — for the server's own catalog — is the decision table's after the TSIG
    record (the guard states it for the audit's catalog: `endVerdict_transfer`) -/
theorem plain_scan_of_comparable (cfg : Server.Cfg) (cat : List ZoneCfg) (req : Bytes)
    (d : Delim) (hfind : findTsig req = some d) (h12 : 12 ≤ d.pos)
    (hdsz : d.pos ≤ req.size) (hnext : d.pos ≤ d.next) (hnsz : d.next ≤ req.size)
    (iq : (specScan cat cfg.payload req).question = (specScanWith (catKind cfg) cfg.payload req).question)
    (hcmp : plainComparable cat cfg.payload req = true) :
    ∃ p, stripTsigRr req = some p ∧ (∀ i, i < 10 → p.getD i 0 = req.getD i 0) ∧ p.size ≤ req.size ∧ 12 ≤ p.size ∧
      (specScanWith (catKind cfg) cfg.payload p).respond = true ∧
      (specScanWith (catKind cfg) cfg.payload p).question = (specScan cat cfg.payload req).question ∧
      (specScanWith (catKind cfg) cfg.payload p).edns = (specScan cat cfg.payload req).edns ∧
      (specScanWith (catKind cfg) cfg.payload p).limitUdp = (specScan cat cfg.payload req).limitUdp ∧
      (specScanWith (catKind cfg) cfg.payload p).verdict =
        endVerdict (catKind cfg) req.size (specScanWith (catKind cfg) cfg.payload req).question d.next
          ((req.getD 2 0).toNat / 8 % 16) := by
  obtain ⟨p, hstrip, hp10, hpsz, hp12⟩ := strip_header req d hfind h12 hdsz hnext hnsz
  have hp2 := hp10 2 (by omega)
  unfold plainComparable at hcmp
  rw [hfind, hstrip] at hcmp
  simp only [Bool.and_eq_true, decide_eq_true_eq] at hcmp
  obtain ⟨⟨⟨⟨c1, c2⟩, c3⟩, c4⟩, c5⟩ := hcmp
  rw [postVerdict_eq] at c5
  obtain ⟨r1, r2, r3, r4, rv⟩ := specScanWith_lookup_indep
    (fun qn qc => (specCatalogLookup cat qn qc).map (·.kind)) (catKind cfg) cfg.payload p
  have c1' : (specScanWith (fun qn qc => (specCatalogLookup cat qn qc).map (·.kind)) cfg.payload p).respond = true := c1
  have c2' : (specScanWith (fun qn qc => (specCatalogLookup cat qn qc).map (·.kind)) cfg.payload p).question =
      (specScan cat cfg.payload req).question := c2
  have c3' : (specScanWith (fun qn qc => (specCatalogLookup cat qn qc).map (·.kind)) cfg.payload p).edns =
      (specScan cat cfg.payload req).edns := c3
  have c4' : (specScanWith (fun qn qc => (specCatalogLookup cat qn qc).map (·.kind)) cfg.payload p).limitUdp =
      (specScan cat cfg.payload req).limitUdp := c4
  have c5' : (specScanWith (fun qn qc => (specCatalogLookup cat qn qc).map (·.kind)) cfg.payload p).verdict =
      endVerdict (fun qn qc => (specCatalogLookup cat qn qc).map (·.kind)) req.size (specScan cat cfg.payload req).question
        d.next ((req.getD 2 0).toNat / 8 % 16) := c5
  refine ⟨p, hstrip, hp10, hpsz, hp12, by rw [← r1]; exact c1', by rw [← r2]; exact c2', by rw [← r3]; exact c3',
    by rw [← r4]; exact c4', ?_⟩
  rw [← iq]
  rcases rv with ⟨e1, e2⟩ | ⟨p3, e1, e2⟩
  · -- a verdict reached before the table: it can only be FORMERR, which the table gives whatever the catalog
    rw [← e1]
    rw [c5'] at e2 ⊢
    have hf : endVerdict (fun qn qc => (specCatalogLookup cat qn qc).map (·.kind)) req.size
        (specScan cat cfg.payload req).question d.next ((req.getD 2 0).toNat / 8 % 16) = .formErr := by
      rcases endVerdict_range (fun qn qc => (specCatalogLookup cat qn qc).map (·.kind)) req.size
        (specScan cat cfg.payload req).question d.next ((req.getD 2 0).toNat / 8 % 16) with h | h | h | h | h <;>
        rw [h] at e2 ⊢ <;> rcases e2 with e2 | e2 | e2 <;> first | rfl | cases e2
    rw [hf, endVerdict_formErr_indep _ (catKind cfg) _ _ _ _ hf]
  · rw [e2, c2', hp2]
    rw [e1, c2', hp2] at c5'
    exact endVerdict_transfer _ (catKind cfg) _ _ _ _ _ _ c5'

open Spec.ServerTsig in
/-- **"answered normally" for an authenticated request with a no-data verdict**: under the audit's guard
    the response to the request without its TSIG record is the unsigned no-data response of the same
    verdict -/
theorem plain_nodata_of_comparable (cfg : Server.Cfg) (cat : List ZoneCfg) (tr : Server.Transport) (now : Nat)
    (req : Bytes) (hpay : 512 ≤ cfg.payload) (hp16 : cfg.payload ≤ 65535) (hreq : req.size ≤ Rdata.USIZE_MAX)
    (d : Delim) (hfind : findTsig req = some d) (h12 : 12 ≤ d.pos)
    (hdsz : d.pos ≤ req.size) (hnext : d.pos ≤ d.next) (hnsz : d.next ≤ req.size)
    (iq : (specScan cat cfg.payload req).question = (specScanWith (catKind cfg) cfg.payload req).question)
    (v : Verdict) (hvv : v = .formErr ∨ v = .notImp ∨ v = .refused ∨ v = .servFailZone)
    (hev : endVerdict (catKind cfg) req.size (specScanWith (catKind cfg) cfg.payload req).question d.next
      ((req.getD 2 0).toNat / 8 % 16) = v)
    (hcmp : plainComparable cat cfg.payload req = true) :
    ∃ p, stripTsigRr req = some p ∧ ∃ pb, Server.handleMessage cfg tr now 65535 p = .ok (some pb) ∧
      ∀ pd, Spec.specDecodeMsg pb = some pd →
        pd.an = [] ∧ pd.ns = [] ∧ pd.rcode = (verdictRcode v).1 % 16 ∧ pd.aa = false ∧ pd.tc = false := by
  obtain ⟨p, hstrip, _, hpsz, _, hrP, _, _, _, hvP⟩ :=
    plain_scan_of_comparable cfg cat req d hfind h12 hdsz hnext hnsz iq hcmp
  rw [hev] at hvP
  have hnd : noDataV (specScanWith (catKind cfg) cfg.payload p).verdict = true := by
    rw [hvP]; rcases hvv with rfl | rfl | rfl | rfl <;> rfl
  have hbuf : minBuf tr cfg.payload ≤ 65535 := by cases tr <;> simp only [minBuf] <;> omega
  obtain ⟨pb, hpb, hall⟩ := plain_nodata_decoded cfg tr now 65535 p hbuf hpay hp16
    (Nat.le_trans hpsz hreq) hrP hnd
  refine ⟨p, hstrip, pb, hpb, fun pd hpd => ?_⟩
  have := hall pd hpd
  rw [hvP] at this
  exact this

end QV.ServerScan
