/-
  QV.Proofs.ServerDecodeCongr — the decoder congruence (`DecodeCongrT`, `decodeCongrT`) that the comparison
  clause of C10 rests on, for bodies whose answer / authority records have 16-bit types: two `Good` writers with the same body that agree below the cursor
  (`modS`, `lift`, `Same`) finish into messages whose decodings carry the same answer and
  authority records and the same additional records apart from OPT and TSIG.

  Both decodings read the same octets: the records of the layout chain lie below the common cursor,
  `finish` keeps them (`finishWithMac_pres`), and the decoder reads a chain from those octets only
  (`decodeRrs_det`, `QV.Proofs.WriterDecodeCongr`). The additional records are address records:
  decoded exactly as given (`RMatch`).
-/
import QV.Proofs.ServerSignedPlain
import QV.Proofs.ServerAnswerTyped
import QV.Proofs.WriterDecodeCongr

namespace QV.ServerContent
open QV QV.Wire QV.Writer QV.Server QV.ServerSafety QV.ServerScan QV.ServerAnswer QV.Spec QV.ServerTsig
open QV.Spec.Server QV.Spec.ServerTsig

/-- the key of a record given, as the audit builds it from an exact decoding -/
def givenKey (r : RRec) : RrKey :=
  ⟨r.owner.wire.map lowerU8, r.ty % 65536, r.cls % 65536, r.ttl % 4294967296, r.rdata⟩

theorem addr_no_cname (cls ty : Nat) (h : ty = 1 ∨ ty = 28) :
    ∀ ts, componentTypes cls ty = some ts → CompType.compressibleName ∉ ts := by
  intro ts hct
  rw [componentTypes_layout] at hct
  simp only [Option.some.injEq] at hct
  subst hct
  unfold Message.layoutOf
  rcases h with rfl | rfl
  · simp only [Nat.reduceEqDiff, or_self, if_false, false_and]
    split <;> simp [layToComp]
  · simp

/-- address records are decoded exactly; OPT and TSIG records are not "plain" -/
theorem plainRrs_of_match : ∀ (its : List RItC) (ds : List DRr) (A B : List RRec), All2 RMatch its ds →
    its.map (·.r) = A ++ B → (∀ r ∈ A, r.ty = 1 ∨ r.ty = 28) → (∀ r ∈ B, r.ty = 41 ∨ r.ty = 250) →
    plainRrs ds = A.map givenKey := by
  intro its ds A B h
  induction h generalizing A B with
  | nil =>
    intro hm _ _
    have : A = [] := by
      cases A with
      | nil => rfl
      | cons a as => simp at hm
    subst this
    rfl
  | @cons it dr its ds hh _ ih =>
    intro hm hA hB
    obtain ⟨g1, _, g3, g4, g5, _, g7⟩ := hh
    cases A with
    | nil =>
      simp only [List.nil_append, List.map_cons] at hm
      cases B with
      | nil => cases hm
      | cons b bs =>
        simp only [List.cons.injEq] at hm
        obtain ⟨hrb, hrest⟩ := hm
        have := ih [] bs (by simpa using hrest) (fun _ hx => by cases hx)
          (fun r hx => hB r (List.mem_cons_of_mem _ hx))
        have hty : dr.ty = 41 ∨ dr.ty = 250 := by
          rcases hB b List.mem_cons_self with e | e <;> rw [g3, hrb, e] <;> simp
        unfold plainRrs at this ⊢
        rw [List.filter_cons]
        have hf : (decide (dr.ty ≠ 41 ∧ dr.ty ≠ 250)) = false := by
          rcases hty with e | e <;> simp [e]
        rw [hf]
        exact this
    | cons a as =>
      simp only [List.cons_append, List.map_cons, List.cons.injEq] at hm
      obtain ⟨hra, hrest⟩ := hm
      have hta := hA a List.mem_cons_self
      have := ih as B hrest (fun r hx => hA r (List.mem_cons_of_mem _ hx)) hB
      have hlt : it.r.ty < 65536 := by rw [hra]; rcases hta with e | e <;> omega
      have hrd := (g7 hlt _ (componentTypes_total it.r.cls it.r.ty).choose_spec
        (addr_no_cname _ _ (by rw [hra]; exact hta) _ (componentTypes_total it.r.cls it.r.ty).choose_spec)).1
      have hty : dr.ty = a.ty := by rw [g3, hra, Nat.mod_eq_of_lt (by rcases hta with e | e <;> omega)]
      unfold plainRrs at this ⊢
      rw [List.filter_cons]
      have hf : (decide (dr.ty ≠ 41 ∧ dr.ty ≠ 250)) = true := by
        rw [hty]; rcases hta with e | e <;> simp [e]
      rw [hf]
      simp only [if_true, List.map_cons, this]
      have hk : rrKey dr = givenKey a := by
        have hown : dr.owner.map QV.Spec.Tsig.lower = it.r.owner.wire.map lowerU8 := by
          rw [← g1]
          exact List.map_congr_left (fun b _ => (Tsig.lowerU8_eq_spec b).symm)
        unfold rrKey givenKey
        rw [g3, g4, g5, hrd, hown, ← hra]
      rw [hk]

theorem optRecs'_ty (e : Option Edns) : ∀ r ∈ optRecs' e, r.ty = 41 ∨ r.ty = 250 := by
  intro r hr
  cases e with
  | none => cases hr
  | some e =>
    simp only [optRecs', List.mem_singleton] at hr
    subst hr
    left
    show Writer.T_OPT = 41
    decide +kernel

theorem tsigRecs_ty (t : Option Writer.Tsig) (mac : Option (List UInt8)) : ∀ r ∈ tsigRecs t mac, r.ty = 41 ∨ r.ty = 250 := by
  intro r hr
  cases t with
  | none => cases hr
  | some t =>
    simp only [tsigRecs, List.mem_singleton] at hr
    subst hr
    right
    show Writer.T_TSIG = 250
    decide +kernel

theorem decodeRrs_pos_le (msg : Bytes) : ∀ (n p : Nat) (l : List DRr) (p' : Nat),
    decodeRrs msg n p = some (l, p') → p ≤ p' := by
  intro n
  induction n with
  | zero => intro p l p' h; simp only [decodeRrs, Option.some.injEq, Prod.mk.injEq] at h; omega
  | succ n ih =>
    intro p l p' h
    simp only [decodeRrs] at h
    split at h
    · split at h
      · split at h
        · split at h
          · rename_i hrec
            have := ih _ _ _ hrec
            simp only [Option.some.injEq, Prod.mk.injEq] at h
            omega
          · cases h
        · cases h
      · cases h
    · cases h

/-- **`DecodeCongr` for bodies with 16-bit answer / authority types** -/
theorem decodeCongr_typed (F1 F2 t0 : State) (bd : Body) (L : Nat) (T : Option Writer.Tsig) (R : Nat)
    (b1 b2 : Bytes) (m1 m2 : Option (List UInt8)) (d1 d2 : DMsg)
    (hG1 : Good F1 bd) (hG2 : Good F2 bd) (har : ∀ r ∈ bd.ar, r.ty = 1 ∨ r.ty = 28)
    (hty : ∀ r ∈ bd.an ++ bd.ns, r.ty < 65536)
    (hms : modS L T F2 = lift R t0) (hS : Same F1 t0)
    (hf1 : Writer.finish F1 Server.macFn = .ok (b1, m1)) (hf2 : Writer.finish F2 Server.macFn = .ok (b2, m2))
    (hd1 : specDecodeMsg b1 = some d1) (hd2 : specDecodeMsg b2 = some d2) :
    d1.an.map rrKey = d2.an.map rrKey ∧ d1.ns.map rrKey = d2.ns.map rrKey ∧ plainRrs d1.ar = plainRrs d2.ar := by
  obtain ⟨hI1, hl1, mb1, hL1⟩ := hG1
  obtain ⟨hI2, hl2, mb2, hL2⟩ := hG2
  have hsz1 : b1.size ≤ 65535 := by have := finish_size_le_limit _ _ hI1.inv b1 m1 hf1; omega
  have hsz2 : b2.size ≤ 65535 := by have := finish_size_le_limit _ _ hI2.inv b2 m2 hf2; omega
  obtain ⟨e1, _, _, _, iar1, he1, _, _, _, hiar1, _, _, _, hmr1, _, _, sF1, len1, p21, p31, hw1, hb1, wF1, hda1, hdn1⟩ :=
    finish_decodes_core Server.macFn F1 bd mb1 hI1 hL1 b1 m1 hf1 hsz1
  obtain ⟨e2, _, _, _, iar2, he2, _, _, _, hiar2, _, _, _, hmr2, _, _, sF2, len2, p22, p32, hw2, hb2, wF2, hda2, hdn2⟩ :=
    finish_decodes_core Server.macFn F2 bd mb2 hI2 hL2 b2 m2 hf2 hsz2
  rw [hd1] at he1
  rw [hd2] at he2
  cases he1
  cases he2
  -- the fields the two writers share
  have fo : F2.octets = t0.octets := by have := congrArg State.octets hms; simpa [modS, lift] using this
  have fc : F2.cursor = t0.cursor := by have := congrArg State.cursor hms; simpa [modS, lift] using this
  have fg : F2.gLabels = t0.gLabels := by have := congrArg State.gLabels hms; simpa [modS, lift] using this
  have fr : F2.rrStart = t0.rrStart := by have := congrArg State.rrStart hms; simpa [modS, lift] using this
  have fa : F2.ancount = t0.ancount := by have := congrArg State.ancount hms; simpa [modS, lift] using this
  have fn : F2.nscount = t0.nscount := by have := congrArg State.nscount hms; simpa [modS, lift] using this
  have hcur : F1.cursor = F2.cursor := by rw [fc, hS.cursor]
  have hrr : F1.rrStart = F2.rrStart := by rw [fr, hS.rrStart]
  have han : F1.ancount = F2.ancount := by rw [fa, hS.an]
  have hns : F1.nscount = F2.nscount := by rw [fn, hS.ns]
  have hP21 : Pres F2 F1 := by
    refine ⟨fun i _ hi => ?_, by omega, fun g hg => ?_⟩
    · have := hS.pre i (by omega)
      rw [fo]; exact this.symm
    · rw [fg, hS.gLabels] at hg; exact hg
  have hPF1 : Pres F2 sF1 := Pres.trans hP21 (finishWithMac_pres _ F1 hI1 _ _ _ hw1)
  have hPF2 : Pres F2 sF2 := finishWithMac_pres _ F2 hI2 _ _ _ hw2
  -- the chain of the common writer
  have hc65 : F2.cursor ≤ 65535 := by have := hI2.inv.cur_av; have := hI2.inv.av_lim; omega
  obtain ⟨rs, hr, hrm, _, _, _⟩ := hL2.r hc65
  obtain ⟨qs, hq, _⟩ := hL2.q
  have h12 : 12 ≤ F2.rrStart := qchainC_le hq
  have htyp : ∀ it ∈ rs, it.r.ty < 65536 := by
    intro it hx
    have hmem : it.r ∈ rs.map (·.r) := List.mem_map_of_mem hx
    rw [hrm] at hmem
    rcases List.mem_append.mp hmem with h | h
    · exact hty _ h
    · rcases har _ h with e | e <;> omega
  have hrl : rs.length = bd.an.length + bd.ns.length + bd.ar.length := by
    have := congrArg List.length hrm
    simp only [List.length_map, List.length_append] at this
    omega
  have hanl : F2.ancount = bd.an.length := hL2.an
  have hnsl : F2.nscount = bd.ns.length := hL2.ns
  subst hb1 hb2
  -- the answer section
  have ean1 := decodeRrs_det hI2.winv wF1 hPF1 rs _ _ hr (Nat.le_refl _) h12 htyp F2.ancount (by omega)
  have ean2 := decodeRrs_det hI2.winv wF2 hPF2 rs _ _ hr (Nat.le_refl _) h12 htyp F2.ancount (by omega)
  rw [han, hrr, ean1] at hda1
  rw [ean2] at hda2
  rw [hda1] at hda2
  simp only [Option.some.injEq, Prod.mk.injEq] at hda2
  obtain ⟨hanEq, hp2⟩ := hda2
  -- the authority section
  obtain ⟨la, p2, hdA, _, hch2⟩ := decodeRrs_chainCX F2 hI2.winv rs _ _ hr (Nat.le_refl _) F2.ancount (by omega)
  rw [hdA] at hda1
  simp only [Option.some.injEq, Prod.mk.injEq] at hda1
  obtain ⟨_, hp21⟩ := hda1
  have hp2le : F2.rrStart ≤ p2 := decodeRrs_pos_le _ _ _ _ _ hdA
  have hty2 : ∀ it ∈ rs.drop F2.ancount, it.r.ty < 65536 := fun it hx => htyp it (List.mem_of_mem_drop hx)
  have ens1 := decodeRrs_det hI2.winv wF1 hPF1 _ _ _ hch2 (Nat.le_refl _) (by omega) hty2 F2.nscount
    (by rw [List.length_drop]; omega)
  have ens2 := decodeRrs_det hI2.winv wF2 hPF2 _ _ _ hch2 (Nat.le_refl _) (by omega) hty2 F2.nscount
    (by rw [List.length_drop]; omega)
  rw [hns, ← hp21, ens1] at hdn1
  rw [← hp2, ← hp21, ens2] at hdn2
  rw [hdn1] at hdn2
  simp only [Option.some.injEq, Prod.mk.injEq] at hdn2
  refine ⟨by rw [hanEq], by rw [hdn2.1], ?_⟩
  -- the additional section
  rw [plainRrs_of_match iar1 d1.ar bd.ar _ (hmr1.imp (fun _ _ hx => hx.1)) (by rw [hiar1, List.append_assoc]) har
      (fun r hx => by
        rcases List.mem_append.mp hx with h | h
        · exact optRecs'_ty _ r h
        · exact tsigRecs_ty _ _ r h),
    plainRrs_of_match iar2 d2.ar bd.ar _ (hmr2.imp (fun _ _ hx => hx.1)) (by rw [hiar2, List.append_assoc]) har
      (fun r hx => by
        rcases List.mem_append.mp hx with h | h
        · exact optRecs'_ty _ r h
        · exact tsigRecs_ty _ _ r h)]

/-- `DecodeCongr` with the one hypothesis it lacks: the answer / authority records of the body have
    16-bit types (values of the Rust API's `Type`). Without it the statement is not true of the
    model: a record of type `65536 + 2` is written as opaque RDATA but decoded as an NS record, and
    the decoder then follows whatever the opaque octets say, possibly into the header octets in
    which the two messages differ (ARCOUNT). -/
def DecodeCongrT : Prop :=
  ∀ (F1 F2 t0 : State) (bd : Body) (L : Nat) (T : Option Writer.Tsig) (R : Nat) (b1 b2 : Bytes)
    (m1 m2 : Option (List UInt8)) (d1 d2 : DMsg),
    Good F1 bd → Good F2 bd → (∀ r ∈ bd.ar, r.ty = 1 ∨ r.ty = 28) → (∀ r ∈ bd.an ++ bd.ns, r.ty < 65536) →
    modS L T F2 = lift R t0 → Same F1 t0 →
    Writer.finish F1 Server.macFn = .ok (b1, m1) → Writer.finish F2 Server.macFn = .ok (b2, m2) →
    specDecodeMsg b1 = some d1 → specDecodeMsg b2 = some d2 →
    d1.an.map rrKey = d2.an.map rrKey ∧ d1.ns.map rrKey = d2.ns.map rrKey ∧ plainRrs d1.ar = plainRrs d2.ar

theorem decodeCongrT : DecodeCongrT :=
  fun F1 F2 t0 bd L T R b1 b2 m1 m2 d1 d2 hG1 hG2 har hty hms hS hf1 hf2 hd1 hd2 =>
    decodeCongr_typed F1 F2 t0 bd L T R b1 b2 m1 m2 d1 d2 hG1 hG2 har hty hms hS hf1 hf2 hd1 hd2

end QV.ServerContent
