/-
  QV.Proofs.ServerContext — the scan phase of C01 (layer L1 in the header of Properties/C01.lean),
  on top of the TSIG branch (QV.Proofs.ServerTsigSafe): the additional-section scan (`scanAr`) and
  `handle_message_with_context` as a whole, *given* that the QUERY handler is safe (`QuerySafe`,
  proved in QV.Proofs.ServerQuery).
-/
import QV.Proofs.ServerTsigSafe
import QV.Proofs.ServerTsig
import QV.Proofs.ServerShell

namespace QV.ServerSafety
open QV QV.Writer QV.Server QV.Reader QV.Wire

variable (W : WriterSafe)

theorem peek_bounds (r : Reader) (p : PeekRr) (h : peekRr r = .ok p) :
    p.reader = r ∧ r.cursor ≤ p.ownerEnd ∧ p.ownerEnd + 10 ≤ p.rrEnd ∧ p.rrEnd ≤ r.octets.size := by
  unfold peekRr at h
  cases hd : delimitRr r with
  | panic => rw [hd] at h; cases h
  | err e => rw [hd] at h; cases h
  | ok v =>
    obtain ⟨oe, re⟩ := v
    rw [hd] at h; cases h
    have := C15.delimitRr_bounds r oe re hd
    exact ⟨rfl, this.1, this.2.1, this.2.2⟩

theorem RInv.advance {r : Reader} (hi : RInv r) {p : PeekRr} (h : peekRr r = .ok p) :
    RInv { r with cursor := p.rrEnd } := by
  obtain ⟨_, b1, b2, b3⟩ := peek_bounds r p h
  exact ⟨⟨hi.1.1, b3⟩, by have := hi.2.1; show 12 ≤ p.rrEnd; omega, hi.2.2⟩

theorem skip_eq (r : Reader) (p : PeekRr) (h : peekRr r = .ok p) : p.skip = { r with cursor := p.rrEnd } := by
  unfold PeekRr.skip; rw [(peek_bounds r p h).1]

/-- the `Safe` triple of a `Call` with a frame fact as postcondition -/
theorem safe_call_post (c : Call) (s : State) (hi : W.I s) (hp : c.Pre W.Den s) {Q : State → Prop}
    (hq : Q (c.run s).2) : Safe W c.run s (fun _ s' => Q s') := by
  obtain ⟨h1, h2, h3⟩ := W.call c s hi hp
  exact ⟨h1, h2, h3, fun _ _ => hq⟩

/-- **the additional-section scan never panics** and leaves the reader in order -/
theorem scanAr_safe (cfg : Cfg) (tr : Transport) (now : Nat) (hnow : now < 2^48) (arcount : Nat)
    (n index : Nat) (st0 : ScanSt) (s0 : State) (hr0 : RInv st0.r)
    (hoct : be16 st0.r.octets Gen.ARCOUNT_START = arcount) (hidx : index + n = arcount) (hI0 : W.I s0) :
    Safe W (scanAr cfg tr now arcount n index st0) s0
      (fun res _ => ∀ st', res = some st' → RInv st'.r ∧ st'.r.octets = st0.r.octets) := by
  -- the invariant: the reader is in order and still on the request, the writer invariant, anchors
  -- monotone since `s0`; inside the OPT arm also "EDNS is on", which `set_extended_rcode` needs
  let J : ScanSt → State → Prop := fun st s =>
    (RInv st.r ∧ st.r.octets = st0.r.octets) ∧ W.I s ∧ Mono W.Den s0 s
  have ofSafe : ∀ {st s} {m : M (Option ScanSt)}, J st s → Safe W m s (fun res _ => res = none) →
      Post m s fun o s' => o ≠ .panic ∧ W.I s' ∧ Mono W.Den s0 s' ∧
        ∀ st', o = .ok (some st') → RInv st'.r ∧ st'.r.octets = st0.r.octets :=
    fun h hs => ⟨hs.1, hs.2.1, h.2.2.trans hs.2.2.1, fun st' e => nomatch hs.2.2.2 _ e⟩
  have adv : ∀ {st : ScanSt} {p : PeekRr}, (RInv st.r ∧ st.r.octets = st0.r.octets) → peekRr st.r = .ok p →
      RInv { st.r with cursor := p.rrEnd } ∧ ({ st.r with cursor := p.rrEnd } : Reader).octets = st0.r.octets :=
    fun h hp => ⟨h.1.advance hp, h.2⟩
  have L : Rule cfg tr now arcount (fun n i => i + n = arcount) (fun _ => J) (fun _ st s => J st s ∧ s.edns.isSome)
      (fun o s' => o ≠ .panic ∧ W.I s' ∧ Mono W.Den s0 s' ∧
        ∀ st', o = .ok (some st') → RInv st'.r ∧ st'.r.octets = st0.r.octets) :=
    { arith := fun _ _ e => by omega
      done := fun _ _ _ h => ⟨nofun, h.2.1, h.2.2, fun _ e => by cases e; exact h.1⟩
      weak := fun _ _ _ h => h.1
      rpanic := fun _ st _ h hp => by
        exfalso
        rcases hp with hp | ⟨p, hp, h1 | h1 | h1⟩
        · exact C15.C15_peek_rr_no_panic st.r h.1.1.1 hp
        · exact h1 _ (C15.C15_peek_accessors st.r p hp).2.1
        · exact h1 _ (C15.C15_peek_accessors st.r p hp).2.2.2.1
        · exact (peek_parse_safe rdataSafe st.r h.1.1.2.2 p hp).1 h1
      stop := fun _ _ s v _ h => ofSafe h (safe_rcode_none W v s h.2.1 (fun _ => rfl))
      xstop := fun _ _ s v hv h => ofSafe h.1
        (safe_bind_M W (safe_unwrap W (safe_call W (.setExtendedRcode v) s h.1.2.1 trivial)
            (setExtendedRcode_not_err v hv s h.2))
          (fun _ s3 hi3 _ _ => safe_pure_M W none s3 hi3 rfl))
      edns := fun _ _ s s1 h he => by
        obtain ⟨_, h2, h3⟩ := W.call (.setEdns cfg.payload) s h.2.1 trivial
        have e : (Call.setEdns cfg.payload).run s = (.ok (), s1) := he
        rw [e] at h2 h3
        exact ⟨⟨h.1, h2, h.2.2.trans h3⟩, setEdns_ok_edns _ _ _ he⟩
      limit := fun _ _ st s p opt r' h hp hpr => by
        obtain ⟨_, _, _, _, hcls⟩ := (peek_parse_safe rdataSafe st.r h.1.1.1.2.2 p hp).2 opt r' hpr
        obtain ⟨h1, h2, h3⟩ := W.call (.setLimit (max 512 (min opt.cls cfg.payload))) s h.1.2.1
          (by show max 512 (min opt.cls cfg.payload) ≤ 65535
              have := be16_lt st.r.octets (p.ownerEnd + 2); omega)
        exact ⟨fun _ => ⟨⟨h.1.1, h2, h.1.2.2.trans h3⟩, by
          show (setLimit _ s).2.edns.isSome; rw [setLimit_edns]; exact h.2⟩, fun e => absurd e h1⟩
      nextOpt := fun _ st _ p opt r' h hp hpr => by
        obtain ⟨hr', _⟩ := (peek_parse_safe rdataSafe st.r h.1.1.1.2.2 p hp).2 opt r' hpr
        subst hr'
        exact ⟨adv h.1.1 hp, h.1.2⟩
      skip := fun _ st _ p h hp => by
        show (RInv p.skip ∧ p.skip.octets = _) ∧ _
        rw [skip_eq st.r p hp]
        exact ⟨adv h.1 hp, h.2⟩
      tsig := fun n i st s p raw ha _ h hp ht => by
        obtain ⟨g1, g2, g3, g4⟩ := handleTsig_safe W cfg now hnow st.r h.1.1 p hp ht raw
          (by rw [h.1.2, hoct]; omega) s h.2.1
        refine tsigPost.intro _ _ (fun r' ho => ?_)
          fun _ _ _ hp' hn => ⟨fun e => g1 (hp'.mp e), g2, h.2.2.trans g3, fun st' e => absurd e (hn st')⟩
        have hr' := g4 (some r') ho r' rfl
        subst hr'
        exact ⟨adv h.1 hp, g2, h.2.2.trans g3⟩ }
  have key := L.scanAr n index st0 s0 hidx ⟨⟨hr0, rfl⟩, hI0, Mono.refl _ _⟩
  exact ⟨key.1, key.2.1, key.2.2.1, fun a ha st' e => key.2.2.2 st' (e ▸ ha)⟩

theorem scanAnNs_rinv (n : Nat) (r r' : Reader) (hi : RInv r) (h : scanAnNs n r = some r') :
    RInv r' ∧ r'.octets = r.octets :=
  scanAnNs_ind (fun x => RInv x ∧ x.octets = r.octets)
    (fun x p hx hp => by rw [skip_eq x p hp]; exact ⟨hx.1.advance hp, hx.2⟩) n r r' ⟨hi, rfl⟩ h

/-- no panic and the invariant again (the anchors may have been reassigned: `add_question`) -/
def Safe0 {ε α : Type} (f : State → Out ε α × State) (s : State) : Prop :=
  (f s).1 ≠ .panic ∧ W.I (f s).2

theorem Safe.safe0 {ε α : Type} {f : State → Out ε α × State} {s : State} {Q : α → State → Prop}
    (h : Safe W f s Q) : Safe0 W f s := ⟨h.1, h.2.1⟩

theorem safe0_congr {ε α : Type} {f g : State → Out ε α × State} {s : State}
    (h : f s = g s) (hg : Safe0 W g s) : Safe0 W f s := by
  unfold Safe0 at hg ⊢; rw [h]; exact hg

/-- a first step that may reassign anchors, followed by a rest that is safe from wherever it
    starts -/
theorem safe0_bind_M {α β : Type} {x : M α} {g : α → M β} {s : State} {Q : α → State → Prop}
    (hx : (x s).1 ≠ .panic ∧ W.I (x s).2 ∧ ∀ a, (x s).1 = .ok a → Q a (x s).2)
    (hg : ∀ a s', W.I s' → Q a s' → Safe0 W (g a) s') : Safe0 W (x >>= g) s := by
  obtain ⟨h1, h2, h4⟩ := hx
  unfold Safe0
  rw [M.bind_apply]
  generalize x s = r at h1 h2 h4
  obtain ⟨o, s'⟩ := r
  cases o with
  | ok a => exact hg a s' h2 (h4 a rfl)
  | err e => exact ⟨by simp, h2⟩
  | panic => exact absurd rfl h1

theorem safe_bind0_M {α β : Type} {x : M α} {g : α → M β} {s : State} {Q : α → State → Prop}
    (hx : Safe W x s Q) (hg : ∀ a s', W.I s' → Mono W.Den s s' → Q a s' → Safe0 W (g a) s') :
    Safe0 W (x >>= g) s :=
  safe0_bind_M W (Q := fun a s' => Mono W.Den s s' ∧ Q a s') ⟨hx.1, hx.2.1, fun a ha => ⟨hx.2.2.1, hx.2.2.2 a ha⟩⟩
    (fun a s' hi' hq => hg a s' hi' hq.1 hq.2)

/-- what the scan phase needs from the QUERY handler (proved in QV.Proofs.ServerQuery) -/
def QuerySafe (cfg : Cfg) (tr : Transport) : Prop :=
  ∀ (qn : WName) (qt qc : Nat) (s : State), W.I s → qn.WF → HintOK W.Den s .qname qn →
    Safe0 W (handleQuery cfg (some (qn, qt, qc)) tr) s

theorem readQuestion_ok (r : Reader) (q : Question) (r1 : Reader) (h : readQuestion r = (.ok q, r1)) :
    ∃ p, parseCompressed r.octets r.cursor = .ok p ∧ q.qname = p.wire ∧
      r1 = { r with cursor := r.cursor + p.len + 4 } := by
  unfold readQuestion at h
  cases hp : parseCompressed r.octets r.cursor with
  | panic => rw [hp] at h; cases h
  | err e => rw [hp] at h; cases h
  | ok p =>
    rw [hp] at h
    simp only at h
    cases h1 : readU16At r.octets (r.cursor + p.len) with
    | panic => rw [h1] at h; cases h
    | err e => rw [h1] at h; cases h
    | ok qt =>
      rw [h1] at h
      simp only at h
      cases h2 : readU16At r.octets (r.cursor + p.len + 2) with
      | panic => rw [h2] at h; cases h
      | err e => rw [h2] at h; cases h
      | ok qc =>
        rw [h2] at h
        simp only [Prod.mk.injEq, Out.ok.injEq] at h
        obtain ⟨rfl, rfl⟩ := h
        exact ⟨p, rfl, rfl, rfl⟩

/-- what the question step has achieved when it says "go on": the QNAME is a name and `Hint::Qname`
    stands for it -/
def QuestionOK (question : Option (WName × Nat × Nat)) (ok : Bool) (s' : State) : Prop :=
  ok = true → ∀ qn qt qc, question = some (qn, qt, qc) → qn.WF ∧ HintOK W.Den s' .qname qn

open ServerTsig in
/-- on a reader in order the head reads everything it needs -/
theorem headPanics_false (r0 : Reader) (hr : RInv r0) : ¬ HeadPanics r0 := by
  obtain ⟨_, _, e4, e6, e8, e10⟩ := C15.C15_header_fields r0 hr.1
  obtain ⟨opc, hopc⟩ := opcode_ok r0 hr.1
  rintro (h | h | ⟨q, r1, hrq, h⟩)
  · exact h ⟨_, _, _, _, _, e4, e6, e8, e10, hopc⟩
  · exact C15.C15_read_question_no_panic r0 hr.1 h
  · obtain ⟨pq, hpq, hqn, _⟩ := readQuestion_ok r0 q r1 hrq
    obtain ⟨qn, _, _, hparse⟩ := parsed_wname _ _ pq hpq
    exact h qn (hqn ▸ hparse)

/-- the reader after the question is in order and still on the request, and the QNAME is a name -/
theorem _root_.QV.ServerTsig.HeadOk.rinv {r0 r1 : Reader} {ar : Nat} {question : Option (WName × Nat × Nat)}
    (h : ServerTsig.HeadOk r0 ar question r1) (hr : RInv r0) :
    RInv r1 ∧ r1.octets = r0.octets ∧ ∀ qn qt qc, question = some (qn, qt, qc) → qn.WF := by
  rcases h.q with ⟨_, hq, rfl⟩ | ⟨q, qn, _, hrq, hpn, hq⟩
  · exact ⟨hr, rfl, fun _ _ _ e => by rw [hq] at e; cases e⟩
  · obtain ⟨pq, hpq, hqn, hr1⟩ := readQuestion_ok r0 q r1 hrq
    obtain ⟨qn', hwf, _, hparse⟩ := parsed_wname _ _ pq hpq
    have hinv1 := C15.C15_read_question_inv r0 hr.1
    rw [hrq] at hinv1
    refine ⟨⟨hinv1, by rw [hr1]; have := hr.2.1; show 12 ≤ r0.cursor + pq.len + 4; omega, by rw [hr1]; exact hr.2.2⟩,
      by rw [hr1], fun qn1 _ _ e => ?_⟩
    rw [hq] at e
    rw [← hqn, hpn] at hparse
    cases e; cases hparse; exact hwf

/-- the question step: no panic, the invariant again (the anchors may have been reassigned), and on
    "go on" `Hint::Qname` stands for the QNAME -/
theorem addQuestionOrServfail_safe (question : Option (WName × Nat × Nat))
    (hwf : ∀ qn qt qc, question = some (qn, qt, qc) → qn.WF) (s : State) (hi : W.I s)
    (hs : s.sect = .question) (hq0 : s.qdcount = 0) :
    (addQuestionOrServfail question s).1 ≠ .panic ∧ W.I (addQuestionOrServfail question s).2 ∧
      ∀ ok, (addQuestionOrServfail question s).1 = .ok ok →
        QuestionOK W question ok (addQuestionOrServfail question s).2 := by
  rcases question with _ | ⟨qn, qt, qc⟩
  · exact ⟨by simp [addQuestionOrServfail, pure], hi, fun _ _ _ qn qt qc h => by cases h⟩
  · have hwf := hwf qn qt qc rfl
    obtain ⟨g1, g2, g3, g4⟩ := W.addQuestion qn qt qc s hi hwf
    unfold addQuestionOrServfail
    dsimp only
    generalize addQuestion qn qt qc s = res at g1 g2 g3 g4
    obtain ⟨o, s'⟩ := res
    cases o with
    | panic => exact absurd rfl g1
    | ok u =>
      refine ⟨by simp, g2, fun a ha _ qn' qt qc he => ?_⟩
      cases he; exact ⟨hwf, g4 rfl hs hq0⟩
    | err e =>
      have hs : Safe W (do setRcode (RC "SERVFAIL"); pure false : M Bool) s' (fun ok _ => ok = false) :=
        safe_bind_M W (safe_setRcode W _ s' g2) (fun _ s2 hi2 _ _ => safe_pure_M W false s2 hi2 rfl)
      obtain ⟨k1, k2, k3, k4⟩ := hs
      refine ⟨k1, k2, fun a ha hat => ?_⟩
      have := k4 a ha; rw [this] at hat; cases hat

/-- everything after the question step, whatever that step is (`addQ`), given what it guarantees -/
theorem tail_safe (cfg : Cfg) (tr : Transport) (now : Nat) (hnow : now < 2^48) (hq : QuerySafe W cfg tr)
    (an ns ar opc : Nat) (question : Option (WName × Nat × Nat)) (r1 : Reader) (addQ : M Bool) (hr1 : RInv r1)
    (hoct1 : be16 r1.octets Gen.ARCOUNT_START = ar) (s : State)
    (haddQ : (addQ s).1 ≠ .panic ∧ W.I (addQ s).2 ∧ ∀ ok, (addQ s).1 = .ok ok → QuestionOK W question ok (addQ s).2) :
    Safe0 W (do
        let okQ ← addQ
        if !okQ then pure true
        else
          let r2 := Reader.setMark r1
          match scanAnNs (an + ns) r2 with
          | none => do setRcode (RC "FORMERR"); pure true
          | some r3 => do
            let st ← scanAr cfg tr now ar ar 0 { r := r3 }
            match st with
            | none => pure true
            | some st' =>
              if !Reader.atEom st'.r then do setRcode (RC "FORMERR"); pure true
              else do
                if opc = 0 then handleQuery cfg question tr else setRcode (RC "NOTIMP")
                pure true : M Bool) s := by
  have fin : ∀ (v : Nat) s', W.I s' → Safe W (do setRcode v; pure true : M Bool) s' (fun _ _ => True) :=
    fun v s' hi' => safe_bind_M W (safe_setRcode W v s' hi')
      (fun _ s2 hi2 _ _ => safe_pure_M W true s2 hi2 trivial)
  refine safe0_bind_M W (Q := QuestionOK W question) haddQ (fun okQ s1 hi1 hQ1 => ?_)
  cases okQ with
  | false => exact (safe_pure_M W true s1 hi1 (Q := fun _ _ => True) trivial).safe0
  | true =>
    simp only [Bool.not_true, Bool.false_eq_true, if_false]
    have hr2 : RInv (Reader.setMark r1) := hr1
    cases hsc : scanAnNs (an + ns) (Reader.setMark r1) with
    | none => exact (fin _ s1 hi1).safe0
    | some r3 =>
      obtain ⟨hr3, ho3⟩ := scanAnNs_rinv _ _ _ hr2 hsc
      have hoct : be16 r3.octets Gen.ARCOUNT_START = ar := by rw [ho3]; exact hoct1
      refine safe_bind0_M W (scanAr_safe W cfg tr now hnow _ _ 0 { r := r3 } s1 hr3 hoct (by omega) hi1)
        (fun st s2 hi2 hm2 _ => ?_)
      cases st with
      | none => exact (safe_pure_M W true s2 hi2 (Q := fun _ _ => True) trivial).safe0
      | some st' =>
        simp only
        split
        · exact (fin _ s2 hi2).safe0
        · have done : ∀ (m : M Unit), Safe0 W m s2 → Safe0 W (do m; pure true : M Bool) s2 :=
            fun m hm => safe0_bind_M W (Q := fun _ _ => True) ⟨hm.1, hm.2, fun _ _ => trivial⟩
              (fun _ s3 hi3 _ => (safe_pure_M W true s3 hi3 (Q := fun _ _ => True) trivial).safe0)
          split
          · refine done _ ?_
            cases question with
            | none => exact (safe_setRcode W _ s2 hi2).safe0
            | some q =>
              obtain ⟨qn, qt, qc⟩ := q
              obtain ⟨hwf, hh⟩ := hQ1 rfl qn qt qc rfl
              exact hq qn qt qc s2 hi2 hwf (hintOK_qname_mono W hh hm2)
          · exact done _ (safe_setRcode W _ s2 hi2).safe0

open ServerTsig in
/-- **L1**: the scan phase (and with `QuerySafe` all of `handle_message_with_context`) never
    panics, from a fresh writer (question section, no question yet): scan phase then dispatch
    (`handleWithContext_eq`), the head of the scan phase by its four cases -/
theorem handleWithContext_safe (cfg : Cfg) (tr : Transport) (now : Nat) (hnow : now < 2^48)
    (hq : QuerySafe W cfg tr) (r0 : Reader) (hr : RInv r0) (s : State) (hI : W.I s)
    (hsect : s.sect = .question) (hqd : s.qdcount = 0) :
    Safe0 W (handleWithContext cfg tr now r0) s := by
  have heq := handleWithContext_eq cfg tr now r0 s
  obtain ⟨hp, _⟩ | e | e | ⟨an, ns, ar, question, r1, hk, e⟩ := scanPhase_cases cfg tr now r0 s
  · exact absurd hp (headPanics_false r0 hr)
  · rw [e] at heq
    exact safe0_congr W (g := fun s => (.ok false, s)) heq ⟨nofun, hI⟩
  · rw [e] at heq
    refine safe0_congr W (g := (do setRcode (RC "FORMERR"); pure true : M Bool)) (heq.trans ?_)
      (safe_bind_M W (safe_setRcode W _ s hI)
        (fun _ s2 hi2 _ _ => safe_pure_M W true s2 hi2 (Q := fun _ _ => True) trivial)).safe0
    show ((setRcode (RC "FORMERR") >>= fun _ => pure ScanEnd.stop) >>= dispatch cfg tr _) s = _
    rw [M.bind_assoc]; rfl
  · rw [e, ← tail_eq] at heq
    obtain ⟨hr1, ho1, hwf⟩ := hk.rinv hr
    obtain ⟨_, _, _, _, _, e10⟩ := C15.C15_header_fields r0 hr.1
    have har : be16 r1.octets Gen.ARCOUNT_START = ar := by
      rw [ho1]; exact Out.ok.inj (e10.symm.trans hk.ar)
    exact safe0_congr W heq (tail_safe W cfg tr now hnow hq an ns ar _ question r1 _ hr1 har s
      (addQuestionOrServfail_safe W question hwf s hI hsect hqd))

end QV.ServerSafety
