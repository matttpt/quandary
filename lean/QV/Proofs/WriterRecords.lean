/-
  QV.Proofs.WriterRecords — the anchor invariant inside one record: total-correctness triples `Sp`,
  the state of a record being written (`RecSt`: valid, an extension of the state the call started
  in, anchors and `HintPointerVec` entries as promised), and that each block of `add_rr` — a push,
  a name under its ghost context, the owner, the RDLENGTH patch — keeps it and never panics.
-/
import QV.Proofs.WriterNames

namespace QV.Writer
open QV QV.Wire

/-! ### total-correctness triples (no panic; postcondition on success) -/

def Sp {α} (P : State → Prop) (f : M α) (Q : α → State → Prop) : Prop :=
  ∀ s, P s → (f s).1 ≠ .panic ∧ ∀ a s', f s = (.ok a, s') → Q a s'

theorem sp_bind {α β} {P : State → Prop} {f : M α} {Q : α → State → Prop} {g : α → M β}
    {R : β → State → Prop} (hf : Sp P f Q) (hg : ∀ a, Sp (Q a) (g a) R) : Sp P (f >>= g) R := by
  intro s hp
  obtain ⟨h1, h2⟩ := hf s hp
  simp only [M.bind_apply]
  cases hfs : f s with
  | mk r s1 =>
    rw [hfs] at h1
    cases r with
    | ok a => exact hg a s1 (h2 a s1 hfs)
    | err e => exact ⟨by simp, fun _ _ h => by cases h⟩
    | panic => exact absurd rfl h1

theorem sp_pure {α} {P : State → Prop} (a : α) : Sp P (pure a : M α) (fun b s => b = a ∧ P s) := by
  intro s hp; exact ⟨by simp, fun b s' h => by cases h; exact ⟨rfl, hp⟩⟩

theorem sp_fail {α} {P : State → Prop} {Q : α → State → Prop} (e : WriterErr) : Sp P (M.fail e : M α) Q := by
  intro s _; exact ⟨by simp, fun b s' h => by cases h⟩

theorem sp_gets {α} {P : State → Prop} (f : State → α) : Sp P (M.gets f) (fun a s => a = f s ∧ P s) := by
  intro s hp; exact ⟨by simp, fun b s' h => by cases h; exact ⟨rfl, hp⟩⟩

theorem sp_modify {P : State → Prop} (f : State → State) :
    Sp P (M.modify f) (fun _ s => ∃ s0, P s0 ∧ s = f s0) := by
  intro s hp; exact ⟨by simp, fun b s' h => by cases h; exact ⟨s, hp, rfl⟩⟩

theorem sp_weaken {α} {P P' : State → Prop} {f : M α} {Q Q' : α → State → Prop}
    (h : Sp P f Q) (hp : ∀ s, P' s → P s) (hq : ∀ a s, Q a s → Q' a s) : Sp P' f Q' :=
  fun s hp' => ⟨(h s (hp s hp')).1, fun a s' hf => hq a s' ((h s (hp s hp')).2 a s' hf)⟩

/-- a frame adds `Ext s0` to both sides -/
theorem sp_frame {α} {P : State → Prop} {f : M α} {Q : α → State → Prop} (h : Sp P f Q)
    (hf : Frame f) (s0 : State) :
    Sp (fun s => P s ∧ Ext s0 s) f (fun a s' => Q a s' ∧ Ext s0 s') := by
  intro s ⟨hp, he⟩
  refine ⟨(h s hp).1, fun a s' hfs => ⟨(h s hp).2 a s' hfs, ?_⟩⟩
  have := hf s; rw [hfs] at this
  exact Ext.trans he this

theorem sp_of_nameSpec {f : M (Option Prior)} {n : WName} {P : State → Prop}
    (h : ∀ s, P s → NameSpec s n (f s)) :
    Sp P f (fun p s' => ∃ s, P s ∧ WInv s' ∧ (∀ q, p = some q → Den s' q n) ∧ s'.qname = s.qname ∧
      s'.mostRecentOwner = s.mostRecentOwner ∧ s'.mostRecentNameInRdata = s.mostRecentNameInRdata ∧
      f s = (.ok p, s')) := by
  intro s hp
  have hs := h s hp
  refine ⟨hs.nopanic, fun p s' hfs => ?_⟩
  have := hs.ok p (by rw [hfs])
  rw [hfs] at this
  exact ⟨s, hp, this.1, this.2.1, this.2.2.1, this.2.2.2.1, this.2.2.2.2.1, hfs⟩

/-! ### the names inside RDATA -/

/-- the names the component loop of `add_rr` finds in one RDATA, in the order it pushes their pointers onto
    the caller's `HintPointerVec` (mirrors the parse of `writeComponents`) -/
def compNames : List CompType → List UInt8 → List WName
  | [], _ => []
  | .compressibleName :: ts, rd =>
    match WName.parse rd with
    | none => []
    | some (n, rest) => n :: compNames ts rest
  | .uncompressibleName :: ts, rd =>
    match WName.parse rd with
    | none => []
    | some (n, rest) => n :: compNames ts rest
  | .fixedLen k :: ts, rd => if rd.length < k then [] else compNames ts (rd.drop k)

def rdataNames (cls ty : Nat) (rd : List UInt8) : List WName :=
  match componentTypes cls ty with
  | some ts => compNames ts rd
  | none => []

theorem rdataNames_eq (cls ty : Nat) (rd : List UInt8) : rdataNames cls ty rd = compNames (compTypes cls ty) rd := by
  unfold rdataNames; rw [componentTypes_eq_some]

/-! ### the caller's `HintPointerVec` -/

/-- `f` does not touch the caller's `HintPointerVec` (the name writers do not: `hvLaw`) -/
def KeepsHv {α} (f : M α) : Prop := ∀ s, (f s).2.hv = s.hv

theorem hvLaw : NameLaw (fun s s' => s'.hv = s.hv) fun _ => True :=
  ⟨⟨fun _ => rfl, fun h1 h2 => h2.trans h1⟩, trivial, fun _ _ _ _ _ _ => rfl, fun _ _ => rfl⟩

theorem keepsHv_writeUncompressedName (n : WName) : KeepsHv (writeUncompressedName n) :=
  fun s => (hvLaw.writeUncompressedName n s).1

theorem keepsHv_writeUnhintedName (n : WName) : KeepsHv (writeUnhintedName n) :=
  fun s => (hvLaw.writeUnhintedName n s).1

/-! ### the state of a record being written -/

/-- the caller's `HintPointerVec` (lent empty) holds, entry by entry, valid anchors of the names
    written so far inside RDATA (as far as it has room) -/
def HvTrack (s : State) (names : List WName) : Prop :=
  ∀ v, s.hv = some v → v.length = min names.length Gen.HINT_POINTER_VEC_SIZE ∧
    ∀ (i p : Nat), v[i]? = some (some p) → ∃ n, names[i]? = some n ∧ Den s ⟨p, n.len⟩ n

/-- `s` is an intermediate state of a call that started in `s0`: valid, an extension of `s0`;
    `names` = RDATA names written so far by the call (tracked in the `HintPointerVec` if
    `track`), `loc` = those of the current record -/
structure RecSt (track : Prop) (s0 s : State) (names loc : List WName) (o : Option Prior)
    (on : Option WName) : Prop where
  winv : WInv s
  ext : Ext s0 s
  hv : track → HvTrack s names
  rd : ∀ n, loc.getLast? = some n → ∀ q, s.mostRecentNameInRdata = some q → Den s q n
  /-- the owner anchor is `o`, and (if `on` is given) it denotes that name -/
  own : s.mostRecentOwner = o
  ownDen : ∀ n, on = some n → ∀ q, o = some q → Den s q n
  /-- the QNAME anchor is not touched -/
  qn : s.qname = s0.qname
  /-- the pointer log is sound -/
  log : PtrLogOK s

theorem hvTrack_ext {s s' : State} {names : List WName} (h : HvTrack s names) (e : Ext s s')
    (hhv : s'.hv = s.hv) : HvTrack s' names := by
  unfold HvTrack
  intro v hv
  rw [hhv] at hv
  obtain ⟨h1, h2⟩ := h v hv
  refine ⟨h1, fun i p hp => ?_⟩
  obtain ⟨n, hn, hd⟩ := h2 i p hp
  exact ⟨n, hn, den_ext e hd⟩

/-- a step that extends the state, keeps validity, the vector and the RDATA anchor -/
theorem recSt_step {track : Prop} {s0 s s' : State} {names loc : List WName} {o : Option Prior}
    {on : Option WName}
    (h : RecSt track s0 s names loc o on) (e : Ext s s') (hw : WInv s') (hhv : s'.hv = s.hv)
    (hrd : s'.mostRecentNameInRdata = s.mostRecentNameInRdata)
    (hown : s'.mostRecentOwner = s.mostRecentOwner) (hqn : s'.qname = s.qname := by rfl)
    (hgp : s'.gPtrs = s.gPtrs := by rfl) :
    RecSt track s0 s' names loc o on :=
  ⟨hw, Ext.trans h.ext e, fun t => hvTrack_ext (h.hv t) e hhv,
   fun n hn q hq => den_ext e (h.rd n hn q (by rw [← hrd]; exact hq)),
   by rw [hown]; exact h.own, fun n hn q hq => den_ext e (h.ownDen n hn q hq), by rw [hqn]; exact h.qn,
   ptrLog_ext h.log e hgp⟩

/-- two octets reserved at the cursor (the RDLENGTH field): the record state carries over -/
theorem recSt_reserve {track : Prop} {s0 s : State} {names loc : List WName} {o : Option Prior}
    {on : Option WName} (h : RecSt track s0 s names loc o on) (hfit : s.cursor + 2 ≤ s.available) :
    RecSt track s0 { s with cursor := s.cursor + 2 } names loc o on :=
  have e := extLaw.skip s 2 hfit
  recSt_step h e (winv_ext h.winv e rfl rfl rfl rfl) rfl rfl rfl

theorem sp_tryPush_rec {track : Prop} {s0 : State} {names loc : List WName} {o : Option Prior}
    {on : Option WName} (d : List UInt8) :
    Sp (fun s => RecSt track s0 s names loc o on) (tryPush d)
      (fun _ s' => RecSt track s0 s' names loc o on) := by
  intro s h
  rw [tryPush_eq d s h.winv.cur_av h.winv.av_size]
  by_cases hd : d.length ≤ s.available - s.cursor
  · rw [if_pos hd]
    refine ⟨by simp, fun a s' hs => ?_⟩
    cases hs
    exact recSt_step h (ext_push s d (by have := h.winv.cur_av; omega)) (winv_push h.winv d hd) rfl rfl rfl
  · rw [if_neg hd]
    exact ⟨by simp, fun a s' hs => by cases hs⟩

theorem ext_setCtx (s : State) (c : NameCtx) : Ext s { s with gCtx := c } := by
  constructor <;> simp

theorem sp_setCtx_rec {track : Prop} {s0 : State} {names loc : List WName} {o : Option Prior}
    {on : Option WName} (c : NameCtx) :
    Sp (fun s => RecSt track s0 s names loc o on) (setCtx c)
      (fun _ s' => RecSt track s0 s' names loc o on) := by
  intro s h
  refine ⟨by simp [setCtx], fun a s' hs => ?_⟩
  simp only [setCtx, M.modify_apply] at hs
  cases hs
  exact recSt_step h (ext_setCtx s c) (winv_ext h.winv (ext_setCtx s c) rfl rfl rfl rfl) rfl rfl rfl

theorem den_anchorOK {s : State} {p : Option Prior} {n : WName} (h : ∀ q, p = some q → Den s q n) :
    AnchorOK s p := fun q hq => ⟨(h q hq).1, (h q hq).2.1, den_priorOK (h q hq)⟩

theorem hvPush_track {s : State} {names : List WName} {p : Option Prior} {n : WName}
    (h : HvTrack s names) (hd : ∀ q, p = some q → Den s q n) :
    HvTrack (hvPush (p.map (·.ptr)) s).2 (names ++ [n]) := by
  have h16 : Gen.HINT_POINTER_VEC_SIZE = 16 := rfl
  unfold HvTrack hvPush
  simp only [M.modify_apply]
  cases hv : s.hv with
  | none => intro v hv'; simp only [hv] at hv'; cases hv'
  | some v =>
    obtain ⟨hl, hall⟩ := h v hv
    simp only []
    by_cases hlt : v.length < Gen.HINT_POINTER_VEC_SIZE
    · rw [if_pos hlt]
      intro v' hv'
      simp only [Option.some.injEq] at hv'
      subst hv'
      have hnl : v.length = names.length := by omega
      refine ⟨by simp; omega, fun i q hq => ?_⟩
      by_cases hi : i < v.length
      · rw [List.getElem?_append_left hi] at hq
        obtain ⟨m, hm, hdm⟩ := hall i q hq
        exact ⟨m, by rw [List.getElem?_append_left (by omega)]; exact hm, hdm⟩
      · rw [List.getElem?_append_right (by omega)] at hq
        have hi0 : i - v.length = 0 := by
          by_cases h0 : i - v.length = 0
          · exact h0
          · rw [List.getElem?_eq_none (by simp; omega)] at hq; cases hq
        rw [hi0] at hq
        simp only [List.getElem?_cons_zero, Option.some.injEq] at hq
        cases hp : p with
        | none => rw [hp] at hq; cases hq
        | some pq =>
          rw [hp] at hq
          simp only [Option.map_some, Option.some.injEq] at hq
          have hdq := hd pq hp
          refine ⟨n, by rw [List.getElem?_append_right (by omega), show i - names.length = 0 by omega]; rfl, ?_⟩
          have : pq = ⟨q, n.len⟩ := by
            cases pq with
            | mk a b =>
              simp only at hq; subst hq
              have := hdq.2.2.1; simp only at this; rw [this]
          rw [← this]; exact hdq
    · rw [if_neg hlt]
      intro v' hv'
      rw [hv] at hv'
      simp only [Option.some.injEq] at hv'
      subst hv'
      refine ⟨by simp; omega, fun i q hq => ?_⟩
      obtain ⟨m, hm, hdm⟩ := hall i q hq
      have : i < names.length := by
        by_cases hi : i < names.length
        · exact hi
        · rw [List.getElem?_eq_none (by omega)] at hm; cases hm
      exact ⟨m, by rw [List.getElem?_append_left this]; exact hm, hdm⟩


theorem ext_setRdata (s : State) (p : Option Prior) : Ext s { s with mostRecentNameInRdata := p } := by
  constructor <;> simp

theorem ext_hvPush (s : State) (p : Option Nat) : Ext s (hvPush p s).2 := frame_hvPush p s

theorem hvPush_gPtrs (s : State) (p : Option Nat) : (hvPush p s).2.gPtrs = s.gPtrs := by
  unfold hvPush
  simp only [M.modify_apply]
  split
  · split <;> rfl
  · rfl

theorem hvPush_fields (s : State) (p : Option Nat) :
    (hvPush p s).2.gLabels = s.gLabels ∧ (hvPush p s).2.octets = s.octets ∧
    (hvPush p s).2.cursor = s.cursor ∧ (hvPush p s).2.qname = s.qname ∧
    (hvPush p s).2.mostRecentOwner = s.mostRecentOwner ∧
    (hvPush p s).2.mostRecentNameInRdata = s.mostRecentNameInRdata := by
  unfold hvPush
  simp only [M.modify_apply]
  split
  · split <;> simp
  · simp

/-- a name written under a ghost context (`setCtx c; p ← wr; setCtx .none`): the state stays an
    intermediate state of the call with the same anchors, and the anchor returned denotes the name -/
theorem recSt_named {track : Prop} {s0 s s2 : State} {names loc : List WName} {o : Option Prior}
    {on : Option WName} (h : RecSt track s0 s names loc o on) (c : NameCtx) {n : WName} {r : Out WriterErr (Option Prior)}
    (hs : NameSpec { s with gCtx := c } n (r, s2)) (hf : Ext { s with gCtx := c } s2) (hkv : s2.hv = s.hv)
    {p : Option Prior} (hr : r = .ok p) :
    RecSt track s0 { s2 with gCtx := .none } names loc o on ∧ (∀ q, p = some q → Den { s2 with gCtx := .none } q n) ∧
      Ext s { s2 with gCtx := .none } := by
  obtain ⟨hw2, hden, hq, ho, hrd, _, _⟩ := hs.ok p hr
  have e23 : Ext s2 { s2 with gCtx := NameCtx.none } := ext_setCtx s2 .none
  have e := Ext.trans (ext_setCtx s c) (Ext.trans hf e23)
  exact ⟨⟨winv_ext hw2 e23 rfl rfl rfl rfl, Ext.trans h.ext e, fun t => hvTrack_ext (h.hv t) e hkv,
    fun m hm q hq' => den_ext e (h.rd m hm q (hrd ▸ hq')), ho.trans h.own,
    fun m hm q hq' => den_ext e (h.ownDen m hm q hq'), hq.trans h.qn,
    ptrLog_ext (hs.log p hr (ptrLog_ext h.log (ext_setCtx s c) rfl)) e23 rfl⟩,
    fun q hq' => den_ext e23 (hden q hq'), e⟩

/-- one name component of RDATA: the name is written by `wr` (with or without compression), the
    RDATA anchor is set to what it returns and its pointer is pushed onto the vector -/
theorem sp_nameComp {track : Prop} {s0 : State} {names loc : List WName} {o : Option Prior}
    {on : Option WName} (wr : M (Option Prior))
    (n : WName) (c : NameCtx) (hspec : ∀ s, WInv s → NameSpec s n (wr s)) (hfr : Frame wr)
    (hk : KeepsHv wr) :
    Sp (fun s => RecSt track s0 s names loc o on)
      (do setCtx c
          let p ← wr
          setCtx .none
          M.modify fun s => { s with mostRecentNameInRdata := p }
          hvPush (p.map (·.ptr)))
      (fun _ s' => RecSt track s0 s' (names ++ [n]) (loc ++ [n]) o on) := by
  intro s h
  simp only [M.bind_apply, setCtx, M.modify_apply]
  have hs := hspec _ (winv_ext h.winv (ext_setCtx s c) rfl rfl rfl rfl)
  have hf := hfr { s with gCtx := c }
  have hkv := hk { s with gCtx := c }
  cases hw : wr { s with gCtx := c } with
  | mk r s2 =>
    rw [hw] at hs hf hkv
    cases r with
    | panic => exact absurd rfl hs.nopanic
    | err e => exact ⟨by simp, fun a s' hh => by cases hh⟩
    | ok p =>
      obtain ⟨r3, hden3, _⟩ := recSt_named h c hs hf hkv rfl
      simp only []
      refine ⟨by unfold hvPush; simp only [M.modify_apply]; simp, fun a s' hh => ?_⟩
      -- the RDATA anchor is set, then the pointer pushed
      generalize hs4 : ({ s2 with gCtx := NameCtx.none, mostRecentNameInRdata := p } : State) = s4 at hh
      have e34 : Ext { s2 with gCtx := NameCtx.none } s4 := by rw [← hs4]; exact ext_setRdata _ p
      have hden4 : ∀ q, p = some q → Den s4 q n := fun q hq' => den_ext e34 (hden3 q hq')
      have w3 := r3.winv
      have hw4 : WInv s4 := by
        rw [← hs4]
        exact ⟨w3.c12, w3.cur_av, w3.av_size, w3.g12, w3.labs, w3.qn, w3.ow, den_anchorOK (hs4 ▸ hden4), w3.clabs⟩
      obtain rfl : s' = (hvPush (p.map (·.ptr)) s4).2 := by rw [show hvPush (p.map (·.ptr)) s4 = (.ok a, s') from hh]
      obtain ⟨f1, f2, f3, f4, f5, f6⟩ := hvPush_fields s4 (p.map (·.ptr))
      have e45 := ext_hvPush s4 (p.map (·.ptr))
      have e35 := Ext.trans e34 e45
      refine ⟨winv_ext hw4 e45 f1 f4 f5 f6, Ext.trans r3.ext e35, fun t => ?_, ?_,
        by rw [f5, ← hs4]; exact r3.own, fun m hm q hq' => den_ext e35 (r3.ownDen m hm q hq'),
        by rw [f4, ← hs4]; exact r3.qn, ptrLog_ext r3.log e35 (by rw [hvPush_gPtrs, ← hs4])⟩
      · exact hvPush_track (hvTrack_ext (r3.hv t) e34 (by rw [← hs4])) hden4
      · intro m hm q hq'
        simp only [List.getLast?_append, List.getLast?_singleton, Option.some_or] at hm
        cases hm
        rw [f6, ← hs4] at hq'
        exact den_ext e45 (hden4 q hq')

theorem nameBlock_assoc (c : NameCtx) (wr : M (Option Prior)) (k : M Unit) :
    (do setCtx c
        let p ← wr
        setCtx .none
        M.modify fun s => { s with mostRecentNameInRdata := p }
        hvPush (p.map (·.ptr))
        k) =
    ((do setCtx c
         let p ← wr
         setCtx .none
         M.modify fun s => { s with mostRecentNameInRdata := p }
         hvPush (p.map (·.ptr))) >>= fun _ => k) := by
  simp only [M.bind_assoc]

/-! ### one record -/

/-- validity facts move along any map of states that preserves stored names and the bookkeeping -/
theorem den_of_stored {s s' : State} (hst : ∀ p ls, StoredAt s p ls → StoredAt s' p ls)
    {p : Prior} {n : WName} (h : Den s p n) : Den s' p n := by
  obtain ⟨h1, h2, h3, ls, h4, h5⟩ := h
  exact ⟨h1, h2, h3, ls, hst _ _ h4, h5⟩

theorem anchorOK_of_stored {s s' : State} (hst : ∀ p ls, StoredAt s p ls → StoredAt s' p ls)
    {a : Option Prior} (h : AnchorOK s a) : AnchorOK s' a := by
  intro p hp
  obtain ⟨h1, h2, ls, h3, h4⟩ := h p hp
  exact ⟨h1, h2, ls, hst _ _ h3, h4⟩

theorem recSt_patch {track : Prop} {s0 s s' : State} {names loc : List WName} {o : Option Prior}
    {on : Option WName} (h : RecSt track s0 s names loc o on)
    (hst : ∀ p ls, StoredAt s p ls → StoredAt s' p ls) (hcst : ∀ g, CStored s g → CStored s' g)
    (e0 : Ext s0 s')
    (hcur : s'.cursor = s.cursor) (hav : s'.available = s.available) (hsz : s'.octets.size = s.octets.size)
    (hgl : s'.gLabels = s.gLabels) (hq : s'.qname = s.qname) (ho : s'.mostRecentOwner = s.mostRecentOwner)
    (hr : s'.mostRecentNameInRdata = s.mostRecentNameInRdata) (hhv : s'.hv = s.hv)
    (hgp : s'.gPtrs = s.gPtrs) :
    RecSt track s0 s' names loc o on := by
  have w := h.winv
  refine ⟨⟨by rw [hcur]; exact w.c12, by rw [hcur, hav]; exact w.cur_av, by rw [hav, hsz]; exact w.av_size,
    by rw [hgl]; exact w.g12, ?_, by rw [hq]; exact anchorOK_of_stored hst w.qn,
    by rw [ho]; exact anchorOK_of_stored hst w.ow, by rw [hr]; exact anchorOK_of_stored hst w.rd,
    fun g hg => hcst g (w.clabs g (by rw [← hgl]; exact hg))⟩,
    e0, ?_, ?_, by rw [ho]; exact h.own, fun n hn q hq' => den_of_stored hst (h.ownDen n hn q hq'),
    by rw [hq]; exact h.qn, ?_⟩
  · intro g hg
    rw [hgl] at hg
    obtain ⟨ls, hl⟩ := w.labs g hg
    exact ⟨ls, hst _ _ hl⟩
  · intro t v hv
    rw [hhv] at hv
    obtain ⟨h1, h2⟩ := h.hv t v hv
    refine ⟨h1, fun i p hp => ?_⟩
    obtain ⟨n, hn, hd⟩ := h2 i p hp
    exact ⟨n, hn, den_of_stored hst hd⟩
  · intro n hn q hq'
    rw [hr] at hq'
    exact den_of_stored hst (h.rd n hn q hq')
  · intro x hx
    rw [hgp] at hx
    obtain ⟨h1, h2, h3, h4, h5, ls, h6⟩ := h.log x hx
    exact ⟨h1, by rw [hcur]; exact h2, h3, h4, by rw [hgl]; exact h5, ls, hst _ _ h6⟩

/-! ### the reserved RDLENGTH octets -/

/-- the two RDLENGTH octets at `x` are reserved in `s`: they lie below the cursor and no recorded
    name touches them -/
def GapOK (x : Nat) (s : State) : Prop := x + 2 ≤ s.cursor ∧ Clear (GL s) s.octets s.cursor (some x)

theorem GapOK.outside {x : Nat} {s : State} (h : GapOK x s) : ∀ g ∈ s.gLabels, g < x ∨ x + 2 ≤ g :=
  (h.2 x rfl).2.2

/-- they are when the cursor has just been moved over them … -/
theorem gapOK_init {s : State} (h : WInv s) : GapOK s.cursor { s with cursor := s.cursor + 2 } := by
  refine ⟨Nat.le_refl _, fun x e => ?_⟩
  cases e
  exact ⟨Nat.le_add_right _ _, fun g hg _ => h.labs g hg, fun g hg => Or.inl (nameAt_start (h.labs g hg).choose_spec).2.1⟩

/-- … and stay so while the writer is extended -/
theorem gapOK_ext {s s' : State} {x : Nat} (h : GapOK x s) (e : Ext s s') : GapOK x s' := by
  obtain ⟨h3, hc⟩ := h
  obtain ⟨_, h2, h1⟩ := hc x rfl
  have hcur := e.cur
  refine ⟨by omega, fun y ey => ?_⟩
  cases ey
  refine ⟨by omega, fun g hg hlt => ?_, fun g hg => ?_⟩
  · rcases e.gnew g hg with h | h
    · obtain ⟨ls, hn⟩ := h2 g h hlt
      exact ⟨ls, nameAt_frame (lo := 0) hn (fun y hy => e.glab y hy) (fun _ _ => Nat.zero_le _)
        (fun i _ hi => e.pre i (by omega)) (Nat.le_refl _)⟩
    · omega
  · rcases e.gnew g hg with h | h
    · exact h1 g h
    · right; omega

theorem agreeOut_writeAt (oct : Bytes) (x cur : Nat) (d : List UInt8) (hd : d.length = 2) :
    AgreeOut (some x) oct (writeAt oct x d) cur := fun i _ ho =>
  (ho x rfl).elim (writeAt_get_lt _ _ _ _) fun h => writeAt_get_ge _ _ _ _ (by omega)

/-- writing the RDLENGTH field back does not disturb any stored name -/
theorem storedAt_patch {s s2 : State} (hw : WInv s) (d : List UInt8) (hd : d.length = 2)
    (e : Ext { s with cursor := s.cursor + 2 } s2) (p : Nat) (ls : List Label)
    (h : StoredAt s2 p ls) :
    StoredAt { s2 with octets := writeAt s2.octets s.cursor d } p ls :=
  nameAt_agree h (gapOK_ext (gapOK_init hw) e).2 (agreeOut_writeAt _ _ _ d hd)

/-- … nor any chunk-disciplined stored name -/
theorem cstored_patch {s s2 : State} (hw : WInv s) (d : List UInt8) (hd : d.length = 2)
    (e : Ext { s with cursor := s.cursor + 2 } s2) (g : Nat)
    (h : CStored s2 g) :
    CStored { s2 with octets := writeAt s2.octets s.cursor d } g :=
  ⟨_, nameAtC_agree h.choose_spec.1 (gapOK_ext (gapOK_init hw) e).2 (agreeOut_writeAt _ _ _ d hd), h.choose_spec.2⟩

/-- a hint stays valid along an extension that keeps the anchors and the cursor -/
theorem hintOK_ext {s s' : State} {hint : Hint} {n : WName} (h : HintOK s hint n) (e : Ext s s')
    (hq : s'.qname = s.qname) (ho : s'.mostRecentOwner = s.mostRecentOwner)
    (hr : s'.mostRecentNameInRdata = s.mostRecentNameInRdata) (hc : s'.cursor = s.cursor) :
    HintOK s' hint n := by
  cases hint with
  | qname => intro q hq'; rw [hq] at hq'; exact den_ext e (h q hq')
  | mostRecentOwner => intro q hq'; rw [ho] at hq'; exact den_ext e (h q hq')
  | mostRecentNameInRdata => intro q hq'; rw [hr] at hq'; exact den_ext e (h q hq')
  | explicit p => intro hp; rw [hc] at hp; exact den_ext e (h hp)
  | none => trivial

/-- the owner name of a record: written with its hint, the owner anchor is set to what comes back -/
theorem sp_ownerBlock {track : Prop} {s0 : State} {names loc : List WName} {o : Option Prior}
    {on : Option WName} (hint : Hint) (owner : WName) (hwf : owner.WF) :
    Sp (fun s => RecSt track s0 s names loc o on ∧ HintOK s hint owner)
      (do setCtx .owner
          let p ← writeHintedName hint owner
          setCtx .none
          M.modify fun s => { s with mostRecentOwner := p })
      (fun _ s' => ∃ p, RecSt track s0 s' names [] p (some owner)) := by
  intro s ⟨h, hh⟩
  simp only [M.bind_apply, setCtx, M.modify_apply]
  have e1 := ext_setCtx s .owner
  have hs := writeHintedName_spec hint owner _ (winv_ext h.winv e1 rfl rfl rfl rfl) hwf
    (hintOK_ext hh e1 rfl rfl rfl rfl)
  have hf := frame_writeHintedName hint owner { s with gCtx := .owner }
  have hkv := (hvLaw.writeHintedName hint owner { s with gCtx := .owner }).1
  cases hw : writeHintedName hint owner { s with gCtx := .owner } with
  | mk r s2 =>
    rw [hw] at hs hf hkv
    cases r with
    | panic => exact absurd rfl hs.nopanic
    | err e => exact ⟨by simp, fun a s' hh' => by cases hh'⟩
    | ok p =>
      obtain ⟨r3, hden3, _⟩ := recSt_named h .owner hs hf hkv rfl
      refine ⟨by simp, fun a s' hh' => ?_⟩
      cases hh'
      have e34 : Ext { s2 with gCtx := NameCtx.none } { s2 with gCtx := NameCtx.none, mostRecentOwner := p } := by
        constructor <;> simp
      have w := r3.winv
      exact ⟨p, ⟨w.c12, w.cur_av, w.av_size, w.g12, w.labs, w.qn, den_anchorOK hden3, w.rd, w.clabs⟩,
        Ext.trans r3.ext e34, fun t => hvTrack_ext (r3.hv t) e34 rfl, (fun n hn => by cases hn), rfl,
        fun n hn q hq' => by cases hn; exact den_ext e34 (hden3 q hq'), r3.qn, ptrLog_ext r3.log e34 rfl⟩

end QV.Writer
