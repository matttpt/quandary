/-
  QV.Proofs.ServerSigned — responses to TSIG-signed requests, on the octets.

  First the writer after the TSIG step (`tsigProcess_some_state` for an authenticated request,
  `tsigProcess_stop_state` for one that is not: two readings of `tsigProcess_eq`, Proofs/TsigStep) and the
  finished message of such a writer (`signed_response_list`: `finish_octets_tsig` on a `FinalSt`, whose
  content before the TSIG record is `FinalSt.prefix`). Then what the properties quote: `signed_noData_response` /
  `signed_noData_full` (authenticated, no-data verdict), `tsig_error_response` (not authenticated),
  `signed_answer_response` (authenticated, a loaded zone answers), `response_exists`.
-/
import QV.Proofs.FinishTsig
import QV.Proofs.TsigStep
import QV.Proofs.ScanTsigCont
import QV.Proofs.ServerResp
import QV.Proofs.ServerTsig
import QV.Proofs.FrameServer
import QV.Proofs.ServerProps
import QV.Properties.C01

namespace QV.ServerScan
open QV QV.Wire QV.Reader QV.Writer

/-! ### the writer after one TSIG reply -/

open QV.ServerTsig in
/-- **an authenticated request**: when the TSIG step hands back a reader, the request's algorithm is
    known, its key configured for that algorithm, `verify_request` succeeded, the response TSIG fits,
    and the writer is exactly: RCODE 0 set, the response TSIG (mode `Response` with the request MAC
    and the key; error 0, time = now, fudge 300, original ID) recorded -/
theorem tsigProcess_some_state (hm : Tsig.Algorithm → Tsig.Octets → Tsig.Octets → Tsig.Octets) (keys : List Server.Key)
    (s : State) (hs : 12 ≤ s.octets.size) (r : Tsig.ReadTsigRr) (msg : List UInt8) (nowT : Tsig.TimeSigned)
    (r' x : Reader) (s' : State) (h : Server.tsigProcess hm keys nowT r msg r' s = (.ok (some x), s')) :
    ∃ alg key kn, Tsig.Algorithm.fromName r.algorithm = some alg ∧ Server.findKey keys r.keyName alg = some key ∧
      WName.parse r.keyName = some (kn, []) ∧ Tsig.verifyRequest hm r msg alg key.secret nowT = .ok () ∧ x = r' ∧
      TsigFits s (.response (Server.toWriterAlg alg) r.mac key.secret) (prepOf kn r nowT 0) ∧
      s' = withTsig (stRcode 0 s) (.response (Server.toWriterAlg alg) r.mac key.secret) (prepOf kn r nowT 0) := by
  obtain ⟨kn, an, ⟨rc, mode, rr, go⟩, hkn, han, hd⟩ := tsigProcess_ok_inv s (by omega) r' _ _ h
  rw [tsigProcess_eq s (by omega) r' hkn han hd] at h
  simp only [Prod.mk.injEq, Out.ok.injEq] at h
  obtain ⟨ho, hS⟩ := h
  split at ho
  · rename_i hgf
    rcases tsigDecision_inv hd with ⟨hgo, _⟩ | ⟨_, alg, key, ha, hk, hv, rfl, rfl, rfl⟩
    · rw [hgo] at hgf; cases hgf.1
    · exact ⟨alg, key, kn, ha, hk, hkn, hv, (Option.some.inj ho).symm, hgf.2, by rw [← hS, stepSt_fits hgf.2]⟩
  · cases ho

open QV.ServerTsig in
/-- when the TSIG step hands back a reader: the clock is representable, the request is authenticated
    (`tsigProcess_some_state`), and the writer is the one the step found with RCODE 0 and the response
    TSIG recorded -/
theorem tsigAfter_some_state (cfg : Server.Cfg) (now : Nat) (t : Tsig.ReadTsigRr) (mw : Bytes) (r' : Reader)
    (s : State) (hs : 12 ≤ s.octets.size) (r'' : Reader) (S : State)
    (h : Server.tsigAfter cfg now t mw r' s = (.ok (some r''), S)) :
    ∃ nowT alg key kn, Tsig.TimeSigned.tryFromUnix now = some nowT ∧
      Tsig.Algorithm.fromName t.algorithm = some alg ∧ Server.findKey cfg.keys t.keyName alg = some key ∧
      WName.parse t.keyName = some (kn, []) ∧
      Tsig.verifyRequest Tsig.realHmac t mw.toList alg key.secret nowT = .ok () ∧
      TsigFits s (.response (Server.toWriterAlg alg) t.mac key.secret) (prepOf kn t nowT 0) ∧
      S = withTsig (stRcode 0 s) (.response (Server.toWriterAlg alg) t.mac key.secret) (prepOf kn t nowT 0) := by
  unfold Server.tsigAfter at h
  cases hnow : Tsig.TimeSigned.tryFromUnix now with
  | none => rw [hnow] at h; cases h
  | some nowT =>
    rw [hnow] at h
    obtain ⟨alg, key, kn, ha, hk, hkn, hver, _, hfit, hS⟩ :=
      tsigProcess_some_state Tsig.realHmac cfg.keys s hs t mw.toList nowT r' r'' S h
    exact ⟨nowT, alg, key, kn, rfl, ha, hk, hkn, hver, hfit, hS⟩

open QV.ServerTsig in
/-- the writer after the TSIG step on a request that is not authenticated, when the reply's TSIG fits -/
theorem tsigProcess_stop_state (hm : Tsig.Algorithm → Tsig.Octets → Tsig.Octets → Tsig.Octets) (keys : List Server.Key)
    (s : State) (h3 : 3 < s.octets.size) (r : Tsig.ReadTsigRr) (msg : List UInt8) (nowT : Tsig.TimeSigned)
    (r' : Reader) (kn an : WName) (hkn : WName.parse r.keyName = some (kn, []))
    (han : WName.parse r.algorithm = some (an, [])) (rc : Nat) (mode : TsigMode) (rr : TsigRr)
    (hrep : tsigStopReply hm keys nowT r msg kn an = some (rc, mode, rr)) (hf : TsigFits s mode rr) :
    Server.tsigProcess hm keys nowT r msg r' s = (.ok none, withTsig (stRcode rc s) mode rr) := by
  rw [tsigProcess_eq s h3 r' hkn han (tsigDecision_stop hrep), stepSt_fits hf, if_neg (fun h => Bool.false_ne_true h.1)]

/-- a rejected request gets NOTAUTH, or FORMERR for a MAC of a size that is not allowed -/
theorem tsigStopReply_rc {hm : Tsig.Algorithm → Tsig.Octets → Tsig.Octets → Tsig.Octets} {keys : List Server.Key}
    {nowT : Tsig.TimeSigned} {r : Tsig.ReadTsigRr} {msg : List UInt8} {kn an : WName} {rc : Nat} {mode : TsigMode}
    {rr : TsigRr} (h : tsigStopReply hm keys nowT r msg kn an = some (rc, mode, rr)) : rc = 9 ∨ rc = 1 := by
  rcases tsigDecision_cases (tsigDecision_stop h) with ⟨_, _, h9, _⟩ |
    ⟨_, _, _, _, ⟨_, hg, _⟩ | ⟨_, _, h1, _⟩ | ⟨_, _, h9, _⟩ | ⟨_, _, h9, _⟩⟩
  · exact Or.inl h9
  · cases hg
  · exact Or.inr h1
  · exact Or.inl h9
  · exact Or.inl h9

/-! ### the final writer states of responses to signed requests -/

theorem rcode_over (a b : Nat) (ha : a < 16) (hb : b < 16) :
    (UInt8.ofNat a &&& ~~~(15 : UInt8) ||| UInt8.ofNat b) = UInt8.ofNat b := by
  have : ∀ a : Fin 16, ∀ b : Fin 16, (UInt8.ofNat a.val &&& ~~~(15 : UInt8) ||| UInt8.ofNat b.val) = UInt8.ofNat b.val := by
    decide
  exact this ⟨a, ha⟩ ⟨b, hb⟩

open QV.ServerTsig in
/-- the writer after a TSIG reply that fits (`rc0`), and after a further `set_rcode(rc)` -/
theorem sigSt_facts (s1 : State) (tr : Server.Transport) (payload : Nat) (e : Bool) (l rc0 rc : Nat)
    (hrc0 : rc0 < 16) (hrc : rc < 16) (hb : Base s1 tr payload) (h30 : s1.octets.getD 3 0 = 0)
    (hs3 : 3 < s1.octets.size) (hl1 : 512 ≤ l) (hl2 : l ≤ max 512 payload) (mode : TsigMode) (rr : TsigRr) :
    FinalSt s1 (withTsig (stRcode rc0 (arSt s1 tr payload e l)) mode rr) rc0 0 e payload
      (some ⟨mode, reservedLen mode rr, rr⟩) ∧
    FinalSt s1 (stRcode rc (withTsig (stRcode rc0 (arSt s1 tr payload e l)) mode rr)) rc 0 e payload
      (some ⟨mode, reservedLen mode rr, rr⟩) := by
  obtain ⟨hY, _⟩ := final_rcode s1 tr payload e l rc0 hrc0 hb h30 hl1 hl2
  generalize stRcode rc0 (arSt s1 tr payload e l) = Y at *
  have har : Y.arcount + 1 = s1.arcount + (if e then 1 else 0) + 1 := by rw [hY.ar]; rfl
  refine ⟨⟨rfl, hY.edns, hY.cur, hY.octets, hY.qd, hY.an, hY.ns, har⟩, ?_⟩
  have hY3 : Y.octets.getD 3 0 = UInt8.ofNat rc0 := by
    rw [hY.octets]; exact getD_set_self _ _ _ hs3
  have hoct : (stRcode rc (withTsig Y mode rr)).octets = s1.octets.setIfInBounds 3 (UInt8.ofNat rc) := by
    have : (stRcode rc (withTsig Y mode rr)).octets =
        Y.octets.setIfInBounds 3 ((Y.octets.getD 3 0 &&& ~~~(15 : UInt8)) ||| UInt8.ofNat rc) := by
      unfold stRcode stHdr withTsig
      cases Y.edns <;> rfl
    rw [this, hY3, rcode_over rc0 rc hrc0 hrc, hY.octets, Array.setIfInBounds_setIfInBounds]
  have hrest : (stRcode rc (withTsig Y mode rr)).cursor = Y.cursor ∧
      (stRcode rc (withTsig Y mode rr)).tsig = some ⟨mode, reservedLen mode rr, rr⟩ ∧
      (stRcode rc (withTsig Y mode rr)).edns = Y.edns.map (fun x => { x with upper := 0 }) ∧
      (stRcode rc (withTsig Y mode rr)).qdcount = Y.qdcount ∧ (stRcode rc (withTsig Y mode rr)).ancount = Y.ancount ∧
      (stRcode rc (withTsig Y mode rr)).nscount = Y.nscount ∧
      (stRcode rc (withTsig Y mode rr)).arcount = Y.arcount + 1 := by
    unfold stRcode stHdr withTsig
    cases Y.edns <;> exact ⟨rfl, rfl, rfl, rfl, rfl, rfl, rfl⟩
  obtain ⟨r1, r2, r3, r4, r5, r6, r7⟩ := hrest
  refine ⟨r2, ?_, by rw [r1, hY.cur], hoct, by rw [r4, hY.qd], by rw [r5, hY.an], by rw [r6, hY.ns], by rw [r7, har]; rfl⟩
  rw [r3, hY.edns]; cases e <;> rfl

theorem preTsig_size (cfg : Server.Cfg) (tr : Server.Transport) (bufLen : Nat) (req : Bytes)
    (hbuf : minBuf tr cfg.payload ≤ bufLen) (hpay : 512 ≤ cfg.payload)
    (hr : (Spec.Server.specScanWith (catKind cfg) cfg.payload req).respond = true) :
    12 ≤ (preTsigState cfg tr bufLen req).octets.size := by
  unfold preTsigState
  rw [arSt_size, (scan_facts cfg tr bufLen req hbuf hpay hr).s1.size]
  cases tr <;> simp only [minBuf] at hbuf <;> omega

open QV.ServerTsig in
/-- **the final writers of a TSIG reply**: on the writer the TSIG step finds (`preTsigState`),
    `set_rcode(rc0)` and a TSIG `(mode, rr)` that fits — and, in the second form, a further
    `set_rcode(rc)` — leave a final writer over the scan's `s1` with that TSIG pending -/
theorem preTsig_final (cfg : Server.Cfg) (tr : Server.Transport) (bufLen : Nat) (req : Bytes)
    (hbuf : minBuf tr cfg.payload ≤ bufLen) (hpay : 512 ≤ cfg.payload)
    (hr : (Spec.Server.specScanWith (catKind cfg) cfg.payload req).respond = true)
    (rc0 rc : Nat) (hrc0 : rc0 < 16) (hrc : rc < 16) (mode : TsigMode) (rr : TsigRr) (F : State)
    (hF : F = withTsig (stRcode rc0 (preTsigState cfg tr bufLen req)) mode rr ∧ rc = rc0 ∨
      F = stRcode rc (withTsig (stRcode rc0 (preTsigState cfg tr bufLen req)) mode rr)) :
    FinalSt (qSt (hdrSt (w0 bufLen (lim0 tr)) (Spec.Server.hdr req 0) (((req.getD 2 0).toNat &&& 120) >>> 3)
        (((req.getD 2 0).toNat &&& 1) != 0)) (Spec.Server.specScanWith (catKind cfg) cfg.payload req).question)
      F rc 0 (Spec.Server.specScanWith (catKind cfg) cfg.payload req).edns cfg.payload
      (some ⟨mode, reservedLen mode rr, rr⟩) := by
  have hG := scan_facts cfg tr bufLen req hbuf hpay hr
  obtain ⟨hA, hB⟩ := sigSt_facts _ tr cfg.payload (Spec.Server.specScanWith (catKind cfg) cfg.payload req).edns
    (Spec.Server.specScanWith (catKind cfg) cfg.payload req).limitUdp rc0 rc hrc0 hrc hG.s1.base hG.s1.o3 hG.s1.size3
    hG.lim512 hG.limMax mode rr
  rcases hF with ⟨rfl, rfl⟩ | rfl
  · exact hA
  · exact hB

/-! ### the octets of a no-data response that carries a TSIG record -/

/-- everything before the TSIG record of a no-data response to a signed request: the header (ID and
    opcode echoed, QR, RD for QUERY, the RCODE `rc`, QDCOUNT, ANCOUNT = NSCOUNT = 0, ARCOUNT = the OPT
    if any plus the TSIG), the question as decoded, and — iff the scan reached an OPT — one OPT record
    (owner root, CLASS = the server's payload size, extended RCODE bits, version and flags 0) -/
def signedPrefix (req : Bytes) (serverSize : Nat) (sc : Spec.Server.Scan) (rc : Nat) : List UInt8 :=
  let x := req.getD 2 0
  let h2 : UInt8 := 128 ||| (x &&& 120) ||| (if x.toNat / 8 % 16 = 0 then x &&& 1 else 0)
  [req.getD 0 0, req.getD 1 0, h2, UInt8.ofNat rc, 0, (if sc.question.isSome then 1 else 0), 0, 0, 0, 0, 0,
   (if sc.edns then 2 else 1)] ++ qOctets sc.question ++
   (if sc.edns then [0, 0, 41] ++ u16be serverSize ++ [0, 0, 0, 0, 0, 0] else [])

/-- from the facts about the final writer `F` to the octets of the response -/
theorem signed_response_list (macFn : Writer.Tsig → List UInt8 → List UInt8) (req : Bytes) (payload : Nat)
    (sc : Spec.Server.Scan) (rc : Nat) (s1 F : State) (ts : Writer.Tsig) {bufLen : Nat} {tr : Server.Transport}
    (h1 : S1Facts bufLen tr payload (Spec.Server.hdr req 0) (((req.getD 2 0).toNat &&& 120) >>> 3)
      (((req.getD 2 0).toNat &&& 1) != 0) sc.question s1)
    (hF : FinalSt s1 F rc 0 sc.edns payload (some ts))
    (b : Bytes) (mac : Option (List UInt8)) (hf : Writer.finish F macFn = .ok (b, mac)) :
    mac = finishMac macFn ts (signedPrefix req payload sc rc) ∧
    ∃ oe sT, NameEnc sT .none ts.rr.keyName oe ∧ NameShape ts.rr.keyName oe ∧ sT.mode = F.mode ∧
      (sT.octets.extract 0 sT.cursor).toList = signedPrefix req payload sc rc ∧
      b.toList = signedPrefix req payload sc rc ++ tsigRecordOctets oe ts mac := by
  obtain ⟨_, hmac, oe, sT, hoe, hmode, hpre, _, hb⟩ :=
    finish_octets_tsig macFn F (by rw [hF.cur, h1.cur]; omega) ts hF.tsig b mac hf
  have hP : finishPrefix F ++ optEnc F.edns = signedPrefix req payload sc rc := by
    rw [hF.prefix h1 (Or.inl rfl)]
    unfold signedPrefix
    cases sc.edns <;> rfl
  rw [hP] at hmac hpre hb
  exact ⟨hmac, oe, sT, hoe, nameEnc_none_shape hoe, hmode, hpre, hb⟩

/-- the OPT record before the TSIG record of a signed no-data response -/
def signedOptOctets (serverSize : Nat) (sc : Spec.Server.Scan) : List UInt8 :=
  if sc.edns then [0, 0, 41] ++ u16be serverSize ++ [0, 0, 0, 0, 0, 0] else []

/-- field by field: what a response that starts with `signedPrefix` says -/
theorem signedResp_facts (req : Bytes) (p : Nat) (sc : Spec.Server.Scan) (rc : Nat) (T : List UInt8) (b : Bytes)
    (hb : b.toList = signedPrefix req p sc rc ++ T) :
    Spec.Server.hdr b 0 = Spec.Server.hdr req 0 ∧
    b.getD 2 0 = hdr2 (req.getD 2 0) ∧ b.getD 3 0 = UInt8.ofNat rc ∧
    Spec.Server.hdr b 4 = (if sc.question.isSome then 1 else 0) ∧ Spec.Server.hdr b 6 = 0 ∧
    Spec.Server.hdr b 8 = 0 ∧ Spec.Server.hdr b 10 = (if sc.edns then 2 else 1) ∧
    b.toList.drop 12 = specQuestionOctets sc.question ++ signedOptOctets p sc ++ T := by
  have hq : qOctets sc.question = specQuestionOctets sc.question := by
    cases sc.question <;> simp [qOctets, specQuestionOctets]
  have hb' : b.toList = [req.getD 0 0, req.getD 1 0, hdr2 (req.getD 2 0), UInt8.ofNat rc, 0,
       (if sc.question.isSome then 1 else 0), 0, 0, 0, 0, 0, (if sc.edns then 2 else 1)] ++
      (specQuestionOctets sc.question ++ signedOptOctets p sc ++ T) := by
    rw [hb]; unfold signedPrefix signedOptOctets hdr2; rw [hq]; simp only [List.append_assoc]
  obtain ⟨_, f1, f2, f3, f4, f5, f6, f7, f8⟩ := header_of_list b _ _ _ _ _ _ _ _ _ _ _ _ _ hb'
  refine ⟨f1, f2, f3, ?_, f5, f6, ?_, f8⟩
  · rw [f4]; cases sc.question <;> rfl
  · rw [f7]; cases sc.edns <;> rfl

/-- what precedes the TSIG record satisfies the documented precondition of `sign_response`
    (a full header whose ARCOUNT counts the TSIG record) -/
theorem signedPrefix_msgOk (req : Bytes) (p : Nat) (sc : Spec.Server.Scan) (rc : Nat) :
    Tsig.MsgOk (signedPrefix req p sc rc) := by
  unfold Tsig.MsgOk signedPrefix Spec.Tsig.field16
  refine ⟨by simp, ?_⟩
  cases sc.edns <;> simp

/-! ### `handle_message` on authenticated requests that get a no-data response -/

/-- the response TSIG of an authenticated request -/
def respTsig (alg : Hmac.Alg) (key : Server.Key) (kn : WName) (t : Tsig.ReadTsigRr) (nowT : Tsig.TimeSigned) :
    Writer.Tsig :=
  ⟨.response (Server.toWriterAlg alg) t.mac key.secret,
   ServerTsig.reservedLen (.response (Server.toWriterAlg alg) t.mac key.secret) (ServerTsig.prepOf kn t nowT 0),
   ServerTsig.prepOf kn t nowT 0⟩

/-- **signed requests, no-data verdicts, on the octets.**  For a request whose scan reaches a
    well-formed TSIG record (`t`): if the TSIG step authenticates it and the end-of-message check /
    decision table yields FORMERR, NOTIMP, REFUSED or SERVFAIL-for-a-zone-not-loaded, then every
    response is: the header with that RCODE, ANCOUNT = NSCOUNT = 0, the question, the OPT record iff
    the scan reached one, and then — last — the TSIG record, signed in `Response` mode over exactly
    the octets before it. -/
theorem signed_noData_response (cfg : Server.Cfg) (tr : Server.Transport) (now bufLen : Nat) (req : Bytes)
    (hbuf : minBuf tr cfg.payload ≤ bufLen) (hpay : 512 ≤ cfg.payload) (hreq : req.size ≤ Rdata.USIZE_MAX)
    (hr : (Spec.Server.specScanWith (catKind cfg) cfg.payload req).respond = true)
    (hv : (Spec.Server.specScanWith (catKind cfg) cfg.payload req).verdict = .tsigReached) :
    ∃ (t : Tsig.ReadTsigRr) (mw : Bytes) (r' : Reader), r'.octets = req ∧ r'.cursor ≤ req.size ∧
      ∀ r'' S, Server.tsigAfter cfg now t mw r' (preTsigState cfg tr bufLen req) = (.ok (some r''), S) →
      ∀ v, (v = Spec.Server.Verdict.formErr ∨ v = .notImp ∨ v = .refused ∨ v = .servFailZone) →
        endVerdict (catKind cfg) req.size (Spec.Server.specScanWith (catKind cfg) cfg.payload req).question
          r'.cursor ((req.getD 2 0).toNat / 8 % 16) = v →
      ∀ b, Server.handleMessage cfg tr now bufLen req = .ok (some b) →
        ∃ nowT alg key kn, Tsig.TimeSigned.tryFromUnix now = some nowT ∧
          Tsig.Algorithm.fromName t.algorithm = some alg ∧ Server.findKey cfg.keys t.keyName alg = some key ∧
          WName.parse t.keyName = some (kn, []) ∧
          Tsig.verifyRequest Tsig.realHmac t mw.toList alg key.secret nowT = .ok () ∧
          ∃ oe sT, NameEnc sT .none kn oe ∧ NameShape kn oe ∧
            (sT.octets.extract 0 sT.cursor).toList =
              signedPrefix req cfg.payload (Spec.Server.specScanWith (catKind cfg) cfg.payload req)
                (Spec.Server.verdictRcode v).1 ∧
            b.toList =
              signedPrefix req cfg.payload (Spec.Server.specScanWith (catKind cfg) cfg.payload req)
                (Spec.Server.verdictRcode v).1 ++
              tsigRecordOctets oe (respTsig alg key kn t nowT)
                (some (Server.macFn (respTsig alg key kn t nowT)
                  (signedPrefix req cfg.payload (Spec.Server.specScanWith (catKind cfg) cfg.payload req)
                    (Spec.Server.verdictRcode v).1))) := by
  obtain ⟨t, mw, r', h1, h2, h3⟩ := handleMessage_after_tsig cfg tr now bufLen req hbuf hpay hreq hr hv
  refine ⟨t, mw, r', h1, h2, fun r'' S hT v hvv hev b hb => ?_⟩
  have hne : endVerdict (catKind cfg) req.size (Spec.Server.specScanWith (catKind cfg) cfg.payload req).question
      r'.cursor ((req.getD 2 0).toNat / 8 % 16) ≠ .answer := by
    rw [hev]; rcases hvv with rfl | rfl | rfl | rfl <;> simp
  have hM := h3 r'' S hT hne
  rw [hev, hb] at hM
  -- the TSIG step
  have h12 := preTsig_size cfg tr bufLen req hbuf hpay hr
  obtain ⟨nowT, alg, key, kn, hnow, ha, hk, hkn, hver, _, hS⟩ :=
    tsigAfter_some_state cfg now t mw r' _ h12 r'' S hT
  refine ⟨nowT, alg, key, kn, hnow, ha, hk, hkn, hver, ?_⟩
  have hrc : (Spec.Server.verdictRcode v).1 < 16 := by
    rcases hvv with rfl | rfl | rfl | rfl <;> decide
  have hES : endState v S = stRcode (Spec.Server.verdictRcode v).1 S := by
    rcases hvv with rfl | rfl | rfl | rfl <;> rfl
  rw [hES, hS] at hM
  obtain ⟨mac, hfin⟩ := finish_of_response (.ok true, _) hM
  obtain ⟨hmac, oe, sT, q1, q2, _, q4, q5⟩ := signed_response_list Server.macFn req cfg.payload _
    (Spec.Server.verdictRcode v).1 _ _ (respTsig alg key kn t nowT) (scan_facts cfg tr bufLen req hbuf hpay hr).s1
    (preTsig_final cfg tr bufLen req hbuf hpay hr 0 _ (by omega) hrc _ _ _ (Or.inr rfl)) b mac hfin
  have hmac' : mac = some (Server.macFn (respTsig alg key kn t nowT)
      (signedPrefix req cfg.payload (Spec.Server.specScanWith (catKind cfg) cfg.payload req)
        (Spec.Server.verdictRcode v).1)) := by
    rw [hmac]; rfl
  rw [hmac'] at q5
  exact ⟨oe, sT, q1, q2, q4, q5⟩

/-! ### requests that the TSIG step does not authenticate -/

/-- **the response to a signed request that is not authenticated** (and whose reply TSIG fits): the
    header with RCODE NOTAUTH (or FORMERR for a MAC of a size that is not allowed), no answer or
    authority data, the question, the OPT iff the scan reached one, and — last — the TSIG record
    with the error (BADKEY / BADSIG / BADTIME) in its RDATA: unsigned, with an empty MAC, for BADKEY
    and BADSIG; signed in `Response` mode over exactly the octets before it for BADTIME. -/
theorem tsig_error_response (cfg : Server.Cfg) (tr : Server.Transport) (now bufLen : Nat) (req : Bytes)
    (hbuf : minBuf tr cfg.payload ≤ bufLen) (hpay : 512 ≤ cfg.payload) (hreq : req.size ≤ Rdata.USIZE_MAX)
    (hr : (Spec.Server.specScanWith (catKind cfg) cfg.payload req).respond = true)
    (hv : (Spec.Server.specScanWith (catKind cfg) cfg.payload req).verdict = .tsigReached) :
    ∃ (t : Tsig.ReadTsigRr) (mw : Bytes) (r' : Reader), r'.octets = req ∧ r'.cursor ≤ req.size ∧
      ∀ nowT kn an rc mode rr, Tsig.TimeSigned.tryFromUnix now = some nowT →
        WName.parse t.keyName = some (kn, []) → WName.parse t.algorithm = some (an, []) →
        tsigStopReply Tsig.realHmac cfg.keys nowT t mw.toList kn an = some (rc, mode, rr) →
        ServerTsig.TsigFits (preTsigState cfg tr bufLen req) mode rr →
        ∀ b, Server.handleMessage cfg tr now bufLen req = .ok (some b) →
          ∃ oe sT, NameEnc sT .none rr.keyName oe ∧ NameShape rr.keyName oe ∧
            (sT.octets.extract 0 sT.cursor).toList =
              signedPrefix req cfg.payload (Spec.Server.specScanWith (catKind cfg) cfg.payload req) rc ∧
            b.toList =
              signedPrefix req cfg.payload (Spec.Server.specScanWith (catKind cfg) cfg.payload req) rc ++
              tsigRecordOctets oe ⟨mode, ServerTsig.reservedLen mode rr, rr⟩
                (finishMac Server.macFn ⟨mode, ServerTsig.reservedLen mode rr, rr⟩
                  (signedPrefix req cfg.payload (Spec.Server.specScanWith (catKind cfg) cfg.payload req) rc)) := by
  obtain ⟨t, mw, r', question, h1, h2, _, h4, _⟩ := handleMessage_tsig_eq cfg tr now bufLen req hbuf hpay hreq hr hv
  refine ⟨t, mw, r', h1, h2, fun nowT kn an rc mode rr hnow hkn han hrep hfit b hb => ?_⟩
  have h12 := preTsig_size cfg tr bufLen req hbuf hpay hr
  have hT : Server.tsigAfter cfg now t mw r' (preTsigState cfg tr bufLen req) =
      (.ok none, ServerTsig.withTsig (stRcode rc (preTsigState cfg tr bufLen req)) mode rr) := by
    unfold Server.tsigAfter
    rw [hnow]
    exact tsigProcess_stop_state Tsig.realHmac cfg.keys _ (by omega) t mw.toList nowT r' kn an hkn han rc mode rr hrep hfit
  rw [hT, hb] at h4
  simp only [afterTsig] at h4
  have hrc : rc < 16 := by rcases tsigStopReply_rc hrep with rfl | rfl <;> omega
  obtain ⟨mac, hfin⟩ := finish_of_response (.ok true, _) h4
  obtain ⟨hmac, oe, sT, q1, q2, _, q4, q5⟩ := signed_response_list Server.macFn req cfg.payload _ rc _ _
    ⟨mode, ServerTsig.reservedLen mode rr, rr⟩ (scan_facts cfg tr bufLen req hbuf hpay hr).s1
    (preTsig_final cfg tr bufLen req hbuf hpay hr rc rc hrc hrc mode rr _ (Or.inl ⟨rfl, rfl⟩)) b mac hfin
  rw [hmac] at q5
  exact ⟨oe, sT, q1, q2, q4, q5⟩

/-! ### a response exists (C01: `handle_message` does not panic) -/

/-- every request the spec's scan responds to gets a response — for a well-formed configuration and
    a clock below 2^48 s (the hypotheses of C01, which excludes a panic) -/
theorem response_exists (cfg : Server.Cfg) (hcfg : ServerSafety.CfgWF cfg) (tr : Server.Transport)
    (now bufLen : Nat) (req : Bytes)
    (hbuf : minBuf tr cfg.payload ≤ bufLen) (hpay : 512 ≤ cfg.payload) (hreq : req.size ≤ Rdata.USIZE_MAX)
    (hnow : now < 2^48)
    (hr : (Spec.Server.specScanWith (catKind cfg) cfg.payload req).respond = true) :
    ∃ b, Server.handleMessage cfg tr now bufLen req = .ok (some b) := by
  rcases ServerSafety.handleMessage_cases Writer.writerSafe cfg hcfg tr now bufLen req
      ⟨hbuf, hnow, by unfold Rdata.USIZE_MAX at hreq; omega⟩ (ServerSafety.macLenOK_server ServerSafety.hmacLenOK) with
    h | ⟨_, b, _, _, _, h⟩
  · rw [(handleMessage_none_iff cfg tr now bufLen req hbuf hpay (catKind cfg)).mp h] at hr
    cases hr
  · exact ⟨b, h⟩

/-- a no-data response to a signed request: the RCODE, no answer, no authority, AA and TC clear, and
    after the question nothing but the OPT record (iff the scan reached one) and then the TSIG record
    (TYPE 250, CLASS ANY, TTL 0; its owner `oe` is the key name literally or compressed) -/
structure SignedNoData (p : Nat) (sc : Spec.Server.Scan) (rc : Nat) (b : Bytes) : Prop where
  rcode : Spec.Server.hdr b 2 % 16 = rc
  an : Spec.Server.hdr b 6 = 0
  ns : Spec.Server.hdr b 8 = 0
  ar : Spec.Server.hdr b 10 = (if sc.edns then 2 else 1)
  aa : Spec.Server.hdr b 2 / 1024 % 2 = 0
  tc : Spec.Server.hdr b 2 / 512 % 2 = 0
  rest : ∃ oe ts mac, NameShape ts.rr.keyName oe ∧
    b.toList.drop 12 = specQuestionOctets sc.question ++ signedOptOctets p sc ++ tsigRecordOctets oe ts mac

theorem signedNoData_of_list (req : Bytes) (p : Nat) (sc : Spec.Server.Scan) (rc : Nat) (hrc : rc < 16)
    (oe : List UInt8) (ts : Writer.Tsig) (mac : Option (List UInt8)) (hsh : NameShape ts.rr.keyName oe) (b : Bytes)
    (hb : b.toList = signedPrefix req p sc rc ++ tsigRecordOctets oe ts mac) : SignedNoData p sc rc b := by
  obtain ⟨_, h2, h3, _, han, hns, har, hrest⟩ := signedResp_facts req p sc rc _ b hb
  obtain ⟨_, _, f3, f4, _, _, _, f8⟩ := flags_facts b req rc hrc h2 h3
  exact ⟨f8, han, hns, har, f3, f4, oe, ts, mac, hsh, hrest⟩

/-- **signed requests, no-data verdicts: the response exists and is a `SignedNoData`** (well-formed
    configuration, clock below 2^48 s: the hypotheses of C01) -/
theorem signed_noData_full (cfg : Server.Cfg) (hcfg : ServerSafety.CfgWF cfg) (tr : Server.Transport)
    (now bufLen : Nat) (req : Bytes)
    (hbuf : minBuf tr cfg.payload ≤ bufLen) (hpay : 512 ≤ cfg.payload) (hreq : req.size ≤ Rdata.USIZE_MAX)
    (hnow : now < 2^48)
    (hr : (Spec.Server.specScanWith (catKind cfg) cfg.payload req).respond = true)
    (hv : (Spec.Server.specScanWith (catKind cfg) cfg.payload req).verdict = .tsigReached) :
    ∃ (t : Tsig.ReadTsigRr) (mw : Bytes) (r' : Reader), r'.octets = req ∧ r'.cursor ≤ req.size ∧
      ∀ r'' S, Server.tsigAfter cfg now t mw r' (preTsigState cfg tr bufLen req) = (.ok (some r''), S) →
      ∀ v, (v = Spec.Server.Verdict.formErr ∨ v = .notImp ∨ v = .refused ∨ v = .servFailZone) →
        endVerdict (catKind cfg) req.size (Spec.Server.specScanWith (catKind cfg) cfg.payload req).question
          r'.cursor ((req.getD 2 0).toNat / 8 % 16) = v →
        ∃ b, Server.handleMessage cfg tr now bufLen req = .ok (some b) ∧
          SignedNoData cfg.payload (Spec.Server.specScanWith (catKind cfg) cfg.payload req)
            (Spec.Server.verdictRcode v).1 b := by
  obtain ⟨t, mw, r', h1, h2, h3⟩ := signed_noData_response cfg tr now bufLen req hbuf hpay hreq hr hv
  obtain ⟨b, hb⟩ := response_exists cfg hcfg tr now bufLen req hbuf hpay hreq hnow hr
  refine ⟨t, mw, r', h1, h2, fun r'' S hT v hvv hev => ⟨b, hb, ?_⟩⟩
  obtain ⟨nowT, alg, key, kn, _, _, _, _, _, oe, sT, _, hsh, _, hbl⟩ := h3 r'' S hT v hvv hev b hb
  exact signedNoData_of_list req cfg.payload _ _ (verdictRcode_lt v) oe _ _ hsh b hbl

/-! ### authenticated requests that a loaded zone answers -/

/-- **an authenticated request answered from a loaded zone**: whatever the zone answers, the
    response ends with the TSIG record (mode `Response`: request MAC and the key), whose MAC is
    `macFn` of exactly the octets before it; and when the scan reached an OPT, those octets end with
    the one OPT record (owner root, CLASS = server payload size, version and flags 0). -/
theorem signed_answer_response (cfg : Server.Cfg) (tr : Server.Transport) (now bufLen : Nat) (req : Bytes)
    (hbuf : minBuf tr cfg.payload ≤ bufLen) (hpay : 512 ≤ cfg.payload) (hreq : req.size ≤ Rdata.USIZE_MAX)
    (hr : (Spec.Server.specScanWith (catKind cfg) cfg.payload req).respond = true)
    (hv : (Spec.Server.specScanWith (catKind cfg) cfg.payload req).verdict = .tsigReached) :
    ∃ (t : Tsig.ReadTsigRr) (mw : Bytes) (r' : Reader), r'.octets = req ∧ r'.cursor ≤ req.size ∧
      ∀ r'' S, Server.tsigAfter cfg now t mw r' (preTsigState cfg tr bufLen req) = (.ok (some r''), S) →
        endVerdict (catKind cfg) req.size (Spec.Server.specScanWith (catKind cfg) cfg.payload req).question
          r'.cursor ((req.getD 2 0).toNat / 8 % 16) = .answer →
      ∀ b, Server.handleMessage cfg tr now bufLen req = .ok (some b) →
        ∃ nowT alg key kn, Tsig.TimeSigned.tryFromUnix now = some nowT ∧
          Tsig.Algorithm.fromName t.algorithm = some alg ∧ Server.findKey cfg.keys t.keyName alg = some key ∧
          WName.parse t.keyName = some (kn, []) ∧
          Tsig.verifyRequest Tsig.realHmac t mw.toList alg key.secret nowT = .ok () ∧
          ∃ pre oe, NameShape kn oe ∧
            b.toList = pre ++ tsigRecordOctets oe (respTsig alg key kn t nowT)
              (some (Server.macFn (respTsig alg key kn t nowT) pre)) ∧
            ((Spec.Server.specScanWith (catKind cfg) cfg.payload req).edns = true →
              ∃ x upper, pre = x ++ optRecord ⟨cfg.payload, upper⟩) ∧
            ((Spec.Server.specScanWith (catKind cfg) cfg.payload req).edns = false →
              ∃ w1 : State, pre = finishPrefix w1) := by
  obtain ⟨t, mw, r', question, h1, h2, _, h4, _⟩ := handleMessage_tsig_eq cfg tr now bufLen req hbuf hpay hreq hr hv
  refine ⟨t, mw, r', h1, h2, fun r'' S hT hev b hb => ?_⟩
  rw [hT, hb] at h4
  simp only [afterTsig, hev, if_true] at h4
  have h1s := (scan_facts cfg tr bufLen req hbuf hpay hr).s1
  have h12 := preTsig_size cfg tr bufLen req hbuf hpay hr
  obtain ⟨nowT, alg, key, kn, hnow, ha, hk, hkn, hver, _, hS⟩ :=
    tsigAfter_some_state cfg now t mw r' _ h12 r'' S hT
  refine ⟨nowT, alg, key, kn, hnow, ha, hk, hkn, hver, ?_⟩
  have hX := preTsig_final cfg tr bufLen req hbuf hpay hr 0 0 (by omega) (by omega) _ _ S (Or.inl ⟨hS, rfl⟩)
  have hSrr : 12 ≤ S.rrStart := by
    have e1 : ∀ x : State, (stRcode 0 x).rrStart = x.rrStart := fun x => by
      unfold stRcode stHdr; cases x.edns <;> rfl
    have e2 : ∀ (x : State) (e : Bool) (l : Nat), (arSt x tr cfg.payload e l).rrStart = x.rrStart := fun x e l => by
      cases e <;> cases tr <;> rfl
    rw [hS]
    show 12 ≤ (stRcode 0 (preTsigState cfg tr bufLen req)).rrStart
    rw [e1, preTsigState, e2, h1s.rrStart]
    omega
  -- the answering phase keeps the TSIG slot and the EDNS payload
  have hfr := framed_bind (k := true) (Server.framed_handleQuery 12 (by omega) cfg question tr)
    (fun _ => framed_pure 12 true) S (by rw [hX.cur, h1s.cur]; omega) hSrr
  obtain ⟨k1, k2⟩ := hfr.keep rfl
  rcases hq : (Server.handleQuery cfg question tr >>= fun _ => (pure true : M Bool)) S with ⟨(bb | e | _), w1⟩
  · rw [hq] at h4 hfr k1 k2
    simp only at hfr k1 k2
    cases bb with
    | false => simp only at h4; cases h4
    | true =>
      simp only at h4
      obtain ⟨mac, hfin⟩ := finish_of_response (.ok true, _) h4
      have hts : w1.tsig = some (respTsig alg key kn t nowT) := by rw [k1, hX.tsig]; rfl
      obtain ⟨_, hmac, oe, sT, hoe, _, _, _, hbl⟩ :=
        finish_octets_tsig Server.macFn w1 hfr.cur _ hts b mac hfin
      have hmac' : mac = some (Server.macFn (respTsig alg key kn t nowT) (finishPrefix w1 ++ optEnc w1.edns)) := by
        rw [hmac]; rfl
      rw [hmac'] at hbl
      refine ⟨finishPrefix w1 ++ optEnc w1.edns, oe, nameEnc_none_shape hoe, hbl, ?_, ?_⟩
      · intro he
        rw [hX.edns, he] at k2
        simp only [if_true, Option.map_some] at k2
        rcases hw : w1.edns with _ | ed
        · rw [hw] at k2; cases k2
        · rw [hw] at k2
          simp only [Option.map_some, Option.some.injEq] at k2
          refine ⟨finishPrefix w1, ed.upper, ?_⟩
          rw [optEnc_some]
          congr 2
          cases ed; simp only at k2; rw [k2]
      · intro he
        rw [hX.edns, he] at k2
        simp only [Bool.false_eq_true, if_false, Option.map_none, Option.map_eq_none_iff] at k2
        refine ⟨w1, ?_⟩
        rw [k2]; simp [optEnc]
  · rw [hq] at h4; cases h4
  · rw [hq] at h4; cases h4

end QV.ServerScan
