/-
  QV.Proofs.ServerTsig — lemmas behind property C10 (the TSIG branch of the server model): the
  decision table of `tsigProcess`, the response MAC, frame lemmas for the scan of the request, the
  split of `handle_message_with_context` into scan phase and opcode dispatch, the
  authenticated-TSIG invariant, and the room available over TCP; at the end (namespace
  `QV.ServerSafety`) `noErr_scanAr` and `noErr_handleWithContext`, which close QV.Proofs.ServerNoErr.
  What `set_tsig_or_truncate` does to the writer is in QV.Proofs.TsigWriter, the TSIG step as one
  equation in QV.Proofs.TsigStep.
-/
import QV.Proofs.TsigStep
import QV.Proofs.ServerNoErr
import QV.Proofs.WriterBudget
namespace QV.ServerTsig
open QV QV.Server QV.Writer

/-! ### the decision table of the TSIG branch -/

/-- the observable effect of one TSIG reply on the writer: RCODE `rc` is set; then either the TSIG RR
    (`mode`, `rr`) is recorded and the step returns `res`, or — it does not fit — the response
    degrades to TC / NOERROR without TSIG and the step returns `none` (stop) -/
def Responds (s : State) (rc : Nat) (mode : TsigMode) (rr : TsigRr) (res : Option Reader.Reader)
    (out : Out WriterErr (Option Reader.Reader) × State) : Prop :=
  ∃ s1, HeaderOnly s s1 ∧ getRcode s1 = rc ∧ (∀ i, i ≠ Gen.RCODE_BYTE → hdr s1 i = hdr s i) ∧
    ((TsigFits s mode rr ∧ out = (.ok res, withTsig s1 mode rr)) ∨
     (¬ TsigFits s mode rr ∧ ∃ s', out = (.ok none, s') ∧ HeaderOnly s s' ∧ getRcode s' = 0 ∧
        getBit s' Gen.TC_BYTE Gen.TC_MASK = true))

open ServerScan in
/-- `Responds` of what `tsigProcess_eq` says the step returns and leaves -/
theorem responds_stepSt (s : State) (hs : 12 ≤ s.octets.size) (rc : Nat) (hrc : rc < 16) (mode : TsigMode)
    (rr : TsigRr) (go : Bool) (r' : Reader.Reader) :
    Responds s rc mode rr (if go then some r' else none)
      (.ok (if go = true ∧ TsigFits s mode rr then some r' else none), stepSt rc mode rr s) := by
  obtain ⟨s1, h1, f1, r1, k1⟩ := setRcode_spec rc hrc s hs
  rw [setRcode_eq rc s (by omega)] at h1
  obtain ⟨_, rfl⟩ := Prod.mk.inj h1
  refine ⟨_, f1, r1, k1, ?_⟩
  by_cases hf : TsigFits s mode rr
  · rw [stepSt_fits hf]
    cases go
    · rw [if_neg (fun h => Bool.false_ne_true h.1)]; exact .inl ⟨hf, rfl⟩
    · rw [if_pos ⟨rfl, hf⟩]; exact .inl ⟨hf, rfl⟩
  · have hf1 : ¬ TsigFits (stRcode rc s) mode rr := fun h => hf ((stRcode_fits rc s mode rr).mp h)
    have hs1 : 12 ≤ (stRcode rc s).octets.size := by rw [f1.size]; exact hs
    obtain ⟨s', h', f', r0, tc⟩ := setTsigOrTruncate_nofit mode rr _ hs1 hf1
    rw [setTsigOrTruncate_nofit_eq mode rr _ (by omega) hf1] at h'
    obtain ⟨_, rfl⟩ := Prod.mk.inj h'
    rw [stepSt_nofit hf, if_neg (fun h => hf h.2)]
    exact .inr ⟨hf, _, rfl, f1.trans f', r0, tc⟩

/-- **The decision table of the TSIG branch**, in the code's precedence: unknown algorithm ⇒
    BADKEY; key unknown or configured for another algorithm ⇒ BADKEY; then whatever
    `verify_request` says: FORMERR (MAC size), BADSIG, BADTIME, or authenticated. -/
theorem tsigProcess_table (hm : Tsig.Algorithm → Tsig.Octets → Tsig.Octets → Tsig.Octets) (keys : List Key)
    (s : State) (hs : 12 ≤ s.octets.size) (r : Tsig.ReadTsigRr) (msg : List UInt8)
    (nowT : Tsig.TimeSigned) (r' : Reader.Reader) (kn an : WName)
    (hkn : WName.parse r.keyName = some (kn, [])) (han : WName.parse r.algorithm = some (an, [])) :
    let out := tsigProcess hm keys nowT r msg r' s
    match Tsig.Algorithm.fromName r.algorithm with
    | none => Responds s 9 (.unsigned an) (prepOf kn r nowT 17) none out
    | some alg =>
      match findKey keys r.keyName alg with
      | none => Responds s 9 (.unsigned an) (prepOf kn r nowT 17) none out
      | some key =>
        match Tsig.verifyRequest hm r msg alg key.secret nowT with
        | .ok () => Responds s 0 (.response (toWriterAlg alg) (Tsig.ReadTsigRr.mac r) key.secret) (prepOf kn r nowT 0) (some r') out
        | .err .FormErr => Responds s 1 (.unsigned (algName (toWriterAlg alg))) (prepOf kn r nowT 16) none out
        | .err .BadSig => Responds s 9 (.unsigned (algName (toWriterAlg alg))) (prepOf kn r nowT 16) none out
        | .err .BadTime => Responds s 9 (.response (toWriterAlg alg) (Tsig.ReadTsigRr.mac r) key.secret) (prepOf kn r nowT 18) none out
        | .panic => out.1 = .panic := by
  intro out
  have h3 : 3 < s.octets.size := by omega
  -- each row is the decision the table takes there, then `tsigProcess_eq`
  have row : ∀ {rc mode rr go}, ServerScan.tsigDecision hm keys nowT r msg kn an = some (rc, mode, rr, go) →
      rc < 16 → Responds s rc mode rr (if go then some r' else none) out := fun hd hrc => by
    unfold out
    rw [ServerScan.tsigProcess_eq s h3 r' hkn han hd]
    exact responds_stepSt s hs _ hrc _ _ _ r'
  cases ha : Tsig.Algorithm.fromName r.algorithm with
  | none => exact row (go := false) (by simp only [ServerScan.tsigDecision, ha]) (by omega)
  | some alg =>
    dsimp only
    cases hk : findKey keys r.keyName alg with
    | none => exact row (go := false) (by simp only [ServerScan.tsigDecision, ha, hk]) (by omega)
    | some key =>
      dsimp only
      rcases hv : Tsig.verifyRequest hm r msg alg key.secret nowT with ⟨⟩ | (_ | _ | _) | _
      · exact row (go := true) (by simp only [ServerScan.tsigDecision, ha, hk, hv]) (by omega)
      · exact row (go := false) (by simp only [ServerScan.tsigDecision, ha, hk, hv]) (by omega)
      · exact row (go := false) (by simp only [ServerScan.tsigDecision, ha, hk, hv]) (by omega)
      · exact row (go := false) (by simp only [ServerScan.tsigDecision, ha, hk, hv]) (by omega)
      · unfold out tsigProcess
        simp only [ha, hk, tsigVerifyAndWrite, hv, tsigReply]

/-! ### the response MAC -/

open QV.Tsig

theorem asSlice_ofList (l : Octets) (h : l.length = 6) : (TimeSigned.ofList l).asSlice = l := by
  match l, h with
  | [a, b, c, d, e, f], _ => rfl

theorem toUnix_ofList (l : Octets) (h : l.length = 6) : (TimeSigned.ofList l).toUnix = Spec.Tsig.nat48 l := by
  match l, h with
  | [a, b, c, d, e, f], _ =>
    simp [TimeSigned.ofList, TimeSigned.toUnix, Spec.Tsig.nat48]
    omega

theorem canonName_lower (kl : List Octets) (h : ∀ l ∈ kl, l.map Spec.Tsig.lower = l) :
    Spec.Tsig.canonName kl = (⟨kl⟩ : WName).wire := by
  unfold Spec.Tsig.canonName WName.wire
  congr 1
  induction kl with
  | nil => rfl
  | cons a t ih =>
    simp only [List.flatMap_cons]
    rw [ih (fun l hl => h l (List.mem_cons_of_mem _ hl)), h a (List.mem_cons_self ..)]
    rfl

/-- labels of the algorithm's name (RFC 8945 §6) -/
def algLabels : Hmac.Alg → List Octets
  | .HmacSha1 => (Spec.Tsig.algorithms.getD 0 ([], 0)).1
  | .HmacSha256 => (Spec.Tsig.algorithms.getD 1 ([], 0)).1

theorem canonName_algLabels (alg : Hmac.Alg) : Spec.Tsig.canonName (algLabels alg) = Algorithm.name alg := by
  cases alg <;> decide

theorem ofNat16_eq_iff (a b : Nat) (ha : a < 65536) (hb : b < 65536) : UInt16.ofNat a = UInt16.ofNat b ↔ a = b := by
  constructor
  · intro h
    have := congrArg UInt16.toNat h
    simp [UInt16.toNat_ofNat'] at this
    omega
  · intro h; rw [h]

/-- the RFC 8945 variables of the response TSIG recorded in the writer -/
def respVars (rr : TsigRr) (alg : Hmac.Alg) : Spec.Tsig.Vars :=
  { keyName := rr.keyName.labels, algName := algLabels alg, timeSigned := Spec.Tsig.nat48 rr.timeSigned,
    fudge := rr.fudge, error := rr.error, other := if rr.error = 18 then rr.serverTime else [] }

def ofWriterAlg : Writer.Alg → Hmac.Alg
  | .hmacSha1 => .HmacSha1
  | .hmacSha256 => .HmacSha256

/-- a prepared TSIG RR as `new_from_read` builds it: lower-case key name, 48-bit times, 16-bit fields -/
structure RrWF (rr : TsigRr) : Prop where
  lower : ∀ l ∈ rr.keyName.labels, l.map Spec.Tsig.lower = l
  time : rr.timeSigned.length = 6
  server : rr.serverTime.length = 6
  fudge : rr.fudge < 65536
  origId : rr.originalId < 65536
  error : rr.error < 65536

/-- the prepared RR of every row of the decision table is well formed in the sense of `RrWF` as soon
    as the key name is in lower case (it is a `LowercaseName`) -/
theorem prepOf_wf (kn : WName) (r : ReadTsigRr) (nowT : TimeSigned) (e : Nat)
    (hl : ∀ l ∈ kn.labels, l.map Spec.Tsig.lower = l) (he : e < 65536) : RrWF (prepOf kn r nowT e) := by
  refine ⟨hl, ?_, rfl, (by show 300 < 65536; omega), UInt16.toNat_lt _, he⟩
  show (if e = 18 then _ else _ : List UInt8).length = 6
  split <;> rfl

/-- the `PreparedTsigRr` the writer hands to `sign_response` -/
def prepW (rr : TsigRr) : PreparedTsigRr :=
  { keyName := rr.keyName.wire, timeSigned := TimeSigned.ofList rr.timeSigned,
    fudge := UInt16.ofNat rr.fudge, originalId := UInt16.ofNat rr.originalId,
    error := UInt16.ofNat rr.error, serverTime := TimeSigned.ofList rr.serverTime }

theorem macFnWith_response (hm : Algorithm → Octets → Octets → Octets) (ts : Writer.Tsig) (message : List UInt8)
    (alg : Writer.Alg) (requestMac key : List UInt8) (hmode : ts.mode = .response alg requestMac key) :
    macFnWith hm ts message =
      match signResponse (ε := Unit) hm (prepW ts.rr) message requestMac (ofWriterAlg alg) key with
      | .ok (_, mac) => mac
      | _ => [] := by
  unfold macFnWith
  rw [hmode]
  cases alg <;> rfl

theorem prepW_abstracts (rr : TsigRr) (wf : RrWF rr) (alg : Hmac.Alg) :
    Abstracts ((prepW rr).vars (Algorithm.name alg)) (respVars rr alg) := by
  constructor
  · show rr.keyName.wire = _
    rw [respVars, canonName_lower _ wf.lower]
  · show Algorithm.name _ = _
    rw [respVars, canonName_algLabels]
  · rfl
  · rfl
  · show (TimeSigned.ofList rr.timeSigned).toUnix = _
    rw [toUnix_ofList _ wf.time]; rfl
  · show (UInt16.ofNat rr.fudge).toNat = _
    simp [respVars, UInt16.toNat_ofNat']; have := wf.fudge; omega
  · show (UInt16.ofNat rr.error).toNat = _
    simp [respVars, UInt16.toNat_ofNat']; have := wf.error; omega
  · show PreparedTsigRr.other _ = _
    unfold PreparedTsigRr.other respVars BADTIME prepW
    dsimp only
    have h18 : Gen.XRCODE_BADTIME = 18 := by decide
    rw [h18]
    by_cases he : rr.error = 18
    · rw [if_pos he, if_pos (by rw [he]), asSlice_ofList _ wf.server]
    · rw [if_neg he, if_neg]
      intro h
      exact he ((ofNat16_eq_iff _ _ wf.error (by omega)).mp h)

theorem macFnWith_eq_rfc (hm : Algorithm → Octets → Octets → Octets) (ts : Writer.Tsig) (message : List UInt8)
    (alg : Writer.Alg) (requestMac key : List UInt8) (hmode : ts.mode = .response alg requestMac key)
    (wf : RrWF ts.rr) (hreq : requestMac.length ≤ 65535) (hmsg : MsgOk message)
    (hlen : ∀ d, (hm (ofWriterAlg alg) key d).length ≤ 65000) :
    macFnWith hm ts message =
      hm (ofWriterAlg alg) key
        (Spec.Tsig.digestInput .response message ts.rr.originalId (respVars ts.rr (ofWriterAlg alg)) requestMac) := by
  rw [macFnWith_response hm ts message alg requestMac key hmode]
  have hid : (prepW ts.rr).originalId.toNat = ts.rr.originalId := by
    simp [prepW, UInt16.toNat_ofNat']; have := wf.origId; omega
  have := signMode_eq (ε := Unit) hm .response (prepW ts.rr) message requestMac (ofWriterAlg alg) key
    (respVars ts.rr (ofWriterAlg alg)) (prepW_abstracts ts.rr wf _) (hlen _)
  have hs : signMode (ε := Unit) hm .response (prepW ts.rr) message requestMac (ofWriterAlg alg) key =
      signResponse hm (prepW ts.rr) message requestMac (ofWriterAlg alg) key := rfl
  rw [hs, if_pos ⟨hreq, hmsg⟩] at this
  rw [this, hid]

/-! ### the scan writes no record -/

/-- sequencing for a relation between the state before and the state after, whatever the outcome:
    `x` establishes `R₁`, every continuation `R₂`; `R₁` then `R₂` gives `R`, and so does `R₁` alone
    (when `x` does not return a value) -/
theorem bind_rel {α β} {R₁ R₂ R : State → State → Prop} {x : M α} {f : α → M β}
    (hx : ∀ s, R₁ s (x s).2) (hf : ∀ a s, R₂ s (f a s).2)
    (comp : ∀ {a b c}, R₁ a b → R₂ b c → R a c) (stop : ∀ {a b}, R₁ a b → R a b) :
    ∀ s, R s ((x >>= f) s).2 := by
  intro s
  rw [M.bind_apply]
  have h1 := hx s
  split <;> rename_i heq <;> rw [heq] at h1
  · exact comp h1 (hf _ _)
  · exact stop h1
  · exact stop h1

/-- a writer operation that leaves the record area alone, whatever its outcome -/
def Fr {α} (m : M α) : Prop := ∀ s, ScanFrame s (m s).2

theorem Fr.setHdr (i : Nat) (f : UInt8 → UInt8) : Fr (setHdr i f) := by
  intro s; unfold Writer.setHdr
  split
  · constructor <;> simp
  · exact ScanFrame.refl s

theorem Fr.setEdns (p : Nat) : Fr (setEdns p) := by
  intro s
  obtain ⟨_, h, _⟩ | ⟨_, _, _, h⟩ := Writer.setEdns_cases p s <;> rw [h]
  · exact ScanFrame.refl s
  · exact ⟨rfl, rfl, rfl, rfl, rfl, rfl, rfl⟩

theorem Fr.setLimit (n : Nat) : Fr (setLimit n) := by
  intro s
  obtain ⟨_, h⟩ | ⟨_, _, h, _⟩ := Writer.setLimit_cases n s <;> rw [h]
  · exact ScanFrame.refl s
  · exact ⟨rfl, rfl, rfl, rfl, rfl, rfl, rfl⟩

theorem Fr.setExtendedRcode (raw : Nat) : Fr (setExtendedRcode raw) := by
  intro s
  rcases Writer.setExtendedRcode_cases raw s with ⟨_, h⟩ | ⟨_, _, ⟨_, h⟩ | ⟨_, r, s1, hs1, ⟨_, _, h⟩ | ⟨rfl, h⟩⟩⟩ <;> rw [h]
  · exact ScanFrame.refl s
  · exact ScanFrame.refl s
  · exact ScanFrame.refl s
  · have h := Fr.setHdr Gen.RCODE_BYTE (fun b => (b &&& ~~~ (UInt8.ofNat Gen.RCODE_MASK)) |||
      (UInt8.ofNat (raw % 256) &&& UInt8.ofNat Gen.RCODE_MASK)) s
    rw [hs1] at h
    exact ⟨h.cursor, h.rrStart, h.sect, h.qdcount, h.ancount, h.nscount, h.size⟩

theorem Fr.unwrap {α} {m : M α} (h : Fr m) : Fr (Writer.unwrap m) :=
  fun s => by rw [Writer.unwrap_snd]; exact h s

theorem Fr.const {α} (r : Out WriterErr α) : Fr (fun s => (r, s)) := fun s => ScanFrame.refl s

theorem Fr.setRcode (rc : Nat) : Fr (setRcode rc) :=
  bind_rel (Fr.setHdr _ _) (fun _ s => by
    show ScanFrame s (match s.edns with
      | some e => { s with edns := some { e with upper := 0 } }
      | none => s)
    cases s.edns <;> exact ⟨rfl, rfl, rfl, rfl, rfl, rfl, rfl⟩) ScanFrame.trans id

/-- a step that writes no record, then a plain `return` -/
theorem Fr.andPure {α β} {m : M α} (h : Fr m) (b : β) : Fr (m >>= fun _ => (pure b : M β)) :=
  bind_rel (R₁ := ScanFrame) (R₂ := ScanFrame) h (fun _ s => ScanFrame.refl s) ScanFrame.trans id

open ServerScan in
/-- the TSIG branch writes no record: it panics, stops with FORMERR, or is the TSIG step, which leaves
    `s`, `stRcode 9 s` or `stepSt rc mode rr s` -/
theorem Fr.handleTsig (cfg : Cfg) (now : Nat) (p : Reader.PeekRr) (raw : Nat) : Fr (handleTsig cfg now p raw) := by
  intro s
  obtain h | h | ⟨nowT, t, mw, r', _, h⟩ := ServerSafety.handleTsig_cases cfg now p raw s <;> rw [h]
  · exact ScanFrame.refl s
  · exact (Fr.setRcode _).andPure none s
  · rcases tsigProcess_out (hm := realHmac) (keys := cfg.keys) (nowT := nowT) (r := t) (msg := mw) s r' with
      h | ⟨_, h⟩ | ⟨_, _, rc, mode, rr, _, _, _, _, _, _, h⟩ <;> rw [h]
    · exact ScanFrame.refl s
    · exact stRcode_frame 9 s
    · exact (stepSt_frame rc mode rr s).1

/-- **the scan of the additional section writes no record**, whatever it finds and however it ends -/
theorem Fr.scanAr (cfg : Cfg) (tr : Transport) (now arcount : Nat) (n index : Nat) (st : ScanSt) :
    Fr (scanAr cfg tr now arcount n index st) := by
  intro s0
  have step : ∀ {α} {m : M α} {s : State}, ScanFrame s0 s → Fr m → ScanFrame s0 (m s).2 :=
    fun h hm => h.trans (hm _)
  have L : ServerSafety.Rule cfg tr now arcount (fun _ _ => True) (fun _ _ => ScanFrame s0)
      (fun _ _ => ScanFrame s0) (fun _ => ScanFrame s0) :=
    { arith := fun _ _ _ => trivial
      done := fun _ _ _ h => h
      weak := fun _ _ _ h => h
      rpanic := fun _ _ _ h _ => h
      stop := fun _ _ _ v _ h => step h ((Fr.setRcode v).andPure none)
      xstop := fun _ _ _ v _ h => step h ((Fr.unwrap (Fr.setExtendedRcode v)).andPure none)
      edns := fun _ _ s s1 h he => by have := step h (Fr.setEdns cfg.payload); rwa [he] at this
      limit := fun _ _ _ _ _ _ _ h _ _ => ⟨fun _ => step h (Fr.setLimit _), fun _ => step h (Fr.setLimit _)⟩
      nextOpt := fun _ _ _ _ _ _ h _ _ => h
      skip := fun _ _ _ _ h _ => h
      tsig := fun _ _ _ _ p raw _ _ h _ _ =>
        have hT := step h (Fr.handleTsig cfg now p raw)
        ServerSafety.tsigPost.intro _ _ (fun _ _ => hT) fun _ _ _ _ _ => hT }
  exact L.scanAr n index st s0 trivial (ScanFrame.refl s0)


/-! ### scan phase and dispatch -/

/-- the scan phase after the question step `addQ` (which says whether to go on): pre-scan of answer +
    authority, scan of the additional section, end-of-message test. Same text as in `scanPhase`. -/
def scanTail (cfg : Cfg) (tr : Transport) (now an ns ar : Nat) (question : Option (WName × Nat × Nat))
    (r1 : Reader.Reader) (addQ : M Bool) : M ScanEnd := do
  let okQ ← addQ
  if !okQ then pure ScanEnd.stop
  else
    let r2 := Reader.setMark r1
    match scanAnNs (an + ns) r2 with
    | none => do setRcode (RC "FORMERR"); pure ScanEnd.stop
    | some r3 => do
      let st ← scanAr cfg tr now ar ar 0 { r := r3 }
      match st with
      | none => pure ScanEnd.stop
      | some st' =>
        if !Reader.atEom st'.r then do setRcode (RC "FORMERR"); pure ScanEnd.stop
        else pure (ScanEnd.proceed question)

/-- `handle_message_with_context` up to (not including) the opcode dispatch: question, pre-scan of
    answer + authority, scan of the additional section (OPT, TSIG), end-of-message test.
    Same text as the first part of `Server.handleWithContext`; `handleWithContext_eq` ties them. -/
def scanPhase (cfg : Cfg) (tr : Transport) (now : Nat) (r0 : Reader.Reader) : M ScanEnd := fun s =>
  match Reader.qdcount r0, Reader.ancount r0, Reader.nscount r0, Reader.arcount r0, Reader.opcode r0 with
  | .ok qd, .ok an, .ok ns, .ok ar, .ok _ =>
    let qres : Option (Option (WName × Nat × Nat) × Reader.Reader) × Bool × Option Nat :=
      if qd = 0 then (some (none, r0), true, none)
      else if qd = 1 then
        match Reader.readQuestion r0 with
        | (.ok q, r1) =>
          match WName.parse q.qname with
          | some (qn, []) => (some (some (qn, q.qtype, q.qclass), r1), true, none)
          | _ => (none, true, some 255)
        | (.err _, _) => (none, true, some (RC "FORMERR"))
        | (.panic, _) => (none, true, some 255)
      else (none, false, none)
    match qres with
    | (none, false, _) => (.ok ScanEnd.noResponse, s)
    | (none, true, some 255) => (.panic, s)
    | (none, true, rc) => (do setRcode (rc.getD 0); pure ScanEnd.stop) s
    | (some (question, r1), _, _) =>
      let addQ : M Bool := match question with
        | some (qn, qt, qc) => fun s =>
          match addQuestion qn qt qc s with
          | (.ok (), s') => (.ok true, s')
          | (.err _, s') => (do setRcode (RC "SERVFAIL"); pure false) s'
          | (.panic, s') => (.panic, s')
        | none => pure true
      (do
        let okQ ← addQ
        if !okQ then pure ScanEnd.stop
        else
          let r2 := Reader.setMark r1
          match scanAnNs (an + ns) r2 with
          | none => do setRcode (RC "FORMERR"); pure ScanEnd.stop
          | some r3 => do
            let st ← scanAr cfg tr now ar ar 0 { r := r3 }
            match st with
            | none => pure ScanEnd.stop
            | some st' =>
              if !Reader.atEom st'.r then do setRcode (RC "FORMERR"); pure ScanEnd.stop
              else pure (ScanEnd.proceed question)) s
  | _, _, _, _, _ => (.panic, s)

/-- the opcode dispatch of `handle_message_with_context`; result = `send_response` -/
def dispatch (cfg : Cfg) (tr : Transport) (opcode : Nat) : ScanEnd → M Bool
  | .stop => pure true
  | .noResponse => pure false
  | .proceed question => do
    if opcode = 0 then handleQuery cfg question tr else setRcode (RC "NOTIMP")
    pure true

/-- sequencing of the two phases (the `bind` of the writer monad, spelled out) -/
def andThen {α β} (r : Out WriterErr α × State) (f : α → M β) : Out WriterErr β × State :=
  match r with
  | (.ok a, s') => f a s'
  | (.err e, s') => (.err e, s')
  | (.panic, s') => (.panic, s')

theorem tail_eq (cfg : Cfg) (tr : Transport) (now an ns ar opcode : Nat) (question : Option (WName × Nat × Nat))
    (r1 : Reader.Reader) (addQ : M Bool) (s : State) :
    (do
        let okQ ← addQ
        if !okQ then pure true
        else
          let r2 := Reader.setMark r1
          match scanAnNs (an + ns) r2 with
          | none => do setRcode (RC "FORMERR"); pure true
          | some r3 => do
            let st ← scanAr cfg tr now ar ar 0 { r := r3 }
            match st with
            | none => pure true
            | some st' =>
              if !Reader.atEom st'.r then do setRcode (RC "FORMERR"); pure true
              else do
                if opcode = 0 then handleQuery cfg question tr else setRcode (RC "NOTIMP")
                pure true : M Bool) s =
      andThen (scanTail cfg tr now an ns ar question r1 addQ s) (dispatch cfg tr opcode) := by
  unfold scanTail
  -- `andThen (m s) f` is `(m >>= f) s`: push `>>= dispatch` through the binds and branches
  show _ = (_ >>= dispatch cfg tr opcode) s
  rw [M.bind_assoc]
  refine congrFun (congrArg (addQ >>= ·) (funext fun okQ => ?_)) s
  cases okQ
  · rfl
  · simp only [Bool.not_true, Bool.false_eq_true, if_false]
    cases scanAnNs (an + ns) (Reader.setMark r1) with
    | none => dsimp only; rw [M.bind_assoc]; rfl
    | some r3 =>
      dsimp only
      rw [M.bind_assoc]
      refine congrArg (scanAr cfg tr now ar ar 0 { r := r3 } >>= ·) (funext fun st => ?_)
      cases st with
      | none => rfl
      | some st' =>
        dsimp only
        split
        · rw [M.bind_assoc]; rfl
        · rfl

theorem handleWithContext_eq (cfg : Cfg) (tr : Transport) (now : Nat) (r0 : Reader.Reader) (s : State) :
    handleWithContext cfg tr now r0 s =
      andThen (scanPhase cfg tr now r0 s) (dispatch cfg tr ((Reader.opcode r0).toOption.getD 0)) := by
  unfold handleWithContext scanPhase
  -- unless all five header fields are read, both sides panic
  rcases Reader.qdcount r0 with qd | e | _ <;> try rfl
  rcases Reader.ancount r0 with an | e | _ <;> try rfl
  rcases Reader.nscount r0 with ns | e | _ <;> try rfl
  rcases Reader.arcount r0 with ar | e | _ <;> try rfl
  rcases Reader.opcode r0 with opcode | e | _ <;> try rfl
  dsimp only [Out.toOption, Option.getD_some]
  -- QDCOUNT 0, 1, more: the `if`s of the question step evaluate
  rcases qd with _ | _ | qd
  · exact tail_eq cfg tr now an ns ar opcode none r0 _ s
  · rcases hrq : Reader.readQuestion r0 with ⟨q | e | _, r1⟩
    · dsimp only
      rcases WName.parse q.qname with _ | ⟨qn, _ | ⟨a, t⟩⟩
      · rfl
      · exact tail_eq cfg tr now an ns ar opcode (some (qn, q.qtype, q.qclass)) r1 _ s
      · rfl
    · -- FORMERR (= 1, not the 255 that marks the unreachable arm)
      rw [rc_formerr]
      show (setRcode 1 >>= fun _ => pure true) s =
        ((setRcode 1 >>= fun _ => pure ScanEnd.stop) >>= dispatch cfg tr opcode) s
      rw [M.bind_assoc]
      rfl
    · rfl
  · rfl

/-! ### the head of the scan phase -/

/-- what the head of the scan phase has read when it reaches the record sections: ARCOUNT, and no
    question (QDCOUNT 0) or the one question, whose QNAME is a name (QDCOUNT 1) -/
structure HeadOk (r0 : Reader.Reader) (ar : Nat) (question : Option (WName × Nat × Nat))
    (r1 : Reader.Reader) : Prop where
  ar : Reader.arcount r0 = .ok ar
  q : (Reader.qdcount r0 = .ok 0 ∧ question = none ∧ r1 = r0) ∨
      ∃ q qn, Reader.qdcount r0 = .ok 1 ∧ Reader.readQuestion r0 = (.ok q, r1) ∧
        WName.parse q.qname = some (qn, []) ∧ question = some (qn, q.qtype, q.qclass)

/-- the head cannot go on: a header field is not read, `read_question` panics, or `Name::try_from`
    of the QNAME it returned fails -/
def HeadPanics (r0 : Reader.Reader) : Prop :=
  (¬ ∃ qd an ns ar op, Reader.qdcount r0 = .ok qd ∧ Reader.ancount r0 = .ok an ∧ Reader.nscount r0 = .ok ns ∧
      Reader.arcount r0 = .ok ar ∧ Reader.opcode r0 = .ok op) ∨
  (Reader.readQuestion r0).1 = .panic ∨
  ∃ q r1, Reader.readQuestion r0 = (.ok q, r1) ∧ ∀ qn, WName.parse q.qname ≠ some (qn, [])

/-- **the four ways the scan phase starts**, whatever the writer: a panic of the head, no response
    (QDCOUNT > 1), FORMERR (the question cannot be read), or the question step and the scan -/
theorem scanPhase_cases (cfg : Cfg) (tr : Transport) (now : Nat) (r0 : Reader.Reader) (s : State) :
    (HeadPanics r0 ∧ scanPhase cfg tr now r0 s = (.panic, s)) ∨
    scanPhase cfg tr now r0 s = (.ok ScanEnd.noResponse, s) ∨
    scanPhase cfg tr now r0 s = (do setRcode (RC "FORMERR"); pure ScanEnd.stop : M ScanEnd) s ∨
    ∃ an ns ar question r1, HeadOk r0 ar question r1 ∧
      scanPhase cfg tr now r0 s = scanTail cfg tr now an ns ar question r1 (addQuestionOrServfail question) s := by
  unfold scanPhase
  split
  · rename_i qd an ns ar _ hqd _ _ har _
    dsimp only
    -- QDCOUNT 0, 1, more
    rcases qd with _ | _ | qd
    · exact .inr (.inr (.inr ⟨an, ns, ar, none, r0, ⟨har, .inl ⟨hqd, rfl, rfl⟩⟩, rfl⟩))
    · rcases hrq : Reader.readQuestion r0 with ⟨q | e | _, r1⟩
      · dsimp only
        rcases hpn : WName.parse q.qname with _ | ⟨qn, _ | ⟨a, t⟩⟩
        · exact .inl ⟨.inr (.inr ⟨q, r1, hrq, fun qn e => by rw [hpn] at e; cases e⟩), rfl⟩
        · exact .inr (.inr (.inr ⟨an, ns, ar, some (qn, q.qtype, q.qclass), r1,
            ⟨har, .inr ⟨q, qn, hqd, hrq, hpn, rfl⟩⟩, rfl⟩))
        · exact .inl ⟨.inr (.inr ⟨q, r1, hrq, fun qn e => by rw [hpn] at e; cases e⟩), rfl⟩
      · rw [rc_formerr]; exact .inr (.inr (.inl rfl))
      · exact .inl ⟨.inr (.inl (by rw [hrq])), rfl⟩
    · exact .inr (.inl rfl)
  · rename_i hno
    exact .inl ⟨.inl fun ⟨qd, an, ns, ar, op, h1, h2, h3, h4, h5⟩ => hno qd an ns ar op h1 h2 h3 h4 h5, rfl⟩

/-! ### writing the question

  What `add_question` does to the writer: it leaves the counts and the reservations alone (`QFrame`),
  and does not touch the octets below the old cursor — in particular the header (`Low`); the two
  together are a record law (`qLaw`), so they hold of the question's body whatever its outcome; how
  far the cursor advances is the body's budget (`bud_addQuestionBody`). -/

theorem writeAt_size (a : Bytes) (pos : Nat) (d : List UInt8) : (writeAt a pos d).size = a.size := by
  induction d generalizing a pos with
  | nil => rfl
  | cons b bs ih => unfold writeAt; rw [ih]; simp

theorem writeAt_low (a : Bytes) (pos : Nat) (d : List UInt8) (i : Nat) (hi : i < pos) :
    (writeAt a pos d).getD i 0 = a.getD i 0 := by
  induction d generalizing a pos with
  | nil => rfl
  | cons b bs ih =>
    unfold writeAt
    rw [ih _ _ (by omega)]
    have hne : pos ≠ i := by omega
    simp only [Array.getD_eq_getD_getElem?, Array.getElem?_setIfInBounds_ne hne]

/-- what writing the question leaves alone -/
structure QFrame (s s' : State) : Prop where
  rrStart : s'.rrStart = s.rrStart
  sect : s'.sect = s.sect
  qdcount : s'.qdcount = s.qdcount
  ancount : s'.ancount = s.ancount
  nscount : s'.nscount = s.nscount
  arcount : s'.arcount = s.arcount
  available : s'.available = s.available
  limit : s'.limit = s.limit
  tsig : s'.tsig = s.tsig
  edns : s'.edns = s.edns
  size : s'.octets.size = s.octets.size
  cursor : s.cursor ≤ s'.cursor

theorem QFrame.refl (s : State) : QFrame s s := ⟨rfl, rfl, rfl, rfl, rfl, rfl, rfl, rfl, rfl, rfl, rfl, Nat.le_refl _⟩
theorem QFrame.trans {a b c : State} (h1 : QFrame a b) (h2 : QFrame b c) : QFrame a c :=
  ⟨h2.rrStart.trans h1.rrStart, h2.sect.trans h1.sect, h2.qdcount.trans h1.qdcount, h2.ancount.trans h1.ancount,
   h2.nscount.trans h1.nscount, h2.arcount.trans h1.arcount, h2.available.trans h1.available,
   h2.limit.trans h1.limit, h2.tsig.trans h1.tsig, h2.edns.trans h1.edns, h2.size.trans h1.size,
   Nat.le_trans h1.cursor h2.cursor⟩

/-- the cursor only advances and the octets below the old cursor are unchanged -/
def Low (s s' : State) : Prop := s.cursor ≤ s'.cursor ∧ ∀ i, i < s.cursor → s'.octets.getD i 0 = s.octets.getD i 0

theorem Low.refl (s : State) : Low s s := ⟨Nat.le_refl _, fun _ _ => rfl⟩
theorem Low.trans {a b c : State} (h1 : Low a b) (h2 : Low b c) : Low a c :=
  ⟨Nat.le_trans h1.1 h2.1, fun i hi => (h2.2 i (by have := h1.1; omega)).trans (h1.2 i hi)⟩

/-- frame + how far the cursor may have moved: at most `k` octets -/
def QF {α} (k : Nat) (m : M α) : Prop := ∀ s, QFrame s (m s).2 ∧ (m s).2.cursor ≤ s.cursor + k

def LW {α} (m : M α) : Prop := ∀ s, Low s (m s).2

theorem QF.pure {α} (a : α) : QF 0 (Pure.pure a : M α) := fun s => ⟨QFrame.refl s, Nat.le_refl _⟩

theorem LW.pure {α} (a : α) : LW (Pure.pure a : M α) := fun s => Low.refl s

/-- a change that moves neither the cursor nor an octet -/
theorem qstep_same {s s' : State} (h : QFrame s s') (hc : s'.cursor = s.cursor) (ho : s'.octets = s.octets) :
    QFrame s s' ∧ Low s s' :=
  ⟨h, Nat.le_of_eq hc.symm, fun i _ => by rw [ho]⟩

/-- the two together are respected by everything the writer does while it writes a name or the question -/
theorem qLaw : RecLaw (fun s s' => QFrame s s' ∧ Low s s') fun _ => True where
  refl s := ⟨QFrame.refl s, Low.refl s⟩
  trans h1 h2 := ⟨h1.1.trans h2.1, h1.2.trans h2.2⟩
  trunc := trivial
  push s d _ _ _ _ := ⟨⟨rfl, rfl, rfl, rfl, rfl, rfl, rfl, rfl, rfl, rfl, writeAt_size _ _ _, Nat.le_add_right _ _⟩,
    Nat.le_add_right _ _, fun i hi => writeAt_low _ _ _ i hi⟩
  ptr s _ := qstep_same ⟨rfl, rfl, rfl, rfl, rfl, rfl, rfl, rfl, rfl, rfl, rfl, Nat.le_refl _⟩ rfl rfl
  ctx s _ := qstep_same ⟨rfl, rfl, rfl, rfl, rfl, rfl, rfl, rfl, rfl, rfl, rfl, Nat.le_refl _⟩ rfl rfl
  owner s _ := qstep_same ⟨rfl, rfl, rfl, rfl, rfl, rfl, rfl, rfl, rfl, rfl, rfl, Nat.le_refl _⟩ rfl rfl
  inRdata s _ := qstep_same ⟨rfl, rfl, rfl, rfl, rfl, rfl, rfl, rfl, rfl, rfl, rfl, Nat.le_refl _⟩ rfl rfl
  qname s _ := qstep_same ⟨rfl, rfl, rfl, rfl, rfl, rfl, rfl, rfl, rfl, rfl, rfl, Nat.le_refl _⟩ rfl rfl
  hv s _ := qstep_same ⟨rfl, rfl, rfl, rfl, rfl, rfl, rfl, rfl, rfl, rfl, rfl, Nat.le_refl _⟩ rfl rfl
  skip s n _ := ⟨⟨rfl, rfl, rfl, rfl, rfl, rfl, rfl, rfl, rfl, rfl, rfl, Nat.le_add_right _ _⟩,
    Nat.le_add_right _ _, fun _ _ => rfl⟩
  patch pos d h hp _ := ⟨⟨h.1.rrStart, h.1.sect, h.1.qdcount, h.1.ancount, h.1.nscount, h.1.arcount, h.1.available,
    h.1.limit, h.1.tsig, h.1.edns, (writeAt_size _ _ _).trans h.1.size, h.1.cursor⟩,
    h.2.1, fun i hi => (writeAt_low _ _ _ i (by omega)).trans (h.2.2 i hi)⟩

theorem QF.pushPointer (p : Nat) : QF 2 (pushPointer p) := by
  intro s
  refine ⟨(qLaw.pushPointer p s).1.1, ?_⟩
  unfold Writer.pushPointer
  simp only [M.bind_apply, M.gets_apply]
  rcases tryPush_cases (u16be (49152 + p)) s with h | ⟨_, h⟩ | ⟨_, _, h⟩ <;> rw [Writer.tryPushU16, h]
  · exact Nat.le_add_right _ _
  · exact Nat.le_add_right _ _
  · exact Nat.le_refl _

theorem LW.pushPointer (p : Nat) : LW (pushPointer p) := fun s => (qLaw.pushPointer p s).1.2

/-- what every step before the TSIG step keeps: the room for the TSIG RR and the record counts -/
structure Room (s s' : State) : Prop where
  sect : s'.sect = s.sect
  ancount : s'.ancount = s.ancount
  nscount : s'.nscount = s.nscount
  arcount : s'.arcount = s.arcount
  available : s'.available = s.available
  limit : s'.limit = s.limit
  tsig : s'.tsig = s.tsig
  edns : s'.edns = s.edns
  size : s'.octets.size = s.octets.size

theorem QFrame.room {s s' : State} (h : QFrame s s') : Room s s' :=
  ⟨h.sect, h.ancount, h.nscount, h.arcount, h.available, h.limit, h.tsig, h.edns, h.size⟩

/-- **`add_question`**: on success the record area starts right after the question, which takes at
    most `name + 6` octets (`+ 2`: a compression pointer the question never needs); on failure the
    cursor is rolled back. -/
theorem addQuestion_spec (qn : WName) (qt qc : Nat) (s : State) :
    (∀ s', addQuestion qn qt qc s = (.ok (), s') →
        Room s s' ∧ s'.rrStart = s'.cursor ∧ s'.cursor ≤ s.cursor + qn.wire.length + 6) ∧
    (∀ e s', addQuestion qn qt qc s = (.err e, s') →
        Room s s' ∧ s'.cursor = s.cursor ∧ s'.rrStart = s.rrStart) := by
  unfold Writer.addQuestion
  simp only [M.bind_apply, M.gets_apply]
  have triv : Room s s := ⟨rfl, rfl, rfl, rfl, rfl, rfl, rfl, rfl, rfl⟩
  split
  · exact ⟨(fun s' h => by cases h), (fun e s' h => by cases h; exact ⟨triv, rfl, rfl⟩)⟩
  · split
    · exact ⟨(fun s' h => by cases h), (fun e s' h => by cases h; exact ⟨triv, rfl, rfl⟩)⟩
    · have hq := (qLaw.addQuestionBody qn qt qc s).1.1
      have hb := (bud_addQuestionBody qn qt qc s).2
      simp only [M.bind_apply, withRollback_apply, M.modify_apply]
      rcases hbody : Writer.addQuestionBody qn qt qc s with ⟨(u | e | _), s1⟩ <;> rw [hbody] at hq
      · refine ⟨(fun s' h => ?_), (fun e s' h => by cases h)⟩
        cases h
        exact ⟨⟨hq.sect, hq.ancount, hq.nscount, hq.arcount, hq.available, hq.limit, hq.tsig, hq.edns, hq.size⟩, rfl,
          by have := (hb u s1 hbody).1; show s1.cursor ≤ _; omega⟩
      · refine ⟨(fun s' h => by cases h), (fun e' s' h => ?_)⟩
        cases h
        exact ⟨⟨rfl, hq.ancount, hq.nscount, hq.arcount, hq.available, hq.limit, hq.tsig, hq.edns, hq.size⟩,
          rfl, hq.rrStart⟩
      · exact ⟨(fun s' h => by cases h), (fun e s' h => by cases h)⟩

/-- `add_question` leaves the octets below the cursor (the header) alone, whatever its outcome -/
theorem addQuestion_low (qn : WName) (qt qc : Nat) (s : State) (i : Nat) (hi : i < s.cursor) :
    (addQuestion qn qt qc s).2.octets.getD i 0 = s.octets.getD i 0 := by
  unfold Writer.addQuestion
  simp only [M.bind_apply, M.gets_apply]
  split
  · rfl
  · split
    · rfl
    · have hl := (qLaw.addQuestionBody qn qt qc s).1.2
      simp only [M.bind_apply, withRollback_apply, M.modify_apply]
      rcases hbody : Writer.addQuestionBody qn qt qc s with ⟨(u | e | _), s1⟩ <;> rw [hbody] at hl <;> exact hl.2 i hi

/-! ### outcomes other than a panic -/

/-- every outcome of `m` from `s`, a panic apart, satisfies `Q` -/
def Ends {α} (m : M α) (s : State) (Q : Out WriterErr α → State → Prop) : Prop :=
  (m s).1 ≠ .panic → Q (m s).1 (m s).2

theorem Ends.pure {α} {a : α} {s : State} {Q : Out WriterErr α → State → Prop} (h : Q (.ok a) s) :
    Ends (pure a : M α) s Q := fun _ => h

/-- an `Err` of `x` ends the whole computation, so `Q` has to hold of it -/
theorem Ends.bind {α β} {x : M α} {f : α → M β} {s : State} {P : Out WriterErr α → State → Prop}
    {Q : Out WriterErr β → State → Prop} (hx : Ends x s P)
    (hf : ∀ a s1, P (.ok a) s1 → Ends (f a) s1 Q) (he : ∀ e s1, P (.err e) s1 → Q (.err e) s1) :
    Ends (x >>= f) s Q := by
  unfold Ends at hx ⊢
  rw [M.bind_apply]
  split <;> rename_i heq <;> rw [heq] at hx
  · exact hf _ _ (hx nofun)
  · exact fun _ => he _ _ (hx nofun)
  · exact fun h => absurd rfl h

/-- `set_rcode(v); return b`: whatever `set_rcode` answers, the state is the one it leaves -/
theorem Ends.rcode_then {β} (v : Nat) (b : β) {s : State} {Q : Out WriterErr β → State → Prop}
    (hok : Q (.ok b) (setRcode v s).2) (herr : ∀ e, Q (.err e) (setRcode v s).2) :
    Ends (do setRcode v; Pure.pure b : M β) s Q := by
  unfold Ends
  rw [M.bind_apply]
  split <;> rename_i heq <;> rw [heq] at hok herr
  · exact fun _ => hok
  · exact fun _ => herr _
  · exact fun h => absurd rfl h

theorem Ends.of_eq {α} {m : M α} {s : State} {Q : Out WriterErr α → State → Prop} (h : Ends m s Q)
    {out : Out WriterErr α} {s' : State} (heq : m s = (out, s')) (hnp : out ≠ .panic) : Q out s' := by
  unfold Ends at h; rw [heq] at h; exact h hnp

theorem stop_not_some {α} (m : M Unit) (s : State) (x : α) (s' : State) :
    (m >>= fun _ => (Pure.pure none : M (Option α))) s ≠ (.ok (some x), s') := by
  simp only [bind]
  intro h
  split at h <;> simp [Pure.pure] at h

/-! ### a TSIG step that lets the scan go on is an authenticated one -/

/-- the witness of an authenticated request kept with the writer state: the TSIG recorded for the
    response stems from a `verify_request` that succeeded under a configured key of the right algorithm -/
def Authenticated (hm : Algorithm → Octets → Octets → Octets) (keys : List Key) (nowT : TimeSigned) (s : State) : Prop :=
  ∃ (ts : Writer.Tsig) (r : ReadTsigRr) (msg : List UInt8) (alg : Hmac.Alg) (key : Key) (kn : WName),
    s.tsig = some ts ∧ Algorithm.fromName r.algorithm = some alg ∧ findKey keys r.keyName alg = some key ∧
    verifyRequest hm r msg alg key.secret nowT = .ok () ∧
    ts.mode = .response (toWriterAlg alg) r.mac key.secret ∧ ts.rr = prepOf kn r nowT 0 ∧ getRcode s = 0

open ServerScan in
/-- the TSIG branch says "go on" only for a decision `go` whose RR fits, and the table decides `go`
    only for an authenticated request -/
theorem handleTsig_some (cfg : Cfg) (now : Nat) (p : Reader.PeekRr) (raw : Nat) (s : State)
    (hs : 12 ≤ s.octets.size) (x : Reader.Reader) (s' : State)
    (h : handleTsig cfg now p raw s = (.ok (some x), s')) :
    ∃ nowT, TimeSigned.tryFromUnix now = some nowT ∧ s.tsig = none ∧
      Authenticated realHmac cfg.keys nowT s' ∧ s'.octets.size = s.octets.size := by
  obtain e | e | ⟨nowT, t, mw, r', hn, e⟩ := ServerSafety.handleTsig_cases cfg now p raw s <;> rw [e] at h
  · cases h
  · exact absurd h (stop_not_some _ _ _ _)
  · rcases tsigProcess_out (hm := realHmac) (keys := cfg.keys) (nowT := nowT) (r := t) (msg := mw) s r' with
      e | ⟨_, e⟩ | ⟨kn, an, rc, mode, rr, go, hkn, han, hd, _, _, e⟩ <;> rw [e] at h
    · cases h
    · cases h
    · by_cases hgo : go = true ∧ TsigFits s mode rr
      · rw [if_pos hgo] at h
        obtain ⟨_, rfl⟩ := Prod.mk.inj h
        rcases tsigDecision_inv hd with ⟨hf, _⟩ | ⟨_, alg, key, ha, hk, hv, rfl, rfl, rfl⟩
        · rw [hgo.1] at hf; cases hf
        · refine ⟨nowT, hn, hgo.2.1, ?_, (stepSt_frame _ _ _ s).1.size⟩
          rw [stepSt_fits hgo.2]
          refine ⟨⟨_, _, _⟩, t, mw, alg, key, kn, rfl, ha, hk, hv, rfl, rfl, ?_⟩
          obtain ⟨s3, h3, _, g3, _⟩ := setRcode_spec 0 (by decide) s hs
          rw [setRcode_eq 0 s (by omega)] at h3
          obtain ⟨_, rfl⟩ := Prod.mk.inj h3
          exact g3
      · rw [if_neg hgo] at h; cases h

/-- the state of the TSIG bookkeeping while the scan goes on: nothing recorded yet, or the record of
    an authenticated request -/
def TsigClean (cfg : Cfg) (now : Nat) (s : State) : Prop :=
  12 ≤ s.octets.size ∧
  (s.tsig = none ∨ ∃ nowT, TimeSigned.tryFromUnix now = some nowT ∧ Authenticated realHmac cfg.keys nowT s)

theorem Authenticated.congr {hm : Algorithm → Octets → Octets → Octets} {keys : List Key} {nowT : TimeSigned}
    {s s' : State} (h : Authenticated hm keys nowT s) (ht : s'.tsig = s.tsig) (ho : s'.octets = s.octets) :
    Authenticated hm keys nowT s' := by
  obtain ⟨ts, r, msg, alg, key, kn, h1, h2, h3, h4, h5, h6, h7⟩ := h
  refine ⟨ts, r, msg, alg, key, kn, ht.trans h1, h2, h3, h4, h5, h6, ?_⟩
  unfold getRcode hdr at *; rw [ho]; exact h7

theorem TsigClean.congr {cfg : Cfg} {now : Nat} {s s' : State} (h : TsigClean cfg now s) (ht : s'.tsig = s.tsig)
    (ho : s'.octets = s.octets) : TsigClean cfg now s' := by
  refine ⟨by rw [ho]; exact h.1, ?_⟩
  rcases h.2 with h0 | ⟨nowT, hn, ha⟩
  · left; exact ht.trans h0
  · right; exact ⟨nowT, hn, ha.congr ht ho⟩

/-- **if the scan of the additional section completes, any TSIG it recorded is that of an
    authenticated request** -/
theorem scanAr_tsigClean (cfg : Cfg) (tr : Transport) (now arcount : Nat) (n index : Nat) (st : ScanSt)
    (s : State) (st' : ScanSt) (s' : State) (hp : TsigClean cfg now s)
    (h : scanAr cfg tr now arcount n index st s = (.ok (some st'), s')) : TsigClean cfg now s' := by
  -- the invariant is kept by `set_edns`, `set_limit` and an authenticated TSIG step; nothing is
  -- claimed of a scan that stops
  have L : ServerSafety.Rule cfg tr now arcount (fun _ _ => True) (fun _ _ => TsigClean cfg now)
      (fun _ _ => TsigClean cfg now) (fun o s' => ∀ st', o = .ok (some st') → TsigClean cfg now s') :=
    { arith := fun _ _ _ => trivial
      done := fun _ _ _ h _ _ => h
      weak := fun _ _ _ h => h
      rpanic := fun _ _ _ _ _ _ => nofun
      stop := fun _ _ s v _ _ st' e => (stop_not_some (setRcode v) s st' _ (Prod.ext e rfl)).elim
      xstop := fun _ _ s v _ _ st' e =>
        (stop_not_some (Writer.unwrap (setExtendedRcode v)) s st' _ (Prod.ext e rfl)).elim
      edns := fun _ _ s s1 hp he => by
        obtain ⟨_, e, _⟩ | ⟨_, _, _, e⟩ := Writer.setEdns_cases cfg.payload s <;> rw [e] at he <;> cases he
        exact hp.congr rfl rfl
      limit := fun _ _ _ s _ opt _ hp _ _ => by
        refine ⟨fun _ => ?_, fun _ _ => nofun⟩
        obtain ⟨_, h⟩ | ⟨_, _, h, _⟩ := Writer.setLimit_cases (max 512 (min opt.cls cfg.payload)) s <;> rw [h]
        · exact hp
        · exact hp.congr rfl rfl
      nextOpt := fun _ _ _ _ _ _ h _ _ => h
      skip := fun _ _ _ _ h _ => h
      tsig := fun _ _ _ s p raw _ _ hp _ _ =>
        ServerSafety.tsigPost.intro _ _
          (fun r' ho =>
            have ⟨nowT, hn, _, ha, hsz⟩ := handleTsig_some cfg now p raw s hp.1 r' _ (Prod.ext ho rfl)
            ⟨by rw [hsz]; exact hp.1, Or.inr ⟨nowT, hn, ha⟩⟩)
          fun _ _ _ _ hn st' e => absurd e (hn st') }
  exact (L.scanAr n index st s trivial hp).of_eq h st' rfl

/-! ### the scan phase as a whole -/

/-- header and question only: no resource record has been written or counted -/
def NoRecords (s : State) : Prop := s.cursor = s.rrStart ∧ s.ancount = 0 ∧ s.nscount = 0

theorem NoRecords.of_frame {s s' : State} (h : NoRecords s) (f : ScanFrame s s') : NoRecords s' :=
  ⟨by rw [f.cursor, f.rrStart]; exact h.1, by rw [f.ancount]; exact h.2.1, by rw [f.nscount]; exact h.2.2⟩

/-- what is claimed of an outcome of the scan phase -/
abbrev ScanPost (cfg : Cfg) (now : Nat) (out : Out WriterErr ScanEnd) (s' : State) : Prop :=
  NoRecords s' ∧ ∀ q, out = .ok (ScanEnd.proceed q) → TsigClean cfg now s'

/-- what the scan phase leaves, whatever the question step was (`addQ`) -/
theorem scanTail_post (cfg : Cfg) (tr : Transport) (now an ns ar : Nat) (question : Option (WName × Nat × Nat))
    (r1 : Reader.Reader) (addQ : M Bool) (s : State)
    (hq : Ends addQ s fun _ s1 => NoRecords s1 ∧ s1.tsig = none ∧ 12 ≤ s1.octets.size) :
    Ends (scanTail cfg tr now an ns ar question r1 addQ) s (ScanPost cfg now) := by
  unfold scanTail
  have stop : ∀ s1, NoRecords s1 →
      Ends (do setRcode (RC "FORMERR"); pure ScanEnd.stop : M ScanEnd) s1 (ScanPost cfg now) :=
    fun s1 n1 => Ends.rcode_then _ _ ⟨n1.of_frame (Fr.setRcode _ s1), fun _ h => nomatch h⟩
      fun _ => ⟨n1.of_frame (Fr.setRcode _ s1), fun _ h => nomatch h⟩
  refine hq.bind (fun okQ s1 ⟨n1, t1, z1⟩ => ?_) (fun _ _ h => ⟨h.1, fun _ h => nomatch h⟩)
  cases okQ
  · exact Ends.pure ⟨n1, fun _ h => nomatch h⟩
  · simp only [Bool.not_true, Bool.false_eq_true, if_false]
    cases scanAnNs (an + ns) (Reader.setMark r1) with
    | none => exact stop s1 n1
    | some r3 =>
      dsimp only
      -- the scan writes no record; if it completes, the TSIG it recorded is an authenticated one
      refine Ends.bind (P := fun o s2 => ScanFrame s1 s2 ∧ ∀ st', o = .ok (some st') → TsigClean cfg now s2)
        (fun _ => ⟨Fr.scanAr cfg tr now ar ar 0 _ s1, fun st' ho =>
          scanAr_tsigClean cfg tr now ar ar 0 _ s1 st' _ ⟨z1, Or.inl t1⟩ (Prod.ext ho rfl)⟩)
        (fun st s2 ⟨f, hc⟩ => ?_) (fun _ _ h => ⟨n1.of_frame h.1, fun _ h => nomatch h⟩)
      cases st with
      | none => exact Ends.pure ⟨n1.of_frame f, fun _ h => nomatch h⟩
      | some st' =>
        dsimp only
        split
        · exact stop s2 (n1.of_frame f)
        · exact Ends.pure ⟨n1.of_frame f, fun _ _ => hc st' rfl⟩

/-- the question step of `handle_message_with_context` -/
theorem addQ_post (question : Option (WName × Nat × Nat)) (s : State) (hn : NoRecords s) (ht : s.tsig = none)
    (hs : 12 ≤ s.octets.size) :
    Ends (addQuestionOrServfail question) s fun _ s1 => NoRecords s1 ∧ s1.tsig = none ∧ 12 ≤ s1.octets.size := by
  rcases question with _ | ⟨qn, qt, qc⟩
  · exact Ends.pure ⟨hn, ht, hs⟩
  obtain ⟨hok, herr⟩ := addQuestion_spec qn qt qc s
  unfold Ends addQuestionOrServfail
  dsimp only
  split
  · rename_i s2 ha
    obtain ⟨rm, h1, _⟩ := hok _ ha
    exact fun _ => ⟨⟨h1.symm, by rw [rm.ancount]; exact hn.2.1, by rw [rm.nscount]; exact hn.2.2⟩,
      by rw [rm.tsig]; exact ht, by rw [rm.size]; exact hs⟩
  · rename_i e s2 ha
    obtain ⟨rm, h1, h2⟩ := herr _ _ ha
    have hs2 : 12 ≤ s2.octets.size := by rw [rm.size]; exact hs
    obtain ⟨s3, h3, f3, _, _⟩ := setRcode_spec (RC "SERVFAIL") (by decide) s2 hs2
    have n2 : NoRecords s2 :=
      ⟨by rw [h1, h2]; exact hn.1, by rw [rm.ancount]; exact hn.2.1, by rw [rm.nscount]; exact hn.2.2⟩
    have e3 : (do setRcode (RC "SERVFAIL"); pure false : M Bool) s2 = (.ok false, s3) := by
      rw [M.bind_apply, h3]; rfl
    rw [e3]
    exact fun _ => ⟨n2.of_frame f3.scanFrame, by rw [f3.tsig, rm.tsig]; exact ht, by rw [f3.size]; exact hs2⟩
  · exact fun h => absurd rfl h

/-- **The scan phase never writes a record, and proceeds to the opcode dispatch only with a clean
    TSIG state**: starting from a writer that holds a header only, whatever the request, the phase
    ends (unless it panics) with header + question only, and if it hands over to the dispatch, the
    TSIG recorded — if any — is that of an authenticated request. -/
theorem scanPhase_post (cfg : Cfg) (tr : Transport) (now : Nat) (r0 : Reader.Reader) (s : State)
    (hn : NoRecords s) (ht : s.tsig = none) (hs : 12 ≤ s.octets.size)
    (out : Out WriterErr ScanEnd) (s' : State) (h : scanPhase cfg tr now r0 s = (out, s')) (hnp : out ≠ .panic) :
    NoRecords s' ∧ (∀ q, out = .ok (ScanEnd.proceed q) → TsigClean cfg now s') := by
  refine Ends.of_eq (Q := ScanPost cfg now) ?_ h hnp
  obtain ⟨_, e⟩ | e | e | ⟨an, ns, ar, question, r1, _, e⟩ := scanPhase_cases cfg tr now r0 s <;>
    unfold Ends <;> rw [e]
  · exact fun h => absurd rfl h
  · exact fun _ => ⟨hn, fun _ h => nomatch h⟩
  · exact Ends.rcode_then (Q := ScanPost cfg now) _ _ ⟨hn.of_frame (Fr.setRcode _ s), fun _ h => nomatch h⟩
      fun _ => ⟨hn.of_frame (Fr.setRcode _ s), fun _ h => nomatch h⟩
  · exact scanTail_post cfg tr now _ _ _ _ _ _ s (addQ_post question s hn ht hs)


/-! ### room for the TSIG RR -/

theorem parse_wire_le (b : List UInt8) (n : WName) (rest : List UInt8) (h : WName.parse b = some (n, rest)) :
    n.wire.length ≤ 255 := by
  unfold WName.parse at h
  split at h
  · dsimp only at h
    split at h
    · rename_i hle; cases h; simpa [Gen.MAX_WIRE_LEN] using hle
    · cases h
  · cases h

theorem algName_wire_le (a : Writer.Alg) : (algName a).wire.length ≤ 255 := by cases a <;> decide +kernel

/-- room for any TSIG RR the server may want to add: 255 + 255 octets of names, 26 + 6 fixed, 32 MAC -/
def TsigRoom (s : State) : Prop := s.tsig = none ∧ s.arcount ≤ 1 ∧ s.cursor + 574 ≤ s.available

theorem tsigFits_unsigned (s : State) (h : TsigRoom s) (kn an : WName) (hk : kn.wire.length ≤ 255)
    (ha : an.wire.length ≤ 255) (r : ReadTsigRr) (nowT : TimeSigned) (e : Nat) :
    TsigFits s (.unsigned an) (prepOf kn r nowT e) := by
  obtain ⟨h0, h1, h2⟩ := h
  refine ⟨h0, ?_, by omega⟩
  simp only [reservedLen, unsignedLen, prepOf]
  by_cases he : e = XR_BADTIME <;> simp only [he, ↓reduceIte] <;> omega

theorem tsigFits_response (s : State) (h : TsigRoom s) (kn : WName) (hk : kn.wire.length ≤ 255)
    (a : Writer.Alg) (mac key : List UInt8) (r : ReadTsigRr) (nowT : TimeSigned) (e : Nat) :
    TsigFits s (.response a mac key) (prepOf kn r nowT e) := by
  obtain ⟨h0, h1, h2⟩ := h
  refine ⟨h0, ?_, by omega⟩
  have := algName_wire_le a
  have ho : algOutputSize a ≤ 32 := by cases a <;> decide
  simp only [reservedLen, signedLen, unsignedLen, prepOf]
  by_cases he : e = XR_BADTIME <;> simp only [he, ↓reduceIte] <;> omega

/-! ### over TCP the TSIG RR always fits -/

def TcClear (s : State) : Prop := getBit s Gen.TC_BYTE Gen.TC_MASK = false

/-- only the RCODE octet of the header (and the stored upper RCODE bits) changed -/
structure RcodeOnly (s s' : State) : Prop where
  ho : HeaderOnly s s'
  hdr : ∀ i, i ≠ Gen.RCODE_BYTE → Writer.hdr s' i = Writer.hdr s i

theorem RcodeOnly.refl (s : State) : RcodeOnly s s := ⟨HeaderOnly.refl s, fun _ _ => rfl⟩

theorem RcodeOnly.tc {s s' : State} (h : RcodeOnly s s') (ht : TcClear s) : TcClear s' := by
  unfold TcClear getBit at *
  rw [h.hdr Gen.TC_BYTE (by decide)]; exact ht

theorem setRcode_rcodeOnly (rc : Nat) (s : State) : RcodeOnly s (setRcode rc s).2 := by
  unfold Writer.setRcode Writer.setHdr
  by_cases h3 : Gen.RCODE_BYTE < s.octets.size
  · simp only [bind, h3, dite_true, M.modify]
    refine ⟨?_, ?_⟩
    · cases he : s.edns <;> constructor <;> simp [he]
    · intro i hi
      cases he : s.edns <;> simp [Writer.hdr, Ne.symm hi]
  · simp only [bind, h3, dite_false]
    exact RcodeOnly.refl s

theorem setExtendedRcode_rcodeOnly (raw : Nat) (s : State) : RcodeOnly s (Writer.unwrap (setExtendedRcode raw) s).2 := by
  rw [Writer.unwrap_snd]
  rcases Writer.setExtendedRcode_cases raw s with ⟨_, h⟩ | ⟨e, he, ⟨_, h⟩ | ⟨_, r, s1, hs1, ⟨_, _, h⟩ | ⟨rfl, h⟩⟩⟩ <;> rw [h]
  · exact RcodeOnly.refl s
  · exact RcodeOnly.refl s
  · exact RcodeOnly.refl s
  · unfold Writer.setHdr at hs1
    split at hs1
    · cases hs1
      exact ⟨by constructor <;> simp [he], fun i hi => by simp [Writer.hdr, Ne.symm hi]⟩
    · cases hs1

/-- TCP: nothing but the OPT reservation has been taken from the 65535 octets -/
def RoomT (s : State) : Prop :=
  s.tsig = none ∧ ((s.edns.isSome = false ∧ s.available = 65535 ∧ s.arcount = 0) ∨
                   (s.edns.isSome = true ∧ s.available = 65524 ∧ s.arcount = 1))

/-- invariant of the scan over TCP at record index `i` of `ar`: nothing truncated, the question is
    short, and either the TSIG RR has been recorded (then the scan is past the last record) or
    there is still room for it. 273 = 12 (header) + 255 + 6 (what `add_question` advances the
    cursor by at most); of the 65535 octets at most 11 go to OPT, so `273 + 574 ≤ available`
    (`TsigRoom`) holds throughout -/
def TcpInv (ar i : Nat) (s : State) : Prop :=
  12 ≤ s.octets.size ∧ TcClear s ∧ s.cursor ≤ 273 ∧ ((s.tsig.isSome = true ∧ ar ≤ i) ∨ RoomT s)

theorem RoomT.tsigRoom {s : State} (h : RoomT s) (hc : s.cursor ≤ 273) : TsigRoom s := by
  obtain ⟨h0, h | h⟩ := h
  · exact ⟨h0, by omega, by omega⟩
  · exact ⟨h0, by omega, by omega⟩

theorem TcpInv.mono {ar i j : Nat} {s : State} (h : TcpInv ar i s) (hij : i ≤ j) : TcpInv ar j s := by
  obtain ⟨a, b, c, d⟩ := h
  refine ⟨a, b, c, ?_⟩
  rcases d with ⟨d1, d2⟩ | d
  · exact Or.inl ⟨d1, by omega⟩
  · exact Or.inr d

theorem TcpInv.rcodeOnly {ar i : Nat} {s s' : State} (h : TcpInv ar i s) (f : RcodeOnly s s') : TcpInv ar i s' := by
  obtain ⟨a, b, c, d⟩ := h
  refine ⟨by rw [f.ho.size]; exact a, f.tc b, by rw [f.ho.cursor]; exact c, ?_⟩
  rcases d with ⟨d1, d2⟩ | ⟨d0, d⟩
  · exact Or.inl ⟨by rw [f.ho.tsig]; exact d1, d2⟩
  · refine Or.inr ⟨by rw [f.ho.tsig]; exact d0, ?_⟩
    rw [f.ho.edns, f.ho.available, f.ho.arcount]; exact d

theorem TcpInv.setEdns {ar i : Nat} {s : State} (p : Nat) (h : TcpInv ar i s) : TcpInv ar i (setEdns p s).2 := by
  obtain ⟨_, e, _⟩ | ⟨he, _, _, e⟩ := Writer.setEdns_cases p s <;> rw [e]
  · exact h
  · obtain ⟨a, b, c, d⟩ := h
    refine ⟨a, b, c, ?_⟩
    rcases d with ⟨d1, d2⟩ | ⟨d0, d⟩
    · exact Or.inl ⟨d1, d2⟩
    · refine Or.inr ⟨d0, Or.inr ?_⟩
      rcases d with ⟨e1, e2, e3⟩ | ⟨e1, _, _⟩
      · exact ⟨rfl, by show s.available - Gen.OPT_RECORD_SIZE = 65524; simp only [Gen.OPT_RECORD_SIZE]; omega,
          by show s.arcount + 1 = 1; omega⟩
      · rw [he] at e1; cases e1

/-- a step that changes the RCODE octet only, then `return None` -/
theorem rcodeOnly_then_tcp {α} {ar i : Nat} {s : State} (h : TcpInv ar i s) (hi : i ≤ ar) {m : M Unit}
    (f : RcodeOnly s (m s).2) : TcpInv ar ar ((m >>= fun _ => (Pure.pure none : M (Option α))) s).2 := by
  have := (h.mono hi).rcodeOnly f
  simp only [bind]
  split <;> rename_i heq <;> rw [heq] at this <;> exact this

open ServerScan in
theorem handleTsig_tcp (cfg : Cfg) (now : Nat) (p : Reader.PeekRr) (raw ar : Nat) (har : 1 ≤ ar) (s : State)
    (h : TcpInv ar (ar - 1) s) (hnp : (handleTsig cfg now p raw s).1 ≠ .panic) :
    TcpInv ar ar (handleTsig cfg now p raw s).2 := by
  obtain e | e | ⟨nowT, t, mw, r', _, e⟩ := ServerSafety.handleTsig_cases cfg now p raw s <;> rw [e] at hnp ⊢
  · exact absurd rfl hnp
  · exact rcodeOnly_then_tcp h (by omega) (setRcode_rcodeOnly _ s)
  · rcases tsigProcess_out (hm := realHmac) (keys := cfg.keys) (nowT := nowT) (r := t) (msg := mw) s r' with
      e | ⟨_, e⟩ | ⟨kn, an, rc, mode, rr, go, hkn, han, hd, _, _, e⟩ <;> rw [e] at hnp ⊢
    · exact absurd rfl hnp
    · exact absurd rfl hnp
    · -- the record is processed: there is room for whatever reply the table decides on
      obtain ⟨a, b, c, d⟩ := h
      rcases d with ⟨_, d2⟩ | d
      · omega
      have room := d.tsigRoom c
      have hk := parse_wire_le _ _ _ hkn
      have hfit : TsigFits s mode rr := by
        rcases tsigDecision_cases hd with ⟨_, _, _, rfl, rfl⟩ |
          ⟨alg, key, _, _, ⟨_, _, _, rfl, rfl⟩ | ⟨_, _, _, rfl, rfl⟩ | ⟨_, _, _, rfl, rfl⟩ | ⟨_, _, _, rfl, rfl⟩⟩
        · exact tsigFits_unsigned s room kn an hk (parse_wire_le _ _ _ han) t nowT 17
        · exact tsigFits_response s room kn hk _ _ _ t nowT 0
        · exact tsigFits_unsigned s room kn _ hk (algName_wire_le _) t nowT 16
        · exact tsigFits_unsigned s room kn _ hk (algName_wire_le _) t nowT 16
        · exact tsigFits_response s room kn hk _ _ _ t nowT 18
      have fr := (stepSt_frame rc mode rr s).1
      have htc : TcClear (stRcode rc s) := by
        have := (setRcode_rcodeOnly rc s).tc b
        rwa [setRcode_eq rc s (by omega)] at this
      refine ⟨by rw [fr.size]; exact a, ?_, by rw [fr.cursor]; exact c, Or.inl ⟨?_, Nat.le_refl _⟩⟩
      · rw [stepSt_fits hfit]; exact htc
      · rw [stepSt_fits hfit]; rfl

/-- **over TCP the scan of the additional section never truncates**: `TcpInv` keeps room for any
    TSIG RR, so `set_tsig_or_truncate` always takes its first branch and TC stays clear -/
theorem scanAr_tcp (cfg : Cfg) (now ar : Nat) (n index : Nat) (st : ScanSt) (s : State) (hsum : index + n = ar)
    (h : TcpInv ar index s) : Ends (scanAr cfg .tcp now ar n index st) s fun _ s' => TcpInv ar ar s' := by
  -- once the TSIG RR is recorded the index no longer matters
  have toAr : ∀ {i : Nat} {s : State}, TcpInv ar i s → TcpInv ar ar s :=
    fun h => ⟨h.1, h.2.1, h.2.2.1, h.2.2.2.imp (fun d => ⟨d.1, Nat.le_refl _⟩) id⟩
  have L : ServerSafety.Rule cfg .tcp now ar (fun n i => i + n = ar) (fun i _ => TcpInv ar i) (fun i _ => TcpInv ar i)
      (fun o s' => o ≠ .panic → TcpInv ar ar s') :=
    { arith := fun _ _ e => by omega
      done := fun _ _ _ h _ => toAr h
      weak := fun _ _ _ h => h
      rpanic := fun _ _ _ _ _ hn => absurd rfl hn
      stop := fun _ _ s v _ h _ => rcodeOnly_then_tcp (toAr h) (Nat.le_refl _) (setRcode_rcodeOnly v s)
      xstop := fun _ _ s v _ h _ => rcodeOnly_then_tcp (toAr h) (Nat.le_refl _) (setExtendedRcode_rcodeOnly v s)
      edns := fun _ _ s s1 h e => by have := TcpInv.setEdns cfg.payload h; rwa [e] at this
      limit := fun hudp => nomatch hudp
      nextOpt := fun _ _ _ _ _ _ h _ _ => h.mono (Nat.le_succ _)
      skip := fun _ _ _ _ h _ => h.mono (Nat.le_succ _)
      tsig := fun n i _ s p raw ha hi h _ _ =>
        have hT := handleTsig_tcp cfg now p raw ar (by omega) s (hi ▸ h)
        ServerSafety.tsigPost.intro _ _ (fun _ ho => by rw [show i + 1 = ar by omega]; exact hT (by rw [ho]; nofun))
          fun _ _ _ hp _ hnp => hT fun e => hnp (hp.mpr e) }
  exact L.scanAr n index st s hsum h

/-- a writer as `handle_message` sets it up over TCP: header only, 65535 octets, nothing reserved -/
def FreshTcp (s : State) : Prop := 12 ≤ s.octets.size ∧ TcClear s ∧ s.cursor = 12 ∧ RoomT s

theorem addQ_tcp (ar : Nat) (question : Option (WName × Nat × Nat))
    (hq : ∀ qn qt qc, question = some (qn, qt, qc) → qn.wire.length ≤ 255) (s : State) (hf : FreshTcp s) :
    Ends (addQuestionOrServfail question) s fun _ s1 => TcpInv ar 0 s1 := by
  obtain ⟨hsz, htc, hcur, hroom⟩ := hf
  rcases question with _ | ⟨qn, qt, qc⟩
  · exact Ends.pure ⟨hsz, htc, by rw [hcur]; omega, Or.inr hroom⟩
  have hq := hq qn qt qc rfl
  obtain ⟨hok, herr⟩ := addQuestion_spec qn qt qc s
  have hlow := addQuestion_low qn qt qc s Gen.TC_BYTE (by rw [hcur]; decide)
  -- the header (TC) is below the cursor, the room is part of what `add_question` leaves alone
  have inv : ∀ {r s2}, addQuestion qn qt qc s = (r, s2) → Room s s2 → s2.cursor ≤ 273 → TcpInv ar 0 s2 := by
    intro r s2 ha rm hc
    rw [ha] at hlow
    refine ⟨by rw [rm.size]; exact hsz, ?_, hc, Or.inr ⟨by rw [rm.tsig]; exact hroom.1, ?_⟩⟩
    · unfold TcClear getBit Writer.hdr at *
      rw [hlow]; exact htc
    · rw [rm.edns, rm.available, rm.arcount]; exact hroom.2
  unfold Ends addQuestionOrServfail
  dsimp only
  split
  · rename_i s2 ha
    obtain ⟨rm, _, hc⟩ := hok _ ha
    have := inv ha rm (by omega)
    exact fun _ => this
  · rename_i e s2 ha
    obtain ⟨rm, h1, _⟩ := herr _ _ ha
    have inv3 := (inv ha rm (by omega)).rcodeOnly (setRcode_rcodeOnly (RC "SERVFAIL") s2)
    exact Ends.rcode_then (Q := fun _ s1 => TcpInv ar 0 s1) _ _ inv3 fun _ => inv3
  · exact fun h => absurd rfl h

theorem TcpInv.tc {ar i : Nat} {s : State} (h : TcpInv ar i s) : TcClear s := h.2.1

theorem scanTail_tcp (cfg : Cfg) (now an ns ar : Nat) (question : Option (WName × Nat × Nat))
    (r1 : Reader.Reader) (addQ : M Bool) (s : State) (hq : Ends addQ s fun _ s1 => TcpInv ar 0 s1) :
    Ends (scanTail cfg .tcp now an ns ar question r1 addQ) s fun _ s' => TcClear s' := by
  unfold scanTail
  have stop : ∀ {i : Nat} (s1 : State), TcpInv ar i s1 →
      Ends (do setRcode (RC "FORMERR"); pure ScanEnd.stop : M ScanEnd) s1 fun _ s' => TcClear s' :=
    fun s1 i1 => Ends.rcode_then _ _ ((setRcode_rcodeOnly _ s1).tc i1.tc) fun _ => (setRcode_rcodeOnly _ s1).tc i1.tc
  refine hq.bind (fun okQ s1 i1 => ?_) (fun _ _ h => h.tc)
  cases okQ
  · exact Ends.pure i1.tc
  · simp only [Bool.not_true, Bool.false_eq_true, if_false]
    cases scanAnNs (an + ns) (Reader.setMark r1) with
    | none => exact stop s1 i1
    | some r3 =>
      dsimp only
      refine Ends.bind (P := fun _ s2 => TcpInv ar ar s2) (scanAr_tcp cfg now ar ar 0 _ s1 (by omega) i1)
        (fun st s2 i2 => ?_) (fun _ _ h => h.tc)
      cases st with
      | none => exact Ends.pure i2.tc
      | some st' =>
        dsimp only
        split
        · exact stop s2 i2
        · exact Ends.pure i2.tc

/-- **Over TCP the scan phase never sets TC**: from the writer `handle_message` sets up over TCP,
    whatever the request and the key set, the TSIG RR of every reply fits (the arithmetic is
    `TcpInv`'s), so the truncation branch of `set_tsig_or_truncate` is never taken. -/
theorem scanPhase_tcp (cfg : Cfg) (now : Nat) (r0 : Reader.Reader) (s : State) (hf : FreshTcp s)
    (out : Out WriterErr ScanEnd) (s' : State) (h : scanPhase cfg .tcp now r0 s = (out, s')) (hnp : out ≠ .panic) :
    TcClear s' := by
  have hrc := fun v => (setRcode_rcodeOnly v s).tc hf.2.1
  refine Ends.of_eq (Q := fun _ s' => TcClear s') ?_ h hnp
  obtain ⟨_, e⟩ | e | e | ⟨an, ns, ar, question, r1, hk, e⟩ := scanPhase_cases cfg .tcp now r0 s <;>
    unfold Ends <;> rw [e]
  · exact fun h => absurd rfl h
  · exact fun _ => hf.2.1
  · exact Ends.rcode_then (Q := fun _ s' => TcClear s') _ _ (hrc _) fun _ => hrc _
  · refine scanTail_tcp cfg now _ _ _ _ _ _ s (addQ_tcp _ question (fun qn _ _ hq => ?_) s hf)
    -- the name came out of `WName.parse`, so it is at most 255 octets long
    rcases hk.q with ⟨_, hn, _⟩ | ⟨q, qn', _, _, hp, hq'⟩
    · rw [hn] at hq; cases hq
    · rw [hq'] at hq; cases hq; exact parse_wire_le _ _ _ hp

end QV.ServerTsig

namespace QV.ServerSafety
open QV QV.Writer QV.Server QV.ServerScan

/-- the TSIG branch never answers `Err`: it panics, stops with FORMERR, or is the TSIG step, which
    returns or panics -/
theorem noErr_handleTsig (cfg : Cfg) (now : Nat) (p : Reader.PeekRr) (raw : Nat) :
    NoErr (handleTsig cfg now p raw) := by
  refine ⟨fun s e => ?_⟩
  obtain h | h | ⟨nowT, t, mw, r', _, h⟩ := handleTsig_cases cfg now p raw s <;> rw [h]
  · nofun
  · exact (noErr_rcode_then _ _).h s e
  · rcases tsigProcess_out (hm := Tsig.realHmac) (keys := cfg.keys) (nowT := nowT) (r := t) (msg := mw) s r' with
      h | ⟨_, h⟩ | ⟨_, _, _, _, _, _, _, _, _, _, _, h⟩ <;> rw [h] <;> nofun

theorem noErr_scanAr (cfg : Cfg) (tr : Transport) (now arcount n index : Nat) (st : ScanSt) :
    NoErr (scanAr cfg tr now arcount n index st) := by
  have L : Rule cfg tr now arcount (fun _ _ => True) (fun _ _ _ => True) (fun _ _ _ => True)
      (fun o _ => ∀ e, o ≠ .err e) :=
    { arith := fun _ _ _ => trivial
      done := fun _ _ _ _ _ => nofun
      weak := fun _ _ _ _ => trivial
      rpanic := fun _ _ _ _ _ _ => nofun
      stop := fun _ _ s v _ _ => (noErr_rcode_then v none).h s
      xstop := fun _ _ s v _ _ => (noErr_bind (noErr_unwrap _) fun _ => noErr_pure none).h s
      edns := fun _ _ _ _ _ _ => trivial
      limit := fun _ _ _ _ _ _ _ _ _ _ => ⟨fun _ => trivial, fun _ _ => nofun⟩
      nextOpt := fun _ _ _ _ _ _ _ _ _ => trivial
      skip := fun _ _ _ _ _ _ => trivial
      tsig := fun _ _ _ s p raw _ _ _ _ _ =>
        tsigPost.intro _ _ (fun _ _ => trivial) fun _ _ herr _ _ e he =>
          (noErr_handleTsig cfg now p raw).h s e ((herr e).mp he) }
  exact ⟨fun s => L.scanAr n index st s trivial trivial⟩

theorem noErr_handleWithContext (cfg : Cfg) (tr : Transport) (now : Nat) (r0 : Reader.Reader) :
    NoErr (handleWithContext cfg tr now r0) := by
  have fin := fun v => noErr_rcode_then v true
  refine ⟨fun s e => ?_⟩
  unfold handleWithContext
  split
  · dsimp only
    split
    · nofun
    · nofun
    · exact (fin _).h s e
    · refine NoErr.at (noErr_bind ?_ fun okQ => .ite (noErr_pure _) ?_) s e
      · -- the question step: `add_question` failing is SERVFAIL
        split
        · refine ⟨fun s e => ?_⟩
          split
          · nofun
          · exact (noErr_rcode_then _ false).h _ e
          · nofun
        · exact noErr_pure _
      · split
        · exact fin _
        · refine noErr_bind (noErr_scanAr _ _ _ _ _ _ _) fun st => ?_
          split
          · exact noErr_pure _
          · exact .ite (fin _) (.ite (noErr_bind (noErr_handleQuery _ _ _) fun _ => noErr_pure _) (fin _))
  · nofun

end QV.ServerSafety
