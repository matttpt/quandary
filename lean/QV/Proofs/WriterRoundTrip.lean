/-
  QV.Proofs.WriterRoundTrip — what the independent decoder reads where the writer wrote: a name at
  an item (`item_decodes`, `item_decodes_name`: exactly the name the item holds, on exactly the
  item's octets), and from that the round trips of one record and of the question in every
  compression mode, from `WInv` alone: the owner is located by `addRr_owner` (`QV.Proofs.WriterRdPos`), the
  QNAME by `addQuestionBody_qname` (here), both over the inversions of `QV.Proofs.WriterInv`.
-/
import QV.Proofs.NameRoundTrip
import QV.Proofs.WriterSafe
import QV.Proofs.MessageDecode
import QV.Proofs.WriterPhys
import QV.Proofs.WriterInv

namespace QV.Writer
open QV QV.Wire QV.Spec

/-! ### the first-chunk length the decoder reports -/

/-- a name of the RFC relation that starts with literal labels and the octet that ends them: the
    first-chunk length is that of the chunk, and the labels are part of the name -/
theorem decodes_chunk {msg : Bytes} {cs : Nat} {b : UInt8} : ∀ (pre : List Label) {a n k : Nat} {w : List UInt8},
    LabelsWF pre → BytesAt msg a (pre.flatMap WName.encLabel ++ [b]) → Decodes msg a cs w n k →
    (b = 0 → k = encLen pre + 1) ∧ (isPtr b = true → k = encLen pre + 2) ∧ encLen pre + 1 ≤ w.length := by
  intro pre
  induction pre with
  | nil =>
    intro a n k w _ hb hd
    have h0 : msg[a]? = some b := by simpa using hb 0 (by simp)
    have e : msg[a]'(getElem?_some_lt h0) = b := getElem_of_getElem? h0 _
    have hw := (decodes_bounds hd).1
    rw [encLen_nil]
    cases hd with
    | null h h0' =>
      have hb0 : b = 0 := e.symm.trans h0'
      exact ⟨fun _ => rfl, fun hp => by rw [hb0] at hp; exact absurd hp (by decide), hw⟩
    | label h hne h63 hin rest =>
      rw [e] at hne h63
      exact ⟨fun hb0 => absurd hb0 hne, fun hp => (by rw [not_isPtr_of_le63 b h63] at hp; cases hp), hw⟩
    | ptr h hp hb' rest =>
      rw [e] at hp
      exact ⟨fun hb0 => by rw [hb0] at hp; exact absurd hp (by decide), fun _ => rfl, hw⟩
  | cons l pre ih =>
    intro a n k w hwf hb hd
    have hl := hwf l List.mem_cons_self
    obtain ⟨h0, hne, hex, hb2⟩ := bytesAt_cons_label hl hb
    have e : msg[a]'(getElem?_some_lt h0) = UInt8.ofNat l.length := getElem_of_getElem? h0 _
    have hn := ofNat_len_toNat hl.2
    cases hd with
    | null h h0' => exact absurd (e.symm.trans h0') hne
    | ptr h hp _ _ =>
      rw [e] at hp
      unfold specIsPtr at hp
      omega
    | label h _ _ hin rest =>
      rw [e, hn] at rest
      obtain ⟨i1, i2, i3⟩ := ih (fun x hx => hwf x (List.mem_cons_of_mem _ hx)) hb2 rest
      rw [e, hn, hex, encLen_cons, List.length_append]
      have : (WName.encLabel l).length = l.length + 1 := by simp [WName.encLabel]
      exact ⟨fun h => by have := i1 h; omega, fun h => by have := i2 h; omega, by omega⟩

theorem specWalk_chunk (msg : Bytes) (cs : Nat) (b : UInt8) (pre : List Label) (a fuel : Nat)
    (ls : List (List UInt8)) (k : Nat) (hwf : LabelsWF pre)
    (hb : BytesAt msg a (pre.flatMap WName.encLabel ++ [b])) (hw : specWalk msg fuel a cs = some (ls, k)) :
    (b = 0 → k = encLen pre + 1) ∧ (isPtr b = true → k = encLen pre + 2) :=
  have h := decodes_chunk pre hwf hb (specWalk_sound msg fuel a cs ls k hw)
  ⟨h.1, h.2.1⟩

/-- the `k` the decoder reports is the length of the chunk the name occupies -/
theorem specDecodeName_chunk {msg : Bytes} {a k k' n : Nat} {w : List UInt8} (hc : ChunkAt msg a k)
    (hd : specDecodeName msg a = some (w, n, k')) : k' = k := by
  obtain ⟨pre, b, hwf, hb, hk⟩ := hc
  unfold specDecodeName at hd
  cases hw : specWalk msg (msg.size * msg.size + msg.size + 2) a a with
  | none => rw [hw] at hd; cases hd
  | some r =>
    obtain ⟨ls, k2⟩ := r
    rw [hw] at hd
    simp only at hd
    split at hd
    · simp only [Option.some.injEq, Prod.mk.injEq] at hd
      have := specWalk_chunk msg a b pre a _ ls k2 hwf hb hw
      rcases hk with ⟨h0, hk⟩ | ⟨hp, hk⟩
      · rw [← hd.2.2, hk]; exact this.1 h0
      · rw [← hd.2.2, hk]; exact this.2 hp
    · cases hd

/-! ### what the decoder reads at an item -/

/-- where a hop leads to a recorded label start and a chunk lies, the independent decoder reads the
    labels stored at that label start and reports the chunk length — on every message that agrees
    with the buffer between the header and the cursor -/
theorem hop_decodes {s : State} {a q k : Nat} (hw : WInv s) (hop : Hop s.octets s.cursor a q) (hq : q ∈ s.gLabels)
    (hc : ChunkAt s.octets a k) (hk : a + k ≤ s.cursor) :
    ∃ ls, NameAtC (GL s) s.octets s.cursor q q ls ∧
      ∀ msg : Bytes, (∀ i, 12 ≤ i → i < s.cursor → msg[i]? = s.octets[i]?) →
        specDecodeName msg a = some (wireOf ls, ls.length + 1, k) := by
  obtain ⟨ls, hn, hb⟩ := hw.clabs q hq
  have hr : ReadsAt s a ls := by
    refine ⟨q, q, hop, ?_, hn, hb⟩
    cases hop with
    | here _ _ _ => exact Or.inl ⟨rfl, rfl⟩
    | jump _ _ _ _ hlt _ _ => exact Or.inr ⟨hlt, rfl⟩
  refine ⟨ls, hn, fun msg hm => ?_⟩
  obtain ⟨k', hd⟩ := readsAt_decodes hr hw.g12 hm
  have hqa := (hop_le hop).1
  have hq12 := hw.g12 q hq
  obtain rfl := specDecodeName_chunk (chunkAt_frame hc fun i h1 h2 => hm i (by omega) (by omega)) hd
  exact hd

/-- the message written so far agrees with the buffer below the cursor -/
theorem written_agree {s : State} (hw : WInv s) (i : Nat) (hi : i < s.cursor) :
    (s.octets.extract 0 s.cursor)[i]? = s.octets[i]? :=
  extract_prefix_get _ _ (Nat.le_trans hw.cur_av hw.av_size) i hi

/-- the independent decoder reads a name at an item and reports its chunk length -/
theorem item_decodes {s : State} {a k : Nat} (hw : WInv s) (h : Item s a k) :
    ∃ w n, specDecodeName (s.octets.extract 0 s.cursor) a = some (w, n, k) := by
  obtain ⟨⟨q, hop, hq⟩, hc, hk⟩ := h
  obtain ⟨ls, _, hd⟩ := hop_decodes hw hop hq hc hk
  exact ⟨_, _, hd _ fun i _ hi => written_agree hw i hi⟩

/-- what the independent decoder reads at an item whose name is known: that name, on the item's
    octets — on any message that agrees with the buffer between the header and the cursor (every
    round trip of a name is this) -/
theorem item_decodes_from {s : State} {a k : Nat} {m : CMode} {n : WName} (hw : WInv s) (hit : Item s a k)
    (hnm : NameIs s a m n) {msg : Bytes} (hmsg : ∀ i, 12 ≤ i → i < s.cursor → msg[i]? = s.octets[i]?) :
    ∃ w, specDecodeName msg a = some (w, n.len, k) ∧
      w.map lowerU8 = n.wire.map lowerU8 ∧ (m ≠ .standard → w = n.wire) := by
  obtain ⟨⟨q, ls, hop, hst, hm⟩, _⟩ := hnm
  obtain ⟨ls', hn, hd⟩ := hop_decodes hw hop (nameAt_start hst).1 hit.2.1 hit.2.2
  have hd := hd msg hmsg
  have := nameAtC_unique hn hst
  subst this
  have hlen : ls'.length + 1 = n.len := by
    have := labelsMatch_length hm
    unfold WName.len; omega
  rw [hlen] at hd
  refine ⟨wireOf ls', hd, ?_, ?_⟩
  · rw [← wireOf_labels n]
    have hstd : labelsMatch .standard n.labels ls' = true := by
      unfold effMode at hm
      split at hm
      · exact hm
      · exact labelsMatch_std hm
    exact (labelsMatch_std_wire hstd).symm
  · intro hne
    have hcp : effMode m = .casePreserving := by unfold effMode; rw [if_neg hne]
    rw [hcp] at hm
    have : n.labels = ls' := labelsMatch_cp_eq hm
    rw [← this]; rfl

theorem item_decodes_name {s : State} {a k : Nat} {m : CMode} {n : WName} (hw : WInv s) (hit : Item s a k)
    (hnm : NameIs s a m n) :
    ∃ w, specDecodeName (s.octets.extract 0 s.cursor) a = some (w, n.len, k) ∧
      w.map lowerU8 = n.wire.map lowerU8 ∧ (m ≠ .standard → w = n.wire) :=
  item_decodes_from hw hit hnm fun i _ hi => written_agree hw i hi

theorem item_decodes_msg {s : State} {a k : Nat} {m : CMode} {n : WName} (hw : WInv s) (hit : Item s a k)
    (hnm : NameIs s a m n) {msg : Bytes} (hmsg : ∀ i, i < s.cursor → msg[i]? = s.octets[i]?) :
    ∃ w, specDecodeName msg a = some (w, n.len, k) ∧
      w.map lowerU8 = n.wire.map lowerU8 ∧ (m ≠ .standard → w = n.wire) :=
  item_decodes_from hw hit hnm fun i _ hi => hmsg i hi

/-! ### the round trip of one record -/

/-- **the owner of a record decodes to the name given**, in every compression mode: after a
    successful `add_rr` the independent decoder, run on any message that agrees with the buffer
    below the cursor, reads at the record's start a name with the owner's label count that equals
    the owner up to ASCII case (octet for octet unless the mode is `Standard`) and occupies exactly
    the `k` octets the writer wrote -/
theorem addRr_owner_decodes (hint : Hint) (owner : WName) (ty cls ttl : Nat) (rd : List UInt8) (s s' : State)
    (hw : WInv s) (hwf : owner.WF) (hh : HintOK s hint owner)
    (h : addRr hint owner ty cls ttl rd s = (.ok (), s')) (msg : Bytes)
    (hmsg : ∀ i, i < s'.cursor → msg[i]? = s'.octets[i]?) :
    ∃ w k, specDecodeName msg s.cursor = some (w, owner.len, k) ∧ s.cursor + k + 10 ≤ s'.cursor ∧
      w.map lowerU8 = owner.wire.map lowerU8 ∧ (s.mode ≠ .standard → w = owner.wire) := by
  obtain ⟨p, sB, _, hwB, na, hcB, pB, _, _, hlen, _⟩ := addRr_owner hw hwf hh h
  obtain ⟨w, hd, h1, h2⟩ := item_decodes_msg hwB na.item na.name (msg := msg)
    (fun i hi => (hmsg i (by omega)).trans (pB i hi))
  exact ⟨w, sB.cursor - s.cursor, hd, by omega, h1, h2⟩

theorem be16_of_agree {msg o : Bytes} {i c : Nat} (h : ∀ j, j < c → msg[j]? = o[j]?) (hi : i + 1 < c) :
    be16 msg i = be16 o i :=
  be16_congr (h i (by omega)) (h (i + 1) hi)

theorem be32_of_agree {msg o : Bytes} {i c : Nat} (h : ∀ j, j < c → msg[j]? = o[j]?) (hi : i + 3 < c) :
    be32 msg i = be32 o i := by
  unfold be32
  simp only [Array.getD_eq_getD_getElem?, h i (by omega), h (i + 1) (by omega), h (i + 2) (by omega), h (i + 3) hi]

/-- **the round trip of one record, in every compression mode.** After a successful `add_rr`, on
    any message that agrees with the buffer below the cursor, the independent decoder reads at the
    old cursor: the owner (same label count; equal up to ASCII case, octet for octet unless the mode
    is `Standard`) on `k` octets, then TYPE, CLASS and TTL as given, then an RDLENGTH that is the
    number of octets written after it (mod 2¹⁶) -/
theorem addRr_round_trip (hint : Hint) (owner : WName) (ty cls ttl : Nat) (rd : List UInt8) (s s' : State)
    (hw : WInv s) (hwf : owner.WF) (hh : HintOK s hint owner)
    (hty : ty < 65536) (hcls : cls < 65536) (httl : ttl < 4294967296)
    (h : addRr hint owner ty cls ttl rd s = (.ok (), s')) (msg : Bytes)
    (hmsg : ∀ i, i < s'.cursor → msg[i]? = s'.octets[i]?) :
    ∃ w k, specDecodeName msg s.cursor = some (w, owner.len, k) ∧ s.cursor + k + 10 ≤ s'.cursor ∧
      w.map lowerU8 = owner.wire.map lowerU8 ∧ (s.mode ≠ .standard → w = owner.wire) ∧
      be16 msg (s.cursor + k) = ty ∧ be16 msg (s.cursor + k + 2) = cls ∧ be32 msg (s.cursor + k + 4) = ttl ∧
      be16 msg (s.cursor + k + 8) = (s'.cursor - (s.cursor + k + 10)) % 65536 := by
  obtain ⟨p, sB, _, hwB, na, hcB, pB, _, fx, hlen, hb⟩ := addRr_owner hw hwf hh h
  obtain ⟨w, hd, h1, h2⟩ := item_decodes_msg hwB na.item na.name (msg := msg)
    (fun i hi => (hmsg i (by omega)).trans (pB i hi))
  have hk : s.cursor + (sB.cursor - s.cursor) = sB.cursor := by omega
  rw [fixedFields_eq] at fx
  obtain ⟨f12, f3⟩ := bytesAt_append fx
  obtain ⟨f1, f2⟩ := bytesAt_append f12
  refine ⟨w, sB.cursor - s.cursor, hd, by omega, h1, h2, ?_⟩
  rw [hk]
  exact ⟨(be16_of_agree hmsg (by omega)).trans (be16_of_bytesAt f1 hty),
    (be16_of_agree hmsg (by omega)).trans (be16_of_bytesAt f2 hcls),
    (be32_of_agree hmsg (by omega)).trans (be32_of_bytesAt f3 httl), (be16_of_agree hmsg (by omega)).trans hb⟩

/-- **the round trip of one written name.** From a valid writer state, with a well-formed name and
    a valid hint: if `write_hinted_name` succeeds, the independent RFC 1035 decoder, run on the
    message written so far from the position where the name was written, yields a name with the
    same number of labels that equals the name given up to ASCII case — and octet for octet
    unless the mode is `Standard`. -/
theorem writeHintedName_round_trip (hint : Hint) (n : WName) (s : State) (h : WInv s) (hn : n.WF)
    (hh : HintOK s hint n) (p : Option Prior) (hok : (writeHintedName hint n s).1 = .ok p) :
    ∃ w k, specDecodeName ((writeHintedName hint n s).2.octets.extract 0 (writeHintedName hint n s).2.cursor)
        s.cursor = some (w, n.len, k) ∧
      w.map lowerU8 = n.wire.map lowerU8 ∧ (s.mode ≠ .standard → w = n.wire) := by
  have hs := writeHintedName_spec hint n s h hn hh
  have na := hs.added hn (frame_writeHintedName hint n s).cur hok
  obtain ⟨w, hd⟩ := item_decodes_name (hs.ok p hok).1 na.item na.name
  exact ⟨w, _, hd⟩

/-- `write_unhinted_name` is `write_hinted_name` without a hint -/
theorem writeUnhintedName_eq_none (n : WName) : writeUnhintedName n = writeHintedName .none n := by
  funext s
  unfold writeUnhintedName writeHintedName
  simp only [M.bind_apply, M.gets_apply]
  by_cases h1 : s.mode = .disabled ∨ n.wire.length ≤ 2
  · rw [if_pos h1, if_neg (by intro ⟨a, b⟩; rcases h1 with h | h; exact a h; omega)]
  · rw [if_neg h1, if_pos (by constructor; intro h; exact h1 (Or.inl h); omega)]
    split <;> rfl

/-- the round trip of a name written without a hint (QNAME, names inside RDATA) -/
theorem writeUnhintedName_round_trip (n : WName) (s : State) (h : WInv s) (hn : n.WF) (p : Option Prior)
    (hok : (writeUnhintedName n s).1 = .ok p) :
    ∃ w k, specDecodeName ((writeUnhintedName n s).2.octets.extract 0 (writeUnhintedName n s).2.cursor)
        s.cursor = some (w, n.len, k) ∧
      w.map lowerU8 = n.wire.map lowerU8 ∧ (s.mode ≠ .standard → w = n.wire) := by
  rw [writeUnhintedName_eq_none] at hok ⊢
  exact writeHintedName_round_trip .none n s h hn trivial p hok

/-- **the QNAME of `add_question`'s body, from `WInv`**: the name writer ran from the old cursor to
    `sB` (valid again) and left the QNAME there; nothing below `sB.cursor` changes afterwards, no label
    start is added, and QTYPE and QCLASS follow -/
theorem addQuestionBody_qname {qn : WName} {qt qc : Nat} {s s' : State} (hw : WInv s) (hwf : qn.WF)
    (h : addQuestionBody qn qt qc s = (.ok (), s')) :
    ∃ p sB, writeUnhintedName qn { s with gCtx := .qname } = (.ok p, sB) ∧ WInv sB ∧
      NameAdded { s with gCtx := .qname } sB qn ∧ s.cursor ≤ sB.cursor ∧
      (∀ i, i < sB.cursor → s'.octets[i]? = sB.octets[i]?) ∧ s'.gLabels = sB.gLabels ∧
      BytesAt s'.octets sB.cursor (u16be qt ++ u16be qc) ∧ s'.cursor = sB.cursor + 4 ∧
      s' = pushed (qStart sB p) (u16be qt ++ u16be qc) := by
  obtain ⟨p, sB, hB, _, z4, hs'⟩ := addQuestionBody_eq_ok.mp h
  have e1 := ext_setCtx s .qname
  have hs := writeUnhintedName_spec qn _ (winv_ext hw e1 rfl rfl rfl rfl) hwf
  have hf := frame_writeUnhintedName qn { s with gCtx := .qname }
  rw [hB] at hs hf
  obtain ⟨o, c, g, _⟩ := qStart_fields sB p
  have lD : (u16be qt ++ u16be qc).length = 4 := rfl
  refine ⟨p, sB, hB, (hs.ok p rfl).1, hs.added hwf hf.cur rfl, hf.cur, ?_, ?_, ?_, ?_, hs'⟩
  -- QTYPE and QCLASS as an opaque list of four octets
  all_goals rw [hs']; generalize u16be qt ++ u16be qc = D at lD
  · intro i hi
    show (writeAt _ _ D)[i]? = _
    rw [writeAt_get_lt _ _ _ _ (by rw [c]; exact hi), o]
  · exact g
  · show BytesAt (writeAt _ _ D) _ D
    rw [← c]
    exact bytesAt_writeAt _ _ _ (by rw [c, o, lD]; exact z4)
  · rw [pushed_cursor, c, lD]

/-- **the round trip of the question, in every compression mode**: after a successful
    `add_question`'s body, on any message that agrees with the buffer below the cursor, the
    independent decoder reads at the old cursor the QNAME (same label count, equal up to ASCII case,
    octet for octet unless the mode is `Standard`) on `k` octets; QTYPE and QCLASS follow -/
theorem addQuestionBody_round_trip (qn : WName) (qt qc : Nat) (s s' : State) (hw : WInv s) (hwf : qn.WF)
    (hqt : qt < 65536) (hqc : qc < 65536)
    (h : addQuestionBody qn qt qc s = (.ok (), s')) (msg : Bytes)
    (hmsg : ∀ i, i < s'.cursor → msg[i]? = s'.octets[i]?) :
    ∃ w k, specDecodeName msg s.cursor = some (w, qn.len, k) ∧ s'.cursor = s.cursor + k + 4 ∧
      w.map lowerU8 = qn.wire.map lowerU8 ∧ (s.mode ≠ .standard → w = qn.wire) ∧
      be16 msg (s.cursor + k) = qt ∧ be16 msg (s.cursor + k + 2) = qc := by
  obtain ⟨p, sB, _, hwB, na, hcB, pB, _, by4, c4, _⟩ := addQuestionBody_qname hw hwf h
  obtain ⟨w, hd, h1, h2⟩ := item_decodes_msg hwB na.item na.name (msg := msg)
    (fun i hi => (hmsg i (by omega)).trans (pB i hi))
  have hk : s.cursor + (sB.cursor - s.cursor) = sB.cursor := by omega
  obtain ⟨f1, f2⟩ := bytesAt_append by4
  refine ⟨w, sB.cursor - s.cursor, hd, by omega, h1, h2, ?_⟩
  rw [hk]
  exact ⟨(be16_of_agree hmsg (by omega)).trans (be16_of_bytesAt f1 hqt),
    (be16_of_agree hmsg (by omega)).trans (be16_of_bytesAt f2 hqc)⟩

end QV.Writer
