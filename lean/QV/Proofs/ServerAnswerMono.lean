/-
  QV.Proofs.ServerAnswerMono — more room does not hurt: a writer operation of the answering phase that,
  in some room, is accepted — or rejected for a reason other than `Truncation` — has exactly the same
  outcome with `d` more octets of room, and leaves the same state (up to the room).  The converse of
  Proofs/ServerAnswerLimit.lean's `Sim`; with it, "rejected with `Truncation` in the big room" implies
  "not accepted in the small room" (C10 row 3, the failure direction of the two-run comparison).
-/
import QV.Proofs.ServerAnswerLimit

namespace QV.ServerAnswer
open QV QV.Writer QV.Server

/-- outcomes other than `Truncation` (and panics) persist when room is added -/
def MonoR {α} (f : M α) : Prop :=
  ∀ (d : Nat) (s : State), match f s with
    | (.ok a, s') => f (lift d s) = (.ok a, lift d s')
    | (.err e, s') => e ≠ .Truncation → f (lift d s) = (.err e, lift d s')
    | (.panic, _) => True

/-- outcomes persist with more room: the two runs of the footprint agree unless the one in the smaller room
    ended with `Truncation` or a panic -/
theorem Foot.monoR {α} {f : M α} (h : Foot Room.put3 f) : MonoR f := by
  intro d s
  have e : lift d s = Room.put3 ⟨s.limit + d, s.available + d, s.tsig, 0⟩ s := rfl
  have e0 : s = Room.put3 ⟨s.limit, s.available, s.tsig, 0⟩ s := rfl
  rcases h.two s ⟨s.limit, s.available, s.tsig, 0⟩ ⟨s.limit + d, s.available + d, s.tsig, 0⟩ (Nat.le_add_right _ _) with
    ⟨o, u, h2, h1⟩ | ⟨h1, _, _⟩
  · rw [← e0] at h1
    rw [h1, e, h2]
    cases o with
    | ok a => rfl
    | err e => exact fun _ => rfl
    | panic => trivial
  · rw [← e0] at h1
    rcases hr : f s with ⟨(x | e | _), v⟩ <;> rw [hr] at h1
    · rcases h1 with h | h <;> cases h
    · rcases h1 with h | h
      · cases h; exact fun hne => absurd rfl hne
      · cases h
    · trivial

/-- **a record-adding call that is accepted, or rejected for a reason other than `Truncation`, in some
    room is so with more room** -/
theorem monoR_addRrsetOp (sec : RrSection) (hint : Hint) (owner : WName) (ty cls ttl : Nat)
    (rds : List (List UInt8)) : MonoR (addRrsetOp sec hint owner ty cls ttl rds) :=
  (foot_addRrsetOp sec hint owner ty cls ttl rds).monoR

theorem monoR_addRrOp (sec : RrSection) (hint : Hint) (owner : WName) (ty cls ttl : Nat)
    (rd : List UInt8) : MonoR (addRrOp sec hint owner ty cls ttl rd) :=
  (foot_addRrOp sec hint owner ty cls ttl rd).monoR

/-- **the failure direction, call level**: a call rejected with `Truncation` in the bigger room is not
    accepted in the smaller one, nor rejected there for another reason -/
theorem addRrsetOp_trunc_down (sec : RrSection) (hint : Hint) (owner : WName) (ty cls ttl : Nat)
    (rds : List (List UInt8)) (d : Nat) (s t : State)
    (h : addRrsetOp sec hint owner ty cls ttl rds (lift d s) = (.err .Truncation, t)) :
    (∃ s', addRrsetOp sec hint owner ty cls ttl rds s = (.err .Truncation, s')) ∨
    (addRrsetOp sec hint owner ty cls ttl rds s).1 = .panic := by
  have hm := monoR_addRrsetOp sec hint owner ty cls ttl rds d s
  rcases hr : addRrsetOp sec hint owner ty cls ttl rds s with ⟨(u | e | _), s'⟩
  · rw [hr] at hm; simp only at hm; rw [hm] at h; cases h
  · rw [hr] at hm
    simp only at hm
    by_cases he : e = .Truncation
    · subst he; exact Or.inl ⟨s', rfl⟩
    · rw [hm he] at h; cases h; exact absurd rfl he
  · exact Or.inr rfl

end QV.ServerAnswer
