/-
  QV.Proofs.ServerPure — the functions of `src/server/query.rs` that only read zone data:
  `read_name_from_rdata`, `read_soa_minimum` and the classification loop of `do_referral` never touch
  the writer. Each is `ofOption` of a plain function into `Option` (`nameIn`, `soaMinimumIn`,
  `classify`); what a judgement of the answer phase says of them is then its rule for `ofOption`
  plus a fact about that function.  In the same way the logged `add_*_rr` is the logged `add_*_rrset`
  of one record (`PM.addRr1_eq`): a judgement needs a rule for the latter only.
-/
import QV.Model.Server
import QV.Proofs.WriterSingle

namespace QV.ServerAnswer
open QV QV.Writer QV.Server

/-- a value read out of zone data, or `ServFail` -/
def ofOption {α} : Option α → PM α
  | some a => pure a
  | none => PM.fail .servFail

theorem ofOption_some_bind {α β : Type} (a : α) (k : α → PM β) : (ofOption (some a) >>= k) = k a := rfl

theorem ofOption_none_bind {α β : Type} (k : α → PM β) : (ofOption none >>= k) = PM.fail .servFail := rfl

theorem ofOption_bind {α β} (o : Option α) (f : α → Option β) :
    (ofOption o >>= fun a => ofOption (f a)) = ofOption (o.bind f) := by
  cases o <;> rfl

/-- `add_*_rr(.., None)?` logs and does what the mandatory `add_*_rrset` of the one record does -/
theorem PM.addRr1_eq (sec : RrSection) (hint : Hint) (owner : WName) (ty cls ttl : Nat) (rd : List UInt8) :
    PM.addRr1 sec hint owner ty cls ttl rd = (PM.addRrs false sec hint owner ty cls ttl [rd] >>= fun _ => pure ()) := by
  unfold PM.addRr1 PM.addRrs
  rw [addRrOp_eq_addRrsetOp]
  rfl

/-- the name `read_name_from_rdata(rdata, start)` returns -/
def nameIn (rd : List UInt8) (start : Nat) : Option WName :=
  if start > rd.length then none
  else match WName.parse (rd.drop start) with
    | some (n, []) => some n
    | _ => none

theorem readName_eq (rd : List UInt8) (start : Nat) : readNameFromRdata rd start = ofOption (nameIn rd start) := by
  unfold readNameFromRdata nameIn
  split
  · rfl
  · rcases WName.parse (rd.drop start) with _ | ⟨n, _ | _⟩ <;> rfl

theorem nameIn_some {rd : List UInt8} {start : Nat} {n : WName} (h : nameIn rd start = some n) :
    ¬ start > rd.length ∧ WName.parse (rd.drop start) = some (n, []) := by
  unfold nameIn at h
  split at h
  · cases h
  · next hs =>
    refine ⟨hs, ?_⟩
    rcases hp : WName.parse (rd.drop start) with _ | ⟨m, _ | _⟩ <;> rw [hp] at h <;> cases h
    rfl

/-- the value `read_soa_minimum(rdata)` returns -/
def soaMinimumIn (rd : List UInt8) : Option Nat :=
  match WName.parse rd with
  | some (_, r1) =>
    match WName.parse r1 with
    | some (_, r2) =>
      if 16 > r2.length then none
      else if (r2.drop 16).length = 4 then some (be32 (r2.drop 16).toArray 0) else none
    | none => none
  | none => none

theorem readSoaMinimum_eq (rd : List UInt8) : readSoaMinimum rd = ofOption (soaMinimumIn rd) := by
  unfold readSoaMinimum soaMinimumIn
  cases WName.parse rd with
  | none => rfl
  | some p1 =>
    obtain ⟨_, r1⟩ := p1
    dsimp only
    cases WName.parse r1 with
    | none => rfl
    | some p2 =>
      obtain ⟨_, r2⟩ := p2
      dsimp only
      by_cases h16 : 16 > r2.length
      · rw [if_pos h16, if_pos h16]; rfl
      · rw [if_neg h16, if_neg h16]
        by_cases h4 : (r2.drop 16).length = 4
        · rw [if_pos h4, if_pos h4]; rfl
        · rw [if_neg h4, if_neg h4]; rfl

/-- the classification of `do_referral`, as a function of the NS RDATA alone: (index, nsdname) pairs,
    those at or below `child` first -/
def classify (child : WName) : List (List UInt8) → Nat → Option (List (Nat × WName) × List (Nat × WName))
  | [], _ => some ([], [])
  | rd :: rest, index =>
    (nameIn rd 0).bind fun n => (classify child rest (index + 1)).bind fun p =>
      if NameL.eqOrSubdomainOf (fold n) (fold child) then some ((index, n) :: p.1, p.2)
      else some (p.1, (index, n) :: p.2)

theorem classifyNs_eq (child : WName) (rds : List (List UInt8)) (idx : Nat) :
    classifyNs child rds idx = ofOption (classify child rds idx) := by
  induction rds generalizing idx with
  | nil => rfl
  | cons rd rest ih =>
    unfold classifyNs classify
    rw [readName_eq, ← ofOption_bind]
    congr 1; funext n
    rw [ih, ← ofOption_bind]
    congr 1; funext p
    obtain ⟨g, a⟩ := p
    dsimp only
    split <;> rfl

/-- one step of `classify`, read backwards -/
theorem classify_cons {child : WName} {rd : List UInt8} {rest : List (List UInt8)} {idx : Nat}
    {p : List (Nat × WName) × List (Nat × WName)} (h : classify child (rd :: rest) idx = some p) :
    ∃ n q, nameIn rd 0 = some n ∧ classify child rest (idx + 1) = some q ∧
      ((NameL.eqOrSubdomainOf (fold n) (fold child) = true ∧ p = ((idx, n) :: q.1, q.2)) ∨
       (NameL.eqOrSubdomainOf (fold n) (fold child) = false ∧ p = (q.1, (idx, n) :: q.2))) := by
  unfold classify at h
  rcases hn : nameIn rd 0 with _ | n
  · rw [hn] at h; cases h
  · rcases hq : classify child rest (idx + 1) with _ | q
    · rw [hn, hq] at h; cases h
    · rw [hn, hq] at h
      simp only [Option.bind_some] at h
      by_cases hb : NameL.eqOrSubdomainOf (fold n) (fold child) = true
      · rw [if_pos hb] at h; cases h; exact ⟨n, q, rfl, rfl, Or.inl ⟨hb, rfl⟩⟩
      · rw [if_neg hb] at h; cases h; exact ⟨n, q, rfl, rfl, Or.inr ⟨by simpa using hb, rfl⟩⟩

/-- the first list holds the names at or below `child`, the second the others -/
theorem classify_bailiwick {child : WName} {rds : List (List UInt8)} {idx : Nat}
    {p : List (Nat × WName) × List (Nat × WName)} (h : classify child rds idx = some p) :
    (∀ x ∈ p.1, NameL.eqOrSubdomainOf (fold x.2) (fold child) = true) ∧
    (∀ x ∈ p.2, NameL.eqOrSubdomainOf (fold x.2) (fold child) = false) := by
  induction rds generalizing idx p with
  | nil => cases h; exact ⟨fun _ hx => (nomatch hx), fun _ hx => (nomatch hx)⟩
  | cons rd rest ih =>
    obtain ⟨n, q, _, hq, hor⟩ := classify_cons h
    obtain ⟨hg, ha⟩ := ih hq
    rcases hor with ⟨hb, rfl⟩ | ⟨hb, rfl⟩
    · exact ⟨fun x hx => by
        rcases List.mem_cons.mp hx with rfl | hx
        · exact hb
        · exact hg x hx, ha⟩
    · exact ⟨hg, fun x hx => by
        rcases List.mem_cons.mp hx with rfl | hx
        · exact hb
        · exact ha x hx⟩

end QV.ServerAnswer
