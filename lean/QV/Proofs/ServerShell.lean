/-
  QV.Proofs.ServerShell — the shell of `Server::handle_message` around the program it runs on the fresh
  writer (`prog`): buffer check, `Reader::try_from`, the four header reads, QR test, `Writer::new`.
  `handleMessage_eq_toContext` relates the two model functions that share it (`handleMessage` is
  `handleToContext`, then `finish`); `handleToContext_shell` says what it comes to for a response buffer of
  the documented size. The safety of the handler (QV.Proofs.ServerSafety) and the equation for its response
  (QV.Proofs.ServerMsg) both start from these two.
-/
import QV.Model.ServerRrl
import QV.Properties.C15

namespace QV.ServerScan
open QV QV.Writer

/-- the response-size limit `handle_message` starts with -/
def lim0 (tr : Server.Transport) : Nat := match tr with | .tcp => 65535 | .udp => 512

/-- `response_buf.len()` must be at least this (else `handle_message` panics, as documented) -/
def minBuf (tr : Server.Transport) (payload : Nat) : Nat := match tr with | .tcp => 65535 | .udp => payload

/-- `Writer::new(response_buf, limit)` on a zeroed buffer -/
def w0 (bufLen limit : Nat) : State :=
  { octets := zeroHeader (Array.replicate bufLen 0), cursor := Gen.HEADER_SIZE, limit := min limit bufLen,
    available := min limit bufLen, rrStart := Gen.HEADER_SIZE, sect := .question, qdcount := 0, ancount := 0,
    nscount := 0, arcount := 0, qname := none, mostRecentOwner := none, mostRecentNameInRdata := none,
    mode := .standard, edns := none, tsig := none }

theorem new_eq (bufLen limit : Nat) (h : 12 ≤ min limit bufLen) :
    Writer.new (Array.replicate bufLen 0) limit = .ok (w0 bufLen limit) := by
  unfold Writer.new w0
  simp only [Array.size_replicate, show ¬ min limit bufLen < Gen.HEADER_SIZE by
    show ¬ min limit bufLen < 12; omega, if_false]

end QV.ServerScan

namespace QV.ServerSafety
open QV QV.Writer QV.Server QV.Reader

theorem opcode_ok (r : Reader) (hi : Reader.Inv r) : ∃ v, opcode r = .ok v := by
  have hnp := (C15.C15_header_no_panic r hi).2.2.2.2.2.2.2.2.2.2.1
  cases h : opcode r with
  | ok v => exact ⟨v, rfl⟩
  | panic => exact absurd h hnp
  | err e =>
    unfold opcode idx at h
    by_cases hb : Gen.OPCODE_BYTE < r.octets.size
    · simp only [hb, dite_true] at h
      split at h <;> cases h
    · simp only [hb, dite_false] at h
      cases h

/-- the program `handle_message` runs on the fresh writer -/
def prog (cfg : Cfg) (tr : Transport) (now : Nat) (r0 : Reader) (id opc : Nat) (rdv : Bool) : M Bool := do
  setId id
  setQr true
  setOpcode opc
  if opc = 0 then setRd rdv else pure ()
  handleWithContext cfg tr now r0

/-! ### `handle_message` = the handler up to RRL (`handleToContext`), then `finish` -/

theorem handleMessage_eq_toContext (cfg : Cfg) (tr : Transport) (now bufLen : Nat) (req : Bytes) :
    handleMessage cfg tr now bufLen req =
      (match handleToContext cfg tr now bufLen req with
       | .ok h => finishResponse h
       | .err _ => .panic
       | .panic => .panic) := by
  unfold handleMessage handleToContext
  dsimp only
  -- the two run the same steps, over either transport; only the `Ok` arm of each goes on. The buffer
  -- test is rewritten with its condition left to unification: the `match tr` of each model function
  -- is a constant of its own
  rcases Nat.lt_or_ge bufLen (ServerScan.minBuf tr cfg.payload) with hb | hb
  · rw [if_pos, if_pos]
    · exact hb
    · exact hb
  rw [if_neg, if_neg]
  rotate_left
  · exact Nat.not_lt.mpr hb
  · exact Nat.not_lt.mpr hb
  generalize Writer.new (Array.replicate bufLen 0) _ = nw
  cases Reader.tryFrom req <;> try rfl
  rename_i r0
  dsimp only
  cases Reader.qr r0 <;> try rfl
  cases Reader.msgId r0 <;> try rfl
  cases Reader.opcode r0 <;> try rfl
  cases Reader.rd r0 <;> try rfl
  rename_i qr id opcode rd
  dsimp only
  cases qr
  case true => rfl
  simp only [Bool.false_eq_true, if_false]
  cases nw <;> try rfl
  rename_i w0
  dsimp only
  generalize (setId id >>= _) w0 = res
  obtain ⟨_ | _ | _, w1⟩ := res <;> try rfl
  rename_i send
  cases send <;> rfl

/-- **the shell of `handle_message`** around the program it runs on the fresh writer (`prog`), for a
    response buffer of the documented size: no context for a request without a full header or with QR set;
    otherwise the header fields are read, the writer is made, and the outcome is that of `prog` -/
theorem handleToContext_shell (cfg : Cfg) (tr : Transport) (now bufLen : Nat) (req : Bytes)
    (hbuf : ServerScan.minBuf tr cfg.payload ≤ bufLen) (hpay : 512 ≤ cfg.payload) :
    ((req.size < 12 ∨ Reader.qr ⟨req, 12, none⟩ = .ok true) ∧
      handleToContext cfg tr now bufLen req = .ok .noContext) ∨
    ∃ id opc rdv, 12 ≤ req.size ∧ Reader.qr ⟨req, 12, none⟩ = .ok false ∧
      Reader.msgId ⟨req, 12, none⟩ = .ok id ∧ Reader.opcode ⟨req, 12, none⟩ = .ok opc ∧
      Reader.rd ⟨req, 12, none⟩ = .ok rdv ∧
      handleToContext cfg tr now bufLen req =
        match prog cfg tr now ⟨req, 12, none⟩ id opc rdv (ServerScan.w0 bufLen (ServerScan.lim0 tr)) with
        | (.ok send, w1) => .ok (.ctx send w1 ⟨req, 12, none⟩)
        | _ => .panic := by
  unfold handleToContext
  dsimp only
  rw [if_neg]
  rotate_left
  · exact Nat.not_lt.mpr hbuf
  by_cases h12 : 12 ≤ req.size
  · have htf : Reader.tryFrom req = .ok ⟨req, 12, none⟩ := if_pos h12
    have hinv : Reader.Inv ⟨req, 12, none⟩ := ⟨h12, h12⟩
    obtain ⟨_, eid, _⟩ := C15.C15_header_fields _ hinv
    obtain ⟨opc, hopc⟩ := opcode_ok _ hinv
    have c : Gen.QR_BYTE = 2 ∧ Gen.RD_BYTE = 2 := by decide
    have eqr : Reader.qr ⟨req, 12, none⟩ = .ok _ :=
      C15.flag_ok _ Gen.QR_BYTE Gen.QR_MASK (by rw [c.1]; show 2 < req.size; omega)
    have erd : Reader.rd ⟨req, 12, none⟩ = .ok _ :=
      C15.flag_ok _ Gen.RD_BYTE Gen.RD_MASK (by rw [c.2]; show 2 < req.size; omega)
    have hnew := ServerScan.new_eq bufLen (ServerScan.lim0 tr)
      (by cases tr <;> simp only [ServerScan.lim0, ServerScan.minBuf] at hbuf ⊢ <;> omega)
    generalize hL : Writer.new (Array.replicate bufLen 0) _ = nw
    obtain rfl : nw = .ok _ := hL.symm.trans hnew
    revert eqr
    generalize (_ != 0) = qrv
    intro eqr
    cases qrv with
    | true =>
      refine .inl ⟨.inr eqr, ?_⟩
      simp only [htf, eqr, eid, hopc, erd, if_true]
    | false =>
      refine .inr ⟨_, opc, _, h12, eqr, eid, hopc, erd, ?_⟩
      simp only [htf, eqr, eid, hopc, erd, Bool.false_eq_true, if_false]
      -- as a variable, so that no writer call is run on the fresh writer
      generalize ServerScan.w0 bufLen (ServerScan.lim0 tr) = w
      rfl
  · have htf : Reader.tryFrom req = .err .HeaderTooShort := if_neg h12
    rw [htf]
    exact .inl ⟨.inl (Nat.lt_of_not_le h12), rfl⟩

end QV.ServerSafety
