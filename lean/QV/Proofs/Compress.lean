/-
  QV.Proofs.Compress — the buffer-level facts behind name compression (C13, and the writer side
  of C01/C02): what it means that a compressed name *is stored* at a position of the buffer
  (`NameAt`), that the helper loops of `write_compressed_unhinted_name` read such names without
  panicking, and what the column scan returns (`compressDecision_ok`; `compressDecision_col` for any
  buffer).  `NameAt` is functional (`nameAt_unique`), and reading a stored name never looks at the two
  reserved RDLENGTH octets of the record under construction (`label_agree`, `nameAt_frame_gap`).
-/
import QV.Model.Compress
import QV.Proofs.Wire

namespace QV.Writer
open QV QV.Wire

/-! ### following pointers: `Hop` -/

/-- `Hop oct cur q p`: the octet at `q` is the real (non-pointer) label octet `p = q`, or a
    compression pointer (two octets, strictly backwards) to the real label octet at `p`; every
    octet read lies below `cur`. (The writer never stores a pointer to a pointer.) -/
inductive Hop (oct : Bytes) (cur : Nat) : Nat → Nat → Prop
  | here {q : Nat} {b : UInt8} (hq : q < cur) (hb : oct[q]? = some b) (hnp : isPtr b = false) :
      Hop oct cur q q
  | jump {q : Nat} {b1 b2 b3 : UInt8} (hq : q + 1 < cur) (h1 : oct[q]? = some b1)
      (h2 : oct[q+1]? = some b2) (hp : isPtr b1 = true) (hlt : ptrOf b1 b2 < q)
      (h3 : oct[ptrOf b1 b2]? = some b3) (hnp : isPtr b3 = false) : Hop oct cur q (ptrOf b1 b2)

theorem move_here {oct : Bytes} {q : Nat} {b : UInt8} (hb : oct[q]? = some b) (hnp : isPtr b = false) :
    moveToNextRealLabel oct q = .ok q := by
  rw [moveToNextRealLabel]
  have hs := getElem?_some_lt hb
  rw [dif_pos hs, getElem_of_getElem? hb hs, hnp]
  simp

/-- the model's `move_to_next_real_label` follows a `Hop` without panicking -/
theorem hop_move {oct : Bytes} {cur q p : Nat} (h : Hop oct cur q p) :
    moveToNextRealLabel oct q = .ok p := by
  cases h with
  | here hq hb hnp => exact move_here hb hnp
  | jump hq h1 h2 hp hlt h3 hnp =>
    rw [moveToNextRealLabel]
    have hs1 := getElem?_some_lt h1
    have hs2 := getElem?_some_lt h2
    rw [dif_pos hs1, getElem_of_getElem? h1 hs1, hp]
    simp only [if_true]
    rw [dif_pos hs2, getElem_of_getElem? h2 hs2, if_pos hlt]
    exact move_here h3 hnp

theorem hop_le {oct : Bytes} {cur q p : Nat} (h : Hop oct cur q p) :
    p ≤ q ∧ p < cur ∧ ∃ b, oct[p]? = some b ∧ isPtr b = false := by
  cases h with
  | here hq hb hnp => exact ⟨Nat.le_refl _, hq, _, hb, hnp⟩
  | jump hq h1 h2 hp hlt h3 hnp => exact ⟨by omega, by omega, _, h3, hnp⟩

theorem hop_start_lt {oct : Bytes} {cur q p : Nat} (h : Hop oct cur q p) : q < cur := by
  cases h with
  | here hq _ _ => exact hq
  | jump hq _ _ _ _ _ _ => omega

theorem hop_start_size {oct : Bytes} {cur q p : Nat} (h : Hop oct cur q p) : q < oct.size := by
  cases h with
  | here _ hb _ => exact getElem?_some_lt hb
  | jump _ hb _ _ _ _ _ => exact getElem?_some_lt hb

/-- a `Hop` only depends on the octets in `[lo, cur)`, provided its end point is not below `lo` -/
theorem hop_frame {oct oct' : Bytes} {cur cur' q p lo : Nat} (h : Hop oct cur q p)
    (hpre : ∀ i, lo ≤ i → i < cur → oct'[i]? = oct[i]?) (hc : cur ≤ cur') (hlo : lo ≤ p) :
    Hop oct' cur' q p := by
  cases h with
  | here hq hb hnp => exact .here (by omega) (by rw [hpre _ hlo hq]; exact hb) hnp
  | jump hq h1 h2 hp hlt h3 hnp =>
    exact .jump (by omega) (by rw [hpre _ (by omega) (by omega)]; exact h1)
      (by rw [hpre _ (by omega) hq]; exact h2) hp hlt (by rw [hpre _ hlo (by omega)]; exact h3) hnp

/-! ### names stored in the buffer: `NameAt` -/

/-- `NameAt G oct cur p ls`: at position `p` (a recorded label start, `G p`) the buffer holds —
    entirely below `cur` — a possibly compressed name whose non-root labels are `ls` (octets as
    stored), read the way the writer reads prior names: a label, then `Hop` to the next real
    label, … until the root label. -/
inductive NameAt (G : Nat → Prop) (oct : Bytes) (cur : Nat) : Nat → List Label → Prop
  | root {p : Nat} (hg : G p) (hp : p < cur) (h0 : oct[p]? = some 0) : NameAt G oct cur p []
  | label {p p' : Nat} {l : Label} {ls : List Label} (hg : G p) (h1 : 1 ≤ l.length)
      (h63 : l.length ≤ 63) (hb : oct[p]? = some (UInt8.ofNat l.length))
      (hd : (oct.extract (p + 1) (p + 1 + l.length)).toList = l)
      (hop : Hop oct cur (p + 1 + l.length) p') (rest : NameAt G oct cur p' ls) :
      NameAt G oct cur p (l :: ls)

theorem nameAt_start {G : Nat → Prop} {oct : Bytes} {cur p : Nat} {ls : List Label}
    (h : NameAt G oct cur p ls) : G p ∧ p < cur ∧ ∃ b, oct[p]? = some b ∧ isPtr b = false := by
  cases h with
  | root hg hp h0 => exact ⟨hg, hp, 0, h0, by decide⟩
  | label hg h1 h63 hb hd hop rest =>
    refine ⟨hg, by have := hop_start_lt hop; omega, _, hb, ?_⟩
    apply not_isPtr_of_le63
    rw [UInt8.toNat_ofNat']
    omega

/-- `NameAt` only depends on the octets in `[lo, cur)` when every recorded label start is at or
    above `lo`, and is monotone in the set of recorded label starts -/
theorem nameAt_frame {G G' : Nat → Prop} {oct oct' : Bytes} {cur cur' p lo : Nat} {ls : List Label}
    (h : NameAt G oct cur p ls) (hG : ∀ x, G x → G' x) (hlo : ∀ x, G x → lo ≤ x)
    (hpre : ∀ i, lo ≤ i → i < cur → oct'[i]? = oct[i]?) (hc : cur ≤ cur') : NameAt G' oct' cur' p ls := by
  induction h with
  | root hg hp h0 => exact .root (hG _ hg) (by omega) (by rw [hpre _ (hlo _ hg) hp]; exact h0)
  | @label p p' l ls hg h1 h63 hb hd hop rest ih =>
    have hlt := hop_start_lt hop
    have hsz := hop_start_size hop
    have hp'lo : lo ≤ p' := by
      cases rest with
      | root hg' _ _ => exact hlo _ hg'
      | label hg' _ _ _ _ _ _ => exact hlo _ hg'
    have hop' := hop_frame hop hpre hc hp'lo
    have hsz' := hop_start_size hop'
    have hpl := hlo _ hg
    refine .label (hG _ hg) h1 h63 (by rw [hpre _ hpl (by omega)]; exact hb) ?_ hop' ih
    rw [extract_congr_range (fun k hk1 hk2 => hpre k (by omega) (by omega)) (by omega) (by omega)]
    exact hd

/-- all positions of a stored name are recorded label starts below `cur` -/
theorem nameAt_restrict {G : Nat → Prop} {oct : Bytes} {cur p : Nat} {ls : List Label}
    (h : NameAt G oct cur p ls) : NameAt (fun x => G x ∧ x < cur) oct cur p ls := by
  induction h with
  | root hg hp h0 => exact .root ⟨hg, hp⟩ hp h0
  | label hg h1 h63 hb hd hop rest ih =>
    exact .label ⟨hg, by have := hop_start_lt hop; omega⟩ h1 h63 hb hd hop ih

/-! ### `skipLabels` (the loop of `build_prior_ctx`) -/

theorem skipLabels_nameAt {G : Nat → Prop} {oct : Bytes} {cur p : Nat} {ls : List Label}
    (h : NameAt G oct cur p ls) (k : Nat) (hk : k ≤ ls.length) :
    ∃ p', skipLabels oct k p = .ok p' ∧ NameAt G oct cur p' (ls.drop k) := by
  induction k generalizing p ls with
  | zero => exact ⟨p, rfl, by simpa using h⟩
  | succ k ih =>
    cases h with
    | root hg hp h0 => simp at hk
    | @label p p' l ls hg h1 h63 hb hd hop rest =>
      have hs := getElem?_some_lt hb
      simp only [skipLabels, dif_pos hs]
      rw [getElem_of_getElem? hb hs]
      rw [ofNat_len_toNat h63, show p + l.length + 1 = p + 1 + l.length by omega, hop_move hop]
      simp only [List.drop_succ_cons]
      exact ih rest (by simpa using hk)


/-! ### the column scan -/

/-- the label comparison of the scan: octet-exact in `CasePreserving` mode, ASCII-case-insensitive
    otherwise -/
def labelMatch (mode : CMode) (a b : Label) : Bool :=
  if mode = .casePreserving then decide (a = b) else WName.labelEqIgnoreCase a b

/-- two label lists of the same length match label by label -/
def labelsMatch (mode : CMode) : List Label → List Label → Bool
  | [], [] => true
  | a :: as, b :: bs => labelMatch mode a b && labelsMatch mode as bs
  | _, _ => false

/-- induction along two label lists that match -/
theorem labelsMatch_rec {mode : CMode} {P : List Label → List Label → Prop} (nil : P [] [])
    (cons : ∀ {x y xs ys}, labelMatch mode x y = true → labelsMatch mode xs ys = true → P xs ys →
      P (x :: xs) (y :: ys)) : ∀ {a b : List Label}, labelsMatch mode a b = true → P a b := by
  intro a
  induction a with
  | nil =>
    intro b h
    cases b with
    | nil => exact nil
    | cons _ _ => simp [labelsMatch] at h
  | cons x xs ih =>
    intro b h
    cases b with
    | nil => simp [labelsMatch] at h
    | cons y ys =>
      simp only [labelsMatch, Bool.and_eq_true] at h
      exact cons h.1 h.2 (ih h.2)

theorem labelsMatch_length {mode : CMode} {a b : List Label} (h : labelsMatch mode a b = true) :
    a.length = b.length :=
  labelsMatch_rec (P := fun a b => a.length = b.length) rfl (fun _ _ ih => by simp [ih]) h

theorem labelsMatch_append {mode : CMode} {a b c d : List Label} (h1 : labelsMatch mode a b = true)
    (h2 : labelsMatch mode c d = true) : labelsMatch mode (a ++ c) (b ++ d) = true :=
  labelsMatch_rec (P := fun a b => labelsMatch mode (a ++ c) (b ++ d) = true) (by simpa using h2) (fun h _ ih => by
    simp only [List.cons_append, labelsMatch, Bool.and_eq_true]; exact ⟨h, ih⟩) h1

theorem labelsMatch_snoc {mode : CMode} {a b : List Label} {x y : Label}
    (h : labelsMatch mode a b = true) (hxy : labelMatch mode x y = true) :
    labelsMatch mode (a ++ [x]) (b ++ [y]) = true :=
  labelsMatch_append h (by simp [labelsMatch, hxy])

/-- what is known about a live match of a prior context when the scan is about to look at
    column `c`: it started at column `ms.startColumn` at a real label, and the labels of the
    prior name from there on (`pre`, then the not yet compared rest `ls`) match the compressee's
    labels of columns `ms.startColumn .. c-1` -/
def MatchOK (G : Nat → Prop) (oct : Bytes) (cur : Nat) (mode : CMode) (labels : List Label)
    (c : Nat) (sc : Nat) (ls : List Label) (ms : MatchStart) : Prop :=
  sc ≤ ms.startColumn ∧ ms.startColumn < c ∧ 0 < ms.priorPointer ∧ ms.priorPointer ≤ Gen.POINTER_MAX ∧
  ∃ pre, NameAt G oct cur ms.priorPointer (pre ++ ls) ∧ pre.length = c - ms.startColumn ∧
    labelsMatch mode ((labels.drop ms.startColumn).take (c - ms.startColumn)) pre = true

/-- the state of one prior context before column `c` (`m` = number of non-root labels of the
    compressee): its pointer is at a real label from which exactly the labels that line up with
    columns `max c startColumn .. m-1` remain -/
def CtxOK (G : Nat → Prop) (oct : Bytes) (cur : Nat) (mode : CMode) (labels : List Label)
    (c : Nat) (pc : PriorCtx) : Prop :=
  ∃ ls, NameAt G oct cur pc.pointer ls ∧ ls.length + max c pc.startColumn = labels.length ∧
    ∀ ms, pc.matchStart = some ms → MatchOK G oct cur mode labels c pc.startColumn ls ms

def OptOK (G : Nat → Prop) (oct : Bytes) (cur : Nat) (mode : CMode) (labels : List Label)
    (c : Nat) (o : Option PriorCtx) : Prop :=
  ∀ pc, o = some pc → CtxOK G oct cur mode labels c pc

theorem hintPointerNew_some {p q : Nat} (h : hintPointerNew p = some q) :
    q = p ∧ 0 < p ∧ p ≤ Gen.POINTER_MAX := by
  unfold hintPointerNew at h
  split at h
  · cases h; rename_i hc; exact ⟨rfl, by omega, hc.1⟩
  · cases h

/-- the live match of a context after column `c`, where the label `l0` stored at its pointer was
    compared with the compressee's label `lab`: none unless the labels match and the pointer is in
    pointer range; then the match that was alive, or else a new one that starts here -/
def newMatch (mode : CMode) (c : Nat) (lab l0 : Label) (pc : PriorCtx) : Option MatchStart :=
  match hintPointerNew pc.pointer with
  | some pp =>
    if (if mode = .casePreserving then decide (lab = l0) else WName.labelEqIgnoreCase lab l0) then
      (match pc.matchStart with
       | some m => some m
       | none => some ⟨c, pp⟩)
    else none
  | none => none

theorem newMatch_some {mode : CMode} {c : Nat} {lab l0 : Label} {pc : PriorCtx} {ms : MatchStart}
    (h : newMatch mode c lab l0 pc = some ms) :
    labelMatch mode lab l0 = true ∧ 0 < pc.pointer ∧ pc.pointer ≤ Gen.POINTER_MAX ∧
      (pc.matchStart = some ms ∨ (pc.matchStart = none ∧ ms = ⟨c, pc.pointer⟩)) := by
  unfold newMatch at h
  cases hhp : hintPointerNew pc.pointer with
  | none => rw [hhp] at h; cases h
  | some pp =>
    obtain ⟨rfl, hpos, hmax⟩ := hintPointerNew_some hhp
    rw [hhp] at h
    change (if labelMatch mode lab l0 then _ else _) = _ at h
    cases heq : labelMatch mode lab l0 with
    | false => rw [heq] at h; cases h
    | true =>
      rw [heq, if_pos rfl] at h
      refine ⟨rfl, hpos, hmax, ?_⟩
      cases hold : pc.matchStart with
      | none => rw [hold] at h; cases h; exact .inr ⟨rfl, rfl⟩
      | some m0 => rw [hold] at h; cases h; exact .inl rfl

/-- the value of one step of the scan, from what lies at the context's pointer -/
theorem stepCtx_eval {o : Bytes} {mode : CMode} {c : Nat} {lab l0 : Label} {pc : PriorCtx} {p' : Nat}
    (hsc : ¬ c < pc.startColumn) (hb : o[pc.pointer]? = some (UInt8.ofNat l0.length)) (h63 : l0.length ≤ 63)
    (hd : (o.extract (pc.pointer + 1) (pc.pointer + 1 + l0.length)).toList = l0)
    (hmv : moveToNextRealLabel o (pc.pointer + 1 + l0.length) = .ok p')
    (hs2 : pc.pointer + 1 + l0.length < o.size) :
    stepCtx o mode c lab (some pc) = .ok (some ⟨pc.startColumn, p', newMatch mode c lab l0 pc⟩) := by
  have hs := getElem?_some_lt hb
  have hl : (UInt8.ofNat l0.length).toNat = l0.length := ofNat_len_toNat h63
  unfold stepCtx
  dsimp only
  rw [if_neg hsc, dif_pos hs]
  simp only [getElem_of_getElem? hb hs, hl]
  rw [if_neg (by omega), hd, hmv]
  rfl

/-- one context, one column -/
theorem stepCtx_ok {G : Nat → Prop} {oct : Bytes} {cur : Nat} {mode : CMode} {labels : List Label}
    {c : Nat} {pc : PriorCtx} {lab : Label} (h : CtxOK G oct cur mode labels c pc)
    (hc : c < labels.length) (hlab : labels[c]? = some lab) :
    ∃ pc', stepCtx oct mode c lab (some pc) = .ok (some pc') ∧ CtxOK G oct cur mode labels (c + 1) pc' := by
  obtain ⟨ls, hn, hlen, hms⟩ := h
  by_cases hsc : c < pc.startColumn
  · unfold stepCtx
    dsimp only
    rw [if_pos hsc]
    refine ⟨pc, rfl, ls, hn, by omega, ?_⟩
    intro ms hm
    have := hms ms hm
    exact absurd this.2.1 (by have := this.1; omega)
  · have hmax : max c pc.startColumn = c := by omega
    rw [hmax] at hlen
    cases hn with
    | root hg hp h0 => simp at hlen; omega
    | @label p p' l0 ls0 hg h1 h63 hb hd hop rest =>
      rw [stepCtx_eval hsc hb h63 hd (hop_move hop) (hop_start_size hop)]
      refine ⟨_, rfl, ls0, rest, by simp at hlen ⊢; omega, ?_⟩
      intro ms hm
      -- which match is alive after this column
      obtain ⟨heq, hpos, hmax', hold | ⟨hold, rfl⟩⟩ := newMatch_some hm
      · obtain ⟨g1, g2, g3, g4, pre, g5, g6, g7⟩ := hms ms hold
        refine ⟨g1, by omega, g3, g4, pre ++ [l0], by simpa using g5, by simp; omega, ?_⟩
        have hsplit : (labels.drop ms.startColumn).take (c + 1 - ms.startColumn) =
            (labels.drop ms.startColumn).take (c - ms.startColumn) ++ [lab] := by
          have hc' : c - ms.startColumn < (labels.drop ms.startColumn).length := by
            simp; omega
          rw [show c + 1 - ms.startColumn = (c - ms.startColumn) + 1 by omega]
          rw [List.take_add_one]
          congr 1
          rw [List.getElem?_drop, show ms.startColumn + (c - ms.startColumn) = c by omega, hlab]
          rfl
        rw [hsplit]
        exact labelsMatch_snoc g7 heq
      · refine ⟨by show pc.startColumn ≤ c; omega, by show c < c + 1; omega, hpos, hmax', [l0], ?_,
          by show 1 = c + 1 - c; omega, ?_⟩
        · exact .label hg h1 h63 hb hd hop rest
        · show labelsMatch mode ((labels.drop c).take (c + 1 - c)) [l0] = true
          have hcl : labels[c] = lab := by
            rw [List.getElem?_eq_getElem hc] at hlab
            exact Option.some.inj hlab
          rw [show c + 1 - c = 1 by omega, List.drop_eq_getElem_cons hc, hcl]
          simp [labelsMatch, heq]

theorem stepCtx_opt {G : Nat → Prop} {oct : Bytes} {cur : Nat} {mode : CMode} {labels : List Label}
    {c : Nat} {o : Option PriorCtx} {lab : Label} (h : OptOK G oct cur mode labels c o)
    (hc : c < labels.length) (hlab : labels[c]? = some lab) :
    ∃ o', stepCtx oct mode c lab o = .ok o' ∧ OptOK G oct cur mode labels (c + 1) o' := by
  cases o with
  | none => exact ⟨none, rfl, fun pc h => by cases h⟩
  | some pc =>
    obtain ⟨pc', h1, h2⟩ := stepCtx_ok (h pc rfl) hc hlab
    exact ⟨some pc', h1, fun q hq => by cases hq; exact h2⟩

/-- `dedup` drops at most one of the two contexts -/
theorem dedup_cases (c0 c1 : Option PriorCtx) :
    dedup c0 c1 = (c0, c1) ∨ dedup c0 c1 = (c0, none) ∨ dedup c0 c1 = (none, c1) := by
  unfold dedup
  split
  · split
    · split
      · split
        · exact .inr (.inl rfl)
        · exact .inr (.inr rfl)
      · exact .inr (.inl rfl)
      · exact .inr (.inr rfl)
      · exact .inr (.inl rfl)
    · exact .inl rfl
  · exact .inl rfl

/-- so whatever holds of both contexts, and of no context, holds of what `dedup` leaves -/
theorem dedup_keeps {P : Option PriorCtx → Prop} {c0 c1 : Option PriorCtx} (hn : P none) (h0 : P c0) (h1 : P c1) :
    P (dedup c0 c1).1 ∧ P (dedup c0 c1).2 := by
  rcases dedup_cases c0 c1 with h | h | h <;> rw [h]
  · exact ⟨h0, h1⟩
  · exact ⟨h0, hn⟩
  · exact ⟨hn, h1⟩

/-- the longest match is the live match of one of the two contexts -/
theorem longestMatch_mem {s0 s1 : Option PriorCtx} {m : MatchStart} (h : longestMatch s0 s1 = some m) :
    ∃ pc, (s0 = some pc ∨ s1 = some pc) ∧ pc.matchStart = some m := by
  have src : ∀ {o : Option PriorCtx} {x : MatchStart}, o.bind (·.matchStart) = some x →
      ∃ pc, o = some pc ∧ pc.matchStart = some x := fun {o x} hx => by
    cases o with
    | none => cases hx
    | some pc => exact ⟨pc, rfl, hx⟩
  unfold longestMatch at h
  split at h
  · rename_i x y hx hy
    split at h
    · cases h; obtain ⟨pc, e, hm⟩ := src hy; exact ⟨pc, .inr e, hm⟩
    · cases h; obtain ⟨pc, e, hm⟩ := src hx; exact ⟨pc, .inl e, hm⟩
  · rename_i x hx _; cases h; obtain ⟨pc, e, hm⟩ := src hx; exact ⟨pc, .inl e, hm⟩
  · rename_i y _ hy; cases h; obtain ⟨pc, e, hm⟩ := src hy; exact ⟨pc, .inr e, hm⟩
  · cases h

theorem dedup_ok {G : Nat → Prop} {oct : Bytes} {cur : Nat} {mode : CMode} {labels : List Label}
    {c : Nat} {c0 c1 : Option PriorCtx} (h0 : OptOK G oct cur mode labels c c0)
    (h1 : OptOK G oct cur mode labels c c1) :
    OptOK G oct cur mode labels c (dedup c0 c1).1 ∧ OptOK G oct cur mode labels c (dedup c0 c1).2 :=
  dedup_keeps (P := OptOK G oct cur mode labels c) (fun pc h => by cases h) h0 h1

/-- the whole scan from column `c` on -/
theorem scan_ok {G : Nat → Prop} {oct : Bytes} {cur : Nat} {mode : CMode} {labels : List Label}
    (rest : List Label) (c : Nat) (hrest : rest = labels.drop c) (hc : c ≤ labels.length)
    (c0 c1 : Option PriorCtx) (h0 : OptOK G oct cur mode labels c c0)
    (h1 : OptOK G oct cur mode labels c c1) :
    ∃ r0 r1, scan oct mode c rest c0 c1 = .ok (r0, r1) ∧
      OptOK G oct cur mode labels labels.length r0 ∧ OptOK G oct cur mode labels labels.length r1 := by
  induction rest generalizing c c0 c1 with
  | nil =>
    have : c = labels.length := by
      have := congrArg List.length hrest
      simp at this; omega
    subst this
    exact ⟨c0, c1, rfl, h0, h1⟩
  | cons lab rest ih =>
    have hlt : c < labels.length := by
      have := congrArg List.length hrest
      simp at this; omega
    have hlab : labels[c]? = some lab := by
      have : (labels.drop c)[0]? = some lab := by rw [← hrest]; rfl
      simpa using this
    obtain ⟨d0, d1⟩ := dedup_ok h0 h1
    obtain ⟨o0, e0, k0⟩ := stepCtx_opt d0 hlt hlab
    obtain ⟨o1, e1, k1⟩ := stepCtx_opt d1 hlt hlab
    simp only [scan, e0, e1]
    exact ih (c + 1) (by rw [← List.drop_drop, ← hrest]; rfl) hlt o0 o1 k0 k1

/-- a stored `PriorName` is valid: it points at a recorded real label from which a name with
    exactly `len - 1` non-root labels is stored -/
def PriorOK (G : Nat → Prop) (oct : Bytes) (cur : Nat) (p : Prior) : Prop :=
  ∃ ls, NameAt G oct cur p.ptr ls ∧ ls.length + 1 = p.len

theorem buildPriorCtx_ok {G : Nat → Prop} {oct : Bytes} {cur : Nat} {mode : CMode}
    {labels : List Label} {p : Prior} (h : PriorOK G oct cur p) :
    ∃ pc, buildPriorCtx oct (labels.length + 1) p = .ok pc ∧ CtxOK G oct cur mode labels 0 pc := by
  obtain ⟨pls, hn, hlen⟩ := h
  unfold buildPriorCtx
  obtain ⟨p', hs, hn'⟩ := skipLabels_nameAt hn (p.len - (labels.length + 1)) (by omega)
  rw [hs]
  refine ⟨_, rfl, _, hn', ?_, fun ms h => by cases h⟩
  simp
  omega

theorem buildPriorCtxOpt_ok {G : Nat → Prop} {oct : Bytes} {cur : Nat} {mode : CMode}
    {labels : List Label} {o : Option Prior} (h : ∀ p, o = some p → PriorOK G oct cur p) :
    ∃ r, buildPriorCtxOpt oct (labels.length + 1) o = .ok r ∧ OptOK G oct cur mode labels 0 r := by
  cases o with
  | none => exact ⟨none, rfl, fun pc h => by cases h⟩
  | some p =>
    obtain ⟨pc, h1, h2⟩ := buildPriorCtx_ok (mode := mode) (labels := labels) (h p rfl)
    simp only [buildPriorCtxOpt, h1]
    exact ⟨some pc, rfl, fun q hq => by cases hq; exact h2⟩

/-- **The scan is correct.** With valid prior names the decision is computed without a panic;
    if it says "write the first `k` labels and then a pointer to `pp`", then `k` is a proper
    prefix, `pp` is a recorded real label start in pointer range, and the name stored at `pp`
    has exactly the remaining labels, matching label by label (octet-exact in `CasePreserving`
    mode, ignoring ASCII case otherwise). -/
theorem compressDecision_ok {G : Nat → Prop} {oct : Bytes} {cur : Nat} {mode : CMode}
    {a b : Option Prior} {n : WName} (ha : ∀ p, a = some p → PriorOK G oct cur p)
    (hb : ∀ p, b = some p → PriorOK G oct cur p) :
    ∃ r, compressDecision oct mode a b n = .ok r ∧
      ∀ m, r = some m → m.startColumn < n.labels.length ∧ 0 < m.priorPointer ∧
        m.priorPointer ≤ Gen.POINTER_MAX ∧
        ∃ ls, NameAt G oct cur m.priorPointer ls ∧
          labelsMatch mode (n.labels.drop m.startColumn) ls = true := by
  unfold compressDecision
  split
  · exact ⟨none, rfl, fun m h => by cases h⟩
  · obtain ⟨r0, e0, k0⟩ := buildPriorCtxOpt_ok (mode := mode) (labels := n.labels) ha
    obtain ⟨r1, e1, k1⟩ := buildPriorCtxOpt_ok (mode := mode) (labels := n.labels) hb
    have hl : n.len = n.labels.length + 1 := rfl
    rw [hl, e0, e1]
    obtain ⟨s0, s1, es, q0, q1⟩ := scan_ok (labels := n.labels) n.labels 0 (by simp) (by omega) r0 r1 k0 k1
    simp only [es]
    refine ⟨_, rfl, ?_⟩
    -- whichever context the longest match comes from, it satisfies `MatchOK` at the last column
    intro m hm
    obtain ⟨pc, hpc, hms⟩ := longestMatch_mem hm
    obtain ⟨ls, hn, hlen, hmo⟩ := hpc.elim (q0 pc) (q1 pc)
    obtain ⟨g1, g2, g3, g4, pre, g5, g6, g7⟩ := hmo m hms
    obtain rfl : ls = [] := List.eq_nil_of_length_eq_zero (by omega)
    refine ⟨g2, g3, g4, pre, by simpa using g5, ?_⟩
    rw [List.take_of_length_le (by simp)] at g7
    exact g7


/-! ### `NameAt` is functional; a frame lemma that tolerates a two-octet hole -/

theorem hop_unique {oct : Bytes} {cur cur' q p p' : Nat} (h : Hop oct cur q p) (h' : Hop oct cur' q p') :
    p = p' := by
  have a := hop_move h
  have b := hop_move h'
  rw [a] at b
  exact Out.ok.inj b

theorem nameAt_unique {G G' : Nat → Prop} {oct : Bytes} {cur cur' p : Nat} {ls ls' : List Label}
    (h : NameAt G oct cur p ls) (h' : NameAt G' oct cur' p ls') : ls = ls' := by
  induction h generalizing ls' with
  | root hg hp h0 =>
    cases h' with
    | root _ _ _ => rfl
    | label _ h1 h63 hb _ _ _ =>
      rw [h0] at hb
      have := ofNat_len_inj (a := 0) (by omega) h63 (Option.some.inj hb)
      omega
  | @label p p1 l ls hg h1 h63 hb hd hop rest ih =>
    cases h' with
    | root _ _ h0 =>
      rw [h0] at hb
      have := ofNat_len_inj (b := 0) h63 (by omega) (Option.some.inj hb).symm
      omega
    | @label _ p2 l' ls2 _ h1' h63' hb' hd' hop' rest' =>
      rw [hb] at hb'
      have hl : l.length = l'.length := ofNat_len_inj h63 h63' (Option.some.inj hb')
      have : l = l' := by rw [← hd, ← hd', hl]
      subst this
      have := hop_unique hop hop'
      subst this
      rw [ih rest']

/-- `i` is not one of the two reserved RDLENGTH octets at `x` -/
def Outside (a : Option Nat) (i : Nat) : Prop := ∀ x, a = some x → i < x ∨ x + 2 ≤ i

/-- `oct'` agrees with `oct` below `cur`, except possibly in the reserved octets -/
def AgreeOut (a : Option Nat) (oct oct' : Bytes) (cur : Nat) : Prop :=
  ∀ i, i < cur → Outside a i → oct'[i]? = oct[i]?

/-- no recorded name touches the reserved octets: what starts below them is stored entirely below
    them, and nothing starts inside -/
def Clear (G : Nat → Prop) (oct : Bytes) (cur : Nat) (a : Option Nat) : Prop :=
  ∀ x, a = some x → x ≤ cur ∧ (∀ g, G g → g < x → ∃ ls', NameAt G oct x g ls') ∧ (∀ g, G g → g < x ∨ x + 2 ≤ g)

/-- names that start below the hole lie entirely below it -/
theorem nameAt_below {G : Nat → Prop} {oct : Bytes} {cur a p : Nat} {ls : List Label} (h : NameAt G oct cur p ls)
    (hbelow : ∀ g, G g → g < a → ∃ ls', NameAt G oct a g ls') (hp : p < a) : NameAt G oct a p ls := by
  obtain ⟨ls', hn⟩ := hbelow p (nameAt_start h).1 hp
  have := nameAt_unique hn h
  rw [← this]; exact hn

/-- One label of a stored name, and the hop behind it, read the same in both buffers, and lead to
    the same position. This is the only place where the hole is looked at: every lemma saying that a
    reader of stored names does not depend on other octets takes one such step at a time. -/
theorem label_agree {G : Nat → Prop} {oct oct' : Bytes} {cur p : Nat} {a : Option Nat} {l : Label}
    {ls : List Label} (h : NameAt G oct cur p (l :: ls)) (hc : Clear G oct cur a) (hag : AgreeOut a oct oct' cur) :
    ∃ p', oct'[p]? = some (UInt8.ofNat l.length) ∧ oct[p]? = some (UInt8.ofNat l.length) ∧ l.length ≤ 63 ∧
      (oct'.extract (p + 1) (p + 1 + l.length)).toList = l ∧ (oct.extract (p + 1) (p + 1 + l.length)).toList = l ∧
      Hop oct' cur (p + 1 + l.length) p' ∧ Hop oct cur (p + 1 + l.length) p' ∧ NameAt G oct cur p' ls := by
  -- the label lies on one side of the hole: in an interval `[lo, hi)` on which the buffers agree
  obtain ⟨lo, hi, hlo, hhi, hn, hin⟩ : ∃ lo hi, lo ≤ p ∧ hi ≤ cur ∧ NameAt G oct hi p (l :: ls) ∧
      ∀ i, lo ≤ i → i < hi → oct'[i]? = oct[i]? := by
    cases a with
    | none => exact ⟨0, cur, Nat.zero_le _, Nat.le_refl _, h, fun i _ hi => hag i hi (fun _ e => by cases e)⟩
    | some x =>
      obtain ⟨hxc, hbelow, hG⟩ := hc x rfl
      rcases hG p (nameAt_start h).1 with hlt | hge
      · exact ⟨0, x, Nat.zero_le _, hxc, nameAt_below h hbelow hlt,
          fun i _ hi => hag i (by omega) (fun y e => by cases e; exact .inl hi)⟩
      · exact ⟨x + 2, cur, hge, Nat.le_refl _, h, fun i hi hc => hag i hc (fun y e => by cases e; exact .inr hi)⟩
  cases hn with
  | @label _ p' _ _ hg h1 h63 hb hd hop rest =>
    have hq := hop_start_lt hop
    have hs := hop_start_size hop
    -- the hop may lead below `lo` (a pointer to an older name); its target is a recorded label start
    have hT : oct'[p']? = oct[p']? :=
      hag p' (by have := (nameAt_start rest).2.1; omega) fun x e => (hc x e).2.2 p' (nameAt_start rest).1
    have hop' : Hop oct' cur (p + 1 + l.length) p' := by
      cases hop with
      | here hq' hb' hnp => exact .here (by omega) (by rw [hin _ (by omega) hq']; exact hb') hnp
      | jump hq' h1' h2' hp' hlt h3 hnp =>
        exact .jump (by omega) (by rw [hin _ (by omega) (by omega)]; exact h1')
          (by rw [hin _ (by omega) hq']; exact h2') hp' hlt (by rw [hT]; exact h3) hnp
    have hs' := hop_start_size hop'
    refine ⟨p', by rw [hin p hlo (by omega)]; exact hb, hb, h63, ?_, hd, hop',
      hop_frame (lo := 0) hop (fun _ _ _ => rfl) hhi (Nat.zero_le _),
      nameAt_frame (lo := 0) rest (fun _ hx => hx) (fun _ _ => Nat.zero_le _) (fun _ _ _ => rfl) hhi⟩
    rw [extract_congr_range (fun k hk1 hk2 => hin k (by omega) (by omega)) (by omega) (by omega)]
    exact hd

/-- a stored name is stored in every buffer that agrees outside the reserved octets -/
theorem nameAt_agree {G : Nat → Prop} {oct oct' : Bytes} {cur p : Nat} {a : Option Nat} {ls : List Label}
    (h : NameAt G oct cur p ls) (hc : Clear G oct cur a) (hag : AgreeOut a oct oct' cur) :
    NameAt G oct' cur p ls := by
  induction ls generalizing p with
  | nil =>
    cases h with
    | root hg hp h0 => exact .root hg hp (by rw [hag _ hp fun x e => (hc x e).2.2 p hg]; exact h0)
  | cons l ls ih =>
    obtain ⟨p', hb', _, h63, hd', _, hop', _, rest⟩ := label_agree h hc hag
    cases h with
    | label hg h1 _ _ _ _ _ => exact .label hg h1 h63 hb' hd' hop' (ih rest)

/-- Octets may change in the hole `[a, a+2)` (the RDLENGTH field written back at the end of a
    record) without disturbing any stored name, provided no recorded label start lies in the
    hole and everything recorded below `a` is stored entirely below `a`. -/
theorem nameAt_frame_gap {G : Nat → Prop} {oct oct' : Bytes} {cur a p : Nat} {ls : List Label}
    (h : NameAt G oct cur p ls)
    (hbelow : ∀ g, G g → g < a → ∃ ls', NameAt G oct a g ls')
    (hG : ∀ g, G g → g < a ∨ a + 2 ≤ g)
    (hagree : ∀ i, i < cur → (i < a ∨ a + 2 ≤ i) → oct'[i]? = oct[i]?) (hac : a ≤ cur) :
    NameAt G oct' cur p ls :=
  nameAt_agree (a := some a) h (fun x e => by cases e; exact ⟨hac, hbelow, hG⟩) fun i hi ho => hagree i hi (ho a rfl)


/-! ### unconditionally: a match always replaces at least one label -/

/-- every live match of a context started at an earlier column -/
def ColsLt (c : Nat) (o : Option PriorCtx) : Prop :=
  ∀ pc, o = some pc → ∀ ms, pc.matchStart = some ms → ms.startColumn < c

theorem stepCtx_cols {oct : Bytes} {mode : CMode} {c : Nat} {lab : Label} {o o' : Option PriorCtx}
    (h : ColsLt c o) (hs : stepCtx oct mode c lab o = .ok o') : ColsLt (c + 1) o' := by
  cases o with
  | none => simp [stepCtx] at hs; subst hs; intro pc h; cases h
  | some pc =>
    unfold stepCtx at hs
    dsimp only at hs
    by_cases h1 : c < pc.startColumn
    · rw [if_pos h1] at hs
      cases hs
      intro q hq ms hm; cases hq
      exact Nat.lt_succ_of_lt (h pc rfl ms hm)
    · rw [if_neg h1] at hs
      by_cases h2 : pc.pointer < oct.size
      · rw [dif_pos h2] at hs
        by_cases h3 : pc.pointer + 1 + oct[pc.pointer].toNat > oct.size
        · rw [if_pos h3] at hs; cases hs
        · rw [if_neg h3] at hs
          cases hm : moveToNextRealLabel oct (pc.pointer + 1 + oct[pc.pointer].toNat) with
          | ok p' =>
            rw [hm] at hs
            simp only [Out.ok.injEq] at hs
            subst hs
            intro q hq ms hms
            cases hq
            obtain ⟨_, _, _, hold | ⟨_, rfl⟩⟩ := newMatch_some (l0 :=
              (oct.extract (pc.pointer + 1) (pc.pointer + 1 + oct[pc.pointer].toNat)).toList) hms
            · exact Nat.lt_succ_of_lt (h pc rfl _ hold)
            · exact Nat.lt_succ_self _
          | err e => rw [hm] at hs; cases hs
          | panic => rw [hm] at hs; cases hs
      · rw [dif_neg h2] at hs; cases hs

theorem dedup_cols {c : Nat} {c0 c1 : Option PriorCtx} (h0 : ColsLt c c0) (h1 : ColsLt c c1) :
    ColsLt c (dedup c0 c1).1 ∧ ColsLt c (dedup c0 c1).2 :=
  dedup_keeps (P := ColsLt c) (fun pc h => by cases h) h0 h1

theorem scan_cols {oct : Bytes} {mode : CMode} (rest : List Label) (c : Nat) (c0 c1 r0 r1 : Option PriorCtx)
    (h0 : ColsLt c c0) (h1 : ColsLt c c1) (hs : scan oct mode c rest c0 c1 = .ok (r0, r1)) :
    ColsLt (c + rest.length) r0 ∧ ColsLt (c + rest.length) r1 := by
  induction rest generalizing c c0 c1 with
  | nil => simp only [scan, Out.ok.injEq, Prod.mk.injEq] at hs; obtain ⟨rfl, rfl⟩ := hs; exact ⟨h0, h1⟩
  | cons lab rest ih =>
    simp only [scan] at hs
    obtain ⟨d0, d1⟩ := dedup_cols h0 h1
    cases e0 : stepCtx oct mode c lab (dedup c0 c1).1 with
    | ok o0 =>
      rw [e0] at hs
      cases e1 : stepCtx oct mode c lab (dedup c0 c1).2 with
      | ok o1 =>
        rw [e1] at hs
        have := ih (c + 1) o0 o1 (stepCtx_cols d0 e0) (stepCtx_cols d1 e1) hs
        simpa [Nat.add_assoc, Nat.add_comm 1] using this
      | err e => rw [e1] at hs; cases hs
      | panic => rw [e1] at hs; cases hs
    | err e => rw [e0] at hs; cases hs
    | panic => rw [e0] at hs; cases hs

theorem buildPriorCtxOpt_cols {oct : Bytes} {clen : Nat} {o : Option Prior} {r : Option PriorCtx}
    (h : buildPriorCtxOpt oct clen o = .ok r) : ColsLt 0 r := by
  intro pc hpc ms hms
  cases o with
  | none => simp [buildPriorCtxOpt] at h; subst h; cases hpc
  | some p =>
    simp only [buildPriorCtxOpt] at h
    cases hb : buildPriorCtx oct clen p with
    | ok c =>
      rw [hb] at h
      simp only [Out.ok.injEq] at h
      subst h
      cases hpc
      unfold buildPriorCtx at hb
      split at hb
      · cases hb; cases hms
      · cases hb
      · cases hb
    | err e => rw [hb] at h; cases h
    | panic => rw [hb] at h; cases h

/-- **for any buffer and any anchors, valid or not**: if the scan decides to compress, the
    pointer replaces at least one label (so the compressed form is shorter than the name) -/
theorem compressDecision_col {oct : Bytes} {mode : CMode} {a b : Option Prior} {n : WName}
    {m : MatchStart} (h : compressDecision oct mode a b n = .ok (some m)) :
    m.startColumn < n.labels.length := by
  unfold compressDecision at h
  split at h
  · cases h
  · cases e0 : buildPriorCtxOpt oct n.len a with
    | ok r0 =>
      rw [e0] at h
      cases e1 : buildPriorCtxOpt oct n.len b with
      | ok r1 =>
        rw [e1] at h
        simp only [] at h
        cases es : scan oct mode 0 n.labels r0 r1 with
        | ok pr =>
          obtain ⟨s0, s1⟩ := pr
          rw [es] at h
          simp only [Out.ok.injEq] at h
          obtain ⟨q0, q1⟩ := scan_cols n.labels 0 r0 r1 s0 s1 (buildPriorCtxOpt_cols e0)
            (buildPriorCtxOpt_cols e1) es
          simp only [Nat.zero_add] at q0 q1
          obtain ⟨pc, hpc, hms⟩ := longestMatch_mem h
          exact hpc.elim (fun e => q0 pc e _ hms) fun e => q1 pc e _ hms
        | err e => rw [es] at h; cases h
        | panic => rw [es] at h; cases h
      | err e => rw [e1] at h; cases h
      | panic => rw [e1] at h; cases h
    | err e => rw [e0] at h; cases h
    | panic => rw [e0] at h; cases h

end QV.Writer
