/-
  QV.Proofs.WriterContent — the layout invariant of the writer in every compression mode, with
  content (`CLay`): the chain items of `QV.Proofs.WriterShape` carry the question / record that was
  given, the name stored at the item matches the name given (as names are compared in the mode in
  effect when it was written), and the fixed fields are those given.
-/
import QV.Proofs.WriterLimit
import QV.Proofs.WriterSession
import QV.Proofs.WriterRdPos
import QV.Proofs.WriterStep

namespace QV.Writer
open QV QV.Wire QV.Spec QV.ServerSafety

variable {P : CMode → Prop}

/-- a question item with its content: the name starts at `a` and occupies `k` octets; it was
    written in mode `m` for the question `q` -/
structure QItC where
  a : Nat
  k : Nat
  m : CMode
  q : QRec

/-- a record item with its content: owner at `a` on `k` octets, `rdlen` octets of RDATA, written in
    mode `m` for the record `r` -/
structure RItC where
  a : Nat
  k : Nat
  rdlen : Nat
  m : CMode
  r : RRec
  /-- where the names inside the RDATA start -/
  ps : List Nat

/-- what the buffer holds at a question item: the name, then QTYPE and QCLASS -/
def QFacts (s : State) (it : QItC) : Prop :=
  Item s it.a it.k ∧ NameIs s it.a it.m it.q.qname ∧
  BytesAt s.octets (it.a + it.k) (u16be it.q.qtype ++ u16be it.q.qclass)

/-- what the buffer holds at a record item: the owner, TYPE, CLASS, TTL, RDLENGTH, and the RDATA part
    by part (`RdAt`) -/
def RFacts (s : State) (it : RItC) : Prop :=
  Item s it.a it.k ∧ NameIs s it.a it.m it.r.owner ∧
  BytesAt s.octets (it.a + it.k) (u16be it.r.ty ++ u16be it.r.cls ++ u32be it.r.ttl) ∧
  be16 s.octets (it.a + it.k + 8) = it.rdlen ∧
  ∃ ts, componentTypes it.r.cls it.r.ty = some ts ∧
    RdAt s it.m ts it.r.rdata (it.a + it.k + 10) (it.a + it.k + 10 + it.rdlen) it.ps

/-- question items with content in a row, from `p` to `e` -/
def QChainC (s : State) : List QItC → Nat → Nat → Prop
  | [], p, e => p = e
  | it :: r, p, e => it.a = p ∧ QFacts s it ∧ QChainC s r (it.a + it.k + 4) e

/-- record items with content in a row, from `p` to `e` -/
def RChainC (s : State) : List RItC → Nat → Nat → Prop
  | [], p, e => p = e
  | it :: r, p, e => it.a = p ∧ RFacts s it ∧ RChainC s r (it.a + it.k + 10 + it.rdlen) e

theorem qchainC_le {s : State} : ∀ {qs : List QItC} {p e : Nat}, QChainC s qs p e → p ≤ e := by
  intro qs
  induction qs with
  | nil => intro p e h; exact Nat.le_of_eq h
  | cons x r ih => intro p e h; obtain ⟨h1, _, h3⟩ := h; have := ih h3; omega

theorem rchainC_le {s : State} : ∀ {rs : List RItC} {p e : Nat}, RChainC s rs p e → p ≤ e := by
  intro rs
  induction rs with
  | nil => intro p e h; exact Nat.le_of_eq h
  | cons x r ih => intro p e h; obtain ⟨h1, _, h3⟩ := h; have := ih h3; omega

theorem qchainC_move {s s' : State} {e lo : Nat}
    (hit : ∀ it : QItC, lo ≤ it.a → it.a + it.k + 4 ≤ e → QFacts s it → QFacts s' it) :
    ∀ {qs : List QItC} {p : Nat}, lo ≤ p → QChainC s qs p e → QChainC s' qs p e := by
  intro qs
  induction qs with
  | nil => intro p _ h; exact h
  | cons x r ih =>
    intro p hp h
    obtain ⟨h1, h2, h3⟩ := h
    exact ⟨h1, hit x (by omega) (qchainC_le h3) h2, ih (by omega) h3⟩

theorem rchainC_move {s s' : State} {e lo : Nat}
    (hit : ∀ it : RItC, lo ≤ it.a → it.a + it.k + 10 + it.rdlen ≤ e → RFacts s it → RFacts s' it) :
    ∀ {rs : List RItC} {p : Nat}, lo ≤ p → RChainC s rs p e → RChainC s' rs p e := by
  intro rs
  induction rs with
  | nil => intro p _ h; exact h
  | cons x r ih =>
    intro p hp h
    obtain ⟨h1, h2, h3⟩ := h
    have := rchainC_le h3
    exact ⟨h1, hit x (by omega) (by omega) h2, ih (by omega) h3⟩

theorem qchainC_snoc {s : State} {x : QItC} : ∀ {qs : List QItC} {p : Nat}, QChainC s qs p x.a →
    QFacts s x → QChainC s (qs ++ [x]) p (x.a + x.k + 4) := by
  intro qs
  induction qs with
  | nil => intro p h hi; exact ⟨h.symm, hi, rfl⟩
  | cons y r ih => intro p h hi; obtain ⟨h1, h2, h3⟩ := h; exact ⟨h1, h2, ih h3 hi⟩

theorem rchainC_append {s : State} {m : Nat} : ∀ {rs rs2 : List RItC} {p e : Nat}, RChainC s rs p m →
    RChainC s rs2 m e → RChainC s (rs ++ rs2) p e := by
  intro rs
  induction rs with
  | nil => intro rs2 p e h h2; rw [h]; exact h2
  | cons x r ih => intro rs2 p e h h2; obtain ⟨h1, hi, h3⟩ := h; exact ⟨h1, hi, ih h3 h2⟩

/-! ### facts along state changes -/

theorem qfacts_frame {s s' : State} {it : QItC} {lo : Nat} (h : QFacts s it) (hlo : lo ≤ it.a)
    (hend : it.a + it.k + 4 ≤ s.cursor) (hg12 : ∀ g ∈ s.gLabels, lo ≤ g)
    (hpre : ∀ i, lo ≤ i → i < s.cursor → s'.octets[i]? = s.octets[i]?) (hc : s.cursor ≤ s'.cursor)
    (hg : ∀ g ∈ s.gLabels, g ∈ s'.gLabels) : QFacts s' it := by
  obtain ⟨h1, h2, h3⟩ := h
  refine ⟨item_move (lo := lo) h1 hg12 (fun i a b => hpre i a (by have := h1.2.2; omega)) (by have := h1.2.2; omega)
    (fun g hgm _ => hg g hgm), nameIs_frame h2 hg12 hpre hc hg, ?_⟩
  refine bytesAt_frame h3 (fun i a b => hpre i (by omega) ?_)
  have : (u16be it.q.qtype ++ u16be it.q.qclass).length = 4 := rfl
  omega

theorem rfacts_frame {s s' : State} {it : RItC} {lo : Nat} (h : RFacts s it) (hlo : lo ≤ it.a)
    (hend : it.a + it.k + 10 + it.rdlen ≤ s.cursor) (hg12 : ∀ g ∈ s.gLabels, lo ≤ g)
    (hpre : ∀ i, lo ≤ i → i < s.cursor → s'.octets[i]? = s.octets[i]?) (hc : s.cursor ≤ s'.cursor)
    (hg : ∀ g ∈ s.gLabels, g ∈ s'.gLabels) : RFacts s' it := by
  obtain ⟨h1, h2, h3, h4, ts, hct, h5⟩ := h
  refine ⟨item_move (lo := lo) h1 hg12 (fun i a b => hpre i a (by have := h1.2.2; omega)) (by have := h1.2.2; omega)
    (fun g hgm _ => hg g hgm), nameIs_frame h2 hg12 hpre hc hg, ?_, ?_,
    ts, hct, rdAt_frame h5 (by omega) hend hg12 hpre hc hg⟩
  · refine bytesAt_frame h3 (fun i a b => hpre i (by omega) ?_)
    have : (u16be it.r.ty ++ u16be it.r.cls ++ u32be it.r.ttl).length = 8 := rfl
    omega
  · rw [← h4]
    exact be16_congr (hpre _ (by omega) (by omega)) (hpre _ (by omega) (by omega))

theorem qfacts_fields {s s' : State} {it : QItC} (h : QFacts s it) (ho : s'.octets = s.octets)
    (hc : s'.cursor = s.cursor) (hg : s'.gLabels = s.gLabels) : QFacts s' it := by
  obtain ⟨h1, h2, h3⟩ := h
  exact ⟨item_fields h1 ho hc hg, nameIs_fields h2 ho hc hg, by rw [ho]; exact h3⟩

theorem rfacts_fields {s s' : State} {it : RItC} (h : RFacts s it) (ho : s'.octets = s.octets)
    (hc : s'.cursor = s.cursor) (hg : s'.gLabels = s.gLabels) : RFacts s' it := by
  obtain ⟨h1, h2, h3, h4, ts, hct, h5⟩ := h
  exact ⟨item_fields h1 ho hc hg, nameIs_fields h2 ho hc hg, by rw [ho]; exact h3, by rw [ho]; exact h4,
    ts, hct, rdAt_fields h5 ho hc hg⟩

theorem qchainC_fields {s s' : State} (ho : s'.octets = s.octets) (hc : s'.cursor = s.cursor)
    (hg : s'.gLabels = s.gLabels) {qs : List QItC} {p e : Nat} (h : QChainC s qs p e) : QChainC s' qs p e :=
  qchainC_move (lo := 0) (fun _ _ _ hq => qfacts_fields hq ho hc hg) (Nat.zero_le _) h

theorem rchainC_fields {s s' : State} (ho : s'.octets = s.octets) (hc : s'.cursor = s.cursor)
    (hg : s'.gLabels = s.gLabels) {rs : List RItC} {p e : Nat} (h : RChainC s rs p e) : RChainC s' rs p e :=
  rchainC_move (lo := 0) (fun _ _ _ hq => rfacts_fields hq ho hc hg) (Nat.zero_le _) h


/-! ### the recorded label starts belong to the names of the chains -/

/-- every recorded label start below `rr_start` is the first octet of a label of a question name -/
def QLab (s : State) (qs : List QItC) : Prop :=
  ∀ g ∈ s.gLabels, g < s.rrStart → ∃ it ∈ qs, PhysLab s.octets it.a g

/-- every recorded label start from `rr_start` on is the first octet of a label of the owner of a
    record or of a name inside its RDATA -/
def RLab (s : State) (rs : List RItC) : Prop :=
  ∀ g ∈ s.gLabels, s.rrStart ≤ g → ∃ it ∈ rs, ∃ a ∈ it.a :: it.ps, PhysLab s.octets a g

theorem qchainC_mem {s : State} : ∀ {qs : List QItC} {p e : Nat}, QChainC s qs p e → ∀ it ∈ qs,
    p ≤ it.a ∧ QFacts s it ∧ it.a + it.k + 4 ≤ e := by
  intro qs
  induction qs with
  | nil => intro p e _ it hx; cases hx
  | cons x r ih =>
    intro p e h it hx
    obtain ⟨h1, h2, h3⟩ := h
    rcases List.mem_cons.mp hx with rfl | hx
    · exact ⟨by omega, h2, qchainC_le h3⟩
    · obtain ⟨a1, a2, a3⟩ := ih h3 it hx
      exact ⟨by omega, a2, a3⟩

theorem rchainC_mem {s : State} : ∀ {rs : List RItC} {p e : Nat}, RChainC s rs p e → ∀ it ∈ rs,
    p ≤ it.a ∧ RFacts s it ∧ it.a + it.k + 10 + it.rdlen ≤ e := by
  intro rs
  induction rs with
  | nil => intro p e _ it hx; cases hx
  | cons x r ih =>
    intro p e h it hx
    obtain ⟨h1, h2, h3⟩ := h
    rcases List.mem_cons.mp hx with rfl | hx
    · exact ⟨by omega, h2, rchainC_le h3⟩
    · obtain ⟨a1, a2, a3⟩ := ih h3 it hx
      exact ⟨by omega, a2, a3⟩

/-- at every name position of a record a name chunk lies, inside the record -/
theorem rfacts_chunk {s : State} {it : RItC} (h : RFacts s it) : ∀ a ∈ it.a :: it.ps,
    it.a ≤ a ∧ ∃ k, ChunkAt s.octets a k ∧ a + k ≤ it.a + it.k + 10 + it.rdlen := by
  intro a ha
  obtain ⟨h1, _, _, _, ts, _, h5⟩ := h
  rcases List.mem_cons.mp ha with rfl | ha
  · exact ⟨Nat.le_refl _, it.k, h1.2.1, by omega⟩
  · obtain ⟨h6, h7⟩ := rdAt_chunk h5 a ha
    exact ⟨by omega, h7⟩

theorem qlab_move {s s' : State} {qs : List QItC} {p e : Nat} (hch : QChainC s qs p e)
    (hpre : ∀ i, p ≤ i → i < e → s'.octets[i]? = s.octets[i]?)
    (hg : ∀ g ∈ s'.gLabels, g < s'.rrStart → g ∈ s.gLabels ∧ g < s.rrStart) (h : QLab s qs) : QLab s' qs := by
  intro g hg1 hg2
  obtain ⟨a1, a2⟩ := hg g hg1 hg2
  obtain ⟨it, hit, hp⟩ := h g a1 a2
  obtain ⟨b1, b2, b3⟩ := qchainC_mem hch it hit
  exact ⟨it, hit, physLab_frame b2.1.2.1 hp (fun i c1 c2 => hpre i (by omega) (by omega))⟩

theorem rlab_move {s s' : State} {rs : List RItC} {p e : Nat} (hch : RChainC s rs p e)
    (hpre : ∀ i, p ≤ i → i < e → s'.octets[i]? = s.octets[i]?)
    (hg : ∀ g ∈ s'.gLabels, s'.rrStart ≤ g → g ∈ s.gLabels ∧ s.rrStart ≤ g) (h : RLab s rs) : RLab s' rs := by
  intro g hg1 hg2
  obtain ⟨a1, a2⟩ := hg g hg1 hg2
  obtain ⟨it, hit, a, ha, hp⟩ := h g a1 a2
  obtain ⟨b1, b2, b3⟩ := rchainC_mem hch it hit
  obtain ⟨c0, k, c1, c2⟩ := rfacts_chunk b2 a ha
  exact ⟨it, hit, a, ha, physLab_frame c1 hp (fun i d1 d2 => hpre i (by omega) (by omega))⟩

theorem qlab_fields {s s' : State} {qs : List QItC} (ho : s'.octets = s.octets) (hg : s'.gLabels = s.gLabels)
    (hr : s'.rrStart = s.rrStart) (h : QLab s qs) : QLab s' qs := by
  unfold QLab; rw [ho, hg, hr]; exact h

theorem rlab_fields {s s' : State} {rs : List RItC} (ho : s'.octets = s.octets) (hg : s'.gLabels = s.gLabels)
    (hr : s'.rrStart = s.rrStart) (h : RLab s rs) : RLab s' rs := by
  unfold RLab; rw [ho, hg, hr]; exact h

theorem qchainC_pres {s s' : State} (hw : WInv s) (h : Pres s s') {qs : List QItC} {p e : Nat} (hp : 12 ≤ p)
    (he : e ≤ s.cursor) (hc : QChainC s qs p e) : QChainC s' qs p e :=
  qchainC_move (lo := 12) (fun it hlo hk hq => qfacts_frame (lo := 12) hq hlo (by omega) hw.g12 h.pre h.cur h.gl) hp hc

theorem rchainC_pres {s s' : State} (hw : WInv s) (h : Pres s s') {rs : List RItC} {p e : Nat} (hp : 12 ≤ p)
    (he : e ≤ s.cursor) (hc : RChainC s rs p e) : RChainC s' rs p e :=
  rchainC_move (lo := 12) (fun it hlo hk hq => rfacts_frame (lo := 12) hq hlo (by omega) hw.g12 h.pre h.cur h.gl) hp hc

/-- every recorded label start is the first octet of a label of a name of the chains: of a question
    below `r`, of a record (owner or RDATA) from `r` on -/
def Labs (s : State) (r : Nat) (qs : List QItC) (rs : List RItC) : Prop :=
  ∀ g ∈ s.gLabels, (g < r → ∃ it ∈ qs, PhysLab s.octets it.a g) ∧
    (r ≤ g → ∃ it ∈ rs, ∃ a ∈ it.a :: it.ps, PhysLab s.octets a g)

theorem labs_of {s : State} {qs : List QItC} {rs : List RItC} (h1 : QLab s qs) (h2 : RLab s rs) :
    Labs s s.rrStart qs rs := fun g hg => ⟨h1 g hg, h2 g hg⟩

theorem labs_move {s s' : State} {r e : Nat} {qs : List QItC} {rs : List RItC} (hq : QChainC s qs 12 r)
    (hr : RChainC s rs r e) (hpre : ∀ i, 12 ≤ i → i < e → s'.octets[i]? = s.octets[i]?)
    (hg : ∀ g ∈ s'.gLabels, g ∈ s.gLabels) (h : Labs s r qs rs) : Labs s' r qs rs := by
  intro g hg'
  have hre := rchainC_le hr
  have h12 := qchainC_le hq
  obtain ⟨a1, a2⟩ := h g (hg g hg')
  refine ⟨fun hlt => ?_, fun hge => ?_⟩
  · obtain ⟨it, b1, b2⟩ := a1 hlt
    obtain ⟨c1, c2, c3⟩ := qchainC_mem hq it b1
    exact ⟨it, b1, physLab_frame c2.1.2.1 b2 (fun i d1 d2 => hpre i (by omega) (by omega))⟩
  · obtain ⟨it, b1, x, b2, b3⟩ := a2 hge
    obtain ⟨c1, c2, c3⟩ := rchainC_mem hr it b1
    obtain ⟨d0, k, d1, d2⟩ := rfacts_chunk c2 x b2
    exact ⟨it, b1, x, b2, physLab_frame d1 b3 (fun i f1 f2 => hpre i (by omega) (by omega))⟩

/-! ### the invariant -/

/-- the compression mode in effect when each question / record was written, section by section -/
structure MBody where
  qs : List CMode := []
  an : List CMode := []
  ns : List CMode := []
  ar : List CMode := []

def MBody.add (mb : MBody) (sec : RrSection) (ms : List CMode) : MBody :=
  match sec with
  | .answer => { mb with an := mb.an ++ ms }
  | .authority => { mb with ns := mb.ns ++ ms }
  | .additional => { mb with ar := mb.ar ++ ms }

/-- **the layout invariant with content**, for every compression mode: `b` = the questions and
    records given by the calls that succeeded, `mb` = the modes they were written in, `P` = a
    property of all those modes -/
structure CLay (P : CMode → Prop) (s : State) (b : Body) (mb : MBody) : Prop where
  q : ∃ qs, QChainC s qs 12 s.rrStart ∧ qs.map (·.q) = b.qs ∧ (∀ it ∈ qs, P it.m) ∧ qs.map (·.m) = mb.qs ∧
    QLab s qs
  r : s.cursor ≤ 65535 → ∃ rs, RChainC s rs s.rrStart s.cursor ∧ rs.map (·.r) = b.an ++ b.ns ++ b.ar ∧
    (∀ it ∈ rs, P it.m) ∧ rs.map (·.m) = mb.an ++ mb.ns ++ mb.ar ∧ RLab s rs
  qd : s.qdcount = b.qs.length
  an : s.ancount = b.an.length
  ns : s.nscount = b.ns.length
  ar : s.arcount = b.ar.length + pend s
  sq : s.sect = .question → s.cursor = s.rrStart ∧ b.an = [] ∧ b.ns = [] ∧ b.ar = []
  sa : s.sect = .answer → b.ns = [] ∧ b.ar = []
  su : s.sect = .authority → b.ar = []
  /-- the mode in effect is one of the modes of the session -/
  pm : P s.mode
  ml : mb.an.length = b.an.length ∧ mb.ns.length = b.ns.length ∧ mb.ar.length = b.ar.length

theorem CLay.tally {s : State} {b : Body} {mb : MBody} (h : CLay P s b mb) : Tally s b :=
  ⟨h.qd, h.an, h.ns, h.ar, fun x => (h.sq x).2, h.sa, h.su⟩

theorem Tally.clay {s : State} {b : Body} {mb : MBody} (t : Tally s b)
    (hq : ∃ qs, QChainC s qs 12 s.rrStart ∧ qs.map (·.q) = b.qs ∧ (∀ it ∈ qs, P it.m) ∧ qs.map (·.m) = mb.qs ∧ QLab s qs)
    (hr : s.cursor ≤ 65535 → ∃ rs, RChainC s rs s.rrStart s.cursor ∧ rs.map (·.r) = b.an ++ b.ns ++ b.ar ∧
      (∀ it ∈ rs, P it.m) ∧ rs.map (·.m) = mb.an ++ mb.ns ++ mb.ar ∧ RLab s rs)
    (hsq : s.sect = .question → s.cursor = s.rrStart) (pm : P s.mode)
    (ml : mb.an.length = b.an.length ∧ mb.ns.length = b.ns.length ∧ mb.ar.length = b.ar.length) : CLay P s b mb :=
  ⟨hq, hr, t.qd, t.an, t.ns, t.ar, fun x => ⟨hsq x, t.sq x⟩, t.sa, t.su, pm, ml⟩

theorem clay_rr12 {s : State} {b : Body} {mb : MBody} (h : CLay P s b mb) : 12 ≤ s.rrStart := by
  obtain ⟨qs, hq, _⟩ := h.q
  exact qchainC_le hq

/-- the layout only depends on the octets from 12 up to the cursor, the cursor, `rr_start`, the
    recorded label starts, the counts and the section -/
theorem clay_congr {s s' : State} {b : Body} {mb : MBody} (h : CLay P s b mb) (hw : WInv s) (hrr : s.rrStart ≤ s.cursor)
    (hpre : ∀ i, 12 ≤ i → i < s.cursor → s'.octets[i]? = s.octets[i]?)
    (hc : s'.cursor = s.cursor) (hr : s'.rrStart = s.rrStart)
    (hg : s'.gLabels = s.gLabels)
    (hqd : s'.qdcount = s.qdcount) (han : s'.ancount = s.ancount) (hns : s'.nscount = s.nscount)
    (har : s'.arcount = s.arcount) (hp : pend s' = pend s) (hs : s'.sect = s.sect)
    (hmode : s'.mode = s.mode) : CLay P s' b mb := by
  have h12 := clay_rr12 h
  have pr : Pres s s' := ⟨hpre, by rw [hc]; exact Nat.le_refl _, fun g a => by rw [hg]; exact a⟩
  refine (h.tally.congr hqd han hns hs (d := 0) hp har).clay ?_ ?_ (by rw [hs, hc, hr]; exact fun x => (h.sq x).1)
    (by rw [hmode]; exact h.pm) h.ml
  · obtain ⟨qs, h1, h2, h3, h4, h5⟩ := h.q
    refine ⟨qs, ?_, h2, h3, h4, qlab_move h1 (fun i a b => hpre i a (by omega))
      (fun g a b => by rw [hg] at a; rw [hr] at b; exact ⟨a, b⟩) h5⟩
    rw [hr]
    exact qchainC_pres hw pr (Nat.le_refl _) hrr h1
  · intro hle
    rw [hc] at hle
    obtain ⟨rs, h1, h2, h3, h4, h5⟩ := h.r hle
    refine ⟨rs, ?_, h2, h3, h4, rlab_move h1 (fun i a b => hpre i (by omega) b)
      (fun g a b => by rw [hg] at a; rw [hr] at b; exact ⟨a, b⟩) h5⟩
    rw [hr, hc]
    exact rchainC_pres hw pr h12 (Nat.le_refl _) h1

theorem clay_hdrOnly {s s' : State} {b : Body} {mb : MBody} (h : CLay P s b mb) (hI : I s) (k : HdrOnly s s') : CLay P s' b mb :=
  clay_congr h hI.winv hI.inv.rr_hi (fun i hi _ => k.pre i hi) k.cursor k.rrStart
    k.gl k.qd k.an k.ns k.ar (pend_of_isSome k.edns k.tsig) k.sect k.mode

theorem clay_same {s s' : State} {b : Body} {mb : MBody} (h : CLay P s b mb) (hI : I s) (e : Same s s') : CLay P s' b mb :=
  clay_congr h hI.winv hI.inv.rr_hi (fun i _ hi => e.pre i hi) e.cursor e.rrStart
    e.gLabels e.qd e.an e.ns e.ar
    (by unfold pend; rw [e.edns, e.tsig]) e.sect e.mode

/-! ### records -/

/-- the record as a chain link with content (when the message stays within 65535 octets) -/
theorem Added.rchainC {s s' : State} {owner : WName} {ty cls ttl : Nat} {rd : List UInt8} {k : Nat}
    {ts : List CompType} {ps : List Nat} (a : Added s s' owner ty cls ttl rd k ts ps) (hle : s'.cursor ≤ 65535) :
    RChainC s' [⟨s.cursor, k, s'.cursor - (s.cursor + k + 10), s.mode, ⟨owner, ty, cls, ttl, rd⟩, ps⟩]
      s.cursor s'.cursor := by
  have hroom := a.room
  refine ⟨rfl, ⟨a.item, a.owner, a.fixed, ?_, ts, a.types, ?_⟩, ?_⟩
  · show be16 s'.octets (s.cursor + k + 8) = _
    rw [a.rdlen, Nat.mod_eq_of_lt (by omega)]
  · show RdAt s' s.mode ts rd (s.cursor + k + 10) (s.cursor + k + 10 + (s'.cursor - (s.cursor + k + 10))) ps
    rw [show s.cursor + k + 10 + (s'.cursor - (s.cursor + k + 10)) = s'.cursor by omega]
    exact a.rdata
  · show s.cursor + k + 10 + (s'.cursor - (s.cursor + k + 10)) = s'.cursor
    omega

/-- **what a run of `add_rr` appends**: the record items `its` lie from the cursor of `s` to the cursor of `s'`, written
    in the mode of `s`, and every label start recorded since is the first octet of a label of one of them -/
structure Appended (s s' : State) (its : List RItC) : Prop where
  chain : RChainC s' its s.cursor s'.cursor
  modes : ∀ it ∈ its, it.m = s.mode
  labels : ∀ g ∈ s'.gLabels, g ∈ s.gLabels ∨ ∃ it ∈ its, ∃ a ∈ it.a :: it.ps, PhysLab s'.octets a g

theorem Appended.nil (s : State) : Appended s s [] := ⟨rfl, (fun _ h => nomatch h), fun _ h => Or.inl h⟩

theorem Added.appended {s s' : State} {owner : WName} {ty cls ttl : Nat} {rd : List UInt8} {k : Nat}
    {ts : List CompType} {ps : List Nat} (a : Added s s' owner ty cls ttl rd k ts ps) (hle : s'.cursor ≤ 65535) :
    Appended s s' [⟨s.cursor, k, s'.cursor - (s.cursor + k + 10), s.mode, ⟨owner, ty, cls, ttl, rd⟩, ps⟩] :=
  ⟨a.rchainC hle, fun _ h => by rw [List.mem_singleton.mp h], fun g hg => (a.labels g hg).imp_right
    fun ⟨x, hx, hp⟩ => ⟨_, List.mem_singleton.mpr rfl, x, hx, hp⟩⟩

theorem Appended.of_fields {s0 s s' : State} {its : List RItC} (h : Appended s0 s' its) (hc : s0.cursor = s.cursor)
    (hm : s0.mode = s.mode) (hg : s0.gLabels = s.gLabels) : Appended s s' its :=
  ⟨hc ▸ h.chain, fun it hx => (h.modes it hx).trans hm, fun g x => (h.labels g x).imp_left (hg ▸ ·)⟩

/-- a label of a name of an item stays one when the buffer grows -/
theorem physLab_pres {s s' : State} (h : Pres s s') {rs : List RItC} {p e : Nat} (hp : 12 ≤ p) (he : e ≤ s.cursor)
    (hc : RChainC s rs p e) {it : RItC} (hit : it ∈ rs) {a g : Nat} (ha : a ∈ it.a :: it.ps)
    (hl : PhysLab s.octets a g) : PhysLab s'.octets a g := by
  obtain ⟨c1, c2, c3⟩ := rchainC_mem hc it hit
  obtain ⟨d0, k, d1, d2⟩ := rfacts_chunk c2 a ha
  exact physLab_frame d1 hl (fun i _ f2 => h.pre i (by omega) (by omega))

/-- two runs in a row are a run -/
theorem Appended.trans {s s1 s2 : State} {l1 l2 : List RItC} (h1 : Appended s s1 l1) (h2 : Appended s1 s2 l2)
    (hw : WInv s1) (h : Pres s1 s2) (hc : 12 ≤ s.cursor) (hm : s1.mode = s.mode) : Appended s s2 (l1 ++ l2) := by
  refine ⟨rchainC_append (rchainC_pres hw h hc (Nat.le_refl _) h1.chain) h2.chain, fun it hx => ?_, fun g hg => ?_⟩
  · rcases List.mem_append.mp hx with hx | hx
    · exact h1.modes it hx
    · rw [h2.modes it hx, hm]
  · rcases h2.labels g hg with a1 | ⟨it, a1, a2⟩
    · rcases h1.labels g a1 with a3 | ⟨it, a3, x, a4, a5⟩
      · exact .inl a3
      · exact .inr ⟨it, List.mem_append_left _ a3, x, a4, physLab_pres h hc (Nat.le_refl _) h1.chain a3 a4 a5⟩
    · exact .inr ⟨it, List.mem_append_right _ a1, a2⟩

/-- a run appended to chains whose label starts are accounted for -/
theorem labs_appended {s s' : State} {r : Nat} {qs : List QItC} {rs its : List RItC} (h : Pres s s')
    (hq : QChainC s qs 12 r) (hr : RChainC s rs r s.cursor) (hl : Labs s r qs rs) (a : Appended s s' its) :
    Labs s' r qs (rs ++ its) := by
  intro g hg
  rcases a.labels g hg with a1 | ⟨it, a1, a2⟩
  · obtain ⟨b1, b2⟩ := labs_move hq hr (fun i f1 f2 => h.pre i f1 f2) (fun _ x => x)
      (s' := { s with octets := s'.octets }) hl g a1
    exact ⟨b1, fun hge => (b2 hge).imp fun x ⟨c1, c2⟩ => ⟨List.mem_append_left _ c1, c2⟩⟩
  · obtain ⟨c1, c2, c3⟩ := rchainC_mem a.chain it a1
    obtain ⟨x, a3, a4⟩ := a2
    obtain ⟨d0, k, d1, d2⟩ := rfacts_chunk c2 x a3
    have hrng := physLab_range d1 a4
    have := rchainC_le hr
    exact ⟨fun hlt => by omega, fun _ => ⟨it, List.mem_append_right _ a1, x, a3, a4⟩⟩

theorem MBody.add_sections (mb : MBody) (sec : RrSection) (ms : List CMode)
    (h1 : sec = .answer → mb.ns = [] ∧ mb.ar = []) (h2 : sec = .authority → mb.ar = []) :
    (mb.add sec ms).an ++ (mb.add sec ms).ns ++ (mb.add sec ms).ar = mb.an ++ mb.ns ++ mb.ar ++ ms := by
  cases sec with
  | answer => obtain ⟨hn, ha⟩ := h1 rfl; simp [MBody.add, hn, ha]
  | authority => simp [MBody.add, h2 rfl]
  | additional => simp [MBody.add]

/-- records appended to a laid-out message -/
theorem clay_add_records {s s0 s1 s' : State} {b : Body} {mb : MBody} {sec : RrSection} {recs : List RRec}
    (h : CLay P s b mb) (hw : WInv s) (hcs : changeSection sec s = (.ok (), s0)) (e : Ext s s1)
    (hch : s1.cursor ≤ 65535 → ∃ its, Appended s s1 its ∧ its.map (·.r) = recs)
    (hs' : s' = (setCount sec (getCount sec s1 + recs.length) s1).2) (hsect : s1.sect = toSect sec)
    (hrr : s.rrStart ≤ s.cursor) (ms : List CMode) (hms : ms = List.replicate recs.length s.mode) :
    CLay P s' (b.add sec recs) (mb.add sec ms) := by
  subst hms
  obtain ⟨l1, l2⟩ := h.tally.later hcs
  obtain ⟨ml1, ml2, ml3⟩ := h.ml
  have hnil : ∀ {l : List CMode} {l' : List RRec}, l.length = l'.length → l' = [] → l = [] := by
    intro l l' hl hn; rw [hn] at hl; exact List.eq_nil_of_length_eq_zero hl
  have hlater := Body.add_sections b sec recs l1 l2
  have hmlater := MBody.add_sections mb sec (List.replicate recs.length s.mode)
    (fun x => ⟨hnil ml2 (l1 x).1, hnil ml3 (l1 x).2⟩) (fun x => hnil ml3 (l2 x))
  have ho : s'.octets = s1.octets := by rw [hs']; cases sec <;> rfl
  have hc : s'.cursor = s1.cursor := by rw [hs']; cases sec <;> rfl
  have hg : s'.gLabels = s1.gLabels := by rw [hs']; cases sec <;> rfl
  have hr : s'.rrStart = s1.rrStart := by rw [hs']; cases sec <;> rfl
  have hsc : s'.sect = toSect sec := by rw [hs', ← hsect]; cases sec <;> rfl
  have hmd : s'.mode = s.mode := by rw [hs', ← e.mode]; cases sec <;> rfl
  refine Tally.clay (by rw [hs']; exact h.tally.add hcs e hsect recs) ?_ ?_
    (fun hq => by rw [hsc] at hq; cases sec <;> cases hq) (by rw [hmd]; exact h.pm)
    (by cases sec <;> simp [MBody.add, Body.add, ml1, ml2, ml3])
  · obtain ⟨qs, h1, h2, hP, hM, hJ⟩ := h.q
    refine ⟨qs, ?_, by cases sec <;> exact h2, hP, by cases sec <;> exact hM, ?_⟩
    · rw [hr, e.rrStart]
      exact qchainC_fields ho hc hg (qchainC_pres hw (pres_of_ext e) (Nat.le_refl _) hrr h1)
    · refine qlab_move h1 (fun i _ b => by rw [ho]; exact e.pre i (by omega)) (fun g a b => ?_) hJ
      rw [hg] at a
      rw [hr, e.rrStart] at b
      rcases e.gnew g a with a1 | a1
      · exact ⟨a1, b⟩
      · omega
  · intro hle
    rw [hc] at hle
    have hle0 : s.cursor ≤ 65535 := by have := e.cur; omega
    obtain ⟨rs, h1, h2, hP, hM, hJ⟩ := h.r hle0
    obtain ⟨qs, hq1, -, -, -, hJq⟩ := h.q
    obtain ⟨its, ap, h4⟩ := hch hle
    refine ⟨rs ++ its, ?_, by rw [List.map_append, h2, h4, hlater], fun it hx => ?_, ?_, fun g a b => ?_⟩
    · rw [hr, hc, e.rrStart]
      exact rchainC_fields ho hc hg (rchainC_append (rchainC_pres hw (pres_of_ext e) (clay_rr12 h) (Nat.le_refl _) h1)
        ap.chain)
    · rcases List.mem_append.mp hx with hx | hx
      · exact hP it hx
      · rw [ap.modes it hx]; exact h.pm
    · rw [List.map_append, hM, hmlater, ← h4, List.length_map]
      congr 1
      exact List.eq_replicate_iff.mpr ⟨List.length_map _, fun m hm => by
        obtain ⟨it, hx, rfl⟩ := List.mem_map.mp hm
        exact ap.modes it hx⟩
    · rw [hg] at a
      rw [hr, e.rrStart] at b
      rw [ho]
      exact (labs_appended (pres_of_ext e) hq1 h1 (labs_of hJq hJ) ap g a).2 b


/-- an RRset, with content: one item per RDATA -/
theorem addRrset_appended {track : Prop} {s0 : State} (owner : WName) (ty cls ttl : Nat) (hwf : owner.WF) :
    ∀ (rds : List (List UInt8)) (hint : Hint) (n : Nat) (names : List WName) (on0 : Option WName)
      (s s' : State) (cnt : Nat),
      (∃ loc o, RecSt track s0 s names loc o on0 ∧ HintOK s hint owner) →
      addRrset hint owner ty cls ttl rds n s = (.ok cnt, s') → s'.cursor ≤ 65535 →
      ∃ its, Appended s s' its ∧ its.map (·.r) = rds.map (fun rd => (⟨owner, ty, cls, ttl, rd⟩ : RRec)) := by
  intro rds
  induction rds with
  | nil =>
    intro hint n names on0 s s' cnt _ h _
    simp only [addRrset, M.pure_apply] at h
    cases h
    exact ⟨[], Appended.nil _, rfl⟩
  | cons rd rds ih =>
    intro hint n names on0 s s' cnt ⟨loc, o, hrec, hh⟩ h hle
    unfold addRrset at h
    obtain ⟨_, s1, h1, h2⟩ := M.bind_eq_ok.mp h
    obtain ⟨p, k, ts, ps, hrec1, a⟩ := addRr_added hint owner ty cls ttl rd hrec hwf hh h1
    have e2 : Ext s1 s' := by
      have := frame_addRrset .mostRecentOwner owner ty cls ttl rds (n + 1) s1
      rw [h2] at this; exact this
    obtain ⟨its, ap, hl⟩ := ih .mostRecentOwner (n + 1) (names ++ rdataNames cls ty rd) (some owner) s1 s' cnt
      ⟨_, p, hrec1, recSt_ownerHint hrec1⟩ h2 hle
    exact ⟨_ :: its, (a.appended (by have := e2.cur; omega)).trans ap hrec1.winv (pres_of_ext e2) hrec.winv.c12
      a.ext.mode, by simp [hl]⟩

/-- **`add_*_rrset` keeps the layout**, and the records are those given -/
theorem clay_addRrsetOp (sec : RrSection) (hint : Hint) (owner : WName) (ty cls ttl : Nat)
    (rds : List (List UInt8)) (s s' : State) {b : Body} {mb : MBody} (hI : I s) (h : CLay P s b mb) (hwf : owner.WF)
    (hh : HintOK s hint owner)
    (hok : addRrsetOp sec hint owner ty cls ttl rds s = (.ok (), s')) :
    CLay P s' (b.add sec (rds.map fun rd => ⟨owner, ty, cls, ttlFrom ttl, rd⟩))
      (mb.add sec (List.replicate rds.length s.mode)) := by
  obtain ⟨s1, s2, n, h1, h2, _, hs'⟩ := addRrsetOp_ok_inv sec hint owner ty cls ttl rds s s' hok
  obtain ⟨_, _, _, _, _, c6, c7⟩ := changeSection_spec sec s
  have hfr1 := frame_changeSection sec s
  obtain ⟨hr1, hh1⟩ := recSt_changeSection hI.winv hI.log sec hh
  rw [h1] at hfr1 c6 c7 hr1 hh1
  simp only at hfr1 c6 c7 hr1 hh1
  have hn := addRrset_count owner ty cls (ttlFrom ttl) rds hint 0 s1 s2 n h2
  have e2 : Ext s1 s2 := by
    have := frame_addRrset hint owner ty cls (ttlFrom ttl) rds 0 s1
    rw [h2] at this; exact this
  have hsect : s2.sect = toSect sec := by
    have := (changeSection_ok_inv sec s s1 h1).1
    have hk := keepsSect_addRrset owner ty cls (ttlFrom ttl) rds hint 0 s1
    rw [h2] at hk
    rw [hk, this]
  refine clay_add_records (recs := rds.map fun rd => ⟨owner, ty, cls, ttlFrom ttl, rd⟩) h hI.winv h1 (Ext.trans hfr1 e2)
    ?_ (by rw [hs', List.length_map, hn]; simp) hsect hI.inv.rr_hi _ (by rw [List.length_map])
  intro hle
  obtain ⟨its, ap, hl⟩ := addRrset_appended (track := s.hv = some []) (s0 := s) owner ty cls (ttlFrom ttl) hwf rds
    hint 0 [] none s1 s2 n ⟨[], _, hr1, hh1⟩ h2 hle
  exact ⟨its, ap.of_fields c6 hfr1.mode c7, hl⟩


/-- **`add_*_rr` keeps the layout**, and the record is the one given: it is `add_*_rrset` of one record -/
theorem clay_addRrOp (sec : RrSection) (hint : Hint) (owner : WName) (ty cls ttl : Nat) (rd : List UInt8)
    (s s' : State) {b : Body} {mb : MBody} (hI : I s) (h : CLay P s b mb) (hwf : owner.WF) (hh : HintOK s hint owner)
    (hok : addRrOp sec hint owner ty cls ttl rd s = (.ok (), s')) :
    CLay P s' (b.add sec [⟨owner, ty, cls, ttlFrom ttl, rd⟩]) (mb.add sec [s.mode]) := by
  rw [addRrOp_eq_addRrsetOp] at hok
  exact clay_addRrsetOp sec hint owner ty cls ttl [rd] s s' hI h hwf hh hok

/-! ### the question and the other calls -/

theorem clay_addQuestion (qn : WName) (qt qc : Nat) (s s' : State) {b : Body} {mb : MBody} (hI : I s) (h : CLay P s b mb)
    (hwf : qn.WF) (hok : addQuestion qn qt qc s = (.ok (), s')) :
    CLay P s' { b with qs := b.qs ++ [⟨qn, qt, qc⟩] } { mb with qs := mb.qs ++ [s.mode] } := by
  obtain ⟨s3, hsq, hb, hs'⟩ := addQuestion_ok_inv qn qt qc s s' hok
  obtain ⟨k, hit, hcur, hnm, hby, hpv⟩ := addQuestionBody_item qn qt qc s s3 hI.winv hwf hb
  have e : Ext s s3 := by
    have := frame_addQuestionBody qn qt qc s
    rw [hb] at this; exact this
  obtain ⟨hcr, hban, hbns, hbar⟩ := h.sq hsq
  have hk := keepsSect_addQuestionBody qn qt qc s
  rw [hb] at hk
  simp only at hk
  have ho : s'.octets = s3.octets := by rw [hs']
  have hc : s'.cursor = s3.cursor := by rw [hs']
  have hg : s'.gLabels = s3.gLabels := by rw [hs']
  obtain ⟨ml1, ml2, ml3⟩ := h.ml
  have hnil : ∀ {l : List CMode} {l' : List RRec}, l.length = l'.length → l' = [] → l = [] := by
    intro l l' hl hn; rw [hn] at hl; exact List.eq_nil_of_length_eq_zero hl
  refine Tally.clay (by rw [hs']; exact h.tally.question hsq e ⟨qn, qt, qc⟩) ?_ ?_ (fun _ => by rw [hs'])
    (by rw [hs']; show P s3.mode; rw [e.mode]; exact h.pm) h.ml
  · obtain ⟨qs, h1, h2, hP, hM, hJ⟩ := h.q
    have hlt : ∀ g ∈ s.gLabels, g < s.cursor := by
      intro g hg
      obtain ⟨ls', hl'⟩ := hI.winv.labs g hg
      exact (nameAt_start hl').2.1
    refine ⟨qs ++ [⟨s.cursor, k, s.mode, ⟨qn, qt, qc⟩⟩], ?_, by rw [List.map_append, h2]; rfl, fun x hx => by
      rcases List.mem_append.mp hx with hx | hx
      · exact hP x hx
      · simp only [List.mem_singleton] at hx; subst hx; exact h.pm, by rw [List.map_append, hM]; rfl, ?lab⟩
    case lab =>
      intro g a _
      rw [hg] at a
      rw [ho]
      rcases hpv g a with a1 | a1
      · obtain ⟨it, b1, b2⟩ := hJ g a1 (by rw [← hcr]; exact hlt g a1)
        obtain ⟨c1, c2, c3⟩ := qchainC_mem h1 it b1
        exact ⟨it, List.mem_append_left _ b1, physLab_frame c2.1.2.1 b2 (fun i _ f2 => e.pre i (by omega))⟩
      · exact ⟨_, List.mem_append_right _ (List.mem_singleton.mpr rfl), a1⟩
    have hq3 : QChainC s3 qs 12 s.cursor := by
      rw [hcr]; exact qchainC_pres hI.winv (pres_of_ext e) (Nat.le_refl _) hI.inv.rr_hi h1
    have := qchainC_snoc (x := ⟨s.cursor, k, s.mode, ⟨qn, qt, qc⟩⟩) hq3 ⟨hit, hnm, hby⟩
    have hrs : s'.rrStart = s.cursor + k + 4 := by rw [hs']; exact hcur
    rw [hrs]
    exact qchainC_fields ho hc hg this
  · intro hle
    have hlt : ∀ g ∈ s.gLabels, g < s.cursor := by
      intro g hg
      obtain ⟨ls', hl'⟩ := hI.winv.labs g hg
      exact (nameAt_start hl').2.1
    refine ⟨[], ?_, by rw [hban, hbns, hbar]; rfl, (fun _ hx => by cases hx), by
      show [] = mb.an ++ mb.ns ++ mb.ar
      rw [hnil ml1 hban, hnil ml2 hbns, hnil ml3 hbar]; rfl, ?lab⟩
    case lab =>
      intro g a b
      exfalso
      rw [hg] at a
      have hrs : s'.rrStart = s.cursor + k + 4 := by rw [hs']; exact hcur
      rw [hrs] at b
      rcases hpv g a with a1 | a1
      · have := hlt g a1; omega
      · have := (physLab_range hit.2.1 a1).2; omega
    rw [hs']; exact rfl

theorem clay_counts {s s' : State} {b : Body} {mb : MBody} (h : CLay P s b mb) (ho : s'.octets = s.octets)
    (hc : s'.cursor = s.cursor) (hg : s'.gLabels = s.gLabels) (hr : s'.rrStart = s.rrStart)
    (hqd : s'.qdcount = s.qdcount) (han : s'.ancount = s.ancount) (hns : s'.nscount = s.nscount)
    (hs : s'.sect = s.sect) {d : Nat} (hp : pend s' = pend s + d) (har : s'.arcount = s.arcount + d)
    (hm : P s'.mode) : CLay P s' b mb := by
  refine (h.tally.congr hqd han hns hs hp har).clay ?_ ?_ (by rw [hs, hc, hr]; exact fun x => (h.sq x).1) hm h.ml
  · obtain ⟨qs, h1, h2, h3, h4, h5⟩ := h.q
    exact ⟨qs, by rw [hr]; exact qchainC_fields ho hc hg h1, h2, h3, h4, qlab_fields ho hg hr h5⟩
  · intro hle
    rw [hc] at hle
    obtain ⟨rs, h1, h2, h3, h4, h5⟩ := h.r hle
    exact ⟨rs, by rw [hr, hc]; exact rchainC_fields ho hc hg h1, h2, h3, h4, rlab_fields ho hg hr h5⟩

theorem clay_setEdns (p : Nat) (s : State) {b : Body} {mb : MBody} (h : CLay P s b mb) : CLay P (setEdns p s).2 b mb := by
  rcases setEdns_cases p s with ⟨_, h', _⟩ | ⟨hn, _, _, h'⟩ <;> rw [h']
  · exact h
  · refine clay_counts (d := 1) h rfl rfl rfl rfl rfl rfl rfl rfl ?_ rfl h.pm
    unfold pend stEdns; simp [hn]; omega

theorem clay_setTsig (m : TsigMode) (rr : TsigRr) (s : State) {b : Body} {mb : MBody} (h : CLay P s b mb) :
    CLay P (setTsig m rr s).2 b mb := by
  rcases setTsig_cases m rr s with ⟨_, h', _⟩ | ⟨hn, _, _, h'⟩ <;> rw [h']
  · exact h
  · refine clay_counts (d := 1) h rfl rfl rfl rfl rfl rfl rfl rfl ?_ rfl h.pm
    unfold pend; simp [hn]

theorem clay_hv (s : State) (v : Option HV) {b : Body} {mb : MBody} (h : CLay P s b mb) : CLay P { s with hv := v } b mb :=
  clay_counts (d := 0) h rfl rfl rfl rfl rfl rfl rfl rfl rfl rfl h.pm

/-- a fresh writer, put into mode `m` -/
theorem clay_new (buf : Bytes) (limit : Nat) (s : State) (h : Writer.new buf limit = .ok s) (m : CMode)
    (hm : P m) : CLay P { s with mode := m } {} {} := by
  suffices hh : CLay (fun _ => True) s {} {} by
    refine ⟨?_, ?_, hh.qd, hh.an, hh.ns, hh.ar, hh.sq, hh.sa, hh.su, hm, ⟨rfl, rfl, rfl⟩⟩
    · obtain ⟨qs, h1, h2, _, _, h5⟩ := hh.q
      have : qs = [] := by simpa using h2
      subst this
      exact ⟨[], h1, rfl, (fun _ hx => by cases hx), rfl, h5⟩
    · intro hle
      obtain ⟨rs, h1, h2, _, _, h5⟩ := hh.r hle
      have : rs = [] := by simpa using h2
      subst this
      exact ⟨[], h1, rfl, (fun _ hx => by cases hx), rfl, h5⟩
  unfold Writer.new at h
  dsimp only at h
  split at h
  · cases h
  · have hs := Out.ok.inj h
    have h1 : s.rrStart = 12 := by rw [← hs]; rfl
    have h2 : s.cursor = 12 := by rw [← hs]; rfl
    have h3 : s.qdcount = 0 ∧ s.ancount = 0 ∧ s.nscount = 0 ∧ s.arcount = 0 ∧ s.edns = none ∧ s.tsig = none := by
      rw [← hs]; exact ⟨rfl, rfl, rfl, rfl, rfl, rfl⟩
    have hgl : s.gLabels = [] := by rw [← hs]
    refine ⟨⟨[], by rw [h1]; rfl, rfl, (fun _ hx => by cases hx), rfl, fun g hg => by rw [hgl] at hg; cases hg⟩,
      fun _ => ⟨[], by rw [h1, h2]; rfl, rfl, (fun _ hx => by cases hx), rfl,
        fun g hg => by rw [hgl] at hg; cases hg⟩, h3.1, h3.2.1, h3.2.2.1, ?_,
      fun _ => ⟨by rw [h1, h2], rfl, rfl, rfl⟩, fun _ => ⟨rfl, rfl⟩, fun _ => rfl, trivial, ⟨rfl, rfl, rfl⟩⟩
    unfold pend
    rw [h3.2.2.2.1, h3.2.2.2.2.1, h3.2.2.2.2.2]
    rfl


/-! ### `clear_rrs` -/

/-- the hop at an item reads inside the item's chunk -/
theorem hop_shrink {oct : Bytes} {cur c' a k q : Nat} (hop : Hop oct cur a q) (hck : ChunkAt oct a k)
    (hc : a + k ≤ c') : Hop oct c' a q := by
  obtain ⟨pre, b, hwf, hb, hkk⟩ := hck
  have hlen := chunk_length pre b
  have hk1 : 1 ≤ k := by rcases hkk with ⟨_, e⟩ | ⟨_, e⟩ <;> omega
  cases hop with
  | here hq' hb' hnp => exact .here (by omega) hb' hnp
  | jump hq' h1 h2 hp hlt h3 hnp =>
    have h0 := hb 0 (by rw [hlen]; omega)
    rw [Nat.add_zero, h1] at h0
    have hk2 : 2 ≤ k := by
      rcases hkk with ⟨hb0, _⟩ | ⟨_, e⟩
      · exfalso
        cases pre with
        | nil =>
          simp at h0; subst h0
          rw [hb0] at hp; exact absurd hp (by decide)
        | cons l pre' =>
          simp [WName.encLabel] at h0
          have hl := hwf l List.mem_cons_self
          subst h0
          rw [ofNat_len_notPtr hl.2] at hp; cases hp
      · omega
    exact .jump (by omega) h1 h2 hp hlt h3 hnp

theorem clay_clearRrs (s : State) {b : Body} {mb : MBody} (h : CLay P s b mb) (hI : I s) :
    CLay P (clearRrs s).2 { qs := b.qs } { qs := mb.qs } := by
  simp only [clearRrs, M.modify_apply]
  have hrr := hI.inv.rr_hi
  have hG : ∀ x, (GL s x ∧ x < s.rrStart) → x ∈ s.gLabels.filter (· < s.rrStart) := by
    intro x ⟨h1, h2⟩
    simp only [List.mem_filter, decide_eq_true_eq]
    exact ⟨h1, h2⟩
  have t := h.tally.clear
  simp only [clearRrs, M.modify_apply] at t
  refine t.clay ?_ (fun _ => ⟨[], rfl, rfl, (fun _ hx => by cases hx), rfl, fun g a b => by
      exfalso
      have a' : g ∈ s.gLabels.filter (· < s.rrStart) := a
      have b' : s.rrStart ≤ g := b
      simp only [List.mem_filter, decide_eq_true_eq] at a'
      omega⟩) (fun _ => rfl) h.pm ⟨rfl, rfl, rfl⟩
  · obtain ⟨qs, h1, h2, h3, h4, h5⟩ := h.q
    refine ⟨qs, ?_, h2, h3, h4, fun g a b => by
      have a' : g ∈ s.gLabels.filter (· < s.rrStart) := a
      simp only [List.mem_filter, decide_eq_true_eq] at a'
      exact h5 g a'.1 a'.2⟩
    show QChainC _ qs 12 s.rrStart
    refine qchainC_move (lo := 0) (e := s.rrStart) (fun it _ hk hq => ?_) (Nat.zero_le _) h1
    obtain ⟨hit, hnm, hby⟩ := hq
    have hgl : ∀ g ∈ s.gLabels, g ≤ it.a → g ∈ s.gLabels.filter (· < s.rrStart) := by
      intro g hg hga
      simp only [List.mem_filter, decide_eq_true_eq]
      exact ⟨hg, by omega⟩
    refine ⟨item_move (lo := 0) hit (fun _ _ => Nat.zero_le _) (fun _ _ _ => rfl)
      (by show it.a + it.k ≤ s.rrStart; omega) hgl, ?_, hby⟩
    obtain ⟨⟨q, ls, hop, hst, hm⟩, hdis⟩ := hnm
    have hqa := (hop_le hop).1
    have hqg : q ∈ s.gLabels := (nameAt_start hst).1
    obtain ⟨ls', hl'⟩ := hI.qinv.labs q hqg (by omega)
    have := nameAt_unique hl' hst
    subst this
    refine ⟨⟨q, ls', hop_shrink hop hit.2.1 (by show it.a + it.k ≤ s.rrStart; omega), ?_, hm⟩, fun hm' => ?dis⟩
    case dis =>
      obtain ⟨pre', w1, w2, w3⟩ := hdis hm'
      obtain ⟨pre, bb, v1, v2, v3⟩ := hit.2.1
      have hc : bb = 0 ∨ isPtr bb = true := by
        rcases v3 with ⟨x, _⟩ | ⟨x, _⟩
        · exact Or.inl x
        · exact Or.inr x
      obtain ⟨e1, e2⟩ := chunk_unique pre' pre it.a 0 bb w1 v1 w2 v2 (Or.inl rfl) hc
      subst e1 e2
      refine ⟨pre', w1, w2, ?_⟩
      show it.a + encLen pre' + 1 ≤ s.rrStart
      rcases v3 with ⟨_, x⟩ | ⟨x, _⟩
      · omega
      · exact absurd x (by decide)
    exact nameAt_frame (lo := 0) (nameAt_restrict hl') hG (fun _ _ => Nat.zero_le _) (fun _ _ _ => rfl)
      (Nat.le_refl _)


/-! ### templates, whole sessions -/

/-- the modes of the items a successful call adds: the mode in effect (`cur`) -/
def mbodyStep (cur : CMode) (mb : MBody) : Op → MBody
  | .addQuestion _ _ _ => { mb with qs := mb.qs ++ [cur] }
  | .addRr sec _ _ _ _ _ _ _ => mb.add sec [cur]
  | .addRrset sec _ _ _ _ _ rds _ => mb.add sec (List.replicate rds.length cur)
  | .clearRrs => { qs := mb.qs }
  | _ => mb

/-- the compression mode in effect when each question / record of a session was written (the
    writer's mode is changed by `set_compression_mode` only) -/
def mrun (ss : Session) (mb : MBody) : List Op → MBody
  | [] => mb
  | op :: ops => mrun (step ss op).2 (if (step ss op).1 = .ok () then mbodyStep ss.w.mode mb op else mb) ops

theorem mbodyStep_hdr {cur : CMode} {mb : MBody} {op : Op} (h : op.isHdr = true) : mbodyStep cur mb op = mb := by
  cases op <;> first | rfl | cases h

theorem Did.clay {ss : Session} {op : Op} {s' : State} {b : Body} {mb : MBody} (h : Did ss op s') (hI : I ss.w)
    (hL : CLay P ss.w b mb) (hop : OpOK ss op) (hpm : ∀ m, op = .setMode m → P m) :
    CLay P s' (bodyStep b op) (mbodyStep ss.w.mode mb op) := by
  induction h with
  | hdr hop' _ hp => rw [bodyStep_hdr hop', mbodyStep_hdr hop']; exact clay_hdrOnly hL hI (hdrOnly_hdr hp)
  | limit => exact clay_counts (d := 0) hL rfl rfl rfl rfl rfl rfl rfl rfl rfl rfl hL.pm
  | mode => exact clay_counts (d := 0) hL rfl rfl rfl rfl rfl rfl rfl rfl rfl rfl (hpm _ rfl)
  | question hq => exact clay_addQuestion _ _ _ _ _ hI hL hop hq
  | @records sec h o ty cls ttl rds hv s1 hq =>
    exact clay_hv _ none (clay_addRrsetOp sec _ o ty cls ttl rds { ss.w with hv := hv.map (hvGet ss.hvs) } s1
      (i_hv _ _ hI) (clay_hv _ _ hL) hop.1 hop.2 hq)
  | record _ ih => exact ih hop (fun _ h => by cases h)
  | clear => exact clay_clearRrs _ hL hI
  | edns h1 =>
    exact clay_counts (d := 1) hL rfl rfl rfl rfl rfl rfl rfl rfl
      (by simp only [pend, h1, Option.isSome_some, if_true, Bool.false_eq_true, if_false]; omega) rfl hL.pm
  | tsig h1 =>
    exact clay_counts (d := 1) hL rfl rfl rfl rfl rfl rfl rfl rfl
      (by simp only [pend, h1, Option.isSome_some, if_true, Bool.false_eq_true, if_false]) rfl hL.pm
  | time hts =>
    exact clay_counts (d := 0) hL rfl rfl rfl rfl rfl rfl rfl rfl
      (by simp only [pend, hts, Option.isSome_some]; rfl) rfl hL.pm
  | template hop' e =>
    have key : CLay P _ b mb := clay_congr hL hI.winv hI.inv.rr_hi (fun i _ hi => e.pre i hi) e.cursor e.rrStart
      e.gLabels e.qd e.an e.ns e.ar (pend_fromTemplate e hop'.isSome) e.sect e.mode
    rcases hop' with ⟨rfl, _⟩ | ⟨_, _, _, _, rfl, _⟩ <;> exact key
  | getters => exact hL

/-- **every public call keeps the layout**: a successful call adds exactly what it was given, a
    failed call changes nothing — in every compression mode -/
theorem clay_step (ss : Session) (op : Op) (b : Body) (mb : MBody) (hI : I ss.w) (h : CLay P ss.w b mb)
    (hop : OpOK ss op) (hpm : ∀ m, op = .setMode m → P m) :
    CLay P (step ss op).2.w (if (step ss op).1 = .ok () then bodyStep b op else b)
      (if (step ss op).1 = .ok () then mbodyStep ss.w.mode mb op else mb) := by
  rcases step_cases ss op hI hop with ⟨e, he, hs⟩ | ⟨hok, hd⟩
  · rw [he]; simp only [reduceCtorEq, if_false]; exact clay_same h hI hs
  · rw [hok]; simp only [if_true]; exact hd.clay hI h hop hpm

/-- **for all sequences of calls that respect the contract**, in every compression mode -/
theorem clay_run (ss : Session) (ops : List Op) (b : Body) (mb : MBody) (hI : I ss.w) (h : CLay P ss.w b mb)
    (hr : Respects ss ops) (hpm : ∀ m, Op.setMode m ∈ ops → P m) :
    CLay P (run ss ops).1.w (bodyRun b ops (run ss ops).2) (mrun ss mb ops) := by
  induction ops generalizing ss b mb with
  | nil => exact h
  | cons op ops ih =>
    obtain ⟨hop, hrest⟩ := hr
    obtain ⟨hnp, hI'⟩ := step_I ss op hI hop
    rw [run_cons hnp]
    exact ih _ _ _ hI' (clay_step ss op b mb hI h hop (fun m hm => hpm m (by rw [hm]; exact List.mem_cons_self)))
      hrest (fun m hm => hpm m (List.mem_cons_of_mem _ hm))

/-- **a fresh writer, put into mode `mode`, after a session that respects the contract**: valid, and laid out as
    the calls that succeeded say -/
theorem fresh_run {buf : Bytes} {limit : Nat} {s0 : State} (hnew : Writer.new buf limit = .ok s0) (mode : CMode)
    (hP : P mode) (ops : List Op) (hr : Respects { w := { s0 with mode := mode } } ops)
    (hpm : ∀ m, Op.setMode m ∈ ops → P m) :
    I (run { w := { s0 with mode := mode } } ops).1.w ∧
      CLay P (run { w := { s0 with mode := mode } } ops).1.w
        (bodyRun {} ops (run { w := { s0 with mode := mode } } ops).2) (mrun { w := { s0 with mode := mode } } {} ops) :=
  ⟨(run_I _ ops (new_mode_i hnew mode) hr).2,
    clay_run _ ops {} {} (new_mode_i hnew mode) (clay_new buf limit s0 hnew mode hP) hr hpm⟩

end QV.Writer
