/-
  QV.Proofs.ServerResp — the octets of the response for the verdicts the scan decides alone:
  `finish` applied to the writer state the scan leaves (`finalOf`) yields exactly
  `Spec.Server.specErrorResponse`.

  The writer handed to `finish` is described relative to the writer `s1` after the question (`S1Facts`)
  by `FinalSt`, with or without a pending TSIG record; `FinalSt.prefix` is the one place where header,
  counts, question and OPT record of the finished message are read off it.
-/
import QV.Proofs.ServerMsg
import QV.Proofs.FinishTsig

namespace QV.ServerScan
open QV QV.Wire QV.Reader QV.Writer

/-! ### octets of the buffer, layer by layer -/

theorem getD_eq (a : Bytes) (i : Nat) : a.getD i 0 = (a[i]?).getD 0 := Array.getD_eq_getD_getElem?

theorem zeroHeader_replicate (n : Nat) : zeroHeader (Array.replicate n 0) = Array.replicate n (0 : UInt8) := by
  apply Array.ext_getElem?
  intro i
  unfold zeroHeader
  rw [writeAt_getElem?]
  split
  · rename_i h
    have h1 : i < n := by simpa using h.2.2
    simp only [Array.getElem?_replicate, h1, if_true]
    have : i - 0 < (List.replicate Gen.HEADER_SIZE (0 : UInt8)).length := by
      have := h.2.1; simpa using this
    rw [List.getElem?_eq_getElem this]
    simp
  · rfl

/-- the octet of the header that carries QR, opcode, RD after the header copy -/
def h2val (opcode : Nat) (rd : Bool) : UInt8 :=
  if opcode = 0 then bitF Gen.RD_MASK rd (opF opcode (bitF Gen.QR_MASK true 0))
  else opF opcode (bitF Gen.QR_MASK true 0)

theorem getD_set_self (a : Bytes) (i : Nat) (v : UInt8) (h : i < a.size) : (a.setIfInBounds i v).getD i 0 = v := by
  rw [getD_eq, Array.getElem?_setIfInBounds]; simp [h]

theorem hdrSt_octets (bufLen L id opcode : Nat) (rd : Bool) (h : 3 < bufLen) :
    (hdrSt (w0 bufLen L) id opcode rd).octets =
      (writeAt (Array.replicate bufLen 0) 0 (u16be id)).setIfInBounds 2 (h2val opcode rd) := by
  have hX : (writeAt (Array.replicate bufLen (0 : UInt8)) 0 (u16be id)).size = bufLen := by
    rw [writeAt_size]; simp
  have e0 : (writeAt (Array.replicate bufLen (0 : UInt8)) 0 (u16be id)).getD 2 0 = 0 := by
    rw [getD_eq, writeAt_getElem?, if_neg (by rw [u16be_length]; omega)]
    simp [show 2 < bufLen by omega]
  unfold hdrSt h2val stHdr w0
  simp only [zeroHeader_replicate]
  by_cases hop : opcode = 0
  · simp only [hop, if_true, e0]
    rw [getD_set_self _ _ _ (by rw [hX]; omega), Array.setIfInBounds_setIfInBounds]
    rw [getD_set_self _ _ _ (by rw [Array.size_setIfInBounds, hX]; omega), Array.setIfInBounds_setIfInBounds]
  · simp only [hop, if_false, e0]
    rw [getD_set_self _ _ _ (by rw [hX]; omega), Array.setIfInBounds_setIfInBounds]

/-- the header-only writer, octet by octet -/
theorem hdrSt_get (bufLen L id opcode : Nat) (rd : Bool) (h : 3 < bufLen) (i : Nat) :
    (hdrSt (w0 bufLen L) id opcode rd).octets[i]? =
      if i = 0 then some (UInt8.ofNat (id / 256 % 256))
      else if i = 1 then some (UInt8.ofNat (id % 256))
      else if i = 2 then some (h2val opcode rd)
      else if i < bufLen then some 0 else none := by
  rw [hdrSt_octets _ _ _ _ _ h, Array.getElem?_setIfInBounds, writeAt_size, writeAt_getElem?]
  simp only [Array.size_replicate, Array.getElem?_replicate, u16be_length]
  by_cases h0 : i = 0
  · subst h0; simp [u16be]; omega
  · by_cases h1 : i = 1
    · subst h1; simp [u16be]; omega
    · by_cases h2 : i = 2
      · subst h2; simp; omega
      · have : ¬ (2 = i) := fun e => h2 e.symm
        simp only [this, if_false, h0, h1, h2]
        rw [if_neg (by omega)]


/-! ### the finished message as a list of octets -/

/-- the OPT record as `Proofs/WriterFinish` writes it = as `Proofs/WriterView` writes it -/
theorem optEnc_some (e : Edns) : optEnc (some e) = optRecord e := by
  unfold optEnc encRR optRecord
  rw [T_OPT_eq, root_wire]
  rfl

/-- the buffer `finish` returns for a writer without TSIG (the counts patched in, `ol` appended at the
    cursor, cut after it), as a list -/
theorem finished_toList (F : State) (ol : List UInt8) (h12 : 12 ≤ F.cursor)
    (hsz : F.cursor + ol.length ≤ F.octets.size) :
    ((writeAt (withCounts F) F.cursor ol).extract 0 (F.cursor + ol.length)).toList = finishPrefix F ++ ol := by
  have hl := finishPrefix_length F h12 (by omega)
  have hw := withCounts_size F
  have l4 : (F.octets.toList.take 4).length = 4 := by simp; omega
  have l8 : (u16be F.qdcount ++ u16be F.ancount ++ u16be F.nscount ++ u16be F.arcount).length = 8 := rfl
  have q1 : BytesAt (withCounts F) 0 (F.octets.toList.take 4) := fun i hi => by
    rw [l4] at hi
    rw [Nat.zero_add, withCounts_getElem? F i (Or.inl hi), List.getElem?_take, if_pos hi, Array.getElem?_toList]
  have q2 := withCounts_counts F (by omega)
  have q3 : BytesAt (withCounts F) 12 (F.octets.extract 12 F.cursor).toList :=
    bytesAt_frame (bytesAt_self_extract F.octets 12 F.cursor) fun i hi _ => by
      exact withCounts_getElem? F i (Or.inr hi)
  have qP : BytesAt (withCounts F) 0 (finishPrefix F) :=
    bytesAt_append_intro (bytesAt_append_intro q1 (by rw [l4]; exact q2)) (by rw [List.length_append, l4, l8]; exact q3)
  have qA : BytesAt (writeAt (withCounts F) F.cursor ol) 0 (finishPrefix F ++ ol) :=
    bytesAt_append_intro (bytesAt_frame qP fun i _ hi => writeAt_get_lt _ _ _ _ (by omega))
      (by rw [hl, Nat.zero_add]; exact bytesAt_writeAt _ _ _ (by rw [hw]; exact hsz))
  have := bytesAt_extract qA
  rwa [Nat.zero_add, List.length_append, hl] at this

/-- **`finish` on a writer without TSIG that has room for its OPT record** succeeds; the message is the
    writer's content with the counts filled in, then the OPT record iff the EDNS slot is set -/
theorem finish_unsigned (F : State) (macFn : Tsig → List UInt8 → List UInt8) (ht : F.tsig = none)
    (h12 : 12 ≤ F.cursor) (hsz : F.cursor + 11 ≤ F.octets.size)
    (hroom : F.edns.isSome → F.cursor ≤ F.available ∧ F.available + 11 ≤ F.octets.size) :
    ∃ b, finish F macFn = .ok (b, none) ∧ b.toList = finishPrefix F ++ optEnc F.edns := by
  cases he : F.edns with
  | none =>
    refine ⟨_, finish_plain F macFn ht he (by omega), ?_⟩
    have := finished_toList F [] h12 (by simp; omega)
    simpa [optEnc, writeAt] using this
  | some e =>
    obtain ⟨a1, a2⟩ := hroom (by rw [he]; rfl)
    refine ⟨_, finish_edns F macFn e ht he (by omega) a1 hsz, ?_⟩
    have := finished_toList F (optRecord e) h12 (by rw [optRecord_length]; exact hsz)
    rwa [optRecord_length, ← optEnc_some] at this

/-! ### properties of the spec's scan used below -/

/-- the state of the spec's scan of the additional section (EDNS flag, UDP limit) changes only at an
    OPT record: the scan ends with the state it started with, and then not with BADVERS, or with the
    flag set and the limit it started with or one an OPT negotiated -/
theorem scanAr_state (msg : Bytes) (S n total pos : Nat) (e : Bool) (lim : Nat) :
    ((Spec.Server.scanAr msg S n total pos e lim).2 = (e, lim) ∧
        ∀ e' l', Spec.Server.scanAr msg S n total pos e lim ≠ (.badVers, e', l')) ∨
    ((Spec.Server.scanAr msg S n total pos e lim).2.1 = true ∧
      ((Spec.Server.scanAr msg S n total pos e lim).2.2 = lim ∨
        ∃ c, (Spec.Server.scanAr msg S n total pos e lim).2.2 = max 512 (min c S))) := by
  fun_induction Spec.Server.scanAr msg S n total pos e lim
  -- the scan ends with the state it has: no record left, a record that cannot be delimited, a second
  -- OPT, a TSIG record
  case case1 | case2 | case3 | case9 | case10 | case11 | case12 | case13 => exact .inl ⟨rfl, nofun⟩
  -- it ends at a first OPT it rejects: the flag is set, the limit is the old or the negotiated one
  case case4 | case5 => exact .inr ⟨rfl, .inl rfl⟩
  case case6 | case7 => exact .inr ⟨rfl, .inr ⟨_, rfl⟩⟩
  -- it goes on after a first OPT with the flag set and the negotiated limit
  case case8 ih =>
    rcases ih with ⟨h, _⟩ | ⟨h1, h2 | h2⟩
    · exact .inr ⟨by rw [h], .inr ⟨_, by rw [h]⟩⟩
    · exact .inr ⟨h1, .inr ⟨_, h2⟩⟩
    · exact .inr ⟨h1, .inr h2⟩
  -- it goes on after any other record with the state it has
  case case14 ih => exact ih

/-- along the spec's scan of the additional section the UDP limit stays between 512 and the larger of
    512 and the server's size, and BADVERS is only reached on an EDNS request -/
theorem scanAr_props (msg : Bytes) (S : Nat) (n total pos : Nat) (e : Bool) (lim : Nat)
    (h1 : 512 ≤ lim) (h2 : lim ≤ max 512 S) (en : Spec.Server.ArEnd) (e' : Bool) (l' : Nat)
    (h : Spec.Server.scanAr msg S n total pos e lim = (en, e', l')) :
    (en = .badVers → e' = true) ∧ 512 ≤ l' ∧ l' ≤ max 512 S := by
  have hs := scanAr_state msg S n total pos e lim
  rw [h] at hs
  rcases hs with ⟨hs, hb⟩ | ⟨hs, hl | ⟨c, hl⟩⟩
  · obtain ⟨rfl, rfl⟩ := Prod.mk.inj hs
    exact ⟨fun hv => absurd (by rw [hv]) (hb e' l'), h1, h2⟩
  · have hl : l' = lim := hl
    exact ⟨fun _ => hs, by omega, by omega⟩
  · have hl : l' = max 512 (min c S) := hl
    exact ⟨fun _ => hs, by omega, by omega⟩

theorem specTail_props (lookup : List UInt8 → Nat → Option Spec.Server.ZoneKind) (S : Nat) (msg : Bytes)
    (q : Option Spec.DQuestion) (p1 an ns ar op : Nat) :
    ((specTail lookup S msg q p1 an ns ar op).verdict = .badVers →
      (specTail lookup S msg q p1 an ns ar op).edns = true) ∧
    512 ≤ (specTail lookup S msg q p1 an ns ar op).limitUdp ∧
    (specTail lookup S msg q p1 an ns ar op).limitUdp ≤ max 512 S ∧
    (specTail lookup S msg q p1 an ns ar op).question = q := by
  rw [specTail_eq]
  cases Spec.Server.scanPlain msg (an + ns) p1 with
  | none => exact ⟨fun h => (by cases h), Nat.le_refl _, Nat.le_max_left _ _, rfl⟩
  | some p2 =>
    simp only
    rcases hres : Spec.Server.scanAr msg S ar ar p2 false 512 with ⟨en, e, l⟩
    obtain ⟨hbv, hl1, hl2⟩ := scanAr_props msg S ar ar p2 false 512 (Nat.le_refl _) (Nat.le_max_left _ _) en e l hres
    refine ⟨fun hv => ?_, hl1, hl2, trivial⟩
    cases en with
    | badVers => exact hbv rfl
    | done p3 =>
      rcases endVerdict_range lookup msg.size q p3 op with h | h | h | h | h <;> exact absurd (h.symm.trans hv) nofun
    | formErr => cases hv
    | tsig => cases hv

theorem specBody_props (lookup : List UInt8 → Nat → Option Spec.Server.ZoneKind) (S : Nat) (msg : Bytes) :
    ((specBody lookup S msg).verdict = .badVers → (specBody lookup S msg).edns = true) ∧
    512 ≤ (specBody lookup S msg).limitUdp ∧ (specBody lookup S msg).limitUdp ≤ max 512 S := by
  unfold specBody
  split
  · simp; omega
  · simp only
    split
    · simp; omega
    · rename_i q p1 _
      have := specTail_props lookup S msg q p1 (Spec.Server.hdr msg 6) (Spec.Server.hdr msg 8)
        (Spec.Server.hdr msg 10) ((msg.getD 2 0).toNat / 8 % 16)
      exact ⟨this.1, this.2.1, this.2.2.1⟩

/-! ### the writer state the verdict dictates, field by field -/

theorem arSt_fields (s1 : State) (tr : Server.Transport) (p : Nat) (e : Bool) (l : Nat) :
    (arSt s1 tr p e l).octets = s1.octets ∧ (arSt s1 tr p e l).cursor = s1.cursor ∧
    (arSt s1 tr p e l).tsig = s1.tsig ∧ (arSt s1 tr p e l).qdcount = s1.qdcount ∧
    (arSt s1 tr p e l).ancount = s1.ancount ∧ (arSt s1 tr p e l).nscount = s1.nscount ∧
    (arSt s1 tr p e l).arcount = s1.arcount + (if e then 1 else 0) ∧
    (arSt s1 tr p e l).edns = (if e then some ⟨p, 0⟩ else s1.edns) := by
  cases e <;> cases tr <;> simp [arSt, stEdns, stLimit]

theorem arSt_avail (s1 : State) (tr : Server.Transport) (p l : Nat) (hb : Base s1 tr p)
    (hl1 : 512 ≤ l) (hl2 : l ≤ max 512 p) :
    (arSt s1 tr p true l).cursor ≤ (arSt s1 tr p true l).available ∧
    (arSt s1 tr p true l).available + 11 ≤ (arSt s1 tr p true l).octets.size := by
  have h1 := hb.room
  have h2 := hb.avail
  have h3 := hb.lim
  have h4 := hb.sizeL
  cases tr with
  | udp =>
    obtain ⟨b1, b2⟩ := hb.buf rfl
    simp only [lim0] at h3
    simp only [arSt, stEdns, stLimit, if_true, Gen.OPT_RECORD_SIZE]
    omega
  | tcp =>
    simp only [lim0] at h3
    simp only [arSt, stEdns, if_true, Gen.OPT_RECORD_SIZE]
    omega

/-- the writer `F` handed to `finish`, relative to the writer `s1` after the question: the RCODE octet
    is `rc`, the OPT slot is on iff `e` (upper RCODE bits `up`), the TSIG slot is `ts`, ARCOUNT counts
    both; everything else `finish` looks at is as in `s1` -/
structure FinalSt (s1 F : State) (rc up : Nat) (e : Bool) (payload : Nat) (ts : Option Writer.Tsig) : Prop where
  tsig : F.tsig = ts
  edns : F.edns = if e then some ⟨payload, up⟩ else none
  cur : F.cursor = s1.cursor
  octets : F.octets = s1.octets.setIfInBounds 3 (UInt8.ofNat rc)
  qd : F.qdcount = s1.qdcount
  an : F.ancount = s1.ancount
  ns : F.nscount = s1.nscount
  ar : F.arcount = s1.arcount + (if e then 1 else 0) + (if ts.isSome then 1 else 0)

namespace FinalSt
variable {s1 F : State} {rc up : Nat} {e : Bool} {payload : Nat} {ts : Option Writer.Tsig}

theorem oct (h : FinalSt s1 F rc up e payload ts) {i : Nat} (hi : i ≠ 3) : F.octets[i]? = s1.octets[i]? := by
  rw [h.octets, Array.getElem?_setIfInBounds, if_neg (fun e => hi e.symm)]

theorem o3 (h : FinalSt s1 F rc up e payload ts) (hs3 : 3 < s1.octets.size) :
    F.octets[3]? = some (UInt8.ofNat rc) := by
  rw [h.octets, Array.getElem?_setIfInBounds]; simp [hs3]

theorem size (h : FinalSt s1 F rc up e payload ts) : F.octets.size = s1.octets.size := by
  rw [h.octets, Array.size_setIfInBounds]

end FinalSt

/-- room for the OPT record that `finish` appends -/
def OptRoom (F : State) : Prop := F.cursor ≤ F.available ∧ F.available + 11 ≤ F.octets.size

theorem final_rcode (s1 : State) (tr : Server.Transport) (payload : Nat) (e : Bool) (l rc : Nat) (hrc : rc < 16)
    (hb : Base s1 tr payload) (h30 : s1.octets.getD 3 0 = 0) (hl1 : 512 ≤ l) (hl2 : l ≤ max 512 payload) :
    FinalSt s1 (stRcode rc (arSt s1 tr payload e l)) rc 0 e payload none ∧
    (e = true → OptRoom (stRcode rc (arSt s1 tr payload e l))) := by
  have hts := hb.tsig
  have hed := hb.edns
  have k1 : ∀ rc : Nat, rc < 16 → ((0 : UInt8) &&& ~~~15 ||| UInt8.ofNat rc) = UInt8.ofNat rc := by decide
  cases e with
  | false =>
    have hS : arSt s1 tr payload false l = s1 := rfl
    rw [hS]
    refine ⟨⟨?_, ?_, ?_, ?_, ?_, ?_, ?_, ?_⟩, nofun⟩ <;> simp [stRcode, stHdr, hed, hts, h30]
  | true =>
    obtain ⟨f1, f2, f3, f4, f5, f6, f7, f8⟩ := arSt_fields s1 tr payload true l
    obtain ⟨a1, a2⟩ := arSt_avail s1 tr payload l hb hl1 hl2
    simp only [if_true] at f7 f8
    have hoct : (stHdr 3 (fun b => b &&& ~~~15 ||| UInt8.ofNat rc) (arSt s1 tr payload true l)).edns =
        some ⟨payload, 0⟩ := f8
    have hS : stRcode rc (arSt s1 tr payload true l) =
        { stHdr 3 (fun b => b &&& ~~~15 ||| UInt8.ofNat rc) (arSt s1 tr payload true l) with
          edns := some ⟨payload, 0⟩ } := by
      simp only [stRcode, hoct]
    rw [hS]
    refine ⟨⟨?_, ?_, ?_, ?_, ?_, ?_, ?_, ?_⟩, fun _ => ⟨?_, ?_⟩⟩ <;>
      simp only [stHdr, f1, f2, f3, f4, f5, f6, f7, h30, k1 rc hrc, hts, Array.size_setIfInBounds, if_true,
        Option.isSome_none, Bool.false_eq_true, if_false, Nat.add_zero]
    · rw [f2] at a1; exact a1
    · rw [f1] at a2; exact a2

theorem final_xrcode (s1 : State) (tr : Server.Transport) (payload : Nat) (l : Nat)
    (hb : Base s1 tr payload) (h30 : s1.octets.getD 3 0 = 0) (hl1 : 512 ≤ l) (hl2 : l ≤ max 512 payload) :
    FinalSt s1 (stXRcode 16 ⟨payload, 0⟩ (arSt s1 tr payload true l)) 0 1 true payload none ∧
    OptRoom (stXRcode 16 ⟨payload, 0⟩ (arSt s1 tr payload true l)) := by
  have hts := hb.tsig
  have k2 : ((0 : UInt8) &&& ~~~15 ||| (UInt8.ofNat (16 % 256) &&& 15)) = UInt8.ofNat 0 := by decide
  obtain ⟨f1, f2, f3, f4, f5, f6, f7, f8⟩ := arSt_fields s1 tr payload true l
  obtain ⟨a1, a2⟩ := arSt_avail s1 tr payload l hb hl1 hl2
  simp only [if_true] at f7
  refine ⟨⟨?_, ?_, ?_, ?_, ?_, ?_, ?_, ?_⟩, ?_, ?_⟩ <;>
    simp only [stXRcode, stHdr, f1, f2, f3, f4, f5, f6, f7, h30, k2, hts, Array.size_setIfInBounds, if_true,
      Option.isSome_none, Bool.false_eq_true, if_false, Nat.add_zero]
  · rw [f2] at a1; exact a1
  · rw [f1] at a2; exact a2

theorem finalOf_props (s1 : State) (tr : Server.Transport) (payload : Nat) (sc : Spec.Server.Scan)
    (hb : Base s1 tr payload) (h30 : s1.octets.getD 3 0 = 0)
    (hv : noDataV sc.verdict = true) (hbv : sc.verdict = .badVers → sc.edns = true)
    (hl1 : 512 ≤ sc.limitUdp) (hl2 : sc.limitUdp ≤ max 512 payload) :
    FinalSt s1 (finalOf s1 tr payload sc) (Spec.Server.verdictRcode sc.verdict).1 (Spec.Server.verdictRcode sc.verdict).2
      sc.edns payload none ∧
    (sc.edns = true → OptRoom (finalOf s1 tr payload sc)) := by
  unfold finalOf
  cases hverd : sc.verdict with
  | answer => rw [hverd] at hv; cases hv
  | tsigReached => rw [hverd] at hv; cases hv
  | badVers =>
    rw [hbv hverd]
    exact ⟨(final_xrcode s1 tr payload sc.limitUdp hb h30 hl1 hl2).1,
      fun _ => (final_xrcode s1 tr payload sc.limitUdp hb h30 hl1 hl2).2⟩
  | formErr => exact final_rcode s1 tr payload sc.edns sc.limitUdp 1 (by omega) hb h30 hl1 hl2
  | notImp => exact final_rcode s1 tr payload sc.edns sc.limitUdp 4 (by omega) hb h30 hl1 hl2
  | refused => exact final_rcode s1 tr payload sc.edns sc.limitUdp 5 (by omega) hb h30 hl1 hl2
  | servFailZone => exact final_rcode s1 tr payload sc.edns sc.limitUdp 2 (by omega) hb h30 hl1 hl2


/-! ### the response octets for the verdicts the scan decides alone -/

theorem u16be_hdr (a b : UInt8) : u16be (a.toNat * 256 + b.toNat) = [a, b] := by
  have := a.toNat_lt
  have := b.toNat_lt
  have e1 : (a.toNat * 256 + b.toNat) / 256 % 256 = a.toNat := by omega
  have e2 : (a.toNat * 256 + b.toNat) % 256 = b.toNat := by omega
  simp [u16be, e1, e2]

/-- the two octets of a header field, recovered from its value -/
theorem hdr_octets (m : Bytes) (i : Nat) : UInt8.ofNat (Spec.Server.hdr m i / 256 % 256) = m.getD i 0 ∧
    UInt8.ofNat (Spec.Server.hdr m i % 256) = m.getD (i + 1) 0 := by
  have h := u16be_hdr (m.getD i 0) (m.getD (i + 1) 0)
  unfold u16be at h
  exact ⟨(List.cons.inj h).1, (List.cons.inj (List.cons.inj h).2).1⟩

theorem h2_spec : ∀ x : UInt8, h2val ((x.toNat &&& 120) >>> 3) ((x.toNat &&& 1) != 0) =
    128 ||| (x &&& 120) ||| (if x.toNat / 8 % 16 = 0 then x &&& 1 else 0) := by
  apply forall_uint8; decide +kernel

theorem specBody_question (lookup : List UInt8 → Nat → Option Spec.Server.ZoneKind) (S : Nat) (msg : Bytes)
    (q : Spec.DQuestion) (h : (specBody lookup S msg).question = some q) :
    ∃ nx, Spec.specQuestionAt msg 12 = some (q.qname, q.qtype, q.qclass, nx) := by
  unfold specBody at h
  split at h
  · cases h
  · simp only at h
    split at h
    · cases h
    · rename_i q' p1 hq'
      rw [(specTail_props lookup S msg q' p1 _ _ _ _).2.2.2] at h
      subst h
      split at hq'
      · cases hq'
      · split at hq'
        · rename_i w t c nx hsq
          simp only [Option.some.injEq, Prod.mk.injEq] at hq'
          obtain ⟨h1, h2⟩ := hq'
          cases h1
          exact ⟨nx, hsq⟩
        · cases hq'

theorem specScanWith_question (lookup : List UInt8 → Nat → Option Spec.Server.ZoneKind) (S : Nat) (msg : Bytes)
    (q : Spec.DQuestion) (h : (Spec.Server.specScanWith lookup S msg).question = some q) :
    ∃ nx, Spec.specQuestionAt msg 12 = some (q.qname, q.qtype, q.qclass, nx) := by
  rw [specScanWith_eq] at h
  split at h
  · cases h
  · split at h
    · cases h
    · exact specBody_question lookup S msg q h

/-- the question octets the response carries -/
def qOctets (q : Option Spec.DQuestion) : List UInt8 :=
  match q with
  | none => []
  | some q => q.qname ++ (u16be q.qtype ++ u16be q.qclass)

/-- the writer `s1` after the question `q` (if any) has been added to the header copy, as far as the
    rest of the handler and `finish` are concerned: the base state of the scan, and its octets -/
structure S1Facts (bufLen : Nat) (tr : Server.Transport) (payload id opcode : Nat) (rd : Bool)
    (q : Option Spec.DQuestion) (s1 : State) : Prop where
  base : Base s1 tr payload
  cur : s1.cursor = 12 + (qOctets q).length
  o0 : s1.octets[0]? = some (UInt8.ofNat (id / 256 % 256))
  o1 : s1.octets[1]? = some (UInt8.ofNat (id % 256))
  o2 : s1.octets[2]? = some (h2val opcode rd)
  o3 : s1.octets.getD 3 0 = 0
  size3 : 3 < s1.octets.size
  body : ∀ j, j < (qOctets q).length → s1.octets[12 + j]? = (qOctets q)[j]?
  qd : s1.qdcount = (if q.isSome then 1 else 0)
  an : s1.ancount = 0
  ns : s1.nscount = 0
  ar : s1.arcount = 0
  rrStart : s1.rrStart = 12 + (qOctets q).length
  size : s1.octets.size = bufLen

theorem s1_facts (bufLen : Nat) (tr : Server.Transport) (payload id opcode : Nat) (rd : Bool)
    (hbuf : minBuf tr payload ≤ bufLen) (hpay : 512 ≤ payload) (msg : Bytes)
    (q : Option Spec.DQuestion)
    (hq : ∀ x, q = some x → ∃ nx, Spec.specQuestionAt msg 12 = some (x.qname, x.qtype, x.qclass, nx)) :
    S1Facts bufLen tr payload id opcode rd q (qSt (hdrSt (w0 bufLen (lim0 tr)) id opcode rd) q) := by
  have hH := hdrSt_ok bufLen tr payload id opcode rd hbuf hpay
  have hB : 3 < bufLen := by cases tr <;> simp only [minBuf] at hbuf <;> omega
  have hszH : (hdrSt (w0 bufLen (lim0 tr)) id opcode rd).octets.size = bufLen := by rw [hdrSt_size, w0_size]
  have hg := hdrSt_get bufLen (lim0 tr) id opcode rd hB
  -- the four octets of the header-only writer that the question does not touch
  have g0 : (hdrSt (w0 bufLen (lim0 tr)) id opcode rd).octets[0]? = some (UInt8.ofNat (id / 256 % 256)) := by
    rw [hg]; rfl
  have g1 : (hdrSt (w0 bufLen (lim0 tr)) id opcode rd).octets[1]? = some (UInt8.ofNat (id % 256)) := by
    rw [hg]; rfl
  have g2 : (hdrSt (w0 bufLen (lim0 tr)) id opcode rd).octets[2]? = some (h2val opcode rd) := by
    rw [hg]; rfl
  have g3 : (hdrSt (w0 bufLen (lim0 tr)) id opcode rd).octets[3]? = some 0 := by
    rw [hg, if_neg (by omega), if_neg (by omega), if_neg (by omega), if_pos hB]
  cases q with
  | none =>
    show S1Facts bufLen tr payload id opcode rd none (hdrSt (w0 bufLen (lim0 tr)) id opcode rd)
    exact ⟨base_of_hdr _ _ _ hH, hH.cursor, g0, g1, g2, by rw [getD_eq, g3]; rfl, by rw [hszH]; exact hB,
      fun j hj => (by cases hj), hH.qd, hH.an, hH.ns, hH.ar, hH.rrStart, hszH⟩
  | some x =>
    obtain ⟨nx, hsq⟩ := hq x rfl
    obtain ⟨p, hp, hpw, _, _, hwl⟩ := specQuestionAt_some msg 12 _ _ _ nx hsq
    obtain ⟨qn, hqn, hqw⟩ := wname_of_parse msg 12 p hp
    rw [hpw] at hqn hqw
    obtain ⟨_, hbase, hoct, hcur, hqd, han, hns, har, hrrs⟩ := qSt_some _ tr payload hH x qn hqn hqw hwl
    let s1 := qSt (hdrSt (w0 bufLen (lim0 tr)) id opcode rd) (some x)
    have hlen : (qOctets (some x)).length = x.qname.length + 4 := by
      simp [qOctets, u16be_length]
    have hmerge : s1.octets = writeAt (hdrSt (w0 bufLen (lim0 tr)) id opcode rd).octets 12 (qOctets (some x)) := by
      show (qSt _ (some x)).octets = _
      rw [hoct, writeAt_append' _ _ _ _ _ (by rw [u16be_length]), writeAt_append' _ _ _ _ _ rfl]
      rfl
    have hsz1 : s1.octets.size = bufLen := by rw [hmerge, writeAt_size, hszH]
    have h512 := hH.lim512
    have hsl := hH.size
    have hfit : 12 + (qOctets (some x)).length ≤ bufLen := by rw [hlen]; rw [hszH] at hsl; omega
    have hlow : ∀ i, i < 12 → s1.octets[i]? = (hdrSt (w0 bufLen (lim0 tr)) id opcode rd).octets[i]? := by
      intro i hi
      rw [hmerge, writeAt_getElem?, if_neg (by omega)]
    refine ⟨hbase, by rw [hlen]; exact hcur, (hlow 0 (by omega)).trans g0, (hlow 1 (by omega)).trans g1,
      (hlow 2 (by omega)).trans g2, by rw [getD_eq, hlow 3 (by omega), g3]; rfl, by rw [hsz1]; exact hB, ?_,
      by rw [hqd]; rfl, by rw [han]; exact hH.an, by rw [hns]; exact hH.ns, har, by rw [hlen]; exact hrrs, hsz1⟩
    · intro j hj
      rw [hmerge, writeAt_getElem?, if_pos (by rw [hszH]; omega)]
      congr 1; omega

/-- a request the spec's scan `sc` responds to, as the handler sees it: a full header with QR clear,
    the scan's UDP limit within bounds, BADVERS only on an EDNS request, and the writer `s1` after
    the scan's question -/
structure ScanFacts (cfg : Server.Cfg) (tr : Server.Transport) (bufLen : Nat) (req : Bytes)
    (sc : Spec.Server.Scan) (s1 : State) : Prop where
  h12 : 12 ≤ req.size
  hqr : (req.getD 2 0).toNat < 128
  body : sc = specBody (catKind cfg) cfg.payload req
  badVers : sc.verdict = .badVers → sc.edns = true
  lim512 : 512 ≤ sc.limitUdp
  limMax : sc.limitUdp ≤ max 512 cfg.payload
  s1 : S1Facts bufLen tr cfg.payload (Spec.Server.hdr req 0) (((req.getD 2 0).toNat &&& 120) >>> 3)
    (((req.getD 2 0).toNat &&& 1) != 0) sc.question s1

theorem scan_facts (cfg : Server.Cfg) (tr : Server.Transport) (bufLen : Nat) (req : Bytes)
    (hbuf : minBuf tr cfg.payload ≤ bufLen) (hpay : 512 ≤ cfg.payload)
    (hr : (Spec.Server.specScanWith (catKind cfg) cfg.payload req).respond = true) :
    ScanFacts cfg tr bufLen req (Spec.Server.specScanWith (catKind cfg) cfg.payload req)
      (qSt (hdrSt (w0 bufLen (lim0 tr)) (Spec.Server.hdr req 0) (((req.getD 2 0).toNat &&& 120) >>> 3)
        (((req.getD 2 0).toNat &&& 1) != 0)) (Spec.Server.specScanWith (catKind cfg) cfg.payload req).question) := by
  obtain ⟨h12, hqr, hsc⟩ := specScanWith_respond _ _ _ hr
  rw [hsc]
  obtain ⟨p1, p2, p3⟩ := specBody_props (catKind cfg) cfg.payload req
  exact ⟨h12, hqr, rfl, p1, p2, p3, s1_facts bufLen tr cfg.payload _ _ _ hbuf hpay req _
    (specBody_question (catKind cfg) cfg.payload req)⟩

theorem optRecord_spec (payload up : Nat) (h : up = 0 ∨ up = 1) :
    optRecord ⟨payload, up⟩ = [0, 0, 41] ++ u16be payload ++ [UInt8.ofNat up, 0, 0, 0, 0, 0] := by
  rcases h with rfl | rfl <;> simp [optRecord, u16be, u32be]

theorem take4_of_get (a : Bytes) (o0 o1 o2 o3 : UInt8) (h0 : a[0]? = some o0) (h1 : a[1]? = some o1)
    (h2 : a[2]? = some o2) (h3 : a[3]? = some o3) : a.toList.take 4 = [o0, o1, o2, o3] := by
  apply List.ext_getElem?
  intro i
  rw [List.getElem?_take]
  by_cases hi : i < 4
  · rw [if_pos hi, Array.getElem?_toList]
    have : i = 0 ∨ i = 1 ∨ i = 2 ∨ i = 3 := by omega
    rcases this with rfl | rfl | rfl | rfl
    · rw [h0]; rfl
    · rw [h1]; rfl
    · rw [h2]; rfl
    · rw [h3]; rfl
  · rw [if_neg hi]
    exact (List.getElem?_eq_none (by simp; omega)).symm

/-- the flags octet that carries QR, opcode, AA, TC, RD in a response to a request whose
    corresponding octet is `x` -/
def hdr2 (x : UInt8) : UInt8 := 128 ||| (x &&& 120) ||| (if x.toNat / 8 % 16 = 0 then x &&& 1 else 0)

/-- **what the finished message of a final writer holds before the TSIG record (if any)**, in the response
    to `req`: the header (ID and opcode echoed, QR, RD for QUERY, the RCODE `rc`, QDCOUNT, ANCOUNT = NSCOUNT = 0,
    ARCOUNT counting the OPT and the TSIG), the question, and the OPT record iff `e` -/
theorem FinalSt.prefix {s1 F : State} {rc up : Nat} {e : Bool} {payload : Nat} {ts : Option Writer.Tsig} {bufLen : Nat}
    {tr : Server.Transport} {req : Bytes} {q : Option Spec.DQuestion} (hF : FinalSt s1 F rc up e payload ts)
    (h1 : S1Facts bufLen tr payload (Spec.Server.hdr req 0) (((req.getD 2 0).toNat &&& 120) >>> 3)
      (((req.getD 2 0).toNat &&& 1) != 0) q s1) (hup : up = 0 ∨ up = 1) :
    finishPrefix F ++ optEnc F.edns =
      [req.getD 0 0, req.getD 1 0, hdr2 (req.getD 2 0), UInt8.ofNat rc, 0, (if q.isSome then 1 else 0), 0, 0, 0, 0, 0,
        (if e then 1 else 0) + (if ts.isSome then 1 else 0)] ++ qOctets q ++
      (if e then [0, 0, 41] ++ u16be payload ++ [UInt8.ofNat up, 0, 0, 0, 0, 0] else []) := by
  have t4 := take4_of_get F.octets _ _ _ _ (by rw [hF.oct (by omega)]; exact h1.o0)
    (by rw [hF.oct (by omega)]; exact h1.o1) (by rw [hF.oct (by omega)]; exact h1.o2) (hF.o3 h1.size3)
  have tq : (F.octets.extract 12 F.cursor).toList = qOctets q := by
    rw [hF.cur, h1.cur]
    exact bytesAt_extract fun j hj => by rw [hF.oct (by omega)]; exact h1.body j hj
  obtain ⟨e0, e1⟩ := hdr_octets req 0
  unfold finishPrefix
  rw [t4, tq, hF.qd, hF.an, hF.ns, hF.ar, h1.qd, h1.an, h1.ns, h1.ar, hF.edns, e0, e1, h2_spec]
  cases q <;> cases e <;> cases ts <;> simp [qOctets, u16be, optEnc_some, show optEnc none = [] from rfl, optRecord_spec _ _ hup, hdr2]

/-- **the response for a verdict the scan decides alone is `finish` of the writer `finalOf` dictates**, a
    final writer over the scan's `s1`: it exists, and holds that writer's content and then its OPT record -/
theorem handleMessage_noData_final (cfg : Server.Cfg) (tr : Server.Transport) (now bufLen : Nat) (req : Bytes)
    (hbuf : minBuf tr cfg.payload ≤ bufLen) (hpay : 512 ≤ cfg.payload) (hreq : req.size ≤ Rdata.USIZE_MAX)
    (hr : (Spec.Server.specScanWith (catKind cfg) cfg.payload req).respond = true)
    (hv : noDataV (Spec.Server.specScanWith (catKind cfg) cfg.payload req).verdict = true) :
    ∃ s1 F b, s1 = qSt (hdrSt (w0 bufLen (lim0 tr)) (Spec.Server.hdr req 0) (((req.getD 2 0).toNat &&& 120) >>> 3)
          (((req.getD 2 0).toNat &&& 1) != 0)) (Spec.Server.specScanWith (catKind cfg) cfg.payload req).question ∧
      F = finalOf s1 tr cfg.payload (Spec.Server.specScanWith (catKind cfg) cfg.payload req) ∧
      FinalSt s1 F (Spec.Server.verdictRcode (Spec.Server.specScanWith (catKind cfg) cfg.payload req).verdict).1
        (Spec.Server.verdictRcode (Spec.Server.specScanWith (catKind cfg) cfg.payload req).verdict).2
        (Spec.Server.specScanWith (catKind cfg) cfg.payload req).edns cfg.payload none ∧
      Server.handleMessage cfg tr now bufLen req = .ok (some b) ∧ Writer.finish F Server.macFn = .ok (b, none) ∧
      b.toList = finishPrefix F ++ optEnc F.edns := by
  have hG := scan_facts cfg tr bufLen req hbuf hpay hr
  have hw := hwc_spec cfg tr now req hG.h12 _ (hdrSt_ok bufLen tr cfg.payload (Spec.Server.hdr req 0)
    (((req.getD 2 0).toNat &&& 120) >>> 3) (((req.getD 2 0).toNat &&& 1) != 0) hbuf hpay) hreq
  rw [← hG.body] at hw
  have hm := handleMessage_eq cfg tr now bufLen req hbuf hpay hG.h12 hG.hqr
  rw [hw hr hv] at hm
  have h1 := hG.s1
  obtain ⟨hF, g9⟩ := finalOf_props _ tr cfg.payload _ h1.base h1.o3 hv hG.badVers hG.lim512 hG.limMax
  generalize hFe : finalOf _ tr cfg.payload _ = F at hF g9 hm
  have hfit : F.cursor + 11 ≤ F.octets.size := by
    have := h1.base.room; have := h1.base.avail; have := h1.base.sizeL; rw [hF.cur, hF.size]; omega
  obtain ⟨b, hfin, hb⟩ := finish_unsigned F Server.macFn hF.tsig (by rw [hF.cur, h1.cur]; omega) hfit fun he =>
    g9 (by rw [hF.edns] at he; cases hE : (Spec.Server.specScanWith (catKind cfg) cfg.payload req).edns <;> simp_all)
  exact ⟨_, F, b, rfl, hFe.symm, hF, by rw [hm]; simp only [hfin], hfin, hb⟩

/-- **the response for the verdicts the scan decides alone**: for every request that the spec's scan
    answers with FORMERR, BADVERS, NOTIMP, REFUSED or SERVFAIL-for-a-zone-not-loaded, over either
    transport and for every configuration, `handle_message` returns exactly the octets
    `specErrorResponse` prescribes -/
theorem handleMessage_noData (cfg : Server.Cfg) (tr : Server.Transport) (now bufLen : Nat) (req : Bytes)
    (hbuf : minBuf tr cfg.payload ≤ bufLen) (hpay : 512 ≤ cfg.payload) (hreq : req.size ≤ Rdata.USIZE_MAX)
    (hr : (Spec.Server.specScanWith (catKind cfg) cfg.payload req).respond = true)
    (hv : noDataV (Spec.Server.specScanWith (catKind cfg) cfg.payload req).verdict = true) :
    ∃ b, Server.handleMessage cfg tr now bufLen req = .ok (some b) ∧
      b.toList = Spec.Server.specErrorResponse req cfg.payload
        (Spec.Server.specScanWith (catKind cfg) cfg.payload req) := by
  obtain ⟨s1, F, b, rfl, _, hF, hb, _, hl⟩ := handleMessage_noData_final cfg tr now bufLen req hbuf hpay hreq hr hv
  refine ⟨b, hb, ?_⟩
  have h1 := (scan_facts cfg tr bufLen req hbuf hpay hr).s1
  generalize Spec.Server.specScanWith (catKind cfg) cfg.payload req = sc at *
  have hup : (Spec.Server.verdictRcode sc.verdict).2 = 0 ∨ (Spec.Server.verdictRcode sc.verdict).2 = 1 := by
    cases sc.verdict <;> simp [Spec.Server.verdictRcode]
  rw [hl, hF.prefix h1 hup]
  unfold Spec.Server.specErrorResponse
  cases sc.question <;> cases sc.edns <;> simp [qOctets, hdr2]

end QV.ServerScan
