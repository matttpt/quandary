/-
  QV.Proofs.RequestView — the request-side link of C10 (1a): on a request whose scan reaches an
  acceptable TSIG record (`specScanWith … = tsigReached`), the audit's own walk
  `Spec.ServerTsig.findTsig` ends at that very record, and it is the record whose `ReadTsigRr` the run
  of `handle_message` works with (both in `tsigRun_view`; `walk_scanPlain` and `walk_scanAr` take the
  walk along the specification's scan).
-/
import QV.Spec.ServerTsig
import QV.Proofs.ScanRefine
import QV.Proofs.ScanTsigCont
import QV.Proofs.ServerSignedTable

namespace QV.ServerScan
open QV QV.Spec.Server QV.Spec.ServerTsig QV.Wire QV.Reader QV.Writer

/-- what the delimitation of a record says about its extent -/
theorem delim_extent (req : Bytes) (pos : Nat) (d : Spec.Server.Delim) (h : Spec.Server.specDelimit req pos = some d) :
    d.pos = pos ∧ d.next = d.ownerEnd + 10 + d.rdlen ∧ d.next ≤ req.size := by
  rw [specDelimit_eq] at h
  split at h
  · split at h
    · rename_i hc
      simp only [Option.some.injEq] at h
      rw [← h]
      exact ⟨rfl, rfl, hc.2⟩
    · cases h
  · cases h

theorem delim_ownerEnd (req : Bytes) (pos : Nat) (d : Spec.Server.Delim) (h : Spec.Server.specDelimit req pos = some d) :
    d.pos ≤ d.ownerEnd := by
  rw [specDelimit_eq] at h
  split at h
  · split at h
    · simp only [Option.some.injEq] at h; rw [← h]; simp
    · cases h
  · cases h

/-- a record ends behind its start -/
theorem delim_next_ge (req : Bytes) (pos : Nat) (d : Delim) (h : specDelimit req pos = some d) : pos ≤ d.next := by
  obtain ⟨e1, e2, _⟩ := delim_extent req pos d h
  have := delim_ownerEnd req pos d h
  omega

theorem walk_pos_ge (msg : Bytes) : ∀ (n pos : Nat) (d : Delim), walk msg n pos = some d → pos ≤ d.pos := by
  intro n pos d h
  fun_induction walk msg n pos
  case case1 | case2 => cases h
  case case3 pos _ hd => cases h; exact Nat.le_of_eq (delim_extent msg pos _ hd).1.symm
  case case4 _ pos d0 hd _ ih => exact Nat.le_trans (delim_next_ge msg pos d0 hd) (ih h)

theorem scanPlain_ge (msg : Bytes) : ∀ (n pos p2 : Nat), scanPlain msg n pos = some p2 → pos ≤ p2 := by
  intro n pos p2 h
  fun_induction scanPlain msg n pos
  case case1 => cases h; exact Nat.le_refl _
  case case2 | case3 => cases h
  case case4 _ pos d0 hd _ ih => exact Nat.le_trans (delim_next_ge msg pos d0 hd) (ih h)

/-- the walk passes over the answer / authority records the scan accepted -/
theorem walk_scanPlain (msg : Bytes) : ∀ (n pos p2 m : Nat), scanPlain msg n pos = some p2 → 1 ≤ m →
    walk msg (n + m) pos = walk msg m p2 := by
  intro n pos p2 m h hm
  fun_induction scanPlain msg n pos
  case case1 => cases h; rw [Nat.zero_add]
  case case2 | case3 => cases h
  case case4 n pos d hd _ ih =>
    rw [← ih h, show n + 1 + m = (n + m) + 1 by omega]
    simp only [walk, hd]
    rw [if_neg (by omega)]

/-- the walk steps over a record that is not the last -/
theorem walk_step (msg : Bytes) (n pos : Nat) (d dT : Delim) (hd : specDelimit msg pos = some d)
    (hw : walk msg n d.next = some dT) : walk msg (n + 1) pos = some dT := by
  simp only [walk, hd]
  by_cases hn : n = 0
  · subst hn; simp [walk] at hw
  · rw [if_neg hn]; exact hw

/-- the walk ends at the TSIG record the additional-section scan stops at -/
theorem walk_scanAr (msg : Bytes) (S : Nat) : ∀ (n total pos : Nat) (e : Bool) (lim : Nat) (e' : Bool) (l' : Nat),
    scanAr msg S n total pos e lim = (.tsig, e', l') →
    ∃ d, walk msg n pos = some d ∧ d.ty = 250 ∧ d.cls = 255 ∧ d.rawTtl = 0 ∧
      (Spec.specDecodeName msg d.pos).isSome ∧ tsigRdataOk msg (d.ownerEnd + 10) d.next = true ∧
      specDelimit msg d.pos = some d := by
  intro n total pos e lim e' l' h
  fun_induction scanAr msg S n total pos e lim
  -- the scan ends otherwise
  case case1 | case2 | case3 | case4 | case5 | case6 | case7 | case9 | case10 | case11 | case12 => cases h
  -- it ends at the TSIG record, the last one: the walk ends there too
  case case13 n _ pos _ _ d hd _ h250 hn _ hdn hok hcl =>
    have hdpos : d.pos = pos := (delim_extent msg pos d hd).1
    refine ⟨d, ?_, h250, by omega, by omega, by rw [hdpos, hdn]; rfl, by simpa using hok, by rw [hdpos]; exact hd⟩
    have hn : n = 0 := by omega
    simp [walk, hd, hn]
  -- it goes on after an OPT or any other record: so does the walk
  case case8 n _ pos _ _ d hd _ _ _ _ _ _ _ _ _ _ ih =>
    obtain ⟨dT, hw, rest⟩ := ih h
    exact ⟨dT, walk_step msg n pos d dT hd hw, rest⟩
  case case14 n _ pos _ _ d hd _ _ ih =>
    obtain ⟨dT, hw, rest⟩ := ih h
    exact ⟨dT, walk_step msg n pos d dT hd hw, rest⟩

/-! ### the model's TSIG record is the one the audit's walk finds -/

/-- **the run of `handle_message` on a signed request, with the TSIG record exposed**: the `t`, `mw`,
    `r'` of `TsigRun` are `ReadTsigRr::try_from` of the record `d` that the audit's `findTsig` finds,
    the request up to it, and the reader after it; `d` is the record the specification's scan stops at —
    TYPE 250, CLASS ANY, TTL 0, delimited at `d.pos`, after the header -/
theorem tsigRun_view (cfg : Server.Cfg) (tr : Server.Transport) (now bufLen : Nat) (req : Bytes)
    (hbuf : minBuf tr cfg.payload ≤ bufLen) (hpay : 512 ≤ cfg.payload) (hreq : req.size ≤ Rdata.USIZE_MAX)
    (hr : (Spec.Server.specScanWith (catKind cfg) cfg.payload req).respond = true)
    (hv : (Spec.Server.specScanWith (catKind cfg) cfg.payload req).verdict = .tsigReached) :
    ∃ t mw r' question d, ServerContent.TsigRun cfg tr now bufLen req t mw r' question ∧
      Spec.ServerTsig.findTsig req = some d ∧ TsigView req d t mw r' ∧
      d.ty = 250 ∧ d.cls = 255 ∧ d.rawTtl = 0 ∧ specDelimit req d.pos = some d ∧ 12 ≤ d.pos ∧
      1 ≤ Spec.Server.hdr req 10 := by
  obtain ⟨t, mw, r', question, h1, h2, hq, hm, p1, p2, d, hp1, hpl, ⟨e, l, hres⟩, hwalk, hview⟩ :=
    handleMessage_tsig_eq cfg tr now bufLen req hbuf hpay hreq hr hv
  have har1 : 1 ≤ Spec.Server.hdr req 10 := by
    by_cases h0 : Spec.Server.hdr req 10 = 0
    · rw [h0] at hwalk; simp [Spec.ServerTsig.walk] at hwalk
    · omega
  -- the specification's scan stops at the record the walk ends at
  obtain ⟨d', hw, g1, g2, g3, _, _, g6⟩ := walk_scanAr req _ _ _ _ _ _ _ _ hres
  rw [hwalk] at hw
  cases hw
  -- the audit's walk starts where the model's scan starts: after the question, if there is one
  have hp1ge : 12 ≤ p1 := by
    split at hp1
    · omega
    · obtain ⟨x, hx⟩ := hp1
      obtain ⟨p, _, _, hnx, _⟩ := specQuestionAt_some req 12 _ _ _ p1 hx
      omega
  have hpos12 : 12 ≤ d.pos := by
    have := scanPlain_ge req _ p1 p2 hpl
    have := walk_pos_ge req _ p2 d hwalk
    omega
  have hfind : Spec.ServerTsig.findTsig req = some d := by
    unfold Spec.ServerTsig.findTsig
    split at hp1
    · rename_i hq0
      subst hp1
      simp only [hq0, if_true]
      rw [walk_scanPlain req _ 12 p2 _ hpl har1]; exact hwalk
    · rename_i hq0
      obtain ⟨x, hx⟩ := hp1
      simp only [hq0, if_false, hx]
      rw [walk_scanPlain req _ p1 p2 _ hpl har1]; exact hwalk
  exact ⟨t, mw, r', question, d, ⟨h1, h2, hq, hm⟩, hfind, hview, g1, g2, g3, g6, hpos12, har1⟩

end QV.ServerScan
