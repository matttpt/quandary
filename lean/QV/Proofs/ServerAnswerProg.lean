/-
  QV.Proofs.ServerAnswerProg — the shape of the answer phase.

  Every function of `src/server/query.rs` below `handle_non_axfr_query` is built by `>>=` from
  `pure`, failure, panic, `set_aa`, `set_rcode(NXDOMAIN)` and the record-adding call (`add_*_rr`
  being `add_*_rrset` of one record, `PM.addRr1_eq`); the sections are visited in message order. `Prog Q m r r'` says so of `m`, with `Q` holding of every
  record-adding call. A property of the phase that is closed under these constructors (no capacity
  error, independence of the limit, commutation with a change of the TSIG slot, what the log can
  contain, …) follows by induction on `Prog`.
-/
import QV.Proofs.ServerAnswer

namespace QV.ServerAnswer
open QV QV.Writer QV.Server QV.Zone

/-- the sections of a response in message order, as the rank a record-adding call needs -/
def rrank : RrSection → Nat
  | .answer => 1
  | .authority => 2
  | .additional => 3

/-- `m` is built from the primitives of the answer phase; entered with the writer's section of rank
    at most `r` it leaves one of rank at most `r'`; every record-adding call satisfies `Q` (a
    predicate on what is handed to the writer: the recorded result is not looked at) -/
inductive Prog (Q : AddEv → Prop) : {α : Type} → PM α → Nat → Nat → Prop
  | pure {α} (a : α) (r : Nat) : Prog Q (Pure.pure a : PM α) r r
  | fail {α} (e : PErr) (r r' : Nat) : Prog Q (PM.fail e : PM α) r r'
  | panic {α} (r r' : Nat) : Prog Q (PM.panic : PM α) r r'
  | bind {α β} {m : PM α} {f : α → PM β} {r r1 r2 : Nat} :
      Prog Q m r r1 → (∀ a, Prog Q (f a) r1 r2) → Prog Q (m >>= f) r r2
  | weaken {α} {m : PM α} {r0 r r' r1 : Nat} : Prog Q m r r' → r0 ≤ r → r' ≤ r1 → Prog Q m r0 r1
  | setAa (b : Bool) (r : Nat) : Prog Q (PM.setAa b) r r
  | nxDomain (r : Nat) : Prog Q (PM.setRcode (RC "NXDOMAIN")) r r
  | addRrs (opt : Bool) (sec : RrSection) (hint : Hint) (owner : WName) (ty cls ttl : Nat)
      (rds : List (List UInt8)) : Q ⟨sec, owner, ty, cls, ttl, rds, opt, .ok ()⟩ →
      Prog Q (PM.addRrs opt sec hint owner ty cls ttl rds) (rrank sec) (rrank sec)

/-- `add_*_rr` is the mandatory `add_*_rrset` of one record (`PM.addRr1_eq`) -/
theorem Prog.addRr1 {Q : AddEv → Prop} (sec : RrSection) (hint : Hint) (owner : WName) (ty cls ttl : Nat)
    (rd : List UInt8) (h : Q ⟨sec, owner, ty, cls, ttl, [rd], false, .ok ()⟩) :
    Prog Q (PM.addRr1 sec hint owner ty cls ttl rd) (rrank sec) (rrank sec) :=
  PM.addRr1_eq sec hint owner ty cls ttl rd ▸ .bind (.addRrs false sec hint owner ty cls ttl [rd] h) fun _ => .pure () _

/-- from section rank `r ≤ 3` to the additional section -/
theorem Prog.toAdditional {Q : AddEv → Prop} {α : Type} {m : PM α} {r r' : Nat} (h : Prog Q m r' 3)
    (hr : r ≤ r' := by decide) : Prog Q m r 3 :=
  .weaken h hr (Nat.le_refl _)

/-! ### what the answer phase hands to the writer -/

/-- a record-adding call of the answer phase: an address RRset for the additional section (the only
    calls that may be wrapped in `execute_allowing_truncation`), or a mandatory call whose TYPE is
    CNAME, NS, SOA or one of `Ty` (the QTYPE; for QTYPE `*` the types of the RRsets found) -/
def AnsAdd (Ty : Nat → Prop) (a : AddEv) : Prop :=
  (a.sec = .additional ∧ (a.ty = Gen.T_A ∨ a.ty = Gen.T_AAAA)) ∨
  (a.sec ≠ .additional ∧ a.optional = false ∧
    (a.ty = T "CNAME" ∨ a.ty = T "NS" ∨ a.ty = T "SOA" ∨ Ty a.ty))

/-- built from the primitives of the answer phase, with record-adding calls as `AnsAdd Ty` allows -/
abbrev AnsProg (Ty : Nat → Prop) {α : Type} (m : PM α) (r r' : Nat) : Prop := Prog (AnsAdd Ty) m r r'

section walk
variable {Ty : Nat → Prop} (z : Zone.Zone)


theorem Prog.ofOption {Q : AddEv → Prop} {α : Type} (o : Option α) (r : Nat) : Prog Q (ofOption o) r r := by
  cases o with
  | none => exact .fail _ _ _
  | some a => exact .pure a r

theorem Prog.readName (rd : List UInt8) (start : Nat) (r : Nat) : AnsProg Ty (readNameFromRdata rd start) r r :=
  readName_eq rd start ▸ .ofOption _ r

/-- `add_additional_addresses` for `owner`: calls to the additional section with TYPE A or AAAA -/
theorem Prog.addrs {Q : AddEv → Prop} (hint : Hint) (owner : WName) (sbc opt : Bool)
    (hQ : ∀ ty cls ttl rds, ty = Gen.T_A ∨ ty = Gen.T_AAAA → Q ⟨.additional, owner, ty, cls, ttl, rds, opt, .ok ()⟩) :
    Prog Q (addAdditionalAddresses z hint owner sbc opt) 3 3 := by
  have aaaaPart : ∀ hint aaaa, Prog Q (Server.addAaaa z hint owner opt aaaa) 3 3 := by
    intro hint aaaa
    unfold Server.addAaaa
    split
    · cases aaaa with
      | none => exact .pure () 3
      | some r => exact .bind (.addRrs opt .additional hint owner _ _ _ _ (hQ _ _ _ _ (.inr rfl))) (fun _ => .pure () 3)
    · exact .pure () 3
  unfold addAdditionalAddresses
  split
  · next a aaaa sos _ =>
    cases a with
    | none => exact aaaaPart hint aaaa
    | some r =>
      refine .bind (.addRrs opt .additional hint owner _ _ _ _ (hQ _ _ _ _ (.inl rfl))) (fun o => ?_)
      cases o with
      | none => exact .pure () 3
      | some x => exact aaaaPart _ aaaa
  · exact .pure () 3
  · exact .pure () 3
  · exact .panic _ _

theorem Prog.additionalLoop (start : Nat) (hv : Option HV) (rds : List (List UInt8)) (idx : Nat) :
    AnsProg Ty (Server.additionalLoop z start hv rds idx) 3 3 := by
  induction rds generalizing idx with
  | nil => unfold Server.additionalLoop; exact .pure () 3
  | cons rd rest ih =>
    unfold Server.additionalLoop
    exact .bind (Prog.readName rd start 3) (fun n =>
      .bind (Prog.addrs z _ n false true (fun _ _ _ _ h => .inl ⟨rfl, h⟩)) (fun _ => ih (idx + 1)))

theorem Prog.additionalProcessing (t : Nat) (s : Rrset) (hv : Option HV) :
    AnsProg Ty (doAdditionalSectionProcessing z t s hv) 3 3 := by
  unfold doAdditionalSectionProcessing
  split
  · exact .pure () 3
  · split
    · exact Prog.additionalLoop z 0 hv s.rdatas 0
    · split
      · exact Prog.additionalLoop z 2 hv s.rdatas 0
      · split
        · exact Prog.additionalLoop z 6 hv s.rdatas 0
        · exact .pure () 3

theorem Prog.readSoaMinimum (rd : List UInt8) (r : Nat) : AnsProg Ty (Server.readSoaMinimum rd) r r :=
  readSoaMinimum_eq rd ▸ .ofOption _ r

theorem Prog.negativeSoa : AnsProg Ty (addNegativeCachingSoa z) 2 2 := by
  unfold addNegativeCachingSoa
  split
  · exact .fail _ _ _
  · split
    · exact .fail _ _ _
    · exact .bind (Prog.readSoaMinimum _ 2) (fun m =>
        .addRr1 .authority _ _ _ _ _ _ (.inr ⟨by simp, rfl, .inr (.inr (.inl rfl))⟩))

theorem Prog.classifyNs (child : WName) (rds : List (List UInt8)) (idx : Nat) (r : Nat) :
    AnsProg Ty (Server.classifyNs child rds idx) r r :=
  classifyNs_eq child rds idx ▸ .ofOption _ r

theorem Prog.glueLoop {Q : AddEv → Prop} (hv : HV) (opt : Bool) (l : List (Nat × WName))
    (hQ : ∀ x ∈ l, ∀ ty cls ttl rds, ty = Gen.T_A ∨ ty = Gen.T_AAAA →
      Q ⟨.additional, x.2, ty, cls, ttl, rds, opt, .ok ()⟩) :
    Prog Q (Server.glueLoop z hv opt l) 3 3 := by
  induction l with
  | nil => unfold Server.glueLoop; exact .pure () 3
  | cons p rest ih =>
    unfold Server.glueLoop
    exact .bind (Prog.addrs z _ p.2 true opt (hQ p (by simp))) (fun _ => ih (fun x hx => hQ x (by simp [hx])))

theorem Prog.referral (child : NameL.Name) (ns : Rrset) : AnsProg Ty (doReferral z child ns) 2 3 := by
  unfold doReferral
  refine .bind (.addRrs false .authority .none _ _ _ _ _ (.inr ⟨by simp, rfl, .inr (.inl rfl)⟩)) (fun hv =>
    .bind (Prog.classifyNs _ ns.rdatas 0 2) (fun p => ?_))
  obtain ⟨g, a⟩ := p
  simp only []
  exact (Prog.bind (Prog.glueLoop z _ false g (fun _ _ _ _ _ _ h => .inl ⟨rfl, h⟩))
    (fun _ => Prog.glueLoop z _ true a (fun _ _ _ _ _ _ h => .inl ⟨rfl, h⟩))).toAdditional

theorem Prog.followCname (qname : WName) (qtype : Nat) (hq : Ty qtype) :
    ∀ (fuel : Nat) (cn : Rrset) (os : List WName), AnsProg Ty (Server.followCname z qname qtype fuel cn os) 1 3 := by
  intro fuel
  induction fuel with
  | zero => intro cn os; unfold Server.followCname; exact .fail _ _ _
  | succ f ih =>
    intro cn os
    rw [Server.followCname]
    split
    · exact .fail _ _ _
    · split
      · split
        · exact .fail _ _ _
        · refine .bind (.addRr1 .answer _ _ _ _ _ _ (.inr ⟨by simp, rfl, .inl rfl⟩)) (fun _ => ?_)
          split
          · exact .bind (.addRrs false .answer _ _ _ _ _ _ (.inr ⟨by simp, rfl, .inr (.inr (.inr hq))⟩))
              (fun hv => (Prog.additionalProcessing z qtype _ hv).toAdditional)
          · split
            · exact ih _ _
            · exact .fail _ _ _
          · exact (Prog.referral z _ _).toAdditional
          · exact .weaken (Prog.negativeSoa z) (by decide) (by decide)
          · exact .bind (.nxDomain 1) (fun _ => .weaken (Prog.negativeSoa z) (by decide) (by decide))
          · exact .weaken (.pure () 1) (Nat.le_refl _) (by decide)
          · exact .weaken (.pure () 1) (Nat.le_refl _) (by decide)
          · exact .panic _ _
      · exact .fail _ _ _

theorem Prog.answer (qname : WName) (qtype : Nat) (hq : Ty qtype) : AnsProg Ty (Server.answer z qname qtype) 1 3 := by
  unfold Server.answer
  split
  · exact .bind (.setAa true 1) (fun _ => .bind (.addRrs false .answer _ _ _ _ _ _ (.inr ⟨by simp, rfl, .inr (.inr (.inr hq))⟩))
      (fun hv => (Prog.additionalProcessing z qtype _ hv).toAdditional))
  · unfold Server.doCname
    exact .bind (.setAa true 1) (fun _ => Prog.followCname z qname qtype hq _ _ _)
  · exact (Prog.referral z _ _).toAdditional
  · exact .bind (.setAa true 1) (fun _ => .weaken (Prog.negativeSoa z) (by decide) (by decide))
  · exact .bind (.nxDomain 1) (fun _ => .bind (.setAa true 1)
      (fun _ => .weaken (Prog.negativeSoa z) (by decide) (by decide)))
  · exact .panic _ _
  · exact .panic _ _
  · exact .panic _ _

theorem Prog.answerAnyLoop (qname : WName) (rrsets : List Rrset) (n : Nat) (hr : ∀ r ∈ rrsets, Ty r.rtype) :
    AnsProg Ty (Server.answerAnyLoop z qname rrsets n) 1 1 := by
  induction rrsets generalizing n with
  | nil => unfold Server.answerAnyLoop; exact .pure _ _
  | cons r rest ih =>
    unfold Server.answerAnyLoop
    exact .bind (.addRrs false .answer _ _ _ _ _ _ (.inr ⟨by simp, rfl, .inr (.inr (.inr (hr r (by simp))))⟩))
      (fun _ => ih (n + 1) (fun x hx => hr x (by simp [hx])))

/-- `hz`: the TYPEs of the RRsets `lookup_all` finds are among `Ty` -/
theorem Prog.answerAny (qname : WName)
    (hz : ∀ rrsets sos, Zone.lookupAll z (fold qname) ⟨true, false⟩ = .ok (.found rrsets sos) → ∀ r ∈ rrsets, Ty r.rtype) :
    AnsProg Ty (Server.answerAny z qname) 1 3 := by
  unfold Server.answerAny
  split
  · next rrsets sos hl =>
    refine .bind (.setAa true 1) (fun _ => .bind (Prog.answerAnyLoop z qname rrsets 0 (hz _ _ hl)) (fun n => ?_))
    split
    · exact .weaken (Prog.negativeSoa z) (by decide) (by decide)
    · exact .weaken (.pure () 1) (Nat.le_refl _) (by decide)
  · exact (Prog.referral z _ _).toAdditional
  · exact .bind (.nxDomain 1) (fun _ => .bind (.setAa true 1)
      (fun _ => .weaken (Prog.negativeSoa z) (by decide) (by decide)))
  · exact .panic _ _
  · exact .panic _ _
  · exact .panic _ _

theorem Prog.inner (qname : WName) (qtype : Nat) (hq : Ty qtype)
    (hz : ∀ rrsets sos, Zone.lookupAll z (fold qname) ⟨true, false⟩ = .ok (.found rrsets sos) → ∀ r ∈ rrsets, Ty r.rtype) :
    AnsProg Ty (inner z qname qtype) 1 3 := by
  unfold ServerAnswer.inner
  split
  · exact Prog.answerAny z qname hz
  · exact Prog.answer z qname qtype hq

end walk

/-- the shape alone: every TYPE allowed -/
theorem Prog.inner' (z : Zone.Zone) (qname : WName) (qtype : Nat) :
    Prog (AnsAdd fun _ => True) (ServerAnswer.inner z qname qtype) 1 3 :=
  Prog.inner z qname qtype trivial (fun _ _ _ _ _ => trivial)


/-! ### what a run of the phase can log -/

theorem Logs.hdrOp (ev : Ev) (m : M Unit) (P : Ev → Prop) (hev : P ev) (hbad : P .bad) :
    Logs (PM.hdrOp ev m) P (fun _ => True) := by
  intro ps
  unfold PM.hdrOp
  rcases h : m ps.w with ⟨(u | e | _), w'⟩
  · exact ⟨[ev], by simp, by simpa using hev, by simp⟩
  · exact ⟨[.bad], by simp, by simpa using hbad, by simp⟩
  · exact ⟨[.bad], by simp, by simpa using hbad, by simp⟩

/-- the log of a `Prog Q` holds `set_aa`, `set_rcode(NXDOMAIN)`, failed header operations and
    record-adding calls satisfying `Q`, whatever their result -/
theorem Prog.logs {Q : AddEv → Prop} {P : Ev → Prop} (hadd : ∀ a r, Q a → P (.add { a with res := r }))
    (haa : ∀ b, P (.aa b)) (hnx : P (.rcode (RC "NXDOMAIN"))) (hbad : P .bad)
    {α : Type} {m : PM α} {r r' : Nat} (h : Prog Q m r r') : Logs m P (fun _ => True) := by
  have triv : ∀ {β : Type} {m : PM β} {p : β → Prop}, Logs m P p → Logs m P (fun _ => True) :=
    fun h => h.weaken (fun _ h => h) (fun _ _ => trivial)
  induction h with
  | pure a _ => exact triv (Logs.pure a P)
  | fail e _ _ => exact Logs.fail e P _
  | panic _ _ => exact Logs.panic P _
  | bind _ _ ih1 ih2 => exact Logs.bind ih1 (fun a _ => ih2 a)
  | weaken _ _ _ ih => exact ih
  | setAa b _ => exact Logs.hdrOp _ _ P (haa b) hbad
  | nxDomain _ => exact Logs.hdrOp _ _ P hnx hbad
  | addRrs opt sec hint owner ty cls ttl rds hq => exact Logs.addCall _ _ P (fun r => hadd _ r hq)

/-! ### which calls of a referral may be dropped -/

theorem Logs.ofOption {α} (o : Option α) (P : Ev → Prop) : Logs (ofOption o) P (fun a => o = some a) := by
  cases o with
  | none => exact Logs.fail _ _ _
  | some a => exact (Logs.pure a P).weaken (fun _ h => h) (fun x hx => by rw [hx])

theorem Logs.classifyNs (child : WName) (rds : List (List UInt8)) (idx : Nat) (P : Ev → Prop) :
    Logs (Server.classifyNs child rds idx) P
      (fun p => (∀ x ∈ p.1, NameL.eqOrSubdomainOf (fold x.2) (fold child) = true) ∧
                (∀ x ∈ p.2, NameL.eqOrSubdomainOf (fold x.2) (fold child) = false)) := by
  rw [classifyNs_eq]
  exact (Logs.ofOption _ P).weaken (fun _ h => h) (fun _ hp => classify_bailiwick hp)

/-- **mandatory glue is never wrapped in `execute_allowing_truncation`** (and only name servers
    outside the delegated zone are): every call `do_referral` logs is either the NS RRset
    (authority, mandatory), or an address RRset in the additional section that is optional exactly
    when its owner is *not* at or below the delegation point -/
theorem Logs.referral (z : Zone.Zone) (child : NameL.Name) (ns : Rrset) :
    Logs (doReferral z child ns)
      (fun e => ∀ a, e = .add a →
        (a.sec = .authority ∧ a.optional = false) ∨
        (a.sec = .additional ∧
          (a.optional = !NameL.eqOrSubdomainOf (fold a.owner) (fold (unfold child))))) (fun _ => True) := by
  unfold doReferral
  -- the address calls of a glue loop over `l`, all optional or all mandatory as `opt` says
  have glue : ∀ (hv : HV) (opt : Bool) (l : List (Nat × WName)),
      (∀ x ∈ l, opt = !NameL.eqOrSubdomainOf (fold x.2) (fold (unfold child))) →
      Logs (Server.glueLoop z hv opt l)
        (fun e => ∀ a, e = .add a →
          (a.sec = .authority ∧ a.optional = false) ∨
          (a.sec = .additional ∧
            (a.optional = !NameL.eqOrSubdomainOf (fold a.owner) (fold (unfold child))))) (fun _ => True) :=
    fun hv opt l hl =>
      (Prog.glueLoop (Q := fun a => a.sec = .additional ∧
          a.optional = !NameL.eqOrSubdomainOf (fold a.owner) (fold (unfold child))) z hv opt l
        (fun x hx _ _ _ _ _ => ⟨rfl, hl x hx⟩)).logs
        (fun a r h x hx => by cases hx; exact Or.inr h) (fun _ x hx => by cases hx) (fun x hx => by cases hx)
        (fun x hx => by cases hx)
  refine Logs.bind (Logs.addCall _ _ _ ?_) (fun hv _ =>
    Logs.bind (Logs.classifyNs (unfold child) ns.rdatas 0 _) ?_)
  · intro r a ha; cases ha; exact Or.inl ⟨rfl, rfl⟩
  · rintro ⟨g, a⟩ ⟨hg, ha⟩
    exact Logs.bind (glue _ false g (fun x hx => by rw [hg x hx]; rfl))
      (fun _ _ => glue _ true a (fun x hx => by rw [ha x hx]; rfl))


end QV.ServerAnswer
