/-
  QV.Proofs.PoolProgress — progress at the level of the mutexes (C29): whenever some thread holds
  or wants a mutex, some thread can take a step that is not an environment step.
-/
import QV.Proofs.PoolInv

namespace QV.Pool

/-- some step other than an arrival, an API call or a spurious wake-up is enabled -/
def Enabled (cfg : Cfg) (s : State) : Prop := ∃ l s', l.isEnv = false ∧ next cfg s l = some s'

/-- `notify_one` always succeeds for a suitable choice of the woken waiter -/
theorem notifyOne_total (isW : Local → Bool) (wake : Local → Local) (ths : List Local) :
    ∃ tg ths', notifyOne isW wake ths tg = some ths' := by
  by_cases h : ths.countP isW = 0
  · exact ⟨none, ths, by simp [notifyOne, h]⟩
  · have hpos : 0 < ths.countP isW := Nat.pos_of_ne_zero h
    obtain ⟨a, ha, hw⟩ := List.countP_pos_iff.mp hpos
    obtain ⟨u, hu⟩ := List.mem_iff_getElem?.mp ha
    exact ⟨some u, ths.set u (wake a), by simp [notifyOne, hu, hw]⟩

theorem relWorker_enabled (cfg : Cfg) (s : State) (t : Nat) (w : WKind) (reg to : Bool) :
    ∃ tg s', relWorker cfg s t w reg to tg false = some s' := by
  unfold relWorker
  cases reg
  · obtain ⟨tg, ths', h⟩ := notifyOne_total isSubWait wakeAvail (relWorkerBody cfg s t w false to false).threads
    exact ⟨tg, by simp [h]⟩
  · exact ⟨none, by simp⟩

theorem pushTask_enabled (s : State) (t k : Nat) : ∃ tg s', pushTask s t k tg = some s' := by
  unfold pushTask
  obtain ⟨tg, ths', h⟩ := notifyOne_total isWWait wakeTask (s.threads.set t .idle)
  exact ⟨tg, by simp [h]⟩

/-- a thread inside a critical section can always finish it (or, for `shut_down` holding the group
    mutex and needing the pool mutex, can do so as soon as the pool mutex is free) -/
theorem holder_can_step (cfg : Cfg) (s : State) (t : Nat) (l : Local) (hg : s.threads[t]? = some l)
    (hh : holdsP l = true ∨ holdsG l = true)
    (hpsh : l = .pshInG → s.hasPool = true) :
    Enabled cfg s ∨ (l = .shInG ∧ s.hasPool = true ∧ s.pLock ≠ none) := by
  have rel : ∀ tg fl, (∃ s', nextRel cfg s t tg fl = some s') → Enabled cfg s :=
    fun tg fl ⟨s', h⟩ => ⟨.rel t tg fl, s', rfl, h⟩
  have spawn : (∃ s', nextSpawn s t false = some s') → Enabled cfg s :=
    fun ⟨s', h⟩ => ⟨.spawn t false, s', rfl, h⟩
  cases l <;> simp [holdsP, holdsG] at hh
  case spInG n =>
    cases n with
    | zero => exact Or.inl (rel none false (by simp [nextRel, hg]))
    | succ n => exact Or.inl (spawn (by simp [nextSpawn, hg]))
  case subInP k | sosInP k =>
    left
    by_cases hps : s.pShutting = true
    · exact rel none false (by simp [nextRel, hg, hps])
    · by_cases hav : s.available > s.queue.length
      · obtain ⟨tg, s', h⟩ := pushTask_enabled s t k
        exact rel tg false (by simp [nextRel, hg, hps, hav, h])
      · exact rel none false (by simp [nextRel, hg, hps, hav])
  case sosInG k | rhInG f =>
    left
    by_cases hgs : s.gShutting = true
    · exact rel none false (by simp [nextRel, hg, hgs])
    · exact spawn (by simp [nextSpawn, hg, hgs])
  case shInG =>
    by_cases hp : s.hasPool = true
    · by_cases hl : s.pLock = none
      · exact Or.inl (by have : ∃ s', next cfg s (.acq t) = some s' := by simp [next, nextAcq, hg, hp, hl]
                         obtain ⟨s', h⟩ := this; exact ⟨.acq t, s', rfl, h⟩)
      · exact Or.inr ⟨rfl, hp, hl⟩
    · exact Or.inl (rel none false (by simp [nextRel, hg, hp]))
  case pshInG => exact Or.inl (rel none false (by simp [nextRel, hg, hpsh rfl]))
  case awInG =>
    left
    by_cases hc : (s.gShutting && s.threadCount == 0) = true
    · exact rel none false (by simp only [nextRel, hg, hc]; simp)
    · exact rel none false (by simp only [nextRel, hg, hc]; simp)
  case wInP w reg to =>
    obtain ⟨tg, s', h⟩ := relWorker_enabled cfg s t w reg to
    exact Or.inl (rel tg false (by simp [nextRel, hg, h]))
  -- the other sections end unconditionally
  all_goals exact Or.inl (rel none false (by simp [nextRel, hg]))

/-- outside every critical section and waiting for the group mutex: the next `acq` takes it.
    (`C29.wants` names the mutex of the next `acq` for every local state; it agrees with `wantsG`/`wantsP` on
    these and adds `shInG`, which wants the pool mutex while it holds the group mutex.) -/
def wantsG : Local → Bool
  | .spWantG _ | .sosWantG _ | .shWantG | .pshWantG | .awWantG | .endWantG | .rhWantG _ => true
  | _ => false

/-- outside every critical section and waiting for the pool mutex -/
def wantsP : Local → Bool
  | .subWantP _ | .sosWantP _ | .pshWantP | .wWantP _ | .wWoken _ _ => true
  | _ => false

theorem wanter_can_acquire (cfg : Cfg) (s : State) (t : Nat) (l : Local) (hg : s.threads[t]? = some l)
    (h : (wantsG l = true ∧ s.gLock = none) ∨ (wantsP l = true ∧ s.pLock = none)) : Enabled cfg s := by
  have : ∃ s', next cfg s (.acq t) = some s' := by
    cases l <;> simp [wantsG, wantsP] at h <;> simp [next, nextAcq, hg, h]
  obtain ⟨s', h'⟩ := this
  exact ⟨.acq t, s', rfl, h'⟩

theorem exists_holder {p : Local → Bool} {ths : List Local} (h : 0 < ths.countP p) :
    ∃ (t : Nat) (l : Local), ths[t]? = some l ∧ p l = true := by
  obtain ⟨a, ha, hp⟩ := List.countP_pos_iff.mp h
  obtain ⟨u, hu⟩ := List.mem_iff_getElem?.mp ha
  exact ⟨u, a, hu, hp⟩

/-- **No deadlock on the mutexes.**  In a state satisfying the mutual-exclusion invariant, if any
    thread holds or waits for a mutex then some non-environment step is enabled: the holder of the
    pool mutex can always finish its section; the holder of the group mutex can finish, or needs
    only the pool mutex (whose holder can finish); a waiter for a free mutex can take it. -/
theorem lock_progress (cfg : Cfg) (s : State) {fx : Bool} (inv : CInv fx s)
    (hpsh : ∀ (t : Nat), s.threads[t]? = some Local.pshInG → s.hasPool = true)
    (t : Nat) (l : Local) (hg : s.threads[t]? = some l)
    (hl : wantsG l = true ∨ wantsP l = true ∨ holdsP l = true ∨ holdsG l = true) : Enabled cfg s := by
  by_cases hP : s.pLock = none
  · by_cases hG : s.gLock = none
    · -- both free: nobody is inside a section, so our thread is a waiter and can acquire
      have c1 : s.threads.countP holdsP = 0 := by rw [inv.lockP, hP]; rfl
      have c2 : s.threads.countP holdsG = 0 := by rw [inv.lockG, hG]; rfl
      have n1 : holdsP l = false := by
        have := List.countP_eq_zero.mp c1 l (List.mem_of_getElem? hg); simpa using this
      have n2 : holdsG l = false := by
        have := List.countP_eq_zero.mp c2 l (List.mem_of_getElem? hg); simpa using this
      rcases hl with h | h | h | h
      · exact wanter_can_acquire cfg s t l hg (Or.inl ⟨h, hG⟩)
      · exact wanter_can_acquire cfg s t l hg (Or.inr ⟨h, hP⟩)
      · rw [n1] at h; cases h
      · rw [n2] at h; cases h
    · -- the group mutex is held; its holder can step because the pool mutex is free
      have c : 0 < s.threads.countP holdsG := by
        rw [inv.lockG]; cases hgl : s.gLock <;> simp_all [lockN]
      obtain ⟨u, lu, hu, hh⟩ := exists_holder c
      rcases holder_can_step cfg s u lu hu (Or.inr hh) (fun e => hpsh u (e ▸ hu)) with h | ⟨_, _, h⟩
      · exact h
      · exact absurd hP h
  · -- the pool mutex is held; its holder can always finish
    have c : 0 < s.threads.countP holdsP := by
      rw [inv.lockP]; cases hpl : s.pLock <;> simp_all [lockN]
    obtain ⟨u, lu, hu, hh⟩ := exists_holder c
    rcases holder_can_step cfg s u lu hu (Or.inl hh) (fun e => hpsh u (e ▸ hu)) with h | ⟨e, _, _⟩
    · exact h
    · subst e; simp [holdsP] at hh

end QV.Pool
