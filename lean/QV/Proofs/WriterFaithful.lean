/-
  QV.Proofs.WriterFaithful — discharges `QV.ServerAnswer.WriterRdataFaithful` (C05's hypothesis on
  the writer): `add_*_rr(set)` succeeds only if, and reports `InvalidRdata` only if not, the
  specification's `renderable` holds of the RDATA. From the writer's `addRrOp_rdata` /
  `addRrsetOp_rdata` (acceptance ⟺ `rdataOK`) and: the implementation's component table is the
  specification's layout table up to the last name (`shape_table`).
-/
import QV.Proofs.ServerAnswer
import QV.Proofs.WriterRdata

set_option linter.unusedSimpArgs false
namespace QV.ServerAnswer
open QV QV.Writer QV.Spec QV.Spec.Resolve

/-- a component list as a layout -/
def shapeOf : List CompType → List Field
  | [] => []
  | .compressibleName :: ts => .name :: shapeOf ts
  | .uncompressibleName :: ts => .name :: shapeOf ts
  | .fixedLen n :: ts => .fixed n :: shapeOf ts

theorem locatable_shapeOf : ∀ (ts : List CompType) (rd : List UInt8),
    locatable (shapeOf ts) rd = compsOK ts rd := by
  intro ts
  induction ts with
  | nil => intro rd; rfl
  | cons t ts ih =>
    intro rd
    cases t with
    | compressibleName =>
      simp only [shapeOf, locatable, compsOK, nameAt_eq]
      cases WName.parse rd with
      | none => rfl
      | some p => simp only [Option.map_some]; exact ih _
    | uncompressibleName =>
      simp only [shapeOf, locatable, compsOK, nameAt_eq]
      cases WName.parse rd with
      | none => rfl
      | some p => simp only [Option.map_some]; exact ih _
    | fixedLen n =>
      simp only [shapeOf, locatable, compsOK, ih]

/-- **the component table of the implementation is the layout table of the specification**, up to
    the last embedded name (what follows it is copied, not interpreted), for every class and type -/
theorem shape_table (c t : Nat) :
    (match layoutOf (fmtOf c t) with | some l => uptoLastName l | none => []) =
      shapeOf (compTypes c t) := by
  unfold compTypes
  rw [componentTypes_arms, Option.getD_some]
  unfold fmtOf
  by_cases h1 : t = 2 ∨ t = 3 ∨ t = 4 ∨ t = 5 ∨ t = 7 ∨ t = 8 ∨ t = 9 ∨ t = 12
  · rw [if_pos h1, if_pos h1]; simp [layoutOf, shapeOf, uptoLastName]
  rw [if_neg h1, if_neg h1]
  by_cases h2 : t = 1
  · subst h2
    by_cases h3 : c = 3
    · subst h3; simp [layoutOf, shapeOf, uptoLastName]
    · by_cases h4 : c = 1
      · subst h4; simp [layoutOf, shapeOf, uptoLastName]
      · simp [h3, h4, layoutOf, shapeOf, uptoLastName]
  by_cases h6 : t = 6
  · subst h6; simp [layoutOf, shapeOf, uptoLastName]
  by_cases h11 : t = 11
  · subst h11; by_cases hc : c = 1 <;> simp [hc, layoutOf, shapeOf, uptoLastName]
  by_cases h13 : t = 13
  · subst h13; simp [layoutOf, shapeOf, uptoLastName]
  by_cases h14 : t = 14
  · subst h14; simp [layoutOf, shapeOf, uptoLastName]
  by_cases h15 : t = 15
  · subst h15; simp [layoutOf, shapeOf, uptoLastName]
  by_cases h16 : t = 16
  · subst h16; simp [layoutOf, shapeOf, uptoLastName]
  by_cases h28 : t = 28
  · subst h28; by_cases hc : c = 1 <;> simp [hc, layoutOf, shapeOf, uptoLastName]
  by_cases h33 : t = 33
  · subst h33
    by_cases hc : c = 1
    · subst hc; simp [layoutOf, shapeOf, uptoLastName]
    · simp [hc, layoutOf, shapeOf, uptoLastName]
  by_cases h41 : t = 41
  · subst h41; simp [layoutOf, shapeOf, uptoLastName]
  by_cases h250 : t = 250
  · subst h250; simp [layoutOf, shapeOf, uptoLastName]
  simp [h2, h6, h11, h13, h14, h15, h16, h28, h33, h41, h250, layoutOf, shapeOf, uptoLastName]

/-- the specification's `renderable` is the writer's acceptance condition -/
theorem renderable_eq_rdataOK (c t : Nat) (rd : List UInt8) : renderable c t rd = rdataOK c t rd := by
  have hs := shape_table c t
  unfold renderable rdataOK
  rw [componentTypes_eq_some]
  simp only []
  rw [← locatable_shapeOf, ← hs]
  cases layoutOf (fmtOf c t) with
  | none => rfl
  | some l => rfl

/-- **`WriterRdataFaithful` holds** -/
theorem writerRdataFaithful : WriterRdataFaithful := by
  intro sec hint owner ty cls ttl w
  refine ⟨fun rds => ?_, fun rd => ?_⟩
  · have h := addRrsetOp_rdata sec hint owner ty cls ttl rds w
    have e : rds.all (renderable cls ty) = rds.all (rdataOK cls ty) := by
      congr 1; funext rd; exact renderable_eq_rdataOK cls ty rd
    rw [e]; exact h
  · have h := addRrOp_rdata sec hint owner ty cls ttl rd w
    rw [renderable_eq_rdataOK]; exact h

end QV.ServerAnswer
