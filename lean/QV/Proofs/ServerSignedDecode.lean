/-
  QV.Proofs.ServerSignedDecode — `Good`: a writer state reached from `Writer::new` by public calls
  satisfies the writer's invariant `I` and its content layout `CLay`; hence the writer's decoding
  theorem `finish_decodes_content` (C12) applies to the response: it decodes completely under the
  independent decoder, and the decoded questions and records are — one for one — the question, the
  OPT record and the TSIG record.  The steps of `handle_message` up to the TSIG step keep `Good`
  (the rows of the TSIG decision table build on this in Proofs/ServerSignedTable.lean), and so do
  the final writers of the unsigned no-data responses.
-/
import QV.Proofs.ServerSigned
import QV.Proofs.WriterContentDecode
import QV.Proofs.WriterSafe2

namespace QV.ServerScan
open QV QV.Wire QV.Reader QV.Writer

/-- a writer state reached by public calls, holding the questions and records `b` -/
def Good (s : State) (b : Body) : Prop :=
  Writer.I s ∧ s.limit ≤ 65535 ∧ ∃ mb, CLay (fun _ => True) s b mb

/-- one public call (in a session without hint-pointer vectors) keeps `Good` -/
theorem good_step (op : Op) (s : State) (b : Body) (h : Good s b) (hop : OpOK ⟨s, []⟩ op)
    (hlim : (step ⟨s, []⟩ op).2.w.limit ≤ 65535) :
    Good (step ⟨s, []⟩ op).2.w (if (step ⟨s, []⟩ op).1 = .ok () then bodyStep b op else b) := by
  obtain ⟨hI, _, mb, hL⟩ := h
  exact ⟨(step_I ⟨s, []⟩ op hI hop).2, hlim, _, clay_step ⟨s, []⟩ op b mb hI hL hop (fun _ _ => trivial)⟩

/-- … in the form used below: the call is a plain writer operation `f` that succeeds -/
theorem good_liftW (op : Op) (f : M Unit) (s s' : State) (b : Body) (h : Good s b)
    (hstep : ∀ ss : Session, step ss op = liftW ss f) (hf : f s = (.ok (), s'))
    (hop : OpOK ⟨s, []⟩ op) (hlim : s'.limit ≤ 65535) : Good s' (bodyStep b op) := by
  have e : step ⟨s, []⟩ op = (.ok (), ⟨s', []⟩) := by
    rw [hstep]; unfold liftW; rw [hf]
  have := good_step op s b h hop (by rw [e]; exact hlim)
  rw [e] at this
  simpa using this

theorem stRcode_limit (rc : Nat) (s : State) : (stRcode rc s).limit = s.limit := by
  unfold stRcode stHdr; cases s.edns <;> rfl

theorem good_stRcode (rc : Nat) (s : State) (b : Body) (h : Good s b) (h3 : 3 < s.octets.size) :
    Good (stRcode rc s) b :=
  good_liftW (.setRcode rc) (setRcode rc) s _ b h (fun _ => rfl) (setRcode_eq rc s h3) trivial
    (by rw [stRcode_limit]; exact h.2.1)

theorem good_stXRcode (raw : Nat) (e : Edns) (s : State) (b : Body) (h : Good s b) (he : s.edns = some e)
    (hr : raw ≤ 4095) (h3 : 3 < s.octets.size) : Good (stXRcode raw e s) b :=
  good_liftW (.setExtendedRcode raw) (setExtendedRcode raw) s _ b h (fun _ => rfl)
    (setExtendedRcode_eq raw e s he hr h3) trivial (by unfold stXRcode stHdr; exact h.2.1)

open QV.ServerTsig in
theorem good_withTsig (mode : TsigMode) (rr : TsigRr) (s : State) (b : Body) (h : Good s b)
    (hf : TsigFits s mode rr) (hk : rr.keyName.WF) (ha : (tsigAlgName mode).WF) (ht : rr.timeSigned.length = 6)
    (hs : rr.serverTime.length = 6) : Good (withTsig s mode rr) b :=
  good_liftW (.setTsig mode rr) (setTsig mode rr) s _ b h (fun _ => rfl) (setTsig_fits mode rr s hf)
    ⟨hk, ha, ht, hs⟩ h.2.1

/-- the fresh writer of `handle_message` -/
theorem good_w0 (bufLen lim : Nat) (h12 : 12 ≤ min lim bufLen) (hl : lim ≤ 65535) : Good (w0 bufLen lim) {} := by
  have hnew := new_eq bufLen lim h12
  have hlim : (w0 bufLen lim).limit ≤ 65535 := by show min lim bufLen ≤ 65535; omega
  generalize w0 bufLen lim = w at hnew hlim
  refine ⟨new_i _ _ _ hnew, hlim, {}, ?_⟩
  exact clay_new _ _ _ hnew w.mode trivial

/-- after the header copy -/
theorem good_hdrSt (w : State) (id opcode : Nat) (rd : Bool) (h : Good w {}) (h3 : 3 < w.octets.size) :
    Good (hdrSt w id opcode rd) {} := by
  have g1 : Good { w with octets := writeAt w.octets 0 (u16be id) } {} :=
    good_liftW (.setId id) (setId id) w _ {} h (fun _ => rfl) (setId_eq id w (by omega)) trivial h.2.1
  have z1 : 2 < ({ w with octets := writeAt w.octets 0 (u16be id) } : State).octets.size := by
    show 2 < (writeAt w.octets 0 (u16be id)).size; rw [writeAt_size]; omega
  have g2 : Good (stHdr 2 (bitF Gen.QR_MASK true) { w with octets := writeAt w.octets 0 (u16be id) }) {} :=
    good_liftW (.setQr true) (setQr true) _ _ {} g1 (fun _ => rfl)
      (setBit_eq Gen.QR_BYTE Gen.QR_MASK true _ z1) trivial g1.2.1
  have z2 : 2 < (stHdr 2 (bitF Gen.QR_MASK true) { w with octets := writeAt w.octets 0 (u16be id) }).octets.size := by
    rw [stHdr_size]; exact z1
  have g3 := good_liftW (.setOpcode opcode) (setOpcode opcode) _ _ {} g2 (fun _ => rfl)
    (setOpcode_eq opcode _ z2) trivial g2.2.1
  unfold hdrSt
  simp only
  split
  · have z3 : 2 < (stHdr 2 (opF opcode) (stHdr 2 (bitF Gen.QR_MASK true)
        { w with octets := writeAt w.octets 0 (u16be id) })).octets.size := by rw [stHdr_size]; exact z2
    exact good_liftW (.setRd rd) (setRd rd) _ _ {} g3 (fun _ => rfl)
      (setBit_eq Gen.RD_BYTE Gen.RD_MASK rd _ z3) trivial g3.2.1
  · exact g3

/-- the questions of a response -/
def qBody (q : Option Spec.DQuestion) : Body :=
  match q with
  | none => {}
  | some x => { qs := [⟨toQ x, x.qtype, x.qclass⟩] }

/-- after the question -/
theorem good_qSt (sH : State) (tr : Server.Transport) (payload : Nat) (hH : HdrOk sH tr payload) (h : Good sH {})
    (msg : Bytes) (q : Option Spec.DQuestion)
    (hq : ∀ x, q = some x → ∃ nx, Spec.specQuestionAt msg 12 = some (x.qname, x.qtype, x.qclass, nx)) :
    Good (qSt sH q) (qBody q) := by
  cases q with
  | none => exact h
  | some x =>
    obtain ⟨nx, hsq⟩ := hq x rfl
    obtain ⟨p, hp, hpw, _, _, hwl⟩ := specQuestionAt_some msg 12 _ _ _ nx hsq
    obtain ⟨qn, hqn, hqw⟩ := wname_of_parse msg 12 p hp
    rw [hpw] at hqn hqw
    obtain ⟨hadd, _⟩ := qSt_some sH tr payload hH x qn hqn hqw hwl
    have htoq : toQ x = qn := by unfold toQ; rw [hqn]
    rw [← htoq] at hadd
    have hlim : (qSt sH (some x)).limit ≤ 65535 := by
      have := addQuestion_limit (toQ x) x.qtype x.qclass sH
      rw [hadd] at this
      rw [this]; exact h.2.1
    have := good_liftW (.addQuestion (toQ x) x.qtype x.qclass) (addQuestion (toQ x) x.qtype x.qclass) sH _ {} h
      (fun _ => rfl) hadd (by rw [htoq]; exact parse_wf hqn) hlim
    exact this

/-- after the scan of the additional section (EDNS slot, UDP limit) -/
theorem good_arSt (s1 : State) (tr : Server.Transport) (payload : Nat) (e : Bool) (l : Nat) (b : Body)
    (h : Good s1 b) (hb : Base s1 tr payload) (hl1 : 512 ≤ l) (hl2 : l ≤ max 512 payload) (hp16 : payload ≤ 65535) :
    Good (arSt s1 tr payload e l) b := by
  cases e with
  | false => exact h
  | true =>
    have g1 : Good (stEdns payload s1) b :=
      good_liftW (.setEdns payload) (setEdns payload) s1 _ b h (fun _ => rfl)
        (setEdns_eq payload s1 hb.edns hb.room hb.ar) trivial h.2.1
    cases tr with
    | tcp => exact g1
    | udp =>
      have hlim : s1.limit = 512 := hb.lim
      obtain ⟨hb1, hb2⟩ := hb.buf rfl
      exact good_liftW (.setLimit l) (setLimit l) _ _ b g1 (fun _ => rfl)
        (setLimit_up l (stEdns payload s1) (by show s1.limit ≤ l; omega) (by show l ≤ s1.octets.size; omega))
        trivial (by show l ≤ 65535; omega)

/-- **decoding a no-data response**: if the final writer is `Good` with the questions `qb` and no
    records, whatever `finish` returns decodes completely under the independent decoder; its
    questions are `qb`'s, answer and authority sections are empty, and the additional section is —
    one for one — the OPT record (iff the EDNS slot is set) and the TSIG record (iff a TSIG is set):
    owner equal up to ASCII case, TYPE, CLASS, TTL and RDATA octet for octet -/
theorem good_decodes (macFn : Writer.Tsig → List UInt8 → List UInt8) (F : State) (qb : Body)
    (hqb : qb.an = [] ∧ qb.ns = [] ∧ qb.ar = []) (h : Good F qb) (m : Bytes) (mac : Option (List UInt8))
    (hf : Writer.finish F macFn = .ok (m, mac)) :
    ∃ (d : Spec.DMsg) (qs : List QItC) (iar : List RItC), Spec.specDecodeMsg m = some d ∧
      qs.map (·.q) = qb.qs ∧ All2 QMatch qs d.questions ∧ d.an = [] ∧ d.ns = [] ∧
      iar.map (·.r) = optRecs' F.edns ++ tsigRecs F.tsig mac ∧ All2 RMatch iar d.ar := by
  obtain ⟨hI, hlim, mb, hL⟩ := h
  have hsz : m.size ≤ 65535 := Nat.le_trans (finish_size_le_limit macFn F hI.inv m mac hf) hlim
  obtain ⟨d, qs, ian, ins, iar, hd, e1, e2, e3, e4, m1, m2, m3, m4, _, _⟩ :=
    finish_decodes_content macFn F qb mb hI hL m mac hf hsz
  rw [hqb.1] at e2
  rw [hqb.2.1] at e3
  rw [hqb.2.2] at e4
  have ian0 : ian = [] := by simpa using e2
  have ins0 : ins = [] := by simpa using e3
  subst ian0 ins0
  have dan : d.an = [] := by
    have := m2.length; simp at this; exact List.length_eq_zero_iff.mp this.symm
  have dns : d.ns = [] := by
    have := m3.length; simp at this; exact List.length_eq_zero_iff.mp this.symm
  exact ⟨d, qs, iar, hd, e1, m1, dan, dns, by simpa using e4, m4⟩

theorem all2_mem_right {α β : Type} {R : α → β → Prop} {as : List α} {bs : List β} (h : All2 R as bs) :
    ∀ b ∈ bs, ∃ a ∈ as, R a b := by
  induction h with
  | nil => intro b hb; cases hb
  | cons hr _ ih =>
    intro b hb
    rcases List.mem_cons.mp hb with rfl | hb
    · exact ⟨_, List.mem_cons_self, hr⟩
    · obtain ⟨a, ha, hab⟩ := ih b hb
      exact ⟨a, List.mem_cons_of_mem _ ha, hab⟩

/-! ### the final writers of the no-data responses are `Good` -/

theorem qBody_norecs (q : Option Spec.DQuestion) : (qBody q).an = [] ∧ (qBody q).ns = [] ∧ (qBody q).ar = [] := by
  cases q <;> exact ⟨rfl, rfl, rfl⟩

/-- the writer after the question, as `handle_message` builds it -/
theorem good_s1 (bufLen : Nat) (tr : Server.Transport) (payload id opcode : Nat) (rd : Bool)
    (hbuf : minBuf tr payload ≤ bufLen) (hpay : 512 ≤ payload) (msg : Bytes) (q : Option Spec.DQuestion)
    (hq : ∀ x, q = some x → ∃ nx, Spec.specQuestionAt msg 12 = some (x.qname, x.qtype, x.qclass, nx)) :
    Good (qSt (hdrSt (w0 bufLen (lim0 tr)) id opcode rd) q) (qBody q) := by
  have hmin : 12 ≤ min (lim0 tr) bufLen := by
    cases tr <;> simp only [lim0, minBuf] at hbuf ⊢ <;> omega
  have hl : lim0 tr ≤ 65535 := by cases tr <;> simp [lim0]
  have g0 := good_w0 bufLen (lim0 tr) hmin hl
  have hsz : 3 < (w0 bufLen (lim0 tr)).octets.size := by
    rw [w0_size]; cases tr <;> simp only [minBuf] at hbuf <;> omega
  have g1 := good_hdrSt _ id opcode rd g0 hsz
  exact good_qSt _ tr payload (hdrSt_ok bufLen tr payload id opcode rd hbuf hpay) g1 msg q hq

/-- unsigned no-data verdicts -/
theorem good_finalOf (s1 : State) (tr : Server.Transport) (payload : Nat) (sc : Spec.Server.Scan) (b : Body)
    (h : Good s1 b) (hb : Base s1 tr payload) (hv : noDataV sc.verdict = true)
    (hbv : sc.verdict = .badVers → sc.edns = true)
    (hl1 : 512 ≤ sc.limitUdp) (hl2 : sc.limitUdp ≤ max 512 payload) (hp16 : payload ≤ 65535) :
    Good (finalOf s1 tr payload sc) b := by
  have g := good_arSt s1 tr payload sc.edns sc.limitUdp b h hb hl1 hl2 hp16
  have h3 : 3 < (arSt s1 tr payload sc.edns sc.limitUdp).octets.size := by rw [arSt_size]; exact hb.size3
  unfold finalOf
  cases hverd : sc.verdict with
  | answer => rw [hverd] at hv; cases hv
  | tsigReached => rw [hverd] at hv; cases hv
  | badVers =>
    have he := hbv hverd
    rw [he] at g h3 ⊢
    exact good_stXRcode 16 ⟨payload, 0⟩ _ b g (arSt_edns_true s1 tr payload _) (by omega) h3
  | formErr => exact good_stRcode 1 _ b g h3
  | notImp => exact good_stRcode 4 _ b g h3
  | refused => exact good_stRcode 5 _ b g h3
  | servFailZone => exact good_stRcode 2 _ b g h3

theorem algName_wf (a : Writer.Alg) : (algName a).WF := ServerSafety.algName_WF a

open QV.ServerTsig in
theorem prepOf_lengths (kn : WName) (r : Tsig.ReadTsigRr) (nowT : Tsig.TimeSigned) (e : Nat) :
    (prepOf kn r nowT e).timeSigned.length = 6 ∧ (prepOf kn r nowT e).serverTime.length = 6 := by
  refine ⟨?_, rfl⟩
  show (if e = 18 then _ else _ : List UInt8).length = 6
  split <;> rfl

theorem all2_snoc {α β : Type} {R : α → β → Prop} : ∀ {as : List α} {a : α} {bs : List β},
    All2 R (as ++ [a]) bs → ∃ bs' b, bs = bs' ++ [b] ∧ All2 R as bs' ∧ R a b := by
  intro as
  induction as with
  | nil =>
    intro a bs h
    cases h with
    | cons hr t => cases t; exact ⟨[], _, rfl, .nil, hr⟩
  | cons x xs ih =>
    intro a bs h
    cases h with
    | cons hr t =>
      obtain ⟨bs', b, e, h1, h2⟩ := ih t
      exact ⟨_ :: bs', b, by rw [e]; rfl, .cons hr h1, h2⟩

/-- the decoded ID and flags word are octets 0–1 and 2–3 of the message -/
theorem decode_header (b : Bytes) (d : Spec.DMsg) (h : Spec.specDecodeMsg b = some d) :
    d.id = Spec.Server.hdr b 0 ∧ d.flags = Spec.Server.hdr b 2 := by
  unfold Spec.specDecodeMsg at h
  split at h
  · cases h
  · rename_i hsz
    split at h
    · rename_i id fl qd an ns ar h0 h2 _ _ _ _
      rw [specField16_eq, if_pos (by omega)] at h0 h2
      -- the remaining matches either fail or return the record with these two fields
      repeat' split at h
      all_goals first | (cases h; done) | skip
      simp only [Option.some.injEq] at h h0 h2
      rw [← h, ← h0, ← h2]
      exact ⟨rfl, rfl⟩
    · cases h

theorem decode_flags (b : Bytes) (d : Spec.DMsg) (h : Spec.specDecodeMsg b = some d) :
    d.flags = Spec.Server.hdr b 2 := (decode_header b d h).2

/-! ### the unsigned no-data responses: final writer, `Good`, slots -/

/-- unsigned requests with a verdict the scan decides alone -/
theorem unsigned_nodata_final (cfg : Server.Cfg) (tr : Server.Transport) (now bufLen : Nat) (req : Bytes)
    (hbuf : minBuf tr cfg.payload ≤ bufLen) (hpay : 512 ≤ cfg.payload) (hp16 : cfg.payload ≤ 65535)
    (hreq : req.size ≤ Rdata.USIZE_MAX)
    (hr : (Spec.Server.specScanWith (catKind cfg) cfg.payload req).respond = true)
    (hv : noDataV (Spec.Server.specScanWith (catKind cfg) cfg.payload req).verdict = true) :
    ∃ F b mac, Server.handleMessage cfg tr now bufLen req = .ok (some b) ∧
      Writer.finish F Server.macFn = .ok (b, mac) ∧
      Good F (qBody (Spec.Server.specScanWith (catKind cfg) cfg.payload req).question) ∧ F.tsig = none ∧
      F.edns = (if (Spec.Server.specScanWith (catKind cfg) cfg.payload req).edns then
        some ⟨cfg.payload, (Spec.Server.verdictRcode (Spec.Server.specScanWith (catKind cfg) cfg.payload req).verdict).2⟩
        else none) := by
  obtain ⟨s1, F, b, rfl, rfl, hF, hb, hfin, _⟩ := handleMessage_noData_final cfg tr now bufLen req hbuf hpay hreq hr hv
  have hG := scan_facts cfg tr bufLen req hbuf hpay hr
  exact ⟨_, b, none, hb, hfin, good_finalOf _ tr cfg.payload _ _
    (good_s1 bufLen tr cfg.payload _ _ _ hbuf hpay req _ fun x hx => specScanWith_question _ _ _ x hx)
    hG.s1.base hv hG.badVers hG.lim512 hG.limMax hp16, hF.tsig, hF.edns⟩

end QV.ServerScan
