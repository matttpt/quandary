/-
  QV.Proofs.ScanRefine — `handle_message_with_context` refines the specification's scan
  (`specScanWith`): on top of the additional-section scan (`Proofs/ScanAr`), what the handler does
  from the mark to the opcode dispatch (`scanAndDispatch_view`) and how it gets there
  (`hwc_head`); the writer state that results is an explicit function of the spec's verdict.
-/
import QV.Proofs.ScanAr
import QV.Proofs.FrameServer
import QV.Proofs.FinishInv

/-! ### the request handler's control flow, cut into named pieces

  `handle_message_with_context` is one long function; the proofs below work on three pieces of it.
  These are *proof-side* definitions: `handleWithContext_split` shows that the model's function is
  literally their composition, so nothing about the model changes. -/
namespace QV.Server
open QV QV.Writer

/-- `handle_message_with_context` from `context.received.mark()` on: the scan of the three record
    sections, the end-of-message check, the opcode dispatch. Returns `send_response`. -/
def scanAndDispatch (cfg : Cfg) (tr : Transport) (now : Nat) (an ns ar opcode : Nat)
    (question : Option (WName × Nat × Nat)) (r1 : Reader.Reader) : M Bool :=
  let r2 := Reader.setMark r1
  match scanAnNs (an + ns) r2 with
  | none => do setRcode (RC "FORMERR"); pure true
  | some r3 => do
    let st ← scanAr cfg tr now ar ar 0 { r := r3 }
    match st with
    | none => pure true
    | some st' =>
      if !Reader.atEom st'.r then do setRcode (RC "FORMERR"); pure true
      else do
        if opcode = 0 then handleQuery cfg question tr else setRcode (RC "NOTIMP")
        pure true

/-- `handle_message_with_context`, written with the two pieces above -/
def handleWithContext' (cfg : Cfg) (tr : Transport) (now : Nat) (r0 : Reader.Reader) : M Bool := fun s =>
  match Reader.qdcount r0, Reader.ancount r0, Reader.nscount r0, Reader.arcount r0, Reader.opcode r0 with
  | .ok qd, .ok an, .ok ns, .ok ar, .ok opcode =>
    let qres : Option (Option (WName × Nat × Nat) × Reader.Reader) × Bool × Option Nat :=
      if qd = 0 then (some (none, r0), true, none)
      else if qd = 1 then
        match Reader.readQuestion r0 with
        | (.ok q, r1) =>
          match WName.parse q.qname with
          | some (qn, []) => (some (some (qn, q.qtype, q.qclass), r1), true, none)
          | _ => (none, true, some 255)
        | (.err _, _) => (none, true, some (RC "FORMERR"))
        | (.panic, _) => (none, true, some 255)
      else (none, false, none)
    match qres with
    | (none, false, _) => (.ok false, s)
    | (none, true, some 255) => (.panic, s)
    | (none, true, rc) => (do setRcode (rc.getD 0); pure true) s
    | (some (question, r1), _, _) =>
      (do
        let okQ ← addQuestionOrServfail question
        if !okQ then pure true
        else scanAndDispatch cfg tr now an ns ar opcode question r1) s
  | _, _, _, _, _ => (.panic, s)

/-- the model's `handleWithContext` *is* this composition -/
theorem handleWithContext_split (cfg : Cfg) (tr : Transport) (now : Nat) (r0 : Reader.Reader) :
    handleWithContext cfg tr now r0 = handleWithContext' cfg tr now r0 := by
  funext s
  unfold handleWithContext handleWithContext' scanAndDispatch addQuestionOrServfail
  rfl

/-- **the whole of `handle_message_with_context` after the question frames**: the three section
    scans, OPT and TSIG processing, the opcode dispatch and the answering phase leave the ID, QR,
    opcode, RD, RA, Z/AD/CD bits, the question octets, QDCOUNT and `rr_start` alone -/
theorem framed_scanAndDispatch (b : Nat) (hb : 4 ≤ b) (cfg : Cfg) (tr : Transport) (now an ns ar opcode : Nat)
    (question : Option (WName × Nat × Nat)) (r1 : Reader.Reader) :
    Framed false b (scanAndDispatch cfg tr now an ns ar opcode question r1) := by
  unfold scanAndDispatch
  simp only
  split
  · exact framed_formErr b hb true
  · refine framed_bind (framed_scanAr b hb cfg tr now ar ar 0 _) fun st => ?_
    split
    · exact framed_pure b true
    · split
      · exact framed_formErr b hb true
      · split
        · exact framed_bind (framed_handleQuery b hb cfg question tr) fun _ => framed_pure b true
        · exact framed_bind (framed_setRcode b hb _ rcodesFit.notimp) fun _ => framed_pure b true

end QV.Server

namespace QV.ServerScan
open QV QV.Wire QV.Reader QV.Writer

/-! ### the end-of-message check and the decision table -/

/-- the catalog lookup as the spec's scan sees it: the kind of the entry `Catalog::lookup` returns
    for the (well-formed) QNAME and the QCLASS -/
def catKind (cfg : Server.Cfg) (qname : List UInt8) (qclass : Nat) : Option Spec.Server.ZoneKind :=
  match WName.parse qname with
  | some (qn, _) =>
    (Catalog.lookup (Server.mkCatalog cfg.zones) qn.labels qclass).map (fun e =>
      match e.kind with
      | .Loaded => Spec.Server.ZoneKind.loaded
      | .NotYetLoaded => .notYetLoaded
      | .FailedToLoad => .failedToLoad)
  | none => none

/-- the question as the spec decodes it vs. as the model holds it -/
def QRel (q : Option Spec.DQuestion) (question : Option (WName × Nat × Nat)) : Prop :=
  match q, question with
  | none, none => True
  | some x, some (qn, qt, qc) => WName.parse x.qname = some (qn, []) ∧ qt = x.qtype ∧ qc = x.qclass
  | _, _ => False

/-- the end-of-message check and the decision table (the part of `specScanWith` after the three
    record sections), `pos` being where the scan ended -/
def endVerdict (lookup : List UInt8 → Nat → Option Spec.Server.ZoneKind) (msgSize : Nat)
    (q : Option Spec.DQuestion) (pos opcode : Nat) : Spec.Server.Verdict :=
  if pos < msgSize then .formErr
  else if opcode ≠ 0 then .notImp
  else match q with
    | none => .formErr
    | some qq =>
      if 251 ≤ qq.qtype ∧ qq.qtype ≤ 254 then .notImp
      else if qq.qclass = 255 then .notImp
      else match lookup qq.qname qq.qclass with
        | none => .refused
        | some .loaded => .answer
        | some _ => .servFailZone

/-- the table decides among FORMERR, NOTIMP, REFUSED, SERVFAIL and "a loaded zone answers" -/
theorem endVerdict_range (lookup : List UInt8 → Nat → Option Spec.Server.ZoneKind) (sz : Nat)
    (q : Option Spec.DQuestion) (pos op : Nat) :
    endVerdict lookup sz q pos op = .answer ∨ endVerdict lookup sz q pos op = .formErr ∨
    endVerdict lookup sz q pos op = .notImp ∨ endVerdict lookup sz q pos op = .refused ∨
    endVerdict lookup sz q pos op = .servFailZone := by
  unfold endVerdict
  repeat' split
  all_goals simp

/-- the table gives FORMERR for octets after the last record and for a QUERY without a question, and for
    nothing else -/
theorem endVerdict_formErr_iff (l : List UInt8 → Nat → Option Spec.Server.ZoneKind) (sz : Nat) (q : Option Spec.DQuestion)
    (pos op : Nat) : endVerdict l sz q pos op = .formErr ↔ pos < sz ∨ (op = 0 ∧ q = none) := by
  unfold endVerdict
  by_cases c1 : pos < sz
  · simp [c1]
  by_cases c2 : op = 0
  · cases q with
    | none => simp [c1, c2]
    | some qq =>
      simp only [c1, c2, if_false, ne_eq, not_true_eq_false, reduceCtorEq, and_false, or_false, iff_false]
      repeat' split
      all_goals simp
  · simp [c1, c2]

/-- the writer state of a no-data verdict: only the RCODE changes -/
def endState (v : Spec.Server.Verdict) (S : State) : State :=
  match v with
  | .formErr => stRcode 1 S
  | .notImp => stRcode 4 S
  | .refused => stRcode 5 S
  | .servFailZone => stRcode 2 S
  | _ => S

/-- `handle_query` on a QUERY scanned to the end of the message: unless a loaded zone answers, it
    sets the RCODE the table prescribes and does nothing else -/
theorem handleQuery_spec (cfg : Server.Cfg) (tr : Server.Transport) (q : Option Spec.DQuestion)
    (question : Option (WName × Nat × Nat)) (hq : QRel q question) (n pos : Nat) (hpos : ¬ pos < n)
    (S : State) (h3 : 3 < S.octets.size) (hv : endVerdict (catKind cfg) n q pos 0 ≠ .answer) :
    Server.handleQuery cfg question tr S = (.ok (), endState (endVerdict (catKind cfg) n q pos 0) S) := by
  unfold endVerdict at hv ⊢
  rw [if_neg hpos, if_neg (fun h => h rfl)] at hv ⊢
  unfold Server.handleQuery
  cases q with
  | none =>
    cases question with
    | none => rw [RC_FORMERR]; exact setRcode_eq 1 S h3
    | some x => exact False.elim hq
  | some qq =>
    cases question with
    | none => exact False.elim hq
    | some x =>
      obtain ⟨qn, qt, qc⟩ := x
      obtain ⟨hpq, rfl, rfl⟩ := hq
      have hm : (qq.qtype = 251 ∨ qq.qtype = 252 ∨ qq.qtype = 253 ∨ qq.qtype = 254) ↔
          (251 ≤ qq.qtype ∧ qq.qtype ≤ 254) := by omega
      simp only [QT_IXFR, QT_AXFR, QT_MAILB, QT_MAILA, QC_ANY_eq, RC_NOTIMP, RC_SERVFAIL, RC_REFUSED, hm] at hv ⊢
      by_cases h1 : 251 ≤ qq.qtype ∧ qq.qtype ≤ 254
      · simp only [h1, and_self, if_true]
        exact setRcode_eq 4 S h3
      · simp only [h1, if_false] at hv ⊢
        by_cases h2 : qq.qclass = 255
        · simp only [h2, if_true]
          exact setRcode_eq 4 S h3
        · simp only [h2, if_false] at hv ⊢
          unfold catKind at hv ⊢
          simp only [hpq] at hv ⊢
          generalize Catalog.lookup (Server.mkCatalog cfg.zones) qn.labels qq.qclass = found at hv ⊢
          cases found with
          | none => exact setRcode_eq 5 S h3
          | some e =>
            simp only [Option.map_some] at hv ⊢
            cases hk : e.kind with
            | Loaded => rw [hk] at hv; exact absurd rfl hv
            | NotYetLoaded => exact setRcode_eq 2 S h3
            | FailedToLoad => exact setRcode_eq 2 S h3

theorem do_formErr_true (s : State) (h : 3 < s.octets.size) :
    (do setRcode (Server.RC "FORMERR"); pure true : M Bool) s = (.ok true, stRcode 1 s) := by
  rw [RC_FORMERR, bind_ok (setRcode_eq 1 s h)]; rfl

/-- the model's end-of-message check and opcode dispatch, on any writer state (how the model holds
    the question matters only where `handle_query` does not hand over to a zone) -/
theorem dispatch_spec (cfg : Server.Cfg) (tr : Server.Transport) (req : Bytes)
    (q : Option Spec.DQuestion) (question : Option (WName × Nat × Nat))
    (r3 : Reader) (hsz : r3.octets.size = req.size) (opcode : Nat) (S : State) (h3 : 3 < S.octets.size)
    (hq : endVerdict (catKind cfg) req.size q r3.cursor opcode ≠ .answer → QRel q question) :
    (if !atEom r3 then (do setRcode (Server.RC "FORMERR"); pure true : M Bool)
      else (if opcode = 0 then (do Server.handleQuery cfg question tr; pure true : M Bool)
            else (do setRcode (Server.RC "NOTIMP"); pure true : M Bool))) S =
      if endVerdict (catKind cfg) req.size q r3.cursor opcode = .answer then
        (Server.handleQuery cfg question tr >>= fun _ => pure true) S
      else (.ok true, endState (endVerdict (catKind cfg) req.size q r3.cursor opcode) S) := by
  simp only [atEom, hsz]
  by_cases hlt : r3.cursor < req.size
  · have hv : endVerdict (catKind cfg) req.size q r3.cursor opcode = .formErr := by
      unfold endVerdict; rw [if_pos hlt]
    rw [hv, if_neg (show Spec.Server.Verdict.formErr ≠ .answer from fun h => by cases h)]
    simp only [show ¬ (r3.cursor ≥ req.size) by omega, decide_false, Bool.not_false, if_true]
    exact do_formErr_true S h3
  · simp only [show r3.cursor ≥ req.size by omega, decide_true, Bool.not_true, Bool.false_eq_true, if_false]
    by_cases hop : opcode = 0
    · subst hop
      rw [if_pos rfl]
      by_cases hv : endVerdict (catKind cfg) req.size q r3.cursor 0 = .answer
      · rw [if_pos hv]
      · rw [if_neg hv, bind_ok (handleQuery_spec cfg tr q question (hq hv) req.size r3.cursor hlt S h3 hv)]; rfl
    · have hv : endVerdict (catKind cfg) req.size q r3.cursor opcode = .notImp := by
        unfold endVerdict; rw [if_neg hlt, if_pos hop]
      rw [hv, if_neg (show Spec.Server.Verdict.notImp ≠ .answer from fun h => by cases h), if_neg hop, RC_NOTIMP,
        bind_ok (setRcode_eq 4 S h3)]
      rfl

/-! ### from the mark to the opcode dispatch -/

/-- the spec's scan after the question (`specScanWith` from `scanPlain` on) -/
def specTail (lookup : List UInt8 → Nat → Option Spec.Server.ZoneKind) (serverSize : Nat) (msg : Bytes)
    (q : Option Spec.DQuestion) (p1 an ns ar opcode : Nat) : Spec.Server.Scan :=
  match Spec.Server.scanPlain msg (an + ns) p1 with
  | none => { respond := true, question := q, verdict := .formErr }
  | some p2 =>
    match Spec.Server.scanAr msg serverSize ar ar p2 false 512 with
    | (.formErr, e, l) => { respond := true, question := q, edns := e, limitUdp := l, verdict := .formErr }
    | (.badVers, e, l) => { respond := true, question := q, edns := e, limitUdp := l, verdict := .badVers }
    | (.tsig, e, l) => { respond := true, question := q, edns := e, limitUdp := l, verdict := .tsigReached }
    | (.done p3, e, l) =>
      let base : Spec.Server.Scan := { respond := true, question := q, edns := e, limitUdp := l }
      if p3 < msg.size then { base with verdict := .formErr }
      else if opcode ≠ 0 then { base with verdict := .notImp }
      else match q with
        | none => { base with verdict := .formErr }
        | some qq =>
          if 251 ≤ qq.qtype ∧ qq.qtype ≤ 254 then { base with verdict := .notImp }
          else if qq.qclass = 255 then { base with verdict := .notImp }
          else match lookup qq.qname qq.qclass with
            | none => { base with verdict := .refused }
            | some .loaded => { base with verdict := .answer }
            | some _ => { base with verdict := .servFailZone }

/-- `specTail` field by field: it always responds, with the question it was given; EDNS and the UDP
    limit are those the scan of the additional section ends with; and after a clean scan the verdict
    is the table's -/
theorem specTail_eq (lookup : List UInt8 → Nat → Option Spec.Server.ZoneKind) (S : Nat) (msg : Bytes)
    (q : Option Spec.DQuestion) (p1 an ns ar opcode : Nat) :
    specTail lookup S msg q p1 an ns ar opcode =
      match Spec.Server.scanPlain msg (an + ns) p1 with
      | none => { respond := true, question := q, verdict := .formErr }
      | some p2 =>
        match Spec.Server.scanAr msg S ar ar p2 false 512 with
        | (en, e, l) =>
          { respond := true, question := q, edns := e, limitUdp := l,
            verdict := match en with
              | .formErr => .formErr
              | .badVers => .badVers
              | .tsig => .tsigReached
              | .done p3 => endVerdict lookup msg.size q p3 opcode } := by
  unfold specTail
  cases Spec.Server.scanPlain msg (an + ns) p1 with
  | none => rfl
  | some p2 =>
    simp only
    generalize Spec.Server.scanAr msg S ar ar p2 false 512 = res
    obtain ⟨en, e, l⟩ := res
    cases en with
    | formErr => rfl
    | badVers => rfl
    | tsig => rfl
    | done p3 =>
      simp only [endVerdict]
      by_cases c1 : p3 < msg.size
      · rw [if_pos c1, if_pos c1]
      · rw [if_neg c1, if_neg c1]
        by_cases c2 : opcode ≠ 0
        · rw [if_pos c2, if_pos c2]
        · rw [if_neg c2, if_neg c2]
          cases q with
          | none => rfl
          | some qq =>
            simp only
            by_cases c3 : 251 ≤ qq.qtype ∧ qq.qtype ≤ 254
            · rw [if_pos c3, if_pos c3]
            · rw [if_neg c3, if_neg c3]
              by_cases c4 : qq.qclass = 255
              · rw [if_pos c4, if_pos c4]
              · rw [if_neg c4, if_neg c4]
                cases lookup qq.qname qq.qclass with
                | none => rfl
                | some k => cases k <;> rfl

theorem specTail_respond (lookup : List UInt8 → Nat → Option Spec.Server.ZoneKind) (S : Nat) (msg : Bytes)
    (q : Option Spec.DQuestion) (p1 an ns ar op : Nat) : (specTail lookup S msg q p1 an ns ar op).respond = true := by
  rw [specTail_eq]
  cases Spec.Server.scanPlain msg (an + ns) p1 <;> rfl

theorem specTail_question (lookup : List UInt8 → Nat → Option Spec.Server.ZoneKind) (S : Nat) (msg : Bytes)
    (q : Option Spec.DQuestion) (p1 an ns ar op : Nat) : (specTail lookup S msg q p1 an ns ar op).question = q := by
  rw [specTail_eq]
  cases Spec.Server.scanPlain msg (an + ns) p1 <;> rfl

/-- `endVerdict` is literally the table `specScanWith` applies after a clean scan -/
theorem specTail_done (lookup : List UInt8 → Nat → Option Spec.Server.ZoneKind) (S : Nat) (msg : Bytes)
    (q : Option Spec.DQuestion) (p1 an ns ar opcode p2 p3 : Nat) (e : Bool) (l : Nat)
    (h1 : Spec.Server.scanPlain msg (an + ns) p1 = some p2)
    (h2 : Spec.Server.scanAr msg S ar ar p2 false 512 = (.done p3, e, l)) :
    (specTail lookup S msg q p1 an ns ar opcode).verdict = endVerdict lookup msg.size q p3 opcode := by
  rw [specTail_eq]
  simp only [h1, h2]

/-- the writer state the verdict dictates (no-data verdicts) -/
def finalOf (s1 : State) (tr : Server.Transport) (payload : Nat) (sc : Spec.Server.Scan) : State :=
  match sc.verdict with
  | .formErr => stRcode 1 (arSt s1 tr payload sc.edns sc.limitUdp)
  | .badVers => stXRcode 16 ⟨payload, 0⟩ (arSt s1 tr payload sc.edns sc.limitUdp)
  | .notImp => stRcode 4 (arSt s1 tr payload sc.edns sc.limitUdp)
  | .refused => stRcode 5 (arSt s1 tr payload sc.edns sc.limitUdp)
  | .servFailZone => stRcode 2 (arSt s1 tr payload sc.edns sc.limitUdp)
  | _ => arSt s1 tr payload sc.edns sc.limitUdp

/-- is the verdict decided by the scan alone (everything but "a loaded zone answers" and "a TSIG
    record was reached")? -/
def noDataV : Spec.Server.Verdict → Bool
  | .answer => false
  | .tsigReached => false
  | _ => true

/-! ### the TSIG step hands back the reader it was given, and keeps the buffer's size -/

theorem tsigAfter_some (cfg : Server.Cfg) (now : Nat) (t : Tsig.ReadTsigRr) (mw : Bytes) (r' r'' : Reader)
    (s S : State) (h : Server.tsigAfter cfg now t mw r' s = (.ok (some r''), S)) : r'' = r' := by
  unfold Server.tsigAfter at h
  split at h
  · cases h
  · rcases tsigProcess_out (hm := Tsig.realHmac) (keys := cfg.keys) (r := t) (msg := mw.toList) s r' with
      e | ⟨_, e⟩ | ⟨_, _, _, _, _, _, _, _, _, _, _, e⟩ <;> rw [e] at h
    · cases h
    · cases h
    · split at h
      · exact (Option.some.inj (Out.ok.inj (Prod.mk.inj h).1)).symm
      · cases h

theorem tsigAfter_size (cfg : Server.Cfg) (now : Nat) (t : Tsig.ReadTsigRr) (mw : Bytes) (r' : Reader)
    (s : State) : (Server.tsigAfter cfg now t mw r' s).2.octets.size = s.octets.size := by
  unfold Server.tsigAfter
  split
  · rfl
  · rcases tsigProcess_out (hm := Tsig.realHmac) (keys := cfg.keys) (r := t) (msg := mw.toList) s r' with
      e | ⟨_, e⟩ | ⟨_, _, rc, mode, rr, _, _, _, _, _, _, e⟩ <;> rw [e]
    · exact stRcode_size 9 s
    · exact (stepSt_frame rc mode rr s).1.size

/-- what the handler returns after the TSIG step, as a function of that step's outcome: not
    authenticated ⇒ respond as the step left the writer; authenticated ⇒ the end-of-message check
    and the decision table of unsigned requests, on the state the step left -/
def afterTsig (cfg : Server.Cfg) (tr : Server.Transport) (req : Bytes) (q : Option Spec.DQuestion)
    (question : Option (WName × Nat × Nat)) (opcode pos : Nat)
    (out : Out WriterErr (Option Reader) × State) : Out WriterErr Bool × State :=
  match out with
  | (.ok (some _), S) =>
    if endVerdict (catKind cfg) req.size q pos opcode = .answer then
      (Server.handleQuery cfg question tr >>= fun _ => pure true) S
    else (.ok true, endState (endVerdict (catKind cfg) req.size q pos opcode) S)
  | (.ok none, S) => (.ok true, S)
  | (.err x, S) => (.err x, S)
  | (.panic, S) => (.panic, S)

/-- **`scanAndDispatch` is a function of the spec's scan** (`specTail`): on a no-data verdict it leaves
    the writer `finalOf` dictates (the RCODE on `arSt`, the writer the OPT seen so far gives); when a
    loaded zone answers it hands over to `handle_query` on `arSt`; and when a well-formed TSIG record
    is reached it runs the TSIG step on `arSt` and continues as `afterTsig` says, `r'` being the reader
    after that record.  (How the model holds the question matters only off the answer path.) -/
theorem scanAndDispatch_view (cfg : Server.Cfg) (tr : Server.Transport) (now : Nat) (req : Bytes)
    (q : Option Spec.DQuestion) (question : Option (WName × Nat × Nat))
    (r1 : Reader) (hi : Inv r1) (ho : r1.octets = req) (s1 : State) (hb : Base s1 tr cfg.payload)
    (hreq : req.size ≤ Rdata.USIZE_MAX) (an ns ar opcode : Nat)
    (hq : (specTail (catKind cfg) cfg.payload req q r1.cursor an ns ar opcode).verdict ≠ .answer → QRel q question) :
    let sc := specTail (catKind cfg) cfg.payload req q r1.cursor an ns ar opcode
    match sc.verdict with
    | .answer => Server.scanAndDispatch cfg tr now an ns ar opcode question r1 s1 =
        (Server.handleQuery cfg question tr >>= fun _ => pure true) (arSt s1 tr cfg.payload sc.edns sc.limitUdp)
    | .tsigReached =>
        ∃ (t : Tsig.ReadTsigRr) (mw : Bytes) (r' : Reader), r'.octets = req ∧ r'.cursor ≤ req.size ∧
          Server.scanAndDispatch cfg tr now an ns ar opcode question r1 s1 =
            afterTsig cfg tr req q question opcode r'.cursor
              (Server.tsigAfter cfg now t mw r' (arSt s1 tr cfg.payload sc.edns sc.limitUdp)) ∧
          -- the TSIG record: the last of the `ar` additional records, after the `an + ns` plain ones
          ∃ p2 d, Spec.Server.scanPlain req (an + ns) r1.cursor = some p2 ∧
            Spec.ServerTsig.walk req ar p2 = some d ∧ TsigView req d t mw r'
    | _ => Server.scanAndDispatch cfg tr now an ns ar opcode question r1 s1 =
        (.ok true, finalOf s1 tr cfg.payload sc) := by
  dsimp only
  unfold Server.scanAndDispatch
  have hsp := scanAnNs_spec req (an + ns) (setMark r1) hi ho
  rw [show (setMark r1).cursor = r1.cursor from rfl] at hsp
  rw [specTail_eq] at hq ⊢
  simp only
  cases hpl : Spec.Server.scanPlain req (an + ns) r1.cursor with
  | none =>
    rw [hpl] at hsp
    simp only [hsp]
    exact do_formErr_true s1 hb.size3
  | some p2 =>
    rw [hpl] at hsp hq
    obtain ⟨hsn, hp2, _⟩ := hsp
    simp only [hsn]
    have har := scanAr_spec cfg tr now req ar s1 hb hreq ar 0 { setMark r1 with cursor := p2 } false 512
      (by omega) ⟨hi.1, by rw [show ({ setMark r1 with cursor := p2 } : Reader).octets = r1.octets from rfl, ho]; exact hp2⟩
      ho (fun _ => rfl)
    rw [show arSt s1 tr cfg.payload false 512 = s1 from rfl] at har
    simp only at har hq
    generalize Spec.Server.scanAr req cfg.payload ar ar p2 false 512 = res at har hq
    obtain ⟨en, e, l⟩ := res
    have hS3 : 3 < (arSt s1 tr cfg.payload e l).octets.size := by rw [arSt_size]; exact hb.size3
    cases en with
    | formErr => simp only [ArPost] at har ⊢; rw [bind_ok har]; rfl
    | badVers => simp only [ArPost] at har ⊢; rw [bind_ok har]; rfl
    | done p3 =>
      simp only [ArPost] at har hq ⊢
      rw [bind_ok har.1]
      have hd := dispatch_spec cfg tr req q question ({ setMark r1 with cursor := p3 } : Reader) (by rw [← ho]; rfl)
        opcode _ hS3 hq
      -- the table's verdict: "answer", or an RCODE on `arSt`
      rcases endVerdict_range (catKind cfg) req.size q p3 opcode with h | h | h | h | h <;> rw [h] at hd ⊢ <;> exact hd
    | tsig =>
      simp only [ArPost] at har ⊢
      obtain ⟨t, mw, r', ho', hc', _, har, dT, hwalk, hview⟩ := har
      refine ⟨t, mw, r', ho', hc', ?_, p2, dT, rfl, hwalk, hview⟩
      rw [M.bind_apply, har]
      have hS : (Server.tsigAfter cfg now t mw r' (arSt s1 tr cfg.payload e l)).2.octets.size = s1.octets.size := by
        rw [tsigAfter_size cfg now t mw r' _, arSt_size]
      rcases hT : Server.tsigAfter cfg now t mw r' (arSt s1 tr cfg.payload e l) with ⟨(o | x | _), S⟩
      · rw [hT] at hS
        cases o with
        | none => rfl
        | some r'' =>
          have := tsigAfter_some cfg now t mw r' r'' _ S hT
          subst this
          simp only [tsigCont, afterTsig]
          exact dispatch_spec cfg tr req q question r'' (by rw [ho']) opcode S (by rw [hS]; exact hb.size3)
            fun _ => hq (fun h => by cases h)
      · rfl
      · rfl

/-- when the spec's verdict is "a loaded zone answers", the model has scanned all three sections,
    found the end of the message and an opcode QUERY, and hands over to `handle_query` on the
    writer state the scan left -/
theorem scanAndDispatch_answer (cfg : Server.Cfg) (tr : Server.Transport) (now : Nat) (req : Bytes)
    (q : Option Spec.DQuestion) (question : Option (WName × Nat × Nat))
    (r1 : Reader) (hi : Inv r1) (ho : r1.octets = req) (s1 : State) (hb : Base s1 tr cfg.payload)
    (hreq : req.size ≤ Rdata.USIZE_MAX) (an ns ar opcode : Nat)
    (hv : (specTail (catKind cfg) cfg.payload req q r1.cursor an ns ar opcode).verdict = .answer) :
    Server.scanAndDispatch cfg tr now an ns ar opcode question r1 s1 =
      (Server.handleQuery cfg question tr >>= fun _ => pure true)
        (arSt s1 tr cfg.payload (specTail (catKind cfg) cfg.payload req q r1.cursor an ns ar opcode).edns
          (specTail (catKind cfg) cfg.payload req q r1.cursor an ns ar opcode).limitUdp) := by
  have h := scanAndDispatch_view cfg tr now req q question r1 hi ho s1 hb hreq an ns ar opcode
    fun h => absurd hv h
  dsimp only at h
  rw [hv] at h
  exact h

/-- **the scan after a TSIG record** (verdict `tsigReached`): the handler runs the TSIG step on the
    writer state the scan left (`arSt`), and continues as `afterTsig` says; `r'` is the reader after
    the TSIG record -/
theorem scanAndDispatch_tsig_view (cfg : Server.Cfg) (tr : Server.Transport) (now : Nat) (req : Bytes)
    (q : Option Spec.DQuestion) (question : Option (WName × Nat × Nat)) (hq : QRel q question)
    (r1 : Reader) (hi : Inv r1) (ho : r1.octets = req) (s1 : State) (hb : Base s1 tr cfg.payload)
    (hreq : req.size ≤ Rdata.USIZE_MAX) (an ns ar opcode : Nat)
    (hv : (specTail (catKind cfg) cfg.payload req q r1.cursor an ns ar opcode).verdict = .tsigReached) :
    ∃ (t : Tsig.ReadTsigRr) (mw : Bytes) (r' : Reader), r'.octets = req ∧ r'.cursor ≤ req.size ∧
      Server.scanAndDispatch cfg tr now an ns ar opcode question r1 s1 =
        afterTsig cfg tr req q question opcode r'.cursor
          (Server.tsigAfter cfg now t mw r'
            (arSt s1 tr cfg.payload (specTail (catKind cfg) cfg.payload req q r1.cursor an ns ar opcode).edns
              (specTail (catKind cfg) cfg.payload req q r1.cursor an ns ar opcode).limitUdp)) ∧
      -- the TSIG record: the last of the `ar` additional records, after the `an + ns` plain ones
      ∃ p2 d, Spec.Server.scanPlain req (an + ns) r1.cursor = some p2 ∧
        Spec.ServerTsig.walk req ar p2 = some d ∧ TsigView req d t mw r' := by
  have h := scanAndDispatch_view cfg tr now req q question r1 hi ho s1 hb hreq an ns ar opcode fun _ => hq
  dsimp only at h
  rw [hv] at h
  exact h

/-! ### `handle_message_with_context` -/

/-- the writer as `handle_message_with_context` finds it: nothing but the header -/
structure HdrOk (sH : State) (tr : Server.Transport) (payload : Nat) : Prop where
  sect : sH.sect = .question
  qd : sH.qdcount = 0
  an : sH.ancount = 0
  ns : sH.nscount = 0
  ar : sH.arcount = 0
  qname : sH.qname = none
  owner : sH.mostRecentOwner = none
  inr : sH.mostRecentNameInRdata = none
  cursor : sH.cursor = 12
  rrStart : sH.rrStart = 12
  edns : sH.edns = none
  tsig : sH.tsig = none
  lim : sH.limit = lim0 tr
  avail : sH.available = sH.limit
  size : sH.limit ≤ sH.octets.size
  buf : tr = .udp → payload ≤ sH.octets.size

theorem HdrOk.lim512 {sH : State} {tr : Server.Transport} {payload : Nat} (h : HdrOk sH tr payload) :
    512 ≤ sH.limit := by
  rw [h.lim]; cases tr <;> simp [lim0]

/-- the model's form of the spec's question -/
def toQ (q : Spec.DQuestion) : WName :=
  match WName.parse q.qname with
  | some (n, _) => n
  | none => ⟨[]⟩

/-- the writer after the question (if any) has been added -/
def qSt (sH : State) (q : Option Spec.DQuestion) : State :=
  match q with
  | none => sH
  | some q => (addQuestion (toQ q) q.qtype q.qclass sH).2

theorem base_of_hdr (sH : State) (tr : Server.Transport) (payload : Nat) (h : HdrOk sH tr payload) :
    Base sH tr payload := by
  have := h.lim512
  have h2 := h.avail
  have h3 := h.size
  have h4 := h.cursor
  refine ⟨h.edns, by omega, by omega, by rw [h.ar]; omega, h.lim, ?_, h.avail, h.size, h.tsig⟩
  intro htr
  exact ⟨by omega, h.buf htr⟩

/-- adding the (well-formed) question of the request to the header-only writer -/
theorem qSt_some (sH : State) (tr : Server.Transport) (payload : Nat) (h : HdrOk sH tr payload)
    (q : Spec.DQuestion) (qn : WName) (hp : WName.parse q.qname = some (qn, [])) (hw : qn.wire = q.qname)
    (hl : q.qname.length ≤ 255) :
    addQuestion qn q.qtype q.qclass sH = (.ok (), qSt sH (some q)) ∧ Base (qSt sH (some q)) tr payload ∧
    (qSt sH (some q)).octets = writeAt (writeAt (writeAt sH.octets 12 q.qname) (12 + q.qname.length) (u16be q.qtype))
                    (12 + q.qname.length + 2) (u16be q.qclass) ∧
    (qSt sH (some q)).cursor = 12 + q.qname.length + 4 ∧ (qSt sH (some q)).qdcount = 1 ∧
    (qSt sH (some q)).ancount = sH.ancount ∧ (qSt sH (some q)).nscount = sH.nscount ∧
    (qSt sH (some q)).arcount = 0 ∧ (qSt sH (some q)).rrStart = 12 + q.qname.length + 4 := by
  have h512 := h.lim512
  have hav := h.avail
  have hsz := h.size
  have hcur := h.cursor
  obtain ⟨s', hadd, ho, hc, hrr, hqd, han, hns, har, hlim, havl, hed, hts, hse⟩ :=
    addQuestion_first qn q.qtype q.qclass sH h.sect h.qd h.qname h.owner h.inr
      (by rw [hw]; omega) (by omega)
  have htoq : toQ q = qn := by unfold toQ; rw [hp]
  have hqs : qSt sH (some q) = s' := by
    show (addQuestion (toQ q) q.qtype q.qclass sH).2 = s'
    rw [htoq, hadd]
  rw [hqs]
  rw [hw, hcur] at ho hc hrr
  have hsz' : s'.octets.size = sH.octets.size := by rw [ho]; simp only [writeAt_size]
  refine ⟨hadd, ⟨by rw [hed]; exact h.edns, by omega, by omega, by rw [har, h.ar]; omega,
    by rw [hlim]; exact h.lim, ?_, by rw [havl, hlim]; exact hav, by omega, by rw [hts]; exact h.tsig⟩,
    ho, hc, hqd, han, hns, by rw [har]; exact h.ar, hrr⟩
  intro htr
  exact ⟨by omega, by rw [hsz']; exact h.buf htr⟩

/-- the spec's scan after the header checks (length, QR): `specScanWith` from QDCOUNT on -/
def specBody (lookup : List UInt8 → Nat → Option Spec.Server.ZoneKind) (serverSize : Nat) (msg : Bytes) :
    Spec.Server.Scan :=
  if Spec.Server.hdr msg 4 > 1 then { respond := false }
  else
    let qres : Option (Option Spec.DQuestion × Nat) :=
      if Spec.Server.hdr msg 4 = 0 then some (none, 12)
      else match Spec.specQuestionAt msg 12 with
        | some (w, t, c, nx) => some (some ⟨w, t, c⟩, nx)
        | none => none
    match qres with
    | none => { respond := true, verdict := .formErr }
    | some (q, p1) =>
      specTail lookup serverSize msg q p1 (Spec.Server.hdr msg 6) (Spec.Server.hdr msg 8) (Spec.Server.hdr msg 10)
        ((msg.getD 2 0).toNat / 8 % 16)

theorem specScanWith_eq (lookup : List UInt8 → Nat → Option Spec.Server.ZoneKind) (serverSize : Nat) (msg : Bytes) :
    Spec.Server.specScanWith lookup serverSize msg =
      if msg.size < 12 then { respond := false }
      else if (msg.getD 2 0).toNat ≥ 128 then { respond := false }
      else specBody lookup serverSize msg := by
  unfold Spec.Server.specScanWith specBody specTail
  rfl

/-- a request the spec's scan responds to has a full header and QR clear -/
theorem specScanWith_respond (lookup : List UInt8 → Nat → Option Spec.Server.ZoneKind) (S : Nat) (req : Bytes)
    (hr : (Spec.Server.specScanWith lookup S req).respond = true) :
    12 ≤ req.size ∧ (req.getD 2 0).toNat < 128 ∧ Spec.Server.specScanWith lookup S req = specBody lookup S req := by
  rw [specScanWith_eq] at hr ⊢
  have h12 : 12 ≤ req.size := by
    by_cases hc : req.size < 12
    · simp only [hc, if_true] at hr; cases hr
    · omega
  have hqr : (req.getD 2 0).toNat < 128 := by
    by_cases hc : (req.getD 2 0).toNat ≥ 128
    · simp only [show ¬ req.size < 12 by omega, hc, if_false, if_true] at hr; cases hr
    · omega
  refine ⟨h12, hqr, ?_⟩
  simp only [show ¬ req.size < 12 by omega, show ¬ (req.getD 2 0).toNat ≥ 128 by omega, if_false]

/-- the spec's scan declines to respond only for QDCOUNT > 1 -/
theorem specBody_respond (lookup : List UInt8 → Nat → Option Spec.Server.ZoneKind) (S : Nat) (msg : Bytes) :
    (specBody lookup S msg).respond = false ↔ Spec.Server.hdr msg 4 > 1 := by
  unfold specBody
  by_cases hgt : Spec.Server.hdr msg 4 > 1
  · simp only [hgt, if_true]
  · simp only [hgt, if_false, iff_false]
    split
    · exact fun h => by cases h
    · rw [specTail_respond]; exact fun h => by cases h

theorem specQuestionAt_some (msg : Bytes) (pos : Nat) (w : List UInt8) (t c nx : Nat)
    (h : Spec.specQuestionAt msg pos = some (w, t, c, nx)) :
    ∃ p, parseCompressed msg pos = .ok p ∧ p.wire = w ∧ nx = pos + p.len + 4 ∧ nx ≤ msg.size ∧ w.length ≤ 255 := by
  rw [specQuestionAt_eq] at h
  cases hp : parseCompressed msg pos with
  | ok p =>
    rw [hp] at h
    simp only at h
    by_cases hle : pos + p.len + 4 ≤ msg.size
    · simp only [hle, if_true, Option.some.injEq, Prod.mk.injEq] at h
      obtain ⟨h1, _, _, h4⟩ := h
      exact ⟨p, rfl, h1, h4.symm, by omega, by rw [← h1]; exact ((C14.C14_parse_ok_iff msg pos p).mp hp).2⟩
    · simp only [hle, if_false] at h; cases h
  | err e => rw [hp] at h; cases h
  | panic => rw [hp] at h; cases h

/-- header accessors of a reader on a message of at least twelve octets, in the spec's terms -/
theorem reader_header (req : Bytes) (h12 : 12 ≤ req.size) :
    let r0 : Reader := ⟨req, 12, none⟩
    qdcount r0 = .ok (Spec.Server.hdr req 4) ∧ ancount r0 = .ok (Spec.Server.hdr req 6) ∧
    nscount r0 = .ok (Spec.Server.hdr req 8) ∧ arcount r0 = .ok (Spec.Server.hdr req 10) ∧
    msgId r0 = .ok (Spec.Server.hdr req 0) ∧
    opcode r0 = .ok (((req.getD 2 0).toNat &&& 120) >>> 3) ∧
    qr r0 = .ok (((req.getD 2 0).toNat &&& 128) != 0) ∧
    Reader.rd r0 = .ok (((req.getD 2 0).toNat &&& 1) != 0) := by
  intro r0
  have hi : Inv r0 := ⟨h12, h12⟩
  obtain ⟨_, h1, h2, h3, h4, h5⟩ := C15.C15_header_fields r0 hi
  refine ⟨h2, h3, h4, h5, h1, ?_, ?_, ?_⟩
  · have hlt : 2 < req.size := by omega
    have : (req[2].toNat &&& 120) ≤ 120 := Nat.and_le_right
    have h2 : (req[2].toNat &&& 120) >>> 3 < 16 := by rw [Nat.shiftRight_eq_div_pow]; omega
    simp [opcode, idx, Gen.OPCODE_BYTE, Gen.OPCODE_MASK, Gen.OPCODE_SHIFT, hlt, h2, Array.getD, r0]
  · have hlt : 2 < req.size := by omega
    simp [qr, flag, idx, Gen.QR_BYTE, Gen.QR_MASK, hlt, Array.getD, r0]
  · have hlt : 2 < req.size := by omega
    simp [Reader.rd, flag, idx, Gen.RD_BYTE, Gen.RD_MASK, hlt, Array.getD, r0]

theorem opcode_bits : ∀ x : UInt8, (x.toNat &&& 120) >>> 3 = x.toNat / 8 % 16 := by
  apply forall_uint8; decide +kernel

/-- **how `handle_message_with_context` reaches the scan** on a header-only writer, with what the
    spec's `specBody` is in each case: the header counts, the question, `add_question` -/
inductive HwcHead (cfg : Server.Cfg) (tr : Server.Transport) (now : Nat) (req : Bytes) (sH : State) : Prop
  /-- QDCOUNT > 1: `send_response` is cleared -/
  | silent (hqd : Spec.Server.hdr req 4 > 1)
      (hsc : ∀ lookup S, specBody lookup S req = { respond := false })
      (h : Server.handleWithContext cfg tr now ⟨req, 12, none⟩ sH = (.ok false, sH))
  /-- QDCOUNT = 1 and no question can be read: FORMERR, nothing else -/
  | badQuestion (hsc : ∀ lookup S, specBody lookup S req = { respond := true, verdict := .formErr })
      (h : Server.handleWithContext cfg tr now ⟨req, 12, none⟩ sH = (.ok true, stRcode 1 sH))
  /-- no question, or one that `add_question` wrote: the scan runs from `p1` on the writer `qSt sH q` -/
  | scan (q : Option Spec.DQuestion) (question : Option (WName × Nat × Nat)) (p1 : Nat)
      (hq : QRel q question) (hp1 : p1 ≤ req.size)
      (hsq : ∀ x, q = some x → Spec.specQuestionAt req 12 = some (x.qname, x.qtype, x.qclass, p1))
      (hqd : if Spec.Server.hdr req 4 = 0 then q = none ∧ p1 = 12 else ∃ x, q = some x)
      (hsc : ∀ lookup S, specBody lookup S req = specTail lookup S req q p1 (Spec.Server.hdr req 6)
        (Spec.Server.hdr req 8) (Spec.Server.hdr req 10) ((req.getD 2 0).toNat / 8 % 16))
      (hb : Base (qSt sH q) tr cfg.payload) (hcur : 12 ≤ (qSt sH q).cursor) (hrr : 12 ≤ (qSt sH q).rrStart)
      (h : Server.handleWithContext cfg tr now ⟨req, 12, none⟩ sH =
        Server.scanAndDispatch cfg tr now (Spec.Server.hdr req 6) (Spec.Server.hdr req 8) (Spec.Server.hdr req 10)
          ((req.getD 2 0).toNat / 8 % 16) question ⟨req, p1, none⟩ (qSt sH q))

theorem hwc_head (cfg : Server.Cfg) (tr : Server.Transport) (now : Nat) (req : Bytes) (h12 : 12 ≤ req.size)
    (sH : State) (hH : HdrOk sH tr cfg.payload) : HwcHead cfg tr now req sH := by
  obtain ⟨hqd, han, hns, har, _, hop, _, _⟩ := reader_header req h12
  have hwc := congrFun (Server.handleWithContext_split cfg tr now ⟨req, 12, none⟩) sH
  unfold Server.handleWithContext' at hwc
  simp only [hqd, han, hns, har, hop, opcode_bits] at hwc
  by_cases hq0 : Spec.Server.hdr req 4 = 0
  · refine .scan none none 12 trivial h12 (fun x hx => by cases hx) (by rw [if_pos hq0]; exact ⟨rfl, rfl⟩)
      (fun lookup S => ?_) (base_of_hdr sH tr cfg.payload hH)
      (Nat.le_of_eq hH.cursor.symm) (Nat.le_of_eq hH.rrStart.symm) ?_
    · unfold specBody
      simp only [hq0, show ¬ (0 > 1) by omega, if_false, if_true]
    · rw [hwc]
      simp only [hq0, if_true]
      rw [bind_ok (show Server.addQuestionOrServfail none sH = (.ok true, sH) from rfl)]
      rfl
  · by_cases hq1 : Spec.Server.hdr req 4 = 1
    · simp only [hq1, show ¬ ((1 : Nat) = 0) by omega, if_false, if_true] at hwc
      have hrq := readQuestion_spec (⟨req, 12, none⟩ : Reader)
      rw [show (⟨req, 12, none⟩ : Reader).octets = req from rfl,
        show (⟨req, 12, none⟩ : Reader).cursor = 12 from rfl] at hrq
      cases hsq : Spec.specQuestionAt req 12 with
      | none =>
        rw [hsq] at hrq
        obtain ⟨x, hx⟩ := hrq
        refine .badQuestion (fun lookup S => ?_) ?_
        · unfold specBody
          simp only [hq1, show ¬ ((1 : Nat) > 1) by omega, if_false, show ¬ ((1 : Nat) = 0) by omega, hsq]
        · rw [hwc]
          simp only [hx]
          exact do_formErr_true sH (base_of_hdr sH tr cfg.payload hH).size3
      | some v =>
        obtain ⟨w, t, c, nx⟩ := v
        rw [hsq] at hrq
        simp only at hrq
        obtain ⟨p, hp, hpw, _, hnxs, hwl⟩ := specQuestionAt_some req 12 w t c nx hsq
        obtain ⟨qn, hqn, hqw⟩ := wname_of_parse req 12 p hp
        rw [hpw] at hqn hqw
        obtain ⟨hadd, hbase, _, hcur, _, _, _, _, hrrs⟩ := qSt_some sH tr cfg.payload hH ⟨w, t, c⟩ qn hqn hqw hwl
        refine .scan (some ⟨w, t, c⟩) (some (qn, t, c)) nx ⟨hqn, rfl, rfl⟩ hnxs (fun x hx => by cases hx; exact hsq)
          (by rw [if_neg hq0]; exact ⟨_, rfl⟩) (fun lookup S => ?_) hbase (by rw [hcur]; omega) (by rw [hrrs]; omega) ?_
        · unfold specBody
          simp only [hq1, show ¬ ((1 : Nat) > 1) by omega, if_false, show ¬ ((1 : Nat) = 0) by omega, hsq]
        · rw [hwc]
          simp only [hrq, hqn]
          -- `add_question` succeeds on the header-only writer
          have hQ : Server.addQuestionOrServfail (some (qn, t, c)) sH = (.ok true, qSt sH (some ⟨w, t, c⟩)) := by
            show (match addQuestion qn t c sH with
              | (.ok (), s') => ((.ok true : Out WriterErr Bool), s')
              | (.err _, s') => (do setRcode (Server.RC "SERVFAIL"); pure false : M Bool) s'
              | (.panic, s') => (.panic, s')) = _
            rw [hadd]
          rw [bind_ok hQ]
          rfl
    · have hgt : Spec.Server.hdr req 4 > 1 := by omega
      refine .silent hgt (fun lookup S => ?_) ?_
      · unfold specBody
        simp only [hgt, if_true]
      · rw [hwc]
        simp only [hq0, hq1, if_false]

theorem hwc_spec (cfg : Server.Cfg) (tr : Server.Transport) (now : Nat) (req : Bytes) (h12 : 12 ≤ req.size)
    (sH : State) (hH : HdrOk sH tr cfg.payload) (hreq : req.size ≤ Rdata.USIZE_MAX)
    (hr : (specBody (catKind cfg) cfg.payload req).respond = true)
    (hv : noDataV (specBody (catKind cfg) cfg.payload req).verdict = true) :
    Server.handleWithContext cfg tr now ⟨req, 12, none⟩ sH =
      (.ok true, finalOf (qSt sH (specBody (catKind cfg) cfg.payload req).question) tr cfg.payload
        (specBody (catKind cfg) cfg.payload req)) := by
  rcases hwc_head cfg tr now req h12 sH hH with ⟨_, hsc, _⟩ | ⟨hsc, h⟩ | ⟨q, question, p1, hq, hp1, _, _, hsc, hb, _, _, h⟩
  · rw [hsc] at hr; cases hr
  · rw [hsc]; exact h
  · rw [hsc] at hv ⊢
    rw [specTail_question, h]
    have hd := scanAndDispatch_view cfg tr now req q question ⟨req, p1, none⟩ ⟨h12, hp1⟩ rfl _ hb hreq
      (Spec.Server.hdr req 6) (Spec.Server.hdr req 8) (Spec.Server.hdr req 10) ((req.getD 2 0).toNat / 8 % 16) fun _ => hq
    dsimp only at hd
    split at hd
    · rename_i hv'; rw [hv'] at hv; cases hv
    · rename_i hv'; rw [hv'] at hv; cases hv
    · exact hd

end QV.ServerScan
