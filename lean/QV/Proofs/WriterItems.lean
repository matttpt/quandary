/-
  QV.Proofs.WriterItems — the structure of the message below the cursor in every compression mode:
  where a name starts (`Item`: the octets it occupies, and that it leads to a recorded label start),
  which name it holds (`NameIs`), how both move along changes of the state, and what a name writer
  leaves at the old cursor (`NameAdded`, read off `NameSpec`).
-/
import QV.Proofs.WriterNames

namespace QV.Writer
open QV QV.Wire

theorem chunkAt_frame {oct oct' : Bytes} {a k : Nat} (h : ChunkAt oct a k)
    (hpre : ∀ i, a ≤ i → i < a + k → oct'[i]? = oct[i]?) : ChunkAt oct' a k := by
  obtain ⟨pre, b, hwf, hb, hk⟩ := h
  refine ⟨pre, b, hwf, ?_, hk⟩
  refine bytesAt_frame hb (fun i h1 h2 => hpre i h1 ?_)
  have hlen := chunk_length pre b
  rw [hlen] at h2
  rcases hk with ⟨_, hk⟩ | ⟨_, hk⟩ <;> omega


/-! ### items: where a question / record starts -/

/-- at `a` a name starts that occupies `k` contiguous octets and leads (directly, or by its
    pointer) to a recorded label start -/
def Item (s : State) (a k : Nat) : Prop :=
  (∃ q, Hop s.octets s.cursor a q ∧ q ∈ s.gLabels) ∧ ChunkAt s.octets a k ∧ a + k ≤ s.cursor

theorem item_of_reads {s : State} {a k : Nat} {ls : List Label} (h : ReadsAt s a ls)
    (hc : ChunkAt s.octets a k) (hk : a + k ≤ s.cursor) : Item s a k := by
  obtain ⟨q, cs', hop, _, hn, _⟩ := h
  exact ⟨⟨q, hop, (nameAt_start (nameAtC_forget hn)).1⟩, hc, hk⟩

/-- an item only depends on the octets of its own chunk and of the label start it leads to -/
theorem item_move {s s' : State} {a k lo : Nat} (h : Item s a k)
    (hg12 : ∀ g ∈ s.gLabels, lo ≤ g)
    (hpre : ∀ i, lo ≤ i → i < a + k → s'.octets[i]? = s.octets[i]?) (hc : a + k ≤ s'.cursor)
    (hg : ∀ g ∈ s.gLabels, g ≤ a → g ∈ s'.gLabels) : Item s' a k := by
  obtain ⟨⟨q, hop, hq⟩, hck, hk⟩ := h
  have hqa : q ≤ a := (hop_le hop).1
  have hqlo : lo ≤ q := hg12 q hq
  have hck' : ChunkAt s'.octets a k := chunkAt_frame hck (fun i h1 h2 => hpre i (by omega) h2)
  refine ⟨⟨q, ?_, hg q hq hqa⟩, hck', hc⟩
  obtain ⟨pre, b, hwf, hb, hkk⟩ := hck
  have hlen := chunk_length pre b
  have hk1 : 1 ≤ k := by rcases hkk with ⟨_, e⟩ | ⟨_, e⟩ <;> omega
  cases hop with
  | here hq' hb' hnp =>
    exact .here (by omega) (by rw [hpre _ hqlo (by omega)]; exact hb') hnp
  | jump hq' h1 h2 hp hlt h3 hnp =>
    have h0 := hb 0 (by rw [hlen]; omega)
    rw [Nat.add_zero, h1] at h0
    have hk2 : 2 ≤ k := by
      rcases hkk with ⟨hb0, _⟩ | ⟨_, e⟩
      · exfalso
        cases pre with
        | nil =>
          simp at h0; subst h0
          rw [hb0] at hp; exact absurd hp (by decide)
        | cons l pre' =>
          simp [WName.encLabel] at h0
          have hl := hwf l List.mem_cons_self
          subst h0
          rw [ofNat_len_notPtr hl.2] at hp; cases hp
      · omega
    exact .jump (by omega) (by rw [hpre _ (by omega) (by omega)]; exact h1)
      (by rw [hpre _ (by omega) (by omega)]; exact h2) hp hlt
      (by rw [hpre _ hqlo (by omega)]; exact h3) hnp

theorem item_ext {s s' : State} {a k : Nat} (h : Item s a k) (e : Ext s s') : Item s' a k :=
  item_move (lo := 0) h (fun _ _ => Nat.zero_le _) (fun i _ hi => e.pre i (by have := h.2.2; omega))
    (by have := h.2.2; have := e.cur; omega) (fun g hg _ => e.glab g hg)


theorem item_fields {s s' : State} {a k : Nat} (h : Item s a k) (ho : s'.octets = s.octets)
    (hc : s'.cursor = s.cursor) (hg : s'.gLabels = s.gLabels) : Item s' a k := by
  unfold Item at h ⊢
  rw [ho, hc, hg]; exact h

/-! ### content: the name an item holds -/

/-- at `a` a name lies literally: labels up to the root label, no pointer, all below `c` -/
def RootEndB (oct : Bytes) (a c : Nat) : Prop :=
  ∃ pre, LabelsWF pre ∧ BytesAt oct a (pre.flatMap WName.encLabel ++ [0]) ∧ a + encLen pre + 1 ≤ c

theorem rootEndB_frame {oct oct' : Bytes} {a c c' : Nat} (h : RootEndB oct a c)
    (hpre : ∀ i, a ≤ i → i < c → oct'[i]? = oct[i]?) (hc : c ≤ c') : RootEndB oct' a c' := by
  obtain ⟨pre, hwf, hb, hk⟩ := h
  have hlen := chunk_length pre (0 : UInt8)
  exact ⟨pre, hwf, bytesAt_frame hb (fun i h1 h2 => hpre i h1 (by rw [hlen] at h2; omega)), by omega⟩

theorem rootEndB_of_wire {oct : Bytes} {a c : Nat} {n : WName} (hn : n.WF) (h : BytesAt oct a n.wire)
    (hc : a + n.wire.length ≤ c) : RootEndB oct a c := by
  refine ⟨n.labels, fun l hl => hn.1 l hl, by simpa [WName.wire] using h, ?_⟩
  have : n.wire.length = encLen n.labels + 1 := by simp [WName.wire, encLen]
  omega

/-- at `a` the buffer holds (directly, or through its pointer) a stored name whose labels match
    the name `n` as names are compared in mode `m` (octet for octet unless `m` is `Standard`); and
    when the name was written with compression `Disabled` it lies there literally (`RootEndB`) -/
def NameIs (s : State) (a : Nat) (m : CMode) (n : WName) : Prop :=
  (∃ q ls, Hop s.octets s.cursor a q ∧ StoredAt s q ls ∧ labelsMatch (effMode m) n.labels ls = true) ∧
  (m = .disabled → RootEndB s.octets a s.cursor)

theorem nameIs_of_reads {s : State} {a : Nat} {m : CMode} {n : WName} {ls : List Label} (h : ReadsAt s a ls)
    (hm : labelsMatch (effMode m) n.labels ls = true) (hd : m = .disabled → RootEndB s.octets a s.cursor) :
    NameIs s a m n := by
  obtain ⟨q, cs', hop, _, hn, _⟩ := h
  exact ⟨⟨q, ls, hop, nameAtC_forget hn, hm⟩, hd⟩

/-- `NameIs` along any change that keeps the octets from `lo` up to the cursor, does not shrink the
    cursor and keeps the recorded label starts (all at or above `lo`) -/
theorem nameIs_frame {s s' : State} {a lo : Nat} {m : CMode} {n : WName} (h : NameIs s a m n)
    (hg12 : ∀ g ∈ s.gLabels, lo ≤ g)
    (hpre : ∀ i, lo ≤ i → i < s.cursor → s'.octets[i]? = s.octets[i]?) (hc : s.cursor ≤ s'.cursor)
    (hg : ∀ g ∈ s.gLabels, g ∈ s'.gLabels) : NameIs s' a m n := by
  obtain ⟨⟨q, ls, hop, hst, hm⟩, hd⟩ := h
  have hq : q ∈ s.gLabels := (nameAt_start hst).1
  have ha : lo ≤ a := by
    have := hg12 q hq
    have := (hop_le hop).1
    omega
  refine ⟨⟨q, ls, hop_frame hop hpre hc (hg12 q hq), ?_, hm⟩,
    fun hm' => rootEndB_frame (hd hm') (fun i h1 h2 => hpre i (by omega) h2) hc⟩
  exact nameAt_frame (lo := lo) hst (fun x hx => hg x hx) (fun x hx => hg12 x hx) hpre hc

theorem nameIs_ext {s s' : State} {a : Nat} {m : CMode} {n : WName} (h : NameIs s a m n) (e : Ext s s') :
    NameIs s' a m n :=
  nameIs_frame (lo := 0) h (fun _ _ => Nat.zero_le _) (fun i _ hi => e.pre i hi) e.cur (fun g hg => e.glab g hg)

theorem nameIs_fields {s s' : State} {a : Nat} {m : CMode} {n : WName} (h : NameIs s a m n)
    (ho : s'.octets = s.octets) (hc : s'.cursor = s.cursor) (hg : s'.gLabels = s.gLabels) : NameIs s' a m n := by
  unfold NameIs StoredAt GL at h ⊢
  rw [ho, hc, hg]; exact h

/-! ### what a name writer leaves -/

/-- what a name writer leaves when it is run at `s.cursor` and ends in `s'`: the name is an item
    there (the decoder reads a name on exactly the octets written), its content is `n` as names are
    compared in the mode, and every label start recorded meanwhile lies in it -/
structure NameAdded (s s' : State) (n : WName) : Prop where
  item : Item s' s.cursor (s'.cursor - s.cursor)
  name : NameIs s' s.cursor s.mode n
  labels : ∀ g, g ∈ s'.gLabels → g ∈ s.gLabels ∨ PhysLab s'.octets s.cursor g

/-- `NameSpec` read as a fact about the layout -/
theorem NameSpec.added {s : State} {n : WName} {r : Out WriterErr (Option Prior) × State}
    (h : NameSpec s n r) (hwf : n.WF) (hc : s.cursor ≤ r.2.cursor) {p : Option Prior} (hok : r.1 = .ok p) :
    NameAdded s r.2 n := by
  obtain ⟨_, _, _, _, _, ⟨ls, hrd, hmt⟩, hck, hprov, hdis⟩ := h.ok p hok
  exact ⟨item_of_reads hrd hck (by omega), nameIs_of_reads hrd hmt
    (fun hm => rootEndB_of_wire hwf (hdis hm).1 (by have := (hdis hm).2; omega)), hprov⟩

end QV.Writer
