/-
  QV.Proofs.WriterExtents — where the items are: the item chain of a writer state is determined by
  its octets (`rchainC_prefix`), it persists along the calls of a segment (`Pres`), so the end of the
  i-th item of the finished message is the cursor after the call that wrote it.
-/
import QV.Proofs.WriterAbsStep

namespace QV.Writer
open QV QV.Wire QV.Spec QV.ServerSafety

/-- the chunk length of an item is determined by the octets -/
theorem item_k_unique {s : State} {a k k' : Nat} (hw : WInv s) (h : Item s a k) (h' : Item s a k') : k = k' := by
  obtain ⟨w, n, hd⟩ := item_decodes hw h
  obtain ⟨w', n', hd'⟩ := item_decodes hw h'
  rw [hd] at hd'
  simp only [Option.some.injEq, Prod.mk.injEq] at hd'
  exact hd'.2.2


/-- two question chains over the same state from the same start: the shorter one's item ends are a
    prefix of the longer one's -/
theorem qchainC_prefix {s : State} (hw : WInv s) : ∀ (qs qs' : List QItC) (p e e' : Nat),
    QChainC s qs p e → QChainC s qs' p e' → e ≤ e' → (qs'.map qEnd).take qs.length = qs.map qEnd := by
  intro qs
  induction qs with
  | nil => intro qs' p e e' _ _ _; simp
  | cons x r ih =>
    intro qs' p e e' h h' hle
    obtain ⟨h1, ⟨hit, _, _⟩, h3⟩ := h
    have hx := qchainC_le h3
    cases qs' with
    | nil =>
      simp only [QChainC] at h'
      omega
    | cons y r' =>
      obtain ⟨g1, ⟨git, _, _⟩, g3⟩ := h'
      have hay : y.a = x.a := by rw [g1, h1]
      rw [hay] at git
      have hk := item_k_unique hw hit git
      have := ih r' (x.a + x.k + 4) e e' h3 (by rw [hk, ← hay]; exact g3) hle
      simp only [List.map_cons, List.length_cons, List.take_succ_cons, this]
      congr 1
      unfold qEnd; rw [hay, hk]

theorem rchainC_prefix {s : State} (hw : WInv s) : ∀ (rs rs' : List RItC) (p e e' : Nat),
    RChainC s rs p e → RChainC s rs' p e' → e ≤ e' → (rs'.map rEnd).take rs.length = rs.map rEnd := by
  intro rs
  induction rs with
  | nil => intro rs' p e e' _ _ _; simp
  | cons x r ih =>
    intro rs' p e e' h h' hle
    obtain ⟨h1, ⟨hit, _, _, hb, _⟩, h3⟩ := h
    have hx := rchainC_le h3
    cases rs' with
    | nil =>
      simp only [RChainC] at h'
      omega
    | cons y r' =>
      obtain ⟨g1, ⟨git, _, _, gb, _⟩, g3⟩ := h'
      have hay : y.a = x.a := by rw [g1, h1]
      rw [hay] at git gb
      have hk := item_k_unique hw hit git
      have hrd : y.rdlen = x.rdlen := by rw [← gb, ← hb, hk]
      have := ih r' (x.a + x.k + 10 + x.rdlen) e e' h3 (by rw [hk, ← hay, ← hrd]; exact g3) hle
      simp only [List.map_cons, List.length_cons, List.take_succ_cons, this]
      congr 1
      unfold rEnd; rw [hay, hk, hrd]

/-! ### the chain persists -/

/-- everything written is still there and `rr_start` has not moved: what every call except `add_question` and
    `clear_rrs` guarantees -/
def PresR (s s' : State) : Prop := Pres s s' ∧ s'.rrStart = s.rrStart

theorem PresR.trans {a b c : State} (h1 : PresR a b) (h2 : PresR b c) : PresR a c :=
  ⟨h1.1.trans h2.1, h2.2.trans h1.2⟩

theorem presR_of_ext {s s' : State} (e : Ext s s') : PresR s s' := ⟨pres_of_ext e, e.rrStart⟩
theorem presR_of_hdrOnly {s s' : State} (k : HdrOnly s s') : PresR s s' := ⟨pres_of_hdrOnly k, k.rrStart⟩

theorem presR_fields {s s' : State} (ho : s'.octets = s.octets) (hc : s'.cursor = s.cursor)
    (hg : s'.gLabels = s.gLabels) (hr : s'.rrStart = s.rrStart) : PresR s s' := ⟨pres_fields ho hc hg, hr⟩

/-- what was written stays, and `rr_start`: every successful call but `add_question` and `clear_rrs` -/
theorem Did.presR {ss : Session} {op : Op} {s' : State} (h : Did ss op s') (hnc : op ≠ .clearRrs)
    (hq : ∀ n t c, op ≠ .addQuestion n t c) : PresR ss.w s' := by
  induction h with
  | hdr _ _ hp => exact presR_of_hdrOnly (hdrOnly_hdr hp)
  | limit | mode | edns | tsig | time => exact presR_fields rfl rfl rfl rfl
  | getters => exact ⟨Pres.refl _, rfl⟩
  | question => exact absurd rfl (hq _ _ _)
  | clear => exact absurd rfl hnc
  | @records sec h o ty cls ttl rds hv _ hq' =>
    obtain ⟨s1, n, e, rfl⟩ := addRrsetOp_ok_ext hq'
    exact (presR_fields (s := ss.w) (s' := { ss.w with hv := hv.map (hvGet ss.hvs) }) rfl rfl rfl rfl).trans
      ((presR_of_ext e).trans ((by cases sec <;> exact presR_fields rfl rfl rfl rfl :
        PresR s1 (setCount sec n s1).2).trans (presR_fields rfl rfl rfl rfl)))
  | record _ ih => exact ih (fun h => by cases h) (fun _ _ _ h => by cases h)
  | template _ e =>
    exact ⟨⟨fun i _ hi => e.pre i hi, by rw [e.cursor]; exact Nat.le_refl _, fun g hg => by rw [e.gLabels]; exact hg⟩,
      e.rrStart⟩

/-! ### a segment: the calls between two `clear_rrs` -/

variable {P : CMode → Prop}

/-- `s'` is a later state of the same segment as `s`: what was written is still there, and `rr_start` has
    not moved — unless no record had been written at `s` (`add_question` moves it, and succeeds only then) -/
structure Seg (s s' : State) : Prop where
  pres : Pres s s'
  rr : s'.rrStart = s.rrStart ∨ s.cursor = s.rrStart
  rrle : s.rrStart ≤ s'.rrStart

theorem Seg.refl (s : State) : Seg s s := ⟨Pres.refl s, Or.inl rfl, Nat.le_refl _⟩

theorem Seg.trans {a b c : State} (ha : a.rrStart ≤ a.cursor) (h1 : Seg a b) (h2 : Seg b c) : Seg a c := by
  refine ⟨Pres.trans h1.pres h2.pres, ?_, Nat.le_trans h1.rrle h2.rrle⟩
  rcases h1.rr with e1 | e1
  · rcases h2.rr with e2 | e2
    · exact Or.inl (by rw [e2, e1])
    · have := h1.pres.cur
      exact Or.inr (by omega)
  · exact Or.inr e1

theorem Did.seg {ss : Session} {op : Op} {s' : State} {b : Body} {mb : MBody} (h : Did ss op s') (hi : Inv ss.w)
    (hL : CLay P ss.w b mb) (hnc : op ≠ .clearRrs) : Seg ss.w s' := by
  by_cases hq : ∃ n t c, op = .addQuestion n t c
  · -- `add_question` moves `rr_start`, and succeeds only while no record is written
    obtain ⟨n, t, c, rfl⟩ := hq
    cases h with
    | question hq' =>
      obtain ⟨s3, hsq, hb, rfl⟩ := addQuestion_ok_inv n t c ss.w _ hq'
      have e : Ext ss.w s3 := by have := frame_addQuestionBody n t c ss.w; rwa [hb] at this
      refine ⟨Pres.trans (pres_of_ext e) (pres_fields rfl rfl rfl), Or.inr (hL.sq hsq).1, ?_⟩
      show ss.w.rrStart ≤ s3.cursor
      have := e.cur; have := hi.rr_hi; omega
    | hdr h => cases h
    | template h =>
      rcases h with ⟨h, _⟩ | ⟨_, _, _, _, h, _⟩ <;> cases h
  · -- every other call keeps `rr_start`
    obtain ⟨hp, hrr⟩ := h.presR hnc (fun n t c h => hq ⟨n, t, c, h⟩)
    exact ⟨hp, Or.inl hrr, Nat.le_of_eq hrr.symm⟩

theorem step_seg (ss : Session) (op : Op) {b : Body} {mb : MBody} (hI : I ss.w) (hop : OpOK ss op)
    (hL : CLay P ss.w b mb) (hnc : op ≠ .clearRrs) : Seg ss.w (step ss op).2.w := by
  rcases step_cases ss op hI hop with ⟨e, _, hs⟩ | ⟨_, hd⟩
  · exact ⟨pres_of_same hs, Or.inl hs.rrStart, Nat.le_of_eq hs.rrStart.symm⟩
  · exact hd.seg hI.inv hL hnc

theorem run_seg (ss : Session) (ops : List Op) {b : Body} {mb : MBody} (hI : I ss.w)
    (hL : CLay (fun _ => True) ss.w b mb) (hr : Respects ss ops) (hnc : Op.clearRrs ∉ ops) :
    Seg ss.w (run ss ops).1.w := by
  induction ops generalizing ss b mb with
  | nil => exact Seg.refl _
  | cons op ops ih =>
    obtain ⟨hop, hrest⟩ := hr
    obtain ⟨hnp, hI'⟩ := step_I ss op hI hop
    rw [run_cons hnp]
    exact Seg.trans hI.inv.rr_hi
      (step_seg ss op hI hop hL (fun h => hnc (by rw [h]; exact List.mem_cons_self)))
      (ih _ hI' (clay_step ss op b mb hI hL hop (fun _ _ => trivial)) hrest (fun h => hnc (List.mem_cons_of_mem _ h)))

theorem rchainC_nil_of_eq {s : State} {rs : List RItC} {p : Nat} (h : RChainC s rs p p) : rs = [] := by
  cases rs with
  | nil => rfl
  | cons x r =>
    obtain ⟨h1, _, h3⟩ := h
    have := rchainC_le h3
    omega

/-- **the items of an earlier state of the segment are the first items of the finished message**:
    their ends, in order, are the first entries of the decoded extents -/
theorem extents_prefix (macFn : Tsig → List UInt8 → List UInt8) {s sR : State} {B : Body} {MB : MBody}
    (hw : WInv s) (hrr : s.rrStart ≤ s.cursor) (hseg : Seg s sR) (hIR : I sR) (hLR : CLay P sR B MB)
    (hT : ∀ r ∈ B.an ++ B.ns ++ B.ar, LayoutStable r) (m : Bytes) (mac : Option (List UInt8))
    (hf : finish sR macFn = .ok (m, mac)) (hsz : m.size ≤ 65535) :
    ∃ d : Message.Decoded, Message.specDecodeMsg m = some d ∧
      ∀ (qs : List QItC) (rs : List RItC), QChainC s qs 12 s.rrStart → RChainC s rs s.rrStart s.cursor →
        (d.extents.map (·.2)).take (qs.length + rs.length) = qs.map qEnd ++ rs.map rEnd := by
  obtain ⟨d, qsR, ian, ins, iar, hd, _, _, _, _, _, _, _, _, _, _, _, _, _, _, _, hext, rs0, ex, hsplit, hq0, hr0, _⟩ :=
    finish_refines macFn sR B MB hIR hLR hT m mac hf hsz
  refine ⟨d, hd, fun qs rs hq hr => ?_⟩
  have h12 : 12 ≤ s.rrStart := qchainC_le hq
  have hq' : QChainC sR qs 12 s.rrStart := qchainC_pres hw hseg.pres (Nat.le_refl _) hrr hq
  have hr' : RChainC sR rs s.rrStart s.cursor := rchainC_pres hw hseg.pres h12 (Nat.le_refl _) hr
  have hA1 := qchainC_prefix hIR.winv qs qsR 12 s.rrStart sR.rrStart hq' hq0 hseg.rrle
  have hlenq : qs.length ≤ qsR.length := by
    have := congrArg List.length hA1
    simp only [List.length_take, List.length_map] at this
    omega
  rw [hext, hsplit]
  rcases hseg.rr with e1 | e1
  · -- the same `rr_start`: the question chains coincide
    rw [e1] at hq0 hr0
    have hA2 := qchainC_prefix hIR.winv qsR qs 12 s.rrStart s.rrStart hq0 hq' (Nat.le_refl _)
    have hlen : qs.length = qsR.length := by
      have := congrArg List.length hA2
      simp only [List.length_take, List.length_map] at this
      omega
    have hqeq : qsR.map qEnd = qs.map qEnd := by
      rw [← hA1, hlen, ← List.length_map (f := qEnd), List.take_length]
    have hB := rchainC_prefix hIR.winv rs rs0 s.rrStart s.cursor sR.cursor hr' hr0 hseg.pres.cur
    have hlenr : rs.length ≤ rs0.length := by
      have := congrArg List.length hB
      simp only [List.length_take, List.length_map] at this
      omega
    rw [hqeq, ← List.length_map (f := qEnd) (as := qs), List.take_length_add_append, List.map_append,
      List.take_append_of_le_length (by rw [List.length_map]; exact hlenr), hB]
  · -- no records yet
    have : rs = [] := rchainC_nil_of_eq (by rw [e1] at hr; exact hr)
    subst this
    simp only [List.length_nil, Nat.add_zero, List.map_nil, List.append_nil]
    rw [List.take_append_of_le_length (by rw [List.length_map]; exact hlenq), hA1]


/-! ### the last item ends at the cursor -/

theorem qchainC_last {s : State} : ∀ (qs : List QItC) (p e : Nat), QChainC s qs p e → qs ≠ [] →
    (qs.map qEnd)[qs.length - 1]? = some e := by
  intro qs
  induction qs with
  | nil => intro p e _ h; exact absurd rfl h
  | cons x r ih =>
    intro p e h _
    obtain ⟨_, _, h3⟩ := h
    cases r with
    | nil => simp only [QChainC] at h3; simp [qEnd, h3]
    | cons y r' =>
      have := ih _ _ h3 (by simp)
      simpa using this

theorem rchainC_last {s : State} : ∀ (rs : List RItC) (p e : Nat), RChainC s rs p e → rs ≠ [] →
    (rs.map rEnd)[rs.length - 1]? = some e := by
  intro rs
  induction rs with
  | nil => intro p e _ h; exact absurd rfl h
  | cons x r ih =>
    intro p e h _
    obtain ⟨_, _, h3⟩ := h
    cases r with
    | nil => simp only [RChainC] at h3; simp [rEnd, h3]
    | cons y r' =>
      have := ih _ _ h3 (by simp)
      simpa using this

/-- the last of all items of a state ends at its cursor -/
theorem items_last {s : State} {qs : List QItC} {rs : List RItC} (hq : QChainC s qs 12 s.rrStart)
    (hr : RChainC s rs s.rrStart s.cursor) (hne : 0 < qs.length + rs.length) :
    (qs.map qEnd ++ rs.map rEnd)[qs.length + rs.length - 1]? = some s.cursor := by
  cases rs with
  | nil =>
    simp only [RChainC] at hr
    have hq' : qs ≠ [] := by intro h; subst h; simp at hne
    simp only [List.map_nil, List.append_nil, List.length_nil, Nat.add_zero]
    rw [qchainC_last qs 12 s.rrStart hq hq', hr]
  | cons y r =>
    have := rchainC_last (y :: r) _ _ hr (by simp)
    rw [List.getElem?_append_right (by simp)]
    simp only [List.length_map, List.length_cons] at this ⊢
    rw [show qs.length + (r.length + 1) - 1 - qs.length = r.length + 1 - 1 by omega]
    exact this

/-- the end of the last item of a state, read off the decoded extents of the finished message -/
theorem endOf_last {s : State} {d : Message.Decoded} {qs : List QItC} {rs : List RItC}
    (hq : QChainC s qs 12 s.rrStart) (hr : RChainC s rs s.rrStart s.cursor) (hne : 0 < qs.length + rs.length)
    (hpre : (d.extents.map (·.2)).take (qs.length + rs.length) = qs.map qEnd ++ rs.map rEnd) :
    Message.endOf d (qs.length + rs.length - 1) = some s.cursor := by
  have h1 := items_last hq hr hne
  rw [← hpre, List.getElem?_take_of_lt (by omega)] at h1
  unfold Message.endOf
  rw [List.getElem?_map] at h1
  exact h1

end QV.Writer
