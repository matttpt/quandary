/-
  QV.Proofs.WriterScratch — "octets at or above the cursor are scratch space that no later read
  depends on" (the docstring of `Same`), for the one reader of the buffer: the compression scan.

  `compressDecision_congr`: with valid prior names (`PriorOK`: each points at a name stored below
  the cursor), `compressDecision` computes the same decision on two buffers of the same size that
  agree below the cursor. The scan only reads label length octets, label octets and pointers of the
  stored names, all below the cursor: every function of the scan walks a stored name one label at a
  time, and `label_agree` (QV.Proofs.Compress) carries one such step to the other buffer.

  That the calls of the answering phase — `addRrOp` / `addRrsetOp`, and the header calls `setAa`,
  `setRcode` (`scratch_setAa`, `scratch_setRcode`) — have the same outcome on two writers that agree
  below the cursor is proved in `QV.Proofs.WriterThread`; for the record calls it needs the invariant
  on one side (without it an invalid anchor may point above the cursor). Between the reservation of
  the two RDLENGTH octets and their write-back the two writers agree below the cursor only outside
  that hole; `compressDecision_agree` covers both situations (`a : Option Nat`, the hole if there is one), `compressDecision_congr` and
  `compressDecision_congr_gap` (hypotheses as in `nameAt_frame_gap`) are its two instances.
-/
import QV.Proofs.Compress
import QV.Proofs.Writer

namespace QV.Writer
open QV QV.Wire

variable {G : Nat → Prop} {oct oct' : Bytes} {cur : Nat} {a : Option Nat}

theorem skipLabels_agree {p : Nat} {ls : List Label} (h : NameAt G oct cur p ls)
    (hc : Clear G oct cur a) (hag : AgreeOut a oct oct' cur) (k : Nat) (hk : k ≤ ls.length) :
    skipLabels oct' k p = skipLabels oct k p := by
  induction k generalizing p ls with
  | zero => rfl
  | succ k ih =>
    cases ls with
    | nil => simp at hk
    | cons l ls =>
      obtain ⟨p', hb', hb, h63, _, _, hop', hop, rest⟩ := label_agree h hc hag
      have hs := getElem?_some_lt hb
      have hs' := getElem?_some_lt hb'
      simp only [skipLabels, dif_pos hs, dif_pos hs']
      rw [getElem_of_getElem? hb hs, getElem_of_getElem? hb' hs', ofNat_len_toNat h63,
        show p + l.length + 1 = p + 1 + l.length by omega, hop_move hop, hop_move hop']
      exact ih rest (by simpa using hk)

theorem stepCtx_agree {mode : CMode} {labels : List Label} {c : Nat} {o : Option PriorCtx} {lab : Label}
    (h : OptOK G oct cur mode labels c o) (hc : c < labels.length)
    (hcl : Clear G oct cur a) (hag : AgreeOut a oct oct' cur) :
    stepCtx oct' mode c lab o = stepCtx oct mode c lab o := by
  cases o with
  | none => rfl
  | some pc =>
    obtain ⟨ls, hn, hlen, _⟩ := h pc rfl
    by_cases hsc : c < pc.startColumn
    · unfold stepCtx
      dsimp only
      rw [if_pos hsc, if_pos hsc]
    · have hmax : max c pc.startColumn = c := by omega
      rw [hmax] at hlen
      cases ls with
      | nil => simp at hlen; omega
      | cons l0 ls0 =>
        obtain ⟨p', hb', hb, h63, hd', hd, hop', hop, _⟩ := label_agree hn hcl hag
        rw [stepCtx_eval hsc hb h63 hd (hop_move hop) (hop_start_size hop),
          stepCtx_eval hsc hb' h63 hd' (hop_move hop') (hop_start_size hop')]

theorem scan_agree {mode : CMode} {labels : List Label} (hcl : Clear G oct cur a) (hag : AgreeOut a oct oct' cur)
    (rest : List Label) (c : Nat) (hrest : rest = labels.drop c)
    (hc : c ≤ labels.length) (c0 c1 : Option PriorCtx) (h0 : OptOK G oct cur mode labels c c0)
    (h1 : OptOK G oct cur mode labels c c1) :
    scan oct' mode c rest c0 c1 = scan oct mode c rest c0 c1 := by
  induction rest generalizing c c0 c1 with
  | nil => rfl
  | cons lab rest ih =>
    have hlt : c < labels.length := by
      have := congrArg List.length hrest
      simp at this; omega
    have hlab : labels[c]? = some lab := by
      have : (labels.drop c)[0]? = some lab := by rw [← hrest]; rfl
      simpa using this
    obtain ⟨d0, d1⟩ := dedup_ok h0 h1
    obtain ⟨o0, e0, k0⟩ := stepCtx_opt d0 hlt hlab
    obtain ⟨o1, e1, k1⟩ := stepCtx_opt d1 hlt hlab
    have e0' := stepCtx_agree (oct' := oct') (lab := lab) d0 hlt hcl hag
    have e1' := stepCtx_agree (oct' := oct') (lab := lab) d1 hlt hcl hag
    rw [e0] at e0'
    rw [e1] at e1'
    simp only [scan, e0, e1, e0', e1']
    exact ih (c + 1) (by rw [← List.drop_drop, ← hrest]; rfl) hlt o0 o1 k0 k1

/-- **The compression scan reads only the stored names**: with valid prior names it takes the same
    decision on two buffers that agree below the cursor outside the reserved RDLENGTH octets, which
    no stored name touches. -/
theorem compressDecision_agree {mode : CMode} {x y : Option Prior} {n : WName}
    (hx : ∀ p, x = some p → PriorOK G oct cur p) (hy : ∀ p, y = some p → PriorOK G oct cur p)
    (hcl : Clear G oct cur a) (hag : AgreeOut a oct oct' cur) :
    compressDecision oct' mode x y n = compressDecision oct mode x y n := by
  have hl1 : 1 ≤ n.len := by show 1 ≤ n.labels.length + 1; omega
  have bp : ∀ o : Option Prior, (∀ p, o = some p → PriorOK G oct cur p) →
      buildPriorCtxOpt oct' n.len o = buildPriorCtxOpt oct n.len o := by
    intro o ho
    cases o with
    | none => rfl
    | some p =>
      obtain ⟨pls, hn, hlen⟩ := ho p rfl
      simp only [buildPriorCtxOpt, buildPriorCtx]
      rw [skipLabels_agree hn hcl hag _ (by omega)]
  unfold compressDecision
  split
  · rfl
  · rw [bp x hx, bp y hy]
    obtain ⟨r0, e0, k0⟩ := buildPriorCtxOpt_ok (mode := mode) (labels := n.labels) hx
    obtain ⟨r1, e1, k1⟩ := buildPriorCtxOpt_ok (mode := mode) (labels := n.labels) hy
    have hl : n.len = n.labels.length + 1 := rfl
    rw [hl, e0, e1]
    simp only []
    rw [scan_agree hcl hag n.labels 0 (by simp) (by omega) r0 r1 k0 k1]

/-- **the compression scan does not read scratch space**: on two buffers of the same size that agree
    below the cursor, with valid prior names, it takes the same decision -/
theorem compressDecision_congr {mode : CMode} {a b : Option Prior} {n : WName}
    (ha : ∀ p, a = some p → PriorOK G oct cur p) (hb : ∀ p, b = some p → PriorOK G oct cur p)
    (hag : ∀ i, i < cur → oct'[i]? = oct[i]?) (hsz : oct'.size = oct.size) :
    compressDecision oct' mode a b n = compressDecision oct mode a b n :=
  compressDecision_agree (a := none) ha hb (fun _ e => by cases e) (fun i hi _ => hag i hi)

/-- **the compression scan does not read the reserved RDLENGTH octets either**: agreement below
    the cursor outside a two-octet hole at `a` that no recorded name overlaps is enough -/
theorem compressDecision_congr_gap {a : Nat} {mode : CMode} {x y : Option Prior} {n : WName}
    (hx : ∀ p, x = some p → PriorOK G oct cur p) (hy : ∀ p, y = some p → PriorOK G oct cur p)
    (hbelow : ∀ g, G g → g < a → ∃ ls', NameAt G oct a g ls') (hG : ∀ g, G g → g < a ∨ a + 2 ≤ g)
    (hag : ∀ i, i < cur → (i < a ∨ a + 2 ≤ i) → oct'[i]? = oct[i]?) (hac : a ≤ cur) :
    compressDecision oct' mode x y n = compressDecision oct mode x y n :=
  compressDecision_agree (a := some a) hx hy (fun x e => by cases e; exact ⟨hac, hbelow, hG⟩)
    (fun i hi ho => hag i hi (ho a rfl))

end QV.Writer
