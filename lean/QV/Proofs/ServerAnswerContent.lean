/-
  QV.Proofs.ServerAnswerContent — the ghost log of the answer phase is tied to the writer's content
  layout `CLay` (Proofs/WriterContent.lean).

  `bodyOf b0 log` = the body `b0` plus the records of the logged `add_*` calls that succeeded, in
  call order, by section (reset to the questions by a logged `clear_rrs`). `Tied b0 ps` says the
  writer of `ps` is laid out as `bodyOf b0 ps.log`. `Tied` is threaded through every function of
  `src/server/query.rs` up to `handle_non_axfr_query`.

  The per-call fact is the writer's `clay_addRrsetOp`; it needs the writer
  invariant `I`, a well-formed owner and a valid hint *at each call*. Those are exactly what C01's
  pass establishes on the way: "`Tied` is kept" (`Keeps`) is a property that pass can carry along
  (`keeps_along`, for Proofs/ServerAnswerSafe.lean).
-/
import QV.Proofs.ServerAnswerSafe
import QV.Proofs.WriterContent
import QV.Proofs.ServerAnswerCap
import QV.Proofs.WriterView

namespace QV.ServerContent
open QV QV.Writer QV.Server QV.ServerSafety QV.ServerAnswer

/-- the records of one logged `add_*` call, as the writer's content layout names them -/
def evRecs (a : AddEv) : List RRec := a.rdatas.map fun rd => ⟨a.owner, a.ty, a.cls, Writer.ttlFrom a.ttl, rd⟩

/-- the effect of one logged operation on the body of the message -/
def evBody (b : Body) : Ev → Body
  | .add a =>
    match a.res with
    | .ok _ => b.add a.sec (evRecs a)
    | _ => b
  | .clear => { qs := b.qs }
  | _ => b

/-- the body after the logged operations: `b0` plus the records of the successful `add_*` calls,
    in order, by section -/
def bodyOf (b0 : Body) (log : List Ev) : Body := log.foldl evBody b0

theorem bodyOf_nil (b0 : Body) : bodyOf b0 [] = b0 := rfl

theorem bodyOf_snoc (b0 : Body) (log : List Ev) (ev : Ev) :
    bodyOf b0 (log ++ [ev]) = evBody (bodyOf b0 log) ev := by
  simp [bodyOf]

theorem bodyOf_append (b0 : Body) (l1 l2 : List Ev) : bodyOf b0 (l1 ++ l2) = bodyOf (bodyOf b0 l1) l2 := by
  simp [bodyOf]

/-! ### the header octets and the view of the log -/

def aaBit (x : UInt8) : Bool := x &&& 4 != 0
def tcBit (x : UInt8) : Bool := x &&& 2 != 0

/-- the header octets 2 and 3 of the writer show the AA, TC and RCODE of a view -/
def HdrView (w : State) (v : View) : Prop :=
  aaBit (w.octets.getD 2 0) = v.aa ∧ tcBit (w.octets.getD 2 0) = v.tc ∧
  w.octets.getD 3 0 &&& 15 = UInt8.ofNat v.rcode &&& 15

/-- a single-bit mask tests that bit -/
theorem and_two_pow_eq_zero (n i : Nat) : n &&& 2 ^ i = 0 ↔ n.testBit i = false := by
  constructor
  · intro h
    have := congrArg (Nat.testBit · i) h
    simpa [Nat.testBit_and, Nat.testBit_two_pow_self] using this
  · intro h
    apply Nat.eq_of_testBit_eq
    intro j
    rw [Nat.testBit_and, Nat.testBit_two_pow, Nat.zero_testBit]
    by_cases hj : i = j
    · subst hj; simp [h]
    · simp [hj]

theorem aaBit_eq (x : UInt8) : aaBit x = x.toNat.testBit 2 := by
  have h : x &&& 4 = 0 ↔ x.toNat.testBit 2 = false := by
    rw [← UInt8.toNat_inj, UInt8.toNat_and]; exact and_two_pow_eq_zero x.toNat 2
  unfold aaBit
  cases hb : x.toNat.testBit 2 <;> simp [bne, h, hb]

theorem tcBit_eq (x : UInt8) : tcBit x = x.toNat.testBit 1 := by
  have h : x &&& 2 = 0 ↔ x.toNat.testBit 1 = false := by
    rw [← UInt8.toNat_inj, UInt8.toNat_and]; exact and_two_pow_eq_zero x.toNat 1
  unfold tcBit
  cases hb : x.toNat.testBit 1 <;> simp [bne, h, hb]

/-- setting or clearing one of the two flag bits leaves the other alone -/
theorem bit_set (x : UInt8) : aaBit (x ||| 4) = true ∧ tcBit (x ||| 4) = tcBit x ∧
    aaBit (x &&& ~~~4) = false ∧ tcBit (x &&& ~~~4) = tcBit x ∧
    tcBit (x ||| 2) = true ∧ aaBit (x ||| 2) = aaBit x ∧
    tcBit (x &&& ~~~2) = false ∧ aaBit (x &&& ~~~2) = aaBit x := by
  have n4 : (~~~(4 : UInt8)).toNat = 251 := rfl
  have n2 : (~~~(2 : UInt8)).toNat = 253 := rfl
  have t : Nat.testBit 4 2 = true ∧ Nat.testBit 4 1 = false ∧ Nat.testBit 251 2 = false ∧ Nat.testBit 251 1 = true ∧
      Nat.testBit 2 1 = true ∧ Nat.testBit 2 2 = false ∧ Nat.testBit 253 1 = false ∧ Nat.testBit 253 2 = true := by decide
  simp only [aaBit_eq, tcBit_eq, UInt8.toNat_or, UInt8.toNat_and, Nat.testBit_or, Nat.testBit_and, n4, n2]
  simp [t]

theorem rc_set (x y : UInt8) : (x &&& ~~~15 ||| y) &&& 15 = y &&& 15 := by
  apply UInt8.eq_of_toBitVec_eq
  simp only [UInt8.toBitVec_and, UInt8.toBitVec_or, UInt8.toBitVec_not]
  ext i hi
  simp only [BitVec.getElem_and, BitVec.getElem_or, BitVec.getElem_not]
  cases x.toBitVec[i] <;> cases y.toBitVec[i] <;> cases (15 : UInt8).toBitVec[i] <;> rfl

/-- any writer shows *some* view -/
theorem hdrView_exists (w : State) : ∃ v0, HdrView w v0 :=
  ⟨{ aa := aaBit (w.octets.getD 2 0), tc := tcBit (w.octets.getD 2 0), rcode := (w.octets.getD 3 0 &&& 15).toNat },
    rfl, rfl, by
      show w.octets.getD 3 0 &&& 15 = UInt8.ofNat (w.octets.getD 3 0 &&& 15).toNat &&& 15
      rw [UInt8.ofNat_toNat, UInt8.and_assoc, UInt8.and_self]⟩

theorem hdrView_congr {w w' : State} {v : View} (h : HdrView w v) (h2 : w'.octets[2]? = w.octets[2]?)
    (h3 : w'.octets[3]? = w.octets[3]?) : HdrView w' v := by
  unfold HdrView
  rw [Array.getD_eq_getD_getElem?, Array.getD_eq_getD_getElem?, h2, h3, ← Array.getD_eq_getD_getElem?,
    ← Array.getD_eq_getD_getElem?]
  exact h

/-- what a header operation does to the header view: on success the view's step, otherwise nothing -/
def HdrStep (m : M Unit) (ev : Ev) : Prop :=
  ∀ w v, HdrView w v → ((m w).1 = .ok () → HdrView (m w).2 (v.step ev)) ∧ ((m w).1 ≠ .ok () → HdrView (m w).2 v)

theorem setHdr_self (i : Nat) (f : UInt8 → UInt8) (w : State) (h : i < w.octets.size) :
    (setHdr i f w).1 = .ok () ∧ (setHdr i f w).2.octets.getD i 0 = f (w.octets.getD i 0) := by
  unfold setHdr
  rw [dif_pos h]
  refine ⟨rfl, ?_⟩
  show (w.octets.set i _ h).getD i 0 = _
  rw [Array.getD_eq_getD_getElem?, Array.getElem?_set, if_pos rfl, Array.getD_eq_getD_getElem?,
    Array.getElem?_eq_getElem h]
  simp [h]

theorem setHdr_other (i j : Nat) (f : UInt8 → UInt8) (w : State) (hij : i ≠ j) :
    (setHdr i f w).2.octets.getD j 0 = w.octets.getD j 0 := by
  unfold setHdr
  split
  · rename_i h
    show (w.octets.set i _ h).getD j 0 = _
    rw [Array.getD_eq_getD_getElem?, Array.getElem?_set, if_neg hij, ← Array.getD_eq_getD_getElem?]
  · rfl

theorem setHdr_fail (i : Nat) (f : UInt8 → UInt8) (w : State) (h : ¬ i < w.octets.size) :
    setHdr i f w = (.panic, w) := by
  unfold setHdr; rw [dif_neg h]

/-- a flag setter of octet 2 steps the header view as its effect on that octet says -/
theorem hdrStep_flag (m : Nat) (b : Bool) (ev : Ev)
    (hg : ∀ (x : UInt8) (v : View), aaBit x = v.aa → tcBit x = v.tc →
      aaBit (if b then x ||| UInt8.ofNat m else x &&& ~~~ (UInt8.ofNat m)) = (v.step ev).aa ∧
      tcBit (if b then x ||| UInt8.ofNat m else x &&& ~~~ (UInt8.ofNat m)) = (v.step ev).tc ∧
      (v.step ev).rcode = v.rcode) : HdrStep (setBit 2 m b) ev := by
  intro w v ⟨h1, h2, h3⟩
  unfold setBit
  by_cases hs : 2 < w.octets.size
  · obtain ⟨e1, e2⟩ := setHdr_self 2 (fun x => if b then x ||| UInt8.ofNat m else x &&& ~~~ (UInt8.ofNat m)) w hs
    obtain ⟨g1, g2, g3⟩ := hg _ v h1 h2
    refine ⟨fun _ => ⟨by rw [e2]; exact g1, by rw [e2]; exact g2, ?_⟩, fun h => absurd e1 h⟩
    rw [setHdr_other 2 3 _ w (by decide), g3]; exact h3
  · rw [setHdr_fail _ _ _ hs]
    exact ⟨fun h => (by cases h), fun _ => ⟨h1, h2, h3⟩⟩

theorem hdrStep_setAa (b : Bool) : HdrStep (Writer.setAa b) (.aa b) :=
  hdrStep_flag Gen.AA_MASK b _ fun x v _ h2 => by
    have hb := bit_set x
    cases b
    · exact ⟨hb.2.2.1, hb.2.2.2.1.trans h2, rfl⟩
    · exact ⟨hb.1, hb.2.1.trans h2, rfl⟩

theorem hdrStep_setTc (b : Bool) : HdrStep (Writer.setTc b) (.tc b) :=
  hdrStep_flag Gen.TC_MASK b _ fun x v h1 _ => by
    have hb := bit_set x
    cases b
    · exact ⟨hb.2.2.2.2.2.2.2.trans h1, hb.2.2.2.2.2.2.1, rfl⟩
    · exact ⟨hb.2.2.2.2.2.1.trans h1, hb.2.2.2.2.1, rfl⟩

theorem hdrStep_setRcode (r : Nat) : HdrStep (Writer.setRcode r) (.rcode r) := by
  intro w v ⟨h1, h2, h3⟩
  unfold Writer.setRcode
  simp only [M.bind_apply]
  by_cases hs : Gen.RCODE_BYTE < w.octets.size
  · obtain ⟨e1, e2⟩ := setHdr_self Gen.RCODE_BYTE (fun b => (b &&& ~~~ (UInt8.ofNat Gen.RCODE_MASK)) ||| UInt8.ofNat r) w hs
    have e3 := setHdr_other Gen.RCODE_BYTE 2 (fun b => (b &&& ~~~ (UInt8.ofNat Gen.RCODE_MASK)) ||| UInt8.ofNat r) w (by decide)
    generalize setHdr Gen.RCODE_BYTE (fun b => (b &&& ~~~ (UInt8.ofNat Gen.RCODE_MASK)) ||| UInt8.ofNat r) w = res at e1 e2 e3
    obtain ⟨o, w1⟩ := res
    simp only at e1 e2 e3
    subst e1
    simp only [M.modify_apply]
    have key : HdrView w1 (v.step (.rcode r)) := by
      refine ⟨by rw [e3]; exact h1, by rw [e3]; exact h2, ?_⟩
      rw [show (3 : Nat) = Gen.RCODE_BYTE from rfl, e2]
      exact rc_set _ _
    refine ⟨fun _ => ?_, fun h => absurd rfl h⟩
    split
    · exact hdrView_congr key rfl rfl
    · exact key
  · rw [setHdr_fail _ _ _ hs]
    exact ⟨fun h => (by cases h), fun _ => ⟨h1, h2, h3⟩⟩

theorem hdrView_add {w : State} {v : View} (h : HdrView w v) (a : AddEv) : HdrView w (v.step (.add a)) := by
  obtain ⟨f1, f2, f3⟩ := step_add_flags v a
  unfold HdrView
  rw [f1, f2, f3]; exact h

/-- the extended-RCODE octet of the EDNS slot is 0 (the answering phase only ever resets it) -/
def EdnsUp0 (w : State) : Prop := ∀ e, w.edns = some e → e.upper = 0

theorem ednsUp0_of_eq {w w' : State} (h : EdnsUp0 w) (e : w'.edns = w.edns) : EdnsUp0 w' := by
  intro x hx; rw [e] at hx; exact h x hx

theorem setHdr_edns (i : Nat) (f : UInt8 → UInt8) (s : State) : (setHdr i f s).2.edns = s.edns := by
  unfold setHdr; split <;> rfl

theorem ednsUp0_setRcode (v : Nat) (s : State) (h : EdnsUp0 s) : EdnsUp0 (Writer.setRcode v s).2 := by
  by_cases hs : 3 < s.octets.size
  · rw [setRcode_eq v s hs]
    intro x hx
    simp only at hx
    unfold stRcode at hx
    simp only at hx
    cases he : (stHdr 3 (fun b => (b &&& ~~~ (15 : UInt8)) ||| UInt8.ofNat v) s).edns with
    | none => rw [he] at hx; simp only at hx; rw [he] at hx; cases hx
    | some e0 => rw [he] at hx; simp only [Option.some.injEq] at hx; subst hx; rfl
  · have : Writer.setRcode v s = (.panic, s) := by
      unfold Writer.setRcode
      simp only [M.bind_apply]
      rw [setHdr_fail _ _ _ (by show ¬ 3 < s.octets.size; exact hs)]
    rw [this]; exact h

/-- the writer of `ps` holds exactly the questions and records `bodyOf b0 ps.log` (and its limit is
    one a DNS message can have). `Pc`: what is known of the compression modes of the session (the
    layout `CLay` is relative to it); `v0`: the AA/TC/RCODE the header showed when the log was empty;
    `U`: whether the clause "the extended-RCODE octet of the EDNS slot is 0" is carried along. -/
def Tied (Pc : CMode → Prop) (b0 : Body) (v0 : View) (U : Prop) (s : PS) : Prop :=
  s.w.limit ≤ 65535 ∧ (∃ mb, CLay Pc s.w (bodyOf b0 s.log) mb) ∧ HdrView s.w (s.log.foldl View.step v0) ∧
  (U → EdnsUp0 s.w)

/-- the tie is kept by `f` from `s` -/
def Keeps (Pc : CMode → Prop) (b0 : Body) (v0 : View) (U : Prop) {ε α : Type} (f : PS → Out ε α × PS) (s : PS) : Prop :=
  Tied Pc b0 v0 U s → Tied Pc b0 v0 U (f s).2

variable {Pc : CMode → Prop} {b0 : Body} {v0 : View} {U : Prop}

theorem keeps_bind {α β : Type} {x : PM α} {g : α → PM β} {s : PS} {Q : α → State → Prop}
    (hs : SafeP W x s Q) (ht : Keeps Pc b0 v0 U x s)
    (hg : ∀ a s', W.I s'.w → Mono W.Den s.w s'.w → Q a s'.w → Keeps Pc b0 v0 U (g a) s') :
    Keeps Pc b0 v0 U (x >>= g) s := by
  intro htied
  obtain ⟨h1, h2, h3, h4⟩ := hs
  have ht' := ht htied
  rw [PM.bind_apply]
  generalize x s = r at h1 h2 h3 h4 ht'
  obtain ⟨o, s'⟩ := r
  cases o with
  | ok a => exact hg a s' h2 h3 (h4 a rfl) ht'
  | err e => exact ht'
  | panic => exact ht'

/-! ### the leaves -/

theorem foldl_snoc (v0 : View) (log : List Ev) (ev : Ev) :
    (log ++ [ev]).foldl View.step v0 = (log.foldl View.step v0).step ev := by
  simp [List.foldl_append]

/-- a logged header operation that leaves everything from octet 12 on alone -/
theorem tied_hdrOp (ev : Ev) (m : M Unit) (hev : ∀ b, evBody b ev = b) (hk : ServerAnswer.HdrKeeps m)
    (hs : HdrStep m ev) (hup : ∀ w, EdnsUp0 w → EdnsUp0 (m w).2) (s : PS) (hi : Writer.I s.w)
    (ht : Tied Pc b0 v0 U s) : Tied Pc b0 v0 U (PM.hdrOp ev m s).2 := by
  obtain ⟨hl, ⟨mb, hc⟩, hh, hu⟩ := ht
  have hc' := clay_hdrOnly hc hi (hk.hdr s.w)
  have hl' := hk.limit s.w
  obtain ⟨hs1, hs2⟩ := hs s.w _ hh
  have hu' : U → EdnsUp0 (m s.w).2 := fun x => hup s.w (hu x)
  unfold PM.hdrOp
  generalize m s.w = r at hc' hl' hs1 hs2 hu'
  obtain ⟨o, w'⟩ := r
  simp only at hl' hs1 hs2 hu'
  -- whichever event is logged: it leaves the body, and the header shows the view stepped by it
  have key : ∀ e' : Ev, evBody (bodyOf b0 s.log) e' = bodyOf b0 s.log → HdrView w' ((s.log.foldl View.step v0).step e') →
      Tied Pc b0 v0 U ⟨w', s.log ++ [e']⟩ := fun e' he hh' =>
    ⟨by show w'.limit ≤ _; rw [hl']; exact hl, ⟨mb, by
      show CLay Pc w' (bodyOf b0 (s.log ++ [e'])) mb; rw [bodyOf_snoc, he]; exact hc'⟩, by
      show HdrView w' ((s.log ++ [e']).foldl View.step v0); rw [foldl_snoc]; exact hh', hu'⟩
  cases o with
  | ok u => exact key ev (hev _) (hs1 rfl)
  | err e => exact key .bad rfl (hs2 (by simp))
  | panic => exact key .bad rfl (hs2 (by simp))

theorem keeps_setAa (b : Bool) (s : PS) (hi : W.I s.w) : Keeps Pc b0 v0 U (PM.setAa b) s :=
  tied_hdrOp _ _ (fun _ => rfl) (ServerAnswer.hdrKeeps_setBit _ _ _ (by decide)) (hdrStep_setAa b)
    (fun w h => ednsUp0_of_eq h (setHdr_edns _ _ w)) s hi

theorem keeps_setTc (b : Bool) (s : PS) (hi : W.I s.w) : Keeps Pc b0 v0 U (PM.setTc b) s :=
  tied_hdrOp _ _ (fun _ => rfl) (ServerAnswer.hdrKeeps_setBit _ _ _ (by decide)) (hdrStep_setTc b)
    (fun w h => ednsUp0_of_eq h (setHdr_edns _ _ w)) s hi

theorem keeps_setRcode (v : Nat) (s : PS) (hi : W.I s.w) : Keeps Pc b0 v0 U (PM.setRcode v) s :=
  tied_hdrOp _ _ (fun _ => rfl) (ServerAnswer.hdrKeeps_setRcode v) (hdrStep_setRcode v)
    (fun w h => ednsUp0_setRcode v w h) s hi

/-- `clear_rrs`: the body is reset to the questions -/
theorem tied_clearRrs (s : PS) (hi : Writer.I s.w) (ht : Tied Pc b0 v0 U s) : Tied Pc b0 v0 U (PM.clearRrs s).2 := by
  obtain ⟨hl, ⟨mb, hc⟩, hh, hu⟩ := ht
  have hc' := clay_clearRrs s.w hc hi
  unfold PM.clearRrs PM.hdrOp
  rw [clearRrs_apply]
  exact ⟨hl, ⟨_, by
    show CLay Pc (Writer.clearRrs s.w).2 (bodyOf b0 (s.log ++ [.clear])) _
    rw [bodyOf_snoc]; exact hc'⟩, by
    show HdrView (Writer.clearRrs s.w).2 ((s.log ++ [Ev.clear]).foldl View.step v0)
    rw [foldl_snoc]
    exact hdrView_congr (v := (s.log.foldl View.step v0).step Ev.clear) hh rfl rfl,
    fun x => ednsUp0_of_eq (hu x) rfl⟩

/-- a logged record-adding call: on success the records of the call are appended to their
    section, on failure nothing changes -/
theorem tied_addCall (ev : AddEv) (m0 : M Unit) (s : PS)
    (hnp : (m0 { s.w with hv := some [] }).1 ≠ .panic)
    (hI0 : Writer.I { s.w with hv := some [] })
    (hlim : (m0 { s.w with hv := some [] }).2.limit = s.w.limit)
    (hoct : ∀ i, i < 12 → (m0 { s.w with hv := some [] }).2.octets[i]? = s.w.octets[i]?)
    (herr : ∀ e s', m0 { s.w with hv := some [] } = (.err e, s') → Same { s.w with hv := some [] } s')
    (hok : ∀ s' b mb, CLay Pc { s.w with hv := some [] } b mb → m0 { s.w with hv := some [] } = (.ok (), s') →
      ∃ mb', CLay Pc s' (b.add ev.sec (evRecs ev)) mb')
    (hed : (m0 { s.w with hv := some [] }).2.edns = s.w.edns)
    (ht : Tied Pc b0 v0 U s) : Tied Pc b0 v0 U (PM.addCall ev (Server.withHv [] m0) s).2 := by
  obtain ⟨hl, ⟨mb, hc⟩, hh, hu⟩ := ht
  have hc0 := clay_hv s.w (some []) hc
  unfold PM.addCall Server.withHv
  dsimp only
  generalize m0 { s.w with hv := some [] } = r at hnp herr hok hlim hoct hed
  obtain ⟨o, s1⟩ := r
  simp only at hlim hoct hed
  have hu1 : U → EdnsUp0 ({ s1 with hv := none } : State) := fun x => ednsUp0_of_eq (hu x) hed
  have hl1 : ({ s1 with hv := none } : State).limit ≤ 65535 := by show s1.limit ≤ _; rw [hlim]; exact hl
  have hh1 : ∀ a, HdrView ({ s1 with hv := none } : State) ((s.log ++ [Ev.add a]).foldl View.step v0) := by
    intro a
    rw [foldl_snoc]
    exact hdrView_add (hdrView_congr hh (hoct 2 (by omega)) (hoct 3 (by omega))) a
  cases o with
  | ok u =>
    cases u
    obtain ⟨mb', h'⟩ := hok s1 _ _ hc0 rfl
    exact ⟨hl1, ⟨mb', by
      show CLay Pc { s1 with hv := none } (bodyOf b0 (s.log ++ [.add { ev with res := .ok () }])) mb'
      rw [bodyOf_snoc]; exact clay_hv s1 none h'⟩, hh1 _, hu1⟩
  | err e =>
    have h' := clay_hv s1 none (clay_same hc0 hI0 (herr e s1 rfl))
    dsimp only
    split
    · exact ⟨hl1, ⟨mb, by
        show CLay Pc { s1 with hv := none } (bodyOf b0 (s.log ++ [.add { ev with res := .err e }])) mb
        rw [bodyOf_snoc]; exact h'⟩, hh1 _, hu1⟩
    · exact ⟨hl1, ⟨mb, by
        show CLay Pc { s1 with hv := none } (bodyOf b0 (s.log ++ [.add { ev with res := .err e }])) mb
        rw [bodyOf_snoc]; exact h'⟩, hh1 _, hu1⟩
  | panic => exact absurd rfl hnp

theorem setCount_edns (sec : RrSection) (n : Nat) (s : State) : (setCount sec n s).2.edns = s.edns := by
  cases sec <;> rfl

/-- whatever its outcome, `add_*_rrset` leaves the EDNS slot, the limit and the octets below the cursor -/
theorem addRrsetOp_keeps (sec : RrSection) (hint : Hint) (owner : WName) (ty cls ttl : Nat)
    (rds : List (List UInt8)) (s : State) :
    (addRrsetOp sec hint owner ty cls ttl rds s).2.edns = s.edns ∧
    (addRrsetOp sec hint owner ty cls ttl rds s).2.limit = s.limit ∧
    ∀ i, i < s.cursor → (addRrsetOp sec hint owner ty cls ttl rds s).2.octets[i]? = s.octets[i]? := by
  have h := addRrsetOp_cases sec hint owner ty cls ttl rds s
  generalize addRrsetOp sec hint owner ty cls ttl rds s = r at h
  obtain ⟨o, s'⟩ := r
  cases o with
  | ok u =>
    obtain ⟨s1, n, e, _, hs'⟩ := h
    rw [hs', setCount_edns, setCount_limit, setCount_octets]
    exact ⟨e.edns, e.limit, e.pre⟩
  | err e => exact ⟨h.edns, h.limit, h.pre⟩
  | panic => exact ⟨h.edns, h.limit, h.pre⟩

theorem keeps_addRrs (optional : Bool) (sec : RrSection) (hint : Hint) (owner : WName) (ty cls ttl : Nat)
    (rds : List (List UInt8)) (s : PS) (hi : W.I s.w) (hwf : owner.WF)
    (hh : HintOK W.Den s.w hint owner) (_hne : rds ≠ []) :
    Keeps Pc b0 v0 U (PM.addRrs optional sec hint owner ty cls ttl rds) s := by
  have hi0 : Writer.I { s.w with hv := some [] } := W.I_hv s.w (some []) hi
  have hh0 := hintOK_hv W (some []) hh
  have hh1 := (hintOK_iff _ _ _).mp hh0
  have hcall := W.call (.addRrset sec hint owner ty cls ttl rds) _ hi0 ⟨hwf, hh0⟩
  have hcases := addRrsetOp_cases sec hint owner ty cls ttl rds { s.w with hv := some [] }
  obtain ⟨k1, k2, k3⟩ := addRrsetOp_keeps sec hint owner ty cls ttl rds { s.w with hv := some [] }
  refine tied_addCall _ _ s hcall.1 hi0 k2 (fun i hi12 => k3 i (Nat.lt_of_lt_of_le hi12 hi0.inv.hdr))
    (fun e s' he => ?_) (fun s' b mb hc he => ?_) k1
  · rw [he] at hcases; exact hcases
  · exact ⟨_, clay_addRrsetOp sec hint owner ty cls ttl rds _ s' hi0 hc hwf hh1 he⟩

/-- keeping the tie is carried through the answer phase -/
theorem keeps_along : Along W (fun {_ _} f s => Keeps Pc b0 v0 U f s) where
  ret := fun _ _ _ h => h
  err := fun h ht => by rw [h]; exact ht
  bind := keeps_bind
  setAa := keeps_setAa
  setRcode := keeps_setRcode
  addRrs := keeps_addRrs

/-! ### `handle_non_axfr_query` -/

/-- the writer invariant again, and the tie is kept (for the epilogues, where `clear_rrs` breaks
    the monotonicity of anchors that `SafeP` tracks) -/
def InvKeeps (Pc : CMode → Prop) (b0 : Body) (v0 : View) (U : Prop) {ε α : Type} (f : PS → Out ε α × PS) (s : PS) : Prop :=
  W.I (f s).2.w ∧ Keeps Pc b0 v0 U f s

theorem SafeE.invKeeps {ε α : Type} {f : PS → Out ε α × PS} {s : PS} {Q : α → State → Prop}
    (h : SafeE W (fun {_ _} f s => Keeps Pc b0 v0 U f s) f s Q) : InvKeeps Pc b0 v0 U f s := ⟨h.1.2.1, h.2⟩

theorem invKeeps_setAa (b : Bool) (s : PS) (hi : W.I s.w) : InvKeeps Pc b0 v0 U (PM.setAa b) s :=
  SafeE.invKeeps (safeE_setAa keeps_along b s hi)

theorem invKeeps_setRcode (v : Nat) (s : PS) (hi : W.I s.w) : InvKeeps Pc b0 v0 U (PM.setRcode v) s :=
  SafeE.invKeeps (safeE_setRcode keeps_along v s hi)

theorem invKeeps_setTc (b : Bool) (s : PS) (hi : W.I s.w) : InvKeeps Pc b0 v0 U (PM.setTc b) s :=
  ⟨(safe_hdr_setTc W b s hi).2.1, keeps_setTc b s hi⟩

theorem invKeeps_clearRrs (s : PS) (hi : W.I s.w) : InvKeeps Pc b0 v0 U PM.clearRrs s :=
  ⟨(safeP0_clearRrs W s hi).2, tied_clearRrs s hi⟩

theorem invKeeps_bind {α β : Type} {x : PM α} {g : α → PM β} {s : PS}
    (hx : InvKeeps Pc b0 v0 U x s) (hg : ∀ a s', W.I s'.w → InvKeeps Pc b0 v0 U (g a) s') : InvKeeps Pc b0 v0 U (x >>= g) s := by
  obtain ⟨h1, h2⟩ := hx
  unfold InvKeeps Keeps at *
  rw [PM.bind_apply]
  generalize x s = r at h1 h2
  obtain ⟨o, s'⟩ := r
  cases o with
  | ok a => exact ⟨(hg a s' h1).1, fun ht => (hg a s' h1).2 (h2 ht)⟩
  | err e => exact ⟨h1, h2⟩
  | panic => exact ⟨h1, h2⟩

/-- **the threading lemma**: `handle_non_axfr_query` keeps the writer invariant and the tie between
    the ghost log and the writer's content layout — through the lookup-driven body (`answer` /
    `answer_any`, every `add_*` call with a valid hint), and through both epilogues (SERVFAIL:
    `set_aa(false)`, `set_rcode`, `clear_rrs`; truncation: `clear_rrs`, then TC or SERVFAIL). -/
theorem invKeeps_handleNonAxfrQueryL (z : Zone.Zone) (hz : ZoneOK z) (qname : WName) (hq : qname.WF)
    (qtype : Nat) (tr : Transport) (hsub : z.apex <:+ fold qname) (s : PS) (hi : W.I s.w)
    (hh : HintOK W.Den s.w .qname qname) : InvKeeps Pc b0 v0 U (handleNonAxfrQueryL z qname qtype tr) s := by
  obtain ⟨⟨h1, h2, _, _⟩, h5⟩ := inner_safe (keeps_along (Pc := Pc) (b0 := b0) (v0 := v0) (U := U)) z hz qname hq qtype
    hsub s hi hh
  unfold Keeps at h5
  rw [inner_apply] at h1 h2 h5
  have ep1 : ∀ s' : PS, W.I s'.w →
      InvKeeps Pc b0 v0 U (do PM.setAa false; PM.setRcode (RC "SERVFAIL"); PM.clearRrs : PM Unit) s' :=
    fun s' hi' => invKeeps_bind (invKeeps_setAa false s' hi') (fun _ s1 hi1 =>
      invKeeps_bind (invKeeps_setRcode _ s1 hi1) (fun _ s2 hi2 => invKeeps_clearRrs s2 hi2))
  have ep2 : ∀ s' : PS, W.I s'.w → InvKeeps Pc b0 v0 U (do
      PM.clearRrs
      if tr = Transport.tcp then do PM.setAa false; PM.setRcode (RC "SERVFAIL")
      else PM.setTc true : PM Unit) s' := fun s' hi' =>
    invKeeps_bind (invKeeps_clearRrs s' hi') (fun _ s1 hi1 => by
      split
      · exact invKeeps_bind (invKeeps_setAa false s1 hi1) (fun _ s2 hi2 => invKeeps_setRcode _ s2 hi2)
      · exact invKeeps_setTc true s1 hi1)
  unfold InvKeeps Keeps handleNonAxfrQueryL
  dsimp only
  generalize (if qtype = QT "ANY" then answerAny z qname s else answer z qname qtype s) = res at h1 h2 h5
  obtain ⟨o, s'⟩ := res
  cases o with
  | panic => exact ⟨h2, h5⟩
  | ok u => exact ⟨h2, h5⟩
  | err e =>
    cases e with
    | servFail =>
      have := ep1 s' h2
      exact ⟨this.1, fun ht => this.2 (h5 ht)⟩
    | truncation =>
      have := ep2 s' h2
      exact ⟨this.1, fun ht => this.2 (h5 ht)⟩

/-- **the log is the content**: from a writer state that satisfies the writer invariant, is laid
    out as `b0` (in any session of compression modes `Pc`), has a limit a DNS message can have, and
    in which `Hint::Qname` is valid for the queried name, `handle_non_axfr_query` leaves a writer
    that satisfies the invariant, has the same kind of limit, and is laid out as `b0` plus the
    records of the logged `add_*` calls that succeeded — in call order, by section; reset to the
    questions where `clear_rrs` was logged.  And the header follows the log too: if octets 2–3 show
    the AA, TC and RCODE of a view `v0` before, they show those of `v0` stepped through the log
    after. -/
theorem clay_handleNonAxfrQueryL (z : Zone.Zone) (hz : ZoneOK z) (qname : WName) (hq : qname.WF)
    (qtype : Nat) (tr : Transport) (hsub : z.apex <:+ fold qname) (w : State) (hi : Writer.I w)
    (hh : HintOK Writer.Den w .qname qname) (hl : w.limit ≤ 65535) (mb : MBody) (hc : CLay Pc w b0 mb)
    (v0 : View) (hv0 : HdrView w v0) :
    Writer.I (handleNonAxfrQueryL z qname qtype tr ⟨w, []⟩).2.w ∧
    (handleNonAxfrQueryL z qname qtype tr ⟨w, []⟩).2.w.limit ≤ 65535 ∧
    (∃ mb', CLay Pc (handleNonAxfrQueryL z qname qtype tr ⟨w, []⟩).2.w
      (bodyOf b0 (handleNonAxfrQueryL z qname qtype tr ⟨w, []⟩).2.log) mb') ∧
    HdrView (handleNonAxfrQueryL z qname qtype tr ⟨w, []⟩).2.w
      ((handleNonAxfrQueryL z qname qtype tr ⟨w, []⟩).2.log.foldl View.step v0) := by
  obtain ⟨h1, h2⟩ := invKeeps_handleNonAxfrQueryL (Pc := Pc) (b0 := b0) (v0 := v0) (U := False) z hz qname hq qtype tr hsub ⟨w, []⟩ hi hh
  obtain ⟨a, b, c, _⟩ := h2 ⟨hl, ⟨mb, hc⟩, hv0, fun x => x.elim⟩
  exact ⟨h1, a, b, c⟩

/-- … and the extended-RCODE octet of the EDNS slot stays 0 (only `set_rcode` touches the slot, and it
    resets that octet) -/
theorem ednsUp0_handleNonAxfrQueryL (z : Zone.Zone) (hz : ZoneOK z) (qname : WName) (hq : qname.WF)
    (qtype : Nat) (tr : Transport) (hsub : z.apex <:+ fold qname) (w : State) (hi : Writer.I w)
    (hh : HintOK Writer.Den w .qname qname) (hl : w.limit ≤ 65535) (mb : MBody) (b0 : Body)
    (hc : CLay (fun _ => True) w b0 mb) (hu : EdnsUp0 w) :
    EdnsUp0 (handleNonAxfrQueryL z qname qtype tr ⟨w, []⟩).2.w := by
  obtain ⟨v0, hv0⟩ := hdrView_exists w
  obtain ⟨_, h2⟩ := invKeeps_handleNonAxfrQueryL (Pc := fun _ => True) (b0 := b0) (v0 := v0) (U := True) z hz qname hq qtype tr
    hsub ⟨w, []⟩ hi hh
  exact (h2 ⟨hl, ⟨mb, hc⟩, hv0, fun _ => hu⟩).2.2.2 trivial

end QV.ServerContent
