/-
  QV.Proofs.RrlConc — the invariant behind C28: in every reachable state of a burst running the
  code as written (`progLocked`), the outcomes decided so far are exactly what a sequential run
  of that many requests produces, whatever the interleaving.
-/
import QV.Model.RrlConc
import QV.Proofs.Rrl
namespace QV.Rrl.Conc
open QV QV.Rrl

theorem countP_set {α : Type} (q : α → Bool) (l : List α) (i : Nat) (a : α) (h : i < l.length) :
    (l.set i a).countP q + (if q l[i] then 1 else 0) = l.countP q + (if q a then 1 else 0) := by
  have : q l[i] = true → 0 < l.countP q := fun hq => List.countP_pos_iff.mpr ⟨_, List.getElem_mem h, hq⟩
  rw [List.countP_set h]
  cases hq : q l[i]
  · simp only [Bool.false_eq_true, if_false]; omega
  · have := this hq; simp only [if_true]; omega

/-- tokens used on the key's bucket (a foreign entry counts as empty) -/
def used (key : Key) (e : Entry) : Nat := if e.key = key then e.count else 0

/-- the entry is consistent with the burst's one-second window -/
def Good (env : Env) (n : Nat) (e : Entry) : Prop :=
  e.key = env.key → e.count ≤ capOf env.p env.key.category ∧
    ∀ i, i < n → (env.inputs i).now < e.last_refill + NANOS_PER_SEC

/-- all `n` requests read the clock within one second of each other -/
def WithinOneSecond (env : Env) (n : Nat) : Prop :=
  ∀ i j, i < n → j < n → (env.inputs i).now < (env.inputs j).now + NANOS_PER_SEC

theorem used_le_cap {env : Env} {n : Nat} (e : Entry) (hg : Good env n e) :
    used env.key e ≤ capOf env.p env.key.category := by
  unfold used
  split
  · next hk => exact (hg hk).1
  · exact Nat.zero_le _

/-- One pass through the critical section during the burst: no refill happens (the window is
    one second), so a token is taken while one is left, and the response is limited otherwise. -/
theorem critical_section {env : Env} {n : Nat} (hv : env.p.Valid) (hw : WithinOneSecond env n)
    (e : Entry) (hg : Good env n e) (i : Nat) (hi : i < n) :
    ∃ e', processBucket env.p env.key env.key.category e (env.inputs i).now (env.inputs i).rnd =
        .ok (e', if used env.key e < capOf env.p env.key.category then .Send
                 else verdict env.p (env.inputs i).rnd false) ∧
      Good env n e' ∧
      used env.key e' = min (used env.key e + 1) (capOf env.p env.key.category) := by
  have hpos : 0 < capOf env.p env.key.category := hv.cap_pos env.key.category
  have hns : 0 < NANOS_PER_SEC := by decide
  by_cases hk : e.key = env.key
  · obtain ⟨hc, hwin⟩ := hg hk
    have hlt : (env.inputs i).now - e.last_refill < NANOS_PER_SEC := by have := hwin i hi; omega
    rw [processBucket_eq hv _ hk, refilled_of_lt hlt]
    simp only [used, if_pos hk]
    by_cases hlim : e.count < capOf env.p env.key.category
    · rw [if_neg (Nat.not_le.mpr hlim), if_pos hlim]
      exact ⟨_, rfl, fun _ => ⟨hlim, hwin⟩, by simp only [if_pos hk]; omega⟩
    · rw [if_pos (Nat.not_lt.mp hlim), if_neg hlim]
      exact ⟨_, rfl, hg, by rw [if_pos hk]; omega⟩
  · rw [processBucket_create _ _ _ _ _ _ hk]
    simp only [used, if_neg hk, if_pos hpos]
    exact ⟨_, rfl, fun _ => ⟨hpos, fun j hj => hw j i hj hi⟩, by rw [if_pos rfl]; show 1 = _; omega⟩


/-- invariant of every reachable state of a burst running `progLocked` -/
structure Inv (env : Env) (n u₀ : Nat) (s : State) : Prop where
  len : s.threads.length = n
  good : Good env n s.entry
  done_eq : s.sent + s.slipped + s.dropped = s.threads.countP (fun t => decide (3 ≤ t.pc))
  sent_eq : s.sent = min (s.sent + s.slipped + s.dropped) (capOf env.p env.key.category - u₀)
  used_eq : used env.key s.entry = min (u₀ + (s.sent + s.slipped + s.dropped)) (capOf env.p env.key.category)
  slip0 : env.p.slip = 0 → s.slipped = 0
  slip1 : env.p.slip = 1 → s.dropped = 0
  pcs : ∀ j t, s.threads[j]? = some t →
    t.pc ≤ 4 ∧ ((1 ≤ t.pc ∧ t.pc ≤ 3) ↔ s.lock = some j) ∧
    (t.pc = 2 → ∃ r, t.snap = some r ∧
      processBucket env.p env.key env.key.category s.entry (env.inputs j).now (env.inputs j).rnd = .ok r)
  owner : ∀ k, s.lock = some k → ∃ t, s.threads[k]? = some t

/-- what `Inv.pcs` asks of thread `j` while the mutex is in state `lock` and the bucket holds
    `entry`: exactly the owner is between `lock` and `unlock`, and a thread about to write has
    computed its result from the current entry -/
def ThreadOk (env : Env) (lock : Option Nat) (entry : Entry) (j : Nat) (t : Thread) : Prop :=
  t.pc ≤ 4 ∧ ((1 ≤ t.pc ∧ t.pc ≤ 3) ↔ lock = some j) ∧
    (t.pc = 2 → ∃ r, t.snap = some r ∧
      processBucket env.p env.key env.key.category entry (env.inputs j).now (env.inputs j).rnd = .ok r)

/-- Frame: when thread `i` moves while the mutex is free or its own, and leaves it free or its
    own, every other thread is outside the critical section before and after, so nothing said
    about it depends on the mutex or the entry. -/
theorem threadOk_set {env : Env} {s : State} {i : Nat} {l' : Option Nat} {e' : Entry} {t' : Thread}
    (hpcs : ∀ j t, s.threads[j]? = some t → ThreadOk env s.lock s.entry j t)
    (hl : s.lock = none ∨ s.lock = some i) (hl' : l' = none ∨ l' = some i)
    (hi : ThreadOk env l' e' i t') :
    ∀ j t, (s.threads.set i t')[j]? = some t → ThreadOk env l' e' j t := by
  intro j t hj
  by_cases hji : i = j
  · subst hji
    rw [List.getElem?_set, if_pos rfl] at hj
    split at hj
    · cases hj; exact hi
    · cases hj
  · rw [List.getElem?_set_ne hji] at hj
    obtain ⟨h4, hlk, _⟩ := hpcs j t hj
    have hne : ∀ l, l = none ∨ l = some i → l ≠ some j := by
      rintro l (rfl | rfl) h
      · cases h
      · exact hji (Option.some.inj h)
    have hout : ¬ (1 ≤ t.pc ∧ t.pc ≤ 3) := fun h => hne _ hl (hlk.mp h)
    exact ⟨h4, ⟨fun h => absurd h hout, fun h => absurd h (hne _ hl')⟩,
      fun h => absurd ⟨by omega, by omega⟩ hout⟩

/-- the decided responses are those of the threads past `write`: one more when a thread leaves 2 -/
theorem countP_done_set {l : List Thread} {i : Nat} {t t' : Thread} (hti : l[i]? = some t)
    (hpc : t'.pc = t.pc + 1) :
    (l.set i t').countP (fun t => decide (3 ≤ t.pc)) =
      l.countP (fun t => decide (3 ≤ t.pc)) + (if t.pc = 2 then 1 else 0) := by
  obtain ⟨h, rfl⟩ := List.getElem?_eq_some_iff.mp hti
  have := countP_set (fun t => decide (3 ≤ t.pc)) l i t' h
  simp only [hpc, decide_eq_true_eq] at this
  split at this <;> split at this <;> split <;> omega

/-- thread `i` moves from `t` to `t'` without writing: only the mutex and the thread change -/
theorem Inv.move {env : Env} {n u₀ : Nat} {s : State} (hinv : Inv env n u₀ s) {i : Nat} {t t' : Thread}
    (hti : s.threads[i]? = some t) (hpc : t'.pc = t.pc + 1) (hnw : t.pc ≠ 2) {l' : Option Nat}
    (hl : s.lock = none ∨ s.lock = some i) (hl' : l' = none ∨ l' = some i)
    (hi : ThreadOk env l' s.entry i t') :
    Inv env n u₀ { s with lock := l', threads := s.threads.set i t' } := by
  have hil := (List.getElem?_eq_some_iff.mp hti).1
  refine ⟨by simp only [List.length_set, hinv.len], hinv.good, ?_, hinv.sent_eq, hinv.used_eq, hinv.slip0, hinv.slip1,
    threadOk_set hinv.pcs hl hl' hi, ?_⟩
  · show _ = (s.threads.set i t').countP _
    rw [countP_done_set hti hpc, if_neg hnw]
    exact hinv.done_eq
  · rintro k rfl
    rcases hl' with h | h
    · cases h
    · cases h; exact ⟨t', List.getElem?_set_self hil⟩


/-- the bookkeeping of one more decided response: sent while a token is left, limited otherwise -/
theorem account {cap u₀ d sent used used' d' sent' : Nat} (hs : sent = min d (cap - u₀))
    (hu : used = min (u₀ + d) cap) (hu' : used' = min (used + 1) cap) (hd : d' = d + 1)
    (hsent : sent' = if used < cap then sent + 1 else sent) :
    sent' = min d' (cap - u₀) ∧ used' = min (u₀ + d') cap := by
  subst hd hsent hu'
  split <;> omega

/-- thread `i` stores the entry and action it computed: the response's fate is decided -/
theorem Inv.write {env : Env} {n u₀ : Nat} {s : State} (hv : env.p.Valid) (hw : WithinOneSecond env n)
    (hinv : Inv env n u₀ s) {i : Nat} {t : Thread} {e' : Entry} {a : Action}
    (hti : s.threads[i]? = some t) (hpc : t.pc = 2) (hsnap : t.snap = some (e', a)) :
    Inv env n u₀ ({ s with entry := e', threads := s.threads.set i { t with pc := t.pc + 1 } }.count a) := by
  have hil := (List.getElem?_eq_some_iff.mp hti).1
  obtain ⟨_, hlk, hs⟩ := hinv.pcs i _ hti
  have hli : s.lock = some i := hlk.mp ⟨by omega, by omega⟩
  obtain ⟨r, hr, hpb⟩ := hs hpc
  obtain ⟨e'', hcs, hgood, hused⟩ := critical_section hv hw s.entry hinv.good i (hinv.len ▸ hil)
  rw [hsnap] at hr
  cases hr
  rw [hcs] at hpb
  cases hpb
  have hlen : (s.threads.set i { t with pc := t.pc + 1 }).length = n := by
    rw [List.length_set, hinv.len]
  have hthreads := threadOk_set (e' := e') (t' := { t with pc := t.pc + 1 })
    hinv.pcs (Or.inr hli) (Or.inr hli) ⟨by simp only; omega, ⟨fun _ => hli, fun _ => by simp only; omega⟩,
      fun h => by simp only at h; omega⟩
  have hown : ∀ k, s.lock = some k → ∃ t', (s.threads.set i { t with pc := t.pc + 1 })[k]? = some t' := by
    intro k hk; rw [hli] at hk; cases hk; exact ⟨_, List.getElem?_set_self hil⟩
  have hcount := countP_done_set (t' := { t with pc := t.pc + 1 }) hti rfl
  rw [if_pos hpc] at hcount
  have hd := hinv.done_eq
  have hacc := fun d' sent' => @account _ _ _ _ _ _ d' sent' hinv.sent_eq hinv.used_eq hused
  by_cases hlt : used env.key s.entry < capOf env.p env.key.category
  · rw [if_pos hlt]
    obtain ⟨h1, h2⟩ := hacc (s.sent + 1 + s.slipped + s.dropped) _ (by omega) (if_pos hlt).symm
    exact ⟨hlen, hgood, by simp only [State.count]; omega, h1, h2, hinv.slip0, hinv.slip1, hthreads, hown⟩
  · rw [if_neg hlt]
    rcases verdict_false_cases env.p (env.inputs i).rnd with ⟨ha, hsl⟩ | ⟨ha, hsl⟩ <;> rw [ha]
    · obtain ⟨h1, h2⟩ := hacc (s.sent + (s.slipped + 1) + s.dropped) _ (by omega) (if_neg hlt).symm
      exact ⟨hlen, hgood, by simp only [State.count]; omega, h1, h2, fun h => absurd h hsl, hinv.slip1,
        hthreads, hown⟩
    · obtain ⟨h1, h2⟩ := hacc (s.sent + s.slipped + (s.dropped + 1)) _ (by omega) (if_neg hlt).symm
      exact ⟨hlen, hgood, by simp only [State.count]; omega, h1, h2, hinv.slip0, fun h => absurd h hsl,
        hthreads, hown⟩

theorem inv_step {env : Env} {n u₀ : Nat} (hprog : env.prog = progLocked) (hv : env.p.Valid)
    (hw : WithinOneSecond env n) (s s' : State) (i : Nat) (hinv : Inv env n u₀ s)
    (hstep : step env s i = some s') : Inv env n u₀ s' := by
  unfold step at hstep
  cases hti : s.threads[i]? with
  | none => rw [hti] at hstep; cases hstep
  | some t =>
    obtain ⟨h4, hlk, hsnap⟩ := hinv.pcs i t hti
    have hin : i < n := hinv.len ▸ (List.getElem?_eq_some_iff.mp hti).1
    simp only [hti, hprog] at hstep
    obtain ⟨pc, snap⟩ := t
    match pc with
    | 0 =>
      simp only [progLocked, List.getElem?_cons_zero] at hstep
      split at hstep
      · next hl =>
        cases hstep
        exact hinv.move hti rfl (by simp) (Or.inl hl) (Or.inr rfl)
          ⟨by simp, by simp, by simp⟩
      · cases hstep
    | 1 =>
      have hli : s.lock = some i := hlk.mp (by simp)
      obtain ⟨e', hpb, _⟩ := critical_section hv hw s.entry hinv.good i hin
      simp only [progLocked, List.getElem?_cons_zero, List.getElem?_cons_succ, hpb] at hstep
      cases hstep
      exact hinv.move hti rfl (by simp) (Or.inr hli) (Or.inr hli)
        ⟨by simp, by simp [hli], fun _ => ⟨_, rfl, hpb⟩⟩
    | 2 =>
      obtain ⟨⟨e', a⟩, hr, _⟩ := hsnap rfl
      simp only at hr
      subst hr
      simp only [progLocked, List.getElem?_cons_zero, List.getElem?_cons_succ] at hstep
      cases hstep
      exact hinv.write hv hw hti rfl rfl
    | 3 =>
      have hli : s.lock = some i := hlk.mp (by simp)
      simp only [progLocked, List.getElem?_cons_zero, List.getElem?_cons_succ, hli, if_true] at hstep
      cases hstep
      exact hinv.move hti rfl (by simp) (Or.inr hli) (Or.inl rfl)
        ⟨by simp, by simp, by simp⟩
    | k + 4 =>
      simp only [progLocked, List.getElem?_cons_succ, List.getElem?_nil] at hstep
      cases hstep

theorem inv_init {env : Env} {n : Nat} (e₀ : Entry) (hg : Good env n e₀) :
    Inv env n (used env.key e₀) (init e₀ n) := by
  have hu := used_le_cap e₀ hg
  refine ⟨by simp [init], hg, ?_, by simp [init], ?_, by simp [init], by simp [init], ?_,
    fun k hk => by simp [init] at hk⟩
  · simp [init, List.countP_replicate]
  · simp only [init]; omega
  · intro j t hj
    simp only [init, List.getElem?_replicate] at hj
    split at hj
    · cases hj
      simp [init]
    · cases hj

theorem inv_exec {env : Env} {n u₀ : Nat} (hprog : env.prog = progLocked) (hv : env.p.Valid)
    (hw : WithinOneSecond env n) (sched : List Nat) :
    ∀ s s', Inv env n u₀ s → exec env s sched = some s' → Inv env n u₀ s' := by
  induction sched with
  | nil => intro s s' hinv h; simp only [exec, Option.some.injEq] at h; subst h; exact hinv
  | cons i rest ih =>
    intro s s' hinv h
    simp only [exec] at h
    cases hs : step env s i with
    | none => simp [hs] at h
    | some s1 =>
      simp only [hs] at h
      exact ih s1 s' (inv_step hprog hv hw s s1 i hinv hs) h

/-- as long as some thread has not finished, some thread can move: the burst never deadlocks -/
theorem progress {env : Env} {n u₀ : Nat} (hprog : env.prog = progLocked) (hv : env.p.Valid)
    (hw : WithinOneSecond env n) (s : State) (hinv : Inv env n u₀ s) (hnf : ¬ finished env s) :
    ∃ i s', step env s i = some s' := by
  have hlen : env.prog.length = 4 := by rw [hprog]; rfl
  have pick : ∃ j t, s.threads[j]? = some t ∧ (s.lock = some j ∨ (s.lock = none ∧ t.pc = 0)) := by
    cases hl : s.lock with
    | some i =>
      obtain ⟨t, ht⟩ := hinv.owner i hl
      exact ⟨i, t, ht, Or.inl rfl⟩
    | none =>
      have : ∃ t, t ∈ s.threads ∧ t.pc ≠ 4 := by
        apply Decidable.byContradiction
        intro hno
        apply hnf
        intro t ht
        rw [hlen]
        exact Decidable.byContradiction fun hne => hno ⟨t, ht, hne⟩
      obtain ⟨t, ht, hne⟩ := this
      obtain ⟨j, hj⟩ := List.mem_iff_getElem?.mp ht
      obtain ⟨h4, hlk, _⟩ := hinv.pcs j t hj
      have : ¬ (1 ≤ t.pc ∧ t.pc ≤ 3) := fun h => by have := hlk.mp h; rw [hl] at this; cases this
      exact ⟨j, t, hj, Or.inr ⟨rfl, by omega⟩⟩
  obtain ⟨j, t, hj, hcase⟩ := pick
  have hjn : j < n := hinv.len ▸ (List.getElem?_eq_some_iff.mp hj).1
  obtain ⟨h4, hlk, hsnap⟩ := hinv.pcs j t hj
  refine ⟨j, ?_⟩
  unfold step
  simp only [hj, hprog]
  obtain ⟨pc, snap⟩ := t
  rcases hcase with hl | ⟨hl, rfl⟩
  · obtain ⟨h1, h3⟩ := hlk.mpr hl
    match pc, h1, h3 with
    | 1, _, _ =>
      obtain ⟨e', hpb, _⟩ := critical_section hv hw s.entry hinv.good j hjn
      simp only [progLocked, List.getElem?_cons_zero, List.getElem?_cons_succ, hpb]
      exact ⟨_, rfl⟩
    | 2, _, _ =>
      obtain ⟨⟨e', a⟩, hr, _⟩ := hsnap rfl
      simp only at hr
      simp only [progLocked, List.getElem?_cons_zero, List.getElem?_cons_succ, hr]
      exact ⟨_, rfl⟩
    | 3, _, _ =>
      simp only [progLocked, List.getElem?_cons_zero, List.getElem?_cons_succ, hl, if_true]
      exact ⟨_, rfl⟩
  · simp only [progLocked, List.getElem?_cons_zero, hl, if_true]
    exact ⟨_, rfl⟩

end QV.Rrl.Conc
