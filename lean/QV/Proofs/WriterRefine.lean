/-
  QV.Proofs.WriterRefine — C12 (d), what the refinement in `Disabled` mode (`disabled_refines`, in
  `QV.Proofs.WriterStep`) needs besides the layout: the arguments of the calls are values of their Rust types
  (`Op.Typed`, kept by `bodyRun`: `typed_run`), and the pseudo-records `finish` appends are records like any other
  (`optRecs`, `tsigRecs`), so that `specDecodeMsg_enc` reads the canonical encoding back.
-/
import QV.Proofs.MessageDecode
import QV.Proofs.WriterSession
namespace QV.Writer
open QV QV.Wire QV.Spec QV.Spec.Message QV.ServerSafety

/-- the arguments of a call are values of their Rust types: `Name`s are well formed, types and
    classes are 16-bit, an `Rdata` holds at most 65535 octets, the ID is 16-bit, `Opcode` and
    `Rcode` are 4-bit -/
def Op.Typed : Op → Prop
  | .setId v => v < 65536
  | .setOpcode v => v < 16
  | .setRcode v => v < 16
  | .addQuestion n t c => n.WF ∧ t < 65536 ∧ c < 65536
  | .addRr _ _ o ty cls _ rd _ => o.WF ∧ ty < 65536 ∧ cls < 65536 ∧ rd.length < 65536
  | .addRrset _ _ o ty cls _ rds _ => o.WF ∧ ty < 65536 ∧ cls < 65536 ∧ ∀ rd ∈ rds, rd.length < 65536
  | _ => True

structure Body.Typed (b : Body) : Prop where
  qs : ∀ q ∈ b.qs, q.Typed
  an : ∀ r ∈ b.an, r.Typed
  ns : ∀ r ∈ b.ns, r.Typed
  ar : ∀ r ∈ b.ar, r.Typed

theorem Body.Typed.empty : Body.Typed {} :=
  ⟨(fun _ h => nomatch h), (fun _ h => nomatch h), (fun _ h => nomatch h), (fun _ h => nomatch h)⟩

theorem ttlFrom_lt (t : Nat) : ttlFrom t < 4294967296 := by
  unfold ttlFrom; split <;> omega

theorem Body.Typed.add {b : Body} (h : b.Typed) (sec : RrSection) (rs : List RRec) (hr : ∀ r ∈ rs, r.Typed) :
    (b.add sec rs).Typed := by
  cases sec
  · exact ⟨h.qs, (fun r hx => by
      rcases List.mem_append.mp hx with h1 | h1
      · exact h.an r h1
      · exact hr r h1), h.ns, h.ar⟩
  · exact ⟨h.qs, h.an, (fun r hx => by
      rcases List.mem_append.mp hx with h1 | h1
      · exact h.ns r h1
      · exact hr r h1), h.ar⟩
  · exact ⟨h.qs, h.an, h.ns, (fun r hx => by
      rcases List.mem_append.mp hx with h1 | h1
      · exact h.ar r h1
      · exact hr r h1)⟩

/-- a call that succeeded added only well-typed questions and records whose RDATA is well formed
    for its type -/
theorem typed_step (ss : Session) (op : Op) (b : Body) (hb : b.Typed) (ht : op.Typed)
    (hok : (step ss op).1 = .ok ()) : (bodyStep b op).Typed := by
  cases op with
  | addQuestion n t c => exact ⟨(fun q hx => by
      rcases List.mem_append.mp hx with h1 | h1
      · exact hb.qs q h1
      · simp only [List.mem_singleton] at h1; subst h1; exact ht), hb.an, hb.ns, hb.ar⟩
  | addRr sec h o ty cls ttl rd hv =>
    obtain ⟨h1, h2, h3, h4⟩ := ht
    have hok' : (addRrOp sec (resolveHint ss.hvs h) o ty cls ttl rd
        { ss.w with hv := hv.map (hvGet ss.hvs) }).1 = .ok () := by
      rw [← withHv_fst]; exact hok
    have hrd := (addRrOp_rdata sec _ o ty cls ttl rd _).1 hok'
    refine hb.add sec _ (fun r hx => ?_)
    simp only [List.mem_singleton] at hx; subst hx
    exact ⟨h1, h2, h3, ttlFrom_lt ttl, h4, hrd⟩
  | addRrset sec h o ty cls ttl rds hv =>
    obtain ⟨h1, h2, h3, h4⟩ := ht
    have hok' : (addRrsetOp sec (resolveHint ss.hvs h) o ty cls ttl rds
        { ss.w with hv := hv.map (hvGet ss.hvs) }).1 = .ok () := by
      rw [← withHv_fst]; exact hok
    have hrd := (addRrsetOp_rdata sec _ o ty cls ttl rds _).1 hok'
    refine hb.add sec _ (fun r hx => ?_)
    obtain ⟨rd, hrdm, rfl⟩ := List.mem_map.mp hx
    exact ⟨h1, h2, h3, ttlFrom_lt ttl, h4 rd hrdm, List.all_eq_true.mp hrd rd hrdm⟩
  | clearRrs => exact ⟨hb.qs, (fun _ hx => by cases hx), (fun _ hx => by cases hx), (fun _ hx => by cases hx)⟩
  | _ => exact hb

theorem typed_run : ∀ (ops : List Op) (ss : Session) (b : Body), b.Typed → (∀ op ∈ ops, op.Typed) →
    (bodyRun b ops (run ss ops).2).Typed := by
  intro ops
  induction ops with
  | nil => intro ss b hb _; exact hb
  | cons op ops ih =>
    intro ss b hb ht
    have ht' : ∀ x ∈ ops, x.Typed := fun x hx => ht x (List.mem_cons_of_mem _ hx)
    by_cases hp : (step ss op).1 = .panic
    · rw [run_cons_panic hp]
      simp only [bodyRun, reduceCtorEq, if_false]
      exact hb
    · rw [run_cons hp]
      simp only [bodyRun]
      split
      · rename_i hok
        exact ih _ _ (typed_step ss op b hb (ht op List.mem_cons_self) hok) ht'
      · exact ih _ _ hb ht'


/-! ### the pseudo-records `finish` appends -/

/-- the OPT record (RFC 6891 §6.1.2): root owner, type 41, class = UDP payload size (a 16-bit
    value), TTL = extended RCODE upper bits, version 0, flags 0; empty RDATA -/
def optRecs : Option Edns → List RRec
  | some e => [⟨WName.root, T_OPT, e.payload % 65536, (e.upper * 16777216) % 4294967296, []⟩]
  | none => []

theorem optEnc_eq (e : Option Edns) : optEnc e = encRRs (optRecs e) := by
  cases e with
  | none => rfl
  | some e => simp [optEnc, optRecs, encRRs, encRR, u16be_mod]

theorem tsigEnc_eq (ts : Option Tsig) (mac : Option (List UInt8)) :
    tsigEncOpt ts mac = encRRs (tsigRecs ts mac) := by
  cases ts with
  | none => rfl
  | some ts => simp [tsigEncOpt, tsigEnc, tsigRecs, encRRs, encRR]

theorem rdataOK_nameless (cls ty : Nat) (rd : List UInt8) (h : layoutOf ty cls = []) :
    rdataOK cls ty rd = true := by
  unfold rdataOK
  rw [componentTypes_layout, h]
  rfl

theorem optRecs_typed (e : Option Edns) : ∀ r ∈ optRecs e, r.Typed := by
  cases e with
  | none => intro r hr; cases hr
  | some e =>
    intro r hr
    simp only [optRecs, List.mem_singleton] at hr
    subst hr
    have h41 : T_OPT = 41 := by decide
    refine ⟨by show WName.root.WF; decide, by show T_OPT < 65536; decide, Nat.mod_lt _ (by omega), Nat.mod_lt _ (by omega), by simp, ?_⟩
    apply rdataOK_nameless
    show layoutOf T_OPT _ = []
    rw [h41]
    simp [layoutOf]

theorem tsigRecs_typed (ts : Option Tsig) (mac : Option (List UInt8))
    (hk : ∀ t, ts = some t → t.rr.keyName.WF ∧ (tsigAlgName t.mode).WF ∧ t.rr.timeSigned.length = 6 ∧
      t.rr.serverTime.length = 6)
    (hm : (mac.getD []).length ≤ 32) : ∀ r ∈ tsigRecs ts mac, r.Typed := by
  cases ts with
  | none => intro r hr; cases hr
  | some t =>
    intro r hr
    simp only [tsigRecs, List.mem_singleton] at hr
    subst hr
    obtain ⟨k1, k2, k3, k4⟩ := hk t rfl
    have h250 : T_TSIG = 250 := by decide
    have h255 : QC_ANY = 255 := by decide
    have halg : (tsigAlgName t.mode).wire.length ≤ 255 := k2.2
    have hl2 : ∀ x, (u16be x).length = 2 := fun _ => rfl
    refine ⟨k1, by show T_TSIG < 65536; decide, by show QC_ANY < 65536; decide, ttlFrom_lt 0, ?_, ?_⟩
    · show (tsigRdata _ _ _).length < 65536
      unfold tsigRdata
      simp only [List.length_append, hl2, k3]
      split
      · rw [k4]; omega
      · simp only [List.length_nil]; omega
    · apply rdataOK_nameless
      show layoutOf T_TSIG QC_ANY = []
      rw [h250, h255]; decide

theorem algOutputSize_le (a : Alg) : algOutputSize a ≤ 32 := by cases a <;> decide

theorem bytesAt_self (m : Bytes) : BytesAt m 0 m.toList := by
  intro i hi
  simp

end QV.Writer
