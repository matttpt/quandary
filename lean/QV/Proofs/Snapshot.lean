/-
  QV.Proofs.Snapshot — the inductive invariant behind C32.
-/
import QV.Model.Snapshot
import QV.Spec.Snapshot

namespace QV.Snapshot
open QV.Spec.Snapshot

variable {C K Req Resp : Type}

/-- per-handler invariant: every value a handler holds is a value of the timeline at the recorded
    version, and that version is not older than the handler's start -/
def HOk (f : C → Option K → Req → Resp) (s : State C K Req Resp) (h : Handler C K Req Resp) : Prop :=
  h.catLo < s.catHist.length ∧ h.keyLo < s.keyHist.length ∧
  match h.pc with
  | .start => True
  | .gotCat c ci => s.catHist[ci]? = some c ∧ h.catLo ≤ ci
  | .gotKeys c ci k ki => s.catHist[ci]? = some c ∧ h.catLo ≤ ci ∧ s.keyHist[ki]? = some k ∧ h.keyLo ≤ ki
  | .done r c ci ko ce ke =>
      s.catHist[ci]? = some c ∧ h.catLo ≤ ci ∧ ci ≤ ce ∧ ce < s.catHist.length ∧ ke < s.keyHist.length ∧
      match ko with
      | none => r = f c none h.req
      | some (k, ki) => r = f c (some k) h.req ∧ s.keyHist[ki]? = some k ∧ h.keyLo ≤ ki ∧ ki ≤ ke

structure Inv (f : C → Option K → Req → Resp) (s : State C K Req Resp) : Prop where
  catLast : s.catHist.getLast? = some s.cat
  keyLast : s.keyHist.getLast? = some s.keys
  hs : ∀ h ∈ s.hs, HOk f s h

theorem length_pos_of_getLast? {α} {l : List α} {a : α} (h : l.getLast? = some a) : 0 < l.length := by
  cases l with
  | nil => simp at h
  | cons _ _ => simp

theorem idx_lt {α} {l : List α} {i : Nat} {a : α} (h : l[i]? = some a) : i < l.length := by
  rcases Nat.lt_or_ge i l.length with h' | h'
  · exact h'
  · rw [List.getElem?_eq_none h'] at h; cases h

theorem getElem?_append_of_some {α} {l : List α} {i : Nat} {a : α} (h : l[i]? = some a) (l' : List α) :
    (l ++ l')[i]? = some a := by
  rw [List.getElem?_append_left (idx_lt h)]; exact h

/-- appending to the timelines keeps every handler's facts -/
theorem HOk_mono (f : C → Option K → Req → Resp) (s : State C K Req Resp) (h : Handler C K Req Resp)
    (cs : List C) (ks : List K) (c' : C) (k' : K) (hok : HOk f s h) :
    HOk f { s with cat := c', keys := k', catHist := s.catHist ++ cs, keyHist := s.keyHist ++ ks } h := by
  obtain ⟨h1, h2, h3⟩ := hok
  have l1 : ∀ {n}, n < s.catHist.length → n < (s.catHist ++ cs).length := fun hn => by
    rw [List.length_append]; omega
  have l2 : ∀ {n}, n < s.keyHist.length → n < (s.keyHist ++ ks).length := fun hn => by
    rw [List.length_append]; omega
  refine ⟨l1 h1, l2 h2, ?_⟩
  cases hp : h.pc with
  | start => trivial
  | gotCat c ci => rw [hp] at h3; exact ⟨getElem?_append_of_some h3.1 _, h3.2⟩
  | gotKeys c ci k ki =>
    rw [hp] at h3
    exact ⟨getElem?_append_of_some h3.1 _, h3.2.1, getElem?_append_of_some h3.2.2.1 _, h3.2.2.2⟩
  | done r c ci ko ce ke =>
    rw [hp] at h3
    obtain ⟨a, b, c1, d, e, g⟩ := h3
    refine ⟨getElem?_append_of_some a _, b, c1, l1 d, l2 e, ?_⟩
    cases ko with
    | none => exact g
    | some p => exact ⟨g.1, getElem?_append_of_some g.2.1 _, g.2.2⟩

theorem HOk_same (f : C → Option K → Req → Resp) (s : State C K Req Resp) (h : Handler C K Req Resp)
    (hs' : List (Handler C K Req Resp)) (hok : HOk f s h) : HOk f { s with hs := hs' } h := hok

theorem inv_init (f : C → Option K → Req → Resp) (c0 : C) (k0 : K) : Inv f (init c0 k0 : State C K Req Resp) :=
  ⟨rfl, rfl, by intro h hm; simp [init] at hm⟩

theorem cur_cat {f : C → Option K → Req → Resp} {s : State C K Req Resp} (inv : Inv f s) :
    s.catHist[s.catVer]? = some s.cat ∧ s.catVer < s.catHist.length := by
  have := inv.catLast
  rw [List.getLast?_eq_getElem?] at this
  exact ⟨this, by have := length_pos_of_getLast? inv.catLast; unfold State.catVer; omega⟩

theorem cur_keys {f : C → Option K → Req → Resp} {s : State C K Req Resp} (inv : Inv f s) :
    s.keyHist[s.keyVer]? = some s.keys ∧ s.keyVer < s.keyHist.length := by
  have := inv.keyLast
  rw [List.getLast?_eq_getElem?] at this
  exact ⟨this, by have := length_pos_of_getLast? inv.keyLast; unfold State.keyVer; omega⟩

/-- a handler moves on: the timelines and the other handlers are untouched -/
theorem Inv.set_handler {f : C → Option K → Req → Resp} {s : State C K Req Resp} (inv : Inv f s)
    {i : Nat} {h h' : Handler C K Req Resp} (hi : s.hs[i]? = some h) (hok : HOk f s h → HOk f s h') :
    Inv f { s with hs := s.hs.set i h' } :=
  ⟨inv.catLast, inv.keyLast, fun _ hm => (List.mem_or_eq_of_mem_set hm).elim (inv.hs _)
    (fun e => e ▸ hok (inv.hs h (List.mem_of_getElem? hi)))⟩

/-- the invariant is inductive -/
theorem inv_step {f : C → Option K → Req → Resp} {s s' : State C K Req Resp}
    (inv : Inv f s) (st : Step f s s') : Inv f s' := by
  have hc := cur_cat inv
  have hk := cur_keys inv
  cases st with
  | spawn req =>
    refine ⟨inv.catLast, inv.keyLast, fun h hm => ?_⟩
    rcases List.mem_append.mp hm with hm | hm
    · exact inv.hs h hm
    · cases List.mem_singleton.mp hm
      exact ⟨hc.2, hk.2, trivial⟩
  | readCat i h hi hp =>
    exact inv.set_handler hi fun ⟨a, b, _⟩ => ⟨a, b, hc.1, Nat.le_sub_one_of_lt a⟩
  | readKeys i h c ci hi hp =>
    refine inv.set_handler hi fun ⟨a, b, d⟩ => ?_
    rw [hp] at d
    exact ⟨a, b, d.1, d.2, hk.1, Nat.le_sub_one_of_lt b⟩
  | respondNoKeys i h c ci hi hp =>
    refine inv.set_handler hi fun ⟨a, b, d⟩ => ?_
    rw [hp] at d
    exact ⟨a, b, d.1, d.2, Nat.le_sub_one_of_lt (idx_lt d.1), hc.2, hk.2, rfl⟩
  | respondKeys i h c ci k ki hi hp =>
    refine inv.set_handler hi fun ⟨a, b, d⟩ => ?_
    rw [hp] at d
    exact ⟨a, b, d.1, d.2.1, Nat.le_sub_one_of_lt (idx_lt d.1), hc.2, hk.2, rfl, d.2.2.1, d.2.2.2,
      Nat.le_sub_one_of_lt (idx_lt d.2.2.1)⟩
  | setCat g =>
    refine ⟨List.getLast?_concat .., inv.keyLast, fun h hm => ?_⟩
    have := HOk_mono f s h [g] [] g s.keys (inv.hs h hm)
    rwa [List.append_nil] at this
  | setKeys k =>
    refine ⟨inv.catLast, List.getLast?_concat .., fun h hm => ?_⟩
    have := HOk_mono f s h [] [k] s.cat k (inv.hs h hm)
    rwa [List.append_nil] at this

theorem inv_reachable {f : C → Option K → Req → Resp} {c0 : C} {k0 : K} {s : State C K Req Resp}
    (r : Reachable f c0 k0 s) : Inv f s := by
  induction r with
  | init => exact inv_init f c0 k0
  | step _ st ih => exact inv_step ih st

end QV.Snapshot
