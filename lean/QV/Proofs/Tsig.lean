/-
  QV.Proofs.Tsig — the vocabulary of C11's statements (`WireName`, `Abstracts`, `readOf`, `Mode`, `inputMode`,
  `signMode`, `verifyMode`, `MsgOk`, `signAsserts`, `verifyAsserts`, `verdictOut`, `Framed`) and the lemmas
  relating the model `QV.Model.Tsig` to the spec `QV.Spec.Tsig`: the digest input is the RFC's, what is
  serialised reads back, the MAC input is uniquely readable.
  The three modes are treated at once: the MAC input is `macPrefix mode pm ++ message part ++ varSuffix mode v`
  (`inputMode_def`), the message part depends on the message only behind its ID octets (`addModifiedMessage_def`,
  `covered`), and `verify_*` is one decision table (`verifyMode_table`) read off by `verdictOut_verdict_iff`.
-/
import QV.Model.Tsig
import QV.Spec.Tsig
import QV.Proofs.Wire

namespace QV.Tsig
open QV

/-! ### integers on the wire -/

theorem ofNat_inj256 (a b : Nat) (ha : a < 256) (hb : b < 256) (h : UInt8.ofNat a = UInt8.ofNat b) : a = b := by
  have := congrArg UInt8.toNat h
  simp at this
  omega

theorem u16be_inj (a b : Nat) (ha : a < 65536) (hb : b < 65536) (h : u16be a = u16be b) : a = b := by
  unfold u16be at h
  simp only [List.cons.injEq, and_true] at h
  have h1 := ofNat_inj256 _ _ (Nat.mod_lt _ (by decide)) (Nat.mod_lt _ (by decide)) h.1
  have h2 := ofNat_inj256 _ _ (Nat.mod_lt _ (by decide)) (Nat.mod_lt _ (by decide)) h.2
  omega

theorem toBe16_inj (x y : UInt16) (h : toBe16 x = toBe16 y) : x = y :=
  UInt16.toNat_inj.mp (u16be_inj _ _ x.toNat_lt y.toNat_lt h)

@[simp] theorem toBe16_length (x : UInt16) : (toBe16 x).length = 2 := by simp [toBe16, u16be]

theorem u16be_mod_eq_spec (n : Nat) : u16be (n % 65536) = Spec.Tsig.u16 n := u16be_mod n

theorem toBe16_eq_spec (x : UInt16) : toBe16 x = Spec.Tsig.u16 x.toNat := rfl

@[simp] theorem asSlice_length (t : TimeSigned) : t.asSlice.length = 6 := rfl

theorem asSlice_inj (s t : TimeSigned) (h : s.asSlice = t.asSlice) : s = t := by
  cases s; cases t; simp [TimeSigned.asSlice] at h; simp [h]

theorem toUnix_lt (t : TimeSigned) : t.toUnix < 2^48 := by
  unfold TimeSigned.toUnix
  have h0 := t.b0.toNat_lt; have h1 := t.b1.toNat_lt; have h2 := t.b2.toNat_lt
  have h3 := t.b3.toNat_lt; have h4 := t.b4.toNat_lt; have h5 := t.b5.toNat_lt
  omega

/-- dropping the last octet of a number written in base 256 -/
theorem shift_octet (q a k : Nat) (ha : a < 256) : (q * 256 + a) / 2 ^ (k + 8) = q / 2 ^ k := by
  rw [Nat.pow_add, Nat.mul_comm (2 ^ k), ← Nat.div_div_eq_div_mul, Nat.mul_comm q, Nat.mul_add_div (by decide),
    Nat.div_eq_of_lt ha, Nat.add_zero]

theorem asSlice_eq_spec (t : TimeSigned) : t.asSlice = Spec.Tsig.u48 t.toUnix := by
  obtain ⟨b0, b1, b2, b3, b4, b5⟩ := t
  have h1 := b1.toNat_lt; have h2 := b2.toNat_lt
  have h3 := b3.toNat_lt; have h4 := b4.toNat_lt; have h5 := b5.toNat_lt
  -- in Horner form the octets of `u48` peel off one by one
  have e : TimeSigned.toUnix ⟨b0, b1, b2, b3, b4, b5⟩ =
      ((((b0.toNat * 256 + b1.toNat) * 256 + b2.toNat) * 256 + b3.toNat) * 256 + b4.toNat) * 256 + b5.toNat := by
    simp only [TimeSigned.toUnix]; omega
  simp only [TimeSigned.asSlice, Spec.Tsig.u48, e, shift_octet _ _ _ h1, shift_octet _ _ _ h2, shift_octet _ _ _ h3,
    shift_octet _ _ _ h4, shift_octet _ _ _ h5, Nat.pow_zero, Nat.div_one, Nat.mul_add_mod_self_right]
  simp

/-- `rd16` reads the field the spec calls `field16` -/
theorem rd16_toNat (l : Octets) (i : Nat) : (rd16 l i).toNat = Spec.Tsig.field16 l i := by
  unfold rd16 Spec.Tsig.field16
  generalize l.getD i 0 = a
  generalize l.getD (i + 1) 0 = b
  have h1 := a.toNat_lt
  have h2 := b.toNat_lt
  simp; omega

theorem rd16_eq_zero_iff (l : Octets) (i : Nat) : rd16 l i = 0 ↔ Spec.Tsig.field16 l i = 0 := by
  rw [← rd16_toNat]
  constructor
  · intro h; rw [h]; rfl
  · intro h; exact UInt16.toNat_inj.mp (by simpa using h)

theorem rd16_sub_one (l : Octets) (i : Nat) (h : rd16 l i ≠ 0) :
    (rd16 l i - 1).toNat = Spec.Tsig.field16 l i - 1 := by
  have hne : Spec.Tsig.field16 l i ≠ 0 := fun e => h ((rd16_eq_zero_iff l i).mpr e)
  rw [← rd16_toNat] at hne ⊢
  have : (1 : UInt16) ≤ rd16 l i := by
    rw [UInt16.le_iff_toNat_le]; simp; omega
  rw [UInt16.toNat_sub_of_le _ _ this]; rfl

/-- a 16-bit field written at the end of `a` is read back -/
theorem rd16_append_toBe16 (a b : Octets) (x : UInt16) : rd16 (a ++ (toBe16 x ++ b)) a.length = x := by
  unfold rd16 toBe16 u16be
  apply UInt16.toNat_inj.mp
  have hx := x.toNat_lt
  simp [List.getD_eq_getElem?_getD]
  omega

theorem rd16_drop (l : Octets) (k i : Nat) : rd16 (l.drop k) i = rd16 l (k + i) := by
  simp [rd16, List.getD_eq_getElem?_getD, Nat.add_assoc]

/-- the 16-bit field at `i` is the two octets there -/
theorem toBe16_rd16 (l : Octets) (i : Nat) (h : i + 2 ≤ l.length) : toBe16 (rd16 l i) = (l.drop i).take 2 := by
  rw [← Nat.add_zero i, ← rd16_drop]
  have hl : 2 ≤ (l.drop i).length := by simp; omega
  generalize l.drop i = t at hl
  match t, hl with
  | a :: b :: _, _ =>
    have ha := a.toNat_lt; have hb := b.toNat_lt
    have e1 : (a.toNat * 256 + b.toNat) % 65536 / 256 % 256 = a.toNat := by omega
    have e2 : (a.toNat * 256 + b.toNat) % 65536 % 256 = b.toNat := by omega
    simp [rd16, toBe16, u16be, e1, e2]

theorem sub_one_inj (x y : UInt16) (h : x - 1 = y - 1) : x = y := by
  have := congrArg (· + 1) h
  simpa using this

theorem ofList_asSlice (t : TimeSigned) (rest : Octets) :
    TimeSigned.ofList ((t.asSlice ++ rest).take 6) = t := by
  cases t; simp [TimeSigned.ofList, TimeSigned.asSlice]

/-! ### names -/

/-- uncompressed wire form of a name: labels `len ‖ content` (`len ≠ 0`), then the root label.
    (The length limits of RFC 1035 play no role in the framing arguments.) -/
inductive WireName : Octets → Prop
  | root : WireName [0]
  | label (len : UInt8) (content rest : Octets) : len ≠ 0 → content.length = len.toNat →
      WireName rest → WireName (len :: (content ++ rest))

/-- wire names are self-delimiting: a name is never a proper prefix of another one -/
theorem WireName.prefix_free {a b x y : Octets} (ha : WireName a) (hb : WireName b)
    (h : a ++ x = b ++ y) : a = b ∧ x = y := by
  induction ha generalizing b with
  | root =>
    cases hb with
    | root => simpa using h
    | label len c r hl hc hr => simp at h; exact absurd h.1.symm hl
  | label len c r hl hc hr ih =>
    cases hb with
    | root => simp at h; exact absurd h.1 hl
    | label len' c' r' hl' hc' hr' =>
      simp only [List.cons_append, List.cons.injEq, List.append_assoc] at h
      obtain ⟨h1, h2⟩ := h
      subst h1
      obtain ⟨e1, e2⟩ := List.append_inj h2 (by omega)
      subst e1
      obtain ⟨e3, e4⟩ := ih hr' e2
      subst e3
      exact ⟨rfl, e4⟩

/-- wire form of the name with labels `ls` -/
def wireOf (ls : List Octets) : Octets := ls.flatMap (fun l => UInt8.ofNat l.length :: l) ++ [0]

theorem wireName_wireOf (ls : List Octets) (h : ∀ l ∈ ls, 1 ≤ l.length ∧ l.length ≤ 63) :
    WireName (wireOf ls) := by
  induction ls with
  | nil => exact WireName.root
  | cons l ls ih =>
    have hl := h l (by simp)
    have : wireOf (l :: ls) = UInt8.ofNat l.length :: (l ++ wireOf ls) := by simp [wireOf]
    rw [this]
    refine WireName.label _ _ _ ?_ ?_ (ih (fun l' hl' => h l' (by simp [hl'])))
    · intro e
      have := congrArg UInt8.toNat e
      simp at this; omega
    · simp; omega

theorem lowerU8_eq_spec (b : UInt8) : lowerU8 b = Spec.Tsig.lower b := by
  unfold lowerU8 Spec.Tsig.lower
  split
  · -- `b + 32` does not wrap for a capital letter
    apply UInt8.toNat_inj.mp
    rw [UInt8.toNat_add, show (32 : UInt8).toNat = 32 from rfl]
    simp
  · rfl

theorem lowerU8_small (n : Nat) (h : n ≤ 63) : lowerU8 (UInt8.ofNat n) = UInt8.ofNat n :=
  lowerU8_of_le63 _ (by simp; omega)

theorem map_lowerU8_eq_spec (l : Octets) : l.map lowerU8 = l.map Spec.Tsig.lower :=
  List.map_congr_left (fun b _ => lowerU8_eq_spec b)

/-- `Box<LowercaseName>::from(name)`: lower-casing the wire form of a name gives the canonical
    wire format of RFC 4034 §6.2 -/
theorem lowerName_wireOf (ls : List Octets) (h : ∀ l ∈ ls, l.length ≤ 63) :
    lowerName (wireOf ls) = Spec.Tsig.canonName ls := by
  induction ls with
  | nil => simp [wireOf, lowerName, Spec.Tsig.canonName, lowerU8]
  | cons l ls ih =>
    have hl := h l (by simp)
    have ih' := ih (fun l' hl' => h l' (by simp [hl']))
    simp only [wireOf, lowerName, Spec.Tsig.canonName, List.flatMap_cons, List.map_append, List.map_cons,
      List.append_assoc, List.cons_append] at ih' ⊢
    rw [lowerU8_small _ hl, ih', map_lowerU8_eq_spec]

/-- the canonical form of a name is again a wire name -/
theorem wireName_canonName (ls : List Octets) (h : ∀ l ∈ ls, 1 ≤ l.length ∧ l.length ≤ 63) :
    WireName (Spec.Tsig.canonName ls) := by
  have : Spec.Tsig.canonName ls = wireOf (ls.map (·.map Spec.Tsig.lower)) := by
    simp [Spec.Tsig.canonName, wireOf, List.flatMap_map]
  rw [this]
  apply wireName_wireOf
  intro l hl
  obtain ⟨l0, h0, rfl⟩ := List.mem_map.mp hl
  simpa using h l0 h0

/-! ### the digest input: model = spec -/

/-- the model's variables carry what the RFC's TSIG variables describe -/
structure Abstracts (v : Variables) (sv : Spec.Tsig.Vars) : Prop where
  keyName : v.keyName = Spec.Tsig.canonName sv.keyName
  algorithm : v.algorithm = Spec.Tsig.canonName sv.algName
  cls : sv.cls = 255
  ttl : sv.ttl = 0
  timeSigned : v.timeSigned.toUnix = sv.timeSigned
  fudge : v.fudge.toNat = sv.fudge
  error : v.error.toNat = sv.error
  other : v.other = sv.other

/-- the message satisfies the documented precondition of `sign_*` / `verify_*` -/
def MsgOk (m : Octets) : Prop := 12 ≤ m.length ∧ 1 ≤ Spec.Tsig.field16 m 10

instance (m : Octets) : Decidable (MsgOk m) := by unfold MsgOk; infer_instance

/-- what `add_modified_message` makes of the message after its two ID octets -/
def covered (t : Octets) : Octets := t.take 8 ++ toBe16 (rd16 t 8 - 1) ++ t.drop 10

/-- `add_modified_message` looks at the message only behind its ID octets -/
theorem addModifiedMessage_def {ε} (m : Octets) (id : UInt16) :
    addModifiedMessage (ε := ε) m id =
      if (m.drop 2).length < 10 ∨ rd16 (m.drop 2) 8 = 0 then .panic else .ok (toBe16 id ++ covered (m.drop 2)) := by
  unfold addModifiedMessage covered
  simp only [Gen.ARCOUNT_START, Gen.ARCOUNT_END, Gen.ID_END, rd16_drop, List.drop_drop, List.length_drop]
  by_cases h : m.length < 12
  · have : m.length - 2 < 10 := by omega
    by_cases h' : m.length < 10 <;> simp [h, h', this]
  · have : ¬ m.length - 2 < 10 := by omega
    have h' : ¬ m.length < 10 := by omega
    simp only [h, h', this, false_or, if_false, List.append_assoc]

theorem addModifiedMessage_eq {ε} (msg : Octets) (id : UInt16) :
    addModifiedMessage (ε := ε) msg id =
      if MsgOk msg then .ok (Spec.Tsig.digestMessage msg id.toNat) else .panic := by
  rw [addModifiedMessage_def]
  by_cases h : MsgOk msg
  · have hz : rd16 msg 10 ≠ 0 := fun e => by have := (rd16_eq_zero_iff msg 10).mp e; have := h.2; omega
    have hc : ¬ ((msg.drop 2).length < 10 ∨ rd16 (msg.drop 2) 8 = 0) := by
      rw [rd16_drop, List.length_drop]
      intro h'; rcases h' with h' | h'
      · have := h.1; omega
      · exact hz h'
    rw [if_pos h, if_neg hc]
    simp only [covered, Spec.Tsig.digestMessage, rd16_drop, List.drop_drop, toBe16_eq_spec, rd16_sub_one msg 10 hz,
      List.append_assoc]
  · have hc : (msg.drop 2).length < 10 ∨ rd16 (msg.drop 2) 8 = 0 := by
      rw [rd16_drop, List.length_drop, rd16_eq_zero_iff]
      unfold MsgOk at h; simp only [Nat.reduceAdd]; omega
    rw [if_neg h, if_pos hc]

/-- the ID octets of the message do not enter the MAC input -/
theorem addModifiedMessage_congr {ε} (m m' : Octets) (id : UInt16) (h : m'.drop 2 = m.drop 2) :
    addModifiedMessage (ε := ε) m' id = addModifiedMessage m id := by
  rw [addModifiedMessage_def, addModifiedMessage_def, h]

theorem addModifiedMessage_ok {ε} {m : Octets} {id : UInt16} {d : Octets}
    (h : addModifiedMessage (ε := ε) m id = .ok d) :
    10 ≤ (m.drop 2).length ∧ d = toBe16 id ++ covered (m.drop 2) := by
  rw [addModifiedMessage_def] at h
  split at h
  · cases h
  · cases h; exact ⟨by omega, rfl⟩

theorem classTtl_eq : Gen.TSIG_CLASS_TTL = Spec.Tsig.u16 255 ++ Spec.Tsig.u32 0 := by decide

theorem addTsigTimers_eq (v : Variables) (sv : Spec.Tsig.Vars) (h : Abstracts v sv) :
    addTsigTimers v = Spec.Tsig.tsigTimers sv := by
  unfold addTsigTimers Spec.Tsig.tsigTimers
  rw [asSlice_eq_spec, toBe16_eq_spec, h.timeSigned, h.fudge]

theorem addTsigVariables_eq (v : Variables) (sv : Spec.Tsig.Vars) (h : Abstracts v sv) :
    addTsigVariables v = Spec.Tsig.tsigVariables sv := by
  unfold addTsigVariables Spec.Tsig.tsigVariables addTsigTimers
  rw [asSlice_eq_spec, toBe16_eq_spec, toBe16_eq_spec, u16be_mod_eq_spec, classTtl_eq,
    h.timeSigned, h.fudge, h.error, h.other, h.keyName, h.algorithm, h.cls, h.ttl]
  simp only [List.append_assoc]

theorem addPriorMac_eq (mac : Octets) : addPriorMac mac = Spec.Tsig.macWithSize mac := by
  unfold addPriorMac Spec.Tsig.macWithSize; rw [u16be_mod_eq_spec]

/-! ### verification -/

theorem outputSize_cases (alg : Algorithm) : alg.outputSize = 20 ∨ alg.outputSize = 32 := by
  cases alg <;> simp [Hmac.Alg.outputSize]

theorem checkMacSize_eq (alg : Algorithm) (n : Nat) :
    checkMacSize alg n = if Spec.Tsig.MacSizeAllowed alg.outputSize n then .ok () else .err .FormErr := by
  unfold checkMacSize Spec.Tsig.MacSizeAllowed
  simp only [Gen.TSIG_MIN_MAC_SIZE]
  by_cases h : n ≤ alg.outputSize ∧ 10 ≤ n ∧ alg.outputSize ≤ 2 * n
  · have : ¬ (n > alg.outputSize ∨ n < max 10 ((alg.outputSize + 1) / 2)) := by omega
    simp [h, this]
  · have : n > alg.outputSize ∨ n < max 10 ((alg.outputSize + 1) / 2) := by omega
    simp [h, this]

theorem checkTime_eq (ts : TimeSigned) (fudge : UInt16) (now : TimeSigned) :
    checkTime ts fudge now =
      if Spec.Tsig.TimeOk now.toUnix ts.toUnix fudge.toNat then .ok () else .err .BadTime := by
  unfold checkTime Spec.Tsig.TimeOk
  have h1 := toUnix_lt ts
  have h2 := fudge.toNat_lt
  by_cases h : now.toUnix ≤ ts.toUnix + fudge.toNat ∧ ts.toUnix ≤ now.toUnix + fudge.toNat
  · have : now.toUnix ≥ ts.toUnix - fudge.toNat ∧ now.toUnix ≤ min (ts.toUnix + fudge.toNat) (2^64 - 1) := by omega
    simp only [h, this]
  · have : ¬ (now.toUnix ≥ ts.toUnix - fudge.toNat ∧ now.toUnix ≤ min (ts.toUnix + fudge.toNat) (2^64 - 1)) := by omega
    simp only [h, this]

/-- the verdict of RFC 8945 §5.2 as an outcome of the code -/
def verdictOut : Spec.Tsig.Verdict → Out VerificationError Unit
  | .ok => .ok ()
  | .formErr => .err .FormErr
  | .badSig => .err .BadSig
  | .badTime => .err .BadTime

theorem verifyTruncatedLeft_eq (alg : Algorithm) (tag mac : Octets)
    (h : Spec.Tsig.MacSizeAllowed alg.outputSize mac.length) :
    verifyTruncatedLeft alg tag mac = decide (tag.take mac.length = mac) := by
  unfold Spec.Tsig.MacSizeAllowed at h
  have e0 : mac ≠ [] := by intro e; rw [e] at h; simp at h
  have e2 : ¬ alg.outputSize < mac.length := by omega
  simp [verifyTruncatedLeft, e0, e2]
  by_cases hh : List.take (List.length mac) tag = mac <;> simp [hh]

theorem verdictOut_ne_panic (v : Spec.Tsig.Verdict) : verdictOut v ≠ .panic := by cases v <;> nofun

/-- the verdict of §5.2 read off its three tests -/
theorem verdictOut_verdict_iff (out : Nat) (tag mac : Octets) (now signed fudge : Nat) :
    (verdictOut (Spec.Tsig.verdict out tag mac now signed fudge) = .ok () ↔
      Spec.Tsig.MacSizeAllowed out mac.length ∧ tag.take mac.length = mac ∧ Spec.Tsig.TimeOk now signed fudge) ∧
    (verdictOut (Spec.Tsig.verdict out tag mac now signed fudge) = .err .FormErr ↔
      ¬ Spec.Tsig.MacSizeAllowed out mac.length) ∧
    (verdictOut (Spec.Tsig.verdict out tag mac now signed fudge) = .err .BadSig ↔
      Spec.Tsig.MacSizeAllowed out mac.length ∧ tag.take mac.length ≠ mac) ∧
    (verdictOut (Spec.Tsig.verdict out tag mac now signed fudge) = .err .BadTime ↔
      Spec.Tsig.MacSizeAllowed out mac.length ∧ tag.take mac.length = mac ∧
        ¬ Spec.Tsig.TimeOk now signed fudge) := by
  unfold Spec.Tsig.verdict
  by_cases hs : Spec.Tsig.MacSizeAllowed out mac.length <;> by_cases hmac : tag.take mac.length = mac <;>
    by_cases ht : Spec.Tsig.TimeOk now signed fudge <;> simp [hs, hmac, ht, verdictOut]

/-- `verification_core` as a decision: the assert, the size check of §5.2.2.1, then — once the closure has
    produced the MAC input — the verdict of §5.2 -/
theorem verificationCore_eq (hm : Algorithm → Octets → Octets → Octets) (r : ReadTsigRr)
    (input : Out VerificationError Octets) (alg : Algorithm) (key : Octets) (now : TimeSigned)
    (hv : r.mac.length = r.macSize) :
    verificationCore hm r input alg key now =
      if r.algorithm ≠ alg.name then .panic
      else if ¬ Spec.Tsig.MacSizeAllowed alg.outputSize r.macSize then .err .FormErr
      else input >>= fun d => verdictOut (Spec.Tsig.verdict alg.outputSize (hm alg key d) r.mac now.toUnix
        r.timeSigned.toUnix r.fudge.toNat) := by
  unfold verificationCore
  split
  · rfl
  · rw [checkMacSize_eq]
    by_cases hs : Spec.Tsig.MacSizeAllowed alg.outputSize r.macSize
    · rw [if_pos hs, if_neg (not_not_intro hs)]
      refine congrArg (input >>= ·) (funext fun d => ?_)
      rw [verifyTruncatedLeft_eq alg (hm alg key d) r.mac (hv ▸ hs), checkTime_eq]
      unfold Spec.Tsig.verdict
      rw [hv]
      by_cases hm' : List.take r.macSize (hm alg key d) = r.mac
      · by_cases ht : Spec.Tsig.TimeOk now.toUnix r.timeSigned.toUnix r.fudge.toNat <;>
          simp [hs, hm', ht, verdictOut]
      · simp [hs, hm', verdictOut]
    · rw [if_neg hs, if_pos hs]; rfl

/-! ### reading back what was serialised -/

theorem drop_prefix (a b : Octets) (n : Nat) (h : a.length = n) : (a ++ b).drop n = b := by
  subst h; simp

theorem rd16_at (a b : Octets) (x : UInt16) (n : Nat) (h : a.length = n) :
    rd16 (a ++ (toBe16 x ++ b)) n = x := by subst h; exact rd16_append_toBe16 a b x

/-- the record a reader holds after `ReadTsigRr::try_from` on RDATA serialised from these fields -/
def readOf (keyName algorithm : Octets) (ts : TimeSigned) (fudge : UInt16) (mac : Octets)
    (originalId error : UInt16) (other : Octets) : ReadTsigRr :=
  ⟨keyName, algorithm, mac.length, serializeTsig algorithm ts fudge mac originalId error other⟩

/-- the fields of the RDATA `serialize_tsig` writes (RFC 8945 §4.2), in order -/
def tsigFields (alg : Octets) (ts : TimeSigned) (f : UInt16) (mac : Octets) (id err : UInt16) (other : Octets) :
    List Octets :=
  [alg, ts.asSlice, toBe16 f, u16be (mac.length % 65536), mac, toBe16 id, toBe16 err,
   u16be (other.length % 65536), other]

/-- the RDATA cut in front of its `k`-th field -/
theorem serializeTsig_split (alg : Octets) (ts : TimeSigned) (f : UInt16) (mac : Octets) (id err : UInt16)
    (other : Octets) (k : Nat) :
    serializeTsig alg ts f mac id err other =
      ((tsigFields alg ts f mac id err other).take k).flatten ++
        ((tsigFields alg ts f mac id err other).drop k).flatten := by
  rw [← List.flatten_append, List.take_append_drop]
  simp [serializeTsig, tsigFields]

section accessors
variable (kn alg : Octets) (ts : TimeSigned) (f : UInt16) (mac : Octets) (id err : UInt16) (other : Octets)

theorem readOf_macSize : (readOf kn alg ts f mac id err other).macSize = mac.length := rfl

theorem readOf_timeSigned : (readOf kn alg ts f mac id err other).timeSigned = ts := by
  unfold ReadTsigRr.timeSigned ReadTsigRr.algoLen readOf
  rw [serializeTsig_split _ _ _ _ _ _ _ 1, drop_prefix _ _ _ (by simp [tsigFields])]
  exact ofList_asSlice ts _

theorem readOf_fudge : (readOf kn alg ts f mac id err other).fudge = f := by
  unfold ReadTsigRr.fudge ReadTsigRr.algoLen readOf
  rw [serializeTsig_split _ _ _ _ _ _ _ 2]
  exact rd16_at _ _ _ _ (by simp [tsigFields])

theorem readOf_mac : (readOf kn alg ts f mac id err other).mac = mac := by
  unfold ReadTsigRr.mac ReadTsigRr.algoLen readOf
  rw [serializeTsig_split _ _ _ _ _ _ _ 4, drop_prefix _ _ _ (by simp [tsigFields, u16be_length])]
  simp [tsigFields]

theorem readOf_originalId : (readOf kn alg ts f mac id err other).originalId = id := by
  unfold ReadTsigRr.originalId ReadTsigRr.algoLen readOf
  rw [serializeTsig_split _ _ _ _ _ _ _ 5]
  exact rd16_at _ _ _ _ (by simp [tsigFields, u16be_length]; omega)

theorem readOf_error : (readOf kn alg ts f mac id err other).error = err := by
  unfold ReadTsigRr.error ReadTsigRr.algoLen readOf
  rw [serializeTsig_split _ _ _ _ _ _ _ 6]
  exact rd16_at _ _ _ _ (by simp [tsigFields, u16be_length]; omega)

theorem readOf_other : (readOf kn alg ts f mac id err other).other = other := by
  unfold ReadTsigRr.other ReadTsigRr.algoLen readOf
  rw [serializeTsig_split _ _ _ _ _ _ _ 8]
  exact (drop_prefix _ _ _ (by simp [tsigFields, u16be_length]; omega)).trans (by simp [tsigFields])

theorem readOf_vars : (readOf kn alg ts f mac id err other).vars = ⟨kn, alg, ts, f, err, other⟩ := by
  unfold ReadTsigRr.vars
  rw [readOf_timeSigned, readOf_fudge, readOf_error, readOf_other]
  rfl

end accessors

/-! ### the MAC input is uniquely readable -/

/-- the message part of the MAC input, followed by anything, determines the original ID and the first ten
    octets after the ID; what remains is the rest of the message followed by what was appended -/
theorem covered_split (t t' : Octets) (id id' : UInt16) (x x' : Octets) (ht : 10 ≤ t.length) (ht' : 10 ≤ t'.length)
    (he : toBe16 id ++ covered t ++ x = toBe16 id' ++ covered t' ++ x') :
    id = id' ∧ t.take 10 = t'.take 10 ∧ t.drop 10 ++ x = t'.drop 10 ++ x' := by
  simp only [covered, List.append_assoc] at he
  obtain ⟨e1, he⟩ := List.append_inj he (by simp)
  obtain ⟨e2, he⟩ := List.append_inj he (by simp; omega)
  obtain ⟨e3, he⟩ := List.append_inj he (by simp)
  have e4 := sub_one_inj _ _ (toBe16_inj _ _ e3)
  refine ⟨toBe16_inj _ _ e1, ?_, he⟩
  -- the ARCOUNT octets are determined by the decremented count
  rw [List.take_add (i := 8) (j := 2), List.take_add (i := 8) (j := 2), ← toBe16_rd16 t 8 ht,
    ← toBe16_rd16 t' 8 ht', e2, e4]

/-- neither message body is a proper prefix of the other (true of well-framed DNS messages that
    agree on their section counts: the counts determine where the message ends) -/
def BodiesPrefixFree (m m' : Octets) : Prop :=
  ∀ z, (m.drop 12 ++ z = m'.drop 12 ∨ m'.drop 12 ++ z = m.drop 12) → z = []

/-- framing hypothesis under which the end of the message inside the MAC input is determined -/
def Framed (m m' : Octets) : Prop := m.length = m'.length ∨ BodiesPrefixFree m m'

/-- … hence, for framed messages, every octet of the message except its two ID octets, and whatever
    follows the message in the input. -/
theorem addModifiedMessage_inj {ε} (m m' : Octets) (id id' : UInt16) (d d' x x' : Octets)
    (h : addModifiedMessage (ε := ε) m id = .ok d) (h' : addModifiedMessage (ε := ε) m' id' = .ok d')
    (hf : Framed m m') (he : d ++ x = d' ++ x') :
    id = id' ∧ m.drop 2 = m'.drop 2 ∧ x = x' := by
  obtain ⟨ht, rfl⟩ := addModifiedMessage_ok h
  obtain ⟨ht', rfl⟩ := addModifiedMessage_ok h'
  obtain ⟨hid, hh, hb⟩ := covered_split _ _ id id' x x' ht ht' he
  have key : (m.drop 2).drop 10 = (m'.drop 2).drop 10 ∧ x = x' := by
    rcases hf with hl | hp
    · exact List.append_inj hb (by simp [hl])
    · simp only [List.drop_drop] at hb ⊢
      rcases List.append_eq_append_iff.mp hb with ⟨a, e1, e2⟩ | ⟨c, e1, e2⟩
      · have := hp a (Or.inl e1.symm); subst this
        simp at e1 e2; exact ⟨e1.symm, e2⟩
      · have := hp c (Or.inr e1.symm); subst this
        simp at e1 e2; exact ⟨e1, e2.symm⟩
  rw [← List.take_append_drop 10 (m.drop 2), ← List.take_append_drop 10 (m'.drop 2), hh, key.1]
  exact ⟨hid, rfl, key.2⟩

/-- the TSIG variables are uniquely readable: names are self-delimiting, the fields between them and
    the last field have fixed widths -/
theorem addTsigVariables_inj (v v' : Variables) (hk : WireName v.keyName) (hk' : WireName v'.keyName)
    (ha : WireName v.algorithm) (ha' : WireName v'.algorithm)
    (h : addTsigVariables v = addTsigVariables v') : v = v' := by
  unfold addTsigVariables addTsigTimers at h
  simp only [List.append_assoc] at h
  obtain ⟨e1, h⟩ := WireName.prefix_free hk hk' h
  obtain ⟨_, h⟩ := List.append_inj h rfl
  obtain ⟨e2, h⟩ := WireName.prefix_free ha ha' h
  obtain ⟨e3, h⟩ := List.append_inj h (by simp)
  obtain ⟨e4, h⟩ := List.append_inj h (by simp)
  obtain ⟨e5, h⟩ := List.append_inj h (by simp)
  obtain ⟨_, e6⟩ := List.append_inj h (by simp [u16be_length])
  cases v; cases v'
  simp only [Variables.mk.injEq]
  exact ⟨e1, e2, asSlice_inj _ _ e3, toBe16_inj _ _ e4, toBe16_inj _ _ e5, e6⟩

theorem addTsigTimers_inj (v v' : Variables) (x x' : Octets)
    (h : addTsigTimers v ++ x = addTsigTimers v' ++ x') :
    v.timeSigned = v'.timeSigned ∧ v.fudge = v'.fudge ∧ x = x' := by
  unfold addTsigTimers at h
  simp only [List.append_assoc] at h
  obtain ⟨e3, h⟩ := List.append_inj h (by simp)
  obtain ⟨e4, h⟩ := List.append_inj h (by simp)
  exact ⟨asSlice_inj _ _ e3, toBe16_inj _ _ e4, h⟩

/-- a MAC with its 16-bit size in front is uniquely readable as long as the size fits the field -/
theorem addPriorMac_inj (p p' x x' : Octets) (hp : p.length ≤ 65535) (hp' : p'.length ≤ 65535)
    (h : addPriorMac p ++ x = addPriorMac p' ++ x') : p = p' ∧ x = x' := by
  unfold addPriorMac at h
  simp only [List.append_assoc] at h
  obtain ⟨e1, h⟩ := List.append_inj h (by simp [u16be_length])
  have := u16be_inj _ _ (Nat.mod_lt _ (by decide)) (Nat.mod_lt _ (by decide)) e1
  exact List.append_inj h (by omega)

/-! ### `ReadTsigRr::try_from` on serialised RDATA -/

theorem parse_algName (alg : Algorithm) (rest : Octets) :
    Wire.parseUncompressed (alg.name ++ rest).toArray false = .ok ⟨alg.name, 2, alg.name.length⟩ := by
  unfold Wire.parseUncompressed
  -- both names have one label and the root: two turns of the loop
  have h : Wire.uncompAux (alg.name ++ rest).toArray true 0 0 = .ok (alg.name.length, 2) := by
    cases alg <;>
    · rw [Wire.uncompAux]
      simp [Algorithm.name, hmacSha1Name, hmacSha256Name, Gen.MAX_LABEL_LEN, Gen.MAX_N_LABELS, Gen.MAX_WIRE_LEN]
      rw [Wire.uncompAux]
      simp [Gen.MAX_LABEL_LEN, Gen.MAX_N_LABELS, Gen.MAX_WIRE_LEN]
  rw [h]
  cases alg <;> simp [Algorithm.name, hmacSha1Name, hmacSha256Name]

theorem lowerName_algName (alg : Algorithm) : lowerName alg.name = alg.name := by
  cases alg <;> decide

theorem u16be_eq_toBe16 (n : Nat) (h : n < 65536) : u16be (n % 65536) = toBe16 (UInt16.ofNat n) := by
  unfold toBe16
  have : (UInt16.ofNat n).toNat = n := by simp; omega
  rw [this, Nat.mod_eq_of_lt h]

/-- `ReadTsigRr::try_from` on a TSIG RR (type TSIG, class ANY, TTL 0) whose RDATA was serialised by
    `serialize_tsig` with one of the supported algorithm names: the reader holds exactly the
    serialised fields, the owner in lower case -/
theorem tryFrom_serialized (owner : Octets) (alg : Algorithm) (ts : TimeSigned) (f : UInt16) (mac : Octets)
    (id err : UInt16) (other : Octets) (hmac : mac.length < 65536) :
    ReadTsigRr.tryFrom owner Gen.TYPE_TSIG Gen.QCLASS_ANY 0 (serializeTsig alg.name ts f mac id err other)
      = .ok (readOf (lowerName owner) alg.name ts f mac id err other) := by
  unfold ReadTsigRr.tryFrom
  simp only [ne_eq, not_true_eq_false, if_false, or_self]
  have hp : Wire.parseUncompressed (serializeTsig alg.name ts f mac id err other).toArray false =
      .ok ⟨alg.name, 2, alg.name.length⟩ := by
    simp only [serializeTsig, List.append_assoc]; exact parse_algName alg _
  have hlen : ¬ (serializeTsig alg.name ts f mac id err other).length < alg.name.length + 10 := by
    simp [serializeTsig, u16be_length]; omega
  have hm : rd16 (serializeTsig alg.name ts f mac id err other) (alg.name.length + 8) = UInt16.ofNat mac.length := by
    rw [serializeTsig_split _ _ _ _ _ _ _ 3]
    simp only [tsigFields, u16be_eq_toBe16 _ hmac]
    exact rd16_at _ _ _ _ (by simp)
  have : (UInt16.ofNat mac.length).toNat = mac.length := by simp; omega
  rw [hp]
  simp only
  rw [if_neg hlen, lowerName_algName, hm, this]
  rfl

/-! ### the three modes at once -/

abbrev Mode := Spec.Tsig.Mode

/-- the MAC input of `sign_*` / `verify_*` in each of the three modes (RFC 8945 §4.3) -/
def inputMode {ε} : Mode → Octets → Octets → UInt16 → Variables → Out ε Octets
  | .request, m, _, id, v => requestInput m id v
  | .response, m, pm, id, v => responseInput m pm id v
  | .subsequent, m, pm, id, v => subsequentInput m pm id v

def signMode {ε} (hm : Algorithm → Octets → Octets → Octets) : Mode → PreparedTsigRr → Octets → Octets →
    Algorithm → Octets → Out ε (Octets × Octets)
  | .request, p, m, _, alg, key => signRequest hm p m alg key
  | .response, p, m, pm, alg, key => signResponse hm p m pm alg key
  | .subsequent, p, m, pm, alg, key => signSubsequent hm p m pm alg key

def verifyMode (hm : Algorithm → Octets → Octets → Octets) : Mode → ReadTsigRr → Octets → Octets →
    Algorithm → Octets → TimeSigned → Out VerificationError Unit
  | .request, r, m, _, alg, key, now => verifyRequest hm r m alg key now
  | .response, r, m, pm, alg, key, now => verifyResponse hm r m pm alg key now
  | .subsequent, r, m, pm, alg, key, now => verifySubsequent hm r m pm alg key now

/-- what precedes the message in the MAC input: the prior MAC with its size, except for a request -/
def macPrefix : Mode → Octets → Octets
  | .request, _ => []
  | _, pm => addPriorMac pm

/-- what follows the message: all TSIG variables, or the timers only for a subsequent message -/
def varSuffix : Mode → Variables → Octets
  | .subsequent, v => addTsigTimers v
  | _, v => addTsigVariables v

/-- in every mode the MAC input is the message part between a prefix and a suffix -/
theorem inputMode_def {ε} (mode : Mode) (m pm : Octets) (id : UInt16) (v : Variables) :
    inputMode (ε := ε) mode m pm id v =
      addModifiedMessage m id >>= fun d => .ok (macPrefix mode pm ++ d ++ varSuffix mode v) := by
  cases mode <;> rfl

theorem inputMode_ok {ε} {mode : Mode} {m pm : Octets} {id : UInt16} {v : Variables} {D : Octets}
    (h : inputMode (ε := ε) mode m pm id v = .ok D) :
    ∃ d, addModifiedMessage (ε := ε) m id = .ok d ∧ D = macPrefix mode pm ++ d ++ varSuffix mode v := by
  rw [inputMode_def] at h
  obtain ⟨d, hd, e⟩ := Out.bind_eq_ok h
  exact ⟨d, hd, (Out.ok.inj e).symm⟩

theorem inputMode_eq {ε} (mode : Mode) (m pm : Octets) (id : UInt16) (v : Variables) (sv : Spec.Tsig.Vars)
    (h : Abstracts v sv) :
    inputMode (ε := ε) mode m pm id v =
      if MsgOk m then .ok (Spec.Tsig.digestInput mode m id.toNat sv pm) else .panic := by
  rw [inputMode_def, addModifiedMessage_eq]
  split
  · cases mode <;>
      simp [macPrefix, varSuffix, Spec.Tsig.digestInput, addTsigVariables_eq v sv h, addTsigTimers_eq v sv h,
        addPriorMac_eq]
  · rfl

theorem requestInput_eq {ε} (msg : Octets) (id : UInt16) (v : Variables) (sv : Spec.Tsig.Vars)
    (h : Abstracts v sv) :
    requestInput (ε := ε) msg id v =
      if MsgOk msg then .ok (Spec.Tsig.digestInput .request msg id.toNat sv []) else .panic :=
  inputMode_eq .request msg [] id v sv h

theorem responseInput_eq {ε} (msg pm : Octets) (id : UInt16) (v : Variables) (sv : Spec.Tsig.Vars)
    (h : Abstracts v sv) :
    responseInput (ε := ε) msg pm id v =
      if MsgOk msg then .ok (Spec.Tsig.digestInput .response msg id.toNat sv pm) else .panic :=
  inputMode_eq .response msg pm id v sv h

theorem subsequentInput_eq {ε} (msg pm : Octets) (id : UInt16) (v : Variables) (sv : Spec.Tsig.Vars)
    (h : Abstracts v sv) :
    subsequentInput (ε := ε) msg pm id v =
      if MsgOk msg then .ok (Spec.Tsig.digestInput .subsequent msg id.toNat sv pm) else .panic :=
  inputMode_eq .subsequent msg pm id v sv h

theorem inputMode_congr {ε} (mode : Mode) (m m' pm : Octets) (id : UInt16) (v : Variables)
    (h : m'.drop 2 = m.drop 2) : inputMode (ε := ε) mode m' pm id v = inputMode mode m pm id v := by
  rw [inputMode_def, inputMode_def, addModifiedMessage_congr m m' id h]

/-- the signer asserts on the prior MAC in response and subsequent mode -/
def signAsserts : Mode → Octets → Prop
  | .request, _ => True
  | _, pm => pm.length ≤ 65535

instance (mode : Mode) (pm : Octets) : Decidable (signAsserts mode pm) := by
  cases mode <;> unfold signAsserts <;> infer_instance

/-- the verifier asserts on the prior MAC in response mode only -/
def verifyAsserts : Mode → Octets → Prop
  | .response, pm => pm.length ≤ 65535
  | _, _ => True

instance (mode : Mode) (pm : Octets) : Decidable (verifyAsserts mode pm) := by
  cases mode <;> unfold verifyAsserts <;> infer_instance

theorem signMode_def {ε} (hm : Algorithm → Octets → Octets → Octets) (mode : Mode) (p : PreparedTsigRr)
    (m pm : Octets) (alg : Algorithm) (key : Octets) :
    signMode (ε := ε) hm mode p m pm alg key =
      if ¬ signAsserts mode pm then .panic
      else Out.bind (inputMode mode m pm p.originalId (p.vars alg.name)) (fun data =>
        Out.bind (p.serializeRdata alg.name (hm alg key data)) (fun rdata => .ok (rdata, hm alg key data))) := by
  cases mode
  · simp only [signMode, signAsserts, not_true_eq_false, if_false]; rfl
  · simp only [signMode, signAsserts, signResponse, Nat.not_le]
    split <;> rfl
  · simp only [signMode, signAsserts, signSubsequent, Nat.not_le]
    split <;> rfl

/-- the whole of `verify_*` as a decision, whatever the variables are: the asserts, the size check of
    §5.2.2.1, then the verdict of §5.2 on the MAC input of the mode -/
theorem verifyMode_table (hm : Algorithm → Octets → Octets → Octets) (mode : Mode) (r : ReadTsigRr)
    (m pm : Octets) (alg : Algorithm) (key : Octets) (now : TimeSigned) (hv : r.mac.length = r.macSize) :
    verifyMode hm mode r m pm alg key now =
      if ¬ verifyAsserts mode pm ∨ r.algorithm ≠ alg.name then .panic
      else if ¬ Spec.Tsig.MacSizeAllowed alg.outputSize r.macSize then .err .FormErr
      else inputMode mode m pm r.originalId r.vars >>= fun d =>
        verdictOut (Spec.Tsig.verdict alg.outputSize (hm alg key d) r.mac now.toUnix r.timeSigned.toUnix
          r.fudge.toNat) := by
  have e : verifyMode hm mode r m pm alg key now =
      if ¬ verifyAsserts mode pm then .panic
      else verificationCore hm r (inputMode mode m pm r.originalId r.vars) alg key now := by
    cases mode
    · simp only [verifyMode, verifyAsserts, not_true_eq_false, if_false]; rfl
    · simp only [verifyMode, verifyAsserts, verifyResponse, Nat.not_le]
      split <;> rfl
    · simp only [verifyMode, verifyAsserts, not_true_eq_false, if_false]; rfl
  rw [e, verificationCore_eq hm r _ alg key now hv]
  by_cases ha : verifyAsserts mode pm <;> by_cases halg : r.algorithm = alg.name <;> simp [ha, halg]

theorem other_length_le (p : PreparedTsigRr) : p.other.length ≤ 6 := by
  unfold PreparedTsigRr.other; split <;> simp

theorem algName_length_le (alg : Algorithm) : alg.name.length ≤ 13 := by cases alg <;> decide

theorem serializeRdata_eq {ε} (p : PreparedTsigRr) (alg mac : Octets) :
    p.serializeRdata (ε := ε) alg mac =
      if alg.length + 16 + mac.length + p.other.length ≤ 65535
      then .ok (serializeTsig alg p.timeSigned p.fudge mac p.originalId p.error p.other) else .panic := by
  unfold PreparedTsigRr.serializeRdata newTsig
  by_cases h : alg.length + 16 + mac.length + p.other.length ≤ 65535 <;> simp only [h, if_true, if_false]

/-- the RDATA `serialize_tsig` writes is that of RFC 8945 §4.2 -/
theorem serializeTsig_eq_spec (p : PreparedTsigRr) (alg mac : Octets) (sv : Spec.Tsig.Vars)
    (h : Abstracts (p.vars alg) sv) :
    serializeTsig alg p.timeSigned p.fudge mac p.originalId p.error p.other =
      Spec.Tsig.rdata sv mac p.originalId.toNat := by
  have h1 := h.algorithm; have h2 := h.timeSigned; have h3 := h.fudge; have h4 := h.error; have h5 := h.other
  simp only [PreparedTsigRr.vars] at h1 h2 h3 h4 h5
  unfold serializeTsig Spec.Tsig.rdata
  rw [asSlice_eq_spec, toBe16_eq_spec, toBe16_eq_spec, toBe16_eq_spec, u16be_mod_eq_spec, u16be_mod_eq_spec,
    h1, h2, h3, h4, h5]

/-- what `sign_*` returns, in the terms of the RFC -/
theorem signMode_eq {ε} (hm : Algorithm → Octets → Octets → Octets) (mode : Mode) (p : PreparedTsigRr)
    (m pm : Octets) (alg : Algorithm) (key : Octets) (sv : Spec.Tsig.Vars)
    (h : Abstracts (p.vars alg.name) sv)
    (hlen : (hm alg key (Spec.Tsig.digestInput mode m p.originalId.toNat sv pm)).length ≤ 65000) :
    signMode (ε := ε) hm mode p m pm alg key =
      if signAsserts mode pm ∧ MsgOk m then
        .ok (Spec.Tsig.rdata sv (hm alg key (Spec.Tsig.digestInput mode m p.originalId.toNat sv pm)) p.originalId.toNat,
             hm alg key (Spec.Tsig.digestInput mode m p.originalId.toNat sv pm))
      else .panic := by
  rw [signMode_def, inputMode_eq mode m pm p.originalId _ sv h]
  by_cases ha : signAsserts mode pm
  · by_cases hmsg : MsgOk m
    · have ho := other_length_le p
      have hn := algName_length_le alg
      simp only [ha, hmsg, not_true_eq_false, if_false, if_true, and_self, Out.bind, serializeRdata_eq]
      rw [if_pos (by omega), serializeTsig_eq_spec p _ _ sv h]
    · simp [ha, hmsg, Out.bind]
  · simp [ha]

/-- the whole of `verify_*` as a decision: asserts, then RFC 8945 §5.2 (size, MAC, time), with the
    panic of `add_modified_message` between the size check and the MAC check -/
theorem verifyMode_eq (hm : Algorithm → Octets → Octets → Octets) (mode : Mode) (r : ReadTsigRr)
    (m pm : Octets) (alg : Algorithm) (key : Octets) (now : TimeSigned) (sv : Spec.Tsig.Vars)
    (hv : r.mac.length = r.macSize) (h : Abstracts r.vars sv) :
    verifyMode hm mode r m pm alg key now =
      if ¬ verifyAsserts mode pm ∨ r.algorithm ≠ alg.name then .panic
      else if ¬ Spec.Tsig.MacSizeAllowed alg.outputSize r.macSize then .err .FormErr
      else if ¬ MsgOk m then .panic
      else verdictOut (Spec.Tsig.verdict alg.outputSize
        (hm alg key (Spec.Tsig.digestInput mode m r.originalId.toNat sv pm)) r.mac now.toUnix
        sv.timeSigned sv.fudge) := by
  have ht : r.timeSigned.toUnix = sv.timeSigned := h.timeSigned
  have hf : r.fudge.toNat = sv.fudge := h.fudge
  rw [verifyMode_table hm mode r m pm alg key now hv, inputMode_eq mode m pm r.originalId _ sv h, ht, hf]
  by_cases hmsg : MsgOk m
  · rw [if_pos hmsg, if_neg (not_not_intro hmsg)]; rfl
  · rw [if_neg hmsg, if_pos hmsg]; rfl

theorem mac_length_of_valid (r : ReadTsigRr) (h : r.algoLen + r.macSize + 16 ≤ r.rdata.length) :
    r.mac.length = r.macSize := by
  unfold ReadTsigRr.mac; simp; omega

theorem macSizeAllowed_full (alg : Algorithm) : Spec.Tsig.MacSizeAllowed alg.outputSize alg.outputSize := by
  unfold Spec.Tsig.MacSizeAllowed
  rcases outputSize_cases alg with h | h <;> omega

/-- what a successful `sign_*` did -/
theorem signMode_ok {ε} (hm : Algorithm → Octets → Octets → Octets) (mode : Mode) (p : PreparedTsigRr)
    (m pm : Octets) (alg : Algorithm) (key : Octets) (rdata mac : Octets)
    (h : signMode (ε := ε) hm mode p m pm alg key = .ok (rdata, mac)) :
    signAsserts mode pm ∧ ∃ d, inputMode (ε := ε) mode m pm p.originalId (p.vars alg.name) = .ok d ∧
      mac = hm alg key d ∧
      rdata = serializeTsig alg.name p.timeSigned p.fudge mac p.originalId p.error p.other := by
  rw [signMode_def] at h
  split at h
  · cases h
  · rename_i ha
    obtain ⟨d, hd, h⟩ := Out.bind_eq_ok h
    obtain ⟨rd, hrd, h⟩ := Out.bind_eq_ok h
    cases h
    rw [serializeRdata_eq] at hrd
    split at hrd
    · cases hrd; exact ⟨Classical.not_not.mp ha, d, hd, rfl, rfl⟩
    · cases hrd

/-- what a successful `verify_*` established -/
theorem verifyMode_ok (hm : Algorithm → Octets → Octets → Octets) (mode : Mode) (r : ReadTsigRr)
    (m pm : Octets) (alg : Algorithm) (key : Octets) (now : TimeSigned) (hv : r.mac.length = r.macSize)
    (h : verifyMode hm mode r m pm alg key now = .ok ()) :
    verifyAsserts mode pm ∧ r.algorithm = alg.name ∧ Spec.Tsig.MacSizeAllowed alg.outputSize r.macSize ∧
      ∃ d, inputMode (ε := VerificationError) mode m pm r.originalId r.vars = .ok d ∧
        (hm alg key d).take r.macSize = r.mac ∧
        Spec.Tsig.TimeOk now.toUnix r.timeSigned.toUnix r.fudge.toNat := by
  rw [verifyMode_table hm mode r m pm alg key now hv] at h
  split at h
  · cases h
  · rename_i h0
    split at h
    · cases h
    · rename_i hs
      obtain ⟨d, hd, hvd⟩ := Out.bind_eq_ok h
      obtain ⟨_, hmac, ht⟩ := (verdictOut_verdict_iff ..).1.mp hvd
      exact ⟨Classical.not_not.mp fun a => h0 (Or.inl a), Classical.not_not.mp fun a => h0 (Or.inr a),
        Classical.not_not.mp hs, d, hd, hv ▸ hmac, ht⟩

theorem macPrefix_inj (mode : Mode) (pm pm' x x' : Octets)
    (hpm : mode ≠ .request → pm.length ≤ 65535 ∧ pm'.length ≤ 65535)
    (h : macPrefix mode pm ++ x = macPrefix mode pm' ++ x') : (mode ≠ .request → pm = pm') ∧ x = x' := by
  cases mode
  · exact ⟨fun h => absurd rfl h, h⟩
  all_goals
    obtain ⟨h1, h2⟩ := hpm (by decide)
    obtain ⟨e, ex⟩ := addPriorMac_inj pm pm' x x' h1 h2 h
    exact ⟨fun _ => e, ex⟩

theorem varSuffix_inj (mode : Mode) (v v' : Variables)
    (hn : mode ≠ .subsequent →
      WireName v.keyName ∧ WireName v'.keyName ∧ WireName v.algorithm ∧ WireName v'.algorithm)
    (h : varSuffix mode v = varSuffix mode v') :
    (mode ≠ .subsequent → v = v') ∧ v.timeSigned = v'.timeSigned ∧ v.fudge = v'.fudge := by
  cases mode
  case subsequent =>
    obtain ⟨t1, t2, _⟩ := addTsigTimers_inj v v' [] [] (by simpa [varSuffix] using h)
    exact ⟨fun h => absurd rfl h, t1, t2⟩
  all_goals
    obtain ⟨hn1, hn2, hn3, hn4⟩ := hn (by decide)
    have := addTsigVariables_inj v v' hn1 hn2 hn3 hn4 h
    subst this
    exact ⟨fun _ => rfl, rfl, rfl⟩

/-- **The MAC input is uniquely readable** in each mode: two (message, original ID, prior MAC,
    variables) tuples with the same MAC input agree on every covered item — provided the end of the
    message is determined (`Framed`), prior MACs fit their size field and names are names. -/
theorem inputMode_inj {ε} (mode : Mode) (m m' pm pm' : Octets) (id id' : UInt16) (v v' : Variables) (D : Octets)
    (h : inputMode (ε := ε) mode m pm id v = .ok D) (h' : inputMode (ε := ε) mode m' pm' id' v' = .ok D)
    (hf : Framed m m')
    (hpm : mode ≠ .request → pm.length ≤ 65535 ∧ pm'.length ≤ 65535)
    (hn : mode ≠ .subsequent →
      WireName v.keyName ∧ WireName v'.keyName ∧ WireName v.algorithm ∧ WireName v'.algorithm) :
    id = id' ∧ m.drop 2 = m'.drop 2 ∧ (mode ≠ .request → pm = pm') ∧ (mode ≠ .subsequent → v = v') ∧
      v.timeSigned = v'.timeSigned ∧ v.fudge = v'.fudge := by
  obtain ⟨d, hd, rfl⟩ := inputMode_ok h
  obtain ⟨d', hd', e⟩ := inputMode_ok h'
  simp only [List.append_assoc] at e
  obtain ⟨ep, e⟩ := macPrefix_inj mode pm pm' _ _ hpm e
  obtain ⟨e1, e2, e3⟩ := addModifiedMessage_inj m m' id id' d d' _ _ hd hd' hf e
  exact ⟨e1, e2, ep, varSuffix_inj mode v v' hn e3⟩

/-- … read the other way: tuples that differ in a covered item have different MAC inputs -/
theorem inputMode_ne {ε} (mode : Mode) (m m' pm pm' : Octets) (id id' : UInt16) (v v' : Variables) (D D' : Octets)
    (h : inputMode (ε := ε) mode m pm id v = .ok D) (h' : inputMode (ε := ε) mode m' pm' id' v' = .ok D')
    (hf : Framed m m')
    (hpm : mode ≠ .request → pm.length ≤ 65535 ∧ pm'.length ≤ 65535)
    (hn : mode ≠ .subsequent →
      WireName v.keyName ∧ WireName v'.keyName ∧ WireName v.algorithm ∧ WireName v'.algorithm)
    (hdiff : id ≠ id' ∨ m.drop 2 ≠ m'.drop 2 ∨ (mode ≠ .request ∧ pm ≠ pm') ∨ (mode ≠ .subsequent ∧ v ≠ v') ∨
      v.timeSigned ≠ v'.timeSigned ∨ v.fudge ≠ v'.fudge) : D ≠ D' := by
  intro e
  subst e
  obtain ⟨e1, e2, e3, e4, e5, e6⟩ := inputMode_inj mode m m' pm pm' id id' v v' D h h' hf hpm hn
  rcases hdiff with hd | hd | ⟨hd1, hd2⟩ | ⟨hd1, hd2⟩ | hd | hd
  · exact hd e1
  · exact hd e2
  · exact hd2 (e3 hd1)
  · exact hd2 (e4 hd1)
  · exact hd e5
  · exact hd e6

end QV.Tsig
