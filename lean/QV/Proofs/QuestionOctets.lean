/-
  QV.Proofs.QuestionOctets — a QNAME that is not compressed decodes to its own octets, and its
  first-chunk length is its length. Used for C03's "the response repeats the question
  octet-for-octet".
-/
import QV.Proofs.ServerProps

namespace QV.ServerScan
open QV QV.Spec

/-- the first octet of a decoded name is a label length (≤ 63), never a pointer -/
theorem decodes_head {msg : Bytes} {pos cs : Nat} {w : List UInt8} {n k : Nat}
    (hd : Decodes msg pos cs w n k) : ∃ x rest, w = x :: rest ∧ x.toNat ≤ 63 := by
  cases Rdata.decodes_lname hd with
  | root => exact ⟨0, [], rfl, by decide⟩
  | label h0 h63 hb tl => exact ⟨_, _, rfl, h63⟩

/-- if the octets at `pos` are literally the decoded name, no pointer was followed: the name
    occupies exactly its own length -/
theorem decodes_literal_len {msg : Bytes} {pos cs : Nat} {w : List UInt8} {n k : Nat}
    (hd : Decodes msg pos cs w n k) (hl : (msg.extract pos (pos + w.length)).toList = w) : k = w.length := by
  induction hd with
  | null h h0 => rfl
  | @label pos cs w n k h h0 h63 hin rest ih =>
    have hcl : (msg.extract pos (pos + msg[pos].toNat + 1)).toList.length = msg[pos].toNat + 1 := by
      simp; omega
    rw [List.length_append, hcl] at hl ⊢
    -- the message is long enough: both sides of `hl` have the same length
    have hlen := congrArg List.length hl
    simp only [Array.length_toList, Array.size_extract, List.length_append, hcl] at hlen
    rw [extract_split msg pos (pos + msg[pos].toNat + 1) _ (by omega) (by omega)] at hl
    have := List.append_inj_right hl (by rw [hcl])
    have e : pos + (msg[pos].toNat + 1 + w.length) = pos + msg[pos].toNat + 1 + w.length := by omega
    rw [e] at this
    have := ih this
    omega
  | @ptr pos cs w n k h hp hb rest ih =>
    obtain ⟨x, r, hw, hx⟩ := decodes_head rest
    exfalso
    have hlt : pos < msg.size := by omega
    have h0 : (msg.extract pos (pos + w.length)).toList[0]? = some (msg[pos]'hlt) := by
      rw [Array.getElem?_toList, Array.getElem?_extract]
      have : 0 < min (pos + w.length) msg.size - pos := by rw [hw]; simp; omega
      simp [this, hlt]
    rw [hl, hw] at h0
    simp at h0
    unfold specIsPtr at hp
    rw [← h0] at hp
    omega

/-- **C03, octet for octet.** If the request's QNAME is not compressed — the octets at offset 12
    are the decoded QNAME itself — then the question the spec decodes, re-encoded, *is* the
    request's question section: QNAME, QTYPE and QCLASS octet for octet. -/
theorem question_octets_eq_request (req : Bytes) (w : List UInt8) (t c nx : Nat)
    (hq : specQuestionAt req 12 = some (w, t, c, nx))
    (hlit : (req.extract 12 (12 + w.length)).toList = w) :
    w ++ u16be t ++ u16be c = (req.extract 12 (12 + w.length + 4)).toList := by
  rw [specQuestionAt_eq] at hq
  cases hp : Wire.parseCompressed req 12 with
  | ok p =>
    rw [hp] at hq
    simp only at hq
    by_cases hle : 12 + p.len + 4 ≤ req.size
    · simp only [hle, if_true, Option.some.injEq, Prod.mk.injEq] at hq
      obtain ⟨h1, h2, h3, _⟩ := hq
      subst h1 h2 h3
      obtain ⟨hd, _⟩ := (C14.C14_parse_ok_iff req 12 p).mp hp
      have hk := decodes_literal_len hd hlit
      rw [hk] at hle ⊢
      rw [extract_split req 12 (12 + p.wire.length) _ (by omega) (by omega), hlit]
      rw [extract_split req (12 + p.wire.length) (12 + p.wire.length + 2) _ (by omega) (by omega)]
      rw [List.append_assoc]
      congr 1
      have f16 : ∀ a, a + 2 ≤ req.size → u16be (be16 req a) = (req.extract a (a + 2)).toList := by
        intro a ha
        unfold be16
        rw [u16be_hdr]
        apply List.ext_getElem
        · simp; omega
        · intro i h1 h2
          have : i = 0 ∨ i = 1 := by simp at h1; omega
          rcases this with rfl | rfl
          · simp [Array.getD, show a < req.size by omega]
          · simp [Array.getD, show a + 1 < req.size by omega]
      rw [f16 _ (by omega), f16 _ (by omega)]
    · simp only [hle, if_false] at hq; cases hq
  | err e => rw [hp] at hq; cases hq
  | panic => rw [hp] at hq; cases hq

end QV.ServerScan
