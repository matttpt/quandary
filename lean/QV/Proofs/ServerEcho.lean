/-
  QV.Proofs.ServerEcho — C03 at full strength for *every* response: whatever
  `handle_message_with_context` does after the question (the scans, OPT and TSIG processing, the
  dispatch, a zone's answer) and whatever `finish` appends, the response's ID, QR, opcode, RD, RA,
  Z/AD/CD and its question section are those the header copy and `add_question` wrote.
-/
import QV.Proofs.FrameServer
import QV.Proofs.FinishInv
import QV.Proofs.QuestionOctets

namespace QV.ServerScan
open QV QV.Wire QV.Reader QV.Writer

/-- what the writer holds when `handle_message_with_context` returns with `send_response` set -/
structure EchoSt (bufLen id opcode : Nat) (rd : Bool) (q : Option Spec.DQuestion) (w1 : State) : Prop where
  cur : 12 + (qOctets q).length ≤ w1.cursor
  rrs : 12 + (qOctets q).length ≤ w1.rrStart
  size : w1.octets.size = bufLen
  fits : 12 + (qOctets q).length ≤ bufLen
  o0 : w1.octets[0]? = some (UInt8.ofNat (id / 256 % 256))
  o1 : w1.octets[1]? = some (UInt8.ofNat (id % 256))
  o2 : w1.octets.getD 2 0 &&& 0xF9 = h2val opcode rd &&& 0xF9
  o3 : w1.octets.getD 3 0 &&& 0xF0 = 0
  qd : w1.qdcount = (if q.isSome then 1 else 0)
  body : ∀ j, j < (qOctets q).length → w1.octets[12 + j]? = (qOctets q)[j]?

/-- from the state after the question, through anything that frames -/
theorem echo_of_frame (bufLen : Nat) (tr : Server.Transport) (payload id opcode : Nat) (rd : Bool)
    (hbuf : minBuf tr payload ≤ bufLen) (hpay : 512 ≤ payload) (msg : Bytes) (q : Option Spec.DQuestion)
    (hq : ∀ x, q = some x → ∃ nx, Spec.specQuestionAt msg 12 = some (x.qname, x.qtype, x.qclass, nx))
    (w1 : State)
    (hfr : Fr false (12 + (qOctets q).length) (qSt (hdrSt (w0 bufLen (lim0 tr)) id opcode rd) q) w1) :
    EchoSt bufLen id opcode rd q w1 := by
  obtain ⟨hbase, hcur, o0, o1, o2, h30, hs3, hQ, hqd, han, hns, har, hrrs, hsz⟩ :=
    s1_facts bufLen tr payload id opcode rd hbuf hpay msg q hq
  generalize qSt (hdrSt (w0 bufLen (lim0 tr)) id opcode rd) q = s1 at *
  have hfit : 12 + (qOctets q).length ≤ bufLen := by
    have := hbase.room; have := hbase.avail; have := hbase.sizeL; omega
  have h2 : s1.octets.getD 2 0 = h2val opcode rd := by
    rw [Array.getD_eq_getD_getElem?, o2]; rfl
  refine ⟨hfr.cur, by rw [hfr.rrStart, hrrs]; exact Nat.le_refl _, by rw [hfr.size, hsz], hfit, ?_, ?_, ?_, ?_, ?_, ?_⟩
  · rw [hfr.body 0 (by omega) (by omega) (by omega)]; exact o0
  · rw [hfr.body 1 (by omega) (by omega) (by omega)]; exact o1
  · rw [hfr.o2, h2]
  · rw [hfr.o3, h30]; rfl
  · rw [hfr.qd]; exact hqd
  · intro j hj
    rw [hfr.body (12 + j) (by omega) (by omega) (by omega)]
    exact hQ j hj

theorem hwc_echo (cfg : Server.Cfg) (tr : Server.Transport) (now bufLen : Nat) (req : Bytes)
    (hbuf : minBuf tr cfg.payload ≤ bufLen) (hpay : 512 ≤ cfg.payload) (h12 : 12 ≤ req.size)
    (id opcode : Nat) (rd : Bool) (w1 : State)
    (h : Server.handleWithContext cfg tr now ⟨req, 12, none⟩ (hdrSt (w0 bufLen (lim0 tr)) id opcode rd) = (.ok true, w1)) :
    EchoSt bufLen id opcode rd (specBody (catKind cfg) cfg.payload req).question w1 := by
  have hH := hdrSt_ok bufLen tr cfg.payload id opcode rd hbuf hpay
  rcases hwc_head cfg tr now req h12 _ hH with ⟨_, _, h'⟩ | ⟨hsc, h'⟩ | ⟨q, question, p1, _, _, hsq, _, hsc, _, _, _, h'⟩
  · rw [h'] at h; cases h
  · -- FORMERR on the header-only writer
    rw [hsc]
    obtain rfl : stRcode 1 _ = w1 := (Prod.mk.inj (h'.symm.trans h)).2
    have hfr := framed_setRcode (k := false) 12 (by omega) 1 (by omega) _ (Nat.le_of_eq hH.cursor.symm)
      (Nat.le_of_eq hH.rrStart.symm)
    rw [setRcode_eq 1 _ (base_of_hdr _ _ _ hH).size3] at hfr
    exact echo_of_frame bufLen tr cfg.payload id opcode rd hbuf hpay req none (fun x hx => by cases hx) _ hfr
  · -- the state after the question, and the frame of everything that follows
    rw [hsc, specTail_question]
    have hq : ∀ x, q = some x → ∃ nx, Spec.specQuestionAt req 12 = some (x.qname, x.qtype, x.qclass, nx) :=
      fun x hx => ⟨p1, hsq x hx⟩
    obtain ⟨_, hcur, _, _, _, _, _, _, _, _, _, _, hrrs, _⟩ :=
      s1_facts bufLen tr cfg.payload id opcode rd hbuf hpay req q hq
    have hfr := Server.framed_scanAndDispatch (12 + (qOctets q).length) (by omega) cfg tr now
      (Spec.Server.hdr req 6) (Spec.Server.hdr req 8) (Spec.Server.hdr req 10)
      ((req.getD 2 0).toNat / 8 % 16) question ⟨req, p1, none⟩ (qSt (hdrSt (w0 bufLen (lim0 tr)) id opcode rd) q)
      (Nat.le_of_eq hcur.symm) (Nat.le_of_eq hrrs.symm)
    rw [← h', h] at hfr
    exact echo_of_frame bufLen tr cfg.payload id opcode rd hbuf hpay req q hq w1 hfr


/-! ### the response -/

/-- QR, opcode and RD of a flags octet are untouched by masking out AA and TC -/
theorem maskAaTc_fields : ∀ x : UInt8, (x &&& 0xF9).toNat / 128 % 2 = x.toNat / 128 % 2 ∧
    (x &&& 0xF9).toNat / 8 % 16 = x.toNat / 8 % 16 ∧ (x &&& 0xF9).toNat % 2 = x.toNat % 2 := by
  apply forall_uint8; decide +kernel

/-- two flags octets that agree outside AA and TC have the same QR, opcode and RD -/
theorem fields_of_maskAaTc_eq (x y : UInt8) (h : x &&& 0xF9 = y &&& 0xF9) :
    x.toNat / 128 % 2 = y.toNat / 128 % 2 ∧ x.toNat / 8 % 16 = y.toNat / 8 % 16 ∧ x.toNat % 2 = y.toNat % 2 := by
  obtain ⟨x1, x2, x3⟩ := maskAaTc_fields x
  obtain ⟨y1, y2, y3⟩ := maskAaTc_fields y
  rw [h] at x1 x2 x3
  exact ⟨x1.symm.trans y1, x2.symm.trans y2, x3.symm.trans y3⟩

theorem lt16_of_high_nibble_clear : ∀ x : UInt8, x &&& 0xF0 = 0 → x.toNat < 16 := by
  apply forall_uint8; decide +kernel

/-- **every response echoes the header and the question.** Whatever the request, the catalog, the
    keys, the clock, the transport: if `handle_message` returns a response, its ID and opcode are the
    request's, QR is set, RD is the request's for opcode QUERY and clear otherwise, RA and Z/AD/CD
    are clear, QDCOUNT is 1 exactly when the spec's scan decoded a question, and the question
    section is that question's (uncompressed) encoding. -/
theorem response_echo (cfg : Server.Cfg) (tr : Server.Transport) (now bufLen : Nat) (req : Bytes)
    (hbuf : minBuf tr cfg.payload ≤ bufLen) (hpay : 512 ≤ cfg.payload) (b : Bytes)
    (h : Server.handleMessage cfg tr now bufLen req = .ok (some b)) :
    Spec.Server.hdr b 0 = Spec.Server.hdr req 0 ∧
    Spec.Server.hdr b 2 / 32768 % 2 = 1 ∧
    Spec.Server.hdr b 2 / 2048 % 16 = Spec.Server.hdr req 2 / 2048 % 16 ∧
    Spec.Server.hdr b 2 / 256 % 2 =
      (if Spec.Server.hdr req 2 / 2048 % 16 = 0 then Spec.Server.hdr req 2 / 256 % 2 else 0) ∧
    Spec.Server.hdr b 2 / 128 % 2 = 0 ∧ Spec.Server.hdr b 2 / 16 % 8 = 0 ∧
    Spec.Server.hdr b 4 =
      (if (Spec.Server.specScanWith (catKind cfg) cfg.payload req).question.isSome then 1 else 0) ∧
    (b.toList.drop 12).take (qOctets (Spec.Server.specScanWith (catKind cfg) cfg.payload req).question).length =
      qOctets (Spec.Server.specScanWith (catKind cfg) cfg.payload req).question := by
  obtain ⟨h12, hqr, hsc, w1, mac, hh, hf⟩ :=
    handleMessage_some cfg tr now bufLen req hbuf hpay b h (catKind cfg) cfg.payload
  rw [hsc]
  have hE := hwc_echo cfg tr now bufLen req hbuf hpay h12 _ _ _ w1 hh
  generalize (specBody (catKind cfg) cfg.payload req).question = q at hE ⊢
  obtain ⟨_, g2, g3, g4, g5, g6⟩ := finish_frame (12 + (qOctets q).length) (by omega) w1 Server.macFn
    hE.cur hE.rrs (by rw [hE.size]; exact hE.fits) b mac hf
  -- octets 0..5 of the response
  have b0 : b.getD 0 0 = UInt8.ofNat (Spec.Server.hdr req 0 / 256 % 256) := by
    rw [Array.getD_eq_getD_getElem?, g2 0 (by omega) (by omega), hE.o0]; rfl
  have b1 : b.getD 1 0 = UInt8.ofNat (Spec.Server.hdr req 0 % 256) := by
    rw [Array.getD_eq_getD_getElem?, g2 1 (by omega) (by omega), hE.o1]; rfl
  obtain ⟨e0, e1⟩ := hdr_octets req 0
  have b2 : b.getD 2 0 &&& 0xF9 = hdr2 (req.getD 2 0) &&& 0xF9 := by
    rw [g3, hE.o2, h2_spec]; rfl
  have b3 : b.getD 3 0 &&& 0xF0 = 0 := by rw [g4, hE.o3]
  obtain ⟨m1, m2, m3⟩ := fields_of_maskAaTc_eq _ _ b2
  obtain ⟨c1, c2, _⟩ := rcode_octet _ (lt16_of_high_nibble_clear _ b3)
  obtain ⟨a1, a2, _, _, a5⟩ := hdr2_bits (req.getD 2 0)
  obtain ⟨f1, f2, _, _, f5, f6, f7, _⟩ := hdr_flags b
  obtain ⟨_, r2, _, _, r5, _⟩ := hdr_flags req
  have b4 : b.getD 4 0 = UInt8.ofNat (w1.qdcount / 256 % 256) := by
    rw [Array.getD_eq_getD_getElem?, g5]; rfl
  have b5 : b.getD 5 0 = UInt8.ofNat (w1.qdcount % 256) := by
    rw [Array.getD_eq_getD_getElem?, g6]; rfl
  refine ⟨?_, by rw [f1, m1, a1], by rw [f2, r2, m2, a2], by rw [f5, r2, r5, m3, a5], by rw [f6, c1],
    by rw [f7, c2], ?_, ?_⟩
  · unfold Spec.Server.hdr; rw [b0, b1, e0, e1]
  · unfold Spec.Server.hdr
    rw [b4, b5, hE.qd]
    cases q <;> simp
  · apply List.ext_getElem?
    intro j
    rw [List.getElem?_take]
    by_cases hj : j < (qOctets q).length
    · rw [if_pos hj, List.getElem?_drop, Array.getElem?_toList, g2 (12 + j) (by omega) (by omega), hE.body j hj]
    · rw [if_neg hj, List.getElem?_eq_none (by omega)]

/-! ### the EDNS and TSIG slots when a loaded zone answers -/

/-- **when a loaded zone answers** (verdict `answer`): whatever the zone holds and whatever the
    answering phase does (records, CNAME chains, referrals, negative answers, SERVFAIL and truncation
    epilogues), the writer that `finish` receives has an empty TSIG slot, and its EDNS slot is set —
    with the server's payload size — exactly when the scan reached an OPT record -/
theorem hwc_answer_slot (cfg : Server.Cfg) (tr : Server.Transport) (now bufLen : Nat) (req : Bytes)
    (hbuf : minBuf tr cfg.payload ≤ bufLen) (hpay : 512 ≤ cfg.payload) (h12 : 12 ≤ req.size)
    (hreq : req.size ≤ Rdata.USIZE_MAX) (id opcode : Nat) (rd : Bool)
    (hv : (specBody (catKind cfg) cfg.payload req).verdict = .answer) :
    ((Server.handleWithContext cfg tr now ⟨req, 12, none⟩ (hdrSt (w0 bufLen (lim0 tr)) id opcode rd)).2).tsig = none ∧
    ((Server.handleWithContext cfg tr now ⟨req, 12, none⟩ (hdrSt (w0 bufLen (lim0 tr)) id opcode rd)).2).edns.map
        (·.payload) = (if (specBody (catKind cfg) cfg.payload req).edns then some cfg.payload else none) := by
  have hH := hdrSt_ok bufLen tr cfg.payload id opcode rd hbuf hpay
  rcases hwc_head cfg tr now req h12 _ hH with ⟨_, hsc, _⟩ | ⟨hsc, _⟩ | ⟨q, question, p1, _, hp1, _, _, hsc, hb, hcur, hrr, h⟩
  · rw [hsc] at hv; cases hv
  · rw [hsc] at hv; cases hv
  · rw [hsc] at hv ⊢
    rw [h, scanAndDispatch_answer cfg tr now req q question ⟨req, p1, none⟩ ⟨h12, hp1⟩ rfl _ hb hreq _ _ _ _ hv]
    -- the answering phase keeps the TSIG slot and the EDNS payload size
    generalize qSt (hdrSt (w0 bufLen (lim0 tr)) id opcode rd) q = s1 at hb hcur hrr ⊢
    generalize (specTail (catKind cfg) cfg.payload req q p1 (Spec.Server.hdr req 6)
      (Spec.Server.hdr req 8) (Spec.Server.hdr req 10) ((req.getD 2 0).toNat / 8 % 16)).edns = e
    generalize (specTail (catKind cfg) cfg.payload req q p1 (Spec.Server.hdr req 6)
      (Spec.Server.hdr req 8) (Spec.Server.hdr req 10) ((req.getD 2 0).toNat / 8 % 16)).limitUdp = l
    obtain ⟨_, f2, f3, _, _, _, _, f8⟩ := arSt_fields s1 tr cfg.payload e l
    have frr : (arSt s1 tr cfg.payload e l).rrStart = s1.rrStart := by cases e <;> cases tr <;> rfl
    have hfr := framed_bind (k := true) (Server.framed_handleQuery 12 (by omega) cfg question tr)
      (fun _ => framed_pure 12 true) (arSt s1 tr cfg.payload e l) (by rw [f2]; exact hcur) (by rw [frr]; exact hrr)
    obtain ⟨k1, k2⟩ := hfr.keep rfl
    refine ⟨by rw [k1, f3]; exact hb.tsig, ?_⟩
    rw [k2, f8, hb.edns]
    cases e <;> rfl

/-- the writer at the moment `handle_message_with_context` returns, i.e. what `finish` receives -/
def answerState (cfg : Server.Cfg) (tr : Server.Transport) (now bufLen : Nat) (req : Bytes) : State :=
  (Server.handleWithContext cfg tr now ⟨req, 12, none⟩
    (hdrSt (w0 bufLen (lim0 tr)) (Spec.Server.hdr req 0) (((req.getD 2 0).toNat &&& 120) >>> 3)
      (((req.getD 2 0).toNat &&& 1) != 0))).2

/-- **the end of a response that a loaded zone produces** (verdict `answer`): with `w1` the writer
    the answering phase leaves, the response is `w1`'s content up to its cursor (counts filled in)
    and then — exactly when the scan reached an OPT — the eleven octets of one OPT record: owner root,
    TYPE 41, CLASS = the server's payload size, version 0, flags 0, RDLENGTH 0.  Nothing else is
    appended (no TSIG record). -/
theorem answer_finish (cfg : Server.Cfg) (tr : Server.Transport) (now bufLen : Nat) (req : Bytes)
    (hbuf : minBuf tr cfg.payload ≤ bufLen) (hpay : 512 ≤ cfg.payload) (hreq : req.size ≤ Rdata.USIZE_MAX)
    (hv : (Spec.Server.specScanWith (catKind cfg) cfg.payload req).verdict = .answer)
    (b : Bytes) (h : Server.handleMessage cfg tr now bufLen req = .ok (some b)) :
    if (Spec.Server.specScanWith (catKind cfg) cfg.payload req).edns then
      b.size = (answerState cfg tr now bufLen req).cursor + 11 ∧
      (∀ i, i < (answerState cfg tr now bufLen req).cursor →
        b[i]? = (withCounts (answerState cfg tr now bufLen req))[i]?) ∧
      ∃ x : UInt8, b.toList.drop (answerState cfg tr now bufLen req).cursor =
        [0] ++ u16be 41 ++ u16be cfg.payload ++ [x, 0, 0, 0] ++ u16be 0
    else
      b = (withCounts (answerState cfg tr now bufLen req)).extract 0 (answerState cfg tr now bufLen req).cursor := by
  obtain ⟨h12, hqr, hsc, w1, mac, hh, hf⟩ :=
    handleMessage_some cfg tr now bufLen req hbuf hpay b h (catKind cfg) cfg.payload
  rw [hsc] at hv ⊢
  obtain ⟨ht, he⟩ := hwc_answer_slot cfg tr now bufLen req hbuf hpay h12 hreq (Spec.Server.hdr req 0)
    (((req.getD 2 0).toNat &&& 120) >>> 3) (((req.getD 2 0).toNat &&& 1) != 0) hv
  unfold answerState
  rw [hh] at ht he ⊢
  simp only at ht he ⊢
  have hE := hwc_echo cfg tr now bufLen req hbuf hpay h12 _ _ _ w1 hh
  have hsz : 12 ≤ w1.octets.size := by
    have := hE.fits; rw [hE.size]; omega
  obtain ⟨_, ft⟩ := finish_inv_tail w1 Server.macFn ht hsz b mac hf
  cases hed : (specBody (catKind cfg) cfg.payload req).edns with
  | false =>
    rw [hed] at he
    simp only [Bool.false_eq_true, if_false, Option.map_eq_none_iff] at he ⊢
    rw [he] at ft
    exact ft
  | true =>
    rw [hed] at he
    simp only [if_true] at he ⊢
    rcases hw : w1.edns with _ | ed
    · rw [hw] at he; cases he
    · rw [hw] at he ft
      simp only [Option.map_some, Option.some.injEq] at he
      simp only at ft
      refine ⟨ft.1, ft.2.2, UInt8.ofNat ed.upper, ?_⟩
      rw [ft.2.1, optRecord_shape, he]

end QV.ServerScan
