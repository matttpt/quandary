/-
  QV.Proofs.WriterRdPos — one record from an intermediate state of a call: `add_rr` never panics,
  leaves an intermediate state again, and what it has laid down is said once (`Added`).

  `RdAt s m ts rd p e ps`: between `p` and `e` the buffer holds the RDATA `rd`, split along the
  component list `ts` exactly as the component loop of `add_rr` (`writeComponents`) splits it:
  fixed-length parts, names that must not be compressed and the rest as the octets given; a
  compressible name as an *item* (a name the independent decoder reads, C13) whose content is the
  name given (`NameIs`, up to ASCII case in `Standard` mode, octet for octet otherwise); `ps` lists
  the positions where the names inside the RDATA start.

  `writeComponents_spec`: the component loop does not panic and a successful run leaves exactly
  that; `addRr_added`: so does `add_rr`, after RDLENGTH was written back — with the owner and the
  fixed fields (`addRr_owner`, from `WInv` alone); `sp_addRr`, `sp_addRrset`: the triples.
-/
import QV.Proofs.WriterPhys
import QV.Proofs.WriterRecords
import QV.Proofs.WriterInv

namespace QV.Writer
open QV QV.Wire

def RdAt (s : State) (m : CMode) : List CompType → List UInt8 → Nat → Nat → List Nat → Prop
  | [], rd, p, e, ps => BytesAt s.octets p rd ∧ e = p + rd.length ∧ ps = []
  | .compressibleName :: ts, rd, p, e, ps =>
    ∃ n rest k, WName.parse rd = some (n, rest) ∧ Item s p k ∧ NameIs s p m n ∧
      ∃ ps', ps = p :: ps' ∧ RdAt s m ts rest (p + k) e ps'
  | .uncompressibleName :: ts, rd, p, e, ps =>
    ∃ n rest, WName.parse rd = some (n, rest) ∧ BytesAt s.octets p n.wire ∧
      ∃ ps', ps = p :: ps' ∧ RdAt s m ts rest (p + n.wire.length) e ps'
  | .fixedLen k :: ts, rd, p, e, ps =>
    k ≤ rd.length ∧ BytesAt s.octets p (rd.take k) ∧ RdAt s m ts (rd.drop k) (p + k) e ps

theorem rdAt_le {s : State} {m : CMode} : ∀ {ts : List CompType} {rd : List UInt8} {p e : Nat} {ps : List Nat},
    RdAt s m ts rd p e ps → p ≤ e := by
  intro ts
  induction ts with
  | nil => intro rd p e ps h; have := h.2.1; omega
  | cons t ts ih =>
    intro rd p e ps h
    cases t with
    | compressibleName => obtain ⟨n, rest, k, _, _, _, _, _, h4⟩ := h; have := ih h4; omega
    | uncompressibleName => obtain ⟨n, rest, _, _, _, _, h4⟩ := h; have := ih h4; omega
    | fixedLen k => obtain ⟨_, _, h4⟩ := h; have := ih h4; omega

theorem wire_chunk {oct : Bytes} {a : Nat} {n : WName} (hn : n.WF) (h : BytesAt oct a n.wire) :
    ChunkAt oct a n.wire.length :=
  ⟨n.labels, 0, fun l hl => hn.1 l hl, by simpa [WName.wire] using h,
    Or.inl ⟨rfl, by simp [WName.wire, encLen]⟩⟩

theorem chunkAt_pos {oct : Bytes} {a k : Nat} (h : ChunkAt oct a k) : 1 ≤ k := by
  obtain ⟨_, _, _, _, hk⟩ := h
  rcases hk with ⟨_, e⟩ | ⟨_, e⟩ <;> omega

/-- every name position of an RDATA lies inside it, and a name chunk lies there -/
theorem rdAt_chunk {s : State} {m : CMode} : ∀ {ts : List CompType} {rd : List UInt8} {p e : Nat} {ps : List Nat},
    RdAt s m ts rd p e ps → ∀ a ∈ ps, p ≤ a ∧ ∃ k, ChunkAt s.octets a k ∧ a + k ≤ e := by
  intro ts
  induction ts with
  | nil => intro rd p e ps h a ha; rw [h.2.2] at ha; cases ha
  | cons t ts ih =>
    intro rd p e ps h a ha
    cases t with
    | compressibleName =>
      obtain ⟨n, rest, k, _, hit, _, ps', hps, h4⟩ := h
      subst hps
      rcases List.mem_cons.mp ha with rfl | ha
      · exact ⟨Nat.le_refl _, k, hit.2.1, rdAt_le h4⟩
      · obtain ⟨h1, h2⟩ := ih h4 a ha
        exact ⟨by omega, h2⟩
    | uncompressibleName =>
      obtain ⟨n, rest, hp, hb, ps', hps, h4⟩ := h
      subst hps
      rcases List.mem_cons.mp ha with rfl | ha
      · exact ⟨Nat.le_refl _, _, wire_chunk (parse_wf hp) hb, rdAt_le h4⟩
      · obtain ⟨h1, h2⟩ := ih h4 a ha
        exact ⟨by omega, h2⟩
    | fixedLen k =>
      obtain ⟨_, _, h4⟩ := h
      obtain ⟨h1, h2⟩ := ih h4 a ha
      exact ⟨by omega, h2⟩

/-- the name positions of an RDATA are listed in ascending order -/
theorem rdAt_sorted {s : State} {m : CMode} : ∀ {ts : List CompType} {rd : List UInt8} {p e : Nat} {ps : List Nat},
    RdAt s m ts rd p e ps → ps.Pairwise (· < ·) := by
  intro ts
  induction ts with
  | nil => intro rd p e ps h; rw [h.2.2]; exact List.Pairwise.nil
  | cons t ts ih =>
    intro rd p e ps h
    cases t with
    | compressibleName =>
      obtain ⟨n, rest, k, _, hit, _, ps', hps, h4⟩ := h
      subst hps
      refine List.Pairwise.cons (fun a ha => ?_) (ih h4)
      have := (rdAt_chunk h4 a ha).1
      have := chunkAt_pos hit.2.1
      omega
    | uncompressibleName =>
      obtain ⟨n, rest, hp, hb, ps', hps, h4⟩ := h
      subst hps
      refine List.Pairwise.cons (fun a ha => ?_) (ih h4)
      have := (rdAt_chunk h4 a ha).1
      have := chunkAt_pos (wire_chunk (parse_wf hp) hb)
      omega
    | fixedLen k =>
      obtain ⟨_, _, h4⟩ := h
      exact ih h4

/-- the parts move along any change of state that keeps items, names and octets from `lo` on -/
theorem rdAt_map {s s' : State} {m : CMode} {e lo : Nat}
    (hi : ∀ a k, lo ≤ a → a + k ≤ e → Item s a k → Item s' a k)
    (hn : ∀ a n, lo ≤ a → NameIs s a m n → NameIs s' a m n)
    (hb : ∀ a d, lo ≤ a → a + d.length ≤ e → BytesAt s.octets a d → BytesAt s'.octets a d) :
    ∀ {ts : List CompType} {rd : List UInt8} {p : Nat} {ps : List Nat}, lo ≤ p → RdAt s m ts rd p e ps →
      RdAt s' m ts rd p e ps := by
  intro ts
  induction ts with
  | nil =>
    intro rd p ps hp h
    exact ⟨hb p rd hp (by have := h.2.1; omega) h.1, h.2⟩
  | cons t ts ih =>
    intro rd p ps hp h
    cases t with
    | compressibleName =>
      obtain ⟨n, rest, k, h1, h2, h3, ps', hps, h4⟩ := h
      exact ⟨n, rest, k, h1, hi p k hp (rdAt_le h4) h2, hn p n hp h3, ps', hps, ih (by omega) h4⟩
    | uncompressibleName =>
      obtain ⟨n, rest, h1, h2, ps', hps, h4⟩ := h
      exact ⟨n, rest, h1, hb p _ hp (rdAt_le h4) h2, ps', hps, ih (by omega) h4⟩
    | fixedLen k =>
      obtain ⟨h1, h2, h4⟩ := h
      refine ⟨h1, hb p _ hp ?_ h2, ih (by omega) h4⟩
      have := rdAt_le h4
      rw [List.length_take]; omega

theorem rdAt_frame {s s' : State} {m : CMode} {ts : List CompType} {rd : List UInt8} {p e lo : Nat}
    {ps : List Nat} (h : RdAt s m ts rd p e ps) (hlo : lo ≤ p) (hend : e ≤ s.cursor) (hg12 : ∀ g ∈ s.gLabels, lo ≤ g)
    (hpre : ∀ i, lo ≤ i → i < s.cursor → s'.octets[i]? = s.octets[i]?) (hc : s.cursor ≤ s'.cursor)
    (hg : ∀ g ∈ s.gLabels, g ∈ s'.gLabels) : RdAt s' m ts rd p e ps :=
  rdAt_map (lo := lo)
    (fun a k _ hk it => item_move (lo := lo) it hg12 (fun i h1 h2 => hpre i h1 (by omega)) (by omega)
      (fun g hgm _ => hg g hgm))
    (fun a n _ hnm => nameIs_frame hnm hg12 hpre hc hg)
    (fun a d ha hk hbb => bytesAt_frame hbb (fun i h1 h2 => hpre i (by omega) (by omega))) hlo h

theorem rdAt_ext {s s' : State} {m : CMode} {ts : List CompType} {rd : List UInt8} {p e : Nat} {ps : List Nat}
    (h : RdAt s m ts rd p e ps) (hend : e ≤ s.cursor) (x : Ext s s') : RdAt s' m ts rd p e ps :=
  rdAt_frame (lo := 0) h (Nat.zero_le _) hend (fun _ _ => Nat.zero_le _) (fun i _ hi => x.pre i hi) x.cur
    (fun g hg => x.glab g hg)

theorem rdAt_fields {s s' : State} {m : CMode} {ts : List CompType} {rd : List UInt8} {p e : Nat} {ps : List Nat}
    (h : RdAt s m ts rd p e ps) (ho : s'.octets = s.octets) (hc : s'.cursor = s.cursor)
    (hg : s'.gLabels = s.gLabels) : RdAt s' m ts rd p e ps :=
  rdAt_map (lo := 0) (fun _ _ _ _ it => item_fields it ho hc hg) (fun _ _ _ hnm => nameIs_fields hnm ho hc hg)
    (fun _ _ _ _ hbb => by rw [ho]; exact hbb) (Nat.zero_le _) h

/-! ### RDLENGTH written back below the RDATA -/

theorem hop_patch {o : Bytes} {c a q g : Nat} (d : List UInt8) (hd : d.length = 2) (h : Hop o c a q)
    (ha : g + 2 ≤ a) (hq : q < g ∨ g + 2 ≤ q) : Hop (writeAt o g d) c a q := by
  have hout : ∀ i, i < g ∨ g + 2 ≤ i → (writeAt o g d)[i]? = o[i]? := by
    intro i hi
    rcases hi with hi | hi
    · exact writeAt_get_lt _ _ _ _ hi
    · exact writeAt_get_ge _ _ _ _ (by omega)
  cases h with
  | here hq' hb hnp => exact .here hq' (by rw [hout _ (Or.inr ha)]; exact hb) hnp
  | jump hq' h1 h2 hp hlt h3 hnp =>
    exact .jump hq' (by rw [hout _ (Or.inr ha)]; exact h1) (by rw [hout _ (Or.inr (by omega))]; exact h2) hp hlt
      (by rw [hout _ hq]; exact h3) hnp

theorem rdAt_patch {s sH : State} {m : CMode} {ts : List CompType} {rd : List UInt8} {p en : Nat} {ps : List Nat}
    (hw : WInv s) (d : List UInt8) (hd : d.length = 2) (e : Ext { s with cursor := s.cursor + 2 } sH)
    (h : RdAt sH m ts rd p en ps) (hp : s.cursor + 2 ≤ p) :
    RdAt { sH with octets := writeAt sH.octets s.cursor d } m ts rd p en ps := by
  have hlab := (gapOK_ext (gapOK_init hw) e).outside
  refine rdAt_map (lo := s.cursor + 2) ?_ ?_ ?_ hp h
  · intro a k ha _ it
    obtain ⟨⟨q, hop, hq⟩, hck, hk⟩ := it
    refine ⟨⟨q, hop_patch d hd hop ha (hlab q hq), hq⟩, ?_, hk⟩
    exact chunkAt_frame hck (fun i h1 _ => writeAt_get_ge _ _ _ _ (by omega))
  · intro a n ha hnm
    obtain ⟨⟨q, ls, hop, hst, hmm⟩, hdis⟩ := hnm
    have hq : q ∈ sH.gLabels := (nameAt_start hst).1
    exact ⟨⟨q, ls, hop_patch d hd hop ha (hlab q hq), storedAt_patch hw d hd e q ls hst, hmm⟩,
      fun hm' => rootEndB_frame (hdis hm') (fun i h1 _ => writeAt_get_ge _ _ _ _ (by omega)) (Nat.le_refl _)⟩
  · intro a dd ha _ hbb
    exact bytesAt_frame hbb (fun i h1 _ => writeAt_get_ge _ _ _ _ (by omega))

/-! ### one name component -/

theorem nameBlock_inv (c : NameCtx) (wr : M (Option Prior)) (hfr : Frame wr) {s s1 : State} {u : Unit}
    (h : (do setCtx c
             let p ← wr
             setCtx .none
             M.modify fun s => { s with mostRecentNameInRdata := p }
             hvPush (p.map fun (q : Prior) => q.ptr)) s = (.ok u, s1)) :
    ∃ p s2, wr { s with gCtx := c } = (.ok p, s2) ∧ s1.octets = s2.octets ∧ s1.cursor = s2.cursor ∧
      s1.gLabels = s2.gLabels ∧ Ext s s1 := by
  simp only [M.bind_apply, setCtx, M.modify_apply] at h
  have hf := hfr { s with gCtx := c }
  cases hw : wr { s with gCtx := c } with
  | mk r s2 =>
    rw [hw] at h hf
    cases r with
    | err e => cases h
    | panic => cases h
    | ok p =>
      simp only [] at h
      generalize hs4 : ({ s2 with gCtx := NameCtx.none, mostRecentNameInRdata := p } : State) = s4 at h
      have e24 : Ext s2 s4 := by rw [← hs4]; constructor <;> simp
      have hs1 : s1 = (hvPush (p.map (·.ptr)) s4).2 := by rw [h]
      obtain ⟨f1, f2, f3, _, _, _⟩ := hvPush_fields s4 (p.map (·.ptr))
      have e41 : Ext s4 s1 := by rw [hs1]; exact ext_hvPush _ _
      refine ⟨p, s2, rfl, ?_, ?_, ?_, Ext.trans (ext_setCtx s c) (Ext.trans hf (Ext.trans e24 e41))⟩
      · rw [hs1, f2, ← hs4]
      · rw [hs1, f3, ← hs4]
      · rw [hs1, f1, ← hs4]

/-- after one name component the name given sits at the old cursor as an item; the label starts
    recorded are label starts of that name -/
theorem nameComp_pos (c : NameCtx) (wr : M (Option Prior)) (n : WName) (hwf : n.WF)
    (hspec : ∀ s, WInv s → NameSpec s n (wr s)) (hfr : Frame wr) {s s1 : State} {u : Unit} (hw : WInv s)
    (h : (do setCtx c
             let p ← wr
             setCtx .none
             M.modify fun s => { s with mostRecentNameInRdata := p }
             hvPush (p.map fun (q : Prior) => q.ptr)) s = (.ok u, s1)) :
    Ext s s1 ∧ Item s1 s.cursor (s1.cursor - s.cursor) ∧ NameIs s1 s.cursor s.mode n ∧
      (∀ g, g ∈ s1.gLabels → g ∈ s.gLabels ∨ PhysLab s1.octets s.cursor g) := by
  obtain ⟨p, s2, hwr, ho, hc, hg, hext⟩ := nameBlock_inv c wr hfr h
  have hwA : WInv { s with gCtx := c } := winv_ext hw (ext_setCtx s c) rfl rfl rfl rfl
  have hs := hspec _ hwA
  have hf := hfr { s with gCtx := c }
  rw [hwr] at hs hf
  have na : NameAdded { s with gCtx := c } s2 n := hs.added hwf hf.cur rfl
  exact ⟨hext, by rw [hc]; exact item_fields na.item ho hc hg, nameIs_fields na.name ho hc hg,
    fun g hgm => by rw [ho]; exact na.labels g (by rw [← hg]; exact hgm)⟩

theorem uncompComp_pos (c : NameCtx) (n : WName) {s s1 : State} {u : Unit}
    (h : (do setCtx c
             let p ← writeUncompressedName n
             setCtx .none
             M.modify fun s => { s with mostRecentNameInRdata := p }
             hvPush (p.map fun (q : Prior) => q.ptr)) s = (.ok u, s1)) :
    Ext s s1 ∧ s1.cursor = s.cursor + n.wire.length ∧ BytesAt s1.octets s.cursor n.wire := by
  obtain ⟨p, s2, hwr, ho, hc, hg, hext⟩ := nameBlock_inv c _ (frame_writeUncompressedName n) h
  obtain ⟨_, hz, _, rfl⟩ := writeUncompressedName_eq_ok.mp hwr
  exact ⟨hext, hc, by rw [ho]; exact bytesAt_writeAt _ _ _ hz⟩

/-! ### all components -/

/-- **the component loop from an intermediate state of a call** does not panic; on success the state
    stays one (with the names found added), and the RDATA lies part by part where the loop started -/
theorem writeComponents_spec {track : Prop} {s0 : State} :
    ∀ (ts : List CompType) (rd : List UInt8) (names loc : List WName) (o : Option Prior) (on : Option WName)
      (s : State), RecSt track s0 s names loc o on →
      (writeComponents ts rd s).1 ≠ .panic ∧ ∀ (u : Unit) (s' : State), writeComponents ts rd s = (.ok u, s') →
      RecSt track s0 s' (names ++ compNames ts rd) (loc ++ compNames ts rd) o on ∧ Ext s s' ∧
      ∃ ps, RdAt s' s.mode ts rd s.cursor s'.cursor ps ∧
        (∀ g, g ∈ s'.gLabels → g ∈ s.gLabels ∨ ∃ a ∈ ps, PhysLab s'.octets a g) := by
  intro ts
  induction ts with
  | nil =>
    intro rd names loc o on s hrec
    unfold writeComponents
    simp only [compNames, List.append_nil]
    split
    · rename_i hemp
      refine ⟨by simp, fun u s' h => ?_⟩
      cases h
      obtain rfl : rd = [] := List.isEmpty_iff.mp hemp
      exact ⟨hrec, Ext.refl s, [], ⟨fun i hi => by simp at hi, rfl, rfl⟩, fun g hg => Or.inl hg⟩
    · obtain ⟨hnp, hok⟩ := (sp_tryPush_rec rd) s hrec
      refine ⟨hnp, fun u s' h => ?_⟩
      obtain ⟨hroom, hsz, rfl⟩ := tryPush_eq_ok.mp h
      exact ⟨hok u _ h, ext_push s rd hroom, [], ⟨bytesAt_writeAt _ _ _ hsz, rfl, rfl⟩, fun g hg => Or.inl hg⟩
  | cons t ts ih =>
    intro rd names loc o on s hrec
    cases t with
    | compressibleName =>
      unfold writeComponents
      cases hp : WName.parse rd with
      | none => exact ⟨by simp, fun _ _ h => by cases h⟩
      | some pr =>
        obtain ⟨n, rest⟩ := pr
        simp only []
        rw [nameBlock_assoc]
        obtain ⟨hnp1, hok1⟩ := (sp_nameComp (track := track) (s0 := s0) (names := names) (loc := loc) (o := o)
          (on := on) (writeUnhintedName n) n _ (fun s hw => writeUnhintedName_spec n s hw (parse_wf hp))
          (frame_writeUnhintedName n) (keepsHv_writeUnhintedName n)) s hrec
        refine M.bind_total hnp1 fun _ s1 h1 => ?_
        obtain ⟨hnp2, hok2⟩ := ih rest _ _ o on s1 (hok1 _ s1 h1)
        refine ⟨hnp2, fun u s' h2 => ?_⟩
        obtain ⟨e1, it1, nm1, pv1⟩ := nameComp_pos _ (writeUnhintedName n) n (parse_wf hp)
          (fun s hw => writeUnhintedName_spec n s hw (parse_wf hp)) (frame_writeUnhintedName n) hrec.winv h1
        obtain ⟨r2, e2, ps', hrest, pv2⟩ := hok2 u s' h2
        refine ⟨by simpa [compNames, hp, List.append_assoc] using r2, Ext.trans e1 e2, s.cursor :: ps',
          ⟨n, rest, s1.cursor - s.cursor, hp, item_ext it1 e2, nameIs_ext nm1 e2, ps', rfl, ?_⟩, ?_⟩
        · rw [show s.cursor + (s1.cursor - s.cursor) = s1.cursor by have := e1.cur; omega, ← e1.mode]
          exact hrest
        · intro g hg
          rcases pv2 g hg with h3 | ⟨a, ha, h3⟩
          · rcases pv1 g h3 with h4 | h4
            · exact Or.inl h4
            · exact Or.inr ⟨s.cursor, List.mem_cons_self, physLab_frame it1.2.1 h4 (fun i _ hi => e2.pre i (by
                have := e1.cur; omega))⟩
          · exact Or.inr ⟨a, List.mem_cons_of_mem _ ha, h3⟩
    | uncompressibleName =>
      unfold writeComponents
      cases hp : WName.parse rd with
      | none => exact ⟨by simp, fun _ _ h => by cases h⟩
      | some pr =>
        obtain ⟨n, rest⟩ := pr
        simp only []
        rw [nameBlock_assoc]
        obtain ⟨hnp1, hok1⟩ := (sp_nameComp (track := track) (s0 := s0) (names := names) (loc := loc) (o := o)
          (on := on) (writeUncompressedName n) n _ (fun s hw => writeUncompressedName_spec n s hw (parse_wf hp))
          (frame_writeUncompressedName n) (keepsHv_writeUncompressedName n)) s hrec
        refine M.bind_total hnp1 fun _ s1 h1 => ?_
        obtain ⟨hnp2, hok2⟩ := ih rest _ _ o on s1 (hok1 _ s1 h1)
        refine ⟨hnp2, fun u s' h2 => ?_⟩
        obtain ⟨e1, hc1, hb1⟩ := uncompComp_pos _ n h1
        obtain ⟨_, it1, _, pv1⟩ := nameComp_pos _ (writeUncompressedName n) n (parse_wf hp)
          (fun s hw => writeUncompressedName_spec n s hw (parse_wf hp)) (frame_writeUncompressedName n)
          hrec.winv h1
        obtain ⟨r2, e2, ps', hrest, pv2⟩ := hok2 u s' h2
        refine ⟨by simpa [compNames, hp, List.append_assoc] using r2, Ext.trans e1 e2, s.cursor :: ps',
          ⟨n, rest, hp, ?_, ps', rfl, ?_⟩, ?_⟩
        · exact bytesAt_frame hb1 (fun i _ h2 => e2.pre i (by omega))
        · rw [← hc1, ← e1.mode]; exact hrest
        · intro g hg
          rcases pv2 g hg with h3 | ⟨a, ha, h3⟩
          · rcases pv1 g h3 with h4 | h4
            · exact Or.inl h4
            · exact Or.inr ⟨s.cursor, List.mem_cons_self, physLab_frame it1.2.1 h4 (fun i _ hi => e2.pre i (by
                have := e1.cur; omega))⟩
          · exact Or.inr ⟨a, List.mem_cons_of_mem _ ha, h3⟩
    | fixedLen k =>
      unfold writeComponents
      split
      · exact ⟨by simp, fun _ _ h => by cases h⟩
      · rename_i hk
        obtain ⟨hnp1, hok1⟩ := (sp_tryPush_rec (track := track) (s0 := s0) (names := names) (loc := loc) (o := o)
          (on := on) (rd.take k)) s hrec
        refine M.bind_total hnp1 fun _ s1 h1 => ?_
        obtain ⟨hnp2, hok2⟩ := ih (rd.drop k) _ _ o on s1 (hok1 _ s1 h1)
        refine ⟨hnp2, fun u s' h2 => ?_⟩
        obtain ⟨hroom, hsz, rfl⟩ := tryPush_eq_ok.mp h1
        have e1 : Ext s (pushed s (rd.take k)) := ext_push s _ hroom
        have hc1 : (pushed s (rd.take k)).cursor = s.cursor + k := by
          rw [pushed_cursor, List.length_take]; omega
        obtain ⟨r2, e2, ps', hrest, pv2⟩ := hok2 u s' h2
        refine ⟨by simpa [compNames, hk] using r2, Ext.trans e1 e2, ps', ⟨by omega, ?_, ?_⟩, ?_⟩
        · refine bytesAt_frame (bytesAt_writeAt _ _ _ hsz) (fun i _ h2 => e2.pre i ?_)
          rw [List.length_take] at h2; rw [hc1]; omega
        · rw [← hc1, ← e1.mode]; exact hrest
        · exact pv2

/-! ### one record -/

/-- **the owner of one record, from `WInv` alone**: the name writer ran from the old cursor to `sB`
    (valid again) and left the owner there; nothing below `sB.cursor` changes afterwards; the fixed
    fields follow, and RDLENGTH counts what follows it -/
theorem addRr_owner {hint : Hint} {owner : WName} {ty cls ttl : Nat} {rd : List UInt8} {s s' : State}
    (hw : WInv s) (hwf : owner.WF) (hh : HintOK s hint owner)
    (h : addRr hint owner ty cls ttl rd s = (.ok (), s')) :
    ∃ p sB, writeHintedName hint owner { s with gCtx := .owner } = (.ok p, sB) ∧ WInv sB ∧
      NameAdded { s with gCtx := .owner } sB owner ∧ s.cursor ≤ sB.cursor ∧
      (∀ i, i < sB.cursor → s'.octets[i]? = sB.octets[i]?) ∧ (∀ g ∈ sB.gLabels, g ∈ s'.gLabels) ∧
      BytesAt s'.octets sB.cursor (fixedFields ty cls ttl) ∧ sB.cursor + 10 ≤ s'.cursor ∧
      be16 s'.octets (sB.cursor + 8) = (s'.cursor - (sB.cursor + 10)) % 65536 := by
  obtain ⟨p, sB, sR, hB, _, z4, hR, cR, zR, rfl⟩ := addRr_eq_ok.mp h
  have e1 := ext_setCtx s .owner
  have hs := writeHintedName_spec hint owner _ (winv_ext hw e1 rfl rfl rfl rfl) hwf (hintOK_ext hh e1 rfl rfl rfl rfl)
  have hf := frame_writeHintedName hint owner { s with gCtx := .owner }
  rw [hB] at hs hf
  have eR : Ext (rdStart sB p ty cls ttl) sR := by
    have := frame_writeRdata cls ty rd (rdStart sB p ty cls ttl); rw [hR] at this; exact this
  -- RDLENGTH as an opaque list of two octets
  generalize hL : u16be ((sR.cursor - (sB.cursor + 10)) % 65536) = L
  have lL : L.length = 2 := by rw [← hL]; rfl
  have pR : ∀ i, i < sB.cursor + 8 → (writeAt sR.octets (sB.cursor + 8) L)[i]? = (rdStart sB p ty cls ttl).octets[i]? :=
    fun i hi => (writeAt_get_lt _ _ _ _ hi).trans (eR.pre i (by rw [rdStart_cursor]; omega))
  refine ⟨p, sB, hB, (hs.ok p rfl).1, hs.added hwf hf.cur rfl, hf.cur, fun i hi => ?_, fun g hg => eR.glab g hg, ?_, cR, ?_⟩
  · show (writeAt sR.octets (sB.cursor + 8) L)[i]? = _
    rw [pR i (by omega), rdStart_octets]; exact writeAt_get_lt _ _ _ _ hi
  · exact bytesAt_frame (oct := (rdStart sB p ty cls ttl).octets)
      (by rw [rdStart_octets]; exact bytesAt_writeAt _ _ _ (by rw [fixedFields_length]; exact z4))
      (fun i _ h2 => pR i (by rw [fixedFields_length] at h2; exact h2))
  · show be16 (writeAt sR.octets (sB.cursor + 8) L) _ = (sR.cursor - _) % 65536
    rw [← hL]
    exact be16_of_bytesAt (bytesAt_writeAt _ _ _ (by rw [hL, lL]; omega)) (Nat.mod_lt _ (by omega))

/-- **what a successful `add_rr` has added** to a valid state `s`: the owner as an item of `k`
    octets at the old cursor, holding the name given; TYPE, CLASS, TTL; RDLENGTH = the octets that
    follow; the RDATA part by part along the component list `ts` of the type, its names at `ps`; and
    every label start recorded meanwhile lies in the owner or in one of those names -/
structure Added (s s' : State) (owner : WName) (ty cls ttl : Nat) (rd : List UInt8)
    (k : Nat) (ts : List CompType) (ps : List Nat) : Prop where
  ext : Ext s s'
  item : Item s' s.cursor k
  owner : NameIs s' s.cursor s.mode owner
  fixed : BytesAt s'.octets (s.cursor + k) (u16be ty ++ u16be cls ++ u32be ttl)
  room : s.cursor + k + 10 ≤ s'.cursor
  rdlen : be16 s'.octets (s.cursor + k + 8) = (s'.cursor - (s.cursor + k + 10)) % 65536
  types : componentTypes cls ty = some ts
  rdata : RdAt s' s.mode ts rd (s.cursor + k + 10) s'.cursor ps
  labels : ∀ g, g ∈ s'.gLabels → g ∈ s.gLabels ∨ ∃ a ∈ s.cursor :: ps, PhysLab s'.octets a g

/-- **one record, everything at once.** From an intermediate state of a call (`RecSt`), with a
    well-formed owner and a valid hint, a successful `add_rr` leaves an intermediate state again
    and has `Added` the record -/
theorem addRr_added {track : Prop} {s0 s s' : State} {names loc : List WName} {o : Option Prior}
    {on : Option WName} (hint : Hint) (owner : WName) (ty cls ttl : Nat) (rd : List UInt8)
    (hrec : RecSt track s0 s names loc o on) (hwf : owner.WF) (hh : HintOK s hint owner)
    (h : addRr hint owner ty cls ttl rd s = (.ok (), s')) :
    ∃ p k ts ps, RecSt track s0 s' (names ++ rdataNames cls ty rd) (rdataNames cls ty rd) p (some owner) ∧
      Added s s' owner ty cls ttl rd k ts ps := by
  obtain ⟨p, sB, hB, _, na, hcB, pB, gB, fx, hlen, hb⟩ := addRr_owner hrec.winv hwf hh h
  obtain ⟨p', sB', sR, hB', a4, z4, hR, cR, zR, hs'⟩ := addRr_eq_ok.mp h
  obtain ⟨rfl, rfl⟩ : p = p' ∧ sB = sB' := by rw [hB] at hB'; cases hB'; exact ⟨rfl, rfl⟩
  have hk : s.cursor + (sB.cursor - s.cursor) = sB.cursor := by omega
  -- the state in which the component loop starts is an intermediate state of the call
  generalize hD : ({ sB with gCtx := NameCtx.none, mostRecentOwner := p } : State) = sD
  have rD : RecSt track s0 sD names [] p (some owner) := by
    obtain ⟨q, r⟩ := ((sp_ownerBlock (track := track) (s0 := s0) (names := names) (loc := loc) (o := o) (on := on)
      hint owner hwf) s ⟨hrec, hh⟩).2 () sD (M.bind_eq_ok.mpr ⟨(), _, rfl, M.bind_eq_ok.mpr ⟨p, sB, hB,
        M.bind_eq_ok.mpr ⟨(), { sB with gCtx := .none }, rfl, by rw [← hD]; rfl⟩⟩⟩)
    have : p = q := by rw [← r.own, ← hD]
    rw [this]; exact r
  generalize h4 : pushed sD (fixedFields ty cls ttl) = s4
  have cD : sD.cursor = sB.cursor := by rw [← hD]
  have c4 : s4.cursor = sB.cursor + 8 := by rw [← h4, pushed_cursor, fixedFields_length, cD]
  have v4 : s4.available = sB.available := by rw [← h4, pushed_available, ← hD]
  have r4 : RecSt track s0 s4 names [] p (some owner) :=
    ((sp_tryPush_rec (fixedFields ty cls ttl)) sD rD).2 () s4 (tryPush_eq_ok.mpr
      ⟨by rw [fixedFields_length, cD, ← hD]; show sB.cursor + 8 ≤ sB.available; omega,
        by rw [fixedFields_length, cD, ← hD]; exact z4, h4.symm⟩)
  have hm4 : s4.mode = s.mode := r4.ext.mode.trans hrec.ext.mode.symm
  have r5 : RecSt track s0 { s4 with cursor := s4.cursor + 2 } names [] p (some owner) :=
    recSt_reserve r4 (by omega)
  rw [rdStart_eq sB p ty cls ttl (s4 := s4) (by rw [← h4, ← hD])] at hR
  unfold writeRdata at hR
  cases hct : componentTypes cls ty with
  | none => rw [hct] at hR; cases hR
  | some ts =>
    rw [hct] at hR
    obtain ⟨rR, eR, ps, hrd, pv⟩ := (writeComponents_spec ts rd names [] p (some owner) _ r5).2 () sR hR
    -- RDLENGTH, an opaque list of two octets, written back
    generalize hL : u16be ((sR.cursor - (sB.cursor + 10)) % 65536) = L at hs'
    have lL : L.length = 2 := by rw [← hL]; rfl
    rw [show sB.cursor + 8 = s4.cursor by omega] at hs'
    have cs : s'.cursor = sR.cursor := by rw [hs']
    have gs : s'.gLabels = sR.gLabels := by rw [hs']
    have e' : Ext s s' := by
      have hs := frame_addRr hint owner ty cls ttl rd s
      rw [h] at hs; exact hs
    obtain ⟨hit, hnm, hlab⟩ := na.mono hcB pB (by omega) gB
    have hrd' := rdAt_patch r4.winv L lL eR hrd (Nat.le_refl _)
    rw [← hs'] at hrd'
    refine ⟨p, sB.cursor - s.cursor, ts, ps, ?_, e', hit, hnm, by rw [hk, ← fixedFields_eq]; exact fx,
      by rw [hk]; exact hlen, by rw [hk]; exact hb, hct, ?_, fun g hg => ?_⟩
    · have : rdataNames cls ty rd = compNames ts rd := by unfold rdataNames; rw [hct]
      rw [this, hs']
      exact recSt_patch (by simpa using rR) (fun q ls hst => storedAt_patch r4.winv _ lL eR q ls hst)
        (fun g hc => cstored_patch r4.winv _ lL eR g hc) (by rw [← hs']; exact Ext.trans hrec.ext e') rfl rfl
        (by simp) rfl rfl rfl rfl rfl rfl
    · rw [hk, show sB.cursor + 10 = s4.cursor + 2 by omega, cs, ← hm4]
      exact hrd'
    · rw [gs] at hg
      rcases pv g hg with h5 | ⟨a, ha, h5⟩
      · rcases hlab g (by rw [← h4, ← hD] at h5; exact h5) with h6 | h6
        · exact Or.inl h6
        · exact Or.inr ⟨s.cursor, List.mem_cons_self, h6⟩
      · obtain ⟨hpa, k, hck, _⟩ := rdAt_chunk hrd a ha
        refine Or.inr ⟨a, List.mem_cons_of_mem _ ha, ?_⟩
        rw [hs']
        exact physLab_frame hck h5 (fun i h4' _ =>
          writeAt_get_ge _ _ _ _ (by rw [lL]; have : s4.cursor + 2 ≤ a := hpa; omega))

/-- RDLENGTH reserved, the RDATA written component by component, RDLENGTH written back: no panic -/
theorem sp_rdataBlock {track : Prop} {s0 : State} {names : List WName} {o : Option Prior}
    {on : Option WName} (cls ty : Nat) (rd : List UInt8) :
    Sp (fun s => RecSt track s0 s names [] o on)
      (do let av ← M.gets (·.available)
          let rdlengthStart ← M.gets (·.cursor)
          if av < rdlengthStart then M.panic
          else if av - rdlengthStart < 2 then M.fail .Truncation
          else do
            M.modify fun s => { s with cursor := s.cursor + 2 }
            writeRdata cls ty rd
            let cur' ← M.gets (·.cursor)
            if cur' < rdlengthStart + 2 then M.panic
            else write rdlengthStart (u16be ((cur' - rdlengthStart - 2) % 65536)))
      (fun _ _ => True) := by
  intro s h
  rw [M.gets_bind, M.gets_bind]
  have hav := h.winv.cur_av; have hsz := h.winv.av_size
  rw [if_neg (by omega)]
  by_cases hfit : s.available - s.cursor < 2
  · rw [if_pos hfit]; exact ⟨by simp, fun _ _ _ => trivial⟩
  rw [if_neg hfit]
  refine M.bind_total (by simp) fun _ s1 h1 => ?_
  obtain rfl : s1 = { s with cursor := s.cursor + 2 } := by cases h1; rfl
  obtain ⟨ts, hct⟩ := componentTypes_total cls ty
  refine M.bind_total ?_ fun _ s2 h2 => ?_
  · unfold writeRdata; rw [hct]
    exact (writeComponents_spec ts rd names [] o on _ (recSt_reserve h (by omega))).1
  · have hfr := frame_writeRdata cls ty rd { s with cursor := s.cursor + 2 }
    rw [h2] at hfr
    have hc2 : s.cursor + 2 ≤ s2.cursor := hfr.cur
    rw [M.gets_bind, if_neg (by omega)]
    have hlen : (u16be ((s2.cursor - s.cursor - 2) % 65536)).length = 2 := rfl
    rcases write_cases s.cursor (u16be ((s2.cursor - s.cursor - 2) % 65536)) s2 with hw | ⟨_, hw⟩
    · have hsz2 : s2.octets.size = s.octets.size := hfr.size
      have : s.cursor + 2 ≤ s2.octets.size := by omega
      unfold write at hw
      rw [if_pos (by rw [hlen]; exact this)] at hw
      cases hw
    · rw [hw]; exact ⟨by simp, fun _ _ _ => trivial⟩

theorem sp_exists_lift {α β} {A B : β → State → Prop} {f : M α}
    (h : ∀ p, Sp (A p) f (fun _ s' => B p s')) :
    Sp (fun s => ∃ p, A p s) f (fun _ s' => ∃ p, B p s') := by
  intro s ⟨p, hp⟩
  obtain ⟨a, b⟩ := h p s hp
  exact ⟨a, fun x s' hx => ⟨p, b x s' hx⟩⟩

theorem addRr_eq (hint : Hint) (owner : WName) (ty cls ttl : Nat) (rd : List UInt8) :
    addRr hint owner ty cls ttl rd =
      ((do setCtx .owner
           let p ← writeHintedName hint owner
           setCtx .none
           M.modify fun s => { s with mostRecentOwner := p }) >>= fun _ =>
       tryPushU16 ty >>= fun _ => tryPushU16 cls >>= fun _ => tryPushU32 ttl >>= fun _ =>
       (do let av ← M.gets (·.available)
           let rdlengthStart ← M.gets (·.cursor)
           if av < rdlengthStart then M.panic
           else if av - rdlengthStart < 2 then M.fail .Truncation
           else do
             M.modify fun s => { s with cursor := s.cursor + 2 }
             writeRdata cls ty rd
             let cur' ← M.gets (·.cursor)
             if cur' < rdlengthStart + 2 then M.panic
             else write rdlengthStart (u16be ((cur' - rdlengthStart - 2) % 65536)))) := by
  unfold addRr
  simp only [M.bind_assoc]

/-- **one record.** From a valid state, with a well-formed owner and a valid hint, `add_rr` does
    not panic; on success the state is valid, an extension of the state the call started in,
    the owner anchor denotes the owner, the RDATA anchor the last name inside the RDATA (if any)
    and the `HintPointerVec` the names inside RDATA in order. -/
theorem sp_addRr {track : Prop} {s0 : State} {names : List WName} (hint : Hint) (owner : WName)
    (ty cls ttl : Nat) (rd : List UInt8) (hwf : owner.WF) :
    Sp (fun s => ∃ loc o on, RecSt track s0 s names loc o on ∧ HintOK s hint owner)
      (addRr hint owner ty cls ttl rd)
      (fun _ s' => ∃ p, RecSt track s0 s' (names ++ rdataNames cls ty rd) (rdataNames cls ty rd) p
        (some owner)) := by
  intro s ⟨loc, o, on, h, hh⟩
  refine ⟨?_, fun _ s' hr => ?_⟩
  · rw [addRr_eq]
    exact ((sp_bind (sp_ownerBlock (track := track) (s0 := s0) (names := names) (loc := loc) (o := o) (on := on)
      hint owner hwf) fun _ =>
      sp_bind (sp_exists_lift fun p => sp_tryPush_rec (u16be ty)) fun _ =>
      sp_bind (sp_exists_lift fun p => sp_tryPush_rec (u16be cls)) fun _ =>
      sp_bind (sp_exists_lift fun p => sp_tryPush_rec (u32be ttl)) fun _ =>
      sp_exists_lift (B := fun _ _ => True) fun p => sp_rdataBlock cls ty rd) s ⟨h, hh⟩).1
  · obtain ⟨p, _, _, _, hrec, _⟩ := addRr_added hint owner ty cls ttl rd h hwf hh hr
    exact ⟨p, hrec⟩

theorem recSt_ownerHint {track : Prop} {s0 s : State} {names loc : List WName} {p : Option Prior}
    {owner : WName} (h : RecSt track s0 s names loc p (some owner)) : HintOK s .mostRecentOwner owner := by
  intro q hq
  rw [h.own] at hq
  exact h.ownDen owner rfl q hq

/-- **an RRset**: one record after the other, the later ones with `Hint::MostRecentOwner`; the names
    of the current record are those of the last RDATA -/
theorem sp_addRrset {track : Prop} {s0 : State} (owner : WName) (ty cls ttl : Nat) (hwf : owner.WF) :
    ∀ (rds : List (List UInt8)) (hint : Hint) (n : Nat) (names loc0 : List WName) (on0 : Option WName),
    Sp (fun s => ∃ o, RecSt track s0 s names loc0 o on0 ∧ HintOK s hint owner)
      (addRrset hint owner ty cls ttl rds n)
      (fun _ s' => ∃ p on, RecSt track s0 s' (names ++ rds.flatMap (rdataNames cls ty))
          ((rds.getLast?.map (rdataNames cls ty)).getD loc0) p on ∧
        (rds ≠ [] → on = some owner) ∧ (rds = [] → on = on0)) := by
  intro rds
  induction rds with
  | nil =>
    intro hint n names loc0 on0
    unfold addRrset
    intro s ⟨o, h, _⟩
    exact ⟨by simp, fun a s' hh => by
      cases hh; exact ⟨o, on0, by simpa using h, fun h => absurd rfl h, fun _ => rfl⟩⟩
  | cons rd rds ih =>
    intro hint n names loc0 on0
    unfold addRrset
    refine sp_bind (sp_weaken (sp_addRr hint owner ty cls ttl rd hwf)
      (fun s ⟨o, h, hh⟩ => ⟨loc0, o, on0, h, hh⟩) (fun _ _ h => h)) fun _ => ?_
    have := ih .mostRecentOwner (n + 1) (names ++ rdataNames cls ty rd) (rdataNames cls ty rd) (some owner)
    refine sp_weaken this ?_ ?_
    · intro s ⟨p, h⟩
      exact ⟨p, h, recSt_ownerHint h⟩
    · intro a s ⟨p, on, h, hon, hon0⟩
      refine ⟨p, on, ?_, fun _ => ?_, fun h => by cases h⟩
      · cases rds with
        | nil => simpa using h
        | cons x xs =>
          obtain ⟨y, hy⟩ : ∃ y, (x :: xs).getLast? = some y := ⟨_, List.getLast?_eq_some_getLast (by simp)⟩
          simpa [List.append_assoc, List.getLast?_cons_cons, hy] using h
      · cases rds with
        | nil => exact hon0 rfl
        | cons _ _ => exact hon (by simp)

end QV.Writer
