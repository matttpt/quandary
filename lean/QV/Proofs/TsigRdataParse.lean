/-
  QV.Proofs.TsigRdataParse — the TSIG RDATA the writer serialises (`tsigRdata`) parses back to its
  fields under the specification's RFC 8945 §4.2 reader `Spec.Tsig.parseRdata`.
-/
import QV.Proofs.ServerNames
import QV.Proofs.ServerTsig

namespace QV.ServerContent
open QV QV.Wire QV.Writer QV.Server QV.ServerSafety QV.Spec QV.ServerTsig

theorem splitNameAux_wire (rest : List UInt8) : ∀ (ls : List Label), (∀ l ∈ ls, 1 ≤ l.length ∧ l.length ≤ 63) →
    ∀ fuel, ls.length + 1 ≤ fuel → Spec.Tsig.splitNameAux fuel (ls.flatMap WName.encLabel ++ 0 :: rest) = some (ls, rest) := by
  intro ls
  induction ls with
  | nil =>
    intro _ fuel hf
    cases fuel with
    | zero => omega
    | succ f => simp [Spec.Tsig.splitNameAux]
  | cons l r ih =>
    intro hl fuel hf
    cases fuel with
    | zero => omega
    | succ f =>
      obtain ⟨h1, h2⟩ := hl l (by simp)
      have hlen : (UInt8.ofNat l.length).toNat = l.length := by
        simp only [UInt8.toNat_ofNat', Nat.reducePow]; omega
      have hne : UInt8.ofNat l.length ≠ 0 := by
        intro h; rw [h] at hlen; have : (0 : UInt8).toNat = 0 := rfl; omega
      simp only [List.flatMap_cons, WName.encLabel, List.cons_append, List.append_assoc, Spec.Tsig.splitNameAux, hne, if_false, hlen]
      rw [if_neg (by simp only [List.length_append]; omega)]
      rw [List.drop_left' rfl, List.take_left' rfl]
      rw [ih (fun x hx => hl x (by simp [hx])) f (by simp only [List.length_cons] at hf; omega)]
      rfl

theorem splitName_wire (n : WName) (h : n.WF) (rest : List UInt8) :
    Spec.Tsig.splitName (n.wire ++ rest) = some (n.labels, rest) := by
  obtain ⟨hl, hw⟩ := h
  unfold Spec.Tsig.splitName
  have : n.wire ++ rest = n.labels.flatMap WName.encLabel ++ 0 :: rest := by
    unfold WName.wire; simp
  have hwl : n.labels.length + 1 ≤ (n.wire ++ rest).length + 1 := by
    have := Writer.flatMap_enc_length_ge n.labels
    unfold WName.wire
    simp only [List.length_append, List.length_cons, List.length_nil]
    omega
  rw [this] at hwl ⊢
  rw [splitNameAux_wire rest n.labels (fun l hl' => ⟨(hl l hl').1, (hl l hl').2⟩) _ hwl]
  simp only
  rw [if_pos]
  rw [← this]
  simp only [List.length_append]
  have : Gen.MAX_WIRE_LEN = 255 := rfl
  omega


theorem field16_u16be (n : Nat) (rest : List UInt8) : Spec.Tsig.field16 (u16be n ++ rest) 0 = n % 65536 := by
  simp only [Spec.Tsig.field16, u16be, List.cons_append, List.nil_append, List.getD_cons_zero, List.getD_cons_succ,
    UInt8.toNat_ofNat', Nat.reducePow]
  omega

/-- a field after a prefix is the field of what follows the prefix -/
theorem field16_skip (a b : List UInt8) (i : Nat) : Spec.Tsig.field16 (a ++ b) (a.length + i) = Spec.Tsig.field16 b i := by
  unfold Spec.Tsig.field16
  simp only [List.getD_eq_getElem?_getD, Nat.add_assoc, List.getElem?_append_right (Nat.le_add_right _ _),
    Nat.add_sub_cancel_left]

theorem drop_skip {α : Type} (a b : List α) (k : Nat) : (a ++ b).drop (a.length + k) = b.drop k := by
  rw [← List.drop_drop, List.drop_left' rfl]

end QV.ServerContent

namespace QV.ServerScan
open QV QV.Wire QV.Writer

/-- what `Spec.Tsig.parseRdata` returns on RDATA of the RFC 8945 §4.2 layout, in terms of the octets -/
def fieldsOf (alg : List (List UInt8)) (rest : List UInt8) : Spec.Tsig.RdataFields :=
  let ms := Spec.Tsig.field16 rest 8
  let r3 := (rest.drop 10).drop ms
  ⟨alg, Spec.Tsig.nat48 rest, Spec.Tsig.field16 rest 6, (rest.drop 10).take ms, Spec.Tsig.field16 r3 0,
   Spec.Tsig.field16 r3 2, r3.drop 6⟩

theorem parseRdata_layout (alg : WName) (halg : alg.WF) (rest : List UInt8) (h10 : 10 ≤ rest.length)
    (hms : Spec.Tsig.field16 rest 8 + 16 ≤ rest.length)
    (hol : rest.length = Spec.Tsig.field16 rest 8 + 16 +
      Spec.Tsig.field16 ((rest.drop 10).drop (Spec.Tsig.field16 rest 8)) 4) :
    Spec.Tsig.parseRdata (alg.wire ++ rest) = some (fieldsOf alg.labels rest) := by
  unfold Spec.Tsig.parseRdata
  rw [ServerContent.splitName_wire alg halg rest]
  simp only
  rw [if_neg (by omega), if_neg (by simp only [List.length_drop]; omega)]
  rw [if_neg (by simp only [List.length_drop, ne_eq]; omega)]
  rfl

end QV.ServerScan

namespace QV.ServerContent
open QV QV.Wire QV.Writer QV.Server QV.ServerSafety QV.Spec QV.ServerTsig QV.ServerScan

/-- the serialised layout `time ‖ fudge ‖ MAC length ‖ MAC ‖ original ID ‖ error ‖ other length ‖ other` read
    field by field -/
theorem fieldsOf_build (alg : List (List UInt8)) (ts : List UInt8) (ht : ts.length = 6)
    (fudge oid err : Nat) (mac other : List UInt8) (hmac : mac.length < 65536) (hol : other.length < 65536) :
    let r3 := u16be oid ++ (u16be err ++ (u16be other.length ++ other))
    let rest := ts ++ (u16be fudge ++ (u16be mac.length ++ (mac ++ r3)))
    Spec.Tsig.field16 rest 8 = mac.length ∧ (rest.drop 10).drop mac.length = r3 ∧
    Spec.Tsig.field16 r3 4 = other.length ∧
    fieldsOf alg rest = ⟨alg, Spec.Tsig.nat48 ts, fudge % 65536, mac, oid % 65536, err % 65536, other⟩ := by
  intro r3 rest
  have l2 : ∀ n, (u16be n).length = 2 := fun _ => rfl
  have h8 : Spec.Tsig.field16 rest 8 = mac.length := by
    rw [show 8 = ts.length + ((u16be fudge).length + 0) by rw [ht, l2], field16_skip, field16_skip, field16_u16be]
    omega
  have h6 : Spec.Tsig.field16 rest 6 = fudge % 65536 := by
    rw [show 6 = ts.length + 0 by rw [ht], field16_skip, field16_u16be]
  have hd10 : rest.drop 10 = mac ++ r3 := by
    rw [show 10 = ts.length + ((u16be fudge).length + ((u16be mac.length).length + 0)) by rw [ht, l2, l2],
      drop_skip, drop_skip, drop_skip, List.drop_zero]
  have hd : (rest.drop 10).drop mac.length = r3 := by rw [hd10, List.drop_left' rfl]
  have h4 : Spec.Tsig.field16 r3 4 = other.length := by
    rw [show 4 = (u16be oid).length + ((u16be err).length + 0) by rw [l2, l2], field16_skip, field16_skip, field16_u16be]
    omega
  have hn : Spec.Tsig.nat48 rest = Spec.Tsig.nat48 ts := by
    unfold Spec.Tsig.nat48; rw [List.take_left' ht, ← ht, List.take_length]
  refine ⟨h8, hd, h4, ?_⟩
  unfold fieldsOf
  simp only [h8, h6, hd, hn]
  rw [hd10, List.take_left' rfl, field16_u16be,
    show 2 = (u16be oid).length + 0 by rw [l2], field16_skip, field16_u16be,
    show 6 = (u16be oid).length + ((u16be err).length + ((u16be other.length).length + 0)) by rw [l2, l2, l2],
    drop_skip, drop_skip, drop_skip, List.drop_zero]

theorem parseRdata_build (alg : WName) (halg : alg.WF) (ts : List UInt8) (ht : ts.length = 6)
    (fudge oid err : Nat) (mac other : List UInt8) (hmac : mac.length < 65536) (hol : other.length < 65536) :
    Spec.Tsig.parseRdata (alg.wire ++ ts ++ u16be fudge ++ u16be mac.length ++ mac ++ u16be oid ++ u16be err ++
        u16be other.length ++ other) =
      some ⟨alg.labels, Spec.Tsig.nat48 ts, fudge % 65536, mac, oid % 65536, err % 65536, other⟩ := by
  obtain ⟨h8, hd, h4, hf⟩ := fieldsOf_build alg.labels ts ht fudge oid err mac other hmac hol
  have l2 : ∀ n, (u16be n).length = 2 := fun _ => rfl
  simp only [List.append_assoc]
  rw [parseRdata_layout alg halg _ (by simp only [List.length_append, ht, l2]; omega)
    (by rw [h8]; simp only [List.length_append, ht, l2]; omega)
    (by rw [h8, hd, h4]; simp only [List.length_append, ht, l2]; omega), hf]

/-- **the TSIG RDATA the writer serialises parses back to its fields** (RFC 8945 §4.2 reader of the
    specification on `serialize_tsig_unchecked`'s octets) -/
theorem parseRdata_tsigRdata (rr : TsigRr) (alg : WName) (mac : List UInt8) (halg : alg.WF)
    (ht : rr.timeSigned.length = 6) (hs : rr.serverTime.length = 6) (hmac : mac.length < 65536) :
    Spec.Tsig.parseRdata (tsigRdata rr alg mac) =
      some ⟨alg.labels, Spec.Tsig.nat48 rr.timeSigned, rr.fudge % 65536, mac, rr.originalId % 65536, rr.error % 65536,
        if rr.error = XR_BADTIME then rr.serverTime else []⟩ := by
  unfold tsigRdata
  exact parseRdata_build alg halg rr.timeSigned ht rr.fudge rr.originalId rr.error mac _ hmac (by
    split
    · rw [hs]; omega
    · simp)

end QV.ServerContent
