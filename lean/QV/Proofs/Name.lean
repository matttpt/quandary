/-
  QV.Proofs.Name — lemmas for C16 (name text form, equality, ordering).

  Everything is proved over `toWire n` for a label list `n` (the spec's representation), by
  induction on labels / octets / tokens:
  * wire-form walking (`labelsOf`, `labelOffset`) on `toWire n`;
  * the builder as an abstract pair (finished labels, label under construction): `stateOf`,
    invariant `InvDC`, one lemma per operation; each operation makes the step of the spec's reference
    builder (`stepOf`, `*_ref`, `InvDC.*`); `runToks_iff`;
  * the text loop = spec tokenizer ∘ builder (`fromStrLoop_iff`), acceptance `fromStr_iff`,
    no panic;
  * the declarative grammar `Denotes` ⇔ the executable `parseText`;
  * `Display` prints a text that denotes the name ⇒ the round trip `fromStr_textOf`.
-/
import QV.Model.Name
import QV.Spec.NameText
import QV.Proofs.Codes
import QV.Proofs.Wire
namespace QV.Name
open QV QV.Spec.NameText
open QV.Codes (Text isDigit ofNat_digit_toNat)
open QV.Wire (consts)

/-- the wire form without its terminator -/
def body (n : DName) : List UInt8 := n.flatMap (fun l => UInt8.ofNat l.length :: l)

/-- every label has 1..63 octets (the length limit of `ValidName` without the 255-octet total) -/
def LabelsOK (n : DName) : Prop := ∀ l ∈ n, 1 ≤ l.length ∧ l.length ≤ 63

theorem toWire_eq (n : DName) : toWire n = body n ++ [0] := rfl

@[simp] theorem body_nil : body [] = [] := rfl
@[simp] theorem body_cons (l : Label) (n : DName) : body (l :: n) = UInt8.ofNat l.length :: l ++ body n := by
  simp [body]
@[simp] theorem body_append (a b : DName) : body (a ++ b) = body a ++ body b := by
  simp [body]

theorem toWire_cons (l : Label) (n : DName) : toWire (l :: n) = UInt8.ofNat l.length :: l ++ toWire n := by
  simp [toWire_eq]

theorem body_length (n : DName) : (body n).length = (n.map (fun l => l.length + 1)).sum := by
  induction n with
  | nil => rfl
  | cons l n ih => simp [ih]; omega

theorem toWire_length (n : DName) : (toWire n).length = wireLength n := by
  simp [toWire_eq, body_length, wireLength]

theorem LabelsOK.tail {l : Label} {n : DName} (h : LabelsOK (l :: n)) : LabelsOK n :=
  fun x hx => h x (List.mem_cons_of_mem _ hx)

theorem labelsOf_toWire (n : DName) (h : LabelsOK n) : labelsOf (toWire n) = n ++ [[]] := by
  induction n with
  | nil => simp [toWire, labelsOf]
  | cons l n ih =>
    have hl := h l (by simp)
    rw [toWire_cons, List.cons_append, labelsOf]
    simp only [ofNat_len_ne_zero hl.1 hl.2, ↓reduceIte, ofNat_len_toNat hl.2]
    simp [ih h.tail]

theorem nLabels_toWire (n : DName) (h : LabelsOK n) : nLabels (toWire n) = n.length + 1 := by
  simp [nLabels, labelsOf_toWire n h]

theorem labelOffset_toWire (n : DName) (h : LabelsOK n) (k : Nat) (hk : k ≤ n.length) :
    labelOffset (toWire n) k = (body (n.take k)).length := by
  induction k generalizing n with
  | zero => cases n <;> simp [labelOffset]
  | succ k ih =>
    cases n with
    | nil => simp at hk
    | cons l n =>
      have hl := h l (by simp)
      rw [toWire_cons, List.cons_append, labelOffset]
      simp only [ofNat_len_toNat hl.2]
      simp at hk
      simp [ih n h.tail hk]; omega

theorem drop_labelOffset_toWire (n : DName) (h : LabelsOK n) (k : Nat) (hk : k ≤ n.length) :
    (toWire n).drop (labelOffset (toWire n) k) = toWire (n.drop k) := by
  rw [labelOffset_toWire n h k hk]
  conv => lhs; arg 2; rw [← List.take_append_drop k n]
  rw [toWire_eq, body_append, List.append_assoc, List.drop_left, toWire_eq]

theorem take_labelOffset_toWire (n : DName) (h : LabelsOK n) (k : Nat) (hk : k ≤ n.length) :
    (toWire n).take (labelOffset (toWire n) k) = body (n.take k) := by
  rw [labelOffset_toWire n h k hk]
  conv => lhs; arg 2; rw [← List.take_append_drop k n]
  rw [toWire_eq, body_append, List.append_assoc, List.take_left]



/-! ### the builder, abstractly: finished labels + the label under construction -/

/-- the label-offset table for the labels of `n` and one more label after them -/
def offsetsList (n : DName) : List Nat := (List.range (n.length + 1)).map (fun i => (body (n.take i)).length)

/-- the builder after the labels `done` have been finished and the octets `cur` pushed onto the next one:
    wire form so far with a placeholder length octet for `cur`, offsets of all label starts -/
def stateOf (done : DName) (cur : Label) : Builder :=
  ⟨body done ++ 0 :: cur, offsetsList done, (body done).length, cur.length⟩

/-- the states the builder can reach: finished labels well formed, current label and wire form within bounds -/
structure InvDC (done : DName) (cur : Label) : Prop where
  ok : LabelsOK done
  cl : cur.length ≤ 63
  sz : (body done).length + 1 + cur.length ≤ 255

theorem new_eq : Builder.new = stateOf [] [] := by
  simp [Builder.new, stateOf, offsetsList]

theorem offsetsList_snoc (done : DName) (cur : Label) :
    offsetsList (done ++ [cur]) = offsetsList done ++ [(body done).length + 1 + cur.length] := by
  unfold offsetsList
  simp only [List.length_append, List.length_cons, List.length_nil]
  rw [List.range_succ, List.map_append]
  congr 1
  · apply List.map_congr_left
    intro i hi
    simp at hi
    rw [List.take_append_of_le_length (by omega)]
  · have : (done ++ [cur]).take (done.length + 1) = done ++ [cur] := List.take_of_length_le (by simp)
    simp [this]; omega

theorem two_mul_length_le_body (n : DName) (h : LabelsOK n) : 2 * n.length ≤ (body n).length := by
  induction n with
  | nil => simp
  | cons l n ih =>
    have := h l (by simp)
    have := ih h.tail
    simp; omega

theorem labelOffsets_toWire (n : DName) (h : LabelsOK n) : labelOffsets (toWire n) = offsetsList n := by
  unfold labelOffsets offsetsList
  rw [nLabels_toWire n h]
  apply List.map_congr_left
  intro i hi
  simp at hi
  exact labelOffset_toWire n h i (by omega)

theorem tryPush_stateOf (done : DName) (cur : Label) (o : UInt8) :
    (stateOf done cur).tryPush o =
      if cur.length ≥ 63 then (stateOf done cur, .err .LabelTooLong)
      else if (body done).length + 1 + cur.length < 255 then (stateOf done (cur ++ [o]), .ok ())
      else (stateOf done cur, .err .NameTooLong) := by
  obtain ⟨c1, c2, _⟩ := consts
  unfold Builder.tryPush
  simp only [stateOf, c1, c2, List.length_append, List.length_cons]
  split
  · rfl
  · split
    · rw [if_pos (by omega)]; simp
    · rw [if_neg (by omega)]

theorem nextLabel_stateOf (done : DName) (cur : Label) (h : InvDC done cur) :
    (stateOf done cur).nextLabel =
      if cur = [] then (stateOf done cur, .err .NullNonTerminal)
      else if (body done).length + 1 + cur.length ≥ 255 then (stateOf done cur, .err .NameTooLong)
      else (stateOf (done ++ [cur]) [], .ok ()) := by
  obtain ⟨c1, c2, c3⟩ := consts
  have hq : (stateOf done cur).isFullyQualified = decide (cur = []) := by
    cases cur <;> simp [Builder.isFullyQualified, stateOf]
  have hlen : (stateOf done cur).wire.length = (body done).length + 1 + cur.length := by
    simp [stateOf]; omega
  unfold Builder.nextLabel
  rw [hq, hlen, c2, c3]
  by_cases hc : cur = []
  · simp [hc]
  · have hpos : 0 < cur.length := List.length_pos_iff.mpr hc
    simp only [hc, decide_false, Bool.false_eq_true, ↓reduceIte]
    by_cases hsz : (body done).length + 1 + cur.length ≥ 255
    · simp only [hsz, ↓reduceIte]
    · simp only [hsz, ↓reduceIte]
      have hset : (body done ++ 0 :: cur).set (body done).length (UInt8.ofNat cur.length)
          = body done ++ UInt8.ofNat cur.length :: cur := by
        rw [List.set_append_right _ _ (by omega)]; simp
      have hup : (stateOf done cur).updateLabelLen = some (body done ++ UInt8.ofNat cur.length :: cur) := by
        unfold Builder.updateLabelLen
        have : (stateOf done cur).labelStart < (stateOf done cur).wire.length := by
          rw [hlen]; simp [stateOf]; omega
        rw [if_pos this]
        simp only [stateOf]
        rw [hset]
      rw [hup]
      simp only
      have hoff : (stateOf done cur).offsets.length = done.length + 1 := by simp [stateOf, offsetsList]
      have h2 := two_mul_length_le_body done h.ok
      rw [if_neg (by rw [hoff]; omega)]
      simp [stateOf, offsetsList_snoc, List.append_assoc]
      omega

theorem finish_stateOf (done : DName) (cur : Label) :
    (stateOf done cur).finish =
      if cur = [] then .ok ⟨toWire done, offsetsList done⟩ else .err .NonNullTerminal := by
  unfold Builder.finish Builder.isFullyQualified
  by_cases hc : cur = []
  · subst hc; simp [stateOf, toWire_eq]
  · have hpos : 0 < cur.length := List.length_pos_iff.mpr hc
    have : (cur.length == 0) = false := by simp; omega
    simp [stateOf, this, hc]



/-! ### running a token sequence through the builder -/

def runToks (b : Builder) : List Tok → Out NameErr Built
  | [] => b.finish
  | .oct v :: ts =>
    match b.tryPush v with
    | (b', .ok ()) => runToks b' ts
    | (_, .err e) => .err e
    | (_, .panic) => .panic
  | .dot :: ts =>
    match b.nextLabel with
    | (b', .ok ()) => runToks b' ts
    | (_, .err e) => .err e
    | (_, .panic) => .panic

theorem groupLabels_head {toks : List Tok} {c : Label} {n : DName} (h : groupLabels toks c = some n)
    (hc : c ≠ []) : ∃ l rest, n = l :: rest ∧ c.length ≤ l.length := by
  induction toks generalizing c n with
  | nil => simp [groupLabels, hc] at h
  | cons t ts ih =>
    cases t with
    | dot =>
      simp only [groupLabels, List.isEmpty_iff, hc, ↓reduceIte, Option.map_eq_some_iff] at h
      obtain ⟨n', _, rfl⟩ := h
      exact ⟨c, n', rfl, Nat.le_refl _⟩
    | oct v =>
      simp only [groupLabels] at h
      obtain ⟨l, rest, rfl, hl⟩ := ih h (by simp)
      exact ⟨l, rest, rfl, by simp at hl; omega⟩

theorem wireLength_append (a b : DName) : wireLength (a ++ b) = (body a).length + wireLength b := by
  simp [wireLength, body_length]; omega

theorem wireLength_cons (l : Label) (n : DName) : wireLength (l :: n) = l.length + 1 + wireLength n := by
  simp [wireLength]; omega

theorem wireLength_pos (n : DName) : 1 ≤ wireLength n := by simp [wireLength]

theorem validName_iff (n : DName) : ValidName n ↔ LabelsOK n ∧ wireLength n ≤ 255 := Iff.rfl

theorem LabelsOK_append {a b : DName} : LabelsOK (a ++ b) ↔ LabelsOK a ∧ LabelsOK b := by
  unfold LabelsOK
  constructor
  · intro h
    exact ⟨fun l hl => h l (List.mem_append_left _ hl), fun l hl => h l (List.mem_append_right _ hl)⟩
  · intro ⟨h1, h2⟩ l hl
    rcases List.mem_append.mp hl with h | h
    · exact h1 l h
    · exact h2 l h

/-! ### the builder refines the spec's reference builder -/

theorem refSize_eq (done : DName) (cur : Label) :
    (RefBuilder.mk done cur).size = (body done).length + 1 + cur.length := by
  simp [RefBuilder.size, body_length]

/-- the reference builder's errors as errors of the code -/
def errOf : BuildErr → NameErr
  | .LabelTooLong => .LabelTooLong
  | .NameTooLong => .NameTooLong
  | .NullNonTerminal => .NullNonTerminal
  | .NonNullTerminal => .NonNullTerminal

/-- what the code's builder does when the reference builder `rb` answers `x`: it moves to the new state, or
    stays where it is and reports the error -/
def stepOf (rb : RefBuilder) : Except BuildErr RefBuilder → Builder × Out NameErr Unit
  | .ok rb' => (stateOf rb'.done rb'.cur, .ok ())
  | .error e => (stateOf rb.done rb.cur, .err (errOf e))

theorem tryPushSlice_ref (rb : RefBuilder) (os : List UInt8) :
    (stateOf rb.done rb.cur).tryPushSlice os = stepOf rb (rb.pushSlice os) := by
  obtain ⟨c1, c2, _⟩ := consts
  obtain ⟨done, cur⟩ := rb
  unfold Builder.tryPushSlice
  simp only [RefBuilder.pushSlice, refSize_eq, stateOf, c1, c2, List.length_append, List.length_cons]
  by_cases h63 : cur.length + os.length > 63
  · rw [if_pos h63, if_pos h63]; rfl
  · rw [if_neg h63, if_neg h63]
    by_cases hsz : (body done).length + 1 + cur.length + os.length > 255
    · rw [if_neg (by omega), if_pos hsz]; rfl
    · rw [if_pos (by omega), if_neg hsz]; simp [stepOf, stateOf]

/-- `try_push` is `try_push_slice` of one octet, in the code as in the reference builder -/
theorem tryPush_ref (rb : RefBuilder) (o : UInt8) :
    (stateOf rb.done rb.cur).tryPush o = stepOf rb (rb.push o) := by
  rw [RefBuilder.push, ← tryPushSlice_ref, tryPush_stateOf]
  obtain ⟨c1, c2, _⟩ := consts
  unfold Builder.tryPushSlice
  simp only [stateOf, c1, c2, List.length_append, List.length_cons, List.length_nil]
  by_cases h63 : rb.cur.length ≥ 63
  · rw [if_pos h63, if_pos (show rb.cur.length + (0 + 1) > 63 by omega)]
  · rw [if_neg h63, if_neg (show ¬ rb.cur.length + (0 + 1) > 63 by omega)]
    by_cases hsz : (body rb.done).length + 1 + rb.cur.length < 255
    · rw [if_pos hsz, if_pos (show (body rb.done).length + (rb.cur.length + 1) + (0 + 1) ≤ 255 by omega)]
      simp
    · rw [if_neg hsz, if_neg (show ¬ (body rb.done).length + (rb.cur.length + 1) + (0 + 1) ≤ 255 by omega)]

theorem nextLabel_ref (rb : RefBuilder) (h : InvDC rb.done rb.cur) :
    (stateOf rb.done rb.cur).nextLabel = stepOf rb rb.nextLabel := by
  obtain ⟨done, cur⟩ := rb
  rw [nextLabel_stateOf done cur h]
  simp only [RefBuilder.nextLabel, refSize_eq, List.isEmpty_iff]
  by_cases hc : cur = []
  · rw [if_pos hc, if_pos hc]; rfl
  · rw [if_neg hc, if_neg hc]
    by_cases hsz : (body done).length + 1 + cur.length ≥ 255
    · rw [if_pos hsz, if_pos (by omega)]; rfl
    · rw [if_neg hsz, if_neg (by omega)]; rfl

theorem finish_ref (rb : RefBuilder) :
    (stateOf rb.done rb.cur).finish = match rb.finish with
      | .ok n => .ok ⟨toWire n, offsetsList n⟩
      | .error e => .err (errOf e) := by
  rw [finish_stateOf]
  simp only [RefBuilder.finish, List.isEmpty_iff]
  split <;> rfl

theorem InvDC.snoc {done : DName} {cur : Label} (h : InvDC done cur) (hc : cur ≠ []) : LabelsOK (done ++ [cur]) := by
  refine LabelsOK_append.mpr ⟨h.ok, ?_⟩
  intro l hl; simp at hl; subst hl; exact ⟨List.length_pos_iff.mpr hc, h.cl⟩

theorem InvDC.pushSlice {rb rb' : RefBuilder} (h : InvDC rb.done rb.cur) {os : List UInt8}
    (hr : rb.pushSlice os = .ok rb') : InvDC rb'.done rb'.cur := by
  obtain ⟨done, cur⟩ := rb
  simp only [RefBuilder.pushSlice, refSize_eq] at hr
  split at hr
  · cases hr
  · split at hr
    · cases hr
    · cases hr; exact ⟨h.ok, by simp; omega, by simp; omega⟩

theorem InvDC.nextLabel {rb rb' : RefBuilder} (h : InvDC rb.done rb.cur) (hr : rb.nextLabel = .ok rb') :
    InvDC rb'.done rb'.cur := by
  obtain ⟨done, cur⟩ := rb
  simp only [RefBuilder.nextLabel, refSize_eq] at hr
  split at hr
  · cases hr
  · rename_i hc
    split at hr
    · cases hr
    · cases hr; exact ⟨h.snoc (by simpa using hc), by simp, by simp; omega⟩

theorem InvDC.finish {rb : RefBuilder} (h : InvDC rb.done rb.cur) {n : DName} (hr : rb.finish = .ok n) :
    ValidName n := by
  obtain ⟨done, cur⟩ := rb
  simp only [RefBuilder.finish] at hr
  split at hr
  · cases hr; exact ⟨h.ok, by have := h.sz; simp [wireLength, ← body_length] at *; omega⟩
  · cases hr

theorem runToks_iff (toks : List Tok) (done : DName) (cur : Label) (hinv : InvDC done cur) (r : Built) :
    runToks (stateOf done cur) toks = .ok r ↔
      ∃ n, groupLabels toks cur = some n ∧ ValidName (done ++ n) ∧
        r = ⟨toWire (done ++ n), offsetsList (done ++ n)⟩ := by
  induction toks generalizing done cur with
  | nil =>
    simp only [runToks, finish_stateOf, groupLabels, List.isEmpty_iff]
    by_cases hc : cur = []
    · subst hc
      simp only [↓reduceIte, Out.ok.injEq]
      constructor
      · intro e; subst e
        refine ⟨[], rfl, ?_, by simp⟩
        simp only [List.append_nil]
        exact ⟨hinv.ok, by have := hinv.sz; simp [wireLength, ← body_length] at *; omega⟩
      · intro ⟨n, hn, _, hr⟩
        simp at hn; subst hn; simp at hr; exact hr.symm
    · simp [hc]
  | cons t ts ih =>
    cases t with
    | oct v =>
      simp only [runToks, tryPush_stateOf, groupLabels]
      by_cases h63 : cur.length ≥ 63
      · simp only [h63, ↓reduceIte]
        constructor
        · intro h; cases h
        · intro ⟨n, hn, hv, _⟩
          obtain ⟨l, rest, rfl, hl⟩ := groupLabels_head hn (by simp)
          have := (LabelsOK_append.mp hv.1).2 l (by simp)
          simp at hl; omega
      · simp only [h63, ↓reduceIte]
        by_cases hsz : (body done).length + 1 + cur.length < 255
        · simp only [hsz, ↓reduceIte]
          exact ih done (cur ++ [v]) ⟨hinv.ok, by simp; omega, by simp; omega⟩
        · simp only [hsz, ↓reduceIte]
          constructor
          · intro h; cases h
          · intro ⟨n, hn, hv, _⟩
            obtain ⟨l, rest, rfl, hl⟩ := groupLabels_head hn (by simp)
            have := hv.2
            rw [wireLength_append, wireLength_cons] at this
            have := wireLength_pos rest
            simp at hl; omega
    | dot =>
      simp only [runToks, nextLabel_stateOf done cur hinv, groupLabels, List.isEmpty_iff]
      by_cases hc : cur = []
      · simp [hc]
      · have hpos : 0 < cur.length := List.length_pos_iff.mpr hc
        simp only [hc, ↓reduceIte]
        by_cases hsz : (body done).length + 1 + cur.length ≥ 255
        · simp only [hsz, ↓reduceIte]
          constructor
          · intro h; cases h
          · intro ⟨n, hn, hv, _⟩
            simp only [Option.map_eq_some_iff] at hn
            obtain ⟨n', _, rfl⟩ := hn
            have := hv.2
            rw [wireLength_append, wireLength_cons] at this
            have := wireLength_pos n'
            omega
        · simp only [hsz, ↓reduceIte]
          have hinv' : InvDC (done ++ [cur]) [] := ⟨hinv.snoc hc, by simp, by simp; omega⟩
          rw [ih (done ++ [cur]) [] hinv']
          constructor
          · intro ⟨n, hn, hv, hr⟩
            exact ⟨cur :: n, by simp [hn], by simpa using hv, by simpa using hr⟩
          · intro ⟨n, hn, hv, hr⟩
            simp only [Option.map_eq_some_iff] at hn
            obtain ⟨n', hn', rfl⟩ := hn
            exact ⟨n', hn', by simpa using hv, by simpa using hr⟩



/-! ### the text loop = tokenizer ∘ builder -/

theorem isDigit_iff (c : UInt8) : isDigit c = true ↔ IsDigit c := by
  simp [isDigit, IsDigit]

theorem tokenize_bs (rest : List UInt8) :
    tokenize (92 :: rest) =
      match parseEscape rest with
      | .ok (v, k) => (tokenize (rest.drop k)).map (Tok.oct v :: ·)
      | _ => none := by
  rw [tokenize.eq_def]
  simp only [↓reduceIte]
  cases rest with
  | nil => simp [parseEscape]
  | cons a t1 =>
    simp only [parseEscape]
    by_cases ha : IsDigit a
    · have ha' : isDigit a = true := (isDigit_iff a).mpr ha
      simp only [ha, ha', ↓reduceIte]
      match t1 with
      | [] => simp
      | [_] => simp
      | b :: d :: t2 =>
        simp only
        by_cases hb : IsDigit b
        · by_cases hd : IsDigit d
          · have hb' := (isDigit_iff b).mpr hb
            have hd' := (isDigit_iff d).mpr hd
            simp only [hb, hd, hb', hd', true_and, Bool.not_true, Bool.or_self, Bool.false_eq_true, ↓reduceIte]
            by_cases hv : dddValue a b d ≤ 255
            · have : ¬ (100 * (a.toNat - 48) + 10 * (b.toNat - 48) + (d.toNat - 48) > 255) := by
                unfold dddValue at hv; omega
              simp [this, dddValue]
            · have : (100 * (a.toNat - 48) + 10 * (b.toNat - 48) + (d.toNat - 48) > 255) := by
                unfold dddValue at hv; omega
              simp [hv, this]
          · have hd' : isDigit d = false := by
              cases h : isDigit d with
              | false => rfl
              | true => exact absurd ((isDigit_iff d).mp h) hd
            simp [hd, hd']
        · have hb' : isDigit b = false := by
            cases h : isDigit b with
            | false => rfl
            | true => exact absurd ((isDigit_iff b).mp h) hb
          simp [hb, hb']
    · have ha' : isDigit a = false := by
        cases h : isDigit a with
        | false => rfl
        | true => exact absurd ((isDigit_iff a).mp h) ha
      simp [ha, ha']

theorem parseEscape_ne_panic (rest : List UInt8) : parseEscape rest ≠ .panic := by
  unfold parseEscape
  -- every leaf of the nested matches and range tests is an `ok` or an `err`
  split <;> (try split) <;> (try split) <;> (try split) <;> (try split) <;> (try simp)
  all_goals (split <;> simp)

theorem tokenize_dot (t : List UInt8) : tokenize (46 :: t) = (tokenize t).map (Tok.dot :: ·) := by
  rw [tokenize.eq_def]; simp

theorem tokenize_plain (a : UInt8) (t : List UInt8) (h1 : a ≠ 92) (h2 : a ≠ 46) :
    tokenize (a :: t) = if a.toNat < 128 then (tokenize t).map (Tok.oct a :: ·) else none := by
  rw [tokenize.eq_def]; simp [h1, h2]

/-- a token sequence that starts with `t`: the quantifier moves behind the first token -/
theorem exists_cons_toks (t : Tok) (o : Option (List Tok)) (P : List Tok → Prop) :
    (∃ toks, o.map (t :: ·) = some toks ∧ P toks) ↔ ∃ ts, o = some ts ∧ P (t :: ts) := by
  constructor
  · intro ⟨toks, h, hp⟩
    obtain ⟨ts, hts, rfl⟩ := Option.map_eq_some_iff.mp h
    exact ⟨ts, hts, hp⟩
  · intro ⟨ts, h, hp⟩
    exact ⟨_, by rw [h]; rfl, hp⟩

theorem fromStrLoop_iff (b : Builder) (s : Text) (r : Built) :
    fromStrLoop b s = .ok r ↔ ∃ toks, tokenize s = some toks ∧ runToks b toks = .ok r := by
  -- in every case the text and the token sequence lose their first token together, and `runToks`
  -- takes the step of the builder that the loop has just taken (`hpush`, `hnl`)
  fun_induction fromStrLoop b s
  case case1 b => simp [tokenize, runToks]
  case case2 b rest value consumed hpe b' hpush ih =>
    rw [tokenize_bs, hpe, exists_cons_toks]; simpa only [runToks, hpush] using ih
  case case3 b rest value consumed hpe fst e hpush =>
    rw [tokenize_bs, hpe, exists_cons_toks]; simp [runToks, hpush]
  case case4 b rest value consumed hpe fst hpush =>
    rw [tokenize_bs, hpe, exists_cons_toks]; simp [runToks, hpush]
  case case5 b rest e hpe => rw [tokenize_bs, hpe]; simp
  case case6 b rest hpe => rw [tokenize_bs, hpe]; simp
  case case7 b rest b' hnl _ ih =>
    rw [tokenize_dot, exists_cons_toks]; simpa only [runToks, hnl] using ih
  case case8 b rest fst e hnl _ =>
    rw [tokenize_dot, exists_cons_toks]; simp [runToks, hnl]
  case case9 b rest fst hnl _ =>
    rw [tokenize_dot, exists_cons_toks]; simp [runToks, hnl]
  case case10 b a rest h1 h2 h3 =>
    rw [tokenize_plain a rest h1 h2, if_neg (by omega)]; simp
  case case11 b a rest h1 h2 h3 b' hpush ih =>
    rw [tokenize_plain a rest h1 h2, if_pos (by omega), exists_cons_toks]; simpa only [runToks, hpush] using ih
  case case12 b a rest h1 h2 h3 fst e hpush =>
    rw [tokenize_plain a rest h1 h2, if_pos (by omega), exists_cons_toks]; simp [runToks, hpush]
  case case13 b a rest h1 h2 h3 fst hpush =>
    rw [tokenize_plain a rest h1 h2, if_pos (by omega), exists_cons_toks]; simp [runToks, hpush]



/-! ### every builder step keeps the invariant or fails atomically; nothing panics -/

theorem stepOf_ne_panic (rb : RefBuilder) (x : Except BuildErr RefBuilder) (b : Builder) :
    stepOf rb x ≠ (b, .panic) := by cases x <;> nofun

theorem fromStrLoop_no_panic (b : Builder) (s : Text) (rb : RefBuilder) (hinv : InvDC rb.done rb.cur)
    (hb : b = stateOf rb.done rb.cur) : fromStrLoop b s ≠ .panic := by
  fun_induction fromStrLoop b s generalizing rb
  case case1 b => subst hb; rw [finish_ref]; split <;> nofun
  case case2 b rest value consumed hpe b' hpush ih =>
    subst hb; rw [tryPush_ref] at hpush
    cases hr : rb.push value with
    | ok rb' => rw [hr] at hpush; cases hpush; exact ih rb' (hinv.pushSlice hr) rfl
    | error e => rw [hr] at hpush; cases hpush
  case case3 => simp
  case case4 b rest value consumed hpe fst hpush =>
    subst hb; rw [tryPush_ref] at hpush; exact (stepOf_ne_panic _ _ _ hpush).elim
  case case5 => simp
  case case6 b rest hpe => exact absurd hpe (parseEscape_ne_panic rest)
  case case7 b rest b' hnl _ ih =>
    subst hb; rw [nextLabel_ref rb hinv] at hnl
    cases hr : rb.nextLabel with
    | ok rb' => rw [hr] at hnl; cases hnl; exact ih rb' (hinv.nextLabel hr) rfl
    | error e => rw [hr] at hnl; cases hnl
  case case8 => simp
  case case9 b rest fst hnl _ =>
    subst hb; rw [nextLabel_ref rb hinv] at hnl; exact (stepOf_ne_panic _ _ _ hnl).elim
  case case10 => simp
  case case11 b a rest h1 h2 h3 b' hpush ih =>
    subst hb; rw [tryPush_ref] at hpush
    cases hr : rb.push a with
    | ok rb' => rw [hr] at hpush; cases hpush; exact ih rb' (hinv.pushSlice hr) rfl
    | error e => rw [hr] at hpush; cases hpush
  case case12 => simp
  case case13 b a rest h1 h2 h3 fst hpush =>
    subst hb; rw [tryPush_ref] at hpush; exact (stepOf_ne_panic _ _ _ hpush).elim

theorem invDC_nil : InvDC [] [] := ⟨(by intro l hl; simp at hl), (by simp), (by simp)⟩

theorem fromStr_no_panic (s : Text) : fromStr s ≠ .panic := by
  unfold fromStr
  split
  · simp
  · split
    · simp
    · exact fromStrLoop_no_panic _ s ⟨[], []⟩ invDC_nil new_eq

/-- **acceptance**: the text parser accepts exactly the texts that (per the spec's tokenizer and
    grouping) denote a valid name, and returns its wire form and offset table -/
theorem fromStr_iff (s : Text) (r : Built) :
    fromStr s = .ok r ↔ ∃ n, parseText s = some n ∧ ValidName n ∧ r = ⟨toWire n, offsetsList n⟩ := by
  unfold fromStr parseText
  by_cases h0 : s = []
  · subst h0; simp
  · have : s.isEmpty = false := by cases s <;> simp at h0 ⊢
    simp only [this, Bool.false_eq_true, ↓reduceIte]
    by_cases h1 : s = [46]
    · subst h1
      simp only [↓reduceIte, Out.ok.injEq, Option.some.injEq]
      constructor
      · intro e; subst e
        exact ⟨[], rfl, ⟨(by intro l hl; simp at hl), (by simp [wireLength])⟩, (by simp [toWire, offsetsList])⟩
      · intro ⟨n, hn, _, hr⟩; subst hn; simp [toWire, offsetsList] at hr; exact hr.symm
    · simp only [h1, ↓reduceIte]
      rw [new_eq, fromStrLoop_iff]
      constructor
      · intro ⟨toks, ht, hr⟩
        obtain ⟨n, hn, hv, hr⟩ := (runToks_iff toks [] [] invDC_nil r).mp hr
        exact ⟨n, by simp [ht, hn], by simpa using hv, by simpa using hr⟩
      · intro ⟨n, hn, hv, hr⟩
        simp only [Option.bind_eq_some_iff] at hn
        obtain ⟨toks, ht, hg⟩ := hn
        exact ⟨toks, ht, (runToks_iff toks [] [] invDC_nil r).mpr ⟨n, hg, by simpa using hv, by simpa using hr⟩⟩



/-! ### the declarative grammar `Denotes` = the executable `parseText` -/

def flatten (n : DName) : List Tok := n.flatMap (fun l => l.map Tok.oct ++ [Tok.dot])

theorem labelText_tokenize {t : List UInt8} {l : Label} (h : LabelText t l) (rest : List UInt8) :
    tokenize (t ++ rest) = (tokenize rest).map (l.map Tok.oct ++ ·) := by
  induction h with
  | nil => simp
  | plain hdot hbs hascii r ih =>
    rw [List.cons_append, tokenize_plain _ _ hbs hdot, if_pos hascii, ih]
    cases tokenize rest <;> simp
  | quoted hnd r ih =>
    rename_i c t l
    rw [List.cons_append, tokenize_bs]
    have hd : isDigit c = false := by
      cases h : isDigit c with
      | false => rfl
      | true => exact absurd ((isDigit_iff c).mp h) hnd
    simp only [List.cons_append, parseEscape, hd, Bool.false_eq_true, ↓reduceIte, List.drop_succ_cons, List.drop_zero]
    rw [ih]
    cases tokenize rest <;> simp
  | decimal ha hb hc hv r ih =>
    rename_i a b c t l
    rw [List.cons_append, tokenize_bs]
    have ha' := (isDigit_iff a).mpr ha
    have hb' := (isDigit_iff b).mpr hb
    have hc' := (isDigit_iff c).mpr hc
    have hv' : ¬ (100 * (a.toNat - 48) + 10 * (b.toNat - 48) + (c.toNat - 48) > 255) := by
      unfold dddValue at hv; omega
    simp only [List.cons_append, parseEscape, ha', hb', hc', ↓reduceIte, Bool.not_true, Bool.or_self,
      Bool.false_eq_true, hv', List.drop_succ_cons, List.drop_zero]
    rw [ih]
    cases tokenize rest <;> simp [dddValue]

theorem groupLabels_octs (l : Label) (ts : List Tok) (cur : Label) :
    groupLabels (l.map Tok.oct ++ ts) cur = groupLabels ts (cur ++ l) := by
  induction l generalizing cur with
  | nil => simp
  | cons v l ih => simp [groupLabels, ih]

theorem groupLabels_flatten (n : DName) (h : ∀ l ∈ n, l ≠ []) : groupLabels (flatten n) [] = some n := by
  induction n with
  | nil => simp [flatten, groupLabels]
  | cons l n ih =>
    have hl := h l (by simp)
    have : flatten (l :: n) = l.map Tok.oct ++ (Tok.dot :: flatten n) := by simp [flatten]
    rw [this, groupLabels_octs, List.nil_append, groupLabels]
    simp [hl, ih (fun x hx => h x (List.mem_cons_of_mem _ hx))]

theorem denotes_nonempty {s : List UInt8} {n : DName} (h : Denotes s n) : ∀ l ∈ n, l ≠ [] := by
  induction h with
  | root => intro l hl; simp at hl
  | last ht hne => intro l hl; simp at hl; subst hl; exact hne
  | cons ht hne r hn ih =>
    intro l hl; simp at hl
    rcases hl with hl | hl
    · subst hl; exact hne
    · exact ih l hl

theorem denotes_tokenize {s : List UInt8} {n : DName} (h : Denotes s n) (hn : n ≠ []) :
    tokenize s = some (flatten n) := by
  induction h with
  | root => exact absurd rfl hn
  | last ht hne =>
    rw [labelText_tokenize ht]
    simp [tokenize_dot, tokenize, flatten]
  | cons ht hne r hn' ih =>
    rw [labelText_tokenize ht, tokenize_dot, ih hn']
    simp [flatten]

theorem flatten_length_ge (n : DName) (hn : n ≠ []) (h : ∀ l ∈ n, l ≠ []) : 2 ≤ (flatten n).length := by
  cases n with
  | nil => exact absurd rfl hn
  | cons l n =>
    have := List.length_pos_iff.mpr (h l (by simp))
    simp [flatten]; omega

theorem denotes_parseText {s : List UInt8} {n : DName} (h : Denotes s n) : parseText s = some n := by
  by_cases hn : n = []
  · subst hn; cases h; simp [parseText]
  · have ht := denotes_tokenize h hn
    have hne := denotes_nonempty h
    have hlen := flatten_length_ge n hn hne
    unfold parseText
    have h0 : s ≠ [] := by
      intro e; subst e; rw [tokenize.eq_def] at ht; simp at ht; rw [ht] at hlen; simp at hlen
    have h1 : s ≠ [46] := by
      intro e; subst e; rw [tokenize_dot, tokenize.eq_def] at ht; simp at ht; rw [← ht] at hlen; simp at hlen
    have : s.isEmpty = false := by cases s <;> simp at h0 ⊢
    simp [this, h1, ht, groupLabels_flatten n hne]



theorem tokenize_eq_nil {s : List UInt8} (h : tokenize s = some []) : s = [] := by
  cases s with
  | nil => rfl
  | cons c t =>
    exfalso
    by_cases h1 : c = 92
    · subst h1; rw [tokenize_bs] at h
      split at h
      · simp at h
      · simp at h
    · by_cases h2 : c = 46
      · subst h2; rw [tokenize_dot] at h; simp at h
      · rw [tokenize_plain c t h1 h2] at h; split at h <;> simp at h

/-- first token a separator: the text starts with a dot -/
theorem tokenize_dot_inv {s : List UInt8} {rest : List Tok} (h : tokenize s = some (Tok.dot :: rest)) :
    ∃ s', s = 46 :: s' ∧ tokenize s' = some rest := by
  cases s with
  | nil => rw [tokenize.eq_def] at h; simp at h
  | cons c t =>
    by_cases h1 : c = 92
    · subst h1; rw [tokenize_bs] at h
      split at h
      · simp at h
      · simp at h
    · by_cases h2 : c = 46
      · subst h2; rw [tokenize_dot] at h
        simp only [Option.map_eq_some_iff, List.cons.injEq, true_and] at h
        obtain ⟨ts, ht, e⟩ := h
        exact ⟨t, rfl, by rw [ht, e]⟩
      · rw [tokenize_plain c t h1 h2] at h; split at h <;> simp at h

/-- first token an octet: the text starts with one character (plain, `\X` or `\DDD`) for it -/
theorem tokenize_oct_inv {s : List UInt8} {v : UInt8} {rest : List Tok}
    (h : tokenize s = some (Tok.oct v :: rest)) :
    ∃ chunk s', s = chunk ++ s' ∧ tokenize s' = some rest ∧
      ∀ t l, LabelText t l → LabelText (chunk ++ t) (v :: l) := by
  cases s with
  | nil => rw [tokenize.eq_def] at h; simp at h
  | cons c t =>
    by_cases h1 : c = 92
    · subst h1
      rw [tokenize_bs] at h
      cases t with
      | nil => simp [parseEscape] at h
      | cons a t1 =>
        by_cases ha : isDigit a = true
        · match t1, h with
          | [], h => simp [parseEscape, ha] at h
          | [_], h => simp [parseEscape, ha] at h
          | b :: d :: t2, h =>
            simp only [parseEscape, ha, ↓reduceIte] at h
            by_cases hbd : (!isDigit b || !isDigit d) = true
            · simp [hbd] at h
            · simp only [hbd, Bool.false_eq_true, ↓reduceIte] at h
              by_cases hv : 100 * (a.toNat - 48) + 10 * (b.toNat - 48) + (d.toNat - 48) > 255
              · simp [hv] at h
              · simp only [hv, ↓reduceIte, List.drop_succ_cons, List.drop_zero, Option.map_eq_some_iff,
                  List.cons.injEq, Tok.oct.injEq] at h
                obtain ⟨ts, ht, hv', e⟩ := h
                simp only [Bool.or_eq_true, Bool.not_eq_eq_eq_not, Bool.not_true, not_or,
                  Bool.not_eq_false] at hbd
                refine ⟨[92, a, b, d], t2, rfl, by rw [ht, e], ?_⟩
                intro t l hl
                have := LabelText.decimal ((isDigit_iff a).mp ha) ((isDigit_iff b).mp hbd.1)
                  ((isDigit_iff d).mp hbd.2) (by unfold dddValue; omega) hl
                unfold dddValue at this
                rw [hv'] at this
                exact this
        · simp only [parseEscape, ha, Bool.false_eq_true, ↓reduceIte, List.drop_succ_cons, List.drop_zero,
            Option.map_eq_some_iff, List.cons.injEq, Tok.oct.injEq] at h
          obtain ⟨ts, ht, hv', e⟩ := h
          subst hv'
          refine ⟨[92, a], t1, rfl, by rw [ht, e], ?_⟩
          intro t l hl
          exact LabelText.quoted (fun hd => ha ((isDigit_iff a).mpr hd)) hl
    · by_cases h2 : c = 46
      · subst h2; rw [tokenize_dot] at h; simp at h
      · rw [tokenize_plain c t h1 h2] at h
        split at h
        · rename_i hascii
          simp only [Option.map_eq_some_iff, List.cons.injEq, Tok.oct.injEq] at h
          obtain ⟨ts, ht, hv', e⟩ := h
          subst hv'
          refine ⟨[c], t, rfl, by rw [ht, e], ?_⟩
          intro t' l hl
          exact LabelText.plain h2 h1 hascii hl
        · simp at h

/-- a label's tokens followed by a separator: the text splits accordingly -/
theorem tokenize_label_inv (l : Label) {s : List UInt8} {rest : List Tok}
    (h : tokenize s = some (l.map Tok.oct ++ Tok.dot :: rest)) :
    ∃ t s', s = t ++ 46 :: s' ∧ LabelText t l ∧ tokenize s' = some rest := by
  induction l generalizing s with
  | nil =>
    obtain ⟨s', rfl, hs'⟩ := tokenize_dot_inv (by simpa using h)
    exact ⟨[], s', rfl, .nil, hs'⟩
  | cons v l ih =>
    obtain ⟨chunk, s1, rfl, hs1, hlt⟩ := tokenize_oct_inv (by simpa using h)
    obtain ⟨t, s', rfl, hl, hs'⟩ := ih hs1
    exact ⟨chunk ++ t, s', by simp, hlt t l hl, hs'⟩

theorem groupLabels_flatten_inv {toks : List Tok} {cur : Label} {n : DName}
    (h : groupLabels toks cur = some n) :
    cur.map Tok.oct ++ toks = flatten n ∧ (∀ l ∈ n, l ≠ []) ∧ (cur ≠ [] → n ≠ []) := by
  induction toks generalizing cur n with
  | nil =>
    by_cases hc : cur = []
    · subst hc; simp [groupLabels] at h; subst h; simp [flatten]
    · simp [groupLabels, hc] at h
  | cons t ts ih =>
    cases t with
    | dot =>
      by_cases hc : cur = []
      · simp [groupLabels, hc] at h
      · simp only [groupLabels, List.isEmpty_iff, hc, ↓reduceIte, Option.map_eq_some_iff] at h
        obtain ⟨n', hn', rfl⟩ := h
        obtain ⟨h1, h2, _⟩ := ih hn'
        simp only [List.map_nil, List.nil_append] at h1
        refine ⟨by simp [flatten, h1], ?_, by simp⟩
        intro l hl; simp at hl
        rcases hl with hl | hl
        · subst hl; exact hc
        · exact h2 l hl
    | oct v =>
      simp only [groupLabels] at h
      obtain ⟨h1, h2, h3⟩ := ih h
      exact ⟨by simpa using h1, h2, fun _ => h3 (by simp)⟩

theorem flatten_denotes (n : DName) (hn : n ≠ []) (hne : ∀ l ∈ n, l ≠ []) (s : List UInt8)
    (h : tokenize s = some (flatten n)) : Denotes s n := by
  induction n generalizing s with
  | nil => exact absurd rfl hn
  | cons l n ih =>
    have hfl : flatten (l :: n) = l.map Tok.oct ++ Tok.dot :: flatten n := by simp [flatten]
    rw [hfl] at h
    obtain ⟨t, s', rfl, hl, hs'⟩ := tokenize_label_inv l h
    have hlne := hne l (by simp)
    by_cases hn' : n = []
    · subst hn'
      have : s' = [] := tokenize_eq_nil (by simpa [flatten] using hs')
      subst this
      exact Denotes.last hl hlne
    · exact Denotes.cons hl hlne (ih hn' (fun x hx => hne x (List.mem_cons_of_mem _ hx)) s' hs') hn'

theorem parseText_denotes {s : List UInt8} {n : DName} (h : parseText s = some n) : Denotes s n := by
  unfold parseText at h
  by_cases h0 : s.isEmpty = true
  · simp [h0] at h
  · simp only [h0, Bool.false_eq_true, ↓reduceIte] at h
    by_cases h1 : s = [46]
    · subst h1; simp at h; subst h; exact Denotes.root
    · simp only [h1, ↓reduceIte, Option.bind_eq_some_iff] at h
      obtain ⟨toks, ht, hg⟩ := h
      obtain ⟨hfl, hne, _⟩ := groupLabels_flatten_inv hg
      simp only [List.map_nil, List.nil_append] at hfl
      subst hfl
      have hn : n ≠ [] := by
        intro e; subst e
        have := tokenize_eq_nil (by simpa [flatten] using ht)
        subst this; simp at h0
      exact flatten_denotes n hn hne s ht

/-- the grammar and the executable parser agree -/
theorem denotes_iff_parseText (s : List UInt8) (n : DName) : Denotes s n ↔ parseText s = some n :=
  ⟨denotes_parseText, parseText_denotes⟩



/-! ### Display produces a text that denotes the name -/

theorem escapeOctet_labelText (b : UInt8) {t : List UInt8} {l : Label} (h : LabelText t l) :
    LabelText (escapeOctet b ++ t) (b :: l) := by
  unfold escapeOctet
  by_cases h1 : b = 46
  · subst h1; simp only [↓reduceIte]
    exact LabelText.quoted (by decide) h
  · by_cases h2 : b = 92
    · subst h2; simp only [h1, ↓reduceIte]
      exact LabelText.quoted (by decide) h
    · simp only [h1, h2, ↓reduceIte]
      by_cases hg : isGraphic b = true
      · simp only [hg, ↓reduceIte]
        refine LabelText.plain h1 h2 ?_ h
        simp [isGraphic] at hg; omega
      · simp only [hg, Bool.false_eq_true, ↓reduceIte, escDecimal]
        have hb := b.toNat_lt
        have d1 := ofNat_digit_toNat (b.toNat / 100) (by omega)
        have d2 := ofNat_digit_toNat (b.toNat / 10 % 10) (by omega)
        have d3 := ofNat_digit_toNat (b.toNat % 10) (by omega)
        have hv : dddValue (UInt8.ofNat (48 + b.toNat / 100)) (UInt8.ofNat (48 + b.toNat / 10 % 10))
            (UInt8.ofNat (48 + b.toNat % 10)) = b.toNat := by
          unfold dddValue; rw [d1, d2, d3]; omega
        have := LabelText.decimal (a := UInt8.ofNat (48 + b.toNat / 100))
          (b := UInt8.ofNat (48 + b.toNat / 10 % 10)) (c := UInt8.ofNat (48 + b.toNat % 10))
          (by unfold IsDigit; omega) (by unfold IsDigit; omega) (by unfold IsDigit; omega)
          (by rw [hv]; omega) h
        rw [hv] at this
        simpa using this

theorem displayLabel_labelText (l : Label) : LabelText (displayLabel l) l := by
  induction l with
  | nil => exact .nil
  | cons b l ih =>
    have : displayLabel (b :: l) = escapeOctet b ++ displayLabel l := by simp [displayLabel]
    rw [this]; exact escapeOctet_labelText b ih

/-- what `Display for Name` prints for the name with labels `n` -/
def textOf (n : DName) : Text :=
  if n = [] then [46] else n.flatMap (fun l => displayLabel l ++ [46])

theorem display_fold (a : Label) (rest : List Label) :
    displayLabel a ++ (rest ++ [[]]).flatMap (fun l => 46 :: displayLabel l) =
      (a :: rest).flatMap (fun l => displayLabel l ++ [46]) := by
  induction rest generalizing a with
  | nil => simp [displayLabel]
  | cons b rest ih =>
    have := ih b
    simp only [List.cons_append, List.flatMap_cons, List.append_assoc] at this ⊢
    rw [this]; simp

theorem displayName_toWire (n : DName) (h : LabelsOK n) : displayName (toWire n) = .ok (textOf n) := by
  unfold displayName textOf
  rw [nLabels_toWire n h, labelsOf_toWire n h]
  cases n with
  | nil => simp
  | cons l n =>
    have : ¬ ((l :: n).length + 1 ≤ 1) := by simp
    simp only [this, ↓reduceIte, List.cons_append, reduceCtorEq]
    rw [display_fold]

theorem textOf_denotes (n : DName) (h : LabelsOK n) : Denotes (textOf n) n := by
  induction n with
  | nil => exact Denotes.root
  | cons l n ih =>
    have hl : l ≠ [] := by
      have := (h l (by simp)).1
      intro e; subst e; simp at this
    by_cases hn : n = []
    · subst hn
      simp only [textOf, reduceCtorEq, ↓reduceIte, List.flatMap_cons, List.flatMap_nil, List.append_nil]
      exact Denotes.last (displayLabel_labelText l) hl
    · have := ih h.tail
      simp only [textOf, hn, ↓reduceIte] at this
      simp only [textOf, reduceCtorEq, ↓reduceIte, List.flatMap_cons, List.append_assoc, List.singleton_append]
      exact Denotes.cons (displayLabel_labelText l) hl this hn

/-- **headline**: rendering a valid name and parsing the text back yields the identical wire form
    (and offset table) -/
theorem fromStr_textOf (n : DName) (h : ValidName n) :
    fromStr (textOf n) = .ok ⟨toWire n, offsetsList n⟩ :=
  (fromStr_iff _ _).mpr ⟨n, denotes_parseText (textOf_denotes n h.1), h, rfl⟩

end QV.Name
