/-
  QV.Proofs.ZoneIter — iteration over the tree (`Node::iter`): which (name, RRset list) pairs it
  yields, and that every node is yielded once; the apex SOA / NS accessors; and when `add` succeeds
  or fails and with which error, in terms of the flat list (`add_ok_iff`, `add_err_iff`,
  `addM_err_unchanged`: what C20 is built on).
-/
import QV.Proofs.ZoneLookup

namespace QV.Zone
open QV QV.NameL QV.Spec.Zone

/-! ### well-formed hash maps: every key once -/

mutual
/-- no label occurs twice among the children of any node of the tree -/
def Node.WF : Node → Prop
  | .mk _ ch => childrenWF ch
/-- the same for a list of children: a label is not met again further on, and every child is well formed -/
def childrenWF : List (Label × Node) → Prop
  | [] => True
  | (l, c) :: rest => childGet rest l = none ∧ Node.WF c ∧ childrenWF rest
end

theorem Node.empty_wf : Node.WF .empty := by simp [Node.empty, Node.WF, childrenWF]

theorem childGet_wf {ch : List (Label × Node)} (h : childrenWF ch) {l : Label} {c : Node}
    (hc : childGet ch l = some c) : Node.WF c := by
  induction ch with
  | nil => simp [childGet] at hc
  | cons kv rest ih =>
    obtain ⟨k, v⟩ := kv
    simp only [childrenWF] at h
    simp only [childGet] at hc
    split at hc
    · cases hc; exact h.2.1
    · exact ih h.2.2 hc

theorem childSet_wf {ch : List (Label × Node)} (h : childrenWF ch) (l : Label) {c' : Node} (hc' : Node.WF c') :
    childrenWF (childSet ch l c') := by
  induction ch with
  | nil => simp [childSet, childrenWF, childGet, hc']
  | cons kv rest ih =>
    obtain ⟨k, v⟩ := kv
    simp only [childrenWF] at h
    simp only [childSet]
    split
    · exact ⟨h.1, hc', h.2.2⟩
    · rename_i hk
      refine ⟨?_, h.2.1, ih h.2.2⟩
      rw [childGet_childSet]
      have : ¬ l = k := fun e => hk e.symm
      simp [this, h.1]

theorem addAt_wf (eqv : Eqv) (cls t ttl : Nat) (rd : Rdata) (node : Node) (q : List Label) (h : Node.WF node) :
    Node.WF (addAt eqv cls t ttl rd node q).1 := by
  induction q generalizing node with
  | nil =>
    obtain ⟨rr, ch⟩ := node
    simp only [addAt]
    cases rrsetsAdd eqv cls t ttl rd rr <;> simpa [Node.WF] using h
  | cons l rest ih =>
    obtain ⟨rr, ch⟩ := node
    simp only [addAt, Node.WF] at h ⊢
    apply childSet_wf h
    apply ih
    cases hc : childGet ch l with
    | none => exact Node.empty_wf
    | some c => exact childGet_wf h hc

theorem addM_wf (eqv : Eqv) (z : Zone) (r : Rec) (h : Node.WF z.root) : Node.WF (addM eqv z r).1.root := by
  unfold addM
  split
  · exact h
  · split
    · exact h
    · exact addAt_wf _ _ _ _ _ _ _ h

theorem build_wf (eqv : Eqv) (z : Zone) (rs : List Rec) (h : Node.WF z.root) : Node.WF (build eqv z rs).root := by
  induction rs generalizing z with
  | nil => exact h
  | cons r rs ih => simp only [build, List.foldl_cons]; exact ih _ (addM_wf eqv z r h)

/-! ### what iteration yields -/

theorem iter_subset_children {ch : List (Label × Node)} {l : Label} {c : Node} (hc : childGet ch l = some c)
    (nm : Name) (x : Name × List Rrset) (hx : x ∈ c.iter (l :: nm)) : x ∈ iterChildren ch nm := by
  induction ch with
  | nil => simp [childGet] at hc
  | cons kv rest ih =>
    obtain ⟨k, v⟩ := kv
    simp only [childGet] at hc
    simp only [iterChildren, List.mem_append]
    split at hc
    · rename_i hk; cases hc; subst hk; exact Or.inl hx
    · exact Or.inr (ih hc)

/-- every node of the tree is yielded, with its name and RRset list -/
theorem mem_iter_of_rrs (node : Node) (nm : Name) (p : List Label) (rr : List Rrset) (h : rrs node p = some rr) :
    (p.reverse ++ nm, rr) ∈ node.iter nm := by
  induction p generalizing node nm with
  | nil =>
    obtain ⟨rr0, ch⟩ := node
    simp only [rrs_nil, Option.some.injEq] at h
    subst h
    simp [Node.iter]
  | cons l p ih =>
    obtain ⟨rr0, ch⟩ := node
    rw [rrs_cons] at h
    cases hc : childGet ch l with
    | none => simp [hc] at h
    | some c =>
      simp only [hc] at h
      have := ih c (l :: nm) h
      simp only [Node.iter, List.mem_cons]
      right
      apply iter_subset_children hc nm
      simpa using this

theorem name_branch_inj {nm : Name} {l l' : Label} {p p' : List Label}
    (h : p.reverse ++ l :: nm = p'.reverse ++ l' :: nm) : l = l' := by
  have := congrArg List.reverse h
  simp only [List.reverse_append, List.reverse_cons, List.reverse_reverse, List.append_assoc] at this
  have := List.append_cancel_left this
  simp at this
  exact this.1

mutual
/-- … and nothing else is yielded; the names are pairwise different -/
theorem iter_sound (node : Node) (nm : Name) (hw : Node.WF node) :
    (∀ x ∈ node.iter nm, ∃ p, x.1 = p.reverse ++ nm ∧ rrs node p = some x.2) ∧
      ((node.iter nm).map (·.1)).Nodup := by
  match node with
  | .mk rr ch =>
    simp only [Node.WF] at hw
    obtain ⟨ih1, ih2⟩ := iterChildren_sound ch nm hw
    constructor
    · intro x hx
      simp only [Node.iter, List.mem_cons] at hx
      rcases hx with hx | hx
      · subst hx; exact ⟨[], by simp, by simp⟩
      · obtain ⟨l, c, p, hc, h1, h2⟩ := ih1 x hx
        refine ⟨l :: p, by simp [h1], ?_⟩
        rw [rrs_cons, hc]; exact h2
    · simp only [Node.iter, List.map_cons, List.nodup_cons]
      refine ⟨?_, ih2⟩
      intro hm
      simp only [List.mem_map] at hm
      obtain ⟨x, hx, hxe⟩ := hm
      obtain ⟨l, c, p, _, h1, _⟩ := ih1 x hx
      rw [h1] at hxe
      have := congrArg List.length hxe
      simp at this
      omega
theorem iterChildren_sound (ch : List (Label × Node)) (nm : Name) (hw : childrenWF ch) :
    (∀ x ∈ iterChildren ch nm, ∃ l c p, childGet ch l = some c ∧ x.1 = p.reverse ++ (l :: nm) ∧ rrs c p = some x.2) ∧
      ((iterChildren ch nm).map (·.1)).Nodup := by
  match ch with
  | [] => simp [iterChildren]
  | (l, c) :: rest =>
    simp only [childrenWF] at hw
    obtain ⟨a1, a2⟩ := iter_sound c (l :: nm) hw.2.1
    obtain ⟨b1, b2⟩ := iterChildren_sound rest nm hw.2.2
    have hrest : ∀ x ∈ iterChildren rest nm, ∃ l' c' p, l' ≠ l ∧ childGet rest l' = some c' ∧
        x.1 = p.reverse ++ (l' :: nm) ∧ rrs c' p = some x.2 := by
      intro x hx
      obtain ⟨l', c', p, hc, h1, h2⟩ := b1 x hx
      refine ⟨l', c', p, ?_, hc, h1, h2⟩
      intro e; subst e; rw [hw.1] at hc; cases hc
    constructor
    · intro x hx
      simp only [iterChildren, List.mem_append] at hx
      rcases hx with hx | hx
      · obtain ⟨p, h1, h2⟩ := a1 x hx
        exact ⟨l, c, p, by simp [childGet], h1, h2⟩
      · obtain ⟨l', c', p, hne, hc, h1, h2⟩ := hrest x hx
        exact ⟨l', c', p, by simp [childGet, Ne.symm hne, hc], h1, h2⟩
    · simp only [iterChildren, List.map_append, List.nodup_append]
      refine ⟨a2, b2, ?_⟩
      intro a ha b hb hab
      simp only [List.mem_map] at ha hb
      obtain ⟨x, hx, hxa⟩ := ha
      obtain ⟨y, hy, hyb⟩ := hb
      obtain ⟨p, h1, _⟩ := a1 x hx
      obtain ⟨l', c', p', hne, _, h1', _⟩ := hrest y hy
      rw [← hxa, ← hyb, h1, h1'] at hab
      exact hne (name_branch_inj hab).symm
end

/-! ### iteration over a zone vs. the specification -/

theorem mem_dedup (l : List Name) (n : Name) : n ∈ dedup l ↔ n ∈ l := by
  induction l with
  | nil => simp [dedup]
  | cons a l ih =>
    simp only [dedup]
    split
    · rename_i h; rw [ih]; simp only [List.mem_cons]
      constructor
      · exact Or.inr
      · rintro (h' | h'); subst h'; exact h; exact h'
    · simp [ih]

theorem nodup_dedup (l : List Name) : (dedup l).Nodup := by
  induction l with
  | nil => simp [dedup]
  | cons a l ih =>
    simp only [dedup]
    split
    · exact ih
    · rename_i h; rw [List.nodup_cons]; exact ⟨by rwa [mem_dedup], ih⟩

theorem mem_specNodes (s : SZone) (n : Name) : n ∈ specNodes s ↔ IsNode s n := by
  unfold specNodes IsNode
  rw [mem_dedup]
  simp only [List.mem_cons, List.mem_flatMap, mem_pathBelow]
  constructor
  · rintro (h | ⟨r, hr, h1, h2, h3⟩)
    · exact Or.inl h
    · exact Or.inr ⟨h3, h2, r, hr, h1⟩
  · rintro (h | ⟨h3, h2, r, hr, h1⟩)
    · exact Or.inl h
    · exact Or.inr ⟨r, hr, h1, h2, h3⟩

theorem isNode_iff (s : SZone) (n : Name) : IsNode s n ↔ s.apex <:+ n ∧ nameExists s n = true := by
  rw [nameExists_iff]
  unfold IsNode NameExists
  constructor
  · rintro (h | ⟨_, h2, h3⟩)
    · subst h; exact ⟨List.suffix_refl _, Or.inl rfl⟩
    · exact ⟨h2, Or.inr h3⟩
  · rintro ⟨h1, h2 | h2⟩
    · exact Or.inl h2
    · by_cases hn : n = s.apex
      · exact Or.inl hn
      · exact Or.inr ⟨hn, h1, h2⟩

theorem nodup_of_map {α β : Type} (f : α → β) {l : List α} (h : (l.map f).Nodup) : l.Nodup := by
  unfold List.Nodup at *
  rw [List.pairwise_map] at h
  exact h.imp (fun hab e => hab (by rw [e]))

theorem mem_iterByNode {z : Zone} {s : SZone} (h : Rel z s) (hw : Node.WF z.root) (x : Name × List Rrset) :
    x ∈ iterByNode z ↔ IsNode s x.1 ∧ x.2 = rrsetsAt s x.1 := by
  rw [isNode_iff]
  unfold iterByNode
  rw [h.apex]
  constructor
  · intro hx
    obtain ⟨p, h1, h2⟩ := (iter_sound z.root s.apex hw).1 x hx
    have := h.rrs_eq p
    rw [h2] at this
    change x.1 = nameAt s.apex p at h1
    rw [← h1] at this
    split at this
    · rename_i hex
      exact ⟨⟨by rw [h1]; exact apex_suffix_nameAt _ _, hex⟩, Option.some.inj this⟩
    · cases this
  · rintro ⟨⟨h1, h2⟩, h3⟩
    have hn := nameAt_relPath s.apex x.1 h1
    have := h.rrs_eq (relPath s.apex.length x.1)
    rw [hn, h2, if_pos rfl, ← h3] at this
    have hm := mem_iter_of_rrs z.root s.apex _ _ this
    change (nameAt s.apex _, x.2) ∈ _ at hm
    rw [hn] at hm
    exact hm

theorem iterByNode_names_nodup {z : Zone} (hw : Node.WF z.root) : ((iterByNode z).map (·.1)).Nodup :=
  (iter_sound z.root z.apex hw).2

theorem iterByNode_perm {z : Zone} {s : SZone} (h : Rel z s) (hw : Node.WF z.root) :
    (iterByNode z).Perm (specIterByNode s) := by
  rw [List.perm_ext_iff_of_nodup (nodup_of_map _ (iterByNode_names_nodup hw))]
  · intro x
    rw [mem_iterByNode h hw]
    unfold specIterByNode
    simp only [List.mem_map, mem_specNodes]
    constructor
    · rintro ⟨h1, h2⟩; exact ⟨x.1, h1, by rw [← h2]⟩
    · rintro ⟨n, h1, h2⟩; subst h2; exact ⟨h1, rfl⟩
  · unfold specIterByNode
    apply nodup_of_map (·.1)
    rw [List.map_map]
    have : ((fun x : Name × List Rrset => x.1) ∘ fun n => (n, rrsetsAt s n)) = id := rfl
    rw [this, List.map_id]
    exact nodup_dedup _

theorem iterByRrset_perm {z : Zone} {s : SZone} (h : Rel z s) (hw : Node.WF z.root) :
    (iterByRrset z).Perm (specIterByRrset s) := by
  unfold iterByRrset specIterByRrset
  have := (iterByNode_perm h hw).flatMap_right (fun p => p.2.map (fun s => (p.1, s)))
  refine this.trans ?_
  unfold specIterByNode
  rw [List.flatMap_map]

theorem soa_eq_spec {z : Zone} {s : SZone} (h : Rel z s) : soa z = specSoa s := by
  unfold soa specSoa
  have := h.look' [] SOA
  cases hz : z.root with
  | mk rr ch =>
    simp only [hz, rrs_nil, Option.getD_some, nameAt, List.reverse_nil, List.nil_append] at this
    rw [T_SOA_eq]; exact this

theorem ns_eq_spec {z : Zone} {s : SZone} (h : Rel z s) : ns z = specNs s := by
  unfold ns specNs
  have := h.look' [] NS
  cases hz : z.root with
  | mk rr ch =>
    simp only [hz, rrs_nil, Option.getD_some, nameAt, List.reverse_nil, List.nil_append] at this
    rw [T_NS_eq]; exact this

/-! ### `add`: success conditions, error kinds, atomicity -/

theorem specAdd_ok_iff (eqv : Eqv) (s : SZone) (r : Rec) :
    (∃ s', specAdd eqv s r = .ok s') ↔
      (s.apex <:+ r.owner ∧ r.cls = s.cls ∧
        ∀ r' ∈ s.recs, r'.owner = r.owner → r'.rtype = r.rtype → r'.ttl = r.ttl) := by
  unfold specAdd
  by_cases hz : s.apex <:+ r.owner
  · have e2 : s.apex.isSuffixOf r.owner = true := List.isSuffixOf_iff_suffix.mpr hz
    simp only [e2, Bool.not_true, Bool.false_eq_true, if_false, hz, true_and]
    by_cases hc : r.cls = s.cls
    · simp only [ne_eq, hc, not_true_eq_false, if_false, true_and]
      by_cases hany : s.recs.any (fun r' => r'.owner == r.owner && r'.rtype == r.rtype && r'.ttl != r.ttl) = true
      · simp only [hany, if_true, reduceCtorEq, exists_false, false_iff]
        intro hall
        simp only [List.any_eq_true, Bool.and_eq_true, beq_iff_eq, bne_iff_ne] at hany
        obtain ⟨r', hr', ⟨ho, ht⟩, hne⟩ := hany
        exact hne (hall r' hr' ho ht)
      · rw [if_neg hany]
        constructor
        · intro _ r' hr' ho ht
          apply Classical.not_not.mp
          intro hne
          apply hany
          simp only [List.any_eq_true, Bool.and_eq_true, beq_iff_eq, bne_iff_ne]
          exact ⟨r', hr', ⟨ho, ht⟩, hne⟩
        · intro _
          split <;> exact ⟨_, rfl⟩
    · simp [hc]
  · have e2 : s.apex.isSuffixOf r.owner = false := isSuffixOf_eq_false hz
    simp [e2, hz]

/-- `add` answers as the specification does -/
theorem add_eq {z : Zone} {s : SZone} (h : Rel z s) (eqv : Eqv) (r : Rec) :
    add eqv z r = match specAdd eqv s r with
      | .ok _ => .ok (addM eqv z r).1
      | .error e => .err e := by
  have := (h.add eqv r).2
  unfold add
  cases hm : addM eqv z r with
  | mk z' e =>
    rw [hm] at this
    simp only at this
    subst this
    cases specAdd eqv s r <;> rfl

theorem add_ok_iff {z : Zone} {s : SZone} (h : Rel z s) (eqv : Eqv) (r : Rec) :
    (∃ z', add eqv z r = .ok z') ↔ ∃ s', specAdd eqv s r = .ok s' := by
  rw [add_eq h]; cases specAdd eqv s r <;> simp

theorem add_err_iff {z : Zone} {s : SZone} (h : Rel z s) (eqv : Eqv) (r : Rec) (e : AddErr) :
    add eqv z r = .err e ↔ specAdd eqv s r = .error e := by
  rw [add_eq h]; cases specAdd eqv s r <;> simp

/-- a rejected add leaves the zone as it was -/
theorem addM_err_unchanged (eqv : Eqv) (z : Zone) (r : Rec) (z' : Zone) (e : AddErr)
    (h : addM eqv z r = (z', some e)) : z' = z := by
  unfold addM at h
  split at h
  · cases h; rfl
  · split at h
    · cases h; rfl
    · simp only [Prod.mk.injEq] at h
      obtain ⟨h1, h2⟩ := h
      rw [addAt_err_eq _ _ _ _ _ _ _ e h2] at h1
      exact h1.symm

/-! ### SOA / NS agree with iteration -/

theorem fst_unique {α β : Type} {l : List (α × β)} (h : (l.map (·.1)).Nodup) {a : α} {b b' : β}
    (h1 : (a, b) ∈ l) (h2 : (a, b') ∈ l) : b = b' := by
  induction l with
  | nil => simp at h1
  | cons x l ih =>
    simp only [List.map_cons, List.nodup_cons, List.mem_map] at h
    simp only [List.mem_cons] at h1 h2
    rcases h1 with h1 | h1 <;> rcases h2 with h2 | h2
    · rw [← h1] at h2; exact (Prod.mk.inj h2).2.symm
    · exact absurd ⟨(a, b'), h2, by rw [← h1]⟩ h.1
    · exact absurd ⟨(a, b), h1, by rw [← h2]⟩ h.1
    · exact ih h.2 h1 h2

theorem apexRrset_iff {z : Zone} {s : SZone} (h : Rel z s) (hw : Node.WF z.root) (t : Nat) (rr : Rrset) :
    lookupRrset z.root.rrsets t = some rr ↔ ((z.apex, rr) ∈ iterByRrset z ∧ rr.rtype = t) := by
  have hroot : (z.apex, z.root.rrsets) ∈ iterByNode z := by
    unfold iterByNode
    cases z.root with
    | mk rr0 ch => simp [Node.iter, Node.rrsets]
  have hsorted : SortedT z.root.rrsets := by
    cases hz : z.root with
    | mk rr0 ch => exact h.sorted [] rr0 (by rw [hz]; rfl)
  constructor
  · intro hl
    refine ⟨?_, lookupRrset_rtype hl⟩
    unfold iterByRrset
    rw [List.mem_flatMap]
    exact ⟨_, hroot, by simp [lookupRrset_mem hl]⟩
  · rintro ⟨hm, ht⟩
    unfold iterByRrset at hm
    rw [List.mem_flatMap] at hm
    obtain ⟨⟨n, rrs'⟩, hx, hm⟩ := hm
    simp only [List.mem_map, Prod.mk.injEq] at hm
    obtain ⟨x, hx', hn, hxe⟩ := hm
    subst hn; subst hxe
    have := fst_unique (iterByNode_names_nodup hw) hx hroot
    subst this
    rw [← ht]
    exact lookupRrset_of_mem hsorted hx'

end QV.Zone
