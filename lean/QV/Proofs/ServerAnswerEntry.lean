/-
  QV.Proofs.ServerAnswerEntry — the writer state `handle_message_with_context` hands to
  `handle_query` satisfies `QueryReady` (the entry condition of C05).

  The scan's refinement theorem (`QV.ServerScan.scanAndDispatch_answer`, lean/QV/Proofs/ScanRefine.lean)
  shows that when the request reaches a loaded zone without a TSIG record, `handle_query` is run on
  the explicit state `arSt (qSt (hdrSt (w0 bufLen (lim0 tr)) id opcode rd) (some q)) tr payload e l`:
  `Writer::new`, the four header setters, `add_question`, and — if the scan met an OPT record —
  `set_edns`, and over UDP `set_limit l` with `512 ≤ l ≤ max 512 payload`. Here: that state is
  `QueryReady` — up to the question from the walk of the same calls for `Good` (`good_hdrSt`), then call
  by call (`queryReady_addQuestion`, `queryReady_call`).
-/
import QV.Proofs.ServerAnswerCap
import QV.Proofs.ServerMsg
import QV.Proofs.ServerSignedDecode

namespace QV.ServerAnswer
open QV QV.Writer QV.Server QV.ServerScan

/-- the header-only writer of `handle_message`: `Writer::new` + `set_id`, `set_qr`, `set_opcode`, `set_rd` -/
theorem preQuestion_hdrSt (bufLen : Nat) (tr : Transport) (payload id opcode : Nat) (rd : Bool)
    (hbuf : minBuf tr payload ≤ bufLen) (hpay : 512 ≤ payload) :
    PreQuestion (hdrSt (w0 bufLen (lim0 tr)) id opcode rd) := by
  have hB : 12 ≤ min (lim0 tr) bufLen ∧ 3 < bufLen := by
    cases tr <;> simp only [lim0, minBuf] at hbuf ⊢ <;> omega
  -- the invariant and the limit from the walk for `Good`; the rest are fields the header copy leaves alone
  have g := good_hdrSt _ id opcode rd (good_w0 bufLen (lim0 tr) hB.1 (by cases tr <;> simp [lim0]))
    (by rw [w0_size]; exact hB.2)
  have hH := hdrSt_ok bufLen tr payload id opcode rd hbuf hpay
  refine ⟨g.1, hH.sect, hH.qd, g.2.1, ?_⟩
  unfold CountInv
  rw [hH.an, hH.ns, hH.ar]
  omega

/-- **the state `handle_query` is entered in (no TSIG) is `QueryReady`** -/
theorem queryReady_scan_state (bufLen : Nat) (tr : Transport) (payload id opcode : Nat) (rd : Bool)
    (hbuf : minBuf tr payload ≤ bufLen) (hpay : 512 ≤ payload) (hpay16 : payload ≤ 65535)
    (q : Spec.DQuestion) (qn : WName) (hp : WName.parse q.qname = some (qn, [])) (hw : qn.wire = q.qname)
    (hl : q.qname.length ≤ 255) (hqwf : qn.WF) (e : Bool) (l : Nat) (hl1 : 512 ≤ l) (hl2 : l ≤ max 512 payload) :
    QueryReady (arSt (qSt (hdrSt (w0 bufLen (lim0 tr)) id opcode rd) (some q)) tr payload e l) qn := by
  have hH := hdrSt_ok bufLen tr payload id opcode rd hbuf hpay
  have hpre := preQuestion_hdrSt bufLen tr payload id opcode rd hbuf hpay
  obtain ⟨hadd, hbase, _⟩ := qSt_some _ tr payload hH q qn hp hw hl
  have hq1 : QueryReady (qSt (hdrSt (w0 bufLen (lim0 tr)) id opcode rd) (some q)) qn :=
    queryReady_addQuestion qn q.qtype q.qclass hqwf _ _ hpre hadd
  generalize qSt (hdrSt (w0 bufLen (lim0 tr)) id opcode rd) (some q) = s1 at hbase hq1
  unfold arSt
  cases e with
  | false => exact hq1
  | true =>
    simp only [if_true]
    -- set_edns
    have hE := queryReady_call (.setEdns payload) s1 qn hq1 trivial trivial
    have eE : (ServerSafety.Call.setEdns payload).run s1 = setEdns payload s1 := rfl
    rw [eE, setEdns_eq payload s1 hbase.edns hbase.room hbase.ar] at hE
    simp only [] at hE
    cases tr with
    | tcp => exact hE
    | udp =>
      simp only []
      -- set_limit(clamp(opt.class, 512, payload))
      have hL := queryReady_call (.setLimit l) _ qn hE (show l ≤ 65535 by omega) (show l ≤ 65535 by omega)
      have eL : (ServerSafety.Call.setLimit l).run (stEdns payload s1) = setLimit l (stEdns payload s1) := rfl
      have hlim : (stEdns payload s1).limit = 512 := by
        show s1.limit = 512; rw [hbase.lim]; rfl
      have hsz : l ≤ (stEdns payload s1).octets.size := by
        show l ≤ s1.octets.size
        have := hbase.buf rfl
        omega
      rw [eL, setLimit_up l _ (by rw [hlim]; exact hl1) hsz] at hL
      exact hL

/-! ### authenticated (TSIG-signed) requests

  `QV.ServerScan.tsigProcess_some_state` (lean/QV/Proofs/ServerSigned.lean): when the TSIG step
  authenticates the request, the writer it leaves is
  `withTsig (stRcode 0 S0) (.response alg requestMac key) (prepOf keyName tsig now 0)` with
  `TsigFits`, where `S0` is the state of the scan so far (`preTsigState` = the `arSt …` state
  above): `set_rcode(NOERROR)` followed by a successful `set_tsig`. -/

open QV.ServerTsig in
/-- `set_rcode(0)` + a fitting `set_tsig` keep `QueryReady` -/
theorem queryReady_withTsig (s : State) (qn : WName) (h : QueryReady s qn) (mode : TsigMode) (rr : TsigRr)
    (hfit : TsigFits (stRcode 0 s) mode rr)
    (hpre : rr.keyName.WF ∧ (tsigAlgName mode).WF ∧ rr.timeSigned.length = 6 ∧ rr.serverTime.length = 6) :
    QueryReady (withTsig (stRcode 0 s) mode rr) qn := by
  have h3 : 3 < s.octets.size := by
    have hi := h.safe.inv
    have := hi.hdr; have := hi.cur_av; have := hi.av_lim; have := hi.lim_size
    omega
  have h1 := queryReady_call (.setRcode 0) s qn h trivial trivial
  have e1 : (ServerSafety.Call.setRcode 0).run s = setRcode 0 s := rfl
  rw [e1, setRcode_eq 0 s h3] at h1
  simp only [] at h1
  have h2 := queryReady_call (.setTsig mode rr) _ qn h1 hpre trivial
  have e2 : (ServerSafety.Call.setTsig mode rr).run (stRcode 0 s) = setTsig mode rr (stRcode 0 s) := rfl
  rw [e2, setTsig_fits mode rr _ hfit] at h2
  exact h2

open QV.ServerTsig in
/-- **the state `handle_query` is entered in for an authenticated request is `QueryReady`** -/
theorem queryReady_signed_state (bufLen : Nat) (tr : Transport) (payload id opcode : Nat) (rd : Bool)
    (hbuf : minBuf tr payload ≤ bufLen) (hpay : 512 ≤ payload) (hpay16 : payload ≤ 65535)
    (q : Spec.DQuestion) (qn : WName) (hp : WName.parse q.qname = some (qn, [])) (hw : qn.wire = q.qname)
    (hl : q.qname.length ≤ 255) (hqwf : qn.WF) (e : Bool) (l : Nat) (hl1 : 512 ≤ l) (hl2 : l ≤ max 512 payload)
    (alg : Hmac.Alg) (mac secret : List UInt8) (t : Tsig.ReadTsigRr) (kn : WName) (nowT : Tsig.TimeSigned)
    (hkn : WName.parse t.keyName = some (kn, []))
    (hfit : TsigFits (stRcode 0 (arSt (qSt (hdrSt (w0 bufLen (lim0 tr)) id opcode rd) (some q)) tr payload e l))
      (.response (toWriterAlg alg) mac secret) (prepOf kn t nowT 0)) :
    QueryReady (withTsig (stRcode 0 (arSt (qSt (hdrSt (w0 bufLen (lim0 tr)) id opcode rd) (some q)) tr payload e l))
      (.response (toWriterAlg alg) mac secret) (prepOf kn t nowT 0)) qn := by
  refine queryReady_withTsig _ qn
    (queryReady_scan_state bufLen tr payload id opcode rd hbuf hpay hpay16 q qn hp hw hl hqwf e l hl1 hl2) _ _ hfit ?_
  refine ⟨Writer.parse_wf hkn, ServerSafety.algName_WF _, ?_, ?_⟩
  · show (if (0 : Nat) = 18 then (Tsig.ReadTsigRr.timeSigned t).asSlice else nowT.asSlice).length = 6
    simp
  · rfl

end QV.ServerAnswer
