/-
  QV.Proofs.WriterDecodes — the independent message decoder of `QV.Spec.MsgDecode` follows the
  structural layout of the writer: questions and records are found exactly where the items are.
  `finish_with_mac` is described once (`finishWithMac_appended`): what was written stays (`Pres`), the
  counts go into the header, the OPT and TSIG records are appended as record items (`Appended`).
-/
import QV.Proofs.WriterShapeRun
import QV.Spec.MsgDecode

namespace QV.Writer
open QV QV.Wire QV.Spec

theorem specField16_some {m : Bytes} {i : Nat} (h : i + 1 < m.size) : specField16 m i = some (be16 m i) := by
  unfold specField16 be16
  rw [Array.getElem?_eq_getElem (by omega), Array.getElem?_eq_getElem h]
  simp [Array.getD, h, show i < m.size by omega]

theorem specField32_eq_be32 {m : Bytes} {i : Nat} (h : i + 3 < m.size) : specField32 m i = some (be32 m i) := by
  unfold specField32
  rw [specField16_some (by omega), specField16_some (by omega)]
  simp only [be16, be32, Option.some.injEq, show i + 2 + 1 = i + 3 from rfl]
  omega

theorem be16_extract (o : Bytes) (c i : Nat) (hc : c ≤ o.size) (hi : i + 1 < c) :
    be16 (o.extract 0 c) i = be16 o i :=
  be16_congr (extract_prefix_get o c hc i (by omega)) (extract_prefix_get o c hc (i + 1) hi)

theorem extract_size (o : Bytes) (c : Nat) (hc : c ≤ o.size) : (o.extract 0 c).size = c := by
  simp; omega

/-! ### the decoder on a chain of items

  What the decoder reads at an item is a function of the octets (`qAt`, `recAt`); on a chain of items its loops
  return the `map` of that function and stop at the end of the chain. What is known about the content of an item is
  then a statement about `qAt` / `recAt` at that item, with no loop in it. -/

/-- the owner name the decoder reads at `a` -/
def nameAtD (msg : Bytes) (a : Nat) : List UInt8 := ((specDecodeName msg a).map (·.1)).getD []

theorem nameAtD_eq {msg : Bytes} {a n k : Nat} {w : List UInt8} (h : specDecodeName msg a = some (w, n, k)) :
    nameAtD msg a = w := by
  unfold nameAtD; rw [h]; rfl

/-- the question the decoder reads where a name of `k` octets starts at `a` -/
def qAt (msg : Bytes) (a k : Nat) : DQuestion := ⟨nameAtD msg a, be16 msg (a + k), be16 msg (a + k + 2)⟩

/-- the decoder finds the questions where the items are -/
theorem decodeQuestions_qchain (s : State) (hw : WInv s) :
    ∀ (qs : List (Nat × Nat)) (p e : Nat), QChain s qs p e → e ≤ s.cursor →
      decodeQuestions (s.octets.extract 0 s.cursor) qs.length p =
        some (qs.map fun x => qAt (s.octets.extract 0 s.cursor) x.1 x.2, e) := by
  have hcs : s.cursor ≤ s.octets.size := Nat.le_trans hw.cur_av hw.av_size
  have hsz := extract_size s.octets s.cursor hcs
  intro qs
  induction qs with
  | nil => intro p e h _; rw [h]; rfl
  | cons x r ih =>
    intro p e h he
    obtain ⟨a, k⟩ := x
    obtain ⟨h1, hit, h3⟩ := h
    subst h1
    obtain ⟨w, n, hd⟩ := item_decodes hw hit
    have hle := qchain_le h3
    simp only [List.length_cons, decodeQuestions, specQuestionAt, hd]
    rw [specField16_some (by rw [hsz]; omega), specField16_some (by rw [hsz]; omega)]
    simp only [ih _ _ h3 he, List.map_cons, qAt, nameAtD_eq hd]

/-- the RDATA of a decoded record: expanded, or as it lies there and flagged -/
def rdOf (msg : Bytes) (t p rdlen : Nat) : List UInt8 × Bool :=
  match expandRdata msg t p rdlen with
  | some rd => (rd, true)
  | none => ((msg.extract p (p + rdlen)).toList, false)

theorem rdOf_some {msg : Bytes} {t p rdlen : Nat} {rd : List UInt8} (h : expandRdata msg t p rdlen = some rd) :
    rdOf msg t p rdlen = (rd, true) := by
  unfold rdOf; rw [h]

/-- the record the decoder reads where an owner name of `k` octets starts at `a` -/
def recAt (msg : Bytes) (a k : Nat) : DRr :=
  ⟨nameAtD msg a, be16 msg (a + k), be16 msg (a + k + 2), be32 msg (a + k + 4),
    (rdOf msg (be16 msg (a + k)) (a + k + 10) (be16 msg (a + k + 8))).1, a,
    (rdOf msg (be16 msg (a + k)) (a + k + 10) (be16 msg (a + k + 8))).2⟩

/-- one turn of the decoder's record loop, all fields in range -/
theorem decodeRrs_succ {msg : Bytes} {n pos k nl e : Nat} {w : List UInt8} {rs : List DRr}
    (hd : specDecodeName msg pos = some (w, nl, k))
    (hsz : pos + k + 10 + be16 msg (pos + k + 8) ≤ msg.size)
    (hr : decodeRrs msg n (pos + k + 10 + be16 msg (pos + k + 8)) = some (rs, e)) :
    decodeRrs msg (n + 1) pos = some (recAt msg pos k :: rs, e) := by
  simp only [decodeRrs, hd]
  rw [specField16_some (by omega), specField16_some (by omega), specField32_eq_be32 (by omega),
    specField16_some (by omega)]
  simp only [if_pos hsz, hr, recAt, rdOf, nameAtD_eq hd]
  cases expandRdata msg (be16 msg (pos + k)) (pos + k + 10) (be16 msg (pos + k + 8)) <;> rfl

/-- the decoder finds the records where the items are -/
theorem decodeRrs_rchain (s : State) (hw : WInv s) :
    ∀ (rs : List RIt) (p e : Nat), RChain s rs p e → e ≤ s.cursor →
      decodeRrs (s.octets.extract 0 s.cursor) rs.length p =
        some (rs.map fun it => recAt (s.octets.extract 0 s.cursor) it.a it.k, e) := by
  have hcs : s.cursor ≤ s.octets.size := Nat.le_trans hw.cur_av hw.av_size
  have hsz := extract_size s.octets s.cursor hcs
  intro rs
  induction rs with
  | nil => intro p e h _; rw [h]; rfl
  | cons x r ih =>
    intro p e h he
    obtain ⟨h1, hit, hb, h4⟩ := h
    subst h1
    obtain ⟨w, nl, hd⟩ := item_decodes hw hit
    have hle := rchain_le h4
    have e8 : be16 (s.octets.extract 0 s.cursor) (x.a + x.k + 8) = x.rdlen := by
      rw [be16_extract _ _ _ hcs (by omega)]; exact hb
    exact decodeRrs_succ hd (by rw [e8, hsz]; omega) (by rw [e8]; exact ih _ _ h4 he)

theorem rchain_split {s : State} : ∀ {l1 l2 : List RIt} {p e : Nat}, RChain s (l1 ++ l2) p e →
    ∃ m, RChain s l1 p m ∧ RChain s l2 m e := by
  intro l1
  induction l1 with
  | nil => intro l2 p e h; exact ⟨p, rfl, h⟩
  | cons x r ih =>
    intro l2 p e h
    obtain ⟨h1, h2, h3, h4⟩ := h
    obtain ⟨m, ha, hb⟩ := ih h4
    exact ⟨m, ⟨h1, h2, h3, ha⟩, hb⟩

theorem rchain_mem {s : State} : ∀ {rs : List RIt} {p e : Nat}, RChain s rs p e → ∀ x ∈ rs, x.a + x.k + 10 ≤ e := by
  intro rs
  induction rs with
  | nil => intro p e _ x hx; cases hx
  | cons y r ih =>
    intro p e h x hx
    obtain ⟨_, _, _, h4⟩ := h
    rcases List.mem_cons.mp hx with rfl | hx
    · have := rchain_le h4; omega
    · exact ih h4 x hx

/-- the type field of an item -/
def itTy (s : State) (it : RIt) : Nat := be16 s.octets (it.a + it.k)

/-- the final chains: what `finish_with_mac` leaves in the buffer -/
structure FinLay (s sF : State) (len : Nat) : Prop where
  winv : WInv sF
  len : len = sF.cursor
  counts : BytesAt sF.octets 4 (u16be s.qdcount ++ u16be s.ancount ++ u16be s.nscount ++ u16be s.arcount)
  chains : ∃ qs rs o t, QChain sF qs 12 s.rrStart ∧ RChain sF (rs ++ o ++ t) s.rrStart sF.cursor ∧
    qs.length = s.qdcount ∧ rs.length + pend s = s.ancount + s.nscount + s.arcount ∧
    o.map (itTy sF) = (if s.edns.isSome then [41] else []) ∧
    t.map (itTy sF) = (if s.tsig.isSome then [250] else [])

/-! ### what `finish` appends

  `finish_with_mac` writes the counts into the header and then runs two stages, each of which appends nothing or one
  record by `add_rr` — so the two pseudo-records are record items with content like any other (`Appended`), whatever
  is known about the part of the buffer written before; everything written before stays (`Pres`). -/

/-- a stage of `finish_with_mac`: nothing, or one record appended by `add_rr` without hint to the state whose
    `available` was raised by the room reserved for the record -/
inductive Stage (s s' : State) : List RRec → Prop
  | skip : s' = s → Stage s s' []
  | add {k : Nat} {ts : Option Tsig} {owner : WName} {ty cls ttl : Nat} {rd : List UInt8} :
      s.available + k ≤ s.octets.size → owner.WF →
      addRr .none owner ty cls ttl rd { s with available := s.available + k, tsig := ts } = (.ok (), s') →
      Stage s s' [⟨owner, ty, cls, ttl, rd⟩]

/-- a stage leaves a valid state in which everything written before is still there, and its record as an item -/
theorem Stage.spec {s s' : State} {recs : List RRec} (h : Stage s s' recs) (hw : WInv s) (hl : PtrLogOK s) :
    WInv s' ∧ PtrLogOK s' ∧ Pres s s' ∧ (∀ i, i < s.cursor → s'.octets[i]? = s.octets[i]?) ∧ s'.mode = s.mode ∧
      (s'.cursor ≤ 65535 → ∃ its, Appended s s' its ∧ its.map (·.r) = recs) := by
  cases h with
  | skip e => subst e; exact ⟨hw, hl, Pres.refl _, fun _ _ => rfl, rfl, fun _ => ⟨[], Appended.nil _, rfl⟩⟩
  | @add k ts owner ty cls ttl rd hk hwf h =>
    generalize hs0 : ({ s with available := s.available + k, tsig := ts } : State) = s0 at h
    have hw0 : WInv s0 := by rw [← hs0]; exact winv_raise hw k hk ts
    have hl0 : PtrLogOK s0 := by rw [← hs0]; exact hl
    have ho : s0.octets = s.octets := by rw [← hs0]
    have hc : s0.cursor = s.cursor := by rw [← hs0]
    have hg : s0.gLabels = s.gLabels := by rw [← hs0]
    have hm : s0.mode = s.mode := by rw [← hs0]
    obtain ⟨p, k', cs, ps, hrec, a⟩ := addRr_added .none owner ty cls ttl rd (recSt_init hw0 hl0) hwf trivial h
    exact ⟨hrec.winv, hrec.log, (pres_fields ho hc hg).trans (pres_of_ext a.ext),
      fun i hi => by rw [a.ext.pre i (by rw [hc]; exact hi), ho], by rw [a.ext.mode, hm],
      fun hle => ⟨_, (a.appended hle).of_fields hc hm hg, rfl⟩⟩

/-- `finish_with_mac` in three steps: the counts written into the header (`sA`), then the stage of the OPT record
    (`s1`), then the stage of the TSIG record (`sF`) -/
theorem finishWithMac_stages {macFn : Tsig → List UInt8 → List UInt8} {s sF : State} {len : Nat}
    {mac : Option (List UInt8)} (hI : I s) (hw : finishWithMac macFn s = (.ok (len, mac), sF)) :
    ∃ sA s1, I sA ∧ sA.cursor = s.cursor ∧ sA.gLabels = s.gLabels ∧ sA.mode = s.mode ∧
      (∀ i, i < 4 ∨ 12 ≤ i → sA.octets[i]? = s.octets[i]?) ∧
      BytesAt sA.octets 4 (u16be s.qdcount ++ u16be s.ancount ++ u16be s.nscount ++ u16be s.arcount) ∧
      Stage sA s1 (optRecs' s.edns) ∧ Stage s1 sF (tsigRecs s.tsig mac) ∧ len = sF.cursor := by
  obtain ⟨ksz, s1, ho, hw⟩ := finishWithMac_eq_ok.mp hw
  have hIA := i_octets hI _ (withCounts_size s) fun i hi => withCounts_getElem? s i (Or.inr hi)
  have kpre := withCounts_getElem? s
  have kcnt := withCounts_counts s ksz
  have szA := withCounts_size s
  have hres := inv_reserved' hI.inv
  have hav := hI.inv.av_lim; have hls := hI.inv.lim_size
  have h11 : Gen.OPT_RECORD_SIZE = 11 := rfl
  -- `sA`: the state with the counts written
  generalize hsA : ({ s with octets := withCounts s } : State) = sA at ho hIA
  rw [show withCounts s = sA.octets by rw [← hsA]] at kpre kcnt szA
  have avA : sA.available = s.available := by rw [← hsA]
  -- the OPT stage, and the room it leaves for the TSIG record
  have st1 : Stage sA s1 (optRecs' s.edns) ∧
      s1.available + tsigReserved s.tsig ≤ s1.octets.size := by
    rcases finishOpt_ok_inv ho with ⟨he, e⟩ | ⟨e, he, hadd⟩
    · rw [he] at hres ⊢
      rw [e]
      exact ⟨.skip rfl, by rw [avA, szA]; simp at hres; omega⟩
    · rw [he] at hres ⊢
      simp only [Option.isSome_some, if_true, h11] at hres
      have e1 := frame_addRr .none WName.root T_OPT e.payload ((e.upper * 16777216) % 4294967296) []
        { sA with available := sA.available + Gen.OPT_RECORD_SIZE }
      rw [hadd] at e1
      exact ⟨.add (k := Gen.OPT_RECORD_SIZE) (ts := sA.tsig) (by rw [avA, szA, h11]; omega) (by decide) hadd, by
          rw [e1.available, e1.size]
          show sA.available + Gen.OPT_RECORD_SIZE + _ ≤ sA.octets.size
          rw [avA, szA, h11]; omega⟩
  obtain ⟨st1, hroom1⟩ := st1
  refine ⟨sA, s1, hIA, by rw [← hsA], by rw [← hsA], by rw [← hsA], kpre, kcnt, st1, ?_⟩
  rcases finishTsig_ok_inv hw with ⟨hts, e, hlen, _⟩ | ⟨ts, hts, _, _, hlen, hadd⟩
  · rw [hts, e]; exact ⟨.skip rfl, hlen⟩
  · rw [hts] at hroom1 ⊢
    exact ⟨.add (k := ts.reservedLen) (ts := none) hroom1 (hI.tsig ts hts).2.1 hadd, hlen⟩

/-- **what `finish_with_mac` does to the buffer**: everything written stays, the first four header octets are
    untouched, the counts are written after them, and (message of at most 65535 octets) the OPT and TSIG
    records lie after the old cursor as record items with content -/
theorem finishWithMac_appended {macFn : Tsig → List UInt8 → List UInt8} {s sF : State} {len : Nat}
    {mac : Option (List UInt8)} (hI : I s) (hw : finishWithMac macFn s = (.ok (len, mac), sF)) :
    WInv sF ∧ len = sF.cursor ∧ Pres s sF ∧ (∀ i, i < 4 → sF.octets[i]? = s.octets[i]?) ∧
      BytesAt sF.octets 4 (u16be s.qdcount ++ u16be s.ancount ++ u16be s.nscount ++ u16be s.arcount) ∧
      (sF.cursor ≤ 65535 → ∃ its, Appended s sF its ∧ its.map (·.r) = optRecs' s.edns ++ tsigRecs s.tsig mac) := by
  obtain ⟨sA, s1, hIA, cA, gA, mA, kpre, kcnt, st1, st2, hlen⟩ := finishWithMac_stages hI hw
  obtain ⟨w1, l1, p1, q1, m1, a1⟩ := st1.spec hIA.winv hIA.log
  obtain ⟨w2, l2, p2, q2, m2, a2⟩ := st2.spec w1 l1
  have h12 : 12 ≤ sA.cursor := hIA.winv.c12
  have hc1 := p1.cur
  have low : ∀ i, i < 12 → sF.octets[i]? = sA.octets[i]? := fun i hi => by rw [q2 i (by omega), q1 i (by omega)]
  refine ⟨w2, hlen, Pres.trans ⟨fun i hi _ => kpre i (Or.inr hi), by rw [cA]; exact Nat.le_refl _,
      fun g hg => by rw [gA]; exact hg⟩ (p1.trans p2), fun i hi => by rw [low i (by omega)]; exact kpre i (Or.inl hi),
    bytesAt_frame kcnt (fun i _ h2 => low i (by
      have : (u16be s.qdcount ++ u16be s.ancount ++ u16be s.nscount ++ u16be s.arcount).length = 8 := rfl
      omega)), fun hle => ?_⟩
  obtain ⟨o, ao, ho⟩ := a1 (by have := p2.cur; omega)
  obtain ⟨t, at', ht⟩ := a2 hle
  exact ⟨o ++ t, (ao.trans at' w1 p2 h12 m1).of_fields cA mA gA, by rw [List.map_append, ho, ht]⟩

theorem map_take_eq {α β : Type} (f : α → β) (l : List α) (a b : List β) (h : l.map f = a ++ b) :
    (l.take a.length).map f = a ∧ (l.drop a.length).map f = b := by
  constructor
  · rw [List.map_take, h, List.take_left']; rfl
  · rw [List.map_drop, h, List.drop_left']; rfl

theorem finishWithMac_finLay (macFn : Tsig → List UInt8 → List UInt8) (s : State) (hI : I s) (hL : SLay s)
    (len : Nat) (mac : Option (List UInt8)) (sF : State)
    (hw : finishWithMac macFn s = (.ok (len, mac), sF)) (hle : sF.cursor ≤ 65535) : FinLay s sF len := by
  obtain ⟨wF, hlen, pr, _, kcnt, ha⟩ := finishWithMac_appended hI hw
  obtain ⟨its, ap, hrecs⟩ := ha hle
  obtain ⟨qs, hq, hql⟩ := hL.q
  obtain ⟨rs, hr, hrl⟩ := hL.r (by have := pr.cur; omega)
  -- the appended items, cut into the OPT part and the TSIG part; their type fields
  obtain ⟨ho, ht⟩ := map_take_eq (·.r) its _ _ hrecs
  have hch := rchain_append (rchain_pres hI.winv pr (qchain_le hq) (Nat.le_refl _) hr) (rchain_of_chainC ap.chain)
  rw [← List.take_append_drop (optRecs' s.edns).length its, List.map_append, ← List.append_assoc] at hch
  have hty : ∀ l : List RItC, (∀ it ∈ l, it ∈ its) →
      (l.map fun it => (⟨it.a, it.k, it.rdlen⟩ : RIt)).map (itTy sF) = (l.map (·.r)).map (·.ty % 65536) := by
    intro l hl
    rw [List.map_map, List.map_map]
    exact List.map_congr_left fun it hx =>
      be16_of_bytesAt_mod (bytesAt_append (bytesAt_append (rchainC_mem ap.chain it (hl it hx)).2.1.2.2.1).1).1
  refine { winv := wF, len := hlen, counts := kcnt,
           chains := ⟨qs, rs, _, _, qchain_pres hI.winv pr hq, hch, hql, hrl, ?_, ?_⟩ }
  · rw [hty _ (fun _ => List.mem_of_mem_take), ho]
    cases s.edns <;> simp only [optRecs', List.map_cons, List.map_nil, Option.isSome_some, Option.isSome_none,
      if_true, Bool.false_eq_true, if_false]
    decide
  · rw [hty _ (fun _ => List.mem_of_mem_drop), ht]
    cases s.tsig <;> simp only [tsigRecs, List.map_cons, List.map_nil, Option.isSome_some, Option.isSome_none,
      if_true, Bool.false_eq_true, if_false]
    decide


/-- the message decoder, from what its four section loops return -/
theorem specDecodeMsg_of_sections {m : Bytes} (h12 : 12 ≤ m.size) {lq : List DQuestion} {la ln lr : List DRr}
    {p1 p2 p3 p4 : Nat} (hq : decodeQuestions m (be16 m 4) 12 = some (lq, p1))
    (ha : decodeRrs m (be16 m 6) p1 = some (la, p2)) (hn : decodeRrs m (be16 m 8) p2 = some (ln, p3))
    (hr : decodeRrs m (be16 m 10) p3 = some (lr, p4)) (hp : p4 = m.size) :
    specDecodeMsg m = some ⟨be16 m 0, be16 m 2, lq, la, ln, lr⟩ := by
  unfold specDecodeMsg
  rw [if_neg (by omega), specField16_some (by omega), specField16_some (by omega), specField16_some (by omega),
    specField16_some (by omega), specField16_some (by omega), specField16_some (by omega)]
  simp only [hq, ha, hn, hr, hp, if_true]

/-- **a buffer that holds a chain of questions and three chains of records, with their numbers in the header,
    decodes to what the decoder reads at the items** -/
theorem specDecodeMsg_chains (s : State) (hw : WInv s) {qs : List (Nat × Nat)} {ra rn rr : List RIt} {r p2 p3 : Nat}
    (hq : QChain s qs 12 r) (ha : RChain s ra r p2) (hn : RChain s rn p2 p3) (hr : RChain s rr p3 s.cursor)
    (h4 : be16 (s.octets.extract 0 s.cursor) 4 = qs.length) (h6 : be16 (s.octets.extract 0 s.cursor) 6 = ra.length)
    (h8 : be16 (s.octets.extract 0 s.cursor) 8 = rn.length) (h10 : be16 (s.octets.extract 0 s.cursor) 10 = rr.length) :
    specDecodeMsg (s.octets.extract 0 s.cursor) =
      some ⟨be16 (s.octets.extract 0 s.cursor) 0, be16 (s.octets.extract 0 s.cursor) 2,
        qs.map fun x => qAt (s.octets.extract 0 s.cursor) x.1 x.2,
        ra.map fun it => recAt (s.octets.extract 0 s.cursor) it.a it.k,
        rn.map fun it => recAt (s.octets.extract 0 s.cursor) it.a it.k,
        rr.map fun it => recAt (s.octets.extract 0 s.cursor) it.a it.k⟩ := by
  have hsz := extract_size s.octets s.cursor (Nat.le_trans hw.cur_av hw.av_size)
  have l3 := rchain_le hr; have l2 := rchain_le hn; have l1 := rchain_le ha
  exact specDecodeMsg_of_sections (by rw [hsz]; exact hw.c12)
    (by rw [h4]; exact decodeQuestions_qchain s hw qs 12 r hq (by omega))
    (by rw [h6]; exact decodeRrs_rchain s hw ra r p2 ha (by omega))
    (by rw [h8]; exact decodeRrs_rchain s hw rn p2 p3 hn (by omega))
    (by rw [h10]; exact decodeRrs_rchain s hw rr p3 _ hr (Nat.le_refl _)) hsz.symm

/-- a successful `finish` hands back the buffer of `finish_with_mac` below its cursor -/
theorem finish_ok_inv {macFn : Tsig → List UInt8 → List UInt8} {s : State} (hI : Inv s) {m : Bytes}
    {mac : Option (List UInt8)} (hf : finish s macFn = .ok (m, mac)) :
    ∃ sF len, finishWithMac macFn s = (.ok (len, mac), sF) ∧ len = sF.cursor ∧
      m = sF.octets.extract 0 sF.cursor ∧ sF.cursor ≤ sF.octets.size := by
  obtain ⟨len, sF, hw, hm⟩ := finish_eq_ok.mp hf
  replace hm := hm.symm
  obtain ⟨hlim, hlc, hszF⟩ := finishWithMac_len macFn s hI len mac sF hw
  have := hI.lim_size
  exact ⟨sF, len, hw, hlc, by rw [← hm, hlc], by omega⟩

/-- the four section counts of the header, read back from the message cut at `c` -/
theorem counts_be16 {o : Bytes} {c q a n r : Nat} (hc : c ≤ o.size) (h12 : 12 ≤ c)
    (h : BytesAt o 4 (u16be q ++ u16be a ++ u16be n ++ u16be r))
    (hq : q ≤ 65535) (ha : a ≤ 65535) (hn : n ≤ 65535) (hr : r ≤ 65535) :
    be16 (o.extract 0 c) 4 = q ∧ be16 (o.extract 0 c) 6 = a ∧ be16 (o.extract 0 c) 8 = n ∧
      be16 (o.extract 0 c) 10 = r := by
  have hl2 : ∀ x, (u16be x).length = 2 := fun _ => rfl
  obtain ⟨c123, c4⟩ := bytesAt_append h
  obtain ⟨c12, c3⟩ := bytesAt_append c123
  obtain ⟨c1, c2⟩ := bytesAt_append c12
  simp only [List.length_append, hl2] at c2 c3 c4
  refine ⟨?_, ?_, ?_, ?_⟩
  · rw [be16_extract _ _ _ hc (by omega)]; exact be16_of_bytesAt c1 (by omega)
  · rw [be16_extract _ _ _ hc (by omega)]; exact be16_of_bytesAt c2 (by omega)
  · rw [be16_extract _ _ _ hc (by omega)]; exact be16_of_bytesAt c3 (by omega)
  · rw [be16_extract _ _ _ hc (by omega)]; exact be16_of_bytesAt c4 (by omega)

/-- **the finished message decodes completely** under the independent decoder of
    `QV.Spec.MsgDecode`, in every compression mode: from a valid writer state whose layout is
    structured, whatever `finish` returns (if at most 65535 octets, as every DNS message is) decodes,
    with the writer's counts; the additional section ends with the OPT record iff EDNS is set, then
    the TSIG record iff a TSIG is set -/
theorem finish_decodes (macFn : Tsig → List UInt8 → List UInt8) (s : State) (hI : I s) (hL : SLay s)
    (m : Bytes) (mac : Option (List UInt8)) (hf : finish s macFn = .ok (m, mac)) (hsz : m.size ≤ 65535) :
    ∃ d, specDecodeMsg m = some d ∧ d.questions.length = s.qdcount ∧ d.an.length = s.ancount ∧
      d.ns.length = s.nscount ∧ d.ar.length = s.arcount ∧
      ∃ body, d.ar.map (·.ty) = body ++ (if s.edns.isSome then [41] else []) ++
        (if s.tsig.isSome then [250] else []) := by
  obtain ⟨sF, len, hw, hlc, rfl, hcF⟩ := finish_ok_inv hI.inv hf
  have hsz' := extract_size sF.octets sF.cursor hcF
  have hF := finishWithMac_finLay macFn s hI hL len mac sF hw (by rw [← hsz']; exact hsz)
  have wF := hF.winv
  obtain ⟨qs, rs, o, t, hq, hr, hql, hrl, hot, htt⟩ := hF.chains
  obtain ⟨e4, e6, e8, e10⟩ := counts_be16 hcF wF.c12 hF.counts hI.inv.qd hI.inv.an hI.inv.ns hI.inv.ar
  have hol : o.length + t.length = pend s := by
    have h1 := congrArg List.length hot
    have h2 := congrArg List.length htt
    rw [List.length_map] at h1 h2
    rw [h1, h2]; unfold pend; split <;> split <;> rfl
  have hge : s.ancount + s.nscount ≤ rs.length := by have := hI.inv.ar_ge; unfold pend at hrl hol; omega
  -- the chain, cut by the counts
  have hcut : rs ++ o ++ t = rs.take s.ancount ++ ((rs.drop s.ancount).take s.nscount ++
      ((rs.drop s.ancount).drop s.nscount ++ o ++ t)) := by
    have h1 := List.take_append_drop s.ancount rs
    have h2 := List.take_append_drop s.nscount (rs.drop s.ancount)
    conv => lhs; rw [← h1, ← h2]
    simp only [List.append_assoc]
  rw [hcut] at hr
  obtain ⟨p2, ha, hr⟩ := rchain_split hr
  obtain ⟨p3, hn, hr⟩ := rchain_split hr
  have hla : (rs.take s.ancount).length = s.ancount := by rw [List.length_take]; omega
  have hln : ((rs.drop s.ancount).take s.nscount).length = s.nscount := by
    rw [List.length_take, List.length_drop]; omega
  have hlr : ((rs.drop s.ancount).drop s.nscount ++ o ++ t).length = s.arcount := by
    simp only [List.length_append, List.length_drop]; omega
  have hd := specDecodeMsg_chains sF wF hq ha hn hr (by rw [e4, hql]) (by rw [e6, hla]) (by rw [e8, hln])
    (by rw [e10, hlr])
  refine ⟨_, hd, by rw [List.length_map, hql], by rw [List.length_map, hla], by rw [List.length_map, hln],
    by rw [List.length_map, hlr],
    ((rs.drop s.ancount).drop s.nscount).map (itTy sF), ?_⟩
  -- the types of the additional section
  show List.map DRr.ty (List.map _ _) = _
  rw [List.map_map, ← hot, ← htt, ← List.map_append, ← List.map_append]
  apply List.map_congr_left
  intro it hit
  have := rchain_mem hr it hit
  exact be16_extract _ _ _ hcF (by omega)

end QV.Writer
