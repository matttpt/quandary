/-
  QV.Proofs.WriterSect — the record-writing routines do not touch the section (`add_*_rr` changes
  it once, before writing): "`sect` is what it was" is a record law (`keepLaw`, for any function of the state
  that reads none of the fields the record writer assigns).
-/
import QV.Proofs.WriterRecords
import QV.Proofs.WriterLaw

namespace QV.Writer
open QV QV.Wire

def KeepsSect {α} (f : M α) : Prop := ∀ s, (f s).2.sect = s.sect

/-- the relation "`g` is what it was" is a record law for every `g` that reads none of the fields the
    record writer assigns -/
theorem keepLaw {γ} (g : State → γ)
    (hg : ∀ (s : State) o c gl gp gc ow ir q v, g { s with
      octets := o, cursor := c, gLabels := gl, gPtrs := gp, gCtx := gc, mostRecentOwner := ow,
      mostRecentNameInRdata := ir, qname := q, hv := v } = g s) :
    RecLaw (fun s s' => g s' = g s) fun _ => True where
  refl _ := rfl
  trans h1 h2 := h2.trans h1
  trunc := trivial
  push s _ _ _ _ _ := hg s _ _ _ s.gPtrs s.gCtx s.mostRecentOwner s.mostRecentNameInRdata s.qname s.hv
  ptr s _ := hg s s.octets s.cursor s.gLabels _ s.gCtx s.mostRecentOwner s.mostRecentNameInRdata s.qname s.hv
  ctx s c := hg s s.octets s.cursor s.gLabels s.gPtrs c s.mostRecentOwner s.mostRecentNameInRdata s.qname s.hv
  owner s p := hg s s.octets s.cursor s.gLabels s.gPtrs s.gCtx p s.mostRecentNameInRdata s.qname s.hv
  inRdata s p := hg s s.octets s.cursor s.gLabels s.gPtrs s.gCtx s.mostRecentOwner p s.qname s.hv
  qname s p := hg s s.octets s.cursor s.gLabels s.gPtrs s.gCtx s.mostRecentOwner s.mostRecentNameInRdata p s.hv
  hv s _ := hg s s.octets s.cursor s.gLabels s.gPtrs s.gCtx s.mostRecentOwner s.mostRecentNameInRdata s.qname _
  skip s _ _ := hg s s.octets _ s.gLabels s.gPtrs s.gCtx s.mostRecentOwner s.mostRecentNameInRdata s.qname s.hv
  patch {_ s'} _ _ h _ _ :=
    (hg s' _ s'.cursor s'.gLabels s'.gPtrs s'.gCtx s'.mostRecentOwner s'.mostRecentNameInRdata s'.qname s'.hv).trans h

theorem sectLaw : RecLaw (fun s s' => s'.sect = s.sect) fun _ => True := keepLaw (·.sect) fun _ _ _ _ _ _ _ _ _ _ => rfl

theorem keepsSect_addRr (hint : Hint) (owner : WName) (ty cls ttl : Nat) (rd : List UInt8) :
    KeepsSect (addRr hint owner ty cls ttl rd) := fun s => (sectLaw.addRr trivial hint owner ty cls ttl rd s).1

theorem keepsSect_addRrset (owner : WName) (ty cls ttl : Nat) (rds : List (List UInt8)) (hint : Hint) (n : Nat) :
    KeepsSect (addRrset hint owner ty cls ttl rds n) := fun s => (sectLaw.addRrset trivial hint owner ty cls ttl rds n s).1

theorem keepsSect_addQuestionBody (qn : WName) (qt qc : Nat) : KeepsSect (addQuestionBody qn qt qc) :=
  fun s => (sectLaw.addQuestionBody qn qt qc s).1

end QV.Writer
