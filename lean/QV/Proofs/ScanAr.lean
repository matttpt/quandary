/-
  QV.Proofs.ScanAr — the scan of the additional section (`QV.Server.scanAr`, with its OPT and TSIG
  arms) refines the specification's `QV.Spec.Server.scanAr`: same outcome at every record, and the
  writer that results is an explicit function of the outcome (`arSt`, `ArPost`).
-/
import QV.Proofs.ScanTsig
import QV.Proofs.ServerShell
import QV.Proofs.WriterView
import QV.Spec.ServerTsig

namespace QV.Server
open QV QV.Writer

/-- the TSIG branch after `ReadTsigRr::try_from` succeeded: the clock, then `tsigProcess`. A
    proof-side name for that tail of the model's `handleTsig` (whose namespace it shares). -/
def tsigAfter (cfg : Cfg) (now : Nat) (t : Tsig.ReadTsigRr) (mw : Bytes) (r' : Reader.Reader) :
    M (Option Reader.Reader) := fun s =>
  match Tsig.TimeSigned.tryFromUnix now with
  | none => (.panic, s)
  | some nowT => tsigProcess Tsig.realHmac cfg.keys nowT t mw.toList r' s

end QV.Server

namespace QV.ServerScan
open QV QV.Wire QV.Reader QV.Writer

/-! ### writer states reached by the scan -/

/-- the writer after the scan has processed an OPT record (`e`): `set_edns`, and over UDP
    `set_limit` to the negotiated size `lim` -/
def arSt (s1 : State) (tr : Server.Transport) (payload : Nat) (e : Bool) (lim : Nat) : State :=
  if e then
    match tr with
    | .udp => stLimit lim (stEdns payload s1)
    | .tcp => stEdns payload s1
  else s1

theorem arSt_size (s1 : State) (tr : Server.Transport) (p : Nat) (e : Bool) (l : Nat) :
    (arSt s1 tr p e l).octets.size = s1.octets.size := by
  cases e <;> cases tr <;> rfl

theorem arSt_edns_true (s1 : State) (tr : Server.Transport) (p l : Nat) :
    (arSt s1 tr p true l).edns = some ⟨p, 0⟩ := by
  cases tr <;> rfl

theorem stLimit_self (s : State) : stLimit s.limit s = s := by
  cases s; simp [stLimit]

/-- the base state: the writer as `handle_message_with_context` finds it after the question -/
structure Base (s1 : State) (tr : Server.Transport) (payload : Nat) : Prop where
  edns : s1.edns = none
  size3 : 3 < s1.octets.size
  room : s1.cursor + 11 ≤ s1.available
  ar : s1.arcount + 1 ≤ 65535
  lim : s1.limit = lim0 tr
  buf : tr = .udp → 512 ≤ s1.octets.size ∧ payload ≤ s1.octets.size
  avail : s1.available = s1.limit
  sizeL : s1.limit ≤ s1.octets.size
  tsig : s1.tsig = none

theorem do_formErr {α} (s : State) (h : 3 < s.octets.size) :
    (do setRcode (Server.RC "FORMERR"); pure none : M (Option α)) s = (.ok none, stRcode 1 s) := by
  rw [RC_FORMERR, bind_ok (setRcode_eq 1 s h)]; rfl

theorem do_xrcode {α} (raw : Nat) (e : Edns) (s : State) (he : s.edns = some e) (hr : raw ≤ 4095)
    (h : 3 < s.octets.size) :
    (do Writer.unwrap (setExtendedRcode raw); pure none : M (Option α)) s = (.ok none, stXRcode raw e s) := by
  rw [bind_ok (unwrap_eq_ok.mpr (setExtendedRcode_eq raw e s he hr h))]; rfl

/-- FORMERR through `set_extended_rcode` on a fresh EDNS response is FORMERR through `set_rcode` -/
theorem stXRcode_one (p : Nat) (s : State) (he : s.edns = some ⟨p, 0⟩) :
    stXRcode 1 ⟨p, 0⟩ s = stRcode 1 s := by
  unfold stXRcode stRcode
  have e1 : (stHdr 3 (fun b => b &&& ~~~15 ||| UInt8.ofNat 1) s).edns = some ⟨p, 0⟩ := he
  simp only [e1]
  have : (UInt8.ofNat (1 % 256) &&& 15 : UInt8) = UInt8.ofNat 1 := by decide
  simp only [this]

/-- how the TSIG branch ends the scan: verified ⇒ the scan is over (TSIG is the last record) -/
def tsigCont (out : Out WriterErr (Option Reader) × State) (e : Bool) : Out WriterErr (Option Server.ScanSt) × State :=
  match out with
  | (.ok (some r'), s') => (.ok (some ⟨r', e⟩), s')
  | (.ok none, s') => (.ok none, s')
  | (.err x, s') => (.err x, s')
  | (.panic, s') => (.panic, s')

/-- the RDATA octets of the record delimited by `d` -/
def tsigRd (req : Bytes) (d : Spec.Server.Delim) : List UInt8 := (req.extract (d.ownerEnd + 10) d.next).toList

/-- **the TSIG record the scan reached, as the model reads it**: `mw` is the request up to the
    record, `r'` the reader after it, and `t` is `ReadTsigRr::try_from` of the record at `d`: the
    decoded owner and the algorithm name in lower case, the MAC size field, the RDATA slice -/
def TsigView (req : Bytes) (d : Spec.Server.Delim) (t : Tsig.ReadTsigRr) (mw : Bytes) (r' : Reader) : Prop :=
  mw = req.extract 0 d.pos ∧ r'.cursor = d.next ∧
  ∃ owner nl fl p, Spec.specDecodeName req d.pos = some (owner, nl, fl) ∧
    parseUncompressed (tsigRd req d).toArray false = .ok p ∧ p.len + 10 ≤ (tsigRd req d).length ∧
    p.len + be16 (req.extract (d.ownerEnd + 10) d.next) (p.len + 8) +
      be16 (req.extract (d.ownerEnd + 10) d.next)
        (p.len + be16 (req.extract (d.ownerEnd + 10) d.next) (p.len + 8) + 14) + 16 = d.rdlen ∧
    t = ⟨Tsig.lowerName owner, Tsig.lowerName p.wire, (Tsig.rd16 (tsigRd req d) (p.len + 8)).toNat, tsigRd req d⟩

/-- what the model's additional-section scan must return for each outcome of the spec's scan -/
def ArPost (cfg : Server.Cfg) (tr : Server.Transport) (now : Nat) (req : Bytes) (s1 : State) (r : Reader) (n : Nat)
    (res : Spec.Server.ArEnd × Bool × Nat) (out : Out WriterErr (Option Server.ScanSt) × State) : Prop :=
  match res with
  | (.done pos, e', l') =>
    out = (.ok (some ⟨{ r with cursor := pos }, e'⟩), arSt s1 tr cfg.payload e' l') ∧ pos ≤ req.size
  | (.formErr, e', l') => out = (.ok none, stRcode 1 (arSt s1 tr cfg.payload e' l'))
  | (.badVers, e', l') => out = (.ok none, stXRcode 16 ⟨cfg.payload, 0⟩ (arSt s1 tr cfg.payload e' l'))
  | (.tsig, e', l') => ∃ (t : Tsig.ReadTsigRr) (mw : Bytes) (r' : Reader),
      r'.octets = req ∧ r'.cursor ≤ req.size ∧ r'.mark = r.mark ∧
      out = tsigCont (Server.tsigAfter cfg now t mw r' (arSt s1 tr cfg.payload e' l')) e' ∧
      ∃ d, Spec.ServerTsig.walk req n r.cursor = some d ∧ TsigView req d t mw r'


/-- one record further from the end: the scan's post-condition at the next record is the
    post-condition at this one -/
theorem arPost_shift {cfg : Server.Cfg} {tr : Server.Transport} {now : Nat} {s1 : State} {r : Reader}
    {d : Spec.Server.Delim} {n : Nat} {res : Spec.Server.ArEnd × Bool × Nat}
    {out : Out WriterErr (Option Server.ScanSt) × State}
    (hd : Spec.Server.specDelimit r.octets r.cursor = some d)
    (h : ArPost cfg tr now r.octets s1 { r with cursor := d.next } n res out) :
    ArPost cfg tr now r.octets s1 r (n + 1) res out := by
  obtain ⟨en, e', l'⟩ := res
  cases en with
  | done pos => exact h
  | formErr => exact h
  | badVers => exact h
  | tsig =>
    simp only [ArPost] at h ⊢
    obtain ⟨t, mw, r', h1, h2, h3, h4, dT, hw, hview⟩ := h
    refine ⟨t, mw, r', h1, h2, h3, h4, dT, ?_, hview⟩
    simp only [Spec.ServerTsig.walk, hd]
    by_cases hn : n = 0
    · subst hn; simp [Spec.ServerTsig.walk] at hw
    · rw [if_neg hn]; exact hw

/-- an OPT that cannot be parsed leaves an EDNS response with the limit unchanged -/
theorem arSt_opt_unparsed {s1 : State} {tr : Server.Transport} {payload : Nat} (hb : Base s1 tr payload) :
    arSt s1 tr payload true 512 = stEdns payload s1 := by
  cases htr : tr with
  | udp =>
    have : (stEdns payload s1).limit = 512 := by
      show s1.limit = 512; rw [hb.lim, htr]; rfl
    show stLimit 512 (stEdns payload s1) = _
    rw [← this, stLimit_self]
  | tcp => rfl

/-- `set_limit` to the negotiated size (over UDP) after `set_edns` yields `arSt` -/
theorem arSt_setLimit {s1 : State} {tr : Server.Transport} {payload : Nat} (hb : Base s1 tr payload) (cls : Nat)
    {β : Type} (k : M β) :
    (if tr = Server.Transport.udp then (do setLimit (max 512 (min cls payload)); k) else k) (stEdns payload s1) =
      k (arSt s1 tr payload true (max 512 (min cls payload))) := by
  cases htr : tr with
  | udp =>
    simp only [if_true]
    obtain ⟨b1, b2⟩ := hb.buf htr
    rw [bind_ok (setLimit_up _ _ (by show s1.limit ≤ _; rw [hb.lim, htr]; exact Nat.le_max_left _ _)
      (by show _ ≤ s1.octets.size
          have : min cls payload ≤ payload := Nat.min_le_right _ _
          omega))]
    rfl
  | tcp =>
    simp only [reduceCtorEq, if_false]
    rfl

/-! ### `PeekRr::parse` against the spec -/

/-- parsing the record that `peek_rr` delimited: the owner decodes per RFC 1035 §4.1.4 and the
    RDATA reader accepts — or it fails, never panicking, leaving the reader alone -/
theorem parse_spec (r : Reader) (d : Spec.Server.Delim) (hD : DelimAt r d) :
    match Spec.specDecodeName r.octets r.cursor with
    | none => ∃ e, (⟨r, d.ownerEnd, d.next⟩ : PeekRr).parse Server.rdRead = (.err e, r)
    | some (owner, _, _) =>
      (⟨r, d.ownerEnd, d.next⟩ : PeekRr).parse Server.rdRead =
        match Server.rdRead d.cls d.ty r.octets (d.ownerEnd + 10) d.rdlen with
        | .panic => (.panic, r)
        | .err e => (.err (.InvalidRdata e), r)
        | .ok rd => (.ok ⟨owner, d.ty, d.cls, Reader.ttlFrom d.rawTtl, rd⟩, { r with cursor := d.next }) := by
  rw [Spec.specDecodeName_eq_parse]
  unfold PeekRr.parse PeekRr.owner
  cases hp : parseCompressed r.octets r.cursor with
  | ok p =>
    simp only [hD.ty, hD.cls, hD.ttl, hD.rdlength]
    rfl
  | err e => exact ⟨_, rfl⟩
  | panic => exact absurd hp (C14.C14_no_panic _ _)

/-- the syntactic checks of the TSIG branch (`handle_message_with_context`, TSIG arm up to
    `ReadTsigRr::try_from`): the record decodes, its RDATA has the RFC 8945 §4.2 layout, class ANY,
    raw TTL 0 — otherwise FORMERR; never a panic -/
theorem handleTsig_spec (cfg : Server.Cfg) (now : Nat) (r : Reader) (hi : Inv r) (d : Spec.Server.Delim)
    (hD : DelimAt r d) (ht250 : d.ty = 250) (hreq : r.octets.size ≤ Rdata.USIZE_MAX)
    (S : State) (h3 : 3 < S.octets.size) :
    if (Spec.specDecodeName r.octets r.cursor).isSome ∧
        Spec.Server.tsigRdataOk r.octets (d.ownerEnd + 10) d.next = true ∧ d.cls = 255 ∧ d.rawTtl = 0 then
      ∃ (t : Tsig.ReadTsigRr) (mw : Bytes),
        Server.handleTsig cfg now ⟨r, d.ownerEnd, d.next⟩ d.rawTtl S =
          Server.tsigAfter cfg now t mw { r with cursor := d.next } S ∧
        TsigView r.octets d t mw { r with cursor := d.next }
    else Server.handleTsig cfg now ⟨r, d.ownerEnd, d.next⟩ d.rawTtl S = (.ok none, stRcode 1 S) := by
  have hps := parse_spec r d hD
  obtain ⟨_, hpos, _, hnx, hsz, hrdl, _⟩ := hD
  have hmr : (⟨r, d.ownerEnd, d.next⟩ : PeekRr).messageToRr = .ok (r.octets.extract 0 r.cursor) := by
    simp [PeekRr.messageToRr, messageToCursor, hi.2]
  unfold Server.handleTsig
  rw [hmr]
  simp only
  cases hdn : Spec.specDecodeName r.octets r.cursor with
  | none =>
    rw [hdn] at hps
    obtain ⟨x, hx⟩ := hps
    simp only [Option.isSome_none, Bool.false_eq_true, false_and, if_false, hx]
    exact do_formErr _ h3
  | some v =>
    obtain ⟨owner, nl, fl⟩ := v
    rw [hdn] at hps
    simp only at hps
    have hro := tsigFacts.exact d.cls r.octets (d.ownerEnd + 10) d.rdlen (by omega) hreq hrdl
    rw [show d.ownerEnd + 10 + d.rdlen = d.next by omega] at hro
    rw [ht250] at hps
    simp only [Option.isSome_some, true_and]
    by_cases hok : Spec.Server.tsigRdataOk r.octets (d.ownerEnd + 10) d.next = true
    · simp only [hok, if_true] at hro
      obtain ⟨rd, hrd, p, hpu, hlen, hslice, hlay⟩ := hro
      rw [hrd] at hps
      simp only [hps, hok, true_and]
      by_cases hraw : d.rawTtl = 0
      · simp only [hraw, ne_eq, not_true_eq_false, if_false, and_true]
        unfold Tsig.ReadTsigRr.tryFrom
        have c1 : Gen.TYPE_TSIG = 250 := rfl
        have c2 : Gen.QCLASS_ANY = 255 := rfl
        have c3 : Reader.ttlFrom 0 = 0 := rfl
        simp only [c1, c2, c3, ne_eq, not_true_eq_false, if_false, or_false]
        by_cases hc : d.cls = 255
        · simp only [hc, not_true_eq_false, if_false, if_true, hpu, show ¬ rd.length < p.len + 10 by omega]
          refine ⟨_, _, rfl, hpos ▸ rfl, rfl, owner, nl, fl, p, hpos ▸ hdn, ?_, ?_, ?_, ?_⟩
          · show parseUncompressed (r.octets.extract (d.ownerEnd + 10) d.next).toList.toArray false = _
            rw [← hslice]; exact hpu
          · show p.len + 10 ≤ (r.octets.extract (d.ownerEnd + 10) d.next).toList.length
            rw [← hslice]; exact hlen
          · exact hlay
          · simp only [tsigRd, ← hslice]
        · simp only [hc, not_false_eq_true, if_true, if_false]
          exact do_formErr _ h3
      · simp only [hraw, ne_eq, not_false_eq_true, if_true, and_false, if_false]
        exact do_formErr _ h3
    · simp only [hok, if_false, Bool.false_eq_true] at hro
      obtain ⟨x, hx⟩ := hro
      rw [hx] at hps
      simp only [hps, hok]
      exact do_formErr _ h3

/-! ### the additional section -/

/-- the spec's checks of a decodable TSIG record (`Spec.Server.scanAr`, TSIG arm), as one condition -/
theorem tsigArm_eq {α : Type} (ok : Bool) (cls ttl : Nat) (bad good : α) :
    (if !ok then bad else if ¬ cls = 255 ∨ ¬ ttl = 0 then bad else good) =
      if ok = true ∧ cls = 255 ∧ ttl = 0 then good else bad := by
  cases ok with
  | false => rfl
  | true =>
    by_cases hc : cls = 255
    · by_cases ht : ttl = 0
      · simp only [hc, ht, Bool.not_true, Bool.false_eq_true, not_true_eq_false, or_self, if_false, and_self, if_true]
      · simp only [hc, ht, Bool.not_true, Bool.false_eq_true, not_true_eq_false, false_or, not_false_eq_true,
          if_false, if_true, and_false]
    · simp only [hc, Bool.not_true, Bool.false_eq_true, not_false_eq_true, true_or, if_false, if_true, false_and,
        and_false]

/-- **the additional-section scan refines the specification's**: run from the writer the scan has
    built so far (`arSt s1 tr payload e lim`) with the reader at a record boundary of the request, the
    model's `scanAr` ends as `Spec.Server.scanAr` does from the same position and state, and returns
    the reader and writer `ArPost` prescribes for that ending -/
theorem scanAr_spec (cfg : Server.Cfg) (tr : Server.Transport) (now : Nat) (req : Bytes) (arcount : Nat)
    (s1 : State) (hb : Base s1 tr cfg.payload) (hreq : req.size ≤ Rdata.USIZE_MAX) :
    ∀ (n index : Nat) (r : Reader) (e : Bool) (lim : Nat),
      index + n = arcount → Inv r → r.octets = req → (e = false → lim = 512) →
      ArPost cfg tr now req s1 r n
        (Spec.Server.scanAr req cfg.payload n arcount r.cursor e lim)
        (Server.scanAr cfg tr now arcount n index ⟨r, e⟩ (arSt s1 tr cfg.payload e lim)) := by
  intro n
  induction n with
  | zero =>
    intro index r e lim hidx hi ho hl
    subst ho
    exact ⟨rfl, hi.2⟩
  | succ n ih =>
    intro index r e lim hidx hi ho hl
    subst ho
    have h3 : 3 < (arSt s1 tr cfg.payload e lim).octets.size := by rw [arSt_size]; exact hb.size3
    simp only [Spec.Server.scanAr, Server.scanAr]
    have hp := peekRr_spec r hi
    cases hd : Spec.Server.specDelimit r.octets r.cursor with
    | none =>
      rw [hd] at hp
      obtain ⟨x, he⟩ := hp
      simp only [he, ArPost]
      exact do_formErr _ h3
    | some d =>
      rw [hd] at hp
      have hps := parse_spec r d hp
      have hnx := hp.next
      have hsz := hp.size
      have hrdl := hp.rdlen_le
      have hi' : Inv ({ r with cursor := d.next } : Reader) := ⟨hi.1, hsz⟩
      simp only [hp.peek, hp.ty, hp.rawTtl, T_OPT, T_TSIG]
      by_cases ht41 : d.ty = 41
      · -- an OPT record
        simp only [ht41, if_true]
        cases e with
        | true =>
          simp only [if_true, ArPost]
          exact do_formErr _ h3
        | false =>
          have hlim : lim = 512 := hl rfl
          subst hlim
          simp only [Bool.false_eq_true, if_false]
          have hst : arSt s1 tr cfg.payload false 512 = s1 := rfl
          rw [hst, setEdns_eq cfg.payload s1 hb.edns hb.room hb.ar]
          simp only
          have hE0 := arSt_opt_unparsed hb
          have h3' : 3 < (stEdns cfg.payload s1).octets.size := hb.size3
          cases hdn : Spec.specDecodeName r.octets r.cursor with
          | none =>
            rw [hdn] at hps
            obtain ⟨x, hx⟩ := hps
            simp only [hx, ArPost, hE0]
            exact do_formErr _ h3'
          | some v =>
            obtain ⟨owner, nl, fl⟩ := v
            rw [hdn] at hps
            simp only at hps
            have hro := rdRead_opt d.cls r.octets (d.ownerEnd + 10) d.rdlen (by omega) hreq hrdl
            rw [ht41] at hps
            rw [show d.ownerEnd + 10 + d.rdlen = d.next by omega] at hro
            by_cases hok : Spec.Server.optRdataOk r.octets (d.rdlen + 1) (d.ownerEnd + 10) d.next = true
            · simp only [hok, if_true] at hro
              obtain ⟨rd, hrd⟩ := hro
              rw [hrd] at hps
              simp only [hps, hok, Bool.not_true, Bool.false_eq_true, if_false]
              have hlimK := fun {β : Type} (k : M β) => arSt_setLimit hb d.cls k
              have hS3 : 3 < (arSt s1 tr cfg.payload true (max 512 (min d.cls cfg.payload))).octets.size := by
                rw [arSt_size]; exact hb.size3
              have hSe := arSt_edns_true s1 tr cfg.payload (max 512 (min d.cls cfg.payload))
              by_cases hown : owner = [0]
              · subst hown
                by_cases hver : d.rawTtl / 65536 % 256 = 0
                · -- a good OPT: the scan goes on
                  simp only [ne_eq, not_true_eq_false, if_false, hver]
                  rw [hlimK]
                  exact arPost_shift hd (ih (index + 1) { r with cursor := d.next } true _ (by omega) hi' rfl (by intro h; cases h))
                · simp only [ne_eq, not_true_eq_false, if_false, hver, not_false_eq_true, if_true, ArPost]
                  rw [hlimK, XRC_BADVERS]
                  exact do_xrcode 16 _ _ hSe (by omega) hS3
              · simp only [ne_eq, hown, not_false_eq_true, if_true, ArPost]
                rw [hlimK, XRC_FORMERR, ← stXRcode_one cfg.payload _ hSe]
                exact do_xrcode 1 _ _ hSe (by omega) hS3
            · simp only [hok, if_false, Bool.false_eq_true] at hro
              obtain ⟨x, hx⟩ := hro
              rw [hx] at hps
              have hok' : Spec.Server.optRdataOk r.octets (d.rdlen + 1) (d.ownerEnd + 10) d.next = false := by
                simpa using hok
              simp only [hps, hok', Bool.not_false, if_true, ArPost, hE0]
              exact do_formErr _ h3'
      · simp only [ht41, if_false]
        by_cases ht250 : d.ty = 250
        · -- a TSIG record
          simp only [ht250, if_true]
          by_cases hn : n = 0
          · subst hn
            have hidx' : index = arcount - 1 := by omega
            simp only [ne_eq, not_true_eq_false, if_false, hidx']
            have hts := handleTsig_spec cfg now r hi d hp ht250 hreq
              (arSt s1 tr cfg.payload e lim) h3
            cases hdn : Spec.specDecodeName r.octets r.cursor with
            | none =>
              rw [hdn, if_neg (fun h => by cases h.1)] at hts
              rw [hts]
              rfl
            | some v =>
              rw [hdn] at hts
              simp only [Option.isSome_some, true_and] at hts ⊢
              rw [tsigArm_eq]
              by_cases hall : Spec.Server.tsigRdataOk r.octets (d.ownerEnd + 10) d.next = true ∧ d.cls = 255 ∧ d.rawTtl = 0
              · rw [if_pos hall] at hts ⊢
                obtain ⟨t, mw, hpt, hview⟩ := hts
                rw [hpt]
                refine ⟨t, mw, { r with cursor := d.next }, rfl, hsz, rfl, ?_, d, ?_, hview⟩
                · generalize Server.tsigAfter cfg now t mw { r with cursor := d.next }
                    (arSt s1 tr cfg.payload e lim) = X
                  rcases X with ⟨(_ | _ | _), s'⟩
                  · rename_i a; cases a <;> rfl
                  · rfl
                  · rfl
                · simp [Spec.ServerTsig.walk, hd]
              · rw [if_neg hall] at hts ⊢
                rw [hts]
                rfl
          · have hidx' : index ≠ arcount - 1 := by omega
            simp only [ne_eq, hn, not_false_eq_true, if_true, hidx', ArPost]
            exact do_formErr _ h3
        · -- any other record is skipped
          simp only [ht250, if_false]
          exact arPost_shift hd (ih (index + 1) { r with cursor := d.next } e lim (by omega) hi' rfl hl)

end QV.ServerScan
