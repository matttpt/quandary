/-
  QV.Proofs.ServerQuery — layers L2 and L3 of C01: the QUERY handler (`src/server/query.rs`).

  L2: every zone lookup made by `answer` / `answer_any` / `follow_cname_2` /
  `add_additional_addresses` is safe (the unchecked ones because the zone was selected by the
  catalog); `WrongZone ⇒ panic!` is unreachable; the CNAME recursion ends by the `owners_seen`
  capacity check, never by running out of fuel; `read_soa_minimum` never panics.
  L3: every writer call meets the writer's contract (`Call.Pre`): names handed over are well
  formed, and each hint is valid — `Hint::Qname` only after the question was added with that
  very name, `MostRecentOwner` / `MostRecentNameInRdata` only right after such a name was written,
  explicit pointers taken from the `HintPointerVec` of the RRset just written and indexed by the
  position of the RDATA whose name they accompany. `OutOfOrder` / `Truncation` / `InvalidRdata` are
  never unwrapped: they become `ProcessingError`s handled by `handle_non_axfr_query`.

  The pass over the functions of query.rs is written for `SafeE W E f s Q` = C01's judgement `SafeP W`
  (from `s`, `f` does not panic, keeps `W.I`, ends in `Q`) together with a second property `E f s`, for
  any `E` closed under the seven rules `Along W E`. C01 itself is the instance `Along.triv` (nothing is
  carried along); the tie between log and content layout (Proofs/ServerAnswerContent.lean) and the
  two-run property (Proofs/ServerAnswerTwoRunI.lean) are carried through the same pass.
-/
import QV.Proofs.ServerZone
import QV.Proofs.ServerContext
import QV.Proofs.ServerPure

namespace QV.ServerSafety
open QV QV.Writer QV.Server QV.ServerAnswer

variable (W : WriterSafe)

/-! ### hints -/

/-- entry *i* of a lent `HintPointerVec` is a valid anchor of the *i*-th name -/
def HvOK (s : State) (v : List (Option Nat)) (names : List WName) : Prop :=
  ∀ i p : Nat, v[i]? = some (some p) → ∃ n, names[i]? = some n ∧ W.Den s ⟨p, n.len⟩ n

theorem HvOK.mono {s s' : State} {v : List (Option Nat)} {names : List WName} (h : HvOK W s v names)
    (hm : Mono W.Den s s') : HvOK W s' v names :=
  fun i p hv => let ⟨n, hn, hd⟩ := h i p hv; ⟨n, hn, hm.2 _ _ hd⟩

theorem hintFrom_ok {s : State} {v : List (Option Nat)} {names : List WName} (h : HvOK W s v names)
    (i : Nat) (n : WName) (hn : ∀ n', names[i]? = some n' → n' = n) :
    HintOK W.Den s (hintFrom v i) n := by
  unfold hintFrom
  cases hv : v[i]? with
  | none => trivial
  | some o =>
    cases o with
    | none => trivial
    | some p =>
      obtain ⟨n', hn', hd⟩ := h i p hv
      have := hn n' hn'
      subst this
      exact fun _ => hd

theorem hintOK_hv {s : State} (v : Option HV) {hint : Hint} {n : WName} (h : HintOK W.Den s hint n) :
    HintOK W.Den { s with hv := v } hint n := by
  cases hint with
  | qname => exact fun q hq => W.Den_hv _ _ _ _ (h q hq)
  | mostRecentOwner => exact fun q hq => W.Den_hv _ _ _ _ (h q hq)
  | mostRecentNameInRdata => exact fun q hq => W.Den_hv _ _ _ _ (h q hq)
  | explicit p => exact fun hp => W.Den_hv _ _ _ _ (h hp)
  | none => trivial

/-- a writer call lent a fresh `HintPointerVec` (`hc`: what `W.call` says of it): safe; the vector is
    read, and `Q` judged, once it has been taken back -/
theorem safe_withHv (m : M Unit) (s : State)
    (hc : (m { s with hv := some [] }).1 ≠ .panic ∧ W.I (m { s with hv := some [] }).2 ∧
      Mono W.Den { s with hv := some [] } (m { s with hv := some [] }).2)
    {Q : HV → State → Prop}
    (hq : (m { s with hv := some [] }).1 = .ok () →
      Q ((m { s with hv := some [] }).2.hv.getD []) { (m { s with hv := some [] }).2 with hv := none }) :
    Safe W (Server.withHv [] m) s Q := by
  obtain ⟨h1, h2, h3⟩ := hc
  unfold Safe
  dsimp only [Server.withHv]
  generalize m { s with hv := some [] } = res at h1 h2 h3 hq
  obtain ⟨o, s1⟩ := res
  have hm : Mono W.Den s { s1 with hv := none } :=
    ⟨h3.1, fun p n hd => W.Den_hv _ _ _ _ (h3.2 p n (W.Den_hv _ _ _ _ hd))⟩
  cases o with
  | panic => exact absurd rfl h1
  | err e => exact ⟨by simp, W.I_hv _ _ h2, hm, fun a ha => by cases ha⟩
  | ok u => exact ⟨by simp, W.I_hv _ _ h2, hm, fun a ha => by cases ha; exact hq rfl⟩

/-- `add_*_rrset(.., Some(&mut hint_pointer_vec))` with a fresh vector: afterwards the vector's
    entries are valid anchors of the names inside the RDATAs and `MostRecentOwner` is a valid hint
    for the owner -/
theorem safe_rrset_hv (sec : RrSection) (hint : Hint) (owner : WName) (ty cls ttl : Nat)
    (rds : List (List UInt8)) (s : State) (hi : W.I s) (hwf : owner.WF)
    (hh : HintOK W.Den s hint owner) (hne : rds ≠ []) :
    Safe W (Server.withHv [] (addRrsetOp sec hint owner ty cls ttl rds)) s
      (fun v s' => HvOK W s' v (rds.flatMap (rdataNames cls ty)) ∧ HintOK W.Den s' .mostRecentOwner owner) := by
  have hi0 := W.I_hv s (some []) hi
  have hh0 := hintOK_hv W (some []) hh
  refine safe_withHv W (addRrsetOp sec hint owner ty cls ttl rds) s
    (W.call (.addRrset sec hint owner ty cls ttl rds) _ hi0 ⟨hwf, hh0⟩) fun hok => ?_
  obtain ⟨ho, hp⟩ := W.addRrset_post sec hint owner ty cls ttl rds _ hi0 hwf hh0 hne hok
  generalize addRrsetOp sec hint owner ty cls ttl rds { s with hv := some [] } = res at ho hp ⊢
  refine ⟨fun i p hv => ?_, hintOK_hv W none ho⟩
  cases hs : res.2.hv with
  | none => simp [hs] at hv
  | some v =>
    simp only [hs, Option.getD_some] at hv
    obtain ⟨n, hn, hd⟩ := hp rfl v hs i p hv
    exact ⟨n, hn, W.Den_hv _ _ _ _ hd⟩

/-- `add_*_rr(.., None)`: afterwards `MostRecentNameInRdata` is a valid hint for the last name in
    the RDATA -/
theorem safe_rr_hv (sec : RrSection) (hint : Hint) (owner : WName) (ty cls ttl : Nat)
    (rd : List UInt8) (s : State) (hi : W.I s) (hwf : owner.WF) (hh : HintOK W.Den s hint owner) :
    Safe W (Server.withHv [] (addRrOp sec hint owner ty cls ttl rd)) s
      (fun _ s' => ∀ n, (rdataNames cls ty rd).getLast? = some n →
        HintOK W.Den s' .mostRecentNameInRdata n) := by
  have hi0 := W.I_hv s (some []) hi
  have hh0 := hintOK_hv W (some []) hh
  refine safe_withHv W (addRrOp sec hint owner ty cls ttl rd) s
    (W.call (.addRr sec hint owner ty cls ttl rd) _ hi0 ⟨hwf, hh0⟩) fun hok n hn => ?_
  exact hintOK_hv W none ((W.addRr_post sec hint owner ty cls ttl rd _ hi0 hwf hh0 hok).2 n hn)

/-- the logged `add_*_rrset` -/
theorem safe_addRrs (optional : Bool) (sec : RrSection) (hint : Hint) (owner : WName) (ty cls ttl : Nat)
    (rds : List (List UInt8)) (s : PS) (hi : W.I s.w) (hwf : owner.WF)
    (hh : HintOK W.Den s.w hint owner) (hne : rds ≠ []) :
    SafeP W (PM.addRrs optional sec hint owner ty cls ttl rds) s
      (fun o w' => ∀ hv, o = some hv →
        HvOK W w' hv (rds.flatMap (rdataNames cls ty)) ∧ HintOK W.Den w' .mostRecentOwner owner) :=
  (safe_addCall W _ (safe_rrset_hv W sec hint owner ty cls ttl rds s.w hi hwf hh hne)).weaken W
    fun _ _ _ _ h => h.1

/-- the logged `add_*_rr` -/
theorem safe_addRr1 (sec : RrSection) (hint : Hint) (owner : WName) (ty cls ttl : Nat)
    (rd : List UInt8) (s : PS) (hi : W.I s.w) (hwf : owner.WF) (hh : HintOK W.Den s.w hint owner) :
    SafeP W (PM.addRr1 sec hint owner ty cls ttl rd) s
      (fun _ w' => ∀ n, (rdataNames cls ty rd).getLast? = some n →
        HintOK W.Den w' .mostRecentNameInRdata n) := by
  unfold PM.addRr1
  -- the call is not optional: on success it was made
  refine safe_bind_PM W (safe_addCall W ⟨sec, owner, ty, cls, ttl, [rd], false, .ok ()⟩
    (safe_rr_hv W sec hint owner ty cls ttl rd s.w hi hwf hh)) fun o s1 hi1 _ hq => ?_
  cases o with
  | none => exact absurd (hq.2 rfl) nofun
  | some hv => exact safe_pure_PM W () s1 hi1 (hq.1 hv rfl)

theorem safe_hdr_setAa (b : Bool) (s : PS) (hi : W.I s.w) : SafeP W (PM.setAa b) s (fun _ _ => True) :=
  safe_hdrOp W _ (safe_setAa W b s.w hi)

theorem safe_hdr_setRcode (v : Nat) (s : PS) (hi : W.I s.w) : SafeP W (PM.setRcode v) s (fun _ _ => True) :=
  safe_hdrOp W _ (safe_setRcode W v s.w hi)

theorem safe_hdr_setTc (b : Bool) (s : PS) (hi : W.I s.w) : SafeP W (PM.setTc b) s (fun _ _ => True) :=
  safe_hdrOp W _ (safe_setTc W b s.w hi)

theorem nameIn_wf {rd : List UInt8} {start : Nat} {n : WName} (h : nameIn rd start = some n) : n.WF :=
  parse_wf (nameIn_some h).2

/-- the component layouts of the types that get additional-section processing, with the offset
    at which `read_name_from_rdata` is told to look for the name -/
def Shape (cs : List CompType) (start : Nat) : Prop :=
  cs = [] ∨ (start = 0 ∧ cs = [.compressibleName]) ∨ cs = [.fixedLen start, .compressibleName] ∨
    cs = [.fixedLen start, .uncompressibleName]

theorem compNames_shape {cs : List CompType} {start : Nat} (h : Shape cs start) (hne : cs ≠ [])
    (rd : List UInt8) (n : WName) (hs : ¬ start > rd.length)
    (hp : WName.parse (rd.drop start) = some (n, [])) : compNames cs rd = [n] := by
  rcases h with h | ⟨h0, h⟩ | h | h
  · exact absurd h hne
  · subst h0 h; simp only [List.drop_zero] at hp; simp [compNames, hp]
  · subst h
    have : ¬ rd.length < start := by omega
    simp [compNames, this, hp]
  · subst h
    have : ¬ rd.length < start := by omega
    simp [compNames, this, hp]

theorem flatMap_singletons {α β : Type} (f : α → List β) (pre : List α) (h : ∀ a ∈ pre, ∃ b, f a = [b]) :
    (pre.flatMap f).length = pre.length := by
  induction pre with
  | nil => rfl
  | cons a r ih =>
    obtain ⟨b, hb⟩ := h a (by simp)
    simp only [List.flatMap_cons, hb, List.length_append, List.length_cons, List.length_nil]
    rw [ih (fun x hx => h x (by simp [hx]))]; omega

theorem lookupAddrs_cases (z : Zone.Zone) (hz : ZoneOK z) (name : NameL.Name) (sbc : Bool)
    (hname : (unfold name).WF) :
    (∃ a aaaa sos, Zone.lookupAddrs z name ⟨false, sbc⟩ = .ok (.found a aaaa sos) ∧
      (∀ r, a = some r → r.rdatas ≠ []) ∧ (∀ r, aaaa = some r → r.rdatas ≠ [])) ∨
    (∃ x, Zone.lookupAddrs z name ⟨false, sbc⟩ = .ok x ∧ ∀ a b c, x ≠ .found a b c) := by
  unfold Zone.lookupAddrs
  rcases lookupBase_cases z hz name ⟨false, sbc⟩ hname (fun h => by cases h) with ⟨h, _⟩ | ⟨b, hb, _, hf, _⟩
  · right; rw [h]; exact ⟨_, rfl, fun _ _ _ h => by cases h⟩
  · rw [hb]
    cases b with
    | found rrsets sos =>
      left
      refine ⟨_, _, _, rfl, fun r hr => hf _ _ rfl r (lookupRrset_mem _ _ _ hr), fun r hr => ?_⟩
      split at hr
      · exact hf _ _ rfl r (lookupRrset_mem _ _ _ hr)
      · cases hr
    | referral c ns => right; exact ⟨_, rfl, fun _ _ _ h => by cases h⟩
    | nxDomain => right; exact ⟨_, rfl, fun _ _ _ h => by cases h⟩
    | wrongZone => right; exact ⟨_, rfl, fun _ _ _ h => by cases h⟩

theorem shape_ns (cls ty : Nat) (h : ty = T "MB" ∨ ty = T "MD" ∨ ty = T "MF" ∨ ty = T "NS") :
    compTypes cls ty = [.compressibleName] := by
  have c : T "MB" = 7 ∧ T "MD" = 3 ∧ T "MF" = 4 ∧ T "NS" = 2 := by decide
  rw [c.1, c.2.1, c.2.2.1, c.2.2.2] at h
  rcases h with h | h | h | h <;> subst h <;>
    simp [compTypes, componentTypes_arms]

theorem shape_mx (cls : Nat) : compTypes cls (T "MX") = [.fixedLen 2, .compressibleName] := by
  have : T "MX" = 15 := by decide
  rw [this]
  simp [compTypes, componentTypes_arms]

theorem shape_srv (cls : Nat) : Shape (compTypes cls (T "SRV")) 6 := by
  have : T "SRV" = 33 := by decide
  rw [this]
  by_cases h : cls = 1
  · right; right; right; subst h; decide
  · left
    have h' : ¬ 1 = cls := fun e => h e.symm
    simp [compTypes, componentTypes_arms, h]

/-! ### referrals -/

theorem flatMap_singletons_get {α β : Type} (f : α → List β) (l : List α)
    (h : ∀ a ∈ l, ∃ b, f a = [b]) (i : Nat) (b' : β) (hb : (l.flatMap f)[i]? = some b') :
    ∃ a, l[i]? = some a ∧ f a = [b'] := by
  induction l generalizing i with
  | nil => simp at hb
  | cons a r ih =>
    obtain ⟨b, hfa⟩ := h a (by simp)
    rw [List.flatMap_cons, hfa] at hb
    cases i with
    | zero => simp at hb; subst hb; exact ⟨a, by simp, hfa⟩
    | succ j =>
      simp only [List.singleton_append, List.getElem?_cons_succ] at hb
      obtain ⟨a', ha', hfa'⟩ := ih (fun x hx => h x (by simp [hx])) j hb
      exact ⟨a', by simpa using ha', hfa'⟩

/-- what `classify` returns: well-formed names, each the whole RDATA at its index -/
theorem classify_sound (child : WName) : ∀ (rest pre : List (List UInt8)) (g a : List (Nat × WName)),
    classify child rest pre.length = some (g, a) →
    (∀ p ∈ g ++ a, p.2.WF ∧ ∃ rd, (pre ++ rest)[p.1]? = some rd ∧ WName.parse rd = some (p.2, [])) ∧
    (∀ rd ∈ rest, ∃ n, WName.parse rd = some (n, [])) := by
  intro rest
  induction rest with
  | nil =>
    intro pre g a h
    cases h
    exact ⟨fun p hp => by simp at hp, fun rd hrd => by simp at hrd⟩
  | cons rd rest ih =>
    intro pre g a h
    obtain ⟨n, q, hn, hq, hor⟩ := classify_cons h
    have hp : WName.parse rd = some (n, []) := by simpa using (nameIn_some hn).2
    have hrec := ih (pre ++ [rd]) q.1 q.2
      (by simpa only [List.length_append, List.length_cons, List.length_nil, Nat.zero_add] using hq)
    obtain ⟨hall, hparse⟩ := hrec
    have hhere : (idx : Nat × WName) → idx = (pre.length, n) →
        idx.2.WF ∧ ∃ rd', (pre ++ rd :: rest)[idx.1]? = some rd' ∧ WName.parse rd' = some (idx.2, []) := by
      rintro _ rfl; exact ⟨nameIn_wf hn, rd, by simp, hp⟩
    have hall' : ∀ p ∈ q.1 ++ q.2, p.2.WF ∧ ∃ rd', (pre ++ rd :: rest)[p.1]? = some rd' ∧
        WName.parse rd' = some (p.2, []) := by
      intro p hp'
      simpa [List.append_assoc] using hall p hp'
    refine ⟨fun p hp' => ?_, fun rd' h' => ?_⟩
    · rcases hor with ⟨_, he⟩ | ⟨_, he⟩ <;> cases he
      · simp only [List.cons_append, List.mem_cons] at hp'
        rcases hp' with rfl | hp'
        · exact hhere _ rfl
        · exact hall' p hp'
      · simp only [List.mem_append, List.mem_cons] at hp'
        rcases hp' with hp' | rfl | hp'
        · exact hall' p (List.mem_append.mpr (Or.inl hp'))
        · exact hhere _ rfl
        · exact hall' p (List.mem_append.mpr (Or.inr hp'))
    · cases h' with
      | head => exact ⟨n, hp⟩
      | tail _ h'' => exact hparse rd' h''

/-! ### zone lookups as the handler sees them -/

theorem lookup_cases (z : Zone.Zone) (hz : ZoneOK z) (name : NameL.Name) (t : Nat) (o : Zone.Opts)
    (hname : (unfold name).WF) (hsub : o.unchecked = true → z.apex <:+ name) :
    (Zone.lookup z name t o = .ok .wrongZone ∧ o.unchecked = false) ∨
    (∃ r sos, Zone.lookup z name t o = .ok (.found r sos) ∧ r.rdatas ≠ []) ∨
    (∃ r sos, Zone.lookup z name t o = .ok (.cname r sos) ∧ r.rdatas ≠ []) ∨
    (∃ c ns, Zone.lookup z name t o = .ok (.referral c ns) ∧ ns.rdatas ≠ [] ∧ (unfold c).WF) ∨
    (∃ sos, Zone.lookup z name t o = .ok (.noRecords sos)) ∨
    Zone.lookup z name t o = .ok .nxDomain := by
  unfold Zone.lookup
  rcases lookupBase_cases z hz name o hname hsub with ⟨h, hu⟩ | ⟨b, hb, hnw, hf, hr⟩
  · left; rw [h]; exact ⟨rfl, hu⟩
  · rw [hb]
    cases b with
    | found rrsets sos =>
      simp only
      cases h1 : Zone.lookupRrset rrsets t with
      | some r => right; left; exact ⟨r, sos, rfl, hf _ _ rfl r (lookupRrset_mem _ _ _ h1)⟩
      | none =>
        simp only
        cases h2 : Zone.lookupRrset rrsets Gen.T_CNAME with
        | some c => right; right; left; exact ⟨c, sos, rfl, hf _ _ rfl c (lookupRrset_mem _ _ _ h2)⟩
        | none => right; right; right; right; left; exact ⟨sos, rfl⟩
    | referral c ns => right; right; right; left; exact ⟨c, ns, rfl, hr c ns rfl⟩
    | nxDomain => right; right; right; right; right; rfl
    | wrongZone => exact absurd rfl hnw

theorem lookupAll_cases (z : Zone.Zone) (hz : ZoneOK z) (name : NameL.Name)
    (hname : (unfold name).WF) (hsub : z.apex <:+ name) :
    (∃ rrsets sos, Zone.lookupAll z name ⟨true, false⟩ = .ok (.found rrsets sos) ∧ ∀ r ∈ rrsets, r.rdatas ≠ []) ∨
    (∃ c ns, Zone.lookupAll z name ⟨true, false⟩ = .ok (.referral c ns) ∧ ns.rdatas ≠ [] ∧ (unfold c).WF) ∨
    Zone.lookupAll z name ⟨true, false⟩ = .ok .nxDomain := by
  unfold Zone.lookupAll
  rcases lookupBase_cases z hz name ⟨true, false⟩ hname (fun _ => hsub) with ⟨_, hu⟩ | ⟨b, hb, hnw, hf, hr⟩
  · cases hu
  · rw [hb]
    cases b with
    | found rrsets sos => left; exact ⟨rrsets, sos, rfl, hf _ _ rfl⟩
    | referral c ns => right; left; exact ⟨c, ns, rfl, hr c ns rfl⟩
    | nxDomain => right; right; rfl
    | wrongZone => exact absurd rfl hnw

/-! ### CNAME chains -/

theorem shape_cname (cls : Nat) : compTypes cls (T "CNAME") = [.compressibleName] := by
  have : T "CNAME" = 5 := by decide
  rw [this]
  simp [compTypes, componentTypes_arms]

theorem rdataNames_cname (cls : Nat) (n : WName) (h : n.WF) : rdataNames cls (T "CNAME") n.wire = [n] := by
  rw [rdataNames_eq, shape_cname]
  have := parse_wire n h []
  simp only [List.append_nil] at this
  simp [compNames, this]

/-- the hint `follow_cname_1` passes with the owner of the next CNAME record -/
def ChainHint (s : State) (qname : WName) (os : List WName) : Prop :=
  match os.getLast? with
  | some o => HintOK W.Den s .mostRecentNameInRdata o
  | none => HintOK W.Den s .qname qname

/-- **the recursion never runs out of fuel**: `owners_seen` (capacity `MAX_CNAME_CHAIN_LEN − 1`)
    stops the chain first — from the fuel `do_cname` starts with, one more unit of fuel changes
    nothing -/
theorem followCname_fuel (z : Zone.Zone) (qname : WName) (rrType : Nat) :
    ∀ (fuel : Nat) (cn : Zone.Rrset) (os : List WName),
      Gen.MAX_CNAME_CHAIN_LEN ≤ fuel + os.length →
      followCname z qname rrType (fuel + 1) cn os = followCname z qname rrType (fuel + 2) cn os := by
  intro fuel
  induction fuel with
  | zero =>
    intro cn os h
    have c : Gen.MAX_CNAME_CHAIN_LEN = 8 := by decide
    have hno : ¬ os.length < Gen.MAX_CNAME_CHAIN_LEN - 1 := by omega
    funext s
    rw [followCname, followCname.eq_def z qname rrType (0 + 2)]
    simp only [hno, if_false]
  | succ fuel ih =>
    intro cn os h
    funext s
    rw [followCname, followCname.eq_def z qname rrType (fuel + 1 + 2)]
    simp only
    by_cases hl : os.length < Gen.MAX_CNAME_CHAIN_LEN - 1
    · simp only [hl, if_true]
      have := fun (next : Zone.Rrset) (c : WName) => ih next (os ++ [c]) (by simp; omega)
      simp only [this]
    · simp only [hl, if_false]


/-! ### C01's judgement with a second property carried along -/

/-- what a property of computations at a state must satisfy to be carried through the answer phase -/
structure Along (W : WriterSafe) (E : ∀ {ε α : Type}, (PS → Out ε α × PS) → PS → Prop) : Prop where
  ret : ∀ {α : Type} (a : α) (s : PS), W.I s.w → E (pure a : PM α) s
  err : ∀ {α : Type} {f : PM α} {s : PS} {e : PErr}, f s = (.err e, s) → E f s
  bind : ∀ {α β : Type} {x : PM α} {g : α → PM β} {s : PS} {Q : α → State → Prop}, SafeP W x s Q → E x s →
    (∀ a s', W.I s'.w → Mono W.Den s.w s'.w → Q a s'.w → E (g a) s') → E (x >>= g) s
  setAa : ∀ (b : Bool) (s : PS), W.I s.w → E (PM.setAa b) s
  setRcode : ∀ (v : Nat) (s : PS), W.I s.w → E (PM.setRcode v) s
  addRrs : ∀ (optional : Bool) (sec : RrSection) (hint : Hint) (owner : WName) (ty cls ttl : Nat)
    (rds : List (List UInt8)) (s : PS), W.I s.w → owner.WF → HintOK W.Den s.w hint owner → rds ≠ [] →
    E (PM.addRrs optional sec hint owner ty cls ttl rds) s

/-- C01's judgement together with `E` -/
def SafeE (W : WriterSafe) (E : ∀ {ε α : Type}, (PS → Out ε α × PS) → PS → Prop) {ε α : Type} (f : PS → Out ε α × PS) (s : PS)
    (Q : α → State → Prop) : Prop :=
  SafeP W f s Q ∧ E f s

section pass
variable {W} {E : ∀ {ε α : Type}, (PS → Out ε α × PS) → PS → Prop}

theorem SafeE.weaken {ε α : Type} {f : PS → Out ε α × PS} {s : PS} {Q Q' : α → State → Prop}
    (h : SafeE W E f s Q) (hq : ∀ a w', W.I w' → Mono W.Den s.w w' → Q a w' → Q' a w') : SafeE W E f s Q' :=
  ⟨h.1.weaken W hq, h.2⟩

variable (R : Along W E)
include R

theorem safeE_pure {α : Type} (a : α) (s : PS) (hi : W.I s.w) {Q : α → State → Prop} (hq : Q a s.w) :
    SafeE W E (pure a : PM α) s Q :=
  ⟨safe_pure_PM W a s hi hq, R.ret a s hi⟩

theorem safeE_fail {α : Type} (e : PErr) (s : PS) (hi : W.I s.w) {Q : α → State → Prop} :
    SafeE W E (PM.fail e : PM α) s Q :=
  ⟨⟨nofun, hi, Mono.refl _ _, nofun⟩, R.err rfl⟩

theorem safeE_bind {α β : Type} {x : PM α} {g : α → PM β} {s : PS} {Q : α → State → Prop}
    {Q' : β → State → Prop} (hx : SafeE W E x s Q)
    (hg : ∀ a s', W.I s'.w → Mono W.Den s.w s'.w → Q a s'.w → SafeE W E (g a) s' Q') :
    SafeE W E (x >>= g) s Q' :=
  ⟨safe_bind_PM W hx.1 (fun a s' h1 h2 h3 => (hg a s' h1 h2 h3).1),
    R.bind hx.1 hx.2 (fun a s' h1 h2 h3 => (hg a s' h1 h2 h3).2)⟩

theorem safeE_setAa (b : Bool) (s : PS) (hi : W.I s.w) : SafeE W E (PM.setAa b) s (fun _ _ => True) :=
  ⟨safe_hdr_setAa W b s hi, R.setAa b s hi⟩

theorem safeE_setRcode (v : Nat) (s : PS) (hi : W.I s.w) : SafeE W E (PM.setRcode v) s (fun _ _ => True) :=
  ⟨safe_hdr_setRcode W v s hi, R.setRcode v s hi⟩

theorem safeE_addRrs (optional : Bool) (sec : RrSection) (hint : Hint) (owner : WName) (ty cls ttl : Nat)
    (rds : List (List UInt8)) (s : PS) (hi : W.I s.w) (hwf : owner.WF)
    (hh : HintOK W.Den s.w hint owner) (hne : rds ≠ []) :
    SafeE W E (PM.addRrs optional sec hint owner ty cls ttl rds) s
      (fun o w' => ∀ hv, o = some hv →
        HvOK W w' hv (rds.flatMap (rdataNames cls ty)) ∧ HintOK W.Den w' .mostRecentOwner owner) :=
  ⟨safe_addRrs W optional sec hint owner ty cls ttl rds s hi hwf hh hne,
    R.addRrs optional sec hint owner ty cls ttl rds s hi hwf hh hne⟩

theorem safeE_addRr1 (sec : RrSection) (hint : Hint) (owner : WName) (ty cls ttl : Nat)
    (rd : List UInt8) (s : PS) (hi : W.I s.w) (hwf : owner.WF) (hh : HintOK W.Den s.w hint owner) :
    SafeE W E (PM.addRr1 sec hint owner ty cls ttl rd) s
      (fun _ w' => ∀ n, (rdataNames cls ty rd).getLast? = some n →
        HintOK W.Den w' .mostRecentNameInRdata n) :=
  ⟨safe_addRr1 W sec hint owner ty cls ttl rd s hi hwf hh, by
    -- for what is carried along, the call is the `add_*_rrset` of one record
    rw [PM.addRr1_eq]
    exact R.bind (safe_addRrs W false sec hint owner ty cls ttl [rd] s hi hwf hh (List.cons_ne_nil _ _))
      (R.addRrs false sec hint owner ty cls ttl [rd] s hi hwf hh (List.cons_ne_nil _ _)) fun _ s' hi' _ _ => R.ret () s' hi'⟩

/-! ### the pass over `query.rs` -/

theorem addAaaa_safe (z : Zone.Zone) (hint : Hint) (owner : WName) (optional : Bool)
    (aaaa : Option Zone.Rrset) (haaaa : ∀ r, aaaa = some r → r.rdatas ≠ []) (s : PS) (hi : W.I s.w)
    (hwf : owner.WF) (hh : HintOK W.Den s.w hint owner) :
    SafeE W E (addAaaa z hint owner optional aaaa) s (fun _ _ => True) := by
  unfold addAaaa
  split
  · cases aaaa with
    | none => exact safeE_pure R () s hi trivial
    | some r =>
      exact safeE_bind R (safeE_addRrs R optional .additional hint owner _ _ _ _ s hi hwf hh (haaaa r rfl))
        (fun _ s1 hi1 _ _ => safeE_pure R () s1 hi1 trivial)
  · exact safeE_pure R () s hi trivial

theorem addAdditionalAddresses_safe (z : Zone.Zone) (hz : ZoneOK z) (hint : Hint) (owner : WName)
    (sbc optional : Bool) (s : PS) (hi : W.I s.w) (hwf : owner.WF) (hh : HintOK W.Den s.w hint owner) :
    SafeE W E (addAdditionalAddresses z hint owner sbc optional) s (fun _ _ => True) := by
  unfold addAdditionalAddresses
  rcases lookupAddrs_cases z hz (fold owner) sbc (fold_wf owner hwf) with
    ⟨a, aaaa, sos, hl, ha, haaaa⟩ | ⟨x, hl, hx⟩
  · rw [hl]
    cases a with
    | none => exact addAaaa_safe R z hint owner optional aaaa haaaa s hi hwf hh
    | some r =>
      refine safeE_bind R (safeE_addRrs R optional .additional hint owner _ _ _ _ s hi hwf hh (ha r rfl))
        (fun o s1 hi1 _ hq => ?_)
      cases o with
      | none => exact safeE_pure R () s1 hi1 trivial
      | some hv => exact addAaaa_safe R z .mostRecentOwner owner optional aaaa haaaa s1 hi1 hwf (hq hv rfl).2
  · rw [hl]
    cases x with
    | found a b c => exact absurd rfl (hx a b c)
    | referral c ns => exact safeE_pure R () s hi trivial
    | nxDomain => exact safeE_pure R () s hi trivial
    | wrongZone => exact safeE_pure R () s hi trivial

/-! ### `do_additional_section_processing` -/

theorem additionalLoop_safe (z : Zone.Zone) (hz : ZoneOK z) (start : Nat) (cs : List CompType)
    (hshape : Shape cs start) (hvo : Option HV) :
    ∀ (rest pre : List (List UInt8)) (s : PS), W.I s.w →
      (cs ≠ [] → ∀ rd ∈ pre, ∃ n, compNames cs rd = [n]) →
      (∀ v, hvo = some v → HvOK W s.w v ((pre ++ rest).flatMap (compNames cs))) →
      SafeE W E (additionalLoop z start hvo rest pre.length) s (fun _ _ => True) := by
  intro rest
  induction rest with
  | nil => intro pre s hi _ _; exact safeE_pure R () s hi trivial
  | cons rd rest ih =>
    intro pre s hi hpre hhv
    simp only [additionalLoop, readName_eq]
    cases hr : nameIn rd start with
    | none => rw [ofOption_none_bind]; exact safeE_fail R _ s hi
    | some n =>
      obtain ⟨hs, hp⟩ := nameIn_some hr
      have hwf := nameIn_wf hr
      have hint_ok : HintOK W.Den s.w (match (generalizing := false) hvo with | some v => hintFrom v pre.length | none => Hint.none) n := by
        cases hvo with
        | none => trivial
        | some v =>
          refine hintFrom_ok W (hhv v rfl) _ n (fun n' hn' => ?_)
          by_cases hcs : cs = []
          · subst hcs
            have : ∀ l : List (List UInt8), l.flatMap (compNames []) = [] := by
              intro l; induction l with
              | nil => rfl
              | cons a r ih => simp [List.flatMap_cons, compNames, ih]
            rw [this] at hn'; simp at hn'
          · have hl := flatMap_singletons (compNames cs) pre (hpre hcs)
            have hc := compNames_shape hshape hcs rd n hs hp
            rw [List.flatMap_append, List.flatMap_cons, hc, List.getElem?_append_right (by omega), hl] at hn'
            simp at hn'
            exact hn'.symm
      have hrec : ∀ s', W.I s'.w → Mono W.Den s.w s'.w →
          SafeE W E (additionalLoop z start hvo rest (pre.length + 1)) s' (fun _ _ => True) := by
        intro s' hi' hm
        have := ih (pre ++ [rd]) s' hi'
          (fun hcs x hx => by
            rcases List.mem_append.mp hx with hx | hx
            · exact hpre hcs x hx
            · simp at hx; subst hx; exact ⟨n, compNames_shape hshape hcs _ n hs hp⟩)
          (fun v hv => by
            have := (hhv v hv).mono W hm
            simpa [List.append_assoc] using this)
        simpa using this
      have prog : SafeE W E (do
          addAdditionalAddresses z
            (match (generalizing := false) hvo with | some v => hintFrom v pre.length | none => Hint.none) n false true
          additionalLoop z start hvo rest (pre.length + 1) : PM Unit) s (fun _ _ => True) :=
        safeE_bind R (addAdditionalAddresses_safe R z hz _ n false true s hi hwf hint_ok)
          (fun _ s' hi' hm _ => hrec s' hi' hm)
      rw [ofOption_some_bind]; exact prog

theorem doAdditionalSectionProcessing_safe (z : Zone.Zone) (hz : ZoneOK z) (rrType : Nat)
    (rrset : Zone.Rrset) (hvo : Option HV) (s : PS) (hi : W.I s.w)
    (hhv : ∀ v, hvo = some v → HvOK W s.w v (rrset.rdatas.flatMap (rdataNames z.cls rrType))) :
    SafeE W E (doAdditionalSectionProcessing z rrType rrset hvo) s (fun _ _ => True) := by
  unfold doAdditionalSectionProcessing
  have loop : ∀ start, Shape (compTypes z.cls rrType) start →
      SafeE W E (additionalLoop z start hvo rrset.rdatas 0) s (fun _ _ => True) := fun start hs =>
    additionalLoop_safe R z hz start _ hs hvo rrset.rdatas [] s hi (fun _ _ h => by cases h)
      (fun v hv => by
        have := hhv v hv
        rw [show rdataNames z.cls rrType = compNames (compTypes z.cls rrType) from
          funext (rdataNames_eq _ _)] at this
        simpa using this)
  split
  · exact safeE_pure R () s hi trivial
  · split
    · rename_i h
      exact loop 0 (by rw [shape_ns z.cls rrType h]; right; left; exact ⟨rfl, rfl⟩)
    · split
      · rename_i h; subst h
        exact loop 2 (by rw [shape_mx]; right; right; left; rfl)
      · split
        · rename_i h; subst h
          exact loop 6 (shape_srv z.cls)
        · exact safeE_pure R () s hi trivial

theorem addNegativeCachingSoa_safe (z : Zone.Zone) (hz : ZoneOK z) (s : PS) (hi : W.I s.w) :
    SafeE W E (addNegativeCachingSoa z) s (fun _ _ => True) := by
  unfold addNegativeCachingSoa
  cases Zone.soa z with
  | none => exact safeE_fail R _ s hi
  | some rrset =>
    simp only
    cases hrd : rrset.rdatas with
    | nil => exact safeE_fail R _ s hi
    | cons rd rest =>
      simp only
      rw [readSoaMinimum_eq]
      cases soaMinimumIn rd with
      | none => rw [ofOption_none_bind]; exact safeE_fail R _ s hi
      | some v =>
        rw [ofOption_some_bind]
        exact (safeE_addRr1 R .authority .none (unfold z.apex) (T "SOA") z.cls _ rd s hi hz.apex_wf trivial).weaken
          (fun _ _ _ _ _ => trivial)

/-- the two `for (index, nsdname) in …` loops of `do_referral`: safe as long as the vector's entries
    stay valid anchors (`P`, stable under the anchors' monotonicity) -/
theorem glueLoop_safe (z : Zone.Zone) (hz : ZoneOK z) (hv : HV) (optional : Bool) (P : State → Prop)
    (hPm : ∀ w w', P w → Mono W.Den w w' → P w') :
    ∀ (l : List (Nat × WName)),
      (∀ p ∈ l, ∀ w, P w → p.2.WF ∧ HintOK W.Den w (hintFrom hv p.1) p.2) →
      ∀ (s : PS), W.I s.w → P s.w → SafeE W E (glueLoop z hv optional l) s (fun _ w' => P w') := by
  intro l
  induction l with
  | nil => intro _ s hi hP; exact safeE_pure R () s hi hP
  | cons p r ih =>
    intro hf s hi hP
    unfold glueLoop
    obtain ⟨hwf, hh⟩ := hf p (by simp) s.w hP
    exact safeE_bind R (addAdditionalAddresses_safe R z hz _ _ true optional s hi hwf hh)
      (fun _ s1 hi1 hm _ => ih (fun q hq => hf q (by simp [hq])) s1 hi1 (hPm _ _ hP hm))

theorem doReferral_safe (z : Zone.Zone) (hz : ZoneOK z) (child : NameL.Name) (hcw : (unfold child).WF)
    (ns : Zone.Rrset) (hne : ns.rdatas ≠ []) (s : PS) (hi : W.I s.w) :
    SafeE W E (doReferral z child ns) s (fun _ _ => True) := by
  unfold doReferral
  refine safeE_bind R (safeE_addRrs R false .authority .none (unfold child) (T "NS") z.cls ns.ttl
    ns.rdatas s hi hcw trivial hne) (fun hvo s1 hi1 _ hpost => ?_)
  -- the vector whose entries are used: the one returned, or none at all
  have hhv : HvOK W s1.w (hvo.getD []) (ns.rdatas.flatMap (rdataNames z.cls (T "NS"))) := by
    cases hvo with
    | none => intro i p h; simp at h
    | some v => exact (hpost v rfl).1
  rw [classifyNs_eq]
  cases hc : classify (unfold child) ns.rdatas 0 with
  | none => rw [ofOption_none_bind]; exact safeE_fail R _ s1 hi1
  | some p =>
    obtain ⟨g, a⟩ := p
    obtain ⟨hall, hparse⟩ := classify_sound (unfold child) ns.rdatas [] g a hc
    simp only [List.nil_append] at hall
    have hint_ok : ∀ p ∈ g ++ a, ∀ w, HvOK W w (hvo.getD []) (ns.rdatas.flatMap (rdataNames z.cls (T "NS"))) →
        p.2.WF ∧ HintOK W.Den w (hintFrom (hvo.getD []) p.1) p.2 := by
      intro p hp w hs'
      obtain ⟨hwf, rd, hrd, hpr⟩ := hall p hp
      refine ⟨hwf, hintFrom_ok W hs' _ _ (fun n' hn' => ?_)⟩
      have hsing : ∀ rd ∈ ns.rdatas, ∃ n, rdataNames z.cls (T "NS") rd = [n] := by
        intro rd' hrd'
        obtain ⟨n, hn⟩ := hparse rd' hrd'
        exact ⟨n, by rw [rdataNames_eq, shape_ns z.cls _ (Or.inr (Or.inr (Or.inr rfl)))]; simp [compNames, hn]⟩
      obtain ⟨rd', hrd', hnames⟩ := flatMap_singletons_get _ _ hsing _ _ hn'
      rw [hrd] at hrd'; cases hrd'
      rw [rdataNames_eq] at hnames
      rw [shape_ns z.cls _ (Or.inr (Or.inr (Or.inr rfl)))] at hnames
      simp [compNames, hpr] at hnames
      exact hnames.symm
    have prog : SafeE W E (do
        glueLoop z (hvo.getD []) false g
        glueLoop z (hvo.getD []) true a : PM Unit) s1 (fun _ _ => True) := by
      refine safeE_bind R (glueLoop_safe R z hz (hvo.getD []) false
        (fun w => HvOK W w (hvo.getD []) (ns.rdatas.flatMap (rdataNames z.cls (T "NS"))))
        (fun _ _ h hm => h.mono W hm) g
        (fun p hp w hw => hint_ok p (List.mem_append.mpr (Or.inl hp)) w hw) s1 hi1 hhv)
        (fun _ s2 hi2 _ hs2 => ?_)
      exact (glueLoop_safe R z hz (hvo.getD []) true
        (fun w => HvOK W w (hvo.getD []) (ns.rdatas.flatMap (rdataNames z.cls (T "NS"))))
        (fun _ _ h hm => h.mono W hm) a
        (fun p hp w hw => hint_ok p (List.mem_append.mpr (Or.inr hp)) w hw) s2 hi2 hs2).weaken
        (fun _ _ _ _ _ => trivial)
    rw [ofOption_some_bind]; exact prog

theorem followCname_safe (z : Zone.Zone) (hz : ZoneOK z) (qname : WName) (hq : qname.WF) (rrType : Nat) :
    ∀ (fuel : Nat) (cn : Zone.Rrset) (os : List WName) (s : PS), W.I s.w → (∀ o ∈ os, o.WF) →
      ChainHint W s.w qname os →
      SafeE W E (followCname z qname rrType fuel cn os) s (fun _ _ => True) := by
  intro fuel
  induction fuel with
  | zero => intro cn os s hi _ _; exact safeE_fail R _ s hi
  | succ fuel ih =>
    intro cn os s hi hos hch
    unfold followCname
    cases hrd : cn.rdatas with
    | nil => exact safeE_fail R _ s hi
    | cons rd rest =>
      simp only
      cases hp : WName.parse rd with
      | none => exact safeE_fail R _ s hi
      | some v =>
        obtain ⟨cname, rem⟩ := v
        cases rem with
        | cons a b => exact safeE_fail R _ s hi
        | nil =>
          simp only
          have hcw : cname.WF := parse_wf hp
          split
          · exact safeE_fail R _ s hi
          · have hstep : ∀ (hint : Hint) (owner : WName), owner.WF → HintOK W.Den s.w hint owner →
                SafeE W E (PM.addRr1 .answer hint owner (T "CNAME") z.cls cn.ttl cname.wire) s
                  (fun _ w' => HintOK W.Den w' .mostRecentNameInRdata cname) := by
              intro hint owner how hho
              refine (safeE_addRr1 R .answer hint owner _ _ _ _ s hi how hho).weaken
                (fun _ w' _ _ h => h cname ?_)
              rw [rdataNames_cname z.cls cname hcw]; rfl
            have hrest : ∀ s1 : PS, W.I s1.w → HintOK W.Den s1.w .mostRecentNameInRdata cname →
                SafeE W E (match Zone.lookup z (fold cname) rrType ⟨false, false⟩ with
                  | .ok (.found found _) => do
                    let hv ← PM.addRrs false .answer .mostRecentNameInRdata cname rrType z.cls found.ttl found.rdatas
                    doAdditionalSectionProcessing z rrType found hv
                  | .ok (.cname next _) =>
                    if os.length < Gen.MAX_CNAME_CHAIN_LEN - 1 then
                      followCname z qname rrType fuel next (os ++ [cname])
                    else PM.fail .servFail
                  | .ok (.referral child ns) => doReferral z child ns
                  | .ok (.noRecords _) => addNegativeCachingSoa z
                  | .ok .nxDomain => do
                    PM.setRcode (RC "NXDOMAIN")
                    addNegativeCachingSoa z
                  | .ok .wrongZone => pure ()
                  | .err _ => pure ()
                  | .panic => PM.panic : PM Unit) s1 (fun _ _ => True) := by
              intro s1 hi1 hh1
              rcases lookup_cases z hz (fold cname) rrType ⟨false, false⟩ (fold_wf cname hcw) (fun h => by cases h)
                with ⟨h, _⟩ | ⟨r, sos, h, hne⟩ | ⟨r, sos, h, hne⟩ | ⟨c, ns, h, hne, hcwf⟩ | ⟨sos, h⟩ | h
              · rw [h]; exact safeE_pure R () s1 hi1 trivial
              · rw [h]
                exact safeE_bind R (safeE_addRrs R false .answer .mostRecentNameInRdata cname rrType
                  z.cls r.ttl r.rdatas s1 hi1 hcw hh1 hne)
                  (fun hv s2 hi2 _ hhv => doAdditionalSectionProcessing_safe R z hz rrType r hv s2 hi2
                    (fun v hv' => (hhv v hv').1))
              · rw [h]
                simp only
                split
                · refine ih r (os ++ [cname]) s1 hi1 (fun o ho => ?_) ?_
                  · rcases List.mem_append.mp ho with ho | ho
                    · exact hos o ho
                    · simp at ho; subst ho; exact hcw
                  · unfold ChainHint; rw [List.getLast?_concat]; exact hh1
                · exact safeE_fail R _ s1 hi1
              · rw [h]; exact doReferral_safe R z hz c hcwf ns hne s1 hi1
              · rw [h]; exact addNegativeCachingSoa_safe R z hz s1 hi1
              · rw [h]
                exact safeE_bind R (safeE_setRcode R _ s1 hi1)
                  (fun _ s2 hi2 _ _ => addNegativeCachingSoa_safe R z hz s2 hi2)
            unfold ChainHint at hch
            cases hgl : os.getLast? with
            | none =>
              rw [hgl] at hch
              simp only
              exact safeE_bind R (hstep .qname qname hq hch) (fun _ s1 hi1 _ hh1 => hrest s1 hi1 hh1)
            | some o =>
              rw [hgl] at hch
              simp only
              exact safeE_bind R (hstep .mostRecentNameInRdata o (hos o (List.mem_of_getLast? hgl)) hch)
                (fun _ s1 hi1 _ hh1 => hrest s1 hi1 hh1)

theorem doCname_safe (z : Zone.Zone) (hz : ZoneOK z) (qname : WName) (hq : qname.WF) (cn : Zone.Rrset)
    (rrType : Nat) (s : PS) (hi : W.I s.w) (hh : HintOK W.Den s.w .qname qname) :
    SafeE W E (doCname z qname cn rrType) s (fun _ _ => True) := by
  unfold doCname
  exact safeE_bind R (safeE_setAa R true s hi)
    (fun _ s1 hi1 hm _ => followCname_safe R z hz qname hq rrType _ cn [] s1 hi1
      (fun o ho => by cases ho) (hintOK_qname_mono W hh hm))

/-! ### `answer`, `answer_any` -/

theorem answer_safe (z : Zone.Zone) (hz : ZoneOK z) (qname : WName) (hq : qname.WF) (qtype : Nat)
    (hsub : z.apex <:+ fold qname) (s : PS) (hi : W.I s.w) (hh : HintOK W.Den s.w .qname qname) :
    SafeE W E (answer z qname qtype) s (fun _ _ => True) := by
  unfold answer
  have aa : ∀ (k : PM Unit), (∀ s1 : PS, W.I s1.w → Mono W.Den s.w s1.w → SafeE W E k s1 (fun _ _ => True)) →
      SafeE W E (do PM.setAa true; k : PM Unit) s (fun _ _ => True) := fun k hk =>
    safeE_bind R (safeE_setAa R true s hi) (fun _ s1 hi1 hm _ => hk s1 hi1 hm)
  rcases lookup_cases z hz (fold qname) qtype ⟨true, false⟩ (fold_wf qname hq) (fun _ => hsub)
    with ⟨_, hu⟩ | ⟨r, sos, h, hne⟩ | ⟨r, sos, h, hne⟩ | ⟨c, ns, h, hne, hcwf⟩ | ⟨sos, h⟩ | h
  · cases hu
  · rw [h]
    exact aa _ (fun s1 hi1 hm =>
      safeE_bind R (safeE_addRrs R false .answer .qname qname qtype z.cls r.ttl r.rdatas s1 hi1 hq
        (hintOK_qname_mono W hh hm) hne)
        (fun hv s2 hi2 _ hhv => doAdditionalSectionProcessing_safe R z hz qtype r hv s2 hi2
          (fun v hv' => (hhv v hv').1)))
  · rw [h]; exact doCname_safe R z hz qname hq r qtype s hi hh
  · rw [h]; exact doReferral_safe R z hz c hcwf ns hne s hi
  · rw [h]; exact aa _ (fun s1 hi1 _ => addNegativeCachingSoa_safe R z hz s1 hi1)
  · rw [h]
    exact safeE_bind R (safeE_setRcode R _ s hi)
      (fun _ s1 hi1 _ _ => safeE_bind R (safeE_setAa R true s1 hi1)
        (fun _ s2 hi2 _ _ => addNegativeCachingSoa_safe R z hz s2 hi2))

theorem answerAnyLoop_safe (z : Zone.Zone) (qname : WName) (hq : qname.WF) :
    ∀ (rrsets : List Zone.Rrset) (n : Nat) (s : PS), W.I s.w → HintOK W.Den s.w .qname qname →
      (∀ r ∈ rrsets, r.rdatas ≠ []) →
      SafeE W E (answerAnyLoop z qname rrsets n) s (fun _ _ => True) := by
  intro rrsets
  induction rrsets with
  | nil => intro n s hi _ _; exact safeE_pure R n s hi trivial
  | cons r rest ih =>
    intro n s hi hh hne
    unfold answerAnyLoop
    exact safeE_bind R (safeE_addRrs R false .answer .qname qname r.rtype z.cls r.ttl r.rdatas s hi hq hh
      (hne r (by simp)))
      (fun _ s1 hi1 hm _ => ih (n + 1) s1 hi1 (hintOK_qname_mono W hh hm) (fun x hx => hne x (by simp [hx])))

theorem answerAny_safe (z : Zone.Zone) (hz : ZoneOK z) (qname : WName) (hq : qname.WF)
    (hsub : z.apex <:+ fold qname) (s : PS) (hi : W.I s.w) (hh : HintOK W.Den s.w .qname qname) :
    SafeE W E (answerAny z qname) s (fun _ _ => True) := by
  unfold answerAny
  rcases lookupAll_cases z hz (fold qname) (fold_wf qname hq) hsub
    with ⟨rrsets, sos, h, hne⟩ | ⟨c, ns, h, hne, hcwf⟩ | h
  · rw [h]
    refine safeE_bind R (safeE_setAa R true s hi) (fun _ s1 hi1 hm _ => ?_)
    refine safeE_bind R (answerAnyLoop_safe R z qname hq rrsets 0 s1 hi1 (hintOK_qname_mono W hh hm) hne)
      (fun n s2 hi2 _ _ => ?_)
    split
    · exact addNegativeCachingSoa_safe R z hz s2 hi2
    · exact safeE_pure R () s2 hi2 trivial
  · rw [h]; exact doReferral_safe R z hz c hcwf ns hne s hi
  · rw [h]
    exact safeE_bind R (safeE_setRcode R _ s hi)
      (fun _ s1 hi1 _ _ => safeE_bind R (safeE_setAa R true s1 hi1)
        (fun _ s2 hi2 _ _ => addNegativeCachingSoa_safe R z hz s2 hi2))

end pass

/-- C01's judgement alone: nothing is carried along -/
theorem Along.triv : Along W (fun {_ _} _ _ => True) where
  ret := fun _ _ _ => trivial
  err := fun _ => trivial
  bind := fun _ _ _ => trivial
  setAa := fun _ _ _ => trivial
  setRcode := fun _ _ _ => trivial
  addRrs := fun _ _ _ _ _ _ _ _ _ _ _ _ _ => trivial

/-- no panic and the writer invariant again, on the writer plus the ghost log -/
def SafeP0 {ε α : Type} (f : PS → Out ε α × PS) (s : PS) : Prop :=
  (f s).1 ≠ .panic ∧ W.I (f s).2.w

theorem clearRrs_apply (s : State) : Writer.clearRrs s = (.ok (), (Writer.clearRrs s).2) := rfl

theorem safeP0_clearRrs (s : PS) (hi : W.I s.w) : SafeP0 W PM.clearRrs s := by
  unfold SafeP0 PM.clearRrs PM.hdrOp
  rw [clearRrs_apply]
  exact ⟨by simp, W.clearRrs_I s.w hi⟩

theorem safeP0_bind {α β : Type} {x : PM α} {g : α → PM β} {s : PS}
    (hx : (x s).1 ≠ .panic ∧ W.I (x s).2.w) (hg : ∀ a s', W.I s'.w → SafeP0 W (g a) s') :
    SafeP0 W (x >>= g) s := by
  obtain ⟨h1, h2⟩ := hx
  unfold SafeP0
  rw [PM.bind_apply]
  generalize x s = r at h1 h2
  obtain ⟨o, s'⟩ := r
  cases o with
  | ok a => exact hg a s' h2
  | err e => exact ⟨by simp, h2⟩
  | panic => exact absurd rfl h1

theorem SafeP.safeP0 {ε α : Type} {f : PS → Out ε α × PS} {s : PS} {Q : α → State → Prop}
    (h : SafeP W f s Q) : SafeP0 W f s := ⟨h.1, h.2.1⟩

theorem handleNonAxfrQueryL_safe (z : Zone.Zone) (hz : ZoneOK z) (qname : WName) (hq : qname.WF)
    (qtype : Nat) (tr : Transport) (hsub : z.apex <:+ fold qname) (s : PS) (hi : W.I s.w)
    (hh : HintOK W.Den s.w .qname qname) : SafeP0 W (handleNonAxfrQueryL z qname qtype tr) s := by
  have hres : SafeP W (fun s => if qtype = QT "ANY" then answerAny z qname s else answer z qname qtype s) s
      (fun _ _ => True) := by
    unfold SafeP
    dsimp only
    split
    · exact (answerAny_safe (Along.triv W) z hz qname hq hsub s hi hh).1
    · exact (answer_safe (Along.triv W) z hz qname hq qtype hsub s hi hh).1
  obtain ⟨h1, h2, _, _⟩ := hres
  dsimp only at h1 h2
  have ep1 : ∀ s' : PS, W.I s'.w →
      SafeP0 W (do PM.setAa false; PM.setRcode (RC "SERVFAIL"); PM.clearRrs : PM Unit) s' :=
    fun s' hi' => safeP0_bind W (safe_hdr_setAa W false s' hi').safeP0 (fun _ s1 hi1 =>
      safeP0_bind W (safe_hdr_setRcode W _ s1 hi1).safeP0 (fun _ s2 hi2 => safeP0_clearRrs W s2 hi2))
  have ep2 : ∀ s' : PS, W.I s'.w → SafeP0 W (do
      PM.clearRrs
      if tr = Transport.tcp then do PM.setAa false; PM.setRcode (RC "SERVFAIL")
      else PM.setTc true : PM Unit) s' := fun s' hi' =>
    safeP0_bind W (safeP0_clearRrs W s' hi') (fun _ s1 hi1 => by
      split
      · exact (safe_bind_PM W (safe_hdr_setAa W false s1 hi1)
          (fun _ s2 hi2 _ _ => safe_hdr_setRcode W _ s2 hi2)).safeP0
      · exact (safe_hdr_setTc W true s1 hi1).safeP0)
  unfold SafeP0 handleNonAxfrQueryL
  dsimp only
  generalize (if qtype = QT "ANY" then answerAny z qname s else answer z qname qtype s) = res at h1 h2
  obtain ⟨o, s'⟩ := res
  cases o with
  | panic => exact absurd rfl h1
  | ok u => exact ⟨by simp, h2⟩
  | err e =>
    cases e with
    | servFail => exact ep1 s' h2
    | truncation => exact ep2 s' h2

theorem handleNonAxfrQuery_safe (z : Zone.Zone) (hz : ZoneOK z) (qname : WName) (hq : qname.WF)
    (qtype : Nat) (tr : Transport) (hsub : z.apex <:+ fold qname) (s : State) (hi : W.I s)
    (hh : HintOK W.Den s .qname qname) : Safe0 W (handleNonAxfrQuery z qname qtype tr) s := by
  obtain ⟨h1, h2⟩ := handleNonAxfrQueryL_safe W z hz qname hq qtype tr hsub { w := s } hi hh
  unfold Safe0 handleNonAxfrQuery
  generalize handleNonAxfrQueryL z qname qtype tr { w := s } = res at h1 h2
  obtain ⟨o, s'⟩ := res
  cases o with
  | panic => exact absurd rfl h1
  | ok u => exact ⟨by simp, h2⟩
  | err e => exact ⟨by simp, h2⟩

/-- what the library API guarantees about a configuration: each catalog entry is filed under
    the apex of its zone (`Entry::Loaded(zone)`: `entry.name() = zone.name()`), apexes are names,
    stored RRsets are non-empty (`RdataSetOwned`), the EDNS payload size is at least 512
    (`set_edns_udp_payload_size`) -/
structure CfgWF (cfg : Cfg) : Prop where
  payload : 512 ≤ cfg.payload
  zones : ∀ ze ∈ cfg.zones, ze.apex.WF ∧ ze.zone.apex = fold ze.apex ∧
    NodeOK (fun r => r.rdatas ≠ []) ze.zone.root

/-- **L2 + L3**: the QUERY handler never panics -/
theorem querySafe (cfg : Cfg) (hcfg : CfgWF cfg) (tr : Transport) : QuerySafe W cfg tr := by
  intro qn qt qc s hi hq hh
  unfold handleQuery
  simp only
  split
  · exact (safe_setRcode W _ s hi).safe0
  · split
    · exact (safe_setRcode W _ s hi).safe0
    · cases hl : Catalog.lookup (mkCatalog cfg.zones) qn.labels qc with
      | none => exact (safe_setRcode W _ s hi).safe0
      | some e =>
        simp only
        obtain ⟨ze, hze, hname, hkind, hsuf⟩ := mkCatalog_lookup cfg.zones qn.labels qc e hl
        cases hk : e.kind with
        | Loaded =>
          simp only [hze]
          obtain ⟨hawf, haeq, hnode⟩ := hcfg.zones ze (List.mem_of_getElem? hze)
          have hz : ZoneOK ze.zone := ⟨by rw [haeq]; exact fold_wf _ hawf, hnode⟩
          exact handleNonAxfrQuery_safe W ze.zone hz qn hq qt tr (by rw [haeq]; exact hsuf) s hi hh
        | NotYetLoaded => exact (safe_setRcode W _ s hi).safe0
        | FailedToLoad => exact (safe_setRcode W _ s hi).safe0

end QV.ServerSafety
