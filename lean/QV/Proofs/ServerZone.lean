/-
  QV.Proofs.ServerZone — what the QUERY handler relies on in the zone and catalog models
  (helpers of C01, layer L2):

  * zone lookups: a checked lookup never panics; an unchecked one panics only for a name with
    fewer labels than the apex (C06) and never answers `WrongZone`; the RRsets and the child-zone
    name handed back come from the tree (`NodeOK`), the child-zone name is a suffix of the name
    looked up, hence a well-formed name;
  * the catalog built by `mkCatalog`: the entry `lookup` returns carries the index of its own
    zone, which is in range, and its name is a suffix of the QNAME (C22) — so the unchecked lookup
    of `answer`/`answer_any` is made on a name at or below the apex.
-/
import QV.Proofs.ServerWriter
import QV.Properties.C22
import QV.Properties.C06

namespace QV.ServerSafety
open QV QV.Writer QV.Server

/-! ### wire length of label lists -/

def wlen : List Label → Nat
  | [] => 1
  | l :: r => l.length + 1 + wlen r

theorem wire_length (ls : List Label) : (⟨ls⟩ : WName).wire.length = wlen ls := by
  unfold WName.wire
  induction ls with
  | nil => rfl
  | cons l r ih =>
    simp only [List.flatMap_cons, WName.encLabel, List.cons_append, List.length_cons, List.append_assoc,
      List.length_append] at ih ⊢
    simp only [wlen]; omega

theorem wf_iff (ls : List Label) : (⟨ls⟩ : WName).WF ↔ LabelsOK ls ∧ wlen ls ≤ 255 := by
  unfold WName.WF
  rw [wire_length, consts63.1, consts63.2]
  rfl

theorem wlen_append (a b : List Label) : wlen (a ++ b) + 1 = wlen a + wlen b := by
  induction a with
  | nil => simp [wlen]; omega
  | cons l r ih => simp only [List.cons_append, wlen]; omega

theorem wf_suffix {a b : List Label} (h : a <:+ b) (hb : (⟨b⟩ : WName).WF) : (⟨a⟩ : WName).WF := by
  obtain ⟨t, rfl⟩ := h
  rw [wf_iff] at hb ⊢
  refine ⟨fun l hl => hb.1 l (by simp [hl]), ?_⟩
  have := wlen_append t a
  have h1 : 1 ≤ wlen t := by cases t <;> simp only [wlen] <;> omega
  omega

theorem wlen_map (ls : List Label) (f : Label → Label) (hf : ∀ l, (f l).length = l.length) :
    wlen (ls.map f) = wlen ls := by
  induction ls with
  | nil => rfl
  | cons l r ih => simp only [List.map_cons, wlen, ih, hf]

/-- case folding keeps a name well formed -/
theorem fold_wf (n : WName) (h : n.WF) : (unfold (fold n)).WF := by
  obtain ⟨ls⟩ := n
  rw [wf_iff] at h
  unfold unfold fold
  rw [wf_iff, wlen_map _ _ (fun l => by simp [NameL.lowerLabel])]
  refine ⟨fun l hl => ?_, h.2⟩
  obtain ⟨l', hl', rfl⟩ := List.mem_map.mp hl
  simpa [NameL.lowerLabel] using h.1 l' hl'

theorem eqOrSub_iff (self other : NameL.Name) :
    NameL.eqOrSubdomainOf self other = true ↔ other <:+ self := by
  simp only [NameL.eqOrSubdomainOf, Bool.and_eq_true, decide_eq_true_eq]
  constructor
  · intro ⟨hl, ha⟩
    have h2 : other.reverse.length ≤ self.reverse.length := by simpa using hl
    exact List.reverse_prefix.mp ((Catalog.zip_all_prefix_iff _ _ h2).mp ha)
  · intro hs
    have hl : other.length ≤ self.length := hs.length_le
    have h2 : other.reverse.length ≤ self.reverse.length := by simpa using hl
    exact ⟨hl, (Catalog.zip_all_prefix_iff _ _ h2).mpr (List.reverse_prefix.mpr hs)⟩

/-! ### the zone tree -/

open QV.Zone in
/-- every RRset stored in the tree satisfies `P` -/
inductive NodeOK (P : Zone.Rrset → Prop) : Zone.Node → Prop
  | mk (rrsets : List Zone.Rrset) (children : List (NameL.Label × Zone.Node)) :
      (∀ r ∈ rrsets, P r) → (∀ l c, (l, c) ∈ children → NodeOK P c) → NodeOK P (.mk rrsets children)

theorem childGet_mem (children : List (NameL.Label × Zone.Node)) (l : NameL.Label) (sub : Zone.Node)
    (h : Zone.childGet children l = some sub) : ∃ k, (k, sub) ∈ children := by
  induction children with
  | nil => simp [Zone.childGet] at h
  | cons kv rest ih =>
    obtain ⟨k, v⟩ := kv
    simp only [Zone.childGet] at h
    split at h
    · cases h; exact ⟨k, by simp⟩
    · obtain ⟨k', hk'⟩ := ih h; exact ⟨k', by simp [hk']⟩

theorem lookupRrset_mem (rrsets : List Zone.Rrset) (t : Nat) (r : Zone.Rrset)
    (h : Zone.lookupRrset rrsets t = some r) : r ∈ rrsets := by
  induction rrsets with
  | nil => simp [Zone.lookupRrset] at h
  | cons s rest ih =>
    simp only [Zone.lookupRrset] at h
    split at h
    · cases h; simp
    · simp [ih h]

/-- what the node search returns comes from the tree, and a child-zone name consists of labels of
    the path already walked in front of the starting name -/
theorem lookupImpl_spec (P : Zone.Rrset → Prop) (sbc : Bool) :
    ∀ (path : List NameL.Label) (node : Zone.Node) (nm : NameL.Name) (atApex : Bool), NodeOK P node →
      Zone.lookupImpl sbc node nm path atApex ≠ .wrongZone ∧
      (∀ rrsets sos, Zone.lookupImpl sbc node nm path atApex = .found rrsets sos → ∀ r ∈ rrsets, P r) ∧
      (∀ c ns, Zone.lookupImpl sbc node nm path atApex = .referral c ns →
        P ns ∧ ∃ k, c = (path.take k).reverse ++ nm) := by
  intro path
  induction path with
  | nil =>
    intro node nm atApex hok
    cases hok with
    | mk rrsets children h1 h2 =>
      unfold Zone.lookupImpl
      split
      · rename_i ns hns
        refine ⟨by simp, fun _ _ h => (by cases h), fun c ns' h => ?_⟩
        cases h
        split at hns
        · exact ⟨h1 _ (lookupRrset_mem _ _ _ hns), 0, by simp⟩
        · cases hns
      · refine ⟨by simp, fun rr sos h => ?_, fun _ _ h => by cases h⟩
        cases h; exact h1
  | cons l rest ih =>
    intro node nm atApex hok
    cases hok with
    | mk rrsets children h1 h2 =>
      unfold Zone.lookupImpl
      split
      · rename_i ns hns
        refine ⟨by simp, fun _ _ h => (by cases h), fun c ns' h => ?_⟩
        cases h
        split at hns
        · exact ⟨h1 _ (lookupRrset_mem _ _ _ hns), 0, by simp⟩
        · cases hns
      · simp only
        cases hc : Zone.childGet children l with
        | some sub =>
          obtain ⟨k, hk⟩ := childGet_mem _ _ _ hc
          obtain ⟨g1, g2, g3⟩ := ih sub (l :: nm) false (h2 k sub hk)
          refine ⟨g1, g2, fun c ns h => ?_⟩
          obtain ⟨hp, j, hj⟩ := g3 c ns h
          exact ⟨hp, j + 1, by simp [hj]⟩
        | none =>
          simp only
          cases hw : Zone.childGet children NameL.asterisk with
          | some w =>
            obtain ⟨k, hk⟩ := childGet_mem _ _ _ hw
            refine ⟨by simp, fun rr sos h => ?_, fun _ _ h => by cases h⟩
            cases h
            cases h2 k w hk with
            | mk wr wc g1 g2 => exact g1
          | none => exact ⟨by simp, fun _ _ h => (by cases h), fun _ _ h => by cases h⟩

/-! ### zones built through `HashMapTreeZone::add` only hold non-empty RRsets -/

theorem rrsetsAdd_nonempty (eqv : Zone.Eqv) (cls t ttl : Nat) (rd : Zone.Rdata) :
    ∀ (rrsets res : List Zone.Rrset), (∀ r ∈ rrsets, r.rdatas ≠ []) →
      Zone.rrsetsAdd eqv cls t ttl rd rrsets = .ok res → ∀ r ∈ res, r.rdatas ≠ [] := by
  intro rrsets
  induction rrsets with
  | nil =>
    intro res _ h r hr
    simp only [Zone.rrsetsAdd] at h
    cases h; simp at hr; subst hr; simp
  | cons s rest ih =>
    intro res hne h r hr
    simp only [Zone.rrsetsAdd] at h
    split at h
    · split at h
      · cases h
      · cases h
        simp only [List.mem_cons] at hr
        rcases hr with rfl | hr
        · simp only [Zone.rdataInsert]
          split
          · exact hne s (by simp)
          · simp
        · exact hne r (by simp [hr])
    · split at h
      · cases h
        simp only [List.mem_cons] at hr
        rcases hr with rfl | rfl | hr
        · simp
        · exact hne _ (by simp)
        · exact hne r (by simp [hr])
      · cases hrec : Zone.rrsetsAdd eqv cls t ttl rd rest with
        | error e => rw [hrec] at h; cases h
        | ok r' =>
          rw [hrec] at h
          cases h
          simp only [List.mem_cons] at hr
          rcases hr with rfl | hr
          · exact hne _ (by simp)
          · exact ih r' (fun x hx => hne x (by simp [hx])) hrec r hr

theorem childSet_mem (children : List (NameL.Label × Zone.Node)) (l : NameL.Label) (n : Zone.Node)
    (k : NameL.Label) (c : Zone.Node) (h : (k, c) ∈ Zone.childSet children l n) :
    c = n ∨ (k, c) ∈ children := by
  induction children with
  | nil => simp [Zone.childSet] at h; exact Or.inl h.2
  | cons kv rest ih =>
    obtain ⟨k', v'⟩ := kv
    simp only [Zone.childSet] at h
    split at h
    · simp only [List.mem_cons, Prod.mk.injEq] at h
      rcases h with ⟨_, rfl⟩ | h
      · exact Or.inl rfl
      · exact Or.inr (by simp [h])
    · simp only [List.mem_cons, Prod.mk.injEq] at h
      rcases h with ⟨rfl, rfl⟩ | h
      · exact Or.inr (by simp)
      · rcases ih h with h | h
        · exact Or.inl h
        · exact Or.inr (by simp [h])

theorem nodeOK_empty (P : Zone.Rrset → Prop) : NodeOK P Zone.Node.empty :=
  NodeOK.mk _ _ (fun _ h => by cases h) (fun _ _ h => by cases h)

theorem addAt_nodeOK (eqv : Zone.Eqv) (cls t ttl : Nat) (rd : Zone.Rdata) :
    ∀ (path : List NameL.Label) (node : Zone.Node), NodeOK (fun r => r.rdatas ≠ []) node →
      NodeOK (fun r => r.rdatas ≠ []) (Zone.addAt eqv cls t ttl rd node path).1 := by
  intro path
  induction path with
  | nil =>
    intro node hok
    cases hok with
    | mk rrsets children h1 h2 =>
      simp only [Zone.addAt]
      cases hr : Zone.rrsetsAdd eqv cls t ttl rd rrsets with
      | ok rr' => exact NodeOK.mk _ _ (rrsetsAdd_nonempty eqv cls t ttl rd rrsets rr' h1 hr) h2
      | error e => exact NodeOK.mk _ _ h1 h2
  | cons l rest ih =>
    intro node hok
    cases hok with
    | mk rrsets children h1 h2 =>
      simp only [Zone.addAt]
      refine NodeOK.mk _ _ h1 (fun k c hc => ?_)
      rcases childSet_mem _ _ _ _ _ hc with rfl | hc
      · apply ih
        cases hg : Zone.childGet children l with
        | none => exact nodeOK_empty _
        | some sub =>
          obtain ⟨k', hk'⟩ := childGet_mem _ _ _ hg
          exact h2 k' sub hk'
      · exact h2 k c hc

theorem build_nodeOK (eqv : Zone.Eqv) (apex : NameL.Name) (cls : Nat) (glue : Zone.GluePolicy)
    (rs : List Zone.Rec) :
    NodeOK (fun r => r.rdatas ≠ []) (Zone.build eqv (Zone.Zone.new apex cls glue) rs).root := by
  unfold Zone.build
  have : ∀ (rs : List Zone.Rec) (z : Zone.Zone), NodeOK (fun r => r.rdatas ≠ []) z.root →
      NodeOK (fun r => r.rdatas ≠ []) (rs.foldl (fun z r => (Zone.addM eqv z r).1) z).root := by
    intro rs
    induction rs with
    | nil => intro z h; exact h
    | cons r rest ih =>
      intro z h
      apply ih
      unfold Zone.addM
      dsimp only
      split
      · exact h
      · split
        · exact h
        · exact addAt_nodeOK eqv _ _ _ _ _ _ h
  exact this rs _ (nodeOK_empty _)

/-- what the handler relies on in a zone: the apex is a name, no stored RRset is empty
    (`RdataSetOwned` is never empty) -/
structure ZoneOK (z : Zone.Zone) : Prop where
  apex_wf : (unfold z.apex).WF
  rrsets : NodeOK (fun r => r.rdatas ≠ []) z.root

/-- outcome of `lookup_base` on a well-formed name that — when the lookup is `unchecked` — lies at
    or below the apex: never a panic; `WrongZone` only from a checked lookup; everything handed
    back is usable by the writer -/
theorem lookupBase_cases (z : Zone.Zone) (hz : ZoneOK z) (name : NameL.Name) (o : Zone.Opts)
    (hname : (unfold name).WF) (hsub : o.unchecked = true → z.apex <:+ name) :
    (Zone.lookupBase z name o = .ok .wrongZone ∧ o.unchecked = false) ∨
    ∃ b, Zone.lookupBase z name o = .ok b ∧ b ≠ .wrongZone ∧
      (∀ rrsets sos, b = .found rrsets sos → ∀ r ∈ rrsets, r.rdatas ≠ []) ∧
      (∀ c ns, b = .referral c ns → ns.rdatas ≠ [] ∧ (unfold c).WF) := by
  unfold Zone.lookupBase
  by_cases hc : (!o.unchecked && !NameL.eqOrSubdomainOf name z.apex) = true
  · left
    simp only [hc, if_true]
    simp only [Bool.and_eq_true, Bool.not_eq_true'] at hc
    exact ⟨trivial, hc.1⟩
  · right
    have hs : z.apex <:+ name := by
      cases hu : o.unchecked with
      | true => exact hsub hu
      | false =>
        rw [hu] at hc
        simp only [Bool.not_false, Bool.true_and, Bool.not_eq_true', Bool.not_eq_false] at hc
        exact (eqOrSub_iff _ _).mp hc
    have hl : ¬ name.length < z.apex.length := by have := hs.length_le; omega
    simp only [hc, if_false, hl]
    obtain ⟨g1, g2, g3⟩ := lookupImpl_spec (fun r => r.rdatas ≠ []) o.searchBelowCuts
      (Zone.relPath z.apex.length name) z.root z.apex true hz.rrsets
    refine ⟨_, rfl, g1, g2, fun c ns h => ?_⟩
    obtain ⟨hp, k, hk⟩ := g3 c ns h
    refine ⟨hp, ?_⟩
    obtain ⟨t, rfl⟩ := hs
    have hm : (t ++ z.apex).length - z.apex.length = t.length := by simp
    have htk : List.take t.length (t ++ z.apex) = t := by simp
    unfold Zone.relPath at hk
    rw [hm, htk] at hk
    have h1 : (List.take k t.reverse).reverse <:+ t := by
      have hp : List.take k t.reverse <+: t.reverse := List.take_prefix k t.reverse
      have := List.reverse_suffix.mpr hp
      simpa using this
    have h2 : c <:+ t ++ z.apex := by
      obtain ⟨u, hu⟩ := h1
      exact ⟨u, by rw [hk, ← List.append_assoc, hu]⟩
    exact wf_suffix h2 hname

/-! ### the catalog built by `mkCatalog` -/

open QV.Catalog QV.Spec.Catalog in
/-- after inserts only, every binding of the specification map is one of the inserted entries,
    filed under its own key -/
theorem specRun_inserts {μ : Type} (P : Catalog.Entry μ → Prop) (ops : List (Catalog.Op μ))
    (hops : ∀ op ∈ ops, ∃ e, op = .insert e ∧ P e) (m : SMap (Catalog.Entry μ))
    (hm : ∀ k e, sfind m k = some e → P e ∧ keyOf e = k) :
    ∀ k e, sfind (ops.foldl specStep m) k = some e → P e ∧ keyOf e = k := by
  induction ops generalizing m with
  | nil => exact hm
  | cons op rest ih =>
    obtain ⟨e0, rfl, hp0⟩ := hops op (by simp)
    refine ih (fun op hop => hops op (by simp [hop])) _ ?_
    intro k e h
    simp only [specStep, sfind_sinsert] at h
    split at h
    · rename_i hk; cases h; exact ⟨hp0, hk.symm⟩
    · exact hm k e h

open QV.Catalog QV.Spec.Catalog in
/-- **the zone `handle_query` indexes exists and is the one whose apex is a suffix of the QNAME**:
    the entry returned by the catalog lookup carries its own index into `cfg.zones` (so the
    `M.panic` after `cfg.zones[e.zone]?` is unreachable), and its name is a suffix of the name
    looked up (C22) -/
theorem mkCatalog_lookup (zs : List ZoneEntry) (n : DName) (cls : Nat) (e : Catalog.Entry Unit)
    (h : Catalog.lookup (mkCatalog zs) n cls = some e) :
    ∃ ze, zs[e.zone]? = some ze ∧ e.name = ze.apex.labels ∧ e.kind = ze.kind ∧
      foldName ze.apex.labels <:+ foldName n := by
  let mk : ZoneEntry × Nat → Catalog.Op Unit := fun p => .insert ⟨p.1.apex.labels, p.1.cls, p.1.kind, p.2, ()⟩
  have hrun : mkCatalog zs = Catalog.run (zs.zipIdx.map mk) := by
    unfold mkCatalog Catalog.run
    rw [List.foldl_map]
    rfl
  rw [hrun] at h
  have hl := C22.C22_lookup_longest (zs.zipIdx.map mk) n cls
  rw [h] at hl
  obtain ⟨s, hs, hf, _⟩ := hl
  have := specRun_inserts (μ := Unit)
    (fun e => ∃ ze, zs[e.zone]? = some ze ∧ e.name = ze.apex.labels ∧ e.kind = ze.kind)
    (zs.zipIdx.map mk)
    (fun op hop => by
      obtain ⟨p, hp, rfl⟩ := List.mem_map.mp hop
      exact ⟨_, rfl, p.1, List.mem_zipIdx_iff_getElem?.mp hp, rfl, rfl⟩)
    [] (fun k e h => by simp [sfind] at h) (cls, s) e hf
  obtain ⟨⟨ze, h1, h2, h3⟩, hk⟩ := this
  refine ⟨ze, h1, h2, h3, ?_⟩
  have : foldName e.name = s := by
    have := congrArg Prod.snd hk
    simpa [keyOf] using this
  rw [← h2, this]; exact hs

/-- so the name handed to the unchecked lookup lies at or below the apex of the zone -/
theorem fold_suffix (apex qn : WName) (h : Spec.Catalog.foldName apex.labels <:+ Spec.Catalog.foldName qn.labels) :
    fold apex <:+ fold qn := h

end QV.ServerSafety
