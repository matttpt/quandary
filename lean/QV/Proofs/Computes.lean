/-
  QV.Proofs.Computes — `x ⇓ o`: the modelled operation `x` does not panic and succeeds exactly when
  the partial function `o` is defined, with that value.  The statement form in which "never panics"
  and "accepts exactly …" are one fact, and which composes along `>>=` without a three-way case
  split on every intermediate outcome.
-/
import QV.Prelude

namespace QV

/-- `x` does not panic; it returns `a` exactly when `o = some a` (any error stands for `none`) -/
def Computes {ε α} (x : Out ε α) (o : Option α) : Prop := x ≠ .panic ∧ x.toOption = o

@[inherit_doc] infix:50 " ⇓ " => Computes

namespace Computes
variable {ε ε' α β : Type}

theorem ok (a : α) : (.ok a : Out ε α) ⇓ some a := ⟨nofun, rfl⟩
theorem err (e : ε) : (.err e : Out ε α) ⇓ none := ⟨nofun, rfl⟩

theorem no_panic {x : Out ε α} {o} (h : x ⇓ o) : x ≠ .panic := h.1

theorem ok_iff {x : Out ε α} {o} (h : x ⇓ o) (a : α) : x = .ok a ↔ o = some a := by
  obtain ⟨hp, rfl⟩ := h
  cases x <;> simp_all [Out.toOption]

/-- the step along `>>=`: the continuation is only looked at on values the first part can yield -/
theorem bind {x : Out ε α} {o} {f : α → Out ε β} {g : α → Option β}
    (hx : x ⇓ o) (hf : ∀ a, o = some a → f a ⇓ g a) : (x >>= f) ⇓ o.bind g := by
  obtain ⟨hp, rfl⟩ := hx
  cases x with
  | ok a => exact hf a rfl
  | err e => exact err e
  | panic => exact absurd rfl hp

theorem map {x : Out ε α} {o} (hx : x ⇓ o) (f : α → β) : (x >>= fun a => .ok (f a)) ⇓ o.map f := by
  cases o <;> exact hx.bind (g := fun a => some (f a)) fun a _ => ok (f a)

theorem mapErr {x : Out ε α} {o} (hx : x ⇓ o) (f : ε → ε') : x.mapErr f ⇓ o := by
  obtain ⟨hp, rfl⟩ := hx
  cases x <;> simp_all [Computes, Out.mapErr, Out.toOption]

/-- a test whose failure is an error -/
theorem guard {c : Prop} [Decidable c] {x : Out ε α} {o} (e : ε) (hx : c → x ⇓ o) :
    (if c then x else .err e) ⇓ if c then o else none := by
  split
  · exact hx ‹_›
  · exact err e

/-- a final test, stated on the two sides in whatever arithmetic each uses -/
theorem test {c c' : Prop} [Decidable c] [Decidable c'] (e : ε) (a : α) (h : c ↔ c') :
    (if c then .ok a else .err e : Out ε α) ⇓ if c' then some a else none := by
  by_cases hc : c
  · rw [if_pos hc, if_pos (h.mp hc)]; exact .ok a
  · rw [if_neg hc, if_neg (fun x => hc (h.mpr x))]; exact .err e

theorem congr {x : Out ε α} {o o'} (hx : x ⇓ o) (h : o = o') : x ⇓ o' := h ▸ hx

theorem of_eq {x y : Out ε α} {o} (h : x = y) (hy : y ⇓ o) : x ⇓ o := h ▸ hy

/-- a validator (`Unit` result): no panic, and it accepts exactly when `P`, once `o` is characterised -/
theorem spec {x : Out ε Unit} {o} (h : x ⇓ o) {P : Prop} (ho : o = some () ↔ P) :
    x ≠ .panic ∧ (x = .ok () ↔ P) := ⟨h.1, (h.ok_iff ()).trans ho⟩

end Computes
end QV
