/-
  QV.Proofs.WriterCheckSession — what `Driver.runModel` observes of a session (statuses, what the
  getters report, the messages finished before each `clear_rrs` and at the end, MAC) is what `run` /
  `finish` compute (`go_all`, `runModel_eq`); the status strings never read `"panic"`; the MAC `finish` returns has
  the size the specification expects (`finish_macLen`).
-/
import QV.Proofs.WriterSegment

namespace QV.Writer
open QV QV.Wire QV.Spec QV.ServerSafety

/-- the session after the calls `ops` (as `run`, when no call panics) -/
def after (ss : Session) : List Op → Session
  | [] => ss
  | op :: ops => after (step ss op).2 ops

theorem after_eq_run (ss : Session) (ops : List Op) (h : ∀ r ∈ (run ss ops).2, r ≠ .panic) :
    (run ss ops).1 = after ss ops := by
  induction ops generalizing ss with
  | nil => rfl
  | cons op ops ih =>
    obtain ⟨hp, ht⟩ := run_noPanic_cons h
    rw [run_cons hp]
    exact ih _ ht

/-- what `finish` returns (the empty message if it fails, as the observer records it) -/
def finMsg (macFn : Tsig → List UInt8 → List UInt8) (s : State) : Bytes :=
  match finish s macFn with
  | .ok (m, _) => m
  | _ => #[]

/-- the message the observer records before a call: the finished message, before `clear_rrs` -/
def preOf (macFn : Tsig → List UInt8 → List UInt8) (ss : Session) : Op → List Bytes
  | .clearRrs => [finMsg macFn ss.w]
  | _ => []

/-- the messages finished before each `clear_rrs` of a session -/
def preMsgs (macFn : Tsig → List UInt8 → List UInt8) : Session → List Op → List Bytes
  | _, [] => []
  | ss, op :: ops => preOf macFn ss op ++ preMsgs macFn (step ss op).2 ops

theorem preMsgs_cons_ne (macFn : Tsig → List UInt8 → List UInt8) (ss : Session) {op : Op} (ops : List Op)
    (h : op ≠ .clearRrs) : preMsgs macFn ss (op :: ops) = preMsgs macFn (step ss op).2 ops := by
  cases op with
  | clearRrs => exact absurd rfl h
  | _ => rfl

theorem preMsgs_noclear (macFn : Tsig → List UInt8 → List UInt8) (ss : Session) (ops : List Op)
    (h : ∀ op ∈ ops, op ≠ .clearRrs) : preMsgs macFn ss ops = [] := by
  induction ops generalizing ss with
  | nil => rfl
  | cons op ops ih =>
    rw [preMsgs_cons_ne macFn ss ops (h op List.mem_cons_self)]
    exact ih _ (fun o ho => h o (List.mem_cons_of_mem _ ho))

theorem preOf_reverse (macFn : Tsig → List UInt8 → List UInt8) (ss : Session) (op : Op) :
    (preOf macFn ss op).reverse = preOf macFn ss op := by cases op <;> rfl

theorem go_all (macFn : Tsig → List UInt8 → List UInt8) : ∀ (ops : List Op) (ss : Session) (acc : List String)
    (pre : List Bytes), (∀ r ∈ (run ss ops).2, r ≠ .panic) →
    Driver.runModel.go true macFn ss ops acc pre =
      match finish (after ss ops).w macFn with
      | .ok (m, mc) => ⟨acc.reverse ++ obs ss ops ++ ["ok"], some m, mc, pre.reverse ++ preMsgs macFn ss ops⟩
      | _ => ⟨acc.reverse ++ obs ss ops ++ ["panic"], none, none, pre.reverse ++ preMsgs macFn ss ops⟩ := by
  intro ops
  induction ops with
  | nil =>
    intro ss acc pre _
    simp only [Driver.runModel.go, after, obs, preMsgs, List.append_nil, if_true]
    cases finish ss.w macFn with
    | ok p => obtain ⟨m, mc⟩ := p; simp
    | err e => simp
    | panic => simp
  | cons op ops ih =>
    intro ss acc pre hnp
    by_cases hg : op = .getters
    · subst hg
      have hstep : step ss .getters = (.ok (), ss) := rfl
      have hgo : Driver.runModel.go true macFn ss (.getters :: ops) acc pre =
          Driver.runModel.go true macFn ss ops (Driver.gettersStr ss.w :: acc) pre := rfl
      rw [hgo]
      rw [ih ss (Driver.gettersStr ss.w :: acc) pre (run_noPanic_cons hnp).2]
      simp [obs, after, preMsgs, preOf, hstep, List.reverse_cons, List.append_assoc]
    · have hgo : Driver.runModel.go true macFn ss (op :: ops) acc pre =
          match step ss op with
          | (.panic, _) => ⟨(("panic" :: acc).reverse), none, none,
              (preOf macFn ss op ++ pre).reverse⟩
          | (r, ss') => Driver.runModel.go true macFn ss' ops (Driver.statusStr r :: acc)
              (preOf macFn ss op ++ pre) := by
        -- `getters` is excluded, every call but `clear_rrs` is this equation by definition, and
        -- before `clear_rrs` the observer records the finished message (`preOf`)
        cases op with
        | getters => exact absurd rfl hg
        | clearRrs =>
          simp only [Driver.runModel.go, finMsg, preOf]
          cases finish ss.w macFn with
          | ok p => obtain ⟨m, mc⟩ := p; rfl
          | err e | panic => rfl
        | _ => rfl
      rw [hgo, obs_ne ss op ops hg]
      obtain ⟨hp, ht⟩ := run_noPanic_cons hnp
      cases hs : step ss op with
      | mk r ss' =>
        rw [hs] at hp ht
        cases r with
        | panic => exact absurd rfl hp
        | ok u | err e =>
          simp only []
          rw [ih ss' _ (preOf macFn ss op ++ pre) ht]
          simp only [after, preMsgs, hs]
          cases finish (after ss' ops).w macFn with
          | ok p => obtain ⟨m, mc⟩ := p; simp [List.reverse_cons, List.append_assoc, preOf_reverse]
          | err e | panic => simp [List.reverse_cons, List.append_assoc, preOf_reverse]

/-- what `Driver.runModel` returns for a session that does not panic and whose `finish` succeeds -/
theorem runModel_eq {ss : Session} {ops : List Op} {mac : Option (List UInt8)} {m0 : Bytes} {mc0 : Option (List UInt8)}
    (hnp : ∀ r ∈ (run ss ops).2, r ≠ .panic) (hf0 : finish (after ss ops).w (fun _ _ => mac.getD []) = .ok (m0, mc0)) :
    Driver.runModel ss ops mac true =
      ⟨obs ss ops ++ ["ok"], some m0, mc0, preMsgs (fun _ _ => mac.getD []) ss ops⟩ := by
  unfold Driver.runModel
  simp only
  rw [go_all _ ops _ [] [] hnp, hf0]
  simp

/-- the MAC `finish` returned is the one handed to the specification -/
theorem finish_mac_self {macFn : Tsig → List UInt8 → List UInt8} {s : State} {m0 : Bytes} {mc0 : Option (List UInt8)}
    (hf0 : finish s macFn = .ok (m0, mc0)) (m : Bytes) (mac1 : Option (List UInt8))
    (hf : finish s macFn = .ok (m, mac1)) : mc0 = none ∨ mc0 = some (mac1.getD []) := by
  rw [hf0] at hf
  simp only [Out.ok.injEq, Prod.mk.injEq] at hf
  rw [← hf.2]
  cases mc0 with
  | none => exact Or.inl rfl
  | some x => exact Or.inr rfl

theorem statusStr_ne_panic (r : Out WriterErr Unit) (h : r ≠ .panic) : (Driver.statusStr r == "panic") = false := by
  cases r with
  | ok u => cases u; decide
  | err e => cases e <;> decide
  | panic => exact absurd rfl h

theorem g_ne_panic (x : String) : ("g=" ++ x == "panic") = false := by
  have : "g=" ++ x ≠ "panic" := by
    intro h
    have h2 := congrArg String.toList h
    rw [String.toList_append] at h2
    have h3 : ("g=" : String).toList = ['g', '='] := by decide
    have h4 : ("panic" : String).toList = ['p', 'a', 'n', 'i', 'c'] := by decide
    rw [h3, h4] at h2
    simp at h2
  simpa using this

theorem gettersStr_ne_panic (s : State) : (Driver.gettersStr s == "panic") = false := by
  unfold Driver.gettersStr
  simp only [String.append_assoc]
  exact g_ne_panic _

theorem contains_panic_false : ∀ (ops : List Op) (ss : Session), (∀ r ∈ (run ss ops).2, r ≠ .panic) →
    (obs ss ops ++ ["ok"]).contains "panic" = false := by
  intro ops
  induction ops with
  | nil => intro ss _; show (["ok"] : List String).contains "panic" = false; decide
  | cons op ops ih =>
    intro ss hnp
    have htail : (obs (step ss op).2 ops ++ ["ok"]).contains "panic" = false := ih _ (run_noPanic_cons hnp).2
    by_cases hg : op = .getters
    · subst hg
      have hobs : obs ss (.getters :: ops) = Driver.gettersStr ss.w :: obs (step ss .getters).2 ops := rfl
      rw [hobs]
      simp only [List.cons_append, List.contains_cons, Bool.or_eq_false_iff]
      exact ⟨by rw [Bool.beq_comm]; exact gettersStr_ne_panic _, htail⟩
    · rw [obs_ne ss op ops hg]
      simp only [List.cons_append, List.contains_cons, Bool.or_eq_false_iff]
      refine ⟨?_, htail⟩
      rw [Bool.beq_comm]
      exact statusStr_ne_panic _ (run_noPanic_cons hnp).1

/-- the MAC `finish` returns: none for an unsigned TSIG, what the signing function gave otherwise -/
theorem finishTsig_mac {macFn : Tsig → List UInt8 → List UInt8} {ts : Tsig} {s s' : State} {len : Nat}
    {mac : Option (List UInt8)} (h : finishTsig macFn (some ts) s = (.ok (len, mac), s')) :
    (isUnsigned ts.mode = true → mac = none) ∧
    (isUnsigned ts.mode = false → ∃ msg, mac = some (macFn ts msg)) := by
  rcases finishTsig_ok_inv h with ⟨hn, _⟩ | ⟨ts', hts', _, hmac, _⟩
  · cases hn
  · cases hts'
    rw [hmac]; unfold finishMac
    cases ts.mode with
    | unsigned _ => exact ⟨fun _ => rfl, nofun⟩
    | request _ _ => exact ⟨nofun, fun _ => ⟨_, rfl⟩⟩
    | response _ _ _ => exact ⟨nofun, fun _ => ⟨_, rfl⟩⟩
    | subsequent _ _ _ => exact ⟨nofun, fun _ => ⟨_, rfl⟩⟩

theorem finish_mac_shape (macFn : Tsig → List UInt8 → List UInt8) (s : State) (ts : Tsig) (hts : s.tsig = some ts)
    (m : Bytes) (mac : Option (List UInt8)) (hf : finish s macFn = .ok (m, mac)) :
    (isUnsigned ts.mode = true → mac = none) ∧
    (isUnsigned ts.mode = false → ∃ msg, mac = some (macFn ts msg)) := by
  obtain ⟨len, sF, hw, hm⟩ := finish_eq_ok.mp hf
  obtain ⟨_, _, _, hw⟩ := finishWithMac_eq_ok.mp hw
  rw [hts] at hw
  exact finishTsig_mac hw

/-- with a constant MAC of the length the specification expects in the signed modes, the MAC `finish`
    returns has the expected length in every mode (none in `Unsigned` mode) -/
theorem finish_macLen (mac0 : List UInt8) (s : State) (ts : Tsig) (hts : s.tsig = some ts) (m : Bytes)
    (mc : Option (List UInt8)) (hf : finish s (fun _ _ => mac0) = .ok (m, mc))
    (hsz : isUnsigned ts.mode = false → mac0.length = (toATsig ts).macLen) :
    (mc.getD []).length = (toATsig ts).macLen := by
  obtain ⟨h1, h2⟩ := finish_mac_shape _ _ ts hts m mc hf
  cases hu : isUnsigned ts.mode with
  | true =>
    rw [h1 hu]
    cases hm : ts.mode with
    | unsigned n => simp [toATsig, hm, Message.ATsig.macLen]
    | request a k | response a x k | subsequent a x k => rw [hm] at hu; cases hu
  | false =>
    obtain ⟨msg, hmc⟩ := h2 hu
    rw [hmc]
    exact hsz hu

end QV.Writer
