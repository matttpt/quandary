/-
  QV.Proofs.WriterInv — a successful run of `write_uncompressed_name`, `add_rr` and the body of
  `add_question`, read backwards, for every state: the intermediate states and the equations between
  them, each stated once, as equivalences (so that "there is room, hence it succeeds and leaves …"
  is the other direction). No invariant is assumed; what the name writer did stays an equation
  (`writeHintedName … = (.ok p, sB)`), to be read through `NameSpec` where the state is valid, or off
  the buffer where it is not.
-/
import QV.Proofs.WriterBase

namespace QV.Writer
open QV QV.Wire

/-- a name written without compression: its wire form is pushed and its label starts recorded -/
theorem writeUncompressedName_eq_ok {n : WName} {s s' : State} {p : Option Prior} :
    writeUncompressedName n s = (.ok p, s') ↔
      s.cursor + n.wire.length ≤ s.available ∧ s.cursor + n.wire.length ≤ s.octets.size ∧
      p = (hintPointerNew s.cursor).map (fun q => ⟨q, n.len⟩) ∧
      s' = { pushed s n.wire with gLabels :=
              [s.cursor + (n.labels.flatMap WName.encLabel).length] ++ (labelStartsFrom s.cursor n.labels).reverse ++
                s.gLabels } := by
  unfold writeUncompressedName
  rw [M.gets_bind]
  constructor
  · intro h
    obtain ⟨_, s1, h1, h⟩ := M.bind_eq_ok.mp h
    obtain ⟨a1, z1, rfl⟩ := tryPush_eq_ok.mp h1
    obtain ⟨_, s2, h2, h⟩ := M.bind_eq_ok.mp h
    cases h2; cases h
    exact ⟨a1, z1, rfl, by simp only [pushed, List.append_assoc, if_true]⟩
  · rintro ⟨a1, z1, rfl, rfl⟩
    refine M.bind_eq_ok.mpr ⟨(), _, tryPush_eq_ok.mpr ⟨a1, z1, rfl⟩, M.bind_eq_ok.mpr ⟨(), _, rfl, ?_⟩⟩
    simp only [pushed, List.append_assoc, if_true, M.pure_apply]

/-- a compression pointer pushed: its two octets, and the event logged -/
theorem pushPointer_eq_ok {pp : Nat} {s s' : State} {u : Unit} :
    pushPointer pp s = (.ok u, s') ↔
      s.cursor + 2 ≤ s.available ∧ s.cursor + 2 ≤ s.octets.size ∧
      s' = { pushed s (u16be (49152 + pp)) with gPtrs := ⟨s.cursor, pp, s.gCtx, s.mode⟩ :: s.gPtrs } := by
  unfold pushPointer tryPushU16
  rw [M.gets_bind, M.bind_eq_ok]
  simp only [tryPush_eq_ok, M.modify_apply, Prod.mk.injEq, true_and]
  constructor
  · rintro ⟨_, _, ⟨h1, h2, rfl⟩, rfl⟩
    exact ⟨h1, h2, rfl⟩
  · rintro ⟨h1, h2, rfl⟩
    exact ⟨(), _, ⟨h1, h2, rfl⟩, rfl⟩

/-- a name of at most two octets (the root, in practice) and every name in `Disabled` mode is
    written without compression, whatever the hint -/
theorem writeHintedName_literal (hint : Hint) (n : WName) (s : State)
    (h : s.mode = .disabled ∨ n.wire.length ≤ 2) : writeHintedName hint n s = writeUncompressedName n s := by
  unfold writeHintedName
  rw [M.gets_bind, if_pos h]

/-- TYPE, CLASS and TTL of a record -/
@[irreducible] def fixedFields (ty cls ttl : Nat) : List UInt8 := u16be ty ++ u16be cls ++ u32be ttl

theorem fixedFields_eq (ty cls ttl : Nat) : fixedFields ty cls ttl = u16be ty ++ u16be cls ++ u32be ttl := by
  unfold fixedFields; rfl

theorem fixedFields_length (ty cls ttl : Nat) : (fixedFields ty cls ttl).length = 8 := by
  rw [fixedFields_eq]; rfl

/-- the state in which the component loop of `add_rr` starts: the owner was written up to `sB` and
    returned the anchor `p`; the fixed fields are pushed and two octets are left for RDLENGTH -/
def rdStart (sB : State) (p : Option Prior) (ty cls ttl : Nat) : State :=
  { pushed { sB with gCtx := .none, mostRecentOwner := p } (fixedFields ty cls ttl) with
    cursor := sB.cursor + 10 }

theorem rdStart_octets (sB : State) (p : Option Prior) (ty cls ttl : Nat) :
    (rdStart sB p ty cls ttl).octets = writeAt sB.octets sB.cursor (fixedFields ty cls ttl) := rfl

theorem rdStart_cursor (sB : State) (p : Option Prior) (ty cls ttl : Nat) :
    (rdStart sB p ty cls ttl).cursor = sB.cursor + 10 := rfl

theorem rdStart_eq (sB : State) (p : Option Prior) (ty cls ttl : Nat) {s4 : State}
    (e : s4 = pushed { sB with gCtx := .none, mostRecentOwner := p } (fixedFields ty cls ttl)) :
    rdStart sB p ty cls ttl = { s4 with cursor := s4.cursor + 2 } := by
  subst e; unfold rdStart; rw [pushed_cursor, fixedFields_length]

/-- **`add_rr` read backwards.** -/
theorem addRr_eq_ok {hint : Hint} {owner : WName} {ty cls ttl : Nat} {rd : List UInt8} {s s' : State} {u : Unit} :
    addRr hint owner ty cls ttl rd s = (.ok u, s') ↔
    ∃ p sB sR, writeHintedName hint owner { s with gCtx := .owner } = (.ok p, sB) ∧
      sB.cursor + 10 ≤ sB.available ∧ sB.cursor + 8 ≤ sB.octets.size ∧
      writeRdata cls ty rd (rdStart sB p ty cls ttl) = (.ok (), sR) ∧ sB.cursor + 10 ≤ sR.cursor ∧
      sB.cursor + 10 ≤ sR.octets.size ∧
      s' = { sR with octets := writeAt sR.octets (sB.cursor + 8)
                              (u16be ((sR.cursor - (sB.cursor + 10)) % 65536)) } := by
  have hl : ∀ x, (u16be x).length = 2 := fun _ => rfl
  have hl8 := fixedFields_length ty cls ttl
  unfold addRr tryPushU16 tryPushU32
  constructor
  · intro h
    obtain ⟨_, sA, hA, h⟩ := M.bind_eq_ok.mp h
    obtain rfl : sA = { s with gCtx := .owner } := by cases hA; rfl
    obtain ⟨p, sB, hB, h⟩ := M.bind_eq_ok.mp h
    obtain ⟨_, sC, hC, h⟩ := M.bind_eq_ok.mp h
    obtain rfl : sC = { sB with gCtx := .none } := by cases hC; rfl
    obtain ⟨_, sD, hD, h⟩ := M.bind_eq_ok.mp h
    obtain rfl : sD = { sB with gCtx := .none, mostRecentOwner := p } := by cases hD; rfl
    rw [tryPush_tryPush_ok, tryPush_tryPush_ok] at h
    obtain ⟨_, s4, h4, h⟩ := M.bind_eq_ok.mp h
    rw [← fixedFields_eq] at h4
    obtain ⟨a4, z4, e4⟩ := tryPush_eq_ok.mp h4
    rw [hl8] at a4 z4
    change sB.cursor + 8 ≤ sB.available at a4
    change sB.cursor + 8 ≤ sB.octets.size at z4
    have c4 : s4.cursor = sB.cursor + 8 := by rw [e4, pushed_cursor, hl8]
    have v4 : s4.available = sB.available := by rw [e4, pushed_available]
    rw [M.gets_bind, M.gets_bind] at h
    by_cases g1 : s4.available < s4.cursor
    · rw [if_pos g1] at h; cases h
    by_cases g2 : s4.available - s4.cursor < 2
    · rw [if_neg g1, if_pos g2] at h; cases h
    rw [if_neg g1, if_neg g2] at h
    obtain ⟨_, s7, h7, h⟩ := M.bind_eq_ok.mp h
    obtain rfl : s7 = { s4 with cursor := s4.cursor + 2 } := by cases h7; rfl
    obtain ⟨_, sR, hR, h⟩ := M.bind_eq_ok.mp h
    rw [M.gets_bind] at h
    by_cases hc : sR.cursor < s4.cursor + 2
    · rw [if_pos hc] at h; cases h
    rw [if_neg hc] at h
    obtain ⟨hz, rfl⟩ := write_eq_ok.mp h
    have := hl ((sR.cursor - s4.cursor - 2) % 65536)
    refine ⟨p, sB, sR, hB, by omega, by omega, ?_, by omega, by omega, ?_⟩
    · rw [rdStart_eq _ _ _ _ _ e4]; exact hR
    · rw [c4, show sR.cursor - (sB.cursor + 8) - 2 = sR.cursor - (sB.cursor + 10) by omega]
  · rintro ⟨p, sB, sR, hB, a4, z4, hR, hc, hz, rfl⟩
    generalize e4 : pushed { sB with gCtx := NameCtx.none, mostRecentOwner := p } (fixedFields ty cls ttl) = s4
    have c4 : s4.cursor = sB.cursor + 8 := by rw [← e4, pushed_cursor, hl8]
    have v4 : s4.available = sB.available := by rw [← e4, pushed_available]
    refine M.bind_eq_ok.mpr ⟨(), _, rfl, M.bind_eq_ok.mpr ⟨p, sB, hB, M.bind_eq_ok.mpr ⟨(), _, rfl,
      M.bind_eq_ok.mpr ⟨(), _, rfl, ?_⟩⟩⟩⟩
    rw [tryPush_tryPush_ok, tryPush_tryPush_ok, ← fixedFields_eq]
    refine M.bind_eq_ok.mpr ⟨(), s4, tryPush_eq_ok.mpr ⟨?_, ?_, e4.symm⟩, ?_⟩
    · show sB.cursor + (fixedFields ty cls ttl).length ≤ sB.available; rw [hl8]; omega
    · show sB.cursor + (fixedFields ty cls ttl).length ≤ sB.octets.size; rw [hl8]; omega
    rw [M.gets_bind, M.gets_bind, if_neg (by omega), if_neg (by omega)]
    refine M.bind_eq_ok.mpr ⟨(), { s4 with cursor := s4.cursor + 2 }, rfl, M.bind_eq_ok.mpr ⟨(), sR, ?_, ?_⟩⟩
    · rw [← rdStart_eq _ _ _ _ _ e4.symm]; exact hR
    rw [M.gets_bind, if_neg (by omega)]
    have := hl ((sR.cursor - s4.cursor - 2) % 65536)
    refine write_eq_ok.mpr ⟨by omega, ?_⟩
    rw [c4, show sR.cursor - (sB.cursor + 8) - 2 = sR.cursor - (sB.cursor + 10) by omega]

/-- the component loop of a type without components: nothing, or one push of the RDATA -/
theorem writeRdata_nil_eq_ok {cls ty : Nat} {rd : List UInt8} (hty : componentTypes cls ty = some [])
    {s s' : State} {u : Unit} :
    writeRdata cls ty rd s = (.ok u, s') ↔
      (rd = [] ∧ s' = s) ∨ (rd ≠ [] ∧ s.cursor + rd.length ≤ s.available ∧ s.cursor + rd.length ≤ s.octets.size ∧
        s' = pushed s rd) := by
  unfold writeRdata
  rw [hty]
  unfold writeComponents
  cases rd with
  | nil => simp [eq_comm]
  | cons b r => simp [tryPush_eq_ok]

/-- the state in which QTYPE and QCLASS are pushed: the QNAME was written up to `sB` and returned
    the anchor `p`, which becomes the QNAME anchor of the first question -/
def qStart (sB : State) (p : Option Prior) : State :=
  (fun s : State => if s.qdcount = 0 then { s with qname := p } else s) { sB with gCtx := .none }

theorem qStart_fields (sB : State) (p : Option Prior) :
    (qStart sB p).octets = sB.octets ∧ (qStart sB p).cursor = sB.cursor ∧ (qStart sB p).gLabels = sB.gLabels ∧
    (qStart sB p).available = sB.available ∧ (qStart sB p).gPtrs = sB.gPtrs ∧
    (qStart sB p).mostRecentOwner = sB.mostRecentOwner ∧
    (qStart sB p).mostRecentNameInRdata = sB.mostRecentNameInRdata := by
  unfold qStart; dsimp only; split <;> exact ⟨rfl, rfl, rfl, rfl, rfl, rfl, rfl⟩

/-- **the body of `add_question` read backwards.** -/
theorem addQuestionBody_eq_ok {qn : WName} {qt qc : Nat} {s s' : State} {u : Unit} :
    addQuestionBody qn qt qc s = (.ok u, s') ↔
    ∃ p sB, writeUnhintedName qn { s with gCtx := .qname } = (.ok p, sB) ∧
      sB.cursor + 4 ≤ sB.available ∧ sB.cursor + 4 ≤ sB.octets.size ∧
      s' = pushed (qStart sB p) (u16be qt ++ u16be qc) := by
  unfold addQuestionBody tryPushU16
  have hl : (u16be qt ++ u16be qc).length = 4 := rfl
  have c := fun sB p => (qStart_fields sB p).2.1
  have v := fun sB p => (qStart_fields sB p).2.2.2.1
  constructor
  · intro h
    obtain ⟨_, sA, hA, h⟩ := M.bind_eq_ok.mp h
    obtain rfl : sA = { s with gCtx := .qname } := by cases hA; rfl
    obtain ⟨p, sB, hB, h⟩ := M.bind_eq_ok.mp h
    obtain ⟨_, sC, hC, h⟩ := M.bind_eq_ok.mp h
    obtain rfl : sC = { sB with gCtx := .none } := by cases hC; rfl
    obtain ⟨_, sD, hD, h⟩ := M.bind_eq_ok.mp h
    obtain rfl : sD = qStart sB p := by cases hD; rfl
    obtain ⟨a4, z4, rfl⟩ := tryPush_eq_ok.mp (tryPush_append_ok.mp h)
    rw [hl] at a4 z4
    exact ⟨p, sB, hB, by have := c sB p; have := v sB p; omega,
      by have := c sB p; have := (qStart_fields sB p).1; rw [this] at z4; omega, rfl⟩
  · rintro ⟨p, sB, hB, a4, z4, rfl⟩
    refine M.bind_eq_ok.mpr ⟨(), _, rfl, M.bind_eq_ok.mpr ⟨p, sB, hB, M.bind_eq_ok.mpr ⟨(), { sB with gCtx := .none }, rfl,
      M.bind_eq_ok.mpr ⟨(), qStart sB p, rfl, ?_⟩⟩⟩⟩
    exact tryPush_append_ok.mpr (tryPush_eq_ok.mpr ⟨by rw [hl, c, v]; exact a4,
      by rw [hl, c, (qStart_fields sB p).1]; exact z4, rfl⟩)

end QV.Writer
