/-
  QV.Proofs.ServerAnswerFields — the answering phase does not look at the writer's `limit`, its TSIG
  slot, or (except for the overflow check of the additional count) ARCOUNT: running any of its writer
  operations on a state with these three fields changed (`modS`: another limit, another TSIG slot,
  ARCOUNT + 1 — what `set_tsig` does besides reserving room) gives the same outcome and the same state
  with the same change — for every outcome, errors and panics included.  Together with the room
  simulation of Proofs/ServerAnswerLimit.lean this relates the run of `handle_non_axfr_query` for a
  TSIG-signed request to the run for the same request without its TSIG record (C10, row 3).
-/
import QV.Proofs.ServerAnswerLimit

namespace QV.ServerAnswer
open QV QV.Writer QV.Server

/-- the fields `set_tsig` changes besides `available` (and the limit, which C04 varies) -/
def modS (L : Nat) (T : Option Writer.Tsig) (s : State) : State :=
  { s with limit := L, tsig := T, arcount := s.arcount + 1 }

/-- `f` commutes with `modS`, whatever the outcome -/
def Com {α} (f : M α) : Prop := ∀ L T s, f (modS L T s) = ((f s).1, modS L T (f s).2)

/-- commutation with `modS` is the footprint between two rooms with the same octets available: there the
    runs can only agree -/
theorem Foot.com {α} {f : M α} (h : Foot Room.put f) : Com f := by
  intro L T s
  rcases h.two s ⟨L, s.available, T, s.arcount + 1⟩ ⟨s.limit, s.available, s.tsig, s.arcount⟩ (Nat.le_refl _) with
    ⟨o, u, h2, h1⟩ | ⟨_, hlt, _⟩
  · have e2 : f s = (o, Room.put ⟨s.limit, s.available, s.tsig, s.arcount⟩ u) := h2
    have e1 : f (modS L T s) = (o, Room.put ⟨L, s.available, T, s.arcount + 1⟩ u) := h1
    rw [e1, e2]; rfl
  · exact absurd hlt (Nat.lt_irrefl _)

theorem com_changeSection (sec : RrSection) : Com (changeSection sec) := by
  intro L T s
  unfold changeSection
  have hs : (modS L T s).sect = s.sect := rfl
  rw [hs]
  cases sec <;> cases hsec : s.sect <;> simp only [hsec] <;> rfl

/-! ### `add_*_rr(set)`: the additional count is the one thing that is looked at -/

/-- 1 for the additional section -/
def addOne : RrSection → Nat
  | .additional => 1
  | _ => 0

theorem getCount_modS (sec : RrSection) (L : Nat) (T : Option Writer.Tsig) (s : State) :
    getCount sec (modS L T s) = getCount sec s + addOne sec := by
  cases sec <;> rfl

theorem setCount_modS (sec : RrSection) (n : Nat) (L : Nat) (T : Option Writer.Tsig) (s : State) :
    (setCount sec (n + addOne sec) (modS L T s)) =
      (.ok (), modS L T (setCount sec n s).2) := by
  cases sec <;> rfl

theorem restore_modS (L : Nat) (T : Option Writer.Tsig) (s s' : State) :
    restore (modS L T s) (modS L T s') = modS L T (restore s s') := rfl

/-- commutation at one state, given that the additional count stays below its maximum -/
theorem recOp_modS {α} (sec : RrSection) {body : M α} (cnt : α → Nat) (hb : Com body)
    (L : Nat) (T : Option Writer.Tsig) (s : State) (h : (recOp sec body cnt s).2.arcount + 1 ≤ 65535) :
    recOp sec body cnt (modS L T s) = ((recOp sec body cnt s).1, modS L T (recOp sec body cnt s).2) := by
  unfold recOp at h ⊢
  rw [withRollback_apply] at h ⊢
  rw [withRollback_apply]
  simp only [M.bind_apply] at h ⊢
  have hcm := com_changeSection sec L T s
  rcases hcs : changeSection sec s with ⟨(u | e | _), s0⟩
  · rw [hcs] at h hcm
    rw [hcm]
    simp only at h ⊢
    have hcr := hb L T s0
    rcases hrs : body s0 with ⟨(a | e | _), s1⟩
    · rw [hrs] at hcr h
      rw [hcr]
      simp only [M.gets_apply] at h ⊢
      rw [getCount_modS]
      by_cases h1 : cnt a > 65535
      · simp only [h1, if_true]; rfl
      · simp only [h1, if_false] at h ⊢
        by_cases h2 : getCount sec s1 + cnt a > 65535
        · have : getCount sec s1 + addOne sec + cnt a > 65535 := by omega
          simp only [h2, this, if_true]; rfl
        · simp only [h2, if_false] at h
          have hfin : (setCount sec (getCount sec s1 + cnt a) s1).2.arcount + 1 ≤ 65535 := h
          -- only the additional count is raised by `modS`, and that one leaves room for one more
          have h3 : ¬ getCount sec s1 + addOne sec + cnt a > 65535 := by
            cases sec
            · simp only [addOne]; omega
            · simp only [addOne]; omega
            · simp only [setCount, M.modify_apply, getCount, addOne] at hfin ⊢; omega
          simp only [h2, h3, if_false]
          have e : getCount sec s1 + addOne sec + cnt a = getCount sec s1 + cnt a + addOne sec := by omega
          rw [e, setCount_modS]
          rfl
    · rw [hrs] at hcr
      rw [hcr]; rfl
    · rw [hrs] at hcr
      rw [hcr]
  · rw [hcs] at hcm
    rw [hcm]; rfl
  · rw [hcs] at hcm
    rw [hcm]

theorem addRrsetOp_modS (sec : RrSection) (hint : Hint) (owner : WName) (ty cls ttl : Nat)
    (rds : List (List UInt8)) (L : Nat) (T : Option Writer.Tsig) (s : State)
    (h : (addRrsetOp sec hint owner ty cls ttl rds s).2.arcount + 1 ≤ 65535) :
    addRrsetOp sec hint owner ty cls ttl rds (modS L T s) =
      ((addRrsetOp sec hint owner ty cls ttl rds s).1, modS L T (addRrsetOp sec hint owner ty cls ttl rds s).2) :=
  recOp_modS sec id (Routine.addRrset owner ty cls (ttlFrom ttl) rds hint 0).foot.com L T s h

theorem addRrOp_modS (sec : RrSection) (hint : Hint) (owner : WName) (ty cls ttl : Nat)
    (rd : List UInt8) (L : Nat) (T : Option Writer.Tsig) (s : State)
    (h : (addRrOp sec hint owner ty cls ttl rd s).2.arcount + 1 ≤ 65535) :
    addRrOp sec hint owner ty cls ttl rd (modS L T s) =
      ((addRrOp sec hint owner ty cls ttl rd s).1, modS L T (addRrOp sec hint owner ty cls ttl rd s).2) :=
  recOp_modS sec (fun _ => 1) (Routine.addRr hint owner ty cls (ttlFrom ttl) rd).foot.com L T s h

/-! ### the calls of the answer phase, and runs that log only accepted calls -/

theorem ansCall_modS (c : AnsCall) (L : Nat) (T : Option Writer.Tsig) (s : State)
    (h : (c.run s).2.arcount + 1 ≤ 65535) : c.run (modS L T s) = ((c.run s).1, modS L T (c.run s).2) := by
  cases c with
  | setAa b => exact (show Com (setBit Gen.AA_BYTE Gen.AA_MASK b) from by unfold setBit; exact (foot_setHdr _ _).com) L T s
  | setRcode v => exact (foot_setRcode v).com L T s
  | addRr sec hh o ty cls ttl rd => exact addRrOp_modS sec hh o ty cls ttl rd L T s h
  | addRrset sec hh o ty cls ttl rds => exact addRrsetOp_modS sec hh o ty cls ttl rds L T s h

/-- less room, another TSIG slot and ARCOUNT + 1: `s'` is `s` with limit `L` and slot `T` seen with `R`
    octets less, and has `K` octets available (`Prog.twoPAt` lifts it through the answer phase) -/
theorem callTwo_twin (L : Nat) (T : Option Writer.Tsig) (R K : Nat) :
    CallTwo (fun s s' => lift R s' = modS L T s ∧ s'.available = K) K 65534 where
  call := fun c s s' t ⟨e, hk⟩ hrun hc hn => by
    have hm := ansCall_modS c L T s (by rw [hrun]; show t.arcount + 1 ≤ 65535; omega)
    rw [hrun, ← e] at hm
    obtain ⟨t', ht', e'⟩ := sim_ansCall c R s' () _ hm (by rw [hk]; exact hc)
    have := (growsM_ansCall c s').2.1
    rw [ht'] at this
    exact ⟨t', ht', e'.symm, by rw [this, hk]⟩
  hv := fun s s' x ⟨e, hk⟩ => ⟨congrArg (fun u : State => { u with hv := x }) e, hk⟩
  hvEq := fun s s' ⟨e, _⟩ => (congrArg State.hv e : (lift R s').hv = (modS L T s).hv)

end QV.ServerAnswer
