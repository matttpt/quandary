/-
  QV.Proofs.Include — the include-stack machine (`QV.Model.Include`) refines the recursive
  include semantics (`QV.Spec.Include`).
-/
import QV.Model.Include
import QV.Spec.Include
import QV.Proofs.ZoneFile.Parser

namespace QV.Inc
open QV QV.ZF QV.Spec.Inc

/-! ### the termination measure -/

theorem pow_pos' {B : Nat} (hB : 2 ≤ B) (e : Nat) : 0 < B ^ e := Nat.pow_pos (by omega)

theorem mu_pos {B D : Nat} (hB : 2 ≤ B) (f : Frame) (rest : List Frame) : 0 < mu B D (f :: rest) := by
  unfold mu
  have := pow_pos' hB (D - rest.length)
  have : 0 < (f.parser.st.inp.length + 1) * B ^ (D - rest.length) := Nat.mul_pos (by omega) this
  omega

/-- the top frame consumed input -/
theorem mu_top_lt {B D : Nat} (hB : 2 ≤ B) {f f' : Frame} (rest : List Frame)
    (h : f'.parser.st.inp.length < f.parser.st.inp.length) : mu B D (f' :: rest) < mu B D (f :: rest) := by
  unfold mu
  have hX := pow_pos' hB (D - rest.length)
  have : (f'.parser.st.inp.length + 1) * B ^ (D - rest.length) < (f.parser.st.inp.length + 1) * B ^ (D - rest.length) :=
    Nat.mul_lt_mul_of_lt_of_le (by omega) (Nat.le_refl _) hX
  omega

/-- the measure only looks at the remaining input of each frame -/
theorem mu_congr_head {B D : Nat} {f f' : Frame} (rest : List Frame)
    (h : f'.parser.st.inp.length = f.parser.st.inp.length) : mu B D (f' :: rest) = mu B D (f :: rest) := by
  unfold mu; rw [h]

/-- popping the finished top frame -/
theorem mu_pop_lt {B D : Nat} (hB : 2 ≤ B) (top prev prev' : Frame) (rest : List Frame)
    (h : prev'.parser.st.inp.length = prev.parser.st.inp.length) :
    mu B D (prev' :: rest) < mu B D (top :: prev :: rest) := by
  rw [mu_congr_head rest h]
  conv => rhs; unfold mu
  have hX := pow_pos' hB (D - (prev :: rest).length)
  have : 0 < (top.parser.st.inp.length + 1) * B ^ (D - (prev :: rest).length) := Nat.mul_pos (by omega) hX
  omega

/-- pushing an included file one level deeper, after the includer consumed the directive -/
theorem mu_push_lt {B D : Nat} (hB : 2 ≤ B) (child top top' : Frame) (rest : List Frame)
    (hdepth : rest.length < D) (hchild : child.parser.st.inp.length + 2 ≤ B)
    (htop : top'.parser.st.inp.length < top.parser.st.inp.length) :
    mu B D (child :: top' :: rest) < mu B D (top :: rest) := by
  unfold mu
  conv => lhs; arg 2; unfold mu
  have he : D - rest.length = (D - (rest.length + 1)) + 1 := by omega
  simp only [List.length_cons]
  rw [he, Nat.pow_succ]
  have hX := pow_pos' hB (D - (rest.length + 1))
  generalize B ^ (D - (rest.length + 1)) = X at *
  -- (c+1)·X + (r'+1)·(X·B) < (r+1)·(X·B)
  have h1 : (child.parser.st.inp.length + 1) * X < X * B := by
    rw [Nat.mul_comm X B]
    exact Nat.mul_lt_mul_of_lt_of_le (by omega) (Nat.le_refl _) hX
  have h2 : (top'.parser.st.inp.length + 1) * (X * B) ≤ top.parser.st.inp.length * (X * B) :=
    Nat.mul_le_mul_right _ (by omega)
  have h3 : (top.parser.st.inp.length + 1) * (X * B) = top.parser.st.inp.length * (X * B) + X * B := by
    rw [Nat.add_mul]; simp
  omega

/-! ### unfolding the run -/

theorem runFs_done {res : Resolver} {B : Nat} {m m' : FsParser} (h : step res m = .done m') :
    runFs res B m = [] := by
  rw [runFs, h]

theorem runFs_yield {res : Resolver} {B : Nat} {m m' : FsParser} {y : FsYield}
    (h : step res m = .yield y m') (hlt : mu B m'.maxDepth m'.files < mu B m.maxDepth m.files) :
    runFs res B m = y :: runFs res B m' := by
  rw [runFs, h]; simp [hlt]

theorem runFs_again {res : Resolver} {B : Nat} {m m' : FsParser}
    (h : step res m = .again m') (hlt : mu B m'.maxDepth m'.files < mu B m.maxDepth m.files) :
    runFs res B m = runFs res B m' := by
  rw [runFs, h]; simp [hlt]

theorem runFs_empty (res : Resolver) (B D : Nat) : runFs res B ⟨[], D⟩ = [] :=
  runFs_done (m' := ⟨[], D⟩) (by simp [step])

/-! ### the recursive semantics: contexts stay well-formed, nothing gets stuck -/

theorem childCtx_WF {ctx : Ctx} (hp' : CtxWF ctx) {origin : Option (List UInt8)}
    (ho : ∀ o, origin = some o → NameWF o) : CtxWF (childContext ctx origin) := by
  unfold childContext
  cases origin with
  | none => exact hp'
  | some o => exact ⟨fun x hx => by simp at hx; subst hx; exact ho _ rfl, hp'.2⟩

theorem newForInclude_eq (p : Parser) (content : List UInt8) (origin : Option (List UInt8)) :
    p.newForInclude content origin = Parser.withContext content (childContext p.ctx origin) := by
  unfold Parser.newForInclude childContext
  cases origin <;> rfl

/-- `next_spec` for a call whose result is known -/
theorem next_spec_of {p : Parser} (hp : CtxWF p.ctx) {r : Option Yield × Parser} (hn : p.next = r) : NextOK p r :=
  hn ▸ next_spec hp

/-- a report of the recursive semantics that is neither a panic nor the `Stuck` marker -/
def SYClean {κ : Type} : SY κ → Prop
  | .panic => False
  | .err _ .Stuck _ => False
  | _ => True

/-- reading a tree from a well-formed context reports neither a panic nor `Stuck`, and the context in which
    a file ends is well formed -/
theorem readFile_wf {κ : Type} (resolve : κ → List UInt8 → Option (κ × List UInt8)) (D : Nat)
    (file : κ) (depth : Nat) (p : Parser) (hp : CtxWF p.ctx) :
    (∀ y ∈ (readFile resolve D file depth p).1, SYClean y) ∧
      ∀ c, (readFile resolve D file depth p).2 = some c → CtxWF c := by
  fun_induction readFile resolve D file depth p
  case case1 file depth p p' hn => exact ⟨by simp, fun c hc => by cases hc; exact next_spec_of hp hn⟩
  case case2 => exact ⟨by simp [SYClean], by simp⟩
  case case3 file depth p p' hn => exact absurd (next_spec_of hp hn) (by simp [NextOK])
  case case4 file depth p line r p' hn hlt rest ih =>
    obtain ⟨i1, i2⟩ := ih (next_spec_of hp hn).2.1
    exact ⟨by simpa [SYClean] using i1, i2⟩
  case case5 file depth p line r p' hn hnlt => exact absurd (next_spec_of hp hn).2.2 hnlt
  case case6 => exact ⟨by simp [SYClean], by simp⟩
  case case7 => exact ⟨by simp [SYClean], by simp⟩
  case case8 file depth p line path origin p' hn hd child content hr childCtx ys hchild ih =>
    have g := next_spec_of hp hn
    have := ih (childCtx_WF g.2.1 g.1)
    rw [hchild] at this
    exact ⟨this.1, by simp⟩
  case case9 file depth p line path origin p' hn hd child content hr childCtx ys c hchild hlt rest ih2 ih1 =>
    have g := next_spec_of hp hn
    have h2 := ih2 (childCtx_WF g.2.1 g.1)
    rw [hchild] at h2
    -- the includer goes on with the included file's final context and its own origin
    obtain ⟨j1, j2⟩ := ih1 ⟨g.2.1.1, (h2.2 c rfl).2⟩
    exact ⟨fun y hy => (List.mem_append.mp hy).elim (h2.1 y) (j1 y), j2⟩
  case case10 file depth p line path origin p' hn hd child content hr childCtx ys c hchild hnlt ih =>
    exact absurd (next_spec_of hp hn).2.2 hnlt

/-! ### refinement -/

/-- the machine's resolver as the specification's `resolve` -/
def resolveOf (res : Resolver) : Path → List UInt8 → Option (Path × List UInt8) := fun a b =>
  match res a b with
  | .opened p c => some (p, c)
  | _ => none

/-- reports of the specification as items of `fs::Parser` -/
def conv : SY Path → FsYield
  | .record f l r => .record f l r
  | .err f (.Syntax k) l => .err f (.Syntax k) l
  | .err f .IncludesTooDeep l => .err f .IncludesTooDeep l
  | .err f .FailedToOpenInclude l => .err f .FailedToOpenInclude l
  | .err f .Stuck l => .err f .ModelStuck l
  | .panic => .panic

/-- what the machine does once the top file is finished with final context `c`: the includer
    continues with that context except for its own origin -/
def contRun (res : Resolver) (B D : Nat) (rest : List Frame) (c : Option Ctx) : List FsYield :=
  match c, rest with
  | some c, prev :: rest' =>
    runFs res B ⟨{ prev with parser := { prev.parser with ctx := { c with origin := prev.parser.ctx.origin } } } :: rest', D⟩
  | _, _ => []

/-! one pass of `next`, by what the top parser returns -/

theorem step_eof_last {res : Resolver} {top : Frame} {D : Nat} {p' : Parser}
    (hn : top.parser.next = (none, p')) : step res ⟨[top], D⟩ = .done ⟨[], D⟩ := by
  simp [step, hn]

theorem step_eof_pop {res : Resolver} {top prev : Frame} {rest : List Frame} {D : Nat} {p' : Parser}
    (hn : top.parser.next = (none, p')) :
    step res ⟨top :: prev :: rest, D⟩ =
      .again ⟨{ prev with parser := prev.parser.updateContextFromInclude p' } :: rest, D⟩ := by
  simp [step, hn]

theorem step_err {res : Resolver} {top : Frame} {rest : List Frame} {D : Nat} {e : Err} {p' : Parser}
    (hn : top.parser.next = (some (.err e), p')) :
    step res ⟨top :: rest, D⟩ = .yield (.err top.path (.Syntax e.kind) e.line) ⟨[], D⟩ := by
  simp [step, hn]

theorem step_record {res : Resolver} {top : Frame} {rest : List Frame} {D : Nat} {line : Nat} {r : Rec}
    {p' : Parser} (hn : top.parser.next = (some (.item (.record line r)), p')) :
    step res ⟨top :: rest, D⟩ = .yield (.record top.path line r) ⟨{ top with parser := p' } :: rest, D⟩ := by
  simp [step, hn]

theorem step_too_deep {res : Resolver} {top : Frame} {rest : List Frame} {D : Nat} {line : Nat}
    {path : List UInt8} {origin : Option (List UInt8)} {p' : Parser}
    (hn : top.parser.next = (some (.item (.incl line path origin)), p')) (hd : rest.length ≥ D) :
    step res ⟨top :: rest, D⟩ = .yield (.err top.path .IncludesTooDeep line) ⟨[], D⟩ := by
  simp [step, hn, hd]

theorem step_open_failed {res : Resolver} {top : Frame} {rest : List Frame} {D : Nat} {line : Nat}
    {path : List UInt8} {origin : Option (List UInt8)} {p' : Parser}
    (hn : top.parser.next = (some (.item (.incl line path origin)), p')) (hd : ¬ rest.length ≥ D)
    (hr : res top.path path = .failed) :
    step res ⟨top :: rest, D⟩ = .yield (.err top.path .FailedToOpenInclude line) ⟨[], D⟩ := by
  simp [step, hn, hr]; omega

theorem step_push {res : Resolver} {top : Frame} {rest : List Frame} {D : Nat} {line : Nat}
    {path : List UInt8} {origin : Option (List UInt8)} {p' : Parser} {np content : List UInt8}
    (hn : top.parser.next = (some (.item (.incl line path origin)), p')) (hd : ¬ rest.length ≥ D)
    (hr : res top.path path = .opened np content) :
    step res ⟨top :: rest, D⟩ =
      .again ⟨⟨np, line, p'.newForInclude content origin⟩ :: { top with parser := p' } :: rest, D⟩ := by
  simp [step, hn, hr]; omega

theorem mu_clear {B D : Nat} (hB : 2 ≤ B) (f : Frame) (rest : List Frame) :
    mu B D [] < mu B D (f :: rest) := by
  have := mu_pos (D := D) hB f rest
  simpa [mu] using this

theorem resolveOf_none {res : Resolver} (hnp : ∀ a b, res a b ≠ .noParent) {a b : List UInt8}
    (h : resolveOf res a b = none) : res a b = .failed := by
  unfold resolveOf at h
  cases hr : res a b with
  | opened x y => simp [hr] at h
  | failed => rfl
  | noParent => exact absurd hr (hnp _ _)

theorem resolveOf_some {res : Resolver} {a b child content : List UInt8}
    (h : resolveOf res a b = some (child, content)) : res a b = .opened child content := by
  unfold resolveOf at h
  cases hr : res a b with
  | opened x y => simp [hr] at h; rw [h.1, h.2]
  | failed => simp [hr] at h
  | noParent => simp [hr] at h

/-- **The include-stack machine refines the recursive semantics.**  Started on a stack whose top
    frame reads `file` at nesting depth `depth` (= number of frames below it), the machine yields
    what reading `file` recursively reports, and then goes on with the frames below exactly as
    if the file's final context had been handed to the includer (origin excepted). -/
theorem runFs_refines (res : Resolver) (B D : Nat) (hB : 2 ≤ B)
    (hsize : ∀ a b p c, res a b = .opened p c → c.length + 2 ≤ B)
    (hnp : ∀ a b, res a b ≠ .noParent)
    (file : Path) (depth : Nat) (p : Parser) (hp : CtxWF p.ctx) :
    ∀ (incFrom : Nat) (rest : List Frame), rest.length = depth →
    runFs res B ⟨⟨file, incFrom, p⟩ :: rest, D⟩ =
      (readFile (resolveOf res) D file depth p).1.map conv ++
        contRun res B D rest (readFile (resolveOf res) D file depth p).2 := by
  fun_induction readFile (resolveOf res) D file depth p
  case case1 file depth p p' hn =>
    intro incFrom rest hrest
    cases rest with
    | nil =>
      simp only [List.map_nil, List.nil_append, contRun]
      exact runFs_done (step_eof_last (top := ⟨file, incFrom, p⟩) hn)
    | cons prev rest' =>
      simp only [List.map_nil, List.nil_append, contRun]
      have hs := step_eof_pop (res := res) (top := ⟨file, incFrom, p⟩) (prev := prev) (rest := rest') (D := D) hn
      rw [runFs_again hs (mu_pop_lt hB _ prev _ rest' rfl)]
      rfl
  case case2 file depth p e p' hn =>
    intro incFrom rest hrest
    have hs := step_err (res := res) (top := ⟨file, incFrom, p⟩) (rest := rest) (D := D) hn
    rw [runFs_yield hs (mu_clear hB _ rest), runFs_empty]
    simp [conv, contRun]
  case case3 file depth p p' hn =>
    have g := next_spec_of hp hn; exact absurd g (by simp [NextOK])
  case case4 file depth p line r p' hn hlt rest' ih =>
    intro incFrom rest hrest
    have g := next_spec_of hp hn
    have hs := step_record (res := res) (top := ⟨file, incFrom, p⟩) (rest := rest) (D := D) hn
    rw [runFs_yield hs (mu_top_lt hB rest hlt)]
    have := ih g.2.1 incFrom rest hrest
    simp only at this ⊢
    rw [this]
    simp [conv, rest']
  case case5 file depth p line r p' hn hnlt =>
    have g := next_spec_of hp hn; exact absurd g.2.2 hnlt
  case case6 file depth p line path origin p' hn hd =>
    intro incFrom rest hrest
    have hs := step_too_deep (res := res) (top := ⟨file, incFrom, p⟩) (rest := rest) (D := D) hn (by omega)
    rw [runFs_yield hs (mu_clear hB _ rest), runFs_empty]
    simp [conv, contRun]
  case case7 file depth p line path origin p' hn hd hr =>
    intro incFrom rest hrest
    have hs := step_open_failed (res := res) (top := ⟨file, incFrom, p⟩) (rest := rest) (D := D) hn
      (by omega) (resolveOf_none hnp hr)
    rw [runFs_yield hs (mu_clear hB _ rest), runFs_empty]
    simp [conv, contRun]
  case case8 file depth p line path origin p' hn hd child content hr childCtx ys hchild ih =>
    intro incFrom rest hrest
    have g := next_spec_of hp hn
    have hres := resolveOf_some hr
    have hs := step_push (res := res) (top := ⟨file, incFrom, p⟩) (rest := rest) (D := D) hn (by omega) hres
    have hlt := mu_push_lt (D := D) hB ⟨child, line, p'.newForInclude content origin⟩ ⟨file, incFrom, p⟩
      ⟨file, incFrom, p'⟩ rest (by omega)
      (by rw [newForInclude_eq]; simpa [Parser.withContext] using hsize _ _ _ _ hres) g.2.2
    rw [runFs_again hs hlt, newForInclude_eq]
    have := ih (childCtx_WF g.2.1 g.1) line (⟨file, incFrom, p'⟩ :: rest) (by simp [hrest])
    rw [this, hchild]
    simp [contRun]
  case case9 file depth p line path origin p' hn hd child content hr childCtx ys c hchild hlt rest' ih2 ih1 =>
    intro incFrom rest hrest
    have g := next_spec_of hp hn
    have hres := resolveOf_some hr
    have hs := step_push (res := res) (top := ⟨file, incFrom, p⟩) (rest := rest) (D := D) hn (by omega) hres
    have hlt' := mu_push_lt (D := D) hB ⟨child, line, p'.newForInclude content origin⟩ ⟨file, incFrom, p⟩
      ⟨file, incFrom, p'⟩ rest (by omega)
      (by rw [newForInclude_eq]; simpa [Parser.withContext] using hsize _ _ _ _ hres) g.2.2
    rw [runFs_again hs hlt', newForInclude_eq]
    have hchildWF := childCtx_WF g.2.1 g.1 (origin := origin)
    have h2 := ih2 hchildWF line (⟨file, incFrom, p'⟩ :: rest) (by simp [hrest])
    rw [h2, hchild]
    have hcWF := (readFile_wf (resolveOf res) D child (depth + 1) _ hchildWF).2 c (by rw [hchild])
    have h1 := ih1 ⟨g.2.1.1, hcWF.2⟩ incFrom rest hrest
    have e : contRun res B D (⟨file, incFrom, p'⟩ :: rest) (some c) =
        runFs res B ⟨⟨file, incFrom, { p' with ctx := { c with origin := p'.ctx.origin } }⟩ :: rest, D⟩ := rfl
    rw [e, h1]
    simp [rest']
  case case10 file depth p line path origin p' hn hd child content hr childCtx ys c hchild hnlt ih =>
    have g := next_spec_of hp hn
    exact absurd g.2.2 hnlt

theorem conv_clean {y : SY Path} (h : SYClean y) :
    conv y ≠ .panic ∧ ∀ f l, conv y ≠ .err f .ModelStuck l := by
  cases y with
  | record f l r => simp [conv]
  | err f k l =>
    cases k <;> simp_all [conv, SYClean]
  | panic => simp [SYClean] at h

end QV.Inc
