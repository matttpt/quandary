/-
  C26 — Response rate limiting follows its token-bucket rule over time.

  "With rate limiting enabled, each UDP QUERY response of a single response stream is sent,
   slipped or dropped exactly as a token bucket with capacity rate×window, refilled by rate per
   whole elapsed second, prescribes, for any pattern of request times including idle periods of
   years. With slip 0 limited responses are always dropped, with slip 1 always slipped, and a
   slipped response has TC set and no records other than OPT/TSIG."

  Model: `QV.Model.Rrl` (mirrors src/server/rrl.rs; explicit time, explicit `RandomState`).
  Spec:  `QV.Spec.Rrl` — the *eager* token bucket (`eager`, `shouldSend`): created by the stream's
         first response at t₀ with `cap − 1` tokens, `rate` more at every tick t₀ + n·1 s, capped
         at `cap = rate·window`, unbounded ℕ. The code is lazy (refills when a response arrives)
         and works in u32/u64; the theorems below say the two agree for every history.

  Interpretation choices (DESIGN.md §6): the ticks of a stream's bucket are aligned with the
  stream's first response (the code keeps that phase by subtracting the sub-second remainder from
  `now`); time stamps are those of the monotonic clock read under the bucket lock.
  Hypotheses of the history theorems, all about the hash table, none about time:
  `NoBucketCollision` (the documentation says colliding entries are forgotten — outside the
  token-bucket rule), `NoInitialKey` (a response whose key equals the dummy key the table is
  filled with — IPv4, masked destination 0, NOERROR, QNAME hash 0 — would inherit the phase of
  server start-up instead of its own first response), `HashInjectiveOn` (the key holds a 32-bit
  hash of the QNAME, not the QNAME).
-/
import QV.Proofs.Rrl

namespace QV.C26
open QV QV.Rrl

/-- Whatever `RrlParams::new` + the setters accept is a valid configuration (rates, window ≥ 1,
    rate·window < 2³², size ≥ 1) with the requested slip and the netmasks of the prefix lengths. -/
theorem C26_configure_valid {ne nx er w slip v4len v6len size : Nat} {p : RrlParams}
    (h : RrlParams.configure ne nx er w slip v4len v6len size = .ok p) :
    p.Valid ∧ MasksOf p v4len v6len ∧ p.slip = slip ∧
    p.noerror_rate = ne ∧ p.nxdomain_rate = nx ∧ p.error_rate = er ∧ p.window = w ∧ p.size = size := by
  obtain ⟨hv, a, b, c, d, e, f, g4, g6, m4, m6⟩ := configure_ok h
  exact ⟨hv, ⟨g4, g6, m4, m6⟩, e, a, b, c, d, f⟩

/-- **Documented defaults of the remaining parameters** (rrl.rs, "The defaults are: slip 2 …
    size 65,537 entries"; the prefix lengths are `C27_default_masks`): an `RrlParams` fresh from
    `RrlParams::new` is a valid configuration with slip 2 and a table of 65 537 entries.  The two
    literals are read from the source by the extractor. -/
theorem C26_default_slip_size {ne nx er w : Nat} {p : RrlParams}
    (h : RrlParams.new ne nx er w = .ok p) : p.slip = 2 ∧ p.size = 65537 := by
  obtain ⟨_, rfl⟩ := new_ok h
  exact ⟨show Gen.RRL_DEFAULT_SLIP = 2 by decide, show Gen.RRL_DEFAULT_SIZE = 65537 by decide⟩

/-! ### the u32/u64 side: the refill never overflows and never truncates (defect D10) -/

/-- For **every** rate and **every** idle time, the refill computed by the code —
    `(rate as u64).saturating_mul(secs).min(u32::MAX as u64) as u32` — is the ℕ value
    `min (rate·secs) (2³²−1)`. -/
theorem C26_refill_exact (rate secs : Nat) : refillOf rate secs = min (rate * secs) U32_MAX :=
  refillOf_eq rate secs

/-- … hence `count.saturating_sub(refill)` is the unbounded `count ∸ rate·secs` for every count
    that fits a `u32`: the clamp at `u32::MAX` is never observable. -/
theorem C26_refill_is_unbounded_subtraction (count rate secs : Nat) (h : count ≤ U32_MAX) :
    count - refillOf rate secs = count - rate * secs :=
  sub_refillOf count rate secs h

/-- The code before commit a2294ed (`rate * secs as u32`) panicked in the dev profile exactly when
    `rate·secs ≥ 2³²` (for gaps below 2³² s) … -/
theorem C26_old_refill_panics_iff (rate secs : Nat) (hs : secs ≤ U32_MAX) :
    refillOldDev rate secs = .panic ↔ rate * secs > U32_MAX := by
  unfold refillOldDev u32Mul
  rw [Nat.mod_eq_of_lt (by unfold U32_MAX at *; omega)]
  split <;> simp <;> omega

/-- … e.g. rate 100 after 42 949 673 idle seconds (the recorded witness); the release profile
    refilled 4 tokens instead of all of them, and a gap of exactly 2³² s refilled nothing. -/
theorem C26_old_refill_witness :
    refillOldDev 100 42949673 = .panic ∧ refillOldRelease 100 42949673 = 4 ∧
    refillOf 100 42949673 = U32_MAX ∧ refillOldRelease 1 4294967296 = 0 := by
  refine ⟨?_, ?_, ?_, ?_⟩ <;>
    simp [refillOldDev, refillOldRelease, refillOf, u32Mul, satMulU64, U32_MAX, U64_MAX]

/-! ### one stream on its bucket -/

/-- **One stream, any pattern of request times.** Take any valid configuration, any bucket that
    currently holds another key (in particular a fresh one), and any non-decreasing sequence of
    instants — gaps of nanoseconds or of centuries. Running the critical section of
    `process_response` once per instant yields, response by response, exactly the verdicts of the
    eager token bucket with capacity `rate·window` and `rate` tokens per whole second since the
    first response; no step panics. (`verdicts` turns "limited" into Slip/Drop by `should_slip`.) -/
theorem C26_single_stream {p : RrlParams} (hv : p.Valid) (key : Key) (cat : Category) (e₀ : Entry)
    (hne : e₀.key ≠ key) (hist : List (Nat × Bool)) (hmono : MonoT 0 hist) :
    bucketRun p key cat e₀ hist =
      .ok (verdicts p hist (Spec.Rrl.eager (capOf p cat) (rateOf p cat) (hist.map (·.1)))) := by
  cases hist with
  | nil => rfl
  | cons h rest =>
    obtain ⟨now, rnd⟩ := h
    simp only [bucketRun, processBucket_create p key cat e₀ now rnd hne, List.map_cons, Spec.Rrl.eager]
    rw [bucketRun_rel hv key cat rest _ _ now (rel_create hv key cat now) (Nat.le_refl _) hmono.2]
    simp [verdicts, verdict]

/-- The invariant behind it, one response at a time: if the entry and the eager bucket are related
    (`count + tokens = cap`, `last_refill = t₀ + ticksDone·1 s`) they stay related, and the
    decision is the bucket's. -/
theorem C26_step_refines {p : RrlParams} (hv : p.Valid) (key : Key) (cat : Category) (e : Entry)
    (b : Spec.Rrl.Bucket) (now : Nat) (rnd : Bool)
    (hrel : Rel (capOf p cat) key e b) (hnow : e.last_refill ≤ now) :
    ∃ e', processBucket p key cat e now rnd =
        .ok (e', verdict p rnd (b.respond (capOf p cat) (rateOf p cat) now).2) ∧
      Rel (capOf p cat) key e' (b.respond (capOf p cat) (rateOf p cat) now).1 ∧ e'.last_refill ≤ now :=
  processBucket_step hv key cat e b now rnd hrel hnow

/-! ### whole histories through `process_response` -/

/-- **Main theorem.** For every `RandomState`, every valid configuration, and every time-stamped
    history of requests (any mix of sources, names, RCODEs, transports, opcodes; times
    non-decreasing from the creation of the table), under the three hash-table hypotheses:
    running `process_response` request by request on a fresh table never panics and leaves, for
    each request, exactly the context the specification prescribes — untouched if the response is
    not limitable; otherwise Send / Slip / Drop according to the eager token bucket of the
    response's *stream* (`Spec.Rrl.shouldSend`: the stream's history = the earlier limitable
    responses with the same network, category and, for NOERROR, name). -/
theorem C26_history {rs : RandomState} {p : RrlParams} {v4len v6len : Nat} (hv : p.Valid)
    (hm : MasksOf p v4len v6len) (T₀ : Nat) (reqs : List Req)
    (hmono : Mono T₀ reqs) (hsrc : SourcesCanonical reqs)
    (hnc : NoBucketCollision rs p reqs) (hni : NoInitialKey rs p reqs) (hinj : HashInjectiveOn rs reqs) :
    runAll rs (Rrl.new p T₀) reqs =
      .ok (expectedFrom (specDecision (cfgOf p v4len v6len)) p [] reqs) := by
  refine runAll_refines hv reqs hnc (fun pre q post hr hs => ?_) reqs [] (Rrl.new p T₀) T₀ rfl
    (inv_new rs p reqs T₀ hni) hmono
  exact (keyDecision_eq_specDecision rs hm reqs pre q (fun x hx => hr ▸ List.mem_append_left _ hx)
    (hr ▸ by simp) hs hinj hsrc).symm

/-- The same without `HashInjectiveOn` and without any assumption on the sources: each *key*
    (what the table actually stores) sees its own eager bucket. -/
theorem C26_history_per_key {rs : RandomState} {p : RrlParams} (hv : p.Valid) (T₀ : Nat) (reqs : List Req)
    (hmono : Mono T₀ reqs)
    (hnc : NoBucketCollision rs p reqs) (hni : NoInitialKey rs p reqs) :
    runAll rs (Rrl.new p T₀) reqs = .ok (expectedFrom (keyDecision rs p) p [] reqs) :=
  runAll_refines hv reqs hnc (fun _ _ _ _ _ => rfl) reqs [] (Rrl.new p T₀) T₀ rfl (inv_new rs p reqs T₀ hni) hmono

/-- `process_response` never panics: whatever the table holds, for any instant and **any**
    context — in particular a NOERROR response without a question (QDCOUNT = 0 request whose TSIG
    response does not fit; defect D17, repaired by commit 2232f31: the `unwrap` of the question is
    gone, such responses are classified under the root name). -/
theorem C26_never_panics (rs : RandomState) (R : Rrl) (hv : R.params.Valid) (now : Nat) (rnd : Bool)
    (c : Context) : processResponse rs R now rnd c ≠ .panic :=
  processResponse_no_panic rs R hv now rnd c

/-! ### what happens to a limited response -/

/-- slip = 0: a limited response is always dropped -/
theorem C26_slip0_drops (p : RrlParams) (h : p.slip = 0) (rnd : Bool) : verdict p rnd false = .Drop := by
  simp [verdict, shouldSlip, h]

/-- slip = 1: a limited response is always slipped -/
theorem C26_slip1_slips (p : RrlParams) (h : p.slip = 1) (rnd : Bool) : verdict p rnd false = .Slip := by
  simp [verdict, shouldSlip, h]

/-- slip ≥ 2: slipped or dropped as the random draw says; never sent -/
theorem C26_limited_never_sent (p : RrlParams) (rnd : Bool) : verdict p rnd false ≠ .Send := by
  unfold verdict; cases shouldSlip p rnd <;> simp

/-- a response the bucket admits is sent -/
theorem C26_admitted_is_sent (p : RrlParams) (rnd : Bool) : verdict p rnd true = .Send := rfl

/-- A slipped response has TC set and no records other than OPT/TSIG, and is still sent; a
    dropped one is not sent; a sent one is unchanged. -/
theorem C26_action_effects (c : Context) :
    ((applyAction c .Slip).response.tc = true ∧ (applyAction c .Slip).response.ancount = 0 ∧
      (applyAction c .Slip).response.nscount = 0 ∧
      (applyAction c .Slip).response.arcount = (if c.response.edns then 1 else 0) + (if c.response.tsig then 1 else 0) ∧
      (applyAction c .Slip).send_response = c.send_response) ∧
    (applyAction c .Drop).send_response = false ∧
    ((applyAction c .Send).response = c.response ∧ (applyAction c .Send).send_response = c.send_response) := by
  simp [applyAction, Resp.clearRrs, Resp.setTc]

/-- Every call of `process_response`, in any state: the context is either untouched (not
    limitable) or gets exactly one of the three actions, Slip only if `should_slip` said so and
    Drop only if it did not — in particular never Slip when slip = 0, never Drop when slip = 1. -/
theorem C26_outcome (rs : RandomState) (R : Rrl) (now : Nat) (rnd : Bool) (c : Context)
    (R' : Rrl) (c' : Context) (h : processResponse rs R now rnd c = .ok (R', c')) :
    (¬ subjectToRrl c = true ∧ R' = R ∧ c' = c) ∨
    (subjectToRrl c = true ∧ ∃ a, c' = applyAction c a ∧
      (R.params.slip = 0 → a ≠ .Slip) ∧ (R.params.slip = 1 → a ≠ .Drop)) := by
  rcases processResponse_shape rs R now rnd c R' c' h with h1 | ⟨hs, a, hc, ha⟩
  · exact Or.inl h1
  · refine Or.inr ⟨hs, a, hc, ?_⟩
    rcases ha with rfl | rfl
    · exact ⟨fun _ => nofun, fun _ => nofun⟩
    · rcases verdict_false_cases R.params rnd with ⟨hv, hsl⟩ | ⟨hv, hsl⟩ <;> rw [hv]
      · exact ⟨fun h0 => absurd h0 hsl, fun _ => nofun⟩
      · exact ⟨fun _ => nofun, fun h1 => absurd h1 hsl⟩

/-! ### non-vacuity -/

/-- a configuration accepted by the constructor and setters -/
def exParams : RrlParams :=
  { noerror_rate := 2, nxdomain_rate := 1, error_rate := 1, window := 3, slip := 1,
    ipv4_netmask := ipv4MaskOfLen 24, ipv6_netmask := ipv6MaskOfLen 56, size := 7 }

theorem exParams_configured : RrlParams.configure 2 1 1 3 1 24 56 7 = .ok exParams := by
  rfl

example : exParams.Valid ∧ MasksOf exParams 24 56 := by
  have := C26_configure_valid exParams_configured
  exact ⟨this.1, this.2.1⟩

/-- the eager bucket on a concrete history: capacity 6, 2 tokens per second; seven responses at
    t = 0 exhaust it, 1.5 s later two tokens are back, 100 years later it is full again -/
example : Spec.Rrl.eager 6 2
    [0, 0, 0, 0, 0, 0, 0, 1500000000, 1500000001, 1500000002, 3155760000000000000] =
    [true, true, true, true, true, true, false, true, true, false, true] := by
  rw [← Spec.Rrl.eagerFast_eq_eager]
  decide

/-- a concrete history satisfying the hypotheses of `C26_single_stream` -/
example : MonoT 0 [(5, false), (5, true), (2000000005, false)] := by simp [MonoT]

/-- regression witness for the repaired defect, on the model of the current code: an exhausted
    NOERROR bucket (rate 100, window 1) is full again after 42 949 673 idle seconds — no panic -/
example :
    (processBucket { exParams with noerror_rate := 100, window := 1 }
        { dest := 0, ipv6 := false, qname_hash := 7, category := .NoError } .NoError
        { key := { dest := 0, ipv6 := false, qname_hash := 7, category := .NoError }, count := 100, last_refill := 0 }
        (42949673 * NANOS_PER_SEC) false) =
      .ok ({ key := { dest := 0, ipv6 := false, qname_hash := 7, category := .NoError }, count := 1,
             last_refill := 42949673 * NANOS_PER_SEC }, .Send) := by
  simp [processBucket, rateAndLimitForCategory, u32Mul, refillOf, satMulU64, U32_MAX, U64_MAX,
    NANOS_PER_SEC, bind, Out.bind]

/-- regression witness for D17 on the model of the current code: a NOERROR response with neither
    question nor source of synthesis gets the key of the root name (no panic) -/
example (rs : RandomState) :
    keyOf rs exParams { send_response := true, transport := .Udp, opcode := 0, source := .v4 0xC0000201,
                        extended_rcode := 0, question := none, source_of_synthesis := none,
                        response := { tc := true, ancount := 0, nscount := 0, arcount := 0, edns := false, tsig := false },
                        rrl_action := none } =
      .ok { dest := ipToDestU64 exParams (.v4 0xC0000201), ipv6 := false,
            qname_hash := rs.hashName [0], category := .NoError } := by
  rw [keyOf_ok]; rfl

/-! #### a concrete history satisfying every hypothesis of `C26_history` -/

/-- a `RandomState` for the example: a hash that separates the two names used below -/
def exRs : RandomState :=
  { hashName := fun n => UInt32.ofNat (n.foldl (fun a b => a * 256 + b.toNat) 0)
    hashKey := fun k => k.qname_hash.toNat + (match k.category with | .NoError => 0 | .NxDomain => 1 | .Error => 2) }

def exCtx (rcode : Nat) (qname : List UInt8) : Context :=
  { send_response := true, transport := .Udp, opcode := 0,
    source := ReceivedInfo.new (.v4 0xC0000201), extended_rcode := rcode,
    question := some qname, source_of_synthesis := none,
    response := { tc := false, ancount := 1, nscount := 0, arcount := 0, edns := false, tsig := false },
    rrl_action := none }

/-- three NOERROR responses for `a.` (at 0 s, 0 s and 0.5 s) and one NXDOMAIN for `b.` -/
def exReqs : List Req :=
  [ ⟨.v4 0xC0000201, 0, false, exCtx 0 [1, 97, 0]⟩,
    ⟨.v4 0xC0000201, 0, false, exCtx 0 [1, 65, 0]⟩,
    ⟨.v4 0xC0000201, 500000000, false, exCtx 3 [1, 98, 0]⟩,
    ⟨.v4 0xC0000201, 500000000, false, exCtx 0 [1, 97, 0]⟩ ]

def exP1 : RrlParams := { exParams with noerror_rate := 1, window := 2 }

theorem exP1_valid : exP1.Valid := by
  refine ⟨?_, by decide, ?_, by decide⟩ <;> intro c <;> cases c <;> simp [capOf, rateOf, exP1, exParams, U32_MAX]

theorem exKeys : ∀ q ∈ exReqs,
    q.key? exRs exP1 = some { dest := 0xC0000200, ipv6 := false, qname_hash := 0x016100, category := .NoError } ∨
    q.key? exRs exP1 = some { dest := 0xC0000200, ipv6 := false, qname_hash := 0, category := .NxDomain } := by
  decide


theorem exMasks : MasksOf exP1 24 56 := ⟨by decide, by decide, rfl, rfl⟩

theorem exHyps :
    Mono 0 exReqs ∧ SourcesCanonical exReqs ∧ NoBucketCollision exRs exP1 exReqs ∧
    NoInitialKey exRs exP1 exReqs ∧ HashInjectiveOn exRs exReqs := by
  refine ⟨?_, ?_, ?_, ?_, ?_⟩
  · simp [Mono, exReqs]
  · unfold SourcesCanonical; decide
  · intro q hq q' hq' k k' hk hk' hidx
    rcases exKeys q hq with h | h <;> rcases exKeys q' hq' with h' | h' <;>
      rw [h] at hk <;> rw [h'] at hk' <;> cases hk <;> cases hk' <;>
      first | rfl | (exfalso; revert hidx; decide)
  · intro q hq h
    rcases exKeys q hq with h1 | h1 <;> rw [h1] at h <;> simp [initialKey] at h
  · unfold HashInjectiveOn; decide

/-- … and on it the theorem's conclusion reads: the two `a.`/`A.` responses at t = 0 and the
    NXDOMAIN are sent, the third NOERROR response 0.5 s later is slipped (limit 2, slip 1) -/
example :
    (runAll exRs (Rrl.new exP1 0) exReqs).toOption.map (·.map (·.rrl_action)) =
      some [some .Send, some .Send, some .Send, some .Slip] := by
  rw [C26_history exP1_valid exMasks 0 exReqs exHyps.1 exHyps.2.1 exHyps.2.2.1 exHyps.2.2.2.1
    exHyps.2.2.2.2]
  decide

end QV.C26
