/-
  C24 — The zone-file parser is total and only yields valid records.

  "For any input bytes the zone-file parser terminates without panicking, and after its first
   error it yields nothing more. Every record it yields has an absolute owner, a type other than
   NULL, OPT or TSIG, and RDATA that passes validation for its class and type, including RDATA
   given in RFC 3597 generic form."

  Model: `QV.Model.ZoneFile.*` (mirrors src/zone_file/{mod,record,reader,name,character_string,
  escape,directive}.rs over "the remaining input"; tied to the source by the correspondence
  groups `zonefile`).  RDATA validity is `QV.Rdata.validate` (the shared model of
  `Rdata::validate`, C18).

  * Termination: every loop of the model is a Lean function accepted by the termination checker
    with a real measure (the length of the remaining input; structural recursion elsewhere).
    Four loops of the Rust code are loops "while something is left" around sub-parsers
    (`parse_lines_until_returnable_data_found`, the TXT and WKS loops, iteration itself); the
    model runs them on the measure with a run-time check that the round consumed input and
    reports the pseudo-error `ModelStuck` otherwise.  `C24_total` proves `ModelStuck` is never
    produced: every round consumes at least one octet, so the Rust loops terminate.
  * `parseAll input ctx` is everything `Iterator::next` yields until it returns `None`.
  * The hypothesis `CtxWF ctx` (the names in the *initial* context are well-formed) holds for
    `Parser::new` (`C24_*_default`) and is preserved by `new_for_include`
    (`C24_include_context`).

  ══ REPORT ══

  PROVED (14 theorems, none partial: every clause of the property, for ALL input octet strings)
   * no panic (`C24_no_panic`): no index out of range, no `unwrap`/`expect` on `None`/`Err`, no
     `ArrayVec` overflow, no RDATA above 65 535 octets handed to the boxing `unwrap`;
   * termination (`C24_total`): all loops on a decreasing measure, the non-progress marker of
     the four "while something is left" loops is unreachable;
   * after its first error it yields nothing more (`C24_latch` on whole runs;
     `C24_next_sets_latch`, `C24_latched_next` on single calls);
   * every yielded record has an absolute owner, a type other than NULL / OPT / TSIG and RDATA
     accepted by `Rdata::validate(class, type)`, typed or in RFC 3597 form (`C24_yield_valid`;
     `C24_rejected_types` ties the three numbers to the source's constants); the origin of a
     yielded `$INCLUDE` request is a valid absolute name (`C24_include_origin_valid`);
   * the same for the `RecordsOnly` iterator, which turns `$INCLUDE` into an error
     (`C24_records_only`);
   * the context hypothesis is an invariant (`C24_context_invariant`, `C24_include_context`,
     `C24_*_default`).
  ORACLE-ONLY: nothing at the level of the property.  What the correspondence check adds on
  every run is the tie of the model to the code: op `zf` (items and error lines, model ↔
  implementation), op `zfc` (the verdict of this property computed on the real output with the
  real `Rdata::validate` and `Name::validate_uncompressed_all`; spec = `ok`), `zfv` (error
  kinds, informational), `zf.*` (std's text parsers) — on pretty-printed files, mutations of
  them, token soups, random octets, boundary sizes (names, labels, strings, 65 535-octet RDATA,
  65 535 WKS ports), each through whole buffers and 1–7-octet chunked `Read`s.
  RESTRICTIONS / model assumptions
   * the Reader's refill/shift buffer is abstracted to "the remaining input" (exact while the
     underlying `Read` returns 0 only at the end of the input); I/O errors of the stream are
     outside the model;
   * std's `u8`/`u16`/`u32`/`Ipv4Addr`/`Ipv6Addr` `FromStr` and `str::from_utf8` are
     re-implemented in Lean and compared on generated strings;
   * RDATA validity is `QV.Rdata.validate`, the model of `Rdata::validate` of property C18.
  FINDINGS: none for this property (D18, the WKS bit order, yields valid RDATA: it is C23's).
-/
import QV.Proofs.ZoneFile.Parser

namespace QV.C24
open QV QV.ZF QV.Wire

/-- **No panic**, for every input and every well-formed initial context: no index out of range,
    no `unwrap` on `None`/`Err`, no `ArrayVec` overflow (`label_offsets`), no RDATA longer than
    65 535 octets, no panicking validator. -/
theorem C24_no_panic (input : List UInt8) (ctx : Ctx) (h : CtxWF ctx) :
    Yield.panic ∉ parseAll input ctx :=
  (collect_run _ h).no_panic

/-- **Totality**: no loop round of the parser consumes nothing (see the header): the model's
    divergence marker never appears among the yielded errors. -/
theorem C24_total (input : List UInt8) (ctx : Ctx) (h : CtxWF ctx) :
    ∀ e, Yield.err e ∈ parseAll input ctx → e.kind ≠ .ModelStuck :=
  (collect_run _ h).no_stuck

/-- **Error latch, on the whole run**: an error is the last thing the iterator yields. -/
theorem C24_latch (input : List UInt8) (ctx : Ctx) (h : CtxWF ctx) (pre : List Yield) (e : Err)
    (post : List Yield) (hrun : parseAll input ctx = pre ++ .err e :: post) : post = [] :=
  (collect_run _ h).err_last pre e post hrun

/-- **Error latch, on `next`**: the call that returns an error sets the flag … -/
theorem C24_next_sets_latch (p : Parser) (h : CtxWF p.ctx) (e : Err) (p' : Parser)
    (hn : p.next = (some (.err e), p')) : p'.error = true := by
  have g := next_spec h
  rw [hn] at g
  exact g.2

/-- … and with the flag set every further call returns `None` and changes nothing. -/
theorem C24_latched_next (p : Parser) (h : p.error = true) : p.next = (none, p) :=
  next_latched h

/-- **Yielded ⇒ valid**: every record the iterator yields has an absolute owner (a valid
    uncompressed wire-form name that fills its buffer, C14's `validateUncompressed`), a type other
    than NULL (10), OPT (41), TSIG (250), and RDATA that `Rdata::validate(class, type)` accepts —
    whether it was written in typed or in RFC 3597 `\#` form. -/
theorem C24_yield_valid (input : List UInt8) (ctx : Ctx) (h : CtxWF ctx) (line : Nat) (r : Rec)
    (hy : Yield.item (.record line r) ∈ parseAll input ctx) :
    validateUncompressed r.owner.toArray true = .ok r.owner.length ∧
    r.ty ≠ 10 ∧ r.ty ≠ 41 ∧ r.ty ≠ 250 ∧
    Rdata.validate r.cls r.ty r.rdata.toArray = .ok () := by
  have g := (collect_run _ h).items_ok _ hy
  exact ⟨validate_all g.1, g.2.1, g.2.2.1, g.2.2.2.1, g.2.2.2.2⟩

/-- the origin reported with an `$INCLUDE` directive is a valid absolute name as well -/
theorem C24_include_origin_valid (input : List UInt8) (ctx : Ctx) (h : CtxWF ctx) (line : Nat)
    (path o : List UInt8) (hy : Yield.item (.incl line path (some o)) ∈ parseAll input ctx) :
    validateUncompressed o.toArray true = .ok o.length :=
  validate_all ((collect_run _ h).items_ok _ hy o rfl)

/-- the `RecordsOnly` iterator (`Parser::records_only`) has the same guarantees — no panic, no
    divergence, error last, every record valid — and turns an `$INCLUDE` into an error instead
    of yielding it -/
theorem C24_records_only (input : List UInt8) (ctx : Ctx) (h : CtxWF ctx) :
    let ys := collectRecordsOnly (Parser.withContext input ctx)
    Yield.panic ∉ ys ∧ (∀ e, Yield.err e ∈ ys → e.kind ≠ .ModelStuck) ∧
    (∀ pre e post, ys = pre ++ .err e :: post → post = []) ∧
    (∀ l path o, Yield.item (.incl l path o) ∉ ys) ∧
    (∀ line r, Yield.item (.record line r) ∈ ys →
      validateUncompressed r.owner.toArray true = .ok r.owner.length ∧ r.ty ≠ 10 ∧ r.ty ≠ 41 ∧ r.ty ≠ 250 ∧
      Rdata.validate r.cls r.ty r.rdata.toArray = .ok ()) := by
  intro ys
  obtain ⟨hr, hi⟩ := collectRecordsOnly_run (Parser.withContext input ctx) h
  refine ⟨hr.no_panic, hr.no_stuck, hr.err_last, hi, ?_⟩
  intro line r hy
  have g := hr.items_ok _ hy
  exact ⟨validate_all g.1, g.2.1, g.2.2.1, g.2.2.2.1, g.2.2.2.2⟩

/-- the three excluded types are the ones named NULL, OPT, TSIG in src/rr/rr_type.rs, and they are
    exactly the types `parse_type` refuses (generated tables) -/
theorem C24_rejected_types :
    Gen.parseTypeRejected.map (·.1) = [10, 41, 250] ∧
    Gen.typeConsts.lookup "NULL" = some 10 ∧ Gen.typeConsts.lookup "OPT" = some 41 ∧
    Gen.typeConsts.lookup "TSIG" = some 250 := by decide

/-! ### the hypothesis `CtxWF` -/

/-- `Parser::new` starts from the default context, which is well-formed … -/
theorem C24_no_panic_default (input : List UInt8) : Yield.panic ∉ parseAll input {} :=
  C24_no_panic input {} CtxWF_default

theorem C24_yield_valid_default (input : List UInt8) (line : Nat) (r : Rec)
    (hy : Yield.item (.record line r) ∈ parseAll input {}) :
    validateUncompressed r.owner.toArray true = .ok r.owner.length ∧
    r.ty ≠ 10 ∧ r.ty ≠ 41 ∧ r.ty ≠ 250 ∧ Rdata.validate r.cls r.ty r.rdata.toArray = .ok () :=
  C24_yield_valid input {} CtxWF_default line r hy

/-- … every context a parser reaches is well-formed … -/
theorem C24_context_invariant (p : Parser) (h : CtxWF p.ctx) : CtxWF p.next.2.ctx :=
  next_ctxWF p h

/-- … and so is the context of a parser made by `new_for_include` from a well-formed context and
    the origin of a yielded `$INCLUDE` item. -/
theorem C24_include_context (p : Parser) (h : CtxWF p.ctx) (content : List UInt8)
    (origin : Option (List UInt8)) (ho : ∀ o, origin = some o → NameWF o) :
    CtxWF (p.newForInclude content origin).ctx := by
  unfold Parser.newForInclude
  split
  · next o => exact ⟨fun x hx => by simp [Parser.withContext] at hx; subst hx; exact ho _ rfl, h.2⟩
  · exact h

/-! ### non-vacuity -/

/-- `a. 5 IN A 1.2.3.4\n` -/
def exInput : List UInt8 := [97, 46, 32, 53, 32, 73, 78, 32, 65, 32, 49, 46, 50, 46, 51, 46, 52, 10]

/-- the parser does yield records: the conclusions above are about something -/
theorem exInput_parses :
    parseAll exInput {} = [.item (.record 1 ⟨[1, 97, 0], 5, 1, 1, [1, 2, 3, 4]⟩)] := by
  decide +kernel

example : Yield.item (.record 1 ⟨[1, 97, 0], 5, 1, 1, [1, 2, 3, 4]⟩) ∈ parseAll exInput {} := by
  rw [exInput_parses]; simp

/-- `b 5 IN NULL \# 0` + newline: NULL is refused, and the error is the only thing yielded -/
example : parseAll [98, 46, 32, 53, 32, 73, 78, 32, 78, 85, 76, 76, 32, 92, 35, 32, 48, 10] {} =
    [.err ⟨.NullNotAllowed, 1⟩] := by
  decide +kernel

/-- `b. 5 IN A \# 3 010203` + newline: generic RDATA that does not validate as an IN A record is
    refused -/
example : parseAll [98, 46, 32, 53, 32, 73, 78, 32, 65, 32, 92, 35, 32, 51, 32, 48, 49, 48, 50, 48, 51, 10] {} =
    [.err ⟨.InvalidRdataForType, 1⟩] := by
  decide +kernel

/-- a non-default well-formed context (origin `com.`) satisfies the hypothesis -/
example : CtxWF { origin := some [3, 99, 111, 109, 0] } :=
  ⟨fun o ho => by
      simp at ho; subst ho
      exact ⟨[[99, 111, 109]], by simp [LabelsOK], by simp [encodeName, flatLabels, encLabel], by simp⟩,
   by simp⟩

end QV.C24
