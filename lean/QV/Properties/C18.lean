/-
  C18 — RDATA reading, validation and writing are mutually consistent.

  "For every supported class and type, RDATA validation accepts exactly the encodings the defining
   RFC allows, and reading RDATA from a message never panics and returns only validated,
   uncompressed RDATA. Any valid RDATA written into a message, with or without name compression,
   reads back as the same RDATA."

  Model: `QV.Rdata.validate`, `QV.Rdata.read`, `QV.Rdata.components` (src/rr/rdata/mod.rs,
  helpers.rs, std13.rs, srv.rs, ipv6.rs, opt.rs, tsig.rs); the `match rr_type` arms of the
  dispatchers are `QV.Generated.RdataDispatch`, extracted from the source, and
  `validate_eq` / `read_eq` (QV.Proofs.Rdata) prove that they implement the RFC table
  `QV.Spec.fmtOf` for **every** `(class, type)`, listed or not.
  Spec: `QV.Spec.RdataSpec`, `QV.Spec.SpecRead` (QV/Spec/Rdata.lean), embedded names by
  `QV.Spec.Decodes` (C14).

  Integer ranges.  Class, type, cursor and RDLENGTH are `Nat` in the model; the Rust types are
  `u16`, `u16`, `usize`, `u16`.  Theorems that need a range say so: `rdlength ≤ 65535` (it is a
  `u16`) and `cursor + rdlength ≤ usize::MAX` (`prepare_to_read_rdata` adds them on `usize`).
-/
import QV.Proofs.RdataRead

namespace QV.C18
open QV QV.Rdata QV.Spec

/-- **Validation = the RFC grammar.** For every class, type and octet string, `Rdata::validate`
    succeeds exactly on the encodings the defining RFC allows (unknown types, NULL, and
    class-specific types outside their class: everything). -/
theorem C18_validate_iff (c t : Nat) (r : Bytes) : validate c t r = .ok () ↔ RdataSpec c t r.toList := by
  rw [validate_eq]; exact validateFmt_iff _ r

/-- validation never panics -/
theorem C18_validate_no_panic (c t : Nat) (r : Bytes) : validate c t r ≠ .panic := by
  rw [validate_eq]; exact validateFmt_no_panic _ r

/-- **Reading never panics**, whatever the message, cursor and RDLENGTH — in particular when an
    embedded name starts exactly at `cursor + rdlength` (RDLENGTH 0 for NS-like types, 2 for MX,
    6 for SRV, `|mname|` for SOA / MINFO: the inputs of defect D01, where the first octet of the name
    was read without a bounds check), when the cursor is past the end,
    when pointers lead anywhere.  The two hypotheses are the ranges of the Rust argument types. -/
theorem C18_read_no_panic (c t : Nat) (msg : Bytes) (cursor rdlength : Nat)
    (hlen : rdlength ≤ 65535) (hov : cursor + rdlength ≤ USIZE_MAX) :
    read c t msg cursor rdlength ≠ .panic := by
  rw [read_eq]; exact (readFmt_spec _ msg cursor rdlength hov (fun _ => hlen)).1

/-- … and outside that range it does panic (`cursor + rdlength as usize` overflows in the dev
    profile; with wrapping arithmetic `&buf[cursor..]` is out of range instead).  No cursor that is
    an offset into a message can get there. -/
theorem C18_read_overflow_panics (c t : Nat) (msg : Bytes) (cursor rdlength : Nat)
    (h : cursor + rdlength > USIZE_MAX) : read c t msg cursor rdlength = .panic := by
  rw [read_eq]; exact readFmt_overflow _ msg cursor rdlength h

/-- **Reading = the specification.** `Rdata::read` returns `r` exactly when the RDATA region lies
    inside the message and `r` is its expansion: for name-bearing types the fields fill the region
    exactly, names are decoded per RFC 1035 §4.1.4 (`Decodes`, looking at nothing past the end of
    the region) and fixed fields copied; for all other types the region itself, which must be
    well formed. -/
theorem C18_read_iff_spec (c t : Nat) (msg : Bytes) (cursor rdlength : Nat)
    (hlen : rdlength ≤ 65535) (hov : cursor + rdlength ≤ USIZE_MAX) (r : Bytes) :
    read c t msg cursor rdlength = .ok r ↔ SpecRead c t msg cursor rdlength r.toList := by
  rw [read_eq]; exact (readFmt_spec _ msg cursor rdlength hov (fun _ => hlen)).2 r

/-- whatever the specification reads is well-formed RDATA: decompressed names are valid
    uncompressed names (a statement about the specification alone) -/
theorem C18_specRead_valid (c t : Nat) (msg : Bytes) (cursor rdlength : Nat) (r : List UInt8)
    (h : SpecRead c t msg cursor rdlength r) : RdataSpec c t r := by
  obtain ⟨_, h⟩ := h
  cases hl : layoutOf (fmtOf c t) with
  | some l => rw [hl] at h; exact (fmtSpec_layout hl r).mpr (expands_splits h)
  | none => rw [hl] at h; exact h.2

/-- **Reading returns only validated, uncompressed RDATA** (no hypotheses: a successful read
    implies the argument ranges): the result passes `validate`, and it is the specified expansion. -/
theorem C18_read_sound (c t : Nat) (msg : Bytes) (cursor rdlength : Nat) (r : Bytes)
    (h : read c t msg cursor rdlength = .ok r) :
    validate c t r = .ok () ∧ SpecRead c t msg cursor rdlength r.toList := by
  rw [read_eq] at h
  obtain ⟨hov, hlen⟩ := readFmt_ok_bounds _ msg cursor rdlength r h
  have hs : SpecRead c t msg cursor rdlength r.toList := (readFmt_spec _ msg cursor rdlength hov hlen).2 r |>.mp h
  exact ⟨(C18_validate_iff c t r).mpr (C18_specRead_valid c t msg cursor rdlength _ hs), hs⟩

/-- **Uncompressed round trip.** Any valid RDATA (of at most 65535 octets) placed verbatim
    anywhere in a message reads back as itself, whatever precedes and follows it. -/
theorem C18_roundtrip_uncompressed (c t : Nat) (r p q : Bytes) (hv : validate c t r = .ok ())
    (hlen : r.size ≤ 65535) (hov : p.size + r.size ≤ USIZE_MAX) :
    read c t (p ++ r ++ q) p.size r.size = .ok r := by
  rw [C18_read_iff_spec c t _ _ _ hlen hov]
  have hspec := (C18_validate_iff c t r).mp hv
  refine ⟨by simp only [Array.size_append]; omega, ?_⟩
  cases hl : layoutOf (fmtOf c t) with
  | some l =>
    obtain ⟨fs, hfs⟩ := (fmtSpec_layout hl _).mp hspec
    have hbuf : (p ++ r ++ q).extract 0 (p.size + r.size) = p ++ r := by
      apply Array.toList_inj.mp
      simp only [Array.toList_extract, Array.toList_append]
      simp
      rw [← List.append_assoc, List.take_left' (by simp)]
    rw [hbuf]
    simpa using splits_expands hfs (p ++ r) p.size (by simp) (by simp)
  | none => exact ⟨by simp, hspec⟩

/-! ### components, and the compressed round trip

  `Writer::add_rr` (src/message/writer.rs) serialises RDATA component by component
  (`Rdata::components`): a compressible name as labels possibly ending in a pointer to an earlier
  occurrence, an uncompressible name and any other octets verbatim.  What the reader needs from the
  writer is captured by `QV.Rdata.Written` (QV/Proofs/RdataRead.lean): in the finished message, at
  the position of each component, a name *decodes* (RFC 1035 §4.1.4, within the message up to the
  end of the RDATA) to the component's name, and other components are there verbatim.
  *Given* `Written`, the read returns the RDATA — proved here.  `Written` itself is established
  nowhere for the model of the writer: C12 / C13 prove the writer's round trip in their own terms
  (`RdAt`), so the theorems of this section speak about the reader and `components` only. -/

/-- **Components of valid RDATA** (what the writer is handed): for a name-bearing format the
    fields of the RDATA in order — names of the RFC 1035 types compressible, the name of the
    class-specific CH A and of SRV uncompressible (RFC 3597 §4), fixed fields opaque; for every
    other format the whole RDATA as one opaque component (none if empty).  Never a panic. -/
theorem C18_components_valid (c t : Nat) (r : Bytes) (hv : validate c t r = .ok ()) :
    (∀ l, layoutOf (fmtOf c t) = some l →
        ∃ fs, Splits l r.toList fs ∧ components c t r = .ok (tagComps (fmtOf c t) fs)) ∧
    (layoutOf (fmtOf c t) = none →
        components c t r = .ok (if r.size = 0 then [] else [.other r.toList])) := by
  rw [components_eq]
  constructor
  · intro l hl
    obtain ⟨fs, hfs⟩ := (fmtSpec_layout hl _).mp ((C18_validate_iff c t r).mp hv)
    exact ⟨fs, hfs, (componentsFmt_valid _ l hl r fs hfs).1⟩
  · intro hl
    rw [compTypesFmt_none hl]; exact componentsAux_nil r

/-- **Full statement of the write/read round trip** (any compression mode that preserves case):
    for valid RDATA whose components the writer has put into the message at `cursor .. e` — names
    in any encoding that decodes to them, within the 16-bit RDLENGTH — reading `e - cursor` octets
    at `cursor` returns exactly the RDATA. -/
def C18_write_read_full : Prop :=
  ∀ (c t : Nat) (r : Bytes) (comps : List Comp) (msg : Bytes) (cursor e : Nat),
    validate c t r = .ok () → components c t r = .ok comps →
    cursor ≤ e → e ≤ msg.size → e ≤ USIZE_MAX → e - cursor ≤ 65535 →
    Written (msg.extract 0 e) comps cursor e →
    read c t msg cursor (e - cursor) = .ok r

/-- … proved for the reader and `components`, under the hypothesis `Written` (which no theorem
    about the writer model provides). -/
theorem C18_write_read : C18_write_read_full := by
  intro c t r comps msg cursor e hv hcomp hce hem heu hrd hW
  have hce' : cursor + (e - cursor) = e := by omega
  rw [C18_read_iff_spec c t msg cursor (e - cursor) hrd (by omega)]
  unfold SpecRead
  rw [hce']
  refine ⟨hem, ?_⟩
  obtain ⟨h1, h2⟩ := C18_components_valid c t r hv
  cases hl : layoutOf (fmtOf c t) with
  | some l =>
    obtain ⟨fs, hfs, hc⟩ := h1 l hl
    rw [hc] at hcomp
    cases hcomp
    have := written_expands (componentsFmt_valid _ l hl r fs hfs).2 hW
    rw [splits_flatten hfs] at this
    exact this
  | none =>
    rw [h2 hl] at hcomp
    cases hcomp
    refine ⟨?_, (C18_validate_iff c t r).mp hv⟩
    rw [written_opaque hW, extract_extract_prefix msg _ _ _ (by omega) hem]

/-! ### non-vacuity -/

/-- MX `10 mail.` -/
def exMx : Bytes := #[0, 10, 4, 109, 97, 105, 108, 0]

/-- MX RDATA that `split?` splits is valid -/
private theorem mx_valid (r : Bytes) (h : (split? [.fixed 2, .name] r.toList).isSome) : validate 1 15 r = .ok () :=
  (C18_validate_iff 1 15 r).mpr ((isSome_split_iff _ _).mp h)

theorem exMx_valid : validate 1 15 exMx = .ok () :=
  mx_valid _ (by decide +kernel)

/-- it reads back from the middle of a message … -/
example : read 1 15 (#[0xff] ++ exMx ++ #[0xee]) 1 8 = .ok exMx :=
  C18_roundtrip_uncompressed 1 15 exMx #[0xff] #[0xee] exMx_valid (by decide) (by decide)

/-- … so the hypothesis of `C18_read_sound` is satisfiable -/
example : validate 1 15 exMx = .ok () ∧ SpecRead 1 15 (#[0xff] ++ exMx ++ #[0xee]) 1 8 exMx.toList :=
  C18_read_sound 1 15 _ 1 8 exMx
    (C18_roundtrip_uncompressed 1 15 exMx #[0xff] #[0xee] exMx_valid (by decide) (by decide))

/-- the boundary case of defect D01: MX with RDLENGTH 2 — the exchange name would start exactly at
    `cursor + rdlength` — is an error, not a panic -/
example : read 1 15 #[0, 10] 0 2 = .err (.InvalidName .UnexpectedEom) := by
  rw [read_eq]
  have hf : fmtOf 1 15 = .mx := by decide
  have hp : QV.Wire.parseCompressed (#[0, 10] : Bytes) 2 = .err .UnexpectedEom := by
    simp [QV.Wire.parseCompressed, QV.Wire.parseAux]
  have he : (#[0, 10] : Bytes).extract 0 2 = #[0, 10] := by decide
  rw [hf]
  show readFixedThenName 2 #[0, 10] 0 2 = _
  simp [readFixedThenName, prepareToReadRdata, USIZE_MAX, csub, liftName, Out.mapErr, he, hp]

/-- a compressed MX exchange is expanded: `\xc0\x00` pointing at `\x01a\x00` -/
def cmsg : Bytes := #[1, 97, 0, 0, 10, 0xc0, 0]

theorem cmsg_parse : QV.Wire.parseCompressed cmsg 5 = .ok ⟨[1, 97, 0], 2, 2⟩ := by
  simp [QV.Wire.parseCompressed, QV.Wire.parseAux, cmsg, QV.Wire.isPtr, QV.Wire.ptrOf, Gen.MAX_LABEL_LEN,
    Gen.MAX_WIRE_LEN, Gen.MAX_N_LABELS]
  decide

example : read 1 15 cmsg 3 4 = .ok #[0, 10, 1, 97, 0] := by
  rw [read_eq]
  have hf : fmtOf 1 15 = .mx := by decide
  rw [hf]
  show readFixedThenName 2 cmsg 3 4 = _
  refine ((readFixedThenName_computes 2 (by omega) cmsg 3 4 (by decide)).ok_iff _).mpr ?_
  have e : cmsg.extract 0 (3 + 4) = cmsg := by decide
  rw [readTo?, if_pos (by decide), e]
  simp [expand?, cmsg_parse, Out.toOption]
  decide

/-- the hypotheses of `C18_write_read` are satisfiable by a genuinely compressed region: the
    components of MX `10 a.` written as `00 0a c0 00` after an earlier `a.` -/
example : read 1 15 cmsg 3 (7 - 3) = .ok #[0, 10, 1, 97, 0] := by
  have hv : validate 1 15 #[0, 10, 1, 97, 0] = .ok () := mx_valid _ (by decide +kernel)
  have hf : fmtOf 1 15 = .mx := by decide
  obtain ⟨fs, hfs, hc⟩ := (C18_components_valid 1 15 _ hv).1 [.fixed 2, .name] (by rw [hf]; rfl)
  have hfs' : fs = [[0, 10], [1, 97, 0]] := by
    have := (split?_iff _ _ _).mpr hfs
    have e : split? [.fixed 2, .name] (#[0, 10, 1, 97, 0] : Bytes).toList = some [[0, 10], [1, 97, 0]] := by
      decide +kernel
    rw [e] at this; cases this; rfl
  subst hfs'
  rw [hf] at hc
  have e7 : cmsg.extract 0 7 = cmsg := by decide
  refine C18_write_read 1 15 _ _ cmsg 3 7 hv hc (by omega) (by decide) (by decide) (by omega) ?_
  rw [e7]
  exact Written.other (by decide) (by decide)
    (Written.cname ((QV.C14.C14_parse_ok_iff cmsg 5 _).mp cmsg_parse) Written.nil)

end QV.C18
