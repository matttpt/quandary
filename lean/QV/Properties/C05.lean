/-
  C05 — Query answers follow the DNS resolution algorithm.

  "For any catalog and well-formed QUERY, the response's RCODE, AA flag and the answer, authority
   and additional sections equal those of an independent implementation of RFC 1034 §4.3.2 with
   RFC 4592 wildcards, RFC 6604 CNAME-chain RCODEs, in-zone CNAME chasing (at most 8 links, loops
   give SERVFAIL), referrals with mandatory in-bailiwick glue, and address records for NS/MX/SRV
   targets. Negative answers carry the zone's SOA in the authority section with TTL equal to the
   smaller of the SOA record's TTL and its MINIMUM field (RFC 2308 §3)."

  Model: the query.rs part of `QV.Model.Server` (`answer`, `answerAny`, `doCname`/`followCname`,
  `doReferral`, `doAdditionalSectionProcessing`, `addNegativeCachingSoa`, `handleNonAxfrQueryL`),
  byte-exact (`srv` correspondence), running in `PM` = writer state + ghost operation log.
  Spec: `QV.Spec.Resolve.specResolve` over the flat-record zone of `QV.Spec.Zone`.
  Abstraction: `QV.ServerAnswer.view : List Ev → View` — RCODE, AA, TC and the three sections the
  logged writer operations amount to (records of accepted calls; `clear_rrs` empties them).

  Shape: refinement. For *every* zone built through the public API (any add sequence `rs`), every
  QNAME at or below the apex, every QTYPE, both transports and every writer state: if no logged
  writer call hits a capacity limit, the view of the log equals `specResolve`, list for list (hence
  as multisets). The zone side is C06's theorem (`Rel.reachable`, `lookup_eq_spec`).

  The writer states: `C05_full` quantifies over the states in which `handle_query` is entered
  (`QueryReady`), and `C05_entry_state_handle_message` shows that the state
  `handle_message_with_context` hands over is one. Over *arbitrary* writer states the statement is
  false: a writer already in the additional section answers `OutOfOrder` to the first
  `add_answer_rrset` without any `Truncation`, and the response is then SERVFAIL whatever the zone
  says.

  The tie between the ghost log and the octets: `C05_log_is_content` — the induction over
  `handle_non_axfr_query` (Proofs/ServerAnswerContent.lean, `clay_handleNonAxfrQueryL`) that threads
  the writer's content layout `CLay` (C12) through every operation of the answering phase: from a
  `Good` writer (invariant + layout `b0`) in which `Hint::Qname` is valid, the writer that
  `handle_non_axfr_query` leaves is `Good` and laid out as `b0` plus the records of the logged
  `add_*` calls that succeeded, in call order, by section (`bodyOf`), which is — record for record —
  the `view` of the log (`BodyView`: owner case-folded, TTL as `Ttl::from` stores it).

  End to end: `C05_end_to_end` — for unsigned requests that a loaded zone answers, every decoding of
  the response octets (`specDecodeMsg`) has the RCODE, AA and the three sections of `specResolve` on
  the zone the catalog selects (sections in order, names up to ASCII case; the additional section
  followed by the OPT record iff the request had one); hypotheses: the API's guarantees (`CfgWF`,
  16-bit payload size), the selected zone built through the zone API, and `NoTruncation`.
  `C05_end_to_end_signed` is the same for authenticated TSIG-signed requests (the additional section
  then ends with the OPT record iff requested and the TSIG record).

  The selection of the zone (longest suffix match in the catalog, `handle_query`) is C22 + C07; the
  lifting from the layout to the decoded octets is C12 (`finish_decodes_content`: the writer
  serialises what it was given); the whole chain is also checked on every run by the harness oracle
  `audans`, which decodes the real response with `specDecodeMsg` and compares it with `specResolve`
  as multisets.
-/
import QV.Proofs.ServerAnswer
import QV.Proofs.ServerAnswerCap
import QV.Proofs.ServerAnswerEntry
import QV.Proofs.ServerAnswerTypes
import QV.Proofs.ServerAnswerDecode
import QV.Proofs.ServerSignedTable
import QV.Proofs.WriterFaithful

namespace QV.C05
open QV QV.Writer QV.Server QV.Zone QV.Spec.Zone QV.Spec.Resolve QV.ServerAnswer

/-- no logged record-adding call reported `Truncation` -/
def NoTruncation (evs : List Ev) : Prop := ∀ a, Ev.add a ∈ evs → a.res ≠ .err .Truncation

/-- **The property at full strength** (for one zone of the catalog, built through the API by any
    add sequence; `qname` at or below its apex, which is what the catalog lookup guarantees; the
    writer in the state in which `handle_query` is entered — `QueryReady`: reached from
    `Writer::new` with a limit ≤ 65 535 by the header setters, `add_question qname`, `set_edns`,
    `set_limit`, `set_tsig`): whenever no writer operation reports `Truncation`,
    `handle_non_axfr_query` succeeds and the records it added, its RCODE, AA (and TC = clear) are
    exactly the resolution the specification prescribes. -/
def C05_full : Prop :=
  ∀ (eqv : Eqv) (apex : NameL.Name) (cls : Nat) (glue : GluePolicy) (rs : List Rec)
    (qname : WName) (qtype : Nat) (tr : Transport) (w : Writer.State),
    Folded apex → (unfold apex).WF → qname.WF → apex <:+ fold qname → QueryReady w qname →
    NoTruncation (handleNonAxfrQueryL (build eqv (Zone.new apex cls glue) rs) qname qtype tr ⟨w, []⟩).2.log →
      (handleNonAxfrQueryL (build eqv (Zone.new apex cls glue) rs) qname qtype tr ⟨w, []⟩).1 = .ok () ∧
      view (handleNonAxfrQueryL (build eqv (Zone.new apex cls glue) rs) qname qtype tr ⟨w, []⟩).2.log
        = View.ofResolution (specResolve (specBuild eqv ⟨apex, cls, glue, []⟩ rs) (fold qname) qtype)

/-! ### the refinement theorem (`C05` at the end of the file derives `C05_full` from it)

  Proved first: the conclusion of `C05_full` under `NoCapErr` — every logged call ended `Ok` or
  `InvalidRdata` — for *every* writer state, and under `WriterRdataFaithful` (the writer accepts a
  call only if the embedded names of its RDATA can be located and says `InvalidRdata` only if some
  cannot; discharged below by `writerRdataFaithful`, lean/QV/Proofs/WriterFaithful.lean).
  `C05_only_truncation_matters` then shows that from the state in which `handle_query` is entered
  `NoTruncation` implies `NoCapErr` (no `OutOfOrder`, no `CountOverflow`, no panic). -/

theorem C05_answer_partial (hW : WriterRdataFaithful)
    (eqv : Eqv) (apex : NameL.Name) (cls : Nat) (glue : GluePolicy) (rs : List Rec)
    (qname : WName) (qtype : Nat) (tr : Transport) (w : Writer.State)
    (ha : Folded apex) (hq : apex <:+ fold qname)
    (hn : NoCapErr (handleNonAxfrQueryL (build eqv (Zone.new apex cls glue) rs) qname qtype tr ⟨w, []⟩).2.log) :
    (handleNonAxfrQueryL (build eqv (Zone.new apex cls glue) rs) qname qtype tr ⟨w, []⟩).1 = .ok () ∧
    view (handleNonAxfrQueryL (build eqv (Zone.new apex cls glue) rs) qname qtype tr ⟨w, []⟩).2.log
      = View.ofResolution (specResolve (specBuild eqv ⟨apex, cls, glue, []⟩ rs) (fold qname) qtype) := by
  have hR := Rel.reachable eqv apex cls glue rs
  have hap : (specBuild eqv ⟨apex, cls, glue, []⟩ rs).apex = apex := (specBuild_fields eqv _ rs).1
  exact handle_view_nocap hW hR (by rw [hap]; exact ha) qname qtype (by rw [hap]; exact hq) tr ⟨w, []⟩ rfl hn

/-- The same for any tree/flat-zone pair in the refinement relation of C06/C20 (not only built
    ones), and stated with the per-call condition `GoodLog` (each logged call ended `Ok` with
    renderable RDATA or `InvalidRdata` with an unrenderable one) — no assumption on the writer. -/
theorem C05_answer_goodlog_partial {z : Zone.Zone} {sz : SZone} (hR : Rel z sz) (ha : Folded sz.apex)
    (qname : WName) (qtype : Nat) (hq : sz.apex <:+ fold qname) (tr : Transport) (w : Writer.State)
    (hg : GoodLog (handleNonAxfrQueryL z qname qtype tr ⟨w, []⟩).2.log) :
    (handleNonAxfrQueryL z qname qtype tr ⟨w, []⟩).1 = .ok () ∧
    view (handleNonAxfrQueryL z qname qtype tr ⟨w, []⟩).2.log
      = View.ofResolution (specResolve sz (fold qname) qtype) :=
  handle_view hR ha qname qtype hq tr ⟨w, []⟩ rfl hg

/-! ### stages (each is a corollary of the lemmas behind the main theorem, stated on its own) -/

/-- **Negative answers (repaired defect D04)**: the SOA put into the authority section has TTL
    min(SOA record TTL, MINIMUM), a MINIMUM ≥ 2^31 counting as 0 — so never more than either. -/
theorem C05_negative_soa_ttl (sz : SZone) (soa : RR) (h : negativeSoa sz = some soa) :
    ∃ (s : Rrset) (rd : List UInt8) (rest : List (List UInt8)) (m : Nat),
      specSoa sz = some s ∧ s.rdatas = rd :: rest ∧ soaMinimum rd = some m ∧
      soa = ⟨sz.apex, SOA, sz.cls, min (if 2147483648 ≤ m then 0 else m) s.ttl, rd⟩ ∧
      soa.ttl ≤ s.ttl ∧ soa.ttl ≤ m := by
  unfold negativeSoa at h
  cases hs : specSoa sz with
  | none => rw [hs] at h; cases h
  | some s =>
    rw [hs] at h
    simp only [] at h
    cases hr : s.rdatas with
    | nil => rw [hr] at h; cases h
    | cons rd rest =>
      rw [hr] at h
      simp only [] at h
      cases hm : soaMinimum rd with
      | none => rw [hm] at h; cases h
      | some m =>
        rw [hm] at h
        simp only [Option.some.injEq] at h
        refine ⟨s, rd, rest, m, rfl, hr, hm, h.symm, ?_, ?_⟩
        · rw [← h]; exact Nat.min_le_right _ _
        · rw [← h]
          simp only []
          split
          · omega
          · exact Nat.min_le_left _ _

/-- the model's negative answer: NXDOMAIN / NOERROR with exactly that SOA (model side of D04) -/
theorem C05_model_negative_soa (hW : WriterRdataFaithful) {z : Zone.Zone} {sz : SZone} (hR : Rel z sz)
    (ha : Folded sz.apex) (ps : PS) :
    ∃ evs, (addNegativeCachingSoa z ps).2.log = ps.log ++ evs ∧
      (NoCapErr evs →
        match negativeS sz with
        | some d => (addNegativeCachingSoa z ps).1 = .ok () ∧ ∀ v, evs.foldl View.step v = d.apply v
        | none => (addNegativeCachingSoa z ps).1 = .err .servFail) := by
  obtain ⟨evs, h1, hi, _, hc⟩ := Does.negativeSoa hR ha ps
  refine ⟨evs, h1, fun hn => ?_⟩
  have c := hc (goodLog_of_inv hW hi hn)
  cases hS : negativeS sz with
  | none => rw [hS] at c; exact c
  | some d =>
    rw [hS] at c
    obtain ⟨⟨a, hok⟩, hv⟩ := c
    exact ⟨hok, hv⟩

/-- the chain bound comes from the source: `MAX_CNAME_CHAIN_LEN` (extracted) is the 8 of the spec -/
theorem C05_chain_len_const : Gen.MAX_CNAME_CHAIN_LEN = 8 := MAX_CHAIN

/-- **CNAME chains**: a chain collects at most as many CNAME records as links are allowed (8) -/
theorem C05_chain_bound (sz : SZone) (qt : Nat) (k : Nat) (visited : List NameL.Name) (owner : NameL.Name)
    (cn : Rrset) : (chase sz qt k visited owner cn).1.length ≤ k := by
  induction k generalizing visited owner cn with
  | zero => simp [chase]
  | succ k ih =>
    rw [chase]
    cases cn.rdatas with
    | nil => simp
    | cons rd rest =>
      simp only []
      cases exactName rd with
      | none => simp
      | some target =>
        simp only []
        by_cases hv : visited.contains target = true
        · rw [if_pos hv]; simp
        · rw [if_neg hv]
          cases hl : specLookup sz target qt ⟨false, false⟩ with
          | cname next sos =>
            simp only []
            have := ih (target :: visited) target next
            rcases hc : chase sz qt k (target :: visited) target next with ⟨ls, e⟩
            rw [hc] at this
            cases e <;> simp only [List.length_cons, List.length_nil] at this ⊢ <;> omega
          | _ => simp

/-- **loop detection**: a CNAME whose target was an owner earlier in the chain (the QNAME
    included) ends the chain in failure — SERVFAIL with empty sections and AA clear -/
theorem C05_loop_servfail (sz : SZone) (qt k : Nat) (visited : List NameL.Name) (owner : NameL.Name) (cn : Rrset)
    (rd : List UInt8) (rest : List (List UInt8)) (target : NameL.Name)
    (hrd : cn.rdatas = rd :: rest) (ht : exactName rd = some target) (hv : visited.contains target = true) :
    chase sz qt (k + 1) visited owner cn = ([], .fail) ∧ Spec.Resolve.finish sz qt [] .fail = servfail := by
  refine ⟨?_, rfl⟩
  rw [chase, hrd]
  simp only [ht, hv, if_true]

/-- **the declarative reading of the chain**: what `chase` returns (when it does not fail) is a
    chain in the sense of the inductive relation `Chain` (each link's target is exactly one name,
    was not visited before, and is looked up in the same zone; at most `k` links) -/
theorem C05_chase_sound (sz : SZone) (qt : Nat) (k : Nat) (visited : List NameL.Name) (owner : NameL.Name)
    (cn : Rrset) (ls : List RR) (e : End) (h : chase sz qt k visited owner cn = (ls, e)) (he : e ≠ .fail) :
    Chain sz qt visited owner cn k ls e :=
  chase_sound sz qt k visited owner cn ls e h he

/-! ### non-vacuity: a concrete zone, evaluated through the byte-exact model and the spec

  zone `z.`: SOA with TTL 60 and MINIMUM 3600 (the witness of D04), `a.z CNAME b.z`, `b.z A`. -/

def oct : Eqv := fun _ _ a b => a == b
def lz : NameL.Label := [122]
def la : NameL.Label := [97]
def lb : NameL.Label := [98]
def soaRd : List UInt8 := [1,97,1,122,0, 1,98,1,122,0, 0,0,0,1, 0,0,0,2, 0,0,0,3, 0,0,0,4, 0,0,14,16]
def exRecs : List Rec :=
  [⟨[lz], 6, 1, 60, soaRd⟩, ⟨[la, lz], 5, 1, 300, [1,98,1,122,0]⟩, ⟨[lb, lz], 1, 1, 30, [192,0,2,1]⟩]
def exZone : Zone.Zone := Zone.build oct (Zone.new [lz] 1 .narrow) exRecs
def exSpec : SZone := specBuild oct ⟨[lz], 1, .narrow, []⟩ exRecs
/-- a 512-octet UDP writer holding the question `x.z A` -/
def w0 : Writer.State :=
  match Writer.new (Array.replicate 512 0) 512 with
  | .ok w => (Writer.addQuestion ⟨[[120], lz]⟩ 1 1 w).2
  | _ => default

/-- the hypotheses of the main theorem hold for a concrete run … -/
example : Folded [lz] ∧ [lz] <:+ fold ⟨[[120], lz]⟩ := ⟨by unfold Folded; decide, ⟨[[120]], by decide⟩⟩
example : NoCapErr (handleNonAxfrQueryL exZone ⟨[[120], lz]⟩ 1 .udp ⟨w0, []⟩).2.log := by
  intro e he
  have : (handleNonAxfrQueryL exZone ⟨[[120], lz]⟩ 1 .udp ⟨w0, []⟩).2.log
      = [.rcode 3, .aa true, .add ⟨.authority, ⟨[lz]⟩, 6, 1, 60, [soaRd], false, .ok ()⟩] := by decide +kernel
  rw [this] at he
  simp only [List.mem_cons, List.not_mem_nil, or_false] at he
  rcases he with h | h | h <;> subst h <;> simp
/-- … and its conclusion is the D04 witness answered correctly: NXDOMAIN, AA, the SOA with TTL
    60 = min(60, 3600) in the authority section — by the model and by the specification -/
example : view (handleNonAxfrQueryL exZone ⟨[[120], lz]⟩ 1 .udp ⟨w0, []⟩).2.log
    = { rcode := 3, aa := true, tc := false, answer := [], authority := [⟨[lz], 6, 1, 60, soaRd⟩], additional := [] } := by
  decide +kernel
example : specResolve exSpec [[120], lz] 1 = ⟨3, true, [], [⟨[lz], 6, 1, 60, soaRd⟩], [], []⟩ := by decide +kernel
/-- a CNAME chain of one link ending in data -/
example : specResolve exSpec [la, lz] 1
    = ⟨0, true, [⟨[la, lz], 5, 1, 300, [1,98,1,122,0]⟩, ⟨[lb, lz], 1, 1, 30, [192,0,2,1]⟩], [], [], []⟩ := by
  decide +kernel
example : view (handleNonAxfrQueryL exZone ⟨[la, lz]⟩ 1 .tcp ⟨w0, []⟩).2.log
    = View.ofResolution (specResolve exSpec [la, lz] 1) := by decide +kernel
/-- a loop: `a.z CNAME a.z` is SERVFAIL with empty sections and AA clear -/
example : specResolve (specBuild oct ⟨[lz], 1, .narrow, []⟩ [⟨[la, lz], 5, 1, 300, [1,97,1,122,0]⟩]) [la, lz] 1
    = servfail := by decide +kernel

/-! ### with the writer's RDATA check

  `WriterRdataFaithful` is a theorem about the writer model (`QV.ServerAnswer.writerRdataFaithful`,
  lean/QV/Proofs/WriterFaithful.lean): acceptance by `add_*_rr(set)` ⟺ the RDATA splits into the
  components of its type (`QV.Writer.addRrOp_rdata`, `addRrsetOp_rdata`), and the implementation's
  component table is the specification's layout table up to the last name (`shape_table`). -/

/-- **C05, no assumption on the writer** -/
theorem C05_answer
    (eqv : Eqv) (apex : NameL.Name) (cls : Nat) (glue : GluePolicy) (rs : List Rec)
    (qname : WName) (qtype : Nat) (tr : Transport) (w : Writer.State)
    (ha : Folded apex) (hq : apex <:+ fold qname)
    (hn : NoCapErr (handleNonAxfrQueryL (build eqv (Zone.new apex cls glue) rs) qname qtype tr ⟨w, []⟩).2.log) :
    (handleNonAxfrQueryL (build eqv (Zone.new apex cls glue) rs) qname qtype tr ⟨w, []⟩).1 = .ok () ∧
    view (handleNonAxfrQueryL (build eqv (Zone.new apex cls glue) rs) qname qtype tr ⟨w, []⟩).2.log
      = View.ofResolution (specResolve (specBuild eqv ⟨apex, cls, glue, []⟩ rs) (fold qname) qtype) :=
  C05_answer_partial writerRdataFaithful eqv apex cls glue rs qname qtype tr w ha hq hn

/-- the model's negative answer, no assumption on the writer -/
theorem C05_negative_soa {z : Zone.Zone} {sz : SZone} (hR : Rel z sz) (ha : Folded sz.apex) (ps : PS) :
    ∃ evs, (addNegativeCachingSoa z ps).2.log = ps.log ++ evs ∧
      (NoCapErr evs →
        match negativeS sz with
        | some d => (addNegativeCachingSoa z ps).1 = .ok () ∧ ∀ v, evs.foldl View.step v = d.apply v
        | none => (addNegativeCachingSoa z ps).1 = .err .servFail) :=
  C05_model_negative_soa writerRdataFaithful hR ha ps

/-- the specification's `renderable` is exactly the writer's acceptance condition -/
theorem C05_renderable_is_writer_acceptance (c t : Nat) (rd : List UInt8) :
    renderable c t rd = rdataOK c t rd := renderable_eq_rdataOK c t rd

/-! ### C05 at full strength: only `Truncation` is excluded

  The other ways a writer call can go wrong are unreachable from the state in which `handle_query`
  is entered (lean/QV/Proofs/ServerAnswerCap.lean):
  * `OutOfOrder` — the answer phase adds answer, then authority, then additional records: the
    writer's section never lies beyond that of the next call (`CapJ`, section ranks);
  * `CountOverflow` — every accepted record occupies at least 10 octets (`Routine.addRr`, `Routine.nice`) below a
    limit of at most 65 535 octets, so no section count exceeds 6 555 (`count_small`);
  * panics — C01 (`handleNonAxfrQueryL_safe`, the hint contract of every call) shows the handler
    does not panic, and a panic recorded in the log is a panic of the handler (`CapJ`);
  * every other `writer::Error` — `add_*_rr(set)` fails only with `Truncation` or `InvalidRdata`
    once the two above are excluded (`Nice`). -/

/-- a log without `Truncation` is a log without any capacity error -/
theorem C05_only_truncation_matters
    (eqv : Eqv) (apex : NameL.Name) (cls : Nat) (glue : GluePolicy) (rs : List Rec)
    (qname : WName) (qtype : Nat) (tr : Transport) (w : Writer.State)
    (hawf : (unfold apex).WF) (hqwf : qname.WF) (hq : apex <:+ fold qname) (hw : QueryReady w qname)
    (hnt : NoTruncation (handleNonAxfrQueryL (build eqv (Zone.new apex cls glue) rs) qname qtype tr ⟨w, []⟩).2.log) :
    NoCapErr (handleNonAxfrQueryL (build eqv (Zone.new apex cls glue) rs) qname qtype tr ⟨w, []⟩).2.log := by
  have hR := Rel.reachable eqv apex cls glue rs
  have hap : (build eqv (Zone.new apex cls glue) rs).apex = apex := by
    rw [hR.apex]; exact (specBuild_fields eqv _ rs).1
  have hz : ServerSafety.ZoneOK (build eqv (Zone.new apex cls glue) rs) :=
    ⟨by rw [hap]; exact hawf, ServerSafety.build_nodeOK eqv apex cls glue rs⟩
  exact noCapErr_of_noTruncation _ hz qname hqwf qtype tr (by rw [hap]; exact hq) w hw hnt

/-- **C05 holds at full strength.** -/
theorem C05 : C05_full := by
  intro eqv apex cls glue rs qname qtype tr w ha hawf hqwf hq hw hnt
  exact C05_answer eqv apex cls glue rs qname qtype tr w ha hq
    (C05_only_truncation_matters eqv apex cls glue rs qname qtype tr w hawf hqwf hq hw hnt)

/-! ### non-vacuity of the entry state: `Writer::new` + `add_question` give `QueryReady` -/

/-- `QueryReady` is what `handle_message` establishes: a fresh writer with a limit ≤ 65 535 … -/
theorem C05_entry_state_new (buf : Bytes) (limit : Nat) (hl : limit ≤ 65535) (s : Writer.State)
    (h : Writer.new buf limit = .ok s) : PreQuestion s := preQuestion_new buf limit hl s h

/-- … kept by the header setters and (after the question) by every call of the scan phase … -/
theorem C05_entry_state_scan (c : ServerSafety.Call) (s : Writer.State) (qn : WName) (h : QueryReady s qn)
    (hp : c.Pre Writer.Den s) (hc : ScanCall c) : QueryReady (c.run s).2 qn := queryReady_call c s qn h hp hc

/-- … and reached by `add_question` -/
theorem C05_entry_state_question (qn : WName) (qt qc : Nat) (hwf : qn.WF) (s s' : Writer.State)
    (h : PreQuestion s) (hok : Writer.addQuestion qn qt qc s = (.ok (), s')) : QueryReady s' qn :=
  queryReady_addQuestion qn qt qc hwf s s' h hok

/-- the writer state of the examples above is such a state -/
example : QueryReady w0 ⟨[[120], lz]⟩ := by
  have hq : (match Writer.new (Array.replicate 512 0) 512 with
      | .ok w => (Writer.addQuestion ⟨[[120], lz]⟩ 1 1 w).1
      | _ => .panic) = .ok () := by decide +kernel
  rcases hn : Writer.new (Array.replicate 512 0) 512 with wn | e | _
  · rw [hn] at hq
    simp only [] at hq
    have hw : w0 = (Writer.addQuestion ⟨[[120], lz]⟩ 1 1 wn).2 := by unfold w0; rw [hn]
    refine queryReady_addQuestion ⟨[[120], lz]⟩ 1 1 (by decide) wn w0
      (preQuestion_new _ 512 (by decide) wn hn) ?_
    rw [hw, ← hq]
  · rw [hn] at hq; cases hq
  · rw [hn] at hq; cases hq

/-! ### the composition: what `handle_message` hands to `handle_query` is `QueryReady`

  `QV.ServerScan.scanAndDispatch_answer` (the scan's refinement theorem, C08/C09) shows that a
  request that reaches a loaded zone (no TSIG record) runs `handle_query` on the explicit writer
  state `arSt (qSt (hdrSt (ServerScan.w0 bufLen (lim0 tr)) id opcode rd) (some q)) tr payload e l`:
  `Writer::new(buf, 512 | 65 535)`, `set_id`, `set_qr`, `set_opcode`, `set_rd`, `add_question`, and —
  when the scan met an OPT record — `set_edns(payload)` and over UDP `set_limit(l)` with
  `512 ≤ l ≤ max 512 payload` (`specTail_props`). -/

open QV.ServerScan in
/-- that state satisfies `QueryReady` (server payload size a 16-bit value ≥ 512, as the API enforces) -/
theorem C05_entry_state_handle_message (bufLen : Nat) (tr : Transport) (payload id opcode : Nat) (rd : Bool)
    (hbuf : minBuf tr payload ≤ bufLen) (hpay : 512 ≤ payload) (hpay16 : payload ≤ 65535)
    (q : Spec.DQuestion) (qn : WName) (hp : WName.parse q.qname = some (qn, [])) (hw : qn.wire = q.qname)
    (hl : q.qname.length ≤ 255) (hqwf : qn.WF) (e : Bool) (l : Nat) (hl1 : 512 ≤ l) (hl2 : l ≤ max 512 payload) :
    QueryReady (arSt (qSt (hdrSt (ServerScan.w0 bufLen (lim0 tr)) id opcode rd) (some q)) tr payload e l) qn :=
  queryReady_scan_state bufLen tr payload id opcode rd hbuf hpay hpay16 q qn hp hw hl hqwf e l hl1 hl2

open QV.ServerScan in
/-- **C05 on the state the scan hands over**: no hypothesis on the writer is left -/
theorem C05_after_scan
    (eqv : Eqv) (apex : NameL.Name) (cls : Nat) (glue : GluePolicy) (rs : List Rec) (qtype : Nat) (tr : Transport)
    (bufLen payload id opcode : Nat) (rd : Bool)
    (hbuf : minBuf tr payload ≤ bufLen) (hpay : 512 ≤ payload) (hpay16 : payload ≤ 65535)
    (q : Spec.DQuestion) (qn : WName) (hp : WName.parse q.qname = some (qn, [])) (hw : qn.wire = q.qname)
    (hl : q.qname.length ≤ 255) (hqwf : qn.WF) (e : Bool) (l : Nat) (hl1 : 512 ≤ l) (hl2 : l ≤ max 512 payload)
    (ha : Folded apex) (hawf : (unfold apex).WF) (hq : apex <:+ fold qn)
    (hnt : NoTruncation (handleNonAxfrQueryL (build eqv (Zone.new apex cls glue) rs) qn qtype tr
      ⟨arSt (qSt (hdrSt (ServerScan.w0 bufLen (lim0 tr)) id opcode rd) (some q)) tr payload e l, []⟩).2.log) :
    (handleNonAxfrQueryL (build eqv (Zone.new apex cls glue) rs) qn qtype tr
      ⟨arSt (qSt (hdrSt (ServerScan.w0 bufLen (lim0 tr)) id opcode rd) (some q)) tr payload e l, []⟩).1 = .ok () ∧
    view (handleNonAxfrQueryL (build eqv (Zone.new apex cls glue) rs) qn qtype tr
      ⟨arSt (qSt (hdrSt (ServerScan.w0 bufLen (lim0 tr)) id opcode rd) (some q)) tr payload e l, []⟩).2.log
      = View.ofResolution (specResolve (specBuild eqv ⟨apex, cls, glue, []⟩ rs) (fold qn) qtype) :=
  C05 eqv apex cls glue rs qn qtype tr _ ha hawf hqwf hq
    (C05_entry_state_handle_message bufLen tr payload id opcode rd hbuf hpay hpay16 q qn hp hw hl hqwf e l hl1 hl2) hnt

open QV.ServerScan QV.ServerTsig in
/-- **C05 on the state the TSIG continuation hands over** (authenticated signed requests):
    `QV.ServerScan.tsigProcess_some_state` shows that after a successful `verify_request` the writer
    is `withTsig (stRcode 0 S0) (.response alg requestMac key) (prepOf keyName tsig now 0)` with
    `TsigFits`, `S0` being the scan state of `C05_after_scan`; that state is `QueryReady`
    (`queryReady_signed_state`), so `C05` applies with no hypothesis on the writer left -/
theorem C05_after_scan_signed
    (eqv : Eqv) (apex : NameL.Name) (cls : Nat) (glue : GluePolicy) (rs : List Rec) (qtype : Nat) (tr : Transport)
    (bufLen payload id opcode : Nat) (rd : Bool)
    (hbuf : minBuf tr payload ≤ bufLen) (hpay : 512 ≤ payload) (hpay16 : payload ≤ 65535)
    (q : Spec.DQuestion) (qn : WName) (hp : WName.parse q.qname = some (qn, [])) (hw : qn.wire = q.qname)
    (hl : q.qname.length ≤ 255) (hqwf : qn.WF) (e : Bool) (l : Nat) (hl1 : 512 ≤ l) (hl2 : l ≤ max 512 payload)
    (alg : Hmac.Alg) (mac secret : List UInt8) (t : Tsig.ReadTsigRr) (kn : WName) (nowT : Tsig.TimeSigned)
    (hkn : WName.parse t.keyName = some (kn, []))
    (hfit : TsigFits (stRcode 0 (arSt (qSt (hdrSt (ServerScan.w0 bufLen (lim0 tr)) id opcode rd) (some q)) tr payload e l))
      (.response (toWriterAlg alg) mac secret) (prepOf kn t nowT 0))
    (ha : Folded apex) (hawf : (unfold apex).WF) (hq : apex <:+ fold qn)
    (hnt : NoTruncation (handleNonAxfrQueryL (build eqv (Zone.new apex cls glue) rs) qn qtype tr
      ⟨withTsig (stRcode 0 (arSt (qSt (hdrSt (ServerScan.w0 bufLen (lim0 tr)) id opcode rd) (some q)) tr payload e l))
        (.response (toWriterAlg alg) mac secret) (prepOf kn t nowT 0), []⟩).2.log) :
    (handleNonAxfrQueryL (build eqv (Zone.new apex cls glue) rs) qn qtype tr
      ⟨withTsig (stRcode 0 (arSt (qSt (hdrSt (ServerScan.w0 bufLen (lim0 tr)) id opcode rd) (some q)) tr payload e l))
        (.response (toWriterAlg alg) mac secret) (prepOf kn t nowT 0), []⟩).1 = .ok () ∧
    view (handleNonAxfrQueryL (build eqv (Zone.new apex cls glue) rs) qn qtype tr
      ⟨withTsig (stRcode 0 (arSt (qSt (hdrSt (ServerScan.w0 bufLen (lim0 tr)) id opcode rd) (some q)) tr payload e l))
        (.response (toWriterAlg alg) mac secret) (prepOf kn t nowT 0), []⟩).2.log
      = View.ofResolution (specResolve (specBuild eqv ⟨apex, cls, glue, []⟩ rs) (fold qn) qtype) :=
  C05 eqv apex cls glue rs qn qtype tr _ ha hawf hqwf hq
    (queryReady_signed_state bufLen tr payload id opcode rd hbuf hpay hpay16 q qn hp hw hl hqwf e l hl1 hl2
      alg mac secret t kn nowT hkn hfit) hnt

/-! ### what can enter the additional section (used by C09)

  Every record the answering phase adds to the *additional* section is an address record: the only
  `add_additional_rrset` calls of query.rs are those of `add_additional_addresses`, with type A, or
  AAAA in class IN. This holds for every zone tree (API-built or not), every query and every writer
  behaviour — so no OPT- or TSIG-typed record stored in a zone can reach the additional section
  (such a record can only be *answered*: it then sits in the answer section). -/

/-- on the calls: every logged `add_additional_*` call of the answering logic has type A or AAAA -/
theorem C09_answer_phase_additional_calls (z : Zone.Zone) (qname : WName) (qtype : Nat) (ps : PS) :
    ∃ evs, (inner z qname qtype ps).2.log = ps.log ++ evs ∧
      ∀ a, Ev.add a ∈ evs → a.sec = .additional → a.ty = 1 ∨ a.ty = 28 := by
  obtain ⟨evs, hl, hP⟩ := (LogsT.inner z qname qtype).events ps
  exact ⟨evs, hl, fun a ha hs => hP _ ha a rfl hs⟩

/-- **on the view**: the additional section that `handle_non_axfr_query` builds holds only records
    of type 1 (A) or 28 (AAAA) -/
theorem C09_answer_phase_additional_is_address_only (z : Zone.Zone) (qname : WName) (qtype : Nat) (tr : Transport)
    (w : Writer.State) (hnb : NoBad (handleNonAxfrQueryL z qname qtype tr ⟨w, []⟩).2.log) :
    ∀ r ∈ (view (handleNonAxfrQueryL z qname qtype tr ⟨w, []⟩).2.log).additional, r.rtype = 1 ∨ r.rtype = 28 :=
  view_additional_types _ (handle_addrTy z qname qtype tr w (handle_log z qname qtype tr ⟨w, []⟩ hnb).1)

/-! ### the ghost log is what the writer holds (the tie to C12's content layout) -/

open QV.ServerScan QV.ServerContent in
/-- **the log is the content**: run on a `Good` writer (the writer's invariant, a limit a DNS message
    can have, content layout `b0`) in which `Hint::Qname` is valid for the queried name,
    `handle_non_axfr_query` leaves a `Good` writer whose layout is `b0` plus the records of the logged
    `add_*` calls that succeeded (`bodyOf`, in call order, by section; reset where `clear_rrs` ran);
    the questions are untouched; and if `b0` held no records, the three record sections of that
    layout are — record for record — those of the `view` of the log, the abstraction `C05` speaks
    about. Every `add_*` call is made with a well-formed owner and a valid hint (C01's induction),
    which is what the writer's per-call content lemmas need. -/
theorem C05_log_is_content (z : Zone.Zone) (hz : ServerSafety.ZoneOK z) (qname : WName) (hq : qname.WF)
    (qtype : Nat) (tr : Transport) (hsub : z.apex <:+ fold qname) (w : Writer.State) (b0 : Writer.Body)
    (hG : Good w b0) (hh : ServerSafety.HintOK Writer.Den w .qname qname) :
    Good (handleNonAxfrQueryL z qname qtype tr ⟨w, []⟩).2.w
      (bodyOf b0 (handleNonAxfrQueryL z qname qtype tr ⟨w, []⟩).2.log) ∧
    (bodyOf b0 (handleNonAxfrQueryL z qname qtype tr ⟨w, []⟩).2.log).qs = b0.qs ∧
    (b0.an = [] ∧ b0.ns = [] ∧ b0.ar = [] →
      BodyView (bodyOf b0 (handleNonAxfrQueryL z qname qtype tr ⟨w, []⟩).2.log)
        (view (handleNonAxfrQueryL z qname qtype tr ⟨w, []⟩).2.log)) :=
  ⟨good_handleNonAxfrQueryL z hz qname hq qtype tr hsub w b0 hG hh, bodyOf_qs _ _, fun hb => bodyOf_view b0 hb _⟩

open QV.ServerScan QV.ServerContent in
/-- **the writer `handle_query` leaves shows the resolution**: for a question the catalog answers from a loaded
    zone, run on a `Good`, `QueryReady` state with AA / TC / RCODE clear — if the zone was built through the zone
    API and no call reported `Truncation`, the writer is `Good` and its body and header are those of `specResolve`
    (`answer_exposed`: the log is the content; `C05`: the view of the log is the resolution) -/
private theorem answered_writer (cfg : Cfg) (hcfg : ServerSafety.CfgWF cfg) (tr : Transport) (q : Spec.DQuestion)
    (qn : WName) (hqn : WName.parse q.qname = some (qn, [])) (c1 : ¬ (251 ≤ q.qtype ∧ q.qtype ≤ 254))
    (c2 : q.qclass ≠ 255) (c3 : catKind cfg q.qname q.qclass = some .loaded) (S : Writer.State)
    (gS : Good S (qBody (some q))) (hqr : QueryReady S qn) (hvS : HdrView S {}) :
    ∃ e ze, Catalog.lookup (mkCatalog cfg.zones) qn.labels q.qclass = some e ∧ e.kind = .Loaded ∧
      cfg.zones[e.zone]? = some ze ∧
      ∀ (eqv : Eqv) (apex : NameL.Name) (cls : Nat) (glue : GluePolicy) (rs : List Rec),
        ze.zone = build eqv (Zone.new apex cls glue) rs → Folded apex →
        NoTruncation (handleNonAxfrQueryL ze.zone qn q.qtype tr ⟨S, []⟩).2.log →
        ∃ bd, Good ((handleQuery cfg (some (qn, q.qtype, q.qclass)) tr >>= fun _ => (pure true : M Bool)) S).2 bd ∧
          BodyView bd (View.ofResolution (specResolve (specBuild eqv ⟨apex, cls, glue, []⟩ rs) (fold qn) q.qtype)) ∧
          HdrView ((handleQuery cfg (some (qn, q.qtype, q.qclass)) tr >>= fun _ => (pure true : M Bool)) S).2
            (View.ofResolution (specResolve (specBuild eqv ⟨apex, cls, glue, []⟩ rs) (fold qn) q.qtype)) := by
  obtain ⟨e, ze, hl, hk, hze, hz, hsub⟩ := loaded_zone_of_catKind cfg hcfg q qn hqn c3
  obtain ⟨_, hG, hH, hBV, _, hst, _⟩ :=
    answer_exposed cfg tr qn (parse_wf hqn) q c1 c2 e hl hk ze hze hz hsub S gS hqr hvS _ rfl
  refine ⟨e, ze, hl, hk, hze, fun eqv apex cls glue rs hzb ha hnt => ?_⟩
  have hap : ze.zone.apex = apex := by
    rw [hzb, (Rel.reachable eqv apex cls glue rs).apex]; exact (specBuild_fields eqv _ rs).1
  have hC := C05 eqv apex cls glue rs qn q.qtype tr _ ha (by rw [← hap]; exact hz.apex_wf) (parse_wf hqn)
    (by rw [← hap]; exact hsub) hqr (by rw [← hzb]; exact hnt)
  rw [← hzb] at hC
  rw [hC.2] at hH hBV
  rw [hst]
  exact ⟨_, hG, hBV, hH⟩

/-- the slot is set exactly when `c` says so -/
private theorem isSome_of_map_ite {α β : Type} {o : Option α} {f : α → β} {c : Bool} {x : β}
    (h : o.map f = if c then some x else none) : o.isSome = c := by
  cases c <;> cases o <;> simp_all

open QV.ServerScan QV.ServerContent in
/-- **C05 end to end, on the decoded response.**  For every configuration the API can hold
    (`CfgWF`), transport, buffer and request whose scan ends with "a loaded zone answers" (no TSIG):
    the request has one question `q`, the catalog's longest-suffix match for its QNAME and QCLASS is a
    loaded zone `ze`, and — if that zone was built through the zone API and no writer call of the
    answering phase reported `Truncation` — **every** decoding `d` of the response octets under the
    independent message decoder has
    * RCODE (4 bits) and AA of `specResolve` on that zone, QNAME (case-folded) and QTYPE; TC clear;
    * answer and authority sections equal to `specResolve`'s, record for record and in order: owner
      equal up to ASCII case, TYPE, CLASS, TTL (as `Ttl::from` stores it), RDATA octet for octet for
      types without compressible names (`RRMatch`);
    * additional section = `specResolve`'s, followed by the OPT record iff the scan reached an OPT.
    The chain: `hwc_answer_state` (scan ⇒ `handle_query` on the explicit scan state;
    `scanAndDispatch_answer`, Proofs/ScanRefine.lean), `loaded_zone_of_catKind` and `answer_exposed` (catalog ⇒
    `handle_non_axfr_query` on `ze.zone`; via `clay_handleNonAxfrQueryL` the log is the content layout and header octets of the final writer),
    `C05` (view of the log = `specResolve`), the writer's `finish_decodes_content` (C12: layout ⇒ decoding). -/
theorem C05_end_to_end (cfg : Cfg) (hcfg : ServerSafety.CfgWF cfg) (tr : Transport) (now bufLen : Nat) (req : Bytes)
    (hbuf : minBuf tr cfg.payload ≤ bufLen) (hpay : 512 ≤ cfg.payload) (hp16 : cfg.payload ≤ 65535)
    (hreq : req.size ≤ Rdata.USIZE_MAX)
    (hv : (Spec.Server.specScanWith (catKind cfg) cfg.payload req).verdict = .answer)
    (b : Bytes) (hb : handleMessage cfg tr now bufLen req = .ok (some b)) :
    ∃ (q : Spec.DQuestion) (qn : WName) (e : Catalog.Entry Unit) (ze : ZoneEntry),
      (Spec.Server.specScanWith (catKind cfg) cfg.payload req).question = some q ∧
      WName.parse q.qname = some (qn, []) ∧
      Catalog.lookup (mkCatalog cfg.zones) qn.labels q.qclass = some e ∧ e.kind = .Loaded ∧
      cfg.zones[e.zone]? = some ze ∧
      ∀ (eqv : Eqv) (apex : NameL.Name) (cls : Nat) (glue : GluePolicy) (rs : List Rec),
        ze.zone = build eqv (Zone.new apex cls glue) rs → Folded apex →
        NoTruncation (handleNonAxfrQueryL ze.zone qn q.qtype tr
          ⟨scanState cfg tr bufLen req (Spec.Server.hdr req 0) (((req.getD 2 0).toNat &&& 120) >>> 3)
            (((req.getD 2 0).toNat &&& 1) != 0) q, []⟩).2.log →
        ∀ d, Spec.specDecodeMsg b = some d →
          d.rcode = (specResolve (specBuild eqv ⟨apex, cls, glue, []⟩ rs) (fold qn) q.qtype).rcode % 16 ∧
          d.aa = (specResolve (specBuild eqv ⟨apex, cls, glue, []⟩ rs) (fold qn) q.qtype).aa ∧
          d.tc = false ∧
          All2 RRMatch (specResolve (specBuild eqv ⟨apex, cls, glue, []⟩ rs) (fold qn) q.qtype).answer d.an ∧
          All2 RRMatch (specResolve (specBuild eqv ⟨apex, cls, glue, []⟩ rs) (fold qn) q.qtype).authority d.ns ∧
          ∃ ar' opt, d.ar = ar' ++ opt ∧
            All2 RRMatch (specResolve (specBuild eqv ⟨apex, cls, glue, []⟩ rs) (fold qn) q.qtype).additional ar' ∧
            opt.length = (if (Spec.Server.specScanWith (catKind cfg) cfg.payload req).edns then 1 else 0) ∧
            ∀ o ∈ opt, o.ty = 41 := by
  obtain ⟨h12, _, hsb, w1, mac, hh, hf⟩ := handleMessage_some cfg tr now bufLen req hbuf hpay b hb (catKind cfg) cfg.payload
  rw [hsb] at hv ⊢
  obtain ⟨q, qn, nx, hq0, hsq, hqn, hqw, hwl, c1, c2, c3, heq⟩ :=
    hwc_answer_state cfg tr now bufLen req hbuf hpay h12 hreq (Spec.Server.hdr req 0)
      (((req.getD 2 0).toNat &&& 120) >>> 3) (((req.getD 2 0).toNat &&& 1) != 0) hv
  obtain ⟨hts, he⟩ := hwc_answer_slot cfg tr now bufLen req hbuf hpay h12 hreq (Spec.Server.hdr req 0)
    (((req.getD 2 0).toNat &&& 120) >>> 3) (((req.getD 2 0).toNat &&& 1) != 0) hv
  obtain ⟨gS, hqrS, hvS, _⟩ := scanState_facts cfg tr bufLen req hbuf hpay hp16 (Spec.Server.hdr req 0)
    (((req.getD 2 0).toNat &&& 120) >>> 3) (((req.getD 2 0).toNat &&& 1) != 0) q qn nx hsq hqn hqw hwl
  obtain ⟨e, ze, hl, hk, hze, hfin⟩ := answered_writer cfg hcfg tr q qn hqn c1 c2 c3 _ gS hqrS hvS
  refine ⟨q, qn, e, ze, hq0, hqn, hl, hk, hze, fun eqv apex cls glue rs hzb ha hnt d hd => ?_⟩
  obtain ⟨bd, hG, hBV, hH⟩ := hfin eqv apex cls glue rs hzb ha hnt
  rw [hh] at hts he
  rw [← heq, hh] at hG hH
  obtain ⟨r1, r2, r3, r4, r5, ar', opt, r6, r7, r8, r9⟩ := decoded_of_good_view _ _ _ hG hBV hts hH b mac hf d hd
  exact ⟨r1, r2, r3, r4, r5, ar', opt, r6, r7, by rw [r8, isSome_of_map_ite he], r9⟩


open QV.ServerScan QV.ServerContent in
/-- **C05 end to end for authenticated (TSIG-signed) requests.**  As `C05_end_to_end`, for a request
    whose scan reaches a well-formed TSIG record that the TSIG step authenticates and whose
    end-of-message check / decision table says "a loaded zone answers": every decoding of the response
    has the RCODE (4 bits), AA, TC = 0 and the answer and authority sections of `specResolve` on the
    selected zone, and its additional section is `specResolve`'s followed by the OPT record (iff the
    scan reached an OPT) and the TSIG record. -/
theorem C05_end_to_end_signed (cfg : Cfg) (hcfg : ServerSafety.CfgWF cfg) (tr : Transport) (now bufLen : Nat)
    (req : Bytes)
    (hbuf : minBuf tr cfg.payload ≤ bufLen) (hpay : 512 ≤ cfg.payload) (hp16 : cfg.payload ≤ 65535)
    (hreq : req.size ≤ Rdata.USIZE_MAX)
    (hr : (Spec.Server.specScanWith (catKind cfg) cfg.payload req).respond = true)
    (hv : (Spec.Server.specScanWith (catKind cfg) cfg.payload req).verdict = .tsigReached) :
    ∃ (t : Tsig.ReadTsigRr) (mw : Bytes) (r' : Reader.Reader), r'.octets = req ∧ r'.cursor ≤ req.size ∧
      ∀ r'' S, Server.tsigAfter cfg now t mw r' (preTsigState cfg tr bufLen req) = (.ok (some r''), S) →
        endVerdict (catKind cfg) req.size (Spec.Server.specScanWith (catKind cfg) cfg.payload req).question
          r'.cursor ((req.getD 2 0).toNat / 8 % 16) = .answer →
      ∀ b, handleMessage cfg tr now bufLen req = .ok (some b) →
        ∃ (q : Spec.DQuestion) (qn : WName) (e : Catalog.Entry Unit) (ze : ZoneEntry),
          (Spec.Server.specScanWith (catKind cfg) cfg.payload req).question = some q ∧
          WName.parse q.qname = some (qn, []) ∧
          Catalog.lookup (mkCatalog cfg.zones) qn.labels q.qclass = some e ∧ e.kind = .Loaded ∧
          cfg.zones[e.zone]? = some ze ∧
          ∀ (eqv : Eqv) (apex : NameL.Name) (cls : Nat) (glue : GluePolicy) (rs : List Rec),
            ze.zone = build eqv (Zone.new apex cls glue) rs → Folded apex →
            NoTruncation (handleNonAxfrQueryL ze.zone qn q.qtype tr ⟨S, []⟩).2.log →
            ∀ d, Spec.specDecodeMsg b = some d →
              d.rcode = (specResolve (specBuild eqv ⟨apex, cls, glue, []⟩ rs) (fold qn) q.qtype).rcode % 16 ∧
              d.aa = (specResolve (specBuild eqv ⟨apex, cls, glue, []⟩ rs) (fold qn) q.qtype).aa ∧
              d.tc = false ∧
              All2 RRMatch (specResolve (specBuild eqv ⟨apex, cls, glue, []⟩ rs) (fold qn) q.qtype).answer d.an ∧
              All2 RRMatch (specResolve (specBuild eqv ⟨apex, cls, glue, []⟩ rs) (fold qn) q.qtype).authority d.ns ∧
              ∃ ar' rest, d.ar = ar' ++ rest ∧
                All2 RRMatch (specResolve (specBuild eqv ⟨apex, cls, glue, []⟩ rs) (fold qn) q.qtype).additional ar' ∧
                rest.length = (if (Spec.Server.specScanWith (catKind cfg) cfg.payload req).edns then 1 else 0) + 1 ∧
                ∀ o ∈ rest, o.ty = 41 ∨ o.ty = 250 := by
  obtain ⟨t, mw, r', h1, h2, h3⟩ := signed_answer_state cfg tr now bufLen req hbuf hpay hp16 hreq hr hv
  refine ⟨t, mw, r', h1, h2, fun r'' S hT hev b hb => ?_⟩
  obtain ⟨q, qn, nowT, alg, key, kn, hq0, hqn, c1, c2, c3, _, _, _, _, _, _, gS, hqrS, hvS, hkeep, h4⟩ :=
    h3 r'' S hT hev b hb
  obtain ⟨e, ze, hl, hk, hze, hfin⟩ := answered_writer cfg hcfg tr q qn hqn c1 c2 c3 S gS hqrS hvS
  refine ⟨q, qn, e, ze, hq0, hqn, hl, hk, hze, fun eqv apex cls glue rs hzb ha hnt d hd => ?_⟩
  obtain ⟨bd, hG, hBV, hH⟩ := hfin eqv apex cls glue rs hzb ha hnt
  obtain ⟨w1, mac, hh, hf⟩ := run_of_response _ h4
  obtain ⟨hts, he⟩ := hkeep true w1 hh
  rw [hh] at hG hH
  obtain ⟨r1, r2, r3, r4, r5, ar', rest, r6, r7, r8, r9⟩ := decoded_of_good_view' _ _ _ hG hBV hH b mac hf d hd
  exact ⟨r1, r2, r3, r4, r5, ar', rest, r6, r7, by rw [r8, hts, isSome_of_map_ite he]; rfl, r9⟩

end QV.C05
