/-
  C03 — Responses echo the request header and question.

  "A response carries the request's ID and opcode with QR set, copies RD only for opcode QUERY, and
   never sets RA or the reserved header bits. When the request has exactly one parseable question,
   the response repeats it octet-for-octet; requests with the QR bit set, shorter than 12 octets,
   or with more than one question get no response at all."

  Model: `QV.Server.handleMessage` (byte-exact model of src/server/mod.rs `Server::handle_message`,
  RRL off; tied to the source by the `srv` correspondence op on every run).
  Spec:  `QV.Spec.Server.specScanWith` (the scan in message order) and `specErrorResponse`.

  Shape: refinement. The theorems quantify over every configuration (payload size ≥ 512 — the
  setter refuses less —, any catalog, any keys), both transports, every response-buffer length the
  API admits, every clock value and every request octet string of at most `usize::MAX` octets.

  Proved in full (`C03 : C03_full`), for every request, catalog, key set, clock value, transport
  and buffer:
  * `C03_no_response_iff` — no response ⇔ shorter than 12 octets ∨ QR set ∨ QDCOUNT > 1;
  * `C03_echo` — *every* response (error responses, answers from a loaded zone, TSIG-processed
    requests alike) carries the request's ID and opcode, QR = 1, RD copied for QUERY only, RA and
    Z/AD/CD clear, QDCOUNT = 1 exactly when the scan decoded a question, and that question's
    uncompressed encoding as its question section. Method: the header copy and `add_question` write
    these octets (view lemmas), and every writer operation issued afterwards — the section scans,
    OPT/TSIG processing, the whole answering phase of src/server/query.rs, `finish` — is proved to
    *frame* them (`Proofs/Frame.lean`, `Proofs/FrameServer.lean`, `Proofs/ServerEcho.lean`);
  * `C03_question_octets` — if the request's QNAME is not compressed, the response's question
    section is the request's, octet for octet (case preserved).
  Additionally `C03_error_response_exact`: for the verdicts the scan decides alone the response
  exists and is exactly `specErrorResponse`.
  Scope: response rate limiting is off in this model (`rrl = None`); with RRL a response may also be
  dropped or truncated (C26–C28), which C03 does not forbid.
-/
import QV.Proofs.ServerEcho

namespace QV.C03
open QV QV.Spec.Server QV.ServerScan

/-- the header of response `b` echoes request `req` -/
structure HeaderEcho (req b : Bytes) : Prop where
  id : hdr b 0 = hdr req 0
  qr : hdr b 2 / 32768 % 2 = 1
  opcode : hdr b 2 / 2048 % 16 = hdr req 2 / 2048 % 16
  /-- RD is copied for opcode QUERY only -/
  rd : hdr b 2 / 256 % 2 = (if hdr req 2 / 2048 % 16 = 0 then hdr req 2 / 256 % 2 else 0)
  ra : hdr b 2 / 128 % 2 = 0
  /-- Z, AD, CD -/
  z : hdr b 2 / 16 % 8 = 0

/-- the question section of response `b` is the (uncompressed) encoding of question `q` -/
def QuestionEcho (q : Option Spec.DQuestion) (b : Bytes) : Prop :=
  match q with
  | none => hdr b 4 = 0
  | some q => hdr b 4 = 1 ∧
      (b.toList.drop 12).take (q.qname.length + 4) = q.qname ++ u16be q.qtype ++ u16be q.qclass

/-- C03 at full strength -/
def C03_full : Prop :=
  ∀ (cfg : Server.Cfg) (tr : Server.Transport) (now bufLen : Nat) (req : Bytes),
    minBuf tr cfg.payload ≤ bufLen → 512 ≤ cfg.payload → req.size ≤ Rdata.USIZE_MAX →
    (Server.handleMessage cfg tr now bufLen req = .ok none ↔
      (specScanWith (catKind cfg) cfg.payload req).respond = false) ∧
    ∀ b, Server.handleMessage cfg tr now bufLen req = .ok (some b) →
      HeaderEcho req b ∧ QuestionEcho (specScanWith (catKind cfg) cfg.payload req).question b

/-! ### no response: shorter than 12 octets, QR set, more than one question -/

/-- the spec's "no response" is exactly the three conditions of the property -/
theorem C03_spec_no_response (lookup : List UInt8 → Nat → Option ZoneKind) (p : Nat) (req : Bytes) :
    (specScanWith lookup p req).respond = false ↔
      (req.size < 12 ∨ (req.getD 2 0).toNat ≥ 128 ∨ hdr req 4 > 1) := by
  rw [specScanWith_eq]
  by_cases h12 : req.size < 12
  · simp only [h12, if_true, true_or]
  · by_cases hqr : (req.getD 2 0).toNat ≥ 128
    · simp only [h12, hqr, if_false, if_true, true_or, or_true]
    · simp only [h12, hqr, if_false, false_or]
      exact specBody_respond lookup p req

/-- **Theorem (all requests).** `handle_message` sends no response exactly when the request is
    shorter than 12 octets, has QR set, or has QDCOUNT > 1 — over both transports, for every
    configuration, catalog and buffer. -/
theorem C03_no_response_iff (cfg : Server.Cfg) (tr : Server.Transport) (now bufLen : Nat) (req : Bytes)
    (hbuf : minBuf tr cfg.payload ≤ bufLen) (hpay : 512 ≤ cfg.payload) :
    Server.handleMessage cfg tr now bufLen req = .ok none ↔
      (req.size < 12 ∨ (req.getD 2 0).toNat ≥ 128 ∨ hdr req 4 > 1) := by
  rw [handleMessage_none_iff cfg tr now bufLen req hbuf hpay (catKind cfg), C03_spec_no_response]

/-! ### the echo, for every response -/

/-- **Theorem (all responses).** Every response `handle_message` returns echoes the request's ID
    and opcode with QR set, copies RD for opcode QUERY only, has RA and Z/AD/CD clear, and repeats
    the question the scan decoded (QDCOUNT 0 and no question when it decoded none). -/
theorem C03_echo (cfg : Server.Cfg) (tr : Server.Transport) (now bufLen : Nat) (req : Bytes)
    (hbuf : minBuf tr cfg.payload ≤ bufLen) (hpay : 512 ≤ cfg.payload) (b : Bytes)
    (h : Server.handleMessage cfg tr now bufLen req = .ok (some b)) :
    HeaderEcho req b ∧ QuestionEcho (specScanWith (catKind cfg) cfg.payload req).question b := by
  obtain ⟨e1, e2, e3, e4, e5, e6, e7, e8⟩ := response_echo cfg tr now bufLen req hbuf hpay b h
  refine ⟨⟨e1, e2, e3, e4, e5, e6⟩, ?_⟩
  unfold QuestionEcho
  cases hq : (specScanWith (catKind cfg) cfg.payload req).question with
  | none => rw [hq] at e7; simpa using e7
  | some q =>
    rw [hq] at e7 e8
    refine ⟨by simpa using e7, ?_⟩
    have hl : (qOctets (some q)).length = q.qname.length + 4 := by simp [qOctets, u16be_length]
    rw [hl] at e8
    rw [e8]
    simp [qOctets]

/-- **C03.** The property at full strength. -/
theorem C03 : C03_full := by
  intro cfg tr now bufLen req hbuf hpay _
  refine ⟨?_, fun b hb => C03_echo cfg tr now bufLen req hbuf hpay b hb⟩
  rw [handleMessage_none_iff cfg tr now bufLen req hbuf hpay (catKind cfg)]

/-- **Corollary (octet for octet).** If the request's QNAME is not compressed (the octets at offset
    12 are the decoded QNAME), the response's question section is octet-for-octet the request's:
    QNAME with its case preserved, QTYPE, QCLASS. -/
theorem C03_question_octets (cfg : Server.Cfg) (tr : Server.Transport) (now bufLen : Nat) (req : Bytes)
    (hbuf : minBuf tr cfg.payload ≤ bufLen) (hpay : 512 ≤ cfg.payload) (b : Bytes)
    (h : Server.handleMessage cfg tr now bufLen req = .ok (some b))
    (q : Spec.DQuestion) (hq : (specScanWith (catKind cfg) cfg.payload req).question = some q)
    (hlit : (req.extract 12 (12 + q.qname.length)).toList = q.qname) :
    (b.toList.drop 12).take (q.qname.length + 4) = (req.extract 12 (12 + q.qname.length + 4)).toList := by
  obtain ⟨_, hqe⟩ := C03_echo cfg tr now bufLen req hbuf hpay b h
  rw [hq] at hqe
  rw [hqe.2]
  obtain ⟨nx, hsq⟩ := specScanWith_question _ _ _ q hq
  exact question_octets_eq_request req q.qname q.qtype q.qclass nx hsq hlit

/-- for the verdicts the scan decides alone the response exists and is exactly the prescribed one -/
theorem C03_error_response_exact (cfg : Server.Cfg) (tr : Server.Transport) (now bufLen : Nat) (req : Bytes)
    (hbuf : minBuf tr cfg.payload ≤ bufLen) (hpay : 512 ≤ cfg.payload) (hreq : req.size ≤ Rdata.USIZE_MAX)
    (hr : (specScanWith (catKind cfg) cfg.payload req).respond = true)
    (hv : noDataV (specScanWith (catKind cfg) cfg.payload req).verdict = true) :
    ∃ b, Server.handleMessage cfg tr now bufLen req = .ok (some b) ∧
      b.toList = specErrorResponse req cfg.payload (specScanWith (catKind cfg) cfg.payload req) :=
  server_error_response cfg tr now bufLen req hbuf hpay hreq hr hv

/-! ### non-vacuity: concrete requests -/

/-- `. IN NS`, RD set, opcode QUERY; the catalog is empty ⇒ REFUSED -/
def exQuery : Bytes := #[0x12, 0x34, 0x01, 0x00, 0, 1, 0, 0, 0, 0, 0, 0, 0, 0, 2, 0, 1]
def exCfg : Server.Cfg := { payload := 1232, zones := [] }

example : (specScanWith (catKind exCfg) 1232 exQuery).respond = true ∧
    (specScanWith (catKind exCfg) 1232 exQuery).verdict = .refused := by decide +kernel

/-- the theorem applies, and the response it prescribes is the expected one: same ID, `0x81`
    (QR, opcode 0, RD), RCODE 5, the question repeated -/
example : ∃ b, Server.handleMessage exCfg .udp 0 65535 exQuery = .ok (some b) ∧
    b.toList = [0x12, 0x34, 0x81, 0x05, 0, 1, 0, 0, 0, 0, 0, 0, 0, 0, 2, 0, 1] := by
  obtain ⟨b, hb, hl⟩ := server_error_response exCfg .udp 0 65535 exQuery (hbuf := by decide) (hpay := by decide)
    (hreq := by decide) (hr := by decide +kernel) (hv := by decide +kernel)
  exact ⟨b, hb, by rw [hl]; decide +kernel⟩

/-- an opcode other than QUERY (here 2, STATUS) with RD set: RD is not copied -/
def exStatus : Bytes := #[0, 7, 0x11, 0x00, 0, 0, 0, 0, 0, 0, 0, 0]
example : specErrorResponse exStatus 1232 (specScanWith (catKind exCfg) 1232 exStatus) =
    [0, 7, 0x90, 0x04, 0, 0, 0, 0, 0, 0, 0, 0] := by decide +kernel

/-- the three no-response conditions are satisfiable and separate -/
example : Server.handleMessage exCfg .tcp 0 65535 #[1, 2, 3] = .ok none :=
  (C03_no_response_iff exCfg .tcp 0 65535 _ (by decide) (by decide)).mpr (Or.inl (by decide))
example : Server.handleMessage exCfg .udp 0 1232 #[0, 7, 0x80, 0, 0, 1, 0, 0, 0, 0, 0, 0, 0, 0, 2, 0, 1] = .ok none :=
  (C03_no_response_iff exCfg .udp 0 1232 _ (by decide) (by decide)).mpr (Or.inr (Or.inl (by decide)))
example : Server.handleMessage exCfg .udp 0 1232 #[0, 7, 0, 0, 0, 2, 0, 0, 0, 0, 0, 0] = .ok none :=
  (C03_no_response_iff exCfg .udp 0 1232 _ (by decide) (by decide)).mpr (Or.inr (Or.inr (by decide)))
example : ¬ (exQuery.size < 12 ∨ (exQuery.getD 2 0).toNat ≥ 128 ∨ hdr exQuery 4 > 1) := by decide

/-- a mixed-case, uncompressed QNAME `wWw.A.`: the hypotheses of the octet-for-octet corollary hold -/
def exMixed : Bytes := #[0, 9, 0, 0, 0, 1, 0, 0, 0, 0, 0, 0, 3, 119, 87, 119, 1, 65, 0, 0, 1, 0, 1]
example : (specScanWith (catKind exCfg) 1232 exMixed).question = some ⟨[3, 119, 87, 119, 1, 65, 0], 1, 1⟩ ∧
    (exMixed.extract 12 (12 + 7)).toList = [3, 119, 87, 119, 1, 65, 0] := by decide +kernel

end QV.C03
