/-
  C06 — Zone lookups follow RFC 1034 and RFC 4592.

  "For any zone contents, name and lookup options, the zone store's single-type, address and
   all-records lookups return the outcome an independent model of RFC 1034 §4.3.2 and RFC 4592
   prescribes: found data (with the wildcard source of synthesis when one was used), a CNAME, a
   referral to the topmost delegation on the path, no records for existing or empty non-terminal
   names, a name error, or wrong-zone. Searching below zone cuts ignores delegations, and checked
   lookups reject names outside the zone."

  Model: `QV.Model.Zone` (mirrors src/db/hash_map_tree/{zone,node}.rs, src/db/rrset.rs).
  Spec: `QV.Spec.Zone` — a zone is a flat list of records; `specLookup*` (executable) and
  `BaseSpec` (declarative: existence, topmost cut, closest encloser, source of synthesis).
  Names are case-folded label lists (see `QV.Model.NameL`); RDATA equality for de-duplication
  is a parameter `eqv` (no assumption on it is needed for C06).

  Proof: `QV.Proofs.ZoneRefine` (refinement relation `Rel` between tree and flat list, preserved
  by every `add`), `QV.Proofs.ZoneLookup` (tree walk = flat walk = `specLookupBase`),
  `QV.Proofs.ZoneSpec` (`specLookupBase` satisfies `BaseSpec`, which is functional).
-/
import QV.Proofs.ZoneLookup

namespace QV.C06
open QV QV.NameL QV.Zone QV.Spec.Zone

/-- The property at full strength: for every add sequence (every reachable tree), every name,
    type and option combination whose precondition holds, the three lookups of the tree return
    exactly what the flat-list specification prescribes — and they do not panic. -/
def C06_full : Prop :=
  ∀ (eqv : Eqv) (apex : Name) (cls : Nat) (glue : GluePolicy) (rs : List Rec) (n : Name) (t : Nat) (o : Opts),
    constrained (specBuild eqv ⟨apex, cls, glue, []⟩ rs) n o = true →
      lookup (build eqv (Zone.new apex cls glue) rs) n t o
        = .ok (specLookup (specBuild eqv ⟨apex, cls, glue, []⟩ rs) n t o) ∧
      lookupAddrs (build eqv (Zone.new apex cls glue) rs) n o
        = .ok (specLookupAddrs (specBuild eqv ⟨apex, cls, glue, []⟩ rs) n o) ∧
      lookupAll (build eqv (Zone.new apex cls glue) rs) n o
        = .ok (specLookupAll (specBuild eqv ⟨apex, cls, glue, []⟩ rs) n o)

/-- **Main theorem**: C06 holds at full strength. -/
theorem C06_holds : C06_full := by
  intro eqv apex cls glue rs n t o hc
  have h := Rel.reachable eqv apex cls glue rs
  exact ⟨lookup_eq_spec h n t o hc, lookupAddrs_eq_spec h n o hc, lookupAll_eq_spec h n o hc⟩

/-- The node search of every reachable tree satisfies the *declarative* specification: wrong
    zone iff the name is not at or below the apex; otherwise a referral to the topmost delegation
    at or above the name (unless searching below cuts); otherwise the name's own RRsets if it
    exists (possibly none: empty non-terminal); otherwise the RRsets of `*.<closest encloser>`
    with that name as source of synthesis if it exists; otherwise a name error. -/
theorem C06_declarative (eqv : Eqv) (apex : Name) (cls : Nat) (glue : GluePolicy) (rs : List Rec) (n : Name)
    (o : Opts) (hc : constrained (specBuild eqv ⟨apex, cls, glue, []⟩ rs) n o = true) :
    ∃ b, lookupBase (build eqv (Zone.new apex cls glue) rs) n o = .ok b ∧
      BaseSpec (specBuild eqv ⟨apex, cls, glue, []⟩ rs) n o.searchBelowCuts b :=
  ⟨_, lookupBase_eq_spec (Rel.reachable eqv apex cls glue rs) n o hc, specLookupBase_sound _ _ _⟩

/-- … and that specification determines the outcome uniquely. -/
theorem C06_spec_functional (z : SZone) (n : Name) (sbc : Bool) (b b' : Base)
    (h : BaseSpec z n sbc b) (h' : BaseSpec z n sbc b') : b = b' := h.unique h'

/-- The executable oracle used by the correspondence check is the declarative specification. -/
theorem C06_oracle_iff (z : SZone) (n : Name) (sbc : Bool) (b : Base) :
    BaseSpec z n sbc b ↔ specLookupBase z n sbc = b :=
  ⟨fun h => (specLookupBase_sound z n sbc).unique h, fun h => h ▸ specLookupBase_sound z n sbc⟩

/-- Checked lookups reject names outside the zone (whatever the zone contains). -/
theorem C06_wrong_zone (eqv : Eqv) (apex : Name) (cls : Nat) (glue : GluePolicy) (rs : List Rec) (n : Name)
    (t : Nat) (sbc : Bool) (hn : ¬ apex <:+ n) :
    lookup (build eqv (Zone.new apex cls glue) rs) n t ⟨false, sbc⟩ = .ok .wrongZone := by
  have h := Rel.reachable eqv apex cls glue rs
  rw [lookup_eq_spec h n t ⟨false, sbc⟩ (by simp [constrained])]
  have ha : (specBuild eqv ⟨apex, cls, glue, []⟩ rs).apex = apex := (specBuild_fields eqv _ rs).1
  have : apex.isSuffixOf n = false := isSuffixOf_eq_false hn
  simp [specLookup, specLookupBase, ha, this]

/-- Unchecked lookups answer exactly like checked ones whenever their precondition holds. -/
theorem C06_unchecked_same (eqv : Eqv) (apex : Name) (cls : Nat) (glue : GluePolicy) (rs : List Rec) (n : Name)
    (t : Nat) (sbc : Bool) (hn : apex <:+ n) :
    lookup (build eqv (Zone.new apex cls glue) rs) n t ⟨true, sbc⟩
      = lookup (build eqv (Zone.new apex cls glue) rs) n t ⟨false, sbc⟩ := by
  have h := Rel.reachable eqv apex cls glue rs
  have ha : (specBuild eqv ⟨apex, cls, glue, []⟩ rs).apex = apex := (specBuild_fields eqv _ rs).1
  rw [lookup_eq_spec h n t ⟨true, sbc⟩ (by simp [constrained, ha, List.isSuffixOf_iff_suffix.mpr hn]),
      lookup_eq_spec h n t ⟨false, sbc⟩ (by simp [constrained])]
  rfl

/-- The model's only panic: an unchecked lookup of a name with fewer labels than the apex
    (`name.len() - self.name().len()` underflows; LookupOptions allows this: "may panic"). -/
theorem C06_unchecked_panic_iff (z : Zone) (n : Name) (sbc : Bool) :
    lookupBase z n ⟨true, sbc⟩ = .panic ↔ n.length < z.apex.length := by
  unfold lookupBase
  by_cases h : n.length < z.apex.length <;> simp [h]

/-! ### non-vacuity: a concrete zone exercising wildcard synthesis, an empty non-terminal,
    a referral, search below the cut and a name error (RFC 4592 §2.2.1 in miniature) -/

def oct : Eqv := fun _ _ a b => a == b
def lz : Label := [122]
def la : Label := [97]
def lb : Label := [98]
def lx : Label := [120]
/-- `*.z TXT`, `b.a.z A` (so `a.z` is an empty non-terminal), `sub.z NS`, `x.sub.z A` (glue) -/
def exRecs : List Rec :=
  [⟨[asterisk, lz], 16, 1, 60, [1, 120]⟩, ⟨[lb, la, lz], 1, 1, 60, [127, 0, 0, 1]⟩,
   ⟨[[115], lz], 2, 1, 60, [1, 120, 1, 115, 1, 122, 0]⟩, ⟨[lx, [115], lz], 1, 1, 60, [127, 0, 0, 2]⟩]
def exZone : Zone := build oct (Zone.new [lz] 1 .narrow) exRecs

example : lookup exZone [lx, lz] 16 ⟨false, false⟩ = .ok (.found ⟨16, 60, [[1, 120]]⟩ (some [asterisk, lz])) := by decide
example : lookup exZone [la, lz] 16 ⟨false, false⟩ = .ok (.noRecords none) := by decide
example : lookup exZone [lx, la, lz] 16 ⟨false, false⟩ = .ok .nxDomain := by decide
example : lookup exZone [lx, [115], lz] 1 ⟨false, false⟩
    = .ok (.referral [[115], lz] ⟨2, 60, [[1, 120, 1, 115, 1, 122, 0]]⟩) := by decide
example : lookup exZone [lx, [115], lz] 1 ⟨false, true⟩ = .ok (.found ⟨1, 60, [[127, 0, 0, 2]]⟩ none) := by decide
example : lookup exZone [lx] 1 ⟨false, false⟩ = .ok .wrongZone := by decide
example : constrained (specBuild oct ⟨[lz], 1, .narrow, []⟩ exRecs) [lx, lz] ⟨true, false⟩ = true := by decide

end QV.C06
