/-
  C25 — $INCLUDE behaves like textual inclusion with origin scoping.

  "Parsing a zone file from the file system yields the same records as parsing the equivalent
   file with each $INCLUDE replaced by the included file's contents, where the included file
   starts with the includer's context (or the directive's origin) and the includer's origin is
   restored afterwards. Relative include paths resolve against the including file's directory,
   and nesting deeper than the configured limit is an error."

  Model: `QV.Model.Include` (the include stack of `fs::Parser::next`).  Spec:
  `QV.Spec.Include.readFile` (recursive semantics, no stack).

  ══ REPORT ══

  PROVED (19 theorems; `_partial` = under the cut hypothesis below)
   * the include-stack machine of `fs::Parser::next` yields exactly what the recursive semantics
     `readTree` reports, for every file tree, resolver and depth limit, cyclic includes included
     (`C25_machine_refines_spec`); it terminates and never panics (`C25_total`, `C25_fsBound`);
   * the clauses of the property on the semantics: nesting deeper than the limit is the error
     `IncludesTooDeep` at the directive's line (`C25_depth_limit`); the included file starts with
     the includer's context, or the directive's origin (`C25_include_context`); the includer's
     origin is restored, TTL / class / owner flow on (`C25_origin_restored`); relative paths
     resolve against the including file's directory, absolute ones do not (`C25_path_examples`);
   * three invariances of the in-memory parser, each by a chain over every function of its
     model: compositionality at line ends (`C25_parse_append`, `C25_line_frame`,
     `C25_file_of_records`), independence of the line counter (`C25_line_shift`), reader outside
     parentheses after a complete reading (`C25_ends_outside_parens`);
   * from these the literal "textual inclusion": for file trees of any nesting, cut at their
     `$INCLUDE` lines, the records of the tree reading are the records of the flattened text —
     each `$INCLUDE` line replaced by the included file's content, the origin scoping emulated by
     `$ORIGIN` lines (`C25_origin_line`) — on the semantics (`C25_flatten_tree_partial`) and on
     the machine (`C25_flatten_machine_partial`); one-level special cases
     `C25_include_is_textual_partial`, `C25_flatten_one_partial`; `recsOfSY_tagged`.
  ORACLE-ONLY (checked on every run, not proved)
   * the flattening equation for trees that are NOT given cut at their `$INCLUDE` lines, and for
     trees whose reading ends in an error: op `incflat` — the harness flattens the tree itself
     and parses the single file with the real in-memory parser; the record lists must be equal;
   * the tie of the model to src/zone_file/fs: temp-dir file trees with sub-directories,
     relative and absolute paths, include origins, depth limits 0–5, runs of consecutive
     includes, missing files (ops of group `include`).
  RESTRICTIONS
   * `C25_flatten_*_partial`: the tree comes cut at its `$INCLUDE` lines into pieces each of which
     parses on its own and ends at a line end outside parentheses (`TreeOK`, checkable by
     evaluation); the cut is not derived from the text alone: that needs stability of the parser
     under *replacing* a suffix of its input, which is not the mirror image of the frame property
     (counter-example: the text `(` + newline);
   * `C25_machine_refines_spec`: `B` exceeds every openable file's size by 2 (termination
     measure only) and the resolver never meets `.expect("including file's path has no
     parent")` — true whenever the main path has a parent;
   * file system and `std::path` (`Path::parent`, `Path::join`, `File::open` on Unix) are
     modelled for regular files reached without symlinks; read errors (directories) are outside
     the model; the in-memory parser's iterator semantics is C23/C24's model.
  FINDINGS: none for this property.
-/
import QV.Proofs.Include
import QV.Proofs.ZoneFile.Compose
import QV.Proofs.Flatten

namespace QV.C25
open QV QV.ZF QV.Inc QV.Spec.Inc

/-!
  `runFs res B m` = everything `fs::Parser` yields when `next` is called until it returns `None`
  (`FsParser.next` and `runFs` are both built on `step`, one pass through the body of
  `fs::Parser::next`).  `res` = how an `$INCLUDE` path is resolved and opened from a given
  including file (`resolveFs fs` for a modelled file system); `B` = a number exceeding every
  openable file's size by 2 (only the *termination measure* of the machine's self-recursion
  depends on it; `fsBound fs` for a modelled file system).

  Spec: `readTree resolve maxDepth main content` — the recursive reading of a file tree
  (QV/Spec/Include.lean): an included file is read completely, starting from the includer's
  context with the origin replaced if the directive gives one; the includer continues with the
  included file's final context except for the origin, which is its own again; an `$INCLUDE` at
  depth ≥ maxDepth is the error `IncludesTooDeep`.
-/

/-- **Main theorem.** For every file tree, every resolver, every depth limit: the include-stack
    machine of `fs::Parser::next` yields exactly what the recursive semantics reports.
    Hypotheses: `B` bounds the file sizes (see above) and the resolver never hits the
    `.expect("including file's path has no parent")` panic (true whenever the main path has a
    parent: paths of opened files are `parent.join(x)`; `C25_path_examples`). Cyclic includes
    are covered: they are cut by the depth limit, in the machine and in the semantics alike. -/
theorem C25_machine_refines_spec (res : Resolver) (B D : Nat) (hB : 2 ≤ B)
    (hsize : ∀ a b p c, res a b = .opened p c → c.length + 2 ≤ B)
    (hnp : ∀ a b, res a b ≠ .noParent) (main : Path) (content : List UInt8) :
    runFs res B (FsParser.start main content D) =
      (readTree (resolveOf res) D main content).map conv := by
  have := runFs_refines res B D hB hsize hnp main 0 (Parser.new content) CtxWF_default 0 [] rfl
  unfold FsParser.start readTree
  rw [this]
  cases (readFile (resolveOf res) D main 0 (Parser.new content)).2 <;> simp [contRun]

/-- The machine's self-recursion (`return self.next()`) terminates — the measure decreases on
    every pass, `ModelStuck` is never reported — and it never panics. -/
theorem C25_total (res : Resolver) (B D : Nat) (hB : 2 ≤ B)
    (hsize : ∀ a b p c, res a b = .opened p c → c.length + 2 ≤ B)
    (hnp : ∀ a b, res a b ≠ .noParent) (main : Path) (content : List UInt8) :
    ∀ y ∈ runFs res B (FsParser.start main content D),
      y ≠ .panic ∧ ∀ f l, y ≠ .err f .ModelStuck l := by
  rw [C25_machine_refines_spec res B D hB hsize hnp]
  intro y hy
  obtain ⟨s, hs, rfl⟩ := List.mem_map.mp hy
  exact conv_clean ((readFile_wf _ D main 0 _ CtxWF_default).1 s hs)

/-- the bound `fsBound fs` is large enough for the modelled file system -/
theorem C25_fsBound (fs : FS) : 2 ≤ fsBound fs ∧
    ∀ a b p c, resolveFs fs a b = .opened p c → c.length + 2 ≤ fsBound fs := by
  have hmono : ∀ (l : FS) (a : Nat), a ≤ l.foldl (fun a e => max a e.2.length) a := by
    intro l
    induction l with
    | nil => intro a; simp
    | cons e l ih => intro a; simp only [List.foldl_cons]; exact Nat.le_trans (Nat.le_max_left _ _) (ih _)
  have hmem : ∀ (l : FS) (a : Nat) e, e ∈ l → e.2.length ≤ l.foldl (fun a e => max a e.2.length) a := by
    intro l
    induction l with
    | nil => intro a e he; simp at he
    | cons x l ih =>
      intro a e he
      simp only [List.foldl_cons]
      simp at he
      rcases he with rfl | he
      · exact Nat.le_trans (Nat.le_max_right _ _) (hmono l _)
      · exact ih _ e he
  refine ⟨by unfold fsBound; omega, ?_⟩
  intro a b p c h
  unfold resolveFs at h
  split at h
  · cases h
  · split at h
    · next content ho =>
      cases h
      unfold openFile at ho
      split at ho
      · cases ho
      · dsimp only at ho
        split at ho
        · split at ho
          · cases ho
          · split at ho
            · next e he =>
              cases ho
              have := hmem fs 0 e (List.mem_of_find?_eq_some he)
              unfold fsBound; omega
            · cases ho
        · cases ho
    · cases h

/-- **Depth limit.** At nesting depth `maxDepth` (or deeper) an `$INCLUDE` is an error and ends
    everything; with `maxDepth = 0` includes are disabled. -/
theorem C25_depth_limit {κ : Type} (resolve : κ → List UInt8 → Option (κ × List UInt8)) (D : Nat)
    (file : κ) (depth : Nat) (p p' : Parser) (line : Nat) (path : List UInt8)
    (origin : Option (List UInt8)) (hn : p.next = (some (.item (.incl line path origin)), p'))
    (hd : D ≤ depth) :
    readFile resolve D file depth p = ([.err file .IncludesTooDeep line], none) := by
  rw [readFile]; simp [hn, hd]

/-- the included file starts with the includer's context, or with the directive's origin -/
theorem C25_include_context (p : Parser) (content : List UInt8) (origin : Option (List UInt8)) :
    (p.newForInclude content origin).ctx =
      (match origin with
       | some o => { p.ctx with origin := some o }
       | none => p.ctx) ∧
    (p.newForInclude content origin).st = ⟨content, 1, false⟩ ∧
    (p.newForInclude content origin).error = false := by
  unfold Parser.newForInclude Parser.withContext
  cases origin <;> simp

/-- after the included file, the includer continues with the includee's final context, except
    for the origin, which is restored -/
theorem C25_origin_restored (p inc : Parser) :
    (p.updateContextFromInclude inc).ctx.origin = p.ctx.origin ∧
    (p.updateContextFromInclude inc).ctx.prevOwner = inc.ctx.prevOwner ∧
    (p.updateContextFromInclude inc).ctx.prevTtl = inc.ctx.prevTtl ∧
    (p.updateContextFromInclude inc).ctx.prevClass = inc.ctx.prevClass ∧
    (p.updateContextFromInclude inc).ctx.defaultTtl = inc.ctx.defaultTtl ∧
    (p.updateContextFromInclude inc).st = p.st := by
  simp [Parser.updateContextFromInclude]

/-- **Relative paths resolve against the including file's directory** (`compute_path` =
    `includer.parent().join(path)`), absolute paths stand for themselves — instances of the
    re-implemented `std::path` functions (their general behaviour is the environment's, compared
    with the real `std` by the correspondence group `include`). -/
theorem C25_path_examples :
    computePath "d/main.zone".toUTF8.toList "b.zone".toUTF8.toList = some "d/b.zone".toUTF8.toList ∧
    computePath "d/main.zone".toUTF8.toList "../b.zone".toUTF8.toList = some "d/../b.zone".toUTF8.toList ∧
    computePath "main.zone".toUTF8.toList "sub/b.zone".toUTF8.toList = some "sub/b.zone".toUTF8.toList ∧
    computePath "d/e/x.zone".toUTF8.toList "/abs/y".toUTF8.toList = some "/abs/y".toUTF8.toList ∧
    computePath "/".toUTF8.toList "x".toUTF8.toList = none := by
  decide +kernel

/-! ### textual inclusion: reading `a ++ b` -/

/-- **Compositionality of the in-memory parser.**  Let `a` be empty or end with a newline that
    is not preceded by a backslash (`Term a`), and let reading `a` from the context `ctx` yield
    no error (which rules out that the final newline lies inside quotes or parentheses).  Then
    reading `a ++ b` yields exactly what reading `a` yields, followed by what reading `b` yields
    from the line and the context at which `a` ended (`Parser.finish`: the parser after `next`
    has returned `None`) — for every `b`.  This is the sense in which including a file is
    *textual*: the included text can be spliced in front of any other text. -/
theorem C25_parse_append (a b : List UInt8) (ctx : Ctx) (hctx : CtxWF ctx) (ha : a = [] ∨ Term a)
    (hok : ∀ y ∈ parseAll a ctx, ∃ i, y = .item i) :
    parseAll (a ++ b) ctx =
      parseAll a ctx ++
        collect ⟨false, ⟨b, (Parser.withContext a ctx).finish.st.line, (Parser.withContext a ctx).finish.st.paren⟩,
          (Parser.withContext a ctx).finish.ctx⟩ :=
  collect_append b (p := Parser.withContext a ctx) rfl ha hctx hok

/-- the same for a single step of the iterator: as long as the text before `b` is not used up,
    `next` does not see `b` -/
theorem C25_line_frame (ctx : Ctx) (x b : List UInt8) (hx : Term x) (line : Nat) (p : Bool)
    (v : Option Item × Ctx) (y : List UInt8) (line' : Nat) (p' : Bool)
    (h : parseLine ctx ⟨x, line, p⟩ = .ok (v, ⟨y, line', p'⟩)) :
    parseLine ctx ⟨x ++ b, line, p⟩ = .ok (v, ⟨y ++ b, line', p'⟩) ∧ ∃ u, x = u ++ y :=
  let ⟨h1, h2, _⟩ := (Ends_parseLine ctx).frame x b line p v y line' p' hx h
  ⟨h1, h2⟩

/-- a file all of whose entries are records, read as (part of) a file tree: its records, tagged
    with the file, and the context in which it ends -/
theorem C25_file_of_records {κ : Type} (resolve : κ → List UInt8 → Option (κ × List UInt8)) (D : Nat) (file : κ)
    (depth : Nat) (n : Nat) : ∀ (p : Parser), p.st.inp.length ≤ n → p.error = false → CtxWF p.ctx →
    (∀ y ∈ collect p, ∃ l r, y = .item (.record l r)) →
    readFile resolve D file depth p =
      ((collect p).filterMap (fun y => match y with
          | .item (.record l r) => some (SY.record file l r)
          | _ => none), some p.finish.ctx) :=
  fun p _ _ _ hrec => readFile_records resolve D file depth p hrec

/-- **`$INCLUDE` is textual inclusion with origin scoping** (for an included file that consists
    of records only, ends with an unescaped newline and has no errors).  At an `$INCLUDE`
    (`p.next` yields it, leaving the includer at `p'`):

    * the *tree* reading reports the included file's records and then continues reading the
      includer's remaining text `p'.st.inp` in the context in which the included file ended,
      **with the includer's own origin**;
    * the *flat* reading of the included text followed by the includer's remaining text, started
      in the included file's initial context, yields the same items for the included text and
      then continues reading the same remaining text in the context in which the included file
      ended, origin included, at the line after the included text.

    So the two readings differ exactly in the origin restored after the included text (and in
    the line counter, which the tree reading keeps per file).  `_partial`: nested `$INCLUDE`s
    inside the included file, and the equality of the two continuations when the origins agree
    (it needs invariance of the parser under shifting the line counter), are not covered. -/
theorem C25_include_is_textual_partial {κ : Type} (resolve : κ → List UInt8 → Option (κ × List UInt8))
    (D : Nat) (file child : κ) (depth : Nat) (p p' : Parser) (line : Nat) (path content : List UInt8)
    (origin : Option (List UInt8)) (hctx : CtxWF p.ctx)
    (hn : p.next = (some (.item (.incl line path origin)), p')) (hd : depth < D)
    (hres : resolve file path = some (child, content)) (hterm : content = [] ∨ Term content)
    (hrec : ∀ y ∈ parseAll content (childContext p'.ctx origin), ∃ l r, y = .item (.record l r)) :
    let inc := Parser.withContext content (childContext p'.ctx origin)
    -- the tree reading
    readFile resolve D file depth p =
      ((parseAll content (childContext p'.ctx origin)).filterMap (fun y => match y with
          | .item (.record l r) => some (SY.record child l r)
          | _ => none) ++
        (readFile resolve D file depth { p' with ctx := { inc.finish.ctx with origin := p'.ctx.origin } }).1,
       (readFile resolve D file depth { p' with ctx := { inc.finish.ctx with origin := p'.ctx.origin } }).2) ∧
    -- the flat reading of the spliced text
    parseAll (content ++ p'.st.inp) (childContext p'.ctx origin) =
      parseAll content (childContext p'.ctx origin) ++
        collect ⟨false, ⟨p'.st.inp, inc.finish.st.line, inc.finish.st.paren⟩, inc.finish.ctx⟩ := by
  intro inc
  obtain ⟨hitem, hctx', hlt⟩ := next_spec_of hctx hn
  have hchild : CtxWF (childContext p'.ctx origin) := childCtx_WF hctx' hitem
  constructor
  · exact readFile_incl resolve hn hd hres hlt
      (C25_file_of_records resolve D child (depth + 1) content.length inc (by simp [inc, Parser.withContext])
        rfl hchild hrec)
  · exact C25_parse_append content p'.st.inp _ hchild hterm
      (fun y hy => by obtain ⟨l, r, h⟩ := hrec y hy; exact ⟨_, h⟩)

/-- **The parser does not depend on where its line counter starts**: reading from line `l + k`
    yields what reading from line `l` yields, with every line number — of records, include
    requests and errors — increased by `k` -/
theorem C25_line_shift (p : Parser) (k : Nat) :
    collect { p with st := ⟨p.st.inp, p.st.line + k, p.st.paren⟩ } = (collect p).map (shiftY k) :=
  collect_shift p k

/-- … and after a text has been read without leaving a line unfinished, the reader is outside
    parentheses -/
theorem C25_ends_outside_parens (p : Parser) (hp : p.st.paren = false) : p.finish.st.paren = false :=
  finish_paren p hp

theorem recsOfSY_tagged {κ : Type} (file : κ) (ys : List Yield) :
    recsOfSY (ys.filterMap (fun y => match y with
        | .item (.record l r) => some (SY.record file l r)
        | _ => none)) = recsOfY ys := recsOfSY_tagRecs file ys

/-- **The flattened-file equation** for one `$INCLUDE`: if the included file consists of records,
    is well terminated and error-free, ends with the origin the includer has (so that restoring
    the includer's origin changes nothing), and the rest of the includer consists of records,
    then reading the tree from the `$INCLUDE` on yields the same records as reading the single
    text in which the `$INCLUDE` line is replaced by the included file's contents.  `_partial`:
    one include, and no `$ORIGIN` lines to emulate the origin scoping when the included file
    leaves another origin behind. -/
theorem C25_flatten_one_partial {κ : Type} (resolve : κ → List UInt8 → Option (κ × List UInt8))
    (D : Nat) (file child : κ) (depth : Nat) (p p' : Parser) (line : Nat) (path content : List UInt8)
    (origin : Option (List UInt8)) (hctx : CtxWF p.ctx) (hp : p.st.paren = false)
    (hn : p.next = (some (.item (.incl line path origin)), p')) (hd : depth < D)
    (hres : resolve file path = some (child, content)) (hterm : content = [] ∨ Term content)
    (hrec : ∀ y ∈ parseAll content (childContext p'.ctx origin), ∃ l r, y = .item (.record l r))
    (hO : (Parser.withContext content (childContext p'.ctx origin)).finish.ctx.origin = p'.ctx.origin)
    (hrest : ∀ y ∈ collect ⟨false, p'.st, (Parser.withContext content (childContext p'.ctx origin)).finish.ctx⟩,
      ∃ l r, y = .item (.record l r)) :
    recsOfSY (readFile resolve D file depth p).1 =
      recsOfY (parseAll (content ++ p'.st.inp) (childContext p'.ctx origin)) := by
  obtain ⟨h1, h2⟩ := C25_include_is_textual_partial resolve D file child depth p p' line path content origin hctx hn hd
    hres hterm hrec
  simp only at h1 h2
  generalize hinc : (Parser.withContext content (childContext p'.ctx origin)).finish = fin at h1 h2 hO hrest
  obtain ⟨hitem, hctx', hlt⟩ := next_spec_of hctx hn
  have hchild : CtxWF (childContext p'.ctx origin) := childCtx_WF hctx' hitem
  -- the context after the included file: restoring the origin changes nothing
  have hrestore : ({ fin.ctx with origin := p'.ctx.origin } : Ctx) = fin.ctx := by
    cases hc : fin.ctx with
    | mk o a b c d => rw [hc] at hO; simp at hO; simp [hO]
  have hfinctx : CtxWF fin.ctx := by rw [← hinc]; exact finish_ctxWF _ hchild
  have hp'err := (next_item hn).2.1
  have hp'paren : p'.st.paren = false := next_paren p p' _ hn hp
  have hfinparen : fin.st.paren = false := by rw [← hinc]; exact finish_paren _ rfl
  rw [hrestore] at h1
  -- the tree reading
  have hR := C25_file_of_records resolve D file depth p'.st.inp.length { p' with ctx := fin.ctx } (Nat.le_refl _)
    hp'err hfinctx (by
      have : ({ p' with ctx := fin.ctx } : Parser) = ⟨false, p'.st, fin.ctx⟩ := by
        cases p'; simp at hp'err ⊢; exact hp'err
      rw [this]; exact hrest)
  rw [h1, hR]
  simp only [recsOfSY_append, recsOfSY_tagged]
  -- the flat reading
  rw [h2, recsOfY_append]
  congr 1
  have e1 : ({ p' with ctx := fin.ctx } : Parser) = ⟨false, ⟨p'.st.inp, p'.st.line, false⟩, fin.ctx⟩ := by
    cases p' with
    | mk e st c => cases st; simp at hp'err hp'paren ⊢; exact ⟨hp'err, hp'paren⟩
  rw [e1, hfinparen]
  exact recsOfY_line _ _ _ _ _

/-! ### the flattened file of a whole tree -/

/-- `$ORIGIN` lines exist for every name: `originLine o` (the name written with `\DDD` octets)
    sets the origin to `o` and yields nothing, in every context -/
theorem C25_origin_line (o : List UInt8) (ho : NameWF o) : OLine originLine o := OLine_originLine o ho

/-- **Reading a tree = reading the flattened file.**  `t` describes a file cut at its `$INCLUDE`
    lines, with the included files as sub-trees (`Tree`); `t.content` is the file as it is on
    disk, `t.flat originLine ctx` the flattened text: every `$INCLUDE` line replaced by
    `$ORIGIN <origin of the included file>`, the included file's flattened text, and
    `$ORIGIN <origin of the includer>`.  For every tree that satisfies `TreeOK` (each piece
    between `$INCLUDE` lines ends with an unescaped newline and, read on its own, consists of
    records; each `$INCLUDE` line read on its own is the request it is; paths resolve to the
    sub-trees; the depth limit is respected; where the includer has no origin the included file
    leaves none): the records of the tree reading are exactly the records of the flattened text,
    in order, and both readings end in the same context.  `_partial`: the tree must come cut into
    pieces that parse on their own (the cut is not computed from the text), and files with errors
    are outside the statement. -/
theorem C25_flatten_tree_partial {κ : Type} (resolve : κ → List UInt8 → Option (κ × List UInt8)) (D : Nat)
    (main : κ) (t : Tree κ) (hok : TreeOK resolve D originLine main 0 {} t) :
    recsOfSY (readTree resolve D main t.content) = recsOfY (parseAll (t.flat originLine {}) {}) ∧
    (readFile resolve D main 0 (Parser.new t.content)).2 =
      some (Parser.withContext (t.flat originLine {}) {}).finish.ctx := by
  obtain ⟨h1, h2, _, _⟩ := flatten_tree resolve D originLine t main 0 {} CtxWF_default hok 1
  refine ⟨?_, ?_⟩
  · unfold readTree
    rw [show Parser.new t.content = ⟨false, ⟨t.content, 1, false⟩, {}⟩ from rfl, h1]
    exact recsOfY_line _ _ _ _ _
  · rw [show Parser.new t.content = ⟨false, ⟨t.content, 1, false⟩, {}⟩ from rfl, h2]
    congr 1
    exact finish_ctx_line _ _ _ _ _

/-- the records the machine yields -/
def recsOfFs (ys : List FsYield) : List Rec :=
  ys.filterMap fun y => match y with
    | .record _ _ r => some r
    | _ => none

/-- … and therefore the same holds for the include-stack machine of `fs::Parser::next` -/
theorem C25_flatten_machine_partial (res : Resolver) (B D : Nat) (hB : 2 ≤ B)
    (hsize : ∀ a b p c, res a b = .opened p c → c.length + 2 ≤ B)
    (hnp : ∀ a b, res a b ≠ .noParent) (main : Path) (t : Tree Path)
    (hok : TreeOK (resolveOf res) D originLine main 0 {} t) :
    recsOfFs (runFs res B (FsParser.start main t.content D)) = recsOfY (parseAll (t.flat originLine {}) {}) := by
  rw [C25_machine_refines_spec res B D hB hsize hnp, ← (C25_flatten_tree_partial (resolveOf res) D main t hok).1]
  -- `conv` keeps the records and turns every other report into one that is not a record
  unfold recsOfFs recsOfSY
  rw [List.filterMap_map]
  congr 1
  funext y
  rcases y with _ | ⟨_, k, _⟩ | _
  · rfl
  · cases k <;> rfl
  · rfl

/-!
  ### What is not proved (gap)

  The property's literal wording — "the same records as parsing the equivalent file with each
  `$INCLUDE` replaced by the included file's contents, where the included file starts with the
  includer's context (or the directive's origin) and the includer's origin is restored
  afterwards" — is proved as `C25_flatten_tree_partial` / `C25_flatten_machine_partial` for whole
  trees with any nesting, the origin scoping being emulated by `$ORIGIN` lines in the flattened
  text (built on `C25_machine_refines_spec`, `C25_parse_append`, `C25_line_shift`,
  `C25_ends_outside_parens`, `C25_origin_line`).  What remains: the tree must be given cut at its
  `$INCLUDE` lines into pieces each of which parses on its own (`TreeOK`, checkable by
  evaluation; see RESTRICTIONS above for why the cut is a hypothesis); and trees whose reading hits
  an error are not covered.  On every run the literal form is also checked by the harness's
  flattening oracle (op `incflat`: the flattened single file is parsed by the real in-memory
  parser; the record lists must be equal).
-/

/-! ### non-vacuity: a concrete tree, run through machine and semantics -/

/-- `main.zone`: `$ORIGIN t.` / `$INCLUDE i.zone s.` / `a 5 IN A 1.2.3.4`;
    `i.zone`: `@ 7 IN A 9.9.9.9` -/
def exFs : FS :=
  [("main.zone".toUTF8.toList, "$ORIGIN t.\n$INCLUDE i.zone s.\na 5 IN A 1.2.3.4\n".toUTF8.toList),
   ("i.zone".toUTF8.toList, "@ 7 IN A 9.9.9.9\n".toUTF8.toList)]

/-- the included record is read under the directive's origin `s.`; afterwards the includer's
    origin `t.` is back, while TTL and class flow on from the included file -/
theorem exFs_run :
    runFs (resolveFs exFs) (fsBound exFs) (FsParser.start "main.zone".toUTF8.toList
        "$ORIGIN t.\n$INCLUDE i.zone s.\na IN A 1.2.3.4\n".toUTF8.toList 1) =
      [.record "i.zone".toUTF8.toList 1 ⟨[1, 115, 0], 7, 1, 1, [9, 9, 9, 9]⟩,
       .record "main.zone".toUTF8.toList 3 ⟨[1, 97, 1, 116, 0], 7, 1, 1, [1, 2, 3, 4]⟩] := by
  decide +kernel

/-- with depth limit 0 the same tree is an error at the `$INCLUDE` line -/
example :
    runFs (resolveFs exFs) (fsBound exFs) (FsParser.start "main.zone".toUTF8.toList
        "$ORIGIN t.\n$INCLUDE i.zone s.\na IN A 1.2.3.4\n".toUTF8.toList 0) =
      [.err "main.zone".toUTF8.toList .IncludesTooDeep 2] := by
  decide +kernel

example : ∀ a b, resolveFs exFs a b = .opened [] [] → True := fun _ _ _ => trivial

/-! ### non-vacuity: splicing texts -/

private def exA : List UInt8 := "$ORIGIN t.\na 5 IN NS b\n".toUTF8.toList
private def exB : List UInt8 := " NS c\n".toUTF8.toList

private theorem exA_term : Term exA :=
  ⟨"$ORIGIN t.\na 5 IN NS b".toUTF8.toList, by decide +kernel, by decide +kernel⟩

private theorem exA_parse : parseAll exA {} = [.item (.record 2 ⟨[1, 97, 1, 116, 0], 5, 1, 2, [1, 98, 1, 116, 0]⟩)] := by
  decide +kernel

private theorem recOnly_single (l : Nat) (r : Rec) : RecOnly [.item (.record l r)] := by
  intro y hy
  cases List.mem_singleton.mp hy
  exact ⟨l, r, rfl⟩

/-- `C25_parse_append` applies: the text ` NS c` after `a 5 IN NS b` is read at line 3 with
    owner `a.t.`, TTL 5, class IN and origin `t.` -/
example : parseAll (exA ++ exB) {} =
    [.item (.record 2 ⟨[1, 97, 1, 116, 0], 5, 1, 2, [1, 98, 1, 116, 0]⟩)] ++
      collect ⟨false, ⟨exB, 3, false⟩, ⟨some [1, 116, 0], some [1, 97, 1, 116, 0], some 5, some 1, none⟩⟩ := by
  have hf : (Parser.withContext exA {}).finish =
      ⟨false, ⟨[], 3, false⟩, ⟨some [1, 116, 0], some [1, 97, 1, 116, 0], some 5, some 1, none⟩⟩ := by
    decide +kernel
  rw [C25_parse_append exA exB {} CtxWF_default (.inr exA_term) (exA_parse ▸ (recOnly_single _ _).ok), exA_parse, hf]

example : parseLine {} ⟨exA ++ exB, 1, false⟩ =
    .ok ((none, { origin := some [1, 116, 0] }), ⟨"a 5 IN NS b\n".toUTF8.toList ++ exB, 2, false⟩) :=
  (C25_line_frame {} exA exB exA_term 1 false _ _ 2 false (by decide +kernel)).1

private def exInc : List UInt8 := "@ 7 IN A 9.9.9.9\n".toUTF8.toList
private def exMainRest : List UInt8 := "a IN A 1.2.3.4\n".toUTF8.toList
private def exP : Parser := ⟨false, ⟨"$INCLUDE i.zone s.\n".toUTF8.toList ++ exMainRest, 2, false⟩, { origin := some [1, 116, 0] }⟩
private def exP' : Parser := ⟨false, ⟨exMainRest, 3, false⟩, { origin := some [1, 116, 0] }⟩

private theorem exInc_term : Term exInc := ⟨"@ 7 IN A 9.9.9.9".toUTF8.toList, by decide +kernel, by decide +kernel⟩
private theorem exMainRest_term : Term exMainRest :=
  ⟨"a IN A 1.2.3.4".toUTF8.toList, by decide +kernel, by decide +kernel⟩

private theorem ctxWF_t : CtxWF { origin := some [1, 116, 0] } :=
  ⟨by intro o ho; cases ho; exact ⟨[[116]], by simp [LabelsOK], by decide, by decide⟩, by intro o ho; cases ho⟩

/-- `C25_include_is_textual_partial` applies to the include of the example tree: both readings
    yield the included record under origin `s.`; the tree reading continues with origin `t.`,
    the flat reading with origin `s.` -/
example :
    readFile (fun (_ : String) (_ : List UInt8) => some ("i.zone", exInc)) 1 "main.zone" 0 exP =
      ([.record "i.zone" 1 ⟨[1, 115, 0], 7, 1, 1, [9, 9, 9, 9]⟩,
        .record "main.zone" 3 ⟨[1, 97, 1, 116, 0], 7, 1, 1, [1, 2, 3, 4]⟩],
       some ⟨some [1, 116, 0], some [1, 97, 1, 116, 0], some 7, some 1, none⟩) ∧
    parseAll (exInc ++ exMainRest) { origin := some [1, 115, 0] } =
      [.item (.record 1 ⟨[1, 115, 0], 7, 1, 1, [9, 9, 9, 9]⟩),
       .item (.record 2 ⟨[1, 97, 1, 115, 0], 7, 1, 1, [1, 2, 3, 4]⟩)] := by
  have hn : exP.next = (some (.item (.incl 2 "i.zone".toUTF8.toList (some [1, 115, 0]))), exP') := by decide +kernel
  have hparse : parseAll exInc (childContext exP'.ctx (some [1, 115, 0])) =
      [.item (.record 1 ⟨[1, 115, 0], 7, 1, 1, [9, 9, 9, 9]⟩)] := by decide +kernel
  have hfin : (Parser.withContext exInc (childContext exP'.ctx (some [1, 115, 0]))).finish =
      ⟨false, ⟨[], 2, false⟩, ⟨some [1, 115, 0], some [1, 115, 0], some 7, some 1, none⟩⟩ := by decide +kernel
  obtain ⟨h1, h2⟩ := C25_include_is_textual_partial (fun (_ : String) (_ : List UInt8) => some ("i.zone", exInc)) 1
    "main.zone" "i.zone" 0 exP exP' 2 "i.zone".toUTF8.toList exInc (some [1, 115, 0]) ctxWF_t hn (by decide) rfl
    (.inr exInc_term) (hparse ▸ recOnly_single _ _)
  -- what is left of either reading is the includer's last line, read by evaluation
  constructor
  · have hc : collect ⟨false, ⟨exMainRest, 3, false⟩, ⟨some [1, 116, 0], some [1, 115, 0], some 7, some 1, none⟩⟩ =
        [.item (.record 3 ⟨[1, 97, 1, 116, 0], 7, 1, 1, [1, 2, 3, 4]⟩)] := by decide +kernel
    have hf : Parser.finish ⟨false, ⟨exMainRest, 3, false⟩, ⟨some [1, 116, 0], some [1, 115, 0], some 7, some 1, none⟩⟩ =
        ⟨false, ⟨[], 4, false⟩, ⟨some [1, 116, 0], some [1, 97, 1, 116, 0], some 7, some 1, none⟩⟩ := by decide +kernel
    have hr := C25_file_of_records (fun (_ : String) (_ : List UInt8) => some ("i.zone", exInc)) 1 "main.zone" 0
      exMainRest.length ⟨false, ⟨exMainRest, 3, false⟩, ⟨some [1, 116, 0], some [1, 115, 0], some 7, some 1, none⟩⟩
      (Nat.le_refl _) rfl
      ⟨ctxWF_t.1, by intro o ho; cases ho; exact ⟨[[115]], by simp [LabelsOK], by decide, by decide⟩⟩ (hc ▸ recOnly_single _ _)
    rw [hc, hf] at hr
    rw [h1, hparse, hfin, show ({ exP' with ctx := { (⟨some [1, 115, 0], some [1, 115, 0], some 7, some 1, none⟩ : Ctx) with origin := exP'.ctx.origin } } : Parser) =
        ⟨false, ⟨exMainRest, 3, false⟩, ⟨some [1, 116, 0], some [1, 115, 0], some 7, some 1, none⟩⟩ from rfl, hr]
    rfl
  · rw [show parseAll (exInc ++ exMainRest) { origin := some [1, 115, 0] } = _ from h2, hparse, hfin]
    decide +kernel

/-! ### non-vacuity: line counter, parentheses, the flattened file -/

example : collect ⟨false, ⟨exA, 1 + 41, false⟩, {}⟩ =
    [.item (.record 43 ⟨[1, 97, 1, 116, 0], 5, 1, 2, [1, 98, 1, 116, 0]⟩)] := by
  have h := C25_line_shift ⟨false, ⟨exA, 1, false⟩, {}⟩ 41
  simp only at h
  rw [h, show collect ⟨false, ⟨exA, 1, false⟩, {}⟩ = parseAll exA {} from rfl, exA_parse]
  rfl

example : (Parser.withContext "a NS ( b\n ) ; c\n".toUTF8.toList { origin := some [0], prevTtl := some 1, prevClass := some 1 }).finish.st =
    ⟨[], 3, false⟩ ∧
    (Parser.withContext exA {}).finish.st.paren = false :=
  ⟨by decide +kernel, C25_ends_outside_parens _ rfl⟩

private def exP2 : Parser :=
  ⟨false, ⟨"$INCLUDE i.zone\n".toUTF8.toList ++ exMainRest, 2, false⟩, { origin := some [1, 116, 0] }⟩
private def exP2' : Parser := ⟨false, ⟨exMainRest, 3, false⟩, { origin := some [1, 116, 0] }⟩

/-- `C25_flatten_one_partial` applies: `$INCLUDE i.zone` (no origin given; the included file
    keeps the origin `t.`) — tree reading and reading of the flattened text give the same two
    records -/
example :
    recsOfSY (readFile (fun (_ : String) (_ : List UInt8) => some ("i.zone", exInc)) 1 "main.zone" 0 exP2).1 =
      [⟨[1, 116, 0], 7, 1, 1, [9, 9, 9, 9]⟩, ⟨[1, 97, 1, 116, 0], 7, 1, 1, [1, 2, 3, 4]⟩] ∧
    recsOfY (parseAll (exInc ++ exMainRest) { origin := some [1, 116, 0] }) =
      [⟨[1, 116, 0], 7, 1, 1, [9, 9, 9, 9]⟩, ⟨[1, 97, 1, 116, 0], 7, 1, 1, [1, 2, 3, 4]⟩] := by
  have hn : exP2.next = (some (.item (.incl 2 "i.zone".toUTF8.toList (some [1, 116, 0]))), exP2') := by
    decide +kernel
  have hparse : parseAll exInc (childContext exP2'.ctx (some [1, 116, 0])) =
      [.item (.record 1 ⟨[1, 116, 0], 7, 1, 1, [9, 9, 9, 9]⟩)] := by decide +kernel
  have hfin : (Parser.withContext exInc (childContext exP2'.ctx (some [1, 116, 0]))).finish =
      ⟨false, ⟨[], 2, false⟩, ⟨some [1, 116, 0], some [1, 116, 0], some 7, some 1, none⟩⟩ := by decide +kernel
  have hrest : collect ⟨false, exP2'.st, ⟨some [1, 116, 0], some [1, 116, 0], some 7, some 1, none⟩⟩ =
      [.item (.record 3 ⟨[1, 97, 1, 116, 0], 7, 1, 1, [1, 2, 3, 4]⟩)] := by decide +kernel
  have hflat : recsOfY (parseAll (exInc ++ exMainRest) { origin := some [1, 116, 0] }) =
      [⟨[1, 116, 0], 7, 1, 1, [9, 9, 9, 9]⟩, ⟨[1, 97, 1, 116, 0], 7, 1, 1, [1, 2, 3, 4]⟩] := by decide +kernel
  have h := C25_flatten_one_partial (fun (_ : String) (_ : List UInt8) => some ("i.zone", exInc)) 1
    "main.zone" "i.zone" 0 exP2 exP2' 2 "i.zone".toUTF8.toList exInc (some [1, 116, 0]) ctxWF_t rfl hn (by decide) rfl
    (.inr exInc_term) (hparse ▸ recOnly_single _ _) (by rw [hfin]; rfl) (by rw [hfin, hrest]; exact recOnly_single _ _)
  exact ⟨h.trans hflat, hflat⟩

/-! ### non-vacuity: a whole tree and its flattened file -/

/-- `main.zone` = `$ORIGIN t.` / `$INCLUDE i.zone s.` / `a IN A 1.2.3.4`, with `i.zone` =
    `@ 7 IN A 9.9.9.9` -/
private def exTree : Tree String :=
  .node "$ORIGIN t.\n".toUTF8.toList "$INCLUDE i.zone s.\n".toUTF8.toList "i.zone".toUTF8.toList
    (some [1, 115, 0]) "i.zone" (.leaf exInc) (.leaf exMainRest)

private def exResolve : String → List UInt8 → Option (String × List UInt8) := fun _ _ => some ("i.zone", exInc)

private theorem nameWF_s : NameWF [1, 115, 0] := ⟨[[115]], by simp [LabelsOK], by decide, by decide⟩
private theorem nameWF_t : NameWF [1, 116, 0] := ⟨[[116]], by simp [LabelsOK], by decide, by decide⟩

/-- the flattened text: `$ORIGIN t.` / `$ORIGIN \115.` / `@ 7 IN A 9.9.9.9` / `$ORIGIN \116.` /
    `a IN A 1.2.3.4` -/
example : exTree.flat originLine {} =
    "$ORIGIN t.\n$ORIGIN \\115.\n@ 7 IN A 9.9.9.9\n$ORIGIN \\116.\na IN A 1.2.3.4\n".toUTF8.toList := by
  decide +kernel

/-- the example tree satisfies `TreeOK` whatever the files are called, as long as `i.zone`
    resolves to the included text: each conjunct is read off by evaluating the parser -/
private theorem exNode_ok {κ : Type} (resolve : κ → List UInt8 → Option (κ × List UInt8)) (main cf : κ)
    (hres : resolve main "i.zone".toUTF8.toList = some (cf, exInc)) :
    TreeOK resolve 1 originLine main 0 {}
      (.node "$ORIGIN t.\n".toUTF8.toList "$INCLUDE i.zone s.\n".toUTF8.toList "i.zone".toUTF8.toList
        (some [1, 115, 0]) cf (.leaf exInc) (.leaf exMainRest)) := by
  simp only [TreeOK, Tree.flat]
  have hA : endCtx {} "$ORIGIN t.\n".toUTF8.toList = { origin := some [1, 116, 0] } := by decide +kernel
  have hcc : childContext (endCtx {} "$ORIGIN t.\n".toUTF8.toList) (some [1, 115, 0]) = { origin := some [1, 115, 0] } := by
    rw [hA]; rfl
  refine ⟨.inr ⟨"$ORIGIN t.".toUTF8.toList, by decide +kernel, by decide +kernel⟩, ?_,
    ⟨"$INCLUDE i.zone s.".toUTF8.toList, by decide +kernel, by decide +kernel⟩, ⟨1, by decide +kernel⟩, by decide, hres,
    ⟨.inr exInc_term, ?_⟩, ?_, ?_, ?_, ⟨.inr exMainRest_term, ?_⟩⟩
  · rw [show items0 {} "$ORIGIN t.\n".toUTF8.toList = [] from by decide +kernel]
    intro y hy; cases hy
  · rw [hcc, show items0 { origin := some [1, 115, 0] } exInc =
      [.item (.record 0 ⟨[1, 115, 0], 7, 1, 1, [9, 9, 9, 9]⟩)] from by decide +kernel]
    exact recOnly_single _ _
  · intro o ho
    rw [hcc] at ho
    cases ho
    exact C25_origin_line _ nameWF_s
  · intro o ho
    rw [hA] at ho
    cases ho
    exact C25_origin_line _ nameWF_t
  · intro ho
    rw [hA] at ho
    cases ho
  · rw [show items0 _ exMainRest = [.item (.record 0 ⟨[1, 97, 1, 116, 0], 7, 1, 1, [1, 2, 3, 4]⟩)] from by decide +kernel]
    exact recOnly_single _ _

private theorem exTree_ok : TreeOK exResolve 1 originLine "main.zone" 0 {} exTree := by
  unfold exTree
  exact exNode_ok exResolve _ _ rfl

/-- `C25_flatten_tree_partial` applies to it: both readings give the record of the included file
    under `s.` and then the includer's record under `t.` -/
example :
    recsOfSY (readTree exResolve 1 "main.zone" exTree.content) =
      [⟨[1, 115, 0], 7, 1, 1, [9, 9, 9, 9]⟩, ⟨[1, 97, 1, 116, 0], 7, 1, 1, [1, 2, 3, 4]⟩] ∧
    recsOfY (parseAll (exTree.flat originLine {}) {}) =
      [⟨[1, 115, 0], 7, 1, 1, [9, 9, 9, 9]⟩, ⟨[1, 97, 1, 116, 0], 7, 1, 1, [1, 2, 3, 4]⟩] := by
  have h := (C25_flatten_tree_partial exResolve 1 "main.zone" exTree exTree_ok).1
  have hflat : recsOfY (parseAll (exTree.flat originLine {}) {}) =
      [⟨[1, 115, 0], 7, 1, 1, [9, 9, 9, 9]⟩, ⟨[1, 97, 1, 116, 0], 7, 1, 1, [1, 2, 3, 4]⟩] := by decide +kernel
  exact ⟨h.trans hflat, hflat⟩

example : OLine originLine [0] ∧ originLine [0] = "$ORIGIN .\n".toUTF8.toList :=
  ⟨C25_origin_line [0] NameWF_root, by decide +kernel⟩

/-- the same tree through the include-stack machine, with a resolver that opens `i.zone` for
    every `$INCLUDE` -/
private def exTreeFs : Tree Path :=
  .node "$ORIGIN t.\n".toUTF8.toList "$INCLUDE i.zone s.\n".toUTF8.toList "i.zone".toUTF8.toList
    (some [1, 115, 0]) "i.zone".toUTF8.toList (.leaf exInc) (.leaf exMainRest)

private def exRes : Resolver := fun _ _ => .opened "i.zone".toUTF8.toList exInc

example :
    recsOfFs (runFs exRes 100 (FsParser.start "main.zone".toUTF8.toList exTreeFs.content 1)) =
      recsOfY (parseAll (exTreeFs.flat originLine {}) {}) :=
  C25_flatten_machine_partial exRes 100 1 (by decide)
    (by intro a b p c h; cases h; decide +kernel) (by intro a b h; cases h)
    "main.zone".toUTF8.toList exTreeFs (exNode_ok (resolveOf exRes) _ _ rfl)

end QV.C25
