/-
  C30 — I/O providers answer each request once with correct framing.

  "For any sequence of length-prefixed requests sent on a TCP connection within the read timeout,
   split into segments arbitrarily and pipelined, the blocking and Tokio providers return one
   length-prefixed response per request in request order, each equal to the server's response to
   that request alone, and close the connection after a request that gets no response. Each UDP
   request datagram gets at most one response datagram, sent to its source and no larger than the
   configured payload size."

  Model: `QV.Framing` mirrors the read loop shared by src/io/blocking.rs and src/io/tokio.rs (buffer
  of 2 + 65535 octets, `n_read`, `received_len_opt`, leftover shifting).  Spec: `QV.Spec.Framing`
  (`respond` on messages, `deframe` on the byte stream).  The theorems hold for EVERY handler
  (`server.handle_message` is a parameter), every message sequence and every segmentation.

  PARTIAL with respect to the real runtime: the read timeout, write errors, shutdown, kernel
  buffering and the sockets themselves are not modelled; source-address selection of UDP replies
  is only observed by the correspondence run (group `framing`: loopback sockets against both
  providers, expected = the real `Server::handle_message` on each request alone).
-/
import QV.Proofs.Framing

namespace QV.C30
open QV QV.Framing QV.Spec.Framing

/-- **Segmentation independence.**  However the peer's octets are cut into segments (and however
    the kernel hands them to `read`), the connection handler produces what the stream-level spec
    says for the concatenation: the responses to the complete frames, in order, up to the first
    response-less one; a trailing incomplete frame is never handed to the server. -/
theorem C30_segmentation_independent (handler : List UInt8 → Option (List UInt8)) (segs : List (List UInt8))
    (hne : ∀ s ∈ segs, s ≠ []) :
    conn handler segs = ((specStream handler segs.flatten).1, endOf (specStream handler segs.flatten).2) := by
  unfold conn
  rw [connLoop_spec handler _ [] segs [] hne (by simp [CAP]) (by simp)]
  simp

/-- the same with a trailing incomplete frame (the peer closes in the middle of a request): the
    complete requests are answered as above, the partial one is never handled -/
theorem C30_eof_mid_frame (handler : List UInt8 → Option (List UInt8))
    (msgs : List (List UInt8)) (hlen : ∀ m ∈ msgs, m.length ≤ 65535) (partial_ : List UInt8)
    (hpart : ∀ len, lenPrefix partial_ = some len → ¬ len + 2 ≤ partial_.length)
    (segs : List (List UInt8)) (hne : ∀ s ∈ segs, s ≠ [])
    (hsplit : segs.flatten = msgs.flatMap QV.Spec.Framing.frame ++ partial_) :
    conn handler segs = ((respond handler msgs).1, endOf (respond handler msgs).2) := by
  rw [C30_segmentation_independent handler segs hne, hsplit]
  unfold specStream
  rw [deframe_frames msgs partial_ hlen, deframe_eq partial_, front_eq_none.mpr hpart]
  simp

/-- **Main theorem.**  For ANY requests `msgs` (each at most 65 535 octets) and ANY split of
    `concat (map frame msgs)` into non-empty segments, the handler is applied to exactly the
    requests in order, and the octets written are `concat (map (frame ∘ response) …)` of the
    requests up to the first one without a response, after which the connection is closed by the
    server (`noResponse`); if every request has a response the server keeps reading until the
    peer closes (`eof`). -/
theorem C30_one_response_per_request_in_order (handler : List UInt8 → Option (List UInt8))
    (msgs : List (List UInt8)) (hlen : ∀ m ∈ msgs, m.length ≤ 65535)
    (segs : List (List UInt8)) (hne : ∀ s ∈ segs, s ≠ [])
    (hsplit : segs.flatten = msgs.flatMap QV.Spec.Framing.frame) :
    conn handler segs = ((respond handler msgs).1, endOf (respond handler msgs).2) :=
  C30_eof_mid_frame handler msgs hlen [] nofun segs hne (by simpa using hsplit)

/-- what `respond` means, part 1: if every request has a response, the output is exactly one
    framed response per request, in request order, and the connection stays open -/
theorem C30_respond_all (handler : List UInt8 → Option (List UInt8)) (msgs : List (List UInt8))
    (resp : List UInt8 → List UInt8) (h : ∀ m ∈ msgs, handler m = some (resp m)) :
    respond handler msgs = (msgs.flatMap (fun m => QV.Spec.Framing.frame (resp m)), .open) := by
  simpa [respond] using respond_append handler msgs [] resp h

/-- part 2: the first request without a response ends the conversation — nothing is written for
    it or for any later request, and the server closes the connection -/
theorem C30_respond_stops (handler : List UInt8 → Option (List UInt8)) (pre post : List (List UInt8)) (m : List UInt8)
    (resp : List UInt8 → List UInt8) (h : ∀ x ∈ pre, handler x = some (resp x)) (hm : handler m = none) :
    respond handler (pre ++ m :: post) = (pre.flatMap (fun x => QV.Spec.Framing.frame (resp x)), .closed) := by
  simpa [respond, hm] using respond_append handler pre (m :: post) resp h

/-- **No slice panic, no spurious close.**  The loop never ends because the buffer was full or
    because the model's fuel ran out: a connection ends only because the peer closed or a request
    got no response.  (The buffer bound `n_read ≤ 2 + 65535` is part of `readMessage_spec`.) -/
theorem C30_ends_only_by_eof_or_no_response (handler : List UInt8 → Option (List UInt8)) (segs : List (List UInt8))
    (hne : ∀ s ∈ segs, s ≠ []) :
    (conn handler segs).2 = .eof ∨ (conn handler segs).2 = .noResponse := by
  rw [C30_segmentation_independent handler segs hne]
  cases (specStream handler segs.flatten).2 <;> simp [endOf]

/-- `n_read` never exceeds the buffer: whenever `read_message_over_tcp` returns a message, the
    buffer holds at most `2 + 65535` octets and contains the whole message -/
theorem C30_buffer_bounded (buf : List UInt8) (segs : List (List UInt8)) (hne : ∀ s ∈ segs, s ≠ [])
    (hcap : buf.length ≤ CAP) (len : Nat) (buf' : List UInt8) (segs' : List (List UInt8))
    (h : readMessage buf segs none = (.msg len, buf', segs')) :
    buf'.length ≤ CAP ∧ len + 2 ≤ buf'.length ∧ buf' ++ segs'.flatten = buf ++ segs.flatten := by
  have hs := readMessage_spec buf segs none hne hcap nofun
  split at hs
  · obtain ⟨b, sg, e, r⟩ := hs
    rw [h] at e; cases e
    exact ⟨r.2.2.1, r.2.1, r.1⟩
  · rw [h] at hs; cases hs

/-- **Zero-length frame, exactly as coded**: the two octets `00 00` are a complete frame whose
    message is empty; the server is asked about the empty message (the real `handle_message`
    answers `Response::None` to anything shorter than a header, so the connection is closed). -/
theorem C30_zero_length_frame (handler : List UInt8 → Option (List UInt8)) (rest : List (List UInt8))
    (segs : List (List UInt8)) (hne : ∀ s ∈ segs, s ≠ []) (hlen : ∀ m ∈ rest, m.length ≤ 65535)
    (hsplit : segs.flatten = ([] :: rest).flatMap QV.Spec.Framing.frame) (h0 : handler [] = none) :
    conn handler segs = ([], .noResponse) := by
  rw [C30_one_response_per_request_in_order handler ([] :: rest)
    (fun m hm => by rcases List.mem_cons.mp hm with rfl | hm; simp; exact hlen m hm) segs hne hsplit]
  simp [respond, h0, endOf]

/-- non-vacuity: a split of two framed requests in the middle of a length prefix and in the middle
    of a message satisfies the hypotheses of the main theorem -/
example : ([[0], [1, 7, 0], [1], [9]] : List (List UInt8)).flatten =
    ([[7], [9]] : List (List UInt8)).flatMap QV.Spec.Framing.frame ∧
    (∀ s ∈ ([[0], [1, 7, 0], [1], [9]] : List (List UInt8)), s ≠ []) := by decide

/-- … and therefore that conversation is answered request by request -/
example (handler : List UInt8 → Option (List UInt8)) (r7 r9 : List UInt8)
    (h7 : handler [7] = some r7) (h9 : handler [9] = some r9) :
    conn handler [[0], [1, 7, 0], [1], [9]] =
      (QV.Spec.Framing.frame r7 ++ QV.Spec.Framing.frame r9, .eof) := by
  rw [C30_one_response_per_request_in_order handler [[7], [9]] (by decide) _ (by decide) (by decide)]
  simp [respond, h7, h9, endOf]

/-! ### UDP -/

/-- **At most one response datagram per request datagram, never larger than the payload size.** -/
theorem C30_udp_at_most_one (handler : List UInt8 → Option (List UInt8)) (payload : Nat) (d : List UInt8) :
    udpStep handler payload d = .none ∨ udpStep handler payload d = .panic ∨
    ∃ r, udpStep handler payload d = .send r ∧ r.length ≤ payload ∧ handler (d.take payload) = some r := by
  unfold udpStep
  cases h : handler (d.take payload) with
  | none => simp
  | some r =>
    by_cases hl : r.length ≤ payload
    · simp [hl]
    · simp [hl]

/-- the slice `&response_buf[0..response_len]` cannot panic when the server keeps its size
    contract (`handle_message` never reports more than the buffer it was given — C04) -/
theorem C30_udp_no_panic (handler : List UInt8 → Option (List UInt8)) (payload : Nat) (d : List UInt8)
    (hc : ∀ m r, handler m = some r → r.length ≤ payload) : udpStep handler payload d ≠ .panic := by
  unfold udpStep
  cases h : handler (d.take payload) with
  | none => simp
  | some r => simp [hc _ r h]

end QV.C30
