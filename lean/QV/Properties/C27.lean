/-
  C27 — Rate limiting groups responses into the documented streams.

  "Two responses share a rate-limit stream exactly when their sources fall in the same configured
   IPv4 or IPv6 prefix (IPv4-mapped IPv6 counting as IPv4) and they have the same category, where
   NOERROR responses must also share the QNAME (ignoring case) or wildcard source of synthesis,
   and NXDOMAIN and all other RCODEs form one stream each per prefix. TCP responses and responses
   to non-QUERY opcodes are never limited."

  Model: `QV.Model.Rrl` (`keyOf`, `ipToDestU64`, `ReceivedInfo.new`, `subjectToRrl`).
  Spec:  `QV.Spec.Rrl.SameStream`, `Limitable` — on source addresses as numbers, prefix lengths,
         the RCODE and the lower-cased QNAME-or-source-of-synthesis.

  The table stores a 32-bit hash of the name, not the name. "Exactly when" therefore needs
  `HashInjectiveOn` for the names involved (one direction — same stream ⇒ same key — holds
  unconditionally); the correspondence run counts the histories outside it (none so far: 2⁻³²
  per pair). That the *decisions* follow the streams is `C26_history`, re-exported below.
-/
import QV.Properties.C26

namespace QV.C27
open QV QV.Rrl

/-! ### what is limitable -/

/-- a response is subject to rate limiting iff it is going to be sent, came over UDP, and
    answers opcode QUERY -/
theorem C27_subject_iff (c : Context) (s : IpAddr) (t : Nat) :
    subjectToRrl c = true ↔ c.send_response = true ∧ Spec.Rrl.Limitable (toSpecResponse s c t) :=
  subject_iff c s t

/-- TCP responses are never limited: `process_response` changes neither the table nor the response -/
theorem C27_tcp_never_limited (rs : RandomState) (R : Rrl) (now : Nat) (rnd : Bool) (c : Context)
    (h : c.transport = .Tcp) : processResponse rs R now rnd c = .ok (R, c) := by
  apply processResponse_not_subject
  simp [subjectToRrl, h, Gen.RRL_LIMITED_TRANSPORT_IS_UDP]

/-- responses to non-QUERY opcodes are never limited -/
theorem C27_non_query_never_limited (rs : RandomState) (R : Rrl) (now : Nat) (rnd : Bool) (c : Context)
    (h : c.opcode ≠ 0) : processResponse rs R now rnd c = .ok (R, c) := by
  apply processResponse_not_subject
  simp [subjectToRrl, h, Gen.RRL_LIMITED_OPCODE]

/-- … and they do not use up tokens: they leave no trace in any later decision either (the table
    is returned unchanged), nor does a request that gets no response at all -/
theorem C27_no_response_no_trace (rs : RandomState) (R : Rrl) (now : Nat) (rnd : Bool) (c : Context)
    (h : c.send_response = false) : processResponse rs R now rnd c = .ok (R, c) := by
  apply processResponse_not_subject
  simp [subjectToRrl, h]

/-- the key `process_response` computes is `keyFn`, for every context (a NOERROR response without
    question — possible, D17 — is keyed under the root name) -/
theorem C27_key_computed (rs : RandomState) (p : RrlParams) (c : Context) :
    keyOf rs p c = .ok (keyFn rs p c) :=
  keyOf_ok rs p c

/-- **Key equality, as coded**: same address family (after the IPv4-mapped canonicalisation),
    same masked destination, same category, and for NOERROR the same 32-bit QNAME hash — nothing
    else (NXDOMAIN and the other RCODEs ignore the QNAME altogether). -/
theorem C27_key_eq_iff (rs : RandomState) (p : RrlParams) (c₁ c₂ : Context) :
    keyFn rs p c₁ = keyFn rs p c₂ ↔
      (c₁.source.isIpv6 = c₂.source.isIpv6 ∧ ipToDestU64 p c₁.source = ipToDestU64 p c₂.source) ∧
      Category.ofExtendedRcode c₁.extended_rcode = Category.ofExtendedRcode c₂.extended_rcode ∧
      (Category.ofExtendedRcode c₁.extended_rcode = .NoError →
        rs.hashName (lowerName c₁.streamName) = rs.hashName (lowerName c₂.streamName)) :=
  keyFn_eq_iff rs p c₁ c₂

/-- the three categories are NOERROR, NXDOMAIN, and everything else -/
theorem C27_categories (rcode : Nat) :
    (Category.ofExtendedRcode rcode = .NoError ↔ rcode = 0) ∧
    (Category.ofExtendedRcode rcode = .NxDomain ↔ rcode = 3) ∧
    (Category.ofExtendedRcode rcode = .Error ↔ rcode ≠ 0 ∧ rcode ≠ 3) := by
  unfold Category.ofExtendedRcode Gen.rrlCategoryCode
  by_cases h0 : rcode = 0
  · simp [h0]
  · by_cases h3 : rcode = 3
    · simp [h3]
    · simp [h0, h3]

/-! ### netmasks: every prefix length -/

/-- the netmask `set_ipv4_prefix_len(len)` installs has exactly the `len` leading bits set -/
theorem C27_ipv4_netmask_value (len : Nat) (h1 : 1 ≤ len) (h2 : len ≤ 32) :
    (ipv4MaskOfLen len).toNat = 2 ^ 32 - 2 ^ (32 - len) := by
  have h : (ipv4MaskOfLen len).toNat = (ipv4MaskOfLen len).toBitVec.toNat := rfl
  rw [h, ipv4MaskOfLen_toBitVec len h1 h2, BitVec.toNat_shiftLeft, BitVec.toNat_allOnes, Nat.shiftLeft_eq]
  have hp : 2 ^ (32 - len) ≤ 2 ^ 31 := Nat.pow_le_pow_right (by omega) (by omega)
  have hp1 : 1 ≤ 2 ^ (32 - len) := Nat.one_le_two_pow
  generalize 2 ^ (32 - len) = P at *
  omega

/-- **IPv4, all lengths 1..32**: masked addresses are equal iff the addresses agree on their
    first `len` bits -/
theorem C27_ipv4_masked_eq_iff (len : Nat) (h1 : 1 ≤ len) (h2 : len ≤ 32) (a b : UInt32) :
    a &&& ipv4MaskOfLen len = b &&& ipv4MaskOfLen len ↔ Spec.Rrl.samePrefix 32 len a.toNat b.toNat :=
  ipv4_masked_eq_iff len h1 h2 a b

/-- **IPv6, all lengths 1..64**, on the first eight octets -/
theorem C27_ipv6_masked_eq_iff (len : Nat) (h1 : 1 ≤ len) (h2 : len ≤ 64) (a b : UInt64) :
    a &&& ipv6MaskOfLen len = b &&& ipv6MaskOfLen len ↔ Spec.Rrl.samePrefix 64 len a.toNat b.toNat :=
  ipv6_masked_eq_iff len h1 h2 a b

/-- **Destinations, all lengths 0..32 / 0..64 including the `len = 0` special case**: same
    family and same `ip_to_dest_u64` iff the two addresses, as 32-bit resp. 128-bit numbers, agree
    on the configured number of leading bits. -/
theorem C27_dest_eq_iff {p : RrlParams} {v4len v6len : Nat} (hm : MasksOf p v4len v6len) (a b : IpAddr) :
    (a.isIpv6 = b.isIpv6 ∧ ipToDestU64 p a = ipToDestU64 p b) ↔
      (match a.toSpec, b.toSpec with
       | .v4 x, .v4 y => Spec.Rrl.samePrefix 32 v4len x y
       | .v6 x, .v6 y => Spec.Rrl.samePrefix 128 v6len x y
       | _, _ => False) :=
  dest_eq_iff hm a b

/-- `ReceivedInfo::new` implements "IPv4-mapped IPv6 counts as IPv4" -/
theorem C27_ipv4_mapped (src : IpAddr) : (ReceivedInfo.new src).toSpec = src.toSpec.canonical :=
  receivedInfo_toSpec src

/-! ### keys ↔ streams -/

/-- **Main theorem.** For every `RandomState`, every configuration whose netmasks come from
    prefix lengths `v4len ≤ 32`, `v6len ≤ 64`, and any two responses (sources as received, before
    canonicalisation): if the QNAME hash separates their two names, they get the same key — hence
    the same bucket entry — **exactly when** they belong to the same stream of the specification. -/
theorem C27_same_key_iff_same_stream (rs : RandomState) {p : RrlParams} {v4len v6len : Nat}
    (hm : MasksOf p v4len v6len) (s₁ s₂ : IpAddr) (c₁ c₂ : Context) (t₁ t₂ : Nat)
    (h₁ : c₁.source = ReceivedInfo.new s₁) (h₂ : c₂.source = ReceivedInfo.new s₂)
    (hinj : rs.hashName (lowerName c₁.streamName) = rs.hashName (lowerName c₂.streamName) →
      lowerName c₁.streamName = lowerName c₂.streamName) :
    keyFn rs p c₁ = keyFn rs p c₂ ↔
      Spec.Rrl.SameStream v4len v6len (toSpecResponse s₁ c₁ t₁) (toSpecResponse s₂ c₂ t₂) :=
  keyFn_eq_iff_sameStream rs hm s₁ s₂ c₁ c₂ t₁ t₂ h₁ h₂ hinj

/-- Without any assumption on the hash: responses of the same stream always share their key
    (a hash collision can only merge streams, never split one). -/
theorem C27_same_stream_same_key (rs : RandomState) {p : RrlParams} {v4len v6len : Nat}
    (hm : MasksOf p v4len v6len) (s₁ s₂ : IpAddr) (c₁ c₂ : Context) (t₁ t₂ : Nat)
    (h₁ : c₁.source = ReceivedInfo.new s₁) (h₂ : c₂.source = ReceivedInfo.new s₂)
    (h : Spec.Rrl.SameStream v4len v6len (toSpecResponse s₁ c₁ t₁) (toSpecResponse s₂ c₂ t₂)) :
    keyFn rs p c₁ = keyFn rs p c₂ := by
  rw [keyFn_eq_iff, dest_eq_iff hm]
  unfold Spec.Rrl.SameStream Spec.Rrl.sameNetwork toSpecResponse at h
  simp only [← receivedInfo_toSpec, ← h₁, ← h₂, ← category_toSpec, Category.toSpec_inj,
    ← lowerName_eq_foldCase] at h
  exact ⟨h.1, h.2.1, fun hn => by rw [h.2.2 ((Category.toSpec_inj _ .NoError).mpr hn)]⟩

/-- streams partition the responses: `SameStream` is an equivalence relation -/
theorem C27_sameStream_equivalence (v4len v6len : Nat) :
    (∀ r, Spec.Rrl.sameNetwork v4len v6len r.src r.src → Spec.Rrl.SameStream v4len v6len r r) ∧
    (∀ r₁ r₂, Spec.Rrl.SameStream v4len v6len r₁ r₂ → Spec.Rrl.SameStream v4len v6len r₂ r₁) ∧
    (∀ r₁ r₂ r₃, Spec.Rrl.SameStream v4len v6len r₁ r₂ → Spec.Rrl.SameStream v4len v6len r₂ r₃ →
      Spec.Rrl.SameStream v4len v6len r₁ r₃) := by
  refine ⟨fun r h => ⟨h, rfl, fun _ => rfl⟩, ?_, ?_⟩
  · intro r₁ r₂ ⟨hn, hc, hq⟩
    refine ⟨?_, hc.symm, fun h => (hq (hc ▸ h)).symm⟩
    unfold Spec.Rrl.sameNetwork at hn ⊢
    cases h1 : r₁.src.canonical <;> cases h2 : r₂.src.canonical <;>
      simp only [h1, h2, Spec.Rrl.samePrefix] at hn ⊢ <;> first | exact hn.symm | exact hn
  · intro r₁ r₂ r₃ ⟨hn, hc, hq⟩ ⟨hn', hc', hq'⟩
    refine ⟨?_, hc.trans hc', fun h => (hq h).trans (hq' (hc ▸ h))⟩
    unfold Spec.Rrl.sameNetwork at hn hn' ⊢
    cases h1 : r₁.src.canonical <;> cases h2 : r₂.src.canonical <;> cases h3 : r₃.src.canonical <;>
      simp only [h1, h2, h3, Spec.Rrl.samePrefix] at hn hn' ⊢ <;>
      first | exact hn.trans hn' | exact hn.elim | exact hn'.elim

/-- every address is in its own network (so `SameStream` is reflexive outright) -/
theorem C27_sameNetwork_refl (v4len v6len : Nat) (s : Spec.Rrl.Addr) : Spec.Rrl.sameNetwork v4len v6len s s := by
  unfold Spec.Rrl.sameNetwork
  cases h : s.canonical <;> simp [Spec.Rrl.samePrefix]

/-- **Decisions follow the streams** (= `C26_history`): over any history satisfying the hash-table
    hypotheses, whether a response is sent or limited is a function of the earlier limitable
    responses *of its stream* only. -/
theorem C27_decisions_follow_streams {rs : RandomState} {p : RrlParams} {v4len v6len : Nat} (hv : p.Valid)
    (hm : MasksOf p v4len v6len) (T₀ : Nat) (reqs : List Req)
    (hmono : Mono T₀ reqs) (hsrc : SourcesCanonical reqs)
    (hnc : NoBucketCollision rs p reqs) (hni : NoInitialKey rs p reqs) (hinj : HashInjectiveOn rs reqs) :
    runAll rs (Rrl.new p T₀) reqs =
      .ok (expectedFrom (specDecision (cfgOf p v4len v6len)) p [] reqs) :=
  C26.C26_history hv hm T₀ reqs hmono hsrc hnc hni hinj

/-! ### non-vacuity: concrete addresses -/

/-- 192.0.2.1 and 192.0.2.200 share a /24, 192.0.3.1 does not; `::ffff:192.0.2.9` counts as IPv4
    and is in the same /24; `::192.0.2.9` is a different family -/
example :
    Spec.Rrl.sameNetwork 24 56 (.v4 0xC0000201) (.v4 0xC00002C8) ∧
    ¬ Spec.Rrl.sameNetwork 24 56 (.v4 0xC0000201) (.v4 0xC0000301) ∧
    Spec.Rrl.sameNetwork 24 56 (.v4 0xC0000201) (.v6 0xFFFFC0000209) ∧
    ¬ Spec.Rrl.sameNetwork 24 56 (.v4 0xC0000201) (.v6 0xC0000209) := by decide

/-- the model agrees on these (instance of `C27_dest_eq_iff` + `C27_ipv4_mapped`) -/
example :
    ipToDestU64 C26.exParams (ReceivedInfo.new (.v4 0xC0000201)) =
      ipToDestU64 C26.exParams (ReceivedInfo.new (.v6 0 0xFFFFC0000209)) ∧
    (ReceivedInfo.new (.v6 0 0xFFFFC0000209)).isIpv6 = false ∧
    (ReceivedInfo.new (.v6 0 0xC0000209)).isIpv6 = true := by decide

/-- **Documented defaults.**  `RrlParams::new` without any call of the prefix setters groups
    sources by /24 (IPv4) and /56 (IPv6), as src/server/rrl.rs documents under "Defaults"
    (`ipv4_prefix_len: 24`, `ipv6_prefix_len: 56`); the two default netmask literals are read
    from the source by the extractor (`Gen.RRL_DEFAULT_IPV4_NETMASK/IPV6_NETMASK`), so every
    stream theorem above (`MasksOf p 24 56 → …`) applies to an unconfigured `RrlParams`. -/
theorem C27_default_masks {ne nx er w : Nat} {p : RrlParams}
    (h : RrlParams.new ne nx er w = .ok p) : MasksOf p 24 56 := by
  obtain ⟨_, rfl⟩ := new_ok h
  exact ⟨by decide, by decide,
    show UInt32.ofNat Gen.RRL_DEFAULT_IPV4_NETMASK = _ by decide,
    show UInt64.ofNat Gen.RRL_DEFAULT_IPV6_NETMASK = _ by decide⟩

/-- `MasksOf` is satisfiable for every pair of lengths in range (the setters produce it) -/
example : MasksOf C26.exParams 24 56 := (C26.C26_configure_valid C26.exParams_configured).2.1

end QV.C27
