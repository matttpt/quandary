/-
  C12 — The message writer serialises exactly what it was given.

  "For any sequence of writer operations, the finished message decodes to exactly the header
   values, questions, records, EDNS extended RCODE and TSIG record of the operations that
   succeeded, in order, and failed operations leave the message unchanged. The message never
   exceeds the size limit in effect, an operation whose uncompressed encoding fits in the
   remaining space never fails with truncation, and decompressed names equal the names given
   (exactly in case-preserving or disabled compression mode, ignoring ASCII case otherwise)."

  Model: `QV.Model.Writer` / `QV.Model.Compress` (mirror src/message/writer.rs, the `components`
  dispatcher of src/rr/rdata/mod.rs and `Ttl::from` of src/rr/ttl.rs), one `Op` per public
  method; a session is `run : Session → List Op → Session × List (Out WriterErr Unit)`.
  Spec: `QV.Spec.Message` (independent RFC 1035 message decoder `specDecodeMsg`, abstract
  messages, `checkSession` = the whole property as an executable check; the driver evaluates it
  on the implementation's octets for every generated session: op `waudit`).

  TSIG signing is a parameter `macFn` of `finish` (the MAC itself is C11's business).
-/
import QV.Proofs.WriterSession
import QV.Proofs.WriterBridge
import QV.Proofs.WriterRefine
import QV.Proofs.WriterHeader
import QV.Proofs.WriterShapeRun
import QV.Proofs.WriterContentDecode
import QV.Proofs.WriterMsgRefine
import QV.Proofs.WriterJustified
import QV.Proofs.WriterAbsStep
import QV.Proofs.WriterWalk
import QV.Proofs.WriterSegment
import QV.Proofs.WriterCheckSession
import QV.Proofs.WriterSessions

namespace QV.C12
open QV QV.Writer QV.ServerSafety

/-! ## the property, in full

  `C12_full`: for every buffer, limit, initial compression mode and every sequence of public
  calls that respects the hint contract, with any MAC function that respects the reservation —
  the session does not panic, and the statuses and octets the model produces satisfy the
  executable specification `QV.Spec.Message.checkSession` (the finished message decodes with the
  independent decoder to exactly the header values, questions, records, OPT and TSIG record of
  the calls that succeeded, every failure is justified — `Truncation` only when the
  uncompressed encoding does not fit —, the message fits the limit in effect, names equal the
  names given exactly / up to ASCII case according to the mode, and the pointer audit passes).
  This is literally what the driver evaluates as the *model column* of every `waudit` case, and
  (on the implementation's octets) as the *spec column*.

  Proved below for all operation sequences: (a) the invariant, (b) the size limit, (c) failed
  operations change nothing, (e) no spurious truncation, (f) the extended RCODE, no panic and
  `finish` succeeds under the hint contract, and (d) the decoding half **in every compression
  mode**: `C12_refinement_all_modes` (the specification's decoder `specDecodeMsg` reads the finished
  octets as the header octets of the writer and exactly the questions, records, OPT and TSIG record
  of the calls that succeeded, in order; names — QNAME, owners, names inside RDATA, decompressed —
  equal to the names given up to ASCII case), `C12_refinement_without_standard_mode` (sessions that
  never use `Standard` mode: the decoded message *equals* the abstract message; for `Disabled` mode
  alone also `C12_disabled_refinement`, proved from the octets), `C12_header_all_sequences` (what
  the header octets are).
  `C12_full_holds : C12_full` (end of this file) proves the statement below. Its parts, each a theorem
  of this file: the walk of `checkSession` over the status strings with `absOk` and `justified`
  (`C12_failures_justified`, `C12_walk_reaches_final_check_partial`); the getters, header, questions and
  records by item mode, OPT, TSIG, size (`C12_final_check_clauses_partial`,
  `C12_segment_reduces_to_pointer_audit_partial`); the pointer audit (`C12_pointer_audit_passes_partial`,
  `QV.Proofs.WriterAudit`); sessions of one segment (`C12_full_without_clear_rrs_partial`); all sessions
  (`C12_full_all_sessions_partial`, with the MAC-size hypothesis at every prefix of the calls; `after_sig`
  — a TSIG configuration keeps its algorithm for the rest of the session — reduces that to the final
  state).
  The pointer audit rests on four facts: (1) every name write records only label starts of the name it
  leaves at the old cursor (`PhysLab`, `NameSpec.ok`) and writes the name literally in `Disabled` mode;
  (2) the layout invariant `CLay` carries, for all call sequences, that every recorded label start is the
  first octet of a label of a name of the chains — a QNAME below `rr_start`, an owner or a name inside
  RDATA above (`QLab`, `RLab`; `RdAt` lists the name positions of each RDATA) — and that a name
  written in `Disabled` mode ends with its root label (`NameIs`); `finish` keeps this for the OPT
  and TSIG records (`Labs` in `FinLayC`); (3) the decoder's name occurrences `d.names` are, in
  order, the names at the name positions of the chains of the final buffer, each described as the
  physical walk finds it there (`FinAudit` in `finish_refines`, `physical_inv`, `chunk_unique`);
  (4) the induction over `auditPointers.go` (`audit_go`: a pointer's target is a recorded label
  start below the name — `item_ptr_target` —, hence a label of an earlier occurrence; no pointer
  in `Disabled` items and in uncompressible RDATA).
  (d) is stated for limits of at most 65535 (RDLENGTH is a 16-bit field; the writer itself accepts
  larger buffers). The driver evaluates `checkSession` itself on 100 % of the generated sessions (model
  column and, on the implementation's octets, spec column of `waudit`). -/

/- `C12_full` without the three hypotheses on the arguments is false. That statement reads:

    def C12_full : Prop :=
      ∀ (buf : Bytes) (limit : Nat) (mode : CMode) (s : State) (ops : List Op) (mac : Option (List UInt8)),
        Writer.new buf limit = .ok s → Respects { w := { s with mode := mode } } ops →
        MacLenOK (fun _ _ => mac.getD []) →
        let r := Driver.runModel { w := { s with mode := mode } } ops mac true
        ∃ m, r.msg = some m ∧
          Spec.Message.checkSession buf.size limit (Driver.toSpecMode mode) (ops.map Driver.toSpecOp)
            r.statuses (r.pre ++ [m]) r.mac = "ok"

   It quantifies over calls whose arguments are not values
   of the Rust API's types: the model takes natural numbers, so `set_id 70000`, a 17-bit type or
   class, a payload size above 65535 or an empty `RdataSet` are calls of the model that the Rust
   writer cannot receive, and for them the model (which truncates to the field width, as the octets
   must) and the abstract specification (which records the number given) disagree — `checkSession`
   reports a difference that no real session can show. The statement therefore needs the hypothesis
   that every call is typed (`ApiTyped`: `Op.Typed`, the `u16` bounds of `set_edns` / `set_tsig`, and
   non-empty RRsets). It also needs the limits to be at most 65535 (the largest DNS message; RDLENGTH
   and the TCP length prefix are 16-bit): (d) is proved for finished messages of at most 65535
   octets. And the MAC handed over must have exactly the output size of the algorithm when the TSIG mode
   signs (`MacLenOK` only bounds it; the specification's `tsigRecordOk` compares the RDATA length with
   the algorithm's size). The driver generates typed calls, limits below 65536 and MACs of the right
   size only. -/
def C12_full : Prop :=
  ∀ (buf : Bytes) (limit : Nat) (mode : CMode) (s : State) (ops : List Op) (mac : Option (List UInt8)),
    Writer.new buf limit = .ok s → Respects { w := { s with mode := mode } } ops →
    (∀ op ∈ ops, ApiTyped op) → limit ≤ 65535 → (∀ v, Op.setLimit v ∈ ops → v ≤ 65535) →
    MacLenOK (fun _ _ => mac.getD []) →
    (∀ ts, (run { w := { s with mode := mode } } ops).1.w.tsig = some ts → isUnsigned ts.mode = false →
      (mac.getD []).length = (toATsig ts).macLen) →
    let r := Driver.runModel { w := { s with mode := mode } } ops mac true
    ∃ m, r.msg = some m ∧
      Spec.Message.checkSession buf.size limit (Driver.toSpecMode mode) (ops.map Driver.toSpecOp)
        r.statuses (r.pre ++ [m]) r.mac = "ok"

/-! ## (a) the invariant, for all operation sequences -/

/-- `Writer::new` establishes the invariant
    `12 ≤ cursor ≤ available ≤ limit ≤ |buffer|`, `limit − available = 11·[EDNS] + TSIG
    reservation`, `12 ≤ rr_start ≤ cursor`, all counts ≤ 65535, `ARCOUNT ≥ [EDNS] + [TSIG]`. -/
theorem C12_new_establishes_invariant (buf : Bytes) (limit : Nat) (s : State)
    (h : Writer.new buf limit = .ok s) : Inv s := new_inv buf limit s h

/-- every public call keeps it, whatever the call returns (success, error, even a panic) -/
theorem C12_invariant_step (ss : Session) (op : Op) (h : Inv ss.w) : Inv (step ss op).2.w :=
  step_inv ss op h

/-- hence it holds after **any** sequence of calls -/
theorem C12_invariant_all_sequences (buf : Bytes) (limit : Nat) (s : State)
    (h : Writer.new buf limit = .ok s) (ops : List Op) : Inv (run { w := s } ops).1.w :=
  run_inv _ ops (new_inv buf limit s h)

/-! ## (b) the message never exceeds the size limit in effect -/

theorem C12_finish_within_limit (macFn : Tsig → List UInt8 → List UInt8) (s : State) (h : Inv s)
    (m : Bytes) (mac : Option (List UInt8)) (hf : finish s macFn = .ok (m, mac)) :
    m.size ≤ s.limit := finish_size_le_limit macFn s h m mac hf

/-- for all sequences: whatever was done before, the finished message fits the limit then in
    effect (which itself never exceeds the buffer) -/
theorem C12_limit_all_sequences (buf : Bytes) (limit : Nat) (s : State)
    (h : Writer.new buf limit = .ok s) (ops : List Op) (macFn : Tsig → List UInt8 → List UInt8)
    (m : Bytes) (mac : Option (List UInt8))
    (hf : finish (run { w := s } ops).1.w macFn = .ok (m, mac)) :
    m.size ≤ (run { w := s } ops).1.w.limit ∧
    (run { w := s } ops).1.w.limit ≤ (run { w := s } ops).1.w.octets.size :=
  ⟨finish_size_le_limit macFn _ (run_inv _ ops (new_inv buf limit s h)) m mac hf,
   (run_inv _ ops (new_inv buf limit s h)).lim_size⟩

/-! ## (c) failed operations leave the message unchanged (the `with_rollback` theorem) -/

/-- A call that returns an error leaves every field of the writer (cursor, section, the four
    counts, the three compression anchors, limit bookkeeping, EDNS/TSIG configuration) and
    every octet below the cursor exactly as they were. -/
theorem C12_failed_op_changes_nothing (ss : Session) (op : Op) (h : Inv ss.w) (e : WriterErr)
    (he : (step ss op).1 = .err e) : Same ss.w (step ss op).2.w :=
  step_err_same ss op h e he

/-! ## (e) no spurious truncation -/

/-- For every state, every call and every hint (valid or not): a call fails with `Truncation`
    only if its *uncompressed* encoding (`uncompressedLen`) does not fit between the cursor and
    `available` (= limit minus the OPT/TSIG reservations). (Re-creating the writer from a
    template on a smaller buffer is the one other source of `Truncation`.) -/
theorem C12_no_spurious_truncation (ss : Session) (op : Op) (ht : isTemplateOp op = false)
    (hfit : ss.w.cursor + uncompressedLen op ≤ ss.w.available) :
    (step ss op).1 ≠ .err .Truncation := by
  intro h
  have := step_truncation ss op ht h
  omega

/-! ## no panic, and `finish` succeeds, for every sequence that respects the hint contract -/

/-- `Respects`: names are well-formed `Name`s, every hint given for an owner is valid in the state
    in which it is used (`HintOK`: the anchor it resolves to starts an earlier copy of that name,
    up to ASCII case), TSIG times are 48-bit. Then no call panics — in particular neither the
    `panic!("invalid pointer found during compression; this is a bug")` nor any slice index of
    the scan — and the full invariant `I` (numeric invariant, valid anchors, sound pointer log)
    holds at the end. -/
theorem C12_no_panic_under_contract (buf : Bytes) (limit : Nat) (s : State)
    (h : Writer.new buf limit = .ok s) (ops : List Op) (hr : Respects { w := s } ops) :
    (∀ r ∈ (run { w := s } ops).2, r ≠ .panic) ∧ I (run { w := s } ops).1.w :=
  run_I _ ops (new_i buf limit s h) hr

/-- from any such state `finish` returns a message (the two `unwrap`s cannot fail: the OPT and
    TSIG records fit the space reserved for them) provided the MAC is not longer than the
    algorithm's output -/
theorem C12_finish_succeeds (s : State) (hI : I s) (macFn : Tsig → List UInt8 → List UInt8)
    (hmac : MacLenOK macFn) : ∃ m mac, finish s macFn = .ok (m, mac) :=
  finish_ok macFn hmac s hI

/-- non-vacuity of `Respects`: any session that passes well-formed names and no hints respects
    the contract, from any state (`Hint::None` "will always produce correct results") -/
example (ss : Session) :
    Respects ss [.addQuestion ⟨[[119, 119, 119], [97]]⟩ 1 1,
      .addRr .answer (.direct .none) ⟨[[119, 119, 119], [97]]⟩ 5 1 60 [1, 98, 1, 97, 0] none,
      .clearRrs, .setEdns 1232] :=
  ⟨(by decide : WName.WF ⟨[[119, 119, 119], [97]]⟩), ⟨(by decide : WName.WF ⟨[[119, 119, 119], [97]]⟩), trivial⟩,
    trivial, trivial, trivial⟩

/-! ## (f) the extended RCODE (repaired defect D07) -/

/-- every 12-bit extended RCODE is accepted on an EDNS message and read back unchanged -/
theorem C12_ext_rcode_roundtrip (s : State) (e : Edns) (v : Nat) (he : s.edns = some e)
    (hv : v ≤ 4095) (hs : 12 ≤ s.octets.size) :
    ∃ s', setExtendedRcode v s = (.ok (), s') ∧ getExtendedRcode s' = v ∧
      s'.edns = some ⟨e.payload, v / 16⟩ :=
  setExtendedRcode_roundtrip s e v he hv hs

/-- values above 4095 are rejected -/
theorem C12_ext_rcode_rejects_above_4095 (s : State) (v : Nat) (hv : v > 4095) :
    setExtendedRcode v s = (.err (if s.edns.isSome then .ExtendedRcodeOverflow else .NotEdns), s) :=
  setExtendedRcode_rejects s v hv


/-! ## (d) refinement: the finished message decodes to what was given (`Disabled` mode)

  For **all** sequences of calls that respect the API contract and stay in `Disabled` compression
  mode, the specification's independent RFC 1035 decoder `specDecodeMsg` reads the finished
  message as exactly: the questions and records of the calls that succeeded — in order, section
  by section, names octet for octet, TTLs per RFC 2181 §8, RDATA as the specification itself
  reads the RDATA given (`givenRdata`) —, followed by the OPT record (if EDNS was set) and the
  TSIG record with the MAC returned (if TSIG was set); nothing else (failed calls left no trace:
  `bodyRun` skips them). The header is the one held in the first four octets of the buffer.

  `Op.Typed`: arguments are values of their Rust types (`Name` well formed, 16-bit type/class,
  `Rdata` ≤ 65535 octets). `Respects`: the hint contract. `MacLenOK`: the MAC fits its
  reservation. -/

theorem C12_disabled_refinement (macFn : Tsig → List UInt8 → List UInt8) (hmac : MacLenOK macFn)
    (ss : Session) (b : Body) (ops : List Op) (hI : I ss.w) (hlay : Lay ss.w b) (hb : b.Typed)
    (hk : ∀ op ∈ ops, keepsDisabled op = true) (ht : ∀ op ∈ ops, op.Typed) (hr : Respects ss ops) :
    ∃ m mac d, finish (run ss ops).1.w macFn = .ok (m, mac) ∧ Spec.Message.specDecodeMsg m = some d ∧
      d.msg = ⟨specHeader (run ss ops).1.w.octets,
        (bodyRun b ops (run ss ops).2).qs.map specQ,
        (bodyRun b ops (run ss ops).2).an.map specR,
        (bodyRun b ops (run ss ops).2).ns.map specR,
        ((bodyRun b ops (run ss ops).2).ar ++ optRecs (run ss ops).1.w.edns ++
          tsigRecs (run ss ops).1.w.tsig mac).map specR⟩ :=
  disabled_refines macFn hmac ss b ops hI hlay hb hk ht hr

/-- **the header, for all sequences of calls in every compression mode**: the header the decoder
    reads off the buffer is the all-zero header of `Writer::new` updated by the header setters that
    succeeded, in order — each sets exactly its field (`set_extended_rcode` the low four bits of
    the RCODE); no other call and no failed call touches it -/
theorem C12_header_all_sequences (buf : Bytes) (limit : Nat) (s0 : State)
    (hnew : Writer.new buf limit = .ok s0) (mode : CMode) (ops : List Op) (ht : ∀ op ∈ ops, op.Typed)
    (hr : Respects { w := { s0 with mode := mode } } ops) :
    specHeader (run { w := { s0 with mode := mode } } ops).1.w.octets =
      hdrRun ⟨0, false, 0, false, false, false, false, 0, 0⟩ ops
        (run { w := { s0 with mode := mode } } ops).2 := by
  have := hdr_run { w := { s0 with mode := mode } } ops (new_mode_i hnew mode) hr ht
  rw [this]
  show hdrRun (specHeader s0.octets) _ _ = _
  rw [hdr_new buf limit s0 hnew]

/-- the same from a fresh writer (`Writer::new`, then `set_compression_mode(Disabled)`) -/
theorem C12_disabled_refinement_fresh (macFn : Tsig → List UInt8 → List UInt8) (hmac : MacLenOK macFn)
    (buf : Bytes) (limit : Nat) (s0 : State) (hnew : Writer.new buf limit = .ok s0) (ops : List Op)
    (hk : ∀ op ∈ ops, keepsDisabled op = true) (ht : ∀ op ∈ ops, op.Typed)
    (hr : Respects { w := { s0 with mode := .disabled } } ops) :
    let fin := run { w := { s0 with mode := .disabled } } ops
    let B := bodyRun {} ops fin.2
    ∃ m mac d, finish fin.1.w macFn = .ok (m, mac) ∧ Spec.Message.specDecodeMsg m = some d ∧
      d.msg = ⟨hdrRun ⟨0, false, 0, false, false, false, false, 0, 0⟩ ops fin.2,
        B.qs.map specQ, B.an.map specR, B.ns.map specR,
        (B.ar ++ optRecs fin.1.w.edns ++ tsigRecs fin.1.w.tsig mac).map specR⟩ := by
  have hI : I { s0 with mode := .disabled } := (safe_setMode .disabled s0 (new_i buf limit s0 hnew)).2
  intro fin B
  rw [← C12_header_all_sequences buf limit s0 hnew .disabled ops ht hr]
  exact disabled_refines macFn hmac { w := { s0 with mode := .disabled } } {} ops hI
    (lay_new buf limit s0 hnew) Body.Typed.empty hk ht hr

/-- RDATA the writer accepted is RDATA the specification can read: the implementation's
    `Rdata::components` table (generated from the source) is exactly the RFC layout table of the
    specification, for every class and type -/
theorem C12_accepted_rdata_is_wellformed (sec : RrSection) (hint : Hint) (owner : WName)
    (ty cls ttl : Nat) (rd : List UInt8) (s : State)
    (h : (addRrOp sec hint owner ty cls ttl rd s).1 = .ok ()) :
    (Spec.Message.givenRdata ty cls rd).isSome = true :=
  givenRdata_of_rdataOK cls ty rd ((addRrOp_rdata sec hint owner ty cls ttl rd s).1 h)

theorem C12_component_table_is_rfc_layout (cls ty : Nat) :
    componentTypes cls ty = some ((Spec.Message.layoutOf ty cls).map layToComp) :=
  componentTypes_layout cls ty

/-! ## (d) in every compression mode

  The refinement for `Standard` and `CasePreserving` mode is `C12_refinement_all_modes` (the single
  statement, further down) with its corollary `C12_refinement_without_standard_mode`
  (decoded message = abstract message, exactly). The theorems before it state its parts for the
  independent message decoder of `QV.Spec.MsgDecode` (the oracle of C02):
  * **Structure, for all sequences of calls** (`C12_finished_message_decodes_all_modes`): the
    finished message — if at most 65535 octets, as every DNS message is — decodes completely under
    the independent message decoder of `QV.Spec.MsgDecode`: exactly QDCOUNT questions and
    ANCOUNT / NSCOUNT / ARCOUNT records (the counts the writer kept: failed calls left no trace),
    the message ending after the last record; the additional section ends with the OPT record iff
    EDNS is set, then the TSIG record iff a TSIG is set. (Invariant `SLay`: every question and
    record starts with a name that decoder reads — C13 — on exactly the octets the writer wrote,
    and every RDLENGTH leads to the next record.)
  * **Content, record by record** (`C12_record_round_trip_all_modes`): what one successful `add_rr`
    appended reads back, on every later message, as the owner given (same labels up to ASCII case;
    octet for octet in `CasePreserving` and `Disabled` mode), TYPE, CLASS, TTL as given, and an
    RDLENGTH that is the number of octets written after it.
  * **Content, all records of a session** (`C12_records_are_the_calls_all_modes`, below): the decoded
    questions and records are, section by section and in order, those of the calls that succeeded.
  * **RDATA** (`C12_rdata_round_trip_all_modes`, below): the RDATA of a record reads back field by
    field, the names inside it decompressed to the names given.
  * **The whole message, RFC-layout decoder** (`C12_refinement_all_modes`, below). -/

theorem C12_finished_message_decodes_all_modes (macFn : Tsig → List UInt8 → List UInt8) (hmac : MacLenOK macFn)
    (buf : Bytes) (limit : Nat) (s0 : State) (hnew : Writer.new buf limit = .ok s0) (mode : CMode)
    (ops : List Op) (hr : Respects { w := { s0 with mode := mode } } ops) :
    let fin := (run { w := { s0 with mode := mode } } ops).1.w
    ∃ m mac, finish fin macFn = .ok (m, mac) ∧ (m.size ≤ 65535 →
      ∃ d, Spec.specDecodeMsg m = some d ∧ d.questions.length = fin.qdcount ∧ d.an.length = fin.ancount ∧
        d.ns.length = fin.nscount ∧ d.ar.length = fin.arcount ∧
        ∃ body, d.ar.map (·.ty) = body ++ (if fin.edns.isSome then [41] else []) ++
          (if fin.tsig.isSome then [250] else [])) := by
  intro fin
  obtain ⟨hI, hL⟩ := fresh_run (P := fun _ => True) hnew mode trivial ops hr (fun _ _ => trivial)
  obtain ⟨m, mac, hf⟩ := finish_ok macFn hmac fin hI
  exact ⟨m, mac, hf, fun hsz => finish_decodes macFn fin hI (slay_of_clay hL) m mac hf hsz⟩

theorem C12_record_round_trip_all_modes (hint : Hint) (owner : WName) (ty cls ttl : Nat) (rd : List UInt8)
    (s s' : State) (hw : WInv s) (hwf : owner.WF) (hh : Writer.HintOK s hint owner)
    (hty : ty < 65536) (hcls : cls < 65536) (httl : ttl < 4294967296)
    (h : addRr hint owner ty cls ttl rd s = (.ok (), s')) (msg : Bytes)
    (hmsg : ∀ i, i < s'.cursor → msg[i]? = s'.octets[i]?) :
    ∃ w k, Spec.specDecodeName msg s.cursor = some (w, owner.len, k) ∧ s.cursor + k + 10 ≤ s'.cursor ∧
      w.map lowerU8 = owner.wire.map lowerU8 ∧ (s.mode ≠ .standard → w = owner.wire) ∧
      be16 msg (s.cursor + k) = ty ∧ be16 msg (s.cursor + k + 2) = cls ∧ be32 msg (s.cursor + k + 4) = ttl ∧
      be16 msg (s.cursor + k + 8) = (s'.cursor - (s.cursor + k + 10)) % 65536 :=
  addRr_round_trip hint owner ty cls ttl rd s s' hw hwf hh hty hcls httl h msg hmsg

/-- the same for the question (`add_question`): QNAME, then QTYPE and QCLASS -/
theorem C12_question_round_trip_all_modes (qn : WName) (qt qc : Nat) (s s' : State) (hw : WInv s)
    (hwf : qn.WF) (hqt : qt < 65536) (hqc : qc < 65536)
    (h : addQuestionBody qn qt qc s = (.ok (), s')) (msg : Bytes)
    (hmsg : ∀ i, i < s'.cursor → msg[i]? = s'.octets[i]?) :
    ∃ w k, Spec.specDecodeName msg s.cursor = some (w, qn.len, k) ∧ s'.cursor = s.cursor + k + 4 ∧
      w.map lowerU8 = qn.wire.map lowerU8 ∧ (s.mode ≠ .standard → w = qn.wire) ∧
      be16 msg (s.cursor + k) = qt ∧ be16 msg (s.cursor + k + 2) = qc :=
  addQuestionBody_round_trip qn qt qc s s' hw hwf hqt hqc h msg hmsg


/-! ### every decoded question and record is the one given, in order (every mode)

  For every session from a fresh writer, in any initial mode, with any mode changes: the finished
  message (if at most 65535 octets) decodes, and the decoded questions / answer / authority /
  additional records are — one for one and in order — the questions and records of the calls that
  succeeded (`bodyRun`; `clear_rrs` removes the records, a failed call adds nothing), followed in
  the additional section by the OPT record (payload size as CLASS, extended RCODE/version as TTL)
  and the TSIG record (key name, ANY, TTL 0). "Is the one given" (`RMatch`, `QMatch`): the decoded
  name, decompressed by the independent decoder, equals the name given up to ASCII case — octet
  for octet if the call was made in `CasePreserving` or `Disabled` mode (the mode `it.m` of every
  item is the initial mode or one set by a `set_compression_mode` call of the session) —, TYPE, CLASS, TTL are
  the values given, and the RDATA is the RDATA given, octet for octet, for every type whose RDATA
  holds no compressible name (`Rdata::components` lists none: everything but NS, MD, MF, CNAME,
  SOA, MB, MG, MR, PTR, MINFO, MX). Underneath (`RdAt`, `QV.Proofs.WriterRdPos`): for every record
  the buffer holds the RDATA given part by part as the component loop of `add_rr` (`writeComponents`) splits it — fixed-length
  parts, uncompressible names and the rest verbatim, each compressible name as a name the
  independent decoder reads there and that is the name given. -/
theorem C12_records_are_the_calls_all_modes (macFn : Tsig → List UInt8 → List UInt8) (hmac : MacLenOK macFn)
    (buf : Bytes) (limit : Nat) (s0 : State) (hnew : Writer.new buf limit = .ok s0) (mode : CMode)
    (ops : List Op) (hr : Respects { w := { s0 with mode := mode } } ops) :
    let out := run { w := { s0 with mode := mode } } ops
    let given := bodyRun {} ops out.2
    ∃ m mac, finish out.1.w macFn = .ok (m, mac) ∧ (m.size ≤ 65535 →
      ∃ (d : Spec.DMsg) (qs : List QItC) (ian ins iar : List RItC), Spec.specDecodeMsg m = some d ∧
        qs.map (·.q) = given.qs ∧ ian.map (·.r) = given.an ∧ ins.map (·.r) = given.ns ∧
        iar.map (·.r) = given.ar ++ optRecs' out.1.w.edns ++ tsigRecs out.1.w.tsig mac ∧
        All2 QMatch qs d.questions ∧ All2 RMatch ian d.an ∧ All2 RMatch ins d.ns ∧ All2 RMatch iar d.ar ∧
        (∀ it ∈ qs, it.m = mode ∨ Op.setMode it.m ∈ ops) ∧
        ∀ it ∈ ian ++ ins ++ iar, it.m = mode ∨ Op.setMode it.m ∈ ops) := by
  intro out given
  obtain ⟨hI, hL⟩ := fresh_run (P := fun m => m = mode ∨ Op.setMode m ∈ ops) hnew mode (Or.inl rfl) ops hr
    (fun m hm => Or.inr hm)
  obtain ⟨m, mac, hf⟩ := finish_ok macFn hmac out.1.w hI
  exact ⟨m, mac, hf, fun hsz => finish_decodes_content macFn out.1.w given _ hI hL m mac hf hsz⟩

/-- the same with the expanded RDATA (`RMatchX` = `RMatch` and `RdMatch`): for every record of a
    16-bit type whose given RDATA is well formed for its type (`RdShape`: exactly the names and
    fixed octets of the RFC 1035 layout), the RDATA the independent message decoder reports — names
    of NS, MD, MF, CNAME, SOA, MB, MG, MR, PTR, MINFO, MX expanded — is the RDATA given with those
    names written out (`RdExpands`): equal up to ASCII case, octet for octet for records written
    outside `Standard` mode (`rdExpands_lower`), all other octets as given; `rdOk = true` -/
theorem C12_expanded_rdata_is_the_given_rdata (macFn : Tsig → List UInt8 → List UInt8) (hmac : MacLenOK macFn)
    (buf : Bytes) (limit : Nat) (s0 : State) (hnew : Writer.new buf limit = .ok s0) (mode : CMode)
    (ops : List Op) (hr : Respects { w := { s0 with mode := mode } } ops) :
    let out := run { w := { s0 with mode := mode } } ops
    let given := bodyRun {} ops out.2
    ∃ m mac, finish out.1.w macFn = .ok (m, mac) ∧ (m.size ≤ 65535 →
      ∃ (d : Spec.DMsg) (qs : List QItC) (ian ins iar : List RItC), Spec.specDecodeMsg m = some d ∧
        qs.map (·.q) = given.qs ∧ ian.map (·.r) = given.an ∧ ins.map (·.r) = given.ns ∧
        iar.map (·.r) = given.ar ++ optRecs' out.1.w.edns ++ tsigRecs out.1.w.tsig mac ∧
        All2 QMatch qs d.questions ∧ All2 RMatchX ian d.an ∧ All2 RMatchX ins d.ns ∧ All2 RMatchX iar d.ar ∧
        (∀ it ∈ qs, it.m = mode ∨ Op.setMode it.m ∈ ops) ∧
        ∀ it ∈ ian ++ ins ++ iar, it.m = mode ∨ Op.setMode it.m ∈ ops) := by
  intro out given
  obtain ⟨hI, hL⟩ := fresh_run (P := fun m => m = mode ∨ Op.setMode m ∈ ops) hnew mode (Or.inl rfl) ops hr
    (fun m hm => Or.inr hm)
  obtain ⟨m, mac, hf⟩ := finish_ok macFn hmac out.1.w hI
  exact ⟨m, mac, hf, fun hsz => finish_decodes_rdata macFn out.1.w given _ hI hL m mac hf hsz⟩

/-- non-vacuity of `RdShape` / `RdExpands`: a CNAME RDATA `b.a.` is well formed, and the expansion
    relation holds between it and itself -/
example : RdShape 5 [1, 98, 1, 97, 0] ∧ RdExpands True 5 [1, 98, 1, 97, 0] [1, 98, 1, 97, 0] := by
  refine ⟨?_, ?_⟩
  · unfold RdShape; simp only [Nat.reduceEqDiff, or_true, true_or, if_true]
    exact ⟨⟨[[98], [97]]⟩, by decide⟩
  · unfold RdExpands; simp only [Nat.reduceEqDiff, or_true, true_or, if_true]
    exact ⟨⟨[[98], [97]]⟩, _, by decide, rfl, by decide, rfl, fun _ => by decide⟩

/-! ### the RDATA of a record reads back, names inside it decompressed (every mode)

  After a successful `add_rr` (message of at most 65535 octets so far): the record starts at the old
  cursor with an owner of `k` octets, RDLENGTH holds the number `len` of octets after it, and the
  specification's decoder (`QV.Spec.Message.decodeRdata`: expand the RDATA along the RFC layout of
  the type, decompressing the names RFC 3597 §4 allows to be compressed) reads exactly the fields
  of the RDATA given (`givenRdata`, the specification's own reading of the caller's octets):
  `FieldMatch` — octet fields equal, names equal up to ASCII case, octet for octet unless the mode
  is `Standard`. The whole-message statements carry this for every record (`RdAt` inside the
  layout invariant `CLay`). -/
theorem C12_rdata_round_trip_all_modes (hint : Hint) (owner : WName) (ty cls ttl : Nat) (rd : List UInt8)
    (s s' : State) (hw : WInv s) (hl : PtrLogOK s) (hwf : owner.WF) (hh : Writer.HintOK s hint owner)
    (h : addRr hint owner ty cls ttl rd s = (.ok (), s')) (hle : s'.cursor ≤ 65535) (item : Nat) :
    ∃ k len gf df ns, s.cursor + k + 10 + len = s'.cursor ∧
      (∃ w n, Spec.specDecodeName (s'.octets.extract 0 s'.cursor) s.cursor = some (w, n, k)) ∧
      be16 s'.octets (s.cursor + k + 8) = len ∧
      Spec.Message.givenRdata ty cls rd = some gf ∧
      Spec.Message.decodeRdata (s'.octets.extract 0 s'.cursor) item ty cls (s.cursor + k + 10) len = some (df, ns) ∧
      All2 (FieldMatch (s.mode ≠ .standard)) gf df :=
  addRr_rdata_round_trip hint owner ty cls ttl rd s s' hw hl hwf hh h hle item


/-! ### (d) in every compression mode: the single statement

  `C12_refinement_all_modes`: for every buffer, limit, initial mode and every sequence of public calls
  (arguments of the Rust types: 16-bit types and classes, …; hint contract respected), with any
  mode changes, templates, `clear_rrs`, EDNS and TSIG: `finish` succeeds and its message (if at most
  65535 octets), read by the specification's RFC 1035 decoder `QV.Spec.Message.specDecodeMsg`
  (pointers followed, names decompressed, RDATA expanded along the RFC layouts), is: the header
  octets of the writer (`C12_header_all_sequences` says what they are) and, section by section and
  in order, exactly the questions and records of the calls that succeeded (a failed call adds
  nothing; `clear_rrs` removes the records), followed in the additional section by the OPT and TSIG
  records — where `QuestionIs ex` / `RecordIs ex` say: names (QNAME, owner, and every name inside
  RDATA, decompressed) equal to the names given up to ASCII case, and octet for octet if `ex`; TYPE,
  CLASS, TTL and every other RDATA octet as given. `ex` may be taken `True` whenever neither the
  initial mode nor any mode set during the session is `Standard`, and `False` always.

  `C12_refinement_item_modes`: the same with every item compared in the mode in effect when it was
  written (sessions that switch modes).

  `C12_refinement_all_modes_dns_limits`: no premise on the size when all limits are at most 65535.

  `C12_refinement_without_standard_mode`: with `ex = True`, the decoded message *equals* the abstract
  message of the successful calls — the statement of `C12_disabled_refinement`, for `CasePreserving`
  as well (and any mix of `CasePreserving` and `Disabled`). -/
theorem C12_refinement_all_modes (macFn : Tsig → List UInt8 → List UInt8) (hmac : MacLenOK macFn)
    (buf : Bytes) (limit : Nat) (s0 : State) (hnew : Writer.new buf limit = .ok s0) (mode : CMode)
    (ops : List Op) (ht : ∀ op ∈ ops, op.Typed) (hr : Respects { w := { s0 with mode := mode } } ops)
    (ex : Prop) (hex : ex → mode ≠ .standard ∧ ∀ m, Op.setMode m ∈ ops → m ≠ .standard) :
    ∃ m mac, finish (run { w := { s0 with mode := mode } } ops).1.w macFn = .ok (m, mac) ∧ (m.size ≤ 65535 →
      ∃ d : Spec.Message.Decoded, Spec.Message.specDecodeMsg m = some d ∧
        d.msg.header = specHeader (run { w := { s0 with mode := mode } } ops).1.w.octets ∧
        All2 (QuestionIs ex) (bodyRun {} ops (run { w := { s0 with mode := mode } } ops).2).qs d.msg.questions ∧
        All2 (RecordIs ex) (bodyRun {} ops (run { w := { s0 with mode := mode } } ops).2).an d.msg.answers ∧
        All2 (RecordIs ex) (bodyRun {} ops (run { w := { s0 with mode := mode } } ops).2).ns d.msg.authorities ∧
        All2 (RecordIs ex) ((bodyRun {} ops (run { w := { s0 with mode := mode } } ops).2).ar ++
          optRecs' (run { w := { s0 with mode := mode } } ops).1.w.edns ++
          tsigRecs (run { w := { s0 with mode := mode } } ops).1.w.tsig mac) d.msg.additionals) :=
  refines_all_modes macFn hmac buf limit s0 hnew mode ops ht hr ex hex

theorem C12_refinement_without_standard_mode (macFn : Tsig → List UInt8 → List UInt8) (hmac : MacLenOK macFn)
    (buf : Bytes) (limit : Nat) (s0 : State) (hnew : Writer.new buf limit = .ok s0) (mode : CMode)
    (ops : List Op) (ht : ∀ op ∈ ops, op.Typed) (hr : Respects { w := { s0 with mode := mode } } ops)
    (hm0 : mode ≠ .standard) (hms : ∀ m, Op.setMode m ∈ ops → m ≠ .standard) :
    ∃ m mac, finish (run { w := { s0 with mode := mode } } ops).1.w macFn = .ok (m, mac) ∧ (m.size ≤ 65535 →
      ∃ d : Spec.Message.Decoded, Spec.Message.specDecodeMsg m = some d ∧
        d.msg = ⟨specHeader (run { w := { s0 with mode := mode } } ops).1.w.octets,
          (bodyRun {} ops (run { w := { s0 with mode := mode } } ops).2).qs.map specQ,
          (bodyRun {} ops (run { w := { s0 with mode := mode } } ops).2).an.map specR,
          (bodyRun {} ops (run { w := { s0 with mode := mode } } ops).2).ns.map specR,
          ((bodyRun {} ops (run { w := { s0 with mode := mode } } ops).2).ar ++
            optRecs (run { w := { s0 with mode := mode } } ops).1.w.edns ++
            tsigRecs (run { w := { s0 with mode := mode } } ops).1.w.tsig mac).map specR⟩) :=
  refines_exact macFn hmac buf limit s0 hnew mode ops ht hr hm0 hms

/-- **item by item**: every question and record compared in the compression mode in effect when it
    was written — octet for octet unless that mode was `Standard`, up to ASCII case if it was; the
    OPT and TSIG records in the mode in effect at `finish`. This is the comparison the executable
    specification makes (`checkSegment`, `itemModes`), also for sessions that switch between
    `Standard` and the other modes. `mrun`: the mode of the writer when each successful call was
    made; by `C12_modes_follow_the_calls` it is a function of the initial mode, the calls and their
    results (`modesRun`: only `set_compression_mode` changes the mode). -/
theorem C12_refinement_item_modes (macFn : Tsig → List UInt8 → List UInt8) (hmac : MacLenOK macFn)
    (buf : Bytes) (limit : Nat) (s0 : State) (hnew : Writer.new buf limit = .ok s0) (mode : CMode)
    (ops : List Op) (ht : ∀ op ∈ ops, op.Typed) (hr : Respects { w := { s0 with mode := mode } } ops) :
    ∃ m mac, finish (run { w := { s0 with mode := mode } } ops).1.w macFn = .ok (m, mac) ∧ (m.size ≤ 65535 →
      ∃ d : Spec.Message.Decoded, Spec.Message.specDecodeMsg m = some d ∧
        d.msg.header = specHeader (run { w := { s0 with mode := mode } } ops).1.w.octets ∧
        All2 (fun (x : CMode × QRec) dq => QuestionIs (x.1 ≠ .standard) x.2 dq)
          ((mrun { w := { s0 with mode := mode } } {} ops).qs.zip
            (bodyRun {} ops (run { w := { s0 with mode := mode } } ops).2).qs) d.msg.questions ∧
        All2 (fun (x : CMode × RRec) dr => RecordIs (x.1 ≠ .standard) x.2 dr)
          ((mrun { w := { s0 with mode := mode } } {} ops).an.zip
            (bodyRun {} ops (run { w := { s0 with mode := mode } } ops).2).an) d.msg.answers ∧
        All2 (fun (x : CMode × RRec) dr => RecordIs (x.1 ≠ .standard) x.2 dr)
          ((mrun { w := { s0 with mode := mode } } {} ops).ns.zip
            (bodyRun {} ops (run { w := { s0 with mode := mode } } ops).2).ns) d.msg.authorities ∧
        All2 (fun (x : CMode × RRec) dr => RecordIs (x.1 ≠ .standard) x.2 dr)
          (((mrun { w := { s0 with mode := mode } } {} ops).ar ++
              (optRecs' (run { w := { s0 with mode := mode } } ops).1.w.edns).map
                (fun _ => (run { w := { s0 with mode := mode } } ops).1.w.mode) ++
              (tsigRecs (run { w := { s0 with mode := mode } } ops).1.w.tsig mac).map
                (fun _ => (run { w := { s0 with mode := mode } } ops).1.w.mode)).zip
            ((bodyRun {} ops (run { w := { s0 with mode := mode } } ops).2).ar ++
              optRecs' (run { w := { s0 with mode := mode } } ops).1.w.edns ++
              tsigRecs (run { w := { s0 with mode := mode } } ops).1.w.tsig mac)) d.msg.additionals) :=
  refines_item_modes macFn hmac buf limit s0 hnew mode ops ht hr

/-- the modes used in `C12_refinement_item_modes` do not depend on the model's state: only
    `set_compression_mode` changes the writer's mode (`step_mode`) -/
theorem C12_modes_follow_the_calls (buf : Bytes) (limit : Nat) (s0 : State)
    (hnew : Writer.new buf limit = .ok s0) (mode : CMode) (ops : List Op)
    (hr : Respects { w := { s0 with mode := mode } } ops) :
    mrun { w := { s0 with mode := mode } } {} ops =
        modesRun mode {} ops (run { w := { s0 with mode := mode } } ops).2 ∧
      (run { w := { s0 with mode := mode } } ops).1.w.mode = ops.foldl modeAfter mode := by
  exact ⟨mrun_eq_modesRun _ ops {} (new_mode_i hnew mode) hr, run_mode _ ops (new_mode_i hnew mode) hr⟩

/-- the same without a premise on the size of the message: when the limit given to `Writer::new`
    and every limit set later is at most 65535 (the largest DNS message), the finished message has
    at most 65535 octets (`session_size_le`), so the refinement holds outright -/
theorem C12_refinement_all_modes_dns_limits (macFn : Tsig → List UInt8 → List UInt8) (hmac : MacLenOK macFn)
    (buf : Bytes) (limit : Nat) (s0 : State) (hnew : Writer.new buf limit = .ok s0) (hlim : limit ≤ 65535)
    (mode : CMode) (ops : List Op) (ht : ∀ op ∈ ops, op.Typed)
    (hr : Respects { w := { s0 with mode := mode } } ops) (hv : ∀ v, Op.setLimit v ∈ ops → v ≤ 65535)
    (ex : Prop) (hex : ex → mode ≠ .standard ∧ ∀ m, Op.setMode m ∈ ops → m ≠ .standard) :
    ∃ m mac, finish (run { w := { s0 with mode := mode } } ops).1.w macFn = .ok (m, mac) ∧ m.size ≤ 65535 ∧
      ∃ d : Spec.Message.Decoded, Spec.Message.specDecodeMsg m = some d ∧
        d.msg.header = specHeader (run { w := { s0 with mode := mode } } ops).1.w.octets ∧
        All2 (QuestionIs ex) (bodyRun {} ops (run { w := { s0 with mode := mode } } ops).2).qs d.msg.questions ∧
        All2 (RecordIs ex) (bodyRun {} ops (run { w := { s0 with mode := mode } } ops).2).an d.msg.answers ∧
        All2 (RecordIs ex) (bodyRun {} ops (run { w := { s0 with mode := mode } } ops).2).ns d.msg.authorities ∧
        All2 (RecordIs ex) ((bodyRun {} ops (run { w := { s0 with mode := mode } } ops).2).ar ++
          optRecs' (run { w := { s0 with mode := mode } } ops).1.w.edns ++
          tsigRecs (run { w := { s0 with mode := mode } } ops).1.w.tsig mac) d.msg.additionals := by
  obtain ⟨m, mac, hf, hrest⟩ := refines_all_modes macFn hmac buf limit s0 hnew mode ops ht hr ex hex
  have hsz := session_size_le macFn buf limit s0 hnew hlim mode ops hr hv m mac hf
  exact ⟨m, mac, hf, hsz, hrest hsz⟩

/-! ### every failure is one the specification accepts

  `checkSession` accepts a failed call only if `justified s op "err:Kind"` holds in the abstract state
  `s` of the calls that succeeded so far. `C12_failures_justified`: whenever a public call fails with
  `Kind` in a valid writer state, `justified` holds in every abstract state that describes that
  writer state (`AbsNum`: same section, counts, EDNS / TSIG configuration, limit, buffer length,
  `cur` = cursor and `reserved` = `limit − available`). Kind by kind: `Truncation` only if the
  *uncompressed* encoding of what the call adds does not fit (for `set_edns` / `set_tsig`: the
  reservation; for the templates: the new buffer is shorter than message + reservations);
  `CountOverflow` only if the section count would exceed 65535; `OutOfOrder` only for a section
  already closed; `InvalidRdata` only for RDATA the specification itself cannot read along the RFC
  layout (`C12_spec_readable_rdata_is_accepted`); `AlreadyEdns`, `AlreadyTsig`, `NotEdns`,
  `ExtendedRcodeOverflow`, `NotTsig`, `NotSignedTsig` exactly under their conditions; every other
  call never fails. -/
theorem C12_failures_justified (ss : Session) (op : Op) (a : Spec.Message.AState) (hI : I ss.w)
    (hop : OpOK ss op) (hA : AbsNum ss.w a) (e : WriterErr) (he : (step ss op).1 = .err e) :
    Spec.Message.justified a (Driver.toSpecOp op) (Driver.statusStr (.err e)) = true :=
  step_justified ss op a hI hop hA e he

/-- RDATA the specification can read (`givenRdata`) is RDATA `add_*_rr` accepts: the writer reports
    `InvalidRdata` only for RDATA that is malformed for its type also by the specification's reading -/
theorem C12_spec_readable_rdata_is_accepted (cls ty : Nat) (rd : List UInt8)
    (h : (Spec.Message.givenRdata ty cls rd).isSome = true) : rdataOK cls ty rd = true :=
  rdataOK_of_given cls ty rd h

/-! ### the abstract state of the specification follows the writer

  The walk of `checkSession` keeps an abstract state, advanced by `absOk` at every successful call.
  `C12_fresh_writer_is_the_initial_abstract_state`, `C12_accepted_calls_are_accepted_by_the_specification`
  and `C12_abstract_state_follows`: from a fresh writer the abstract state describes the writer state
  (`AbsNum`) after every successful call — `absOk` never rejects a call the writer accepted, and
  section, counts, EDNS / TSIG configuration, limit (`set_limit`, templates), reservations, buffer
  length and mode evolve in the model exactly as the specification says. The one thing `absOk` reads
  off the decoded message is `cur` (the end of the last item written: hypothesis `hcur`, it is the
  cursor) and that the items exist (`AbsPre`). Together with `C12_failures_justified`: every failure
  along the walk is justified in the abstract state the walk has reached. -/
theorem C12_fresh_writer_is_the_initial_abstract_state (buf : Bytes) (limit : Nat) (s : State)
    (h : Writer.new buf limit = .ok s) (m : CMode) :
    AbsNum { s with mode := m }
      { mode := Driver.toSpecMode m, buflen := buf.size, limit := min limit buf.size } :=
  absNum_new buf limit s h m

theorem C12_accepted_calls_are_accepted_by_the_specification (ss : Session) (op : Op)
    (a : Spec.Message.AState) (d : Spec.Message.Decoded) (hI : I ss.w) (hA : AbsNum ss.w a)
    (hok : (step ss op).1 = .ok ()) (hpre : AbsPre a d op) :
    ∃ a', Spec.Message.absOk a d (Driver.toSpecOp op) = .ok a' :=
  absOk_succeeds ss op a d hI hA hok hpre

theorem C12_abstract_state_follows (ss : Session) (op : Op) (a a' : Spec.Message.AState)
    (d : Spec.Message.Decoded) (hI : I ss.w) (hop : OpOK ss op) (hA : AbsNum ss.w a)
    (hok : (step ss op).1 = .ok ()) (habs : Spec.Message.absOk a d (Driver.toSpecOp op) = .ok a')
    (hcur : movesCursor op = true → a'.cur = (step ss op).2.w.cursor) : AbsNum (step ss op).2.w a' :=
  absNum_step ss op a a' d hI hop hA hok habs hcur

/-! ### the walk of `checkSession`, for one segment

  `C12_walk_reaches_final_check_partial` (restriction: sessions without `clear_rrs`, non-empty
  RRsets, limits at most 65535): from a fresh writer, `Spec.Message.walk` — run with the
  specification's initial abstract state on the calls of the session (`toSpecOp`), the statuses the
  model reports (`obs`: `statusStr` of every call, for `getters` what they report — equal to what
  the specification expects, `gettersStr_eq` —, then `"ok"` for `finish`), the finished message and its decoding —
  never rejects: every successful call is accepted by `absOk` (whose `cur`, read off the decoded
  extents, is the cursor: `extents_prefix`), every failed call is `justified`; it equals the final
  `checkSegment` in an abstract state `aF` that describes the final writer state (`AbsNum`) and whose
  header is the decoded header, Z bits zero (the first clause of `checkSegment`), and whose question /
  record lists and item modes are exactly those of the successful calls (`AbsContent`: the lists
  `C12_refinement_item_modes` compares the decoded message with).
  The clauses of `checkSegment aF d …` are `C12_final_check_clauses_partial` and
  `C12_pointer_audit_passes_partial`; segments ended by `clear_rrs`: `C12_full_all_sessions_partial`. -/
theorem C12_walk_reaches_final_check_partial (macFn : Tsig → List UInt8 → List UInt8) (hmac : MacLenOK macFn)
    (buf : Bytes) (limit : Nat) (s0 : State) (hnew : Writer.new buf limit = .ok s0) (hlim : limit ≤ 65535)
    (mode : CMode) (ops : List Op) (ht : ∀ op ∈ ops, op.Typed) (hb : ∀ op ∈ ops, ApiBounds op)
    (hr : Respects { w := { s0 with mode := mode } } ops) (hv : ∀ v, Op.setLimit v ∈ ops → v ≤ 65535)
    (hno : ∀ op ∈ ops, op ≠ .clearRrs ∧ NonEmptySet op) (mac' : Option (List UInt8)) :
    ∃ m mac d aF, finish (run { w := { s0 with mode := mode } } ops).1.w macFn = .ok (m, mac) ∧
      Spec.Message.specDecodeMsg m = some d ∧ AbsNum (run { w := { s0 with mode := mode } } ops).1.w aF ∧
      aF.hdr = d.msg.header ∧ aF.hdr.z = 0 ∧
      AbsContent aF (bodyRun {} ops (run { w := { s0 with mode := mode } } ops).2)
        (mrun { w := { s0 with mode := mode } } {} ops) ∧
      AbsCfg (run { w := { s0 with mode := mode } } ops).1.w aF ∧
      Spec.Message.walk false
          { mode := Driver.toSpecMode mode, buflen := buf.size, limit := min limit buf.size }
          (ops.map Driver.toSpecOp)
          (obs { w := { s0 with mode := mode } } ops ++ ["ok"]) [m] (some d) mac' =
        Spec.Message.checkSegment false aF d m.size mac' :=
  walk_from_new macFn hmac buf limit s0 hnew hlim mode ops ht hb hr hv hno mac'

/-! ### the clauses of the final check, in the specification's own vocabulary

  `C12_final_check_clauses_partial` (same restriction as the walk: no `clear_rrs`): the
  walk equals `checkSegment false aF d m.size mac'`, and for this `aF` and `d` the clauses of
  `checkSegment` hold as the executable specification writes them: the header equals the decoded
  header with Z = 0; the question count; `listEq` of `nameEq`/type/class over the questions zipped
  with their item modes; `recsEq` (that is `recordEq`: `nameEq` on the owner, type, class, TTL,
  `fieldsEq` on the expanded RDATA, each with the mode of the item) for the answer and authority
  sections and for the additional section up to the OPT record the specification expects
  (`expectedRecords`), the modes being `itemModes` followed by the mode at `finish`; the size is
  within the limit of the abstract state; and what follows in the additional section is exactly the
  TSIG record (if configured), read back as the record given. Not in this theorem: the Bool form of
  the TSIG check (`tsigRecordOk`, which needs the MAC to have exactly the algorithm's output size),
  and `auditPointers`. -/
theorem C12_final_check_clauses_partial (macFn : Tsig → List UInt8 → List UInt8) (hmac : MacLenOK macFn)
    (buf : Bytes) (limit : Nat) (s0 : State) (hnew : Writer.new buf limit = .ok s0) (hlim : limit ≤ 65535)
    (mode : CMode) (ops : List Op) (ht : ∀ op ∈ ops, op.Typed) (hb : ∀ op ∈ ops, ApiBounds op)
    (hr : Respects { w := { s0 with mode := mode } } ops) (hv : ∀ v, Op.setLimit v ∈ ops → v ≤ 65535)
    (hno : ∀ op ∈ ops, op ≠ .clearRrs ∧ NonEmptySet op) (mac' : Option (List UInt8)) :
    ∃ m mac d aF, finish (run { w := { s0 with mode := mode } } ops).1.w macFn = .ok (m, mac) ∧
      Spec.Message.specDecodeMsg m = some d ∧
      Spec.Message.walk false
          { mode := Driver.toSpecMode mode, buflen := buf.size, limit := min limit buf.size }
          (ops.map Driver.toSpecOp)
          (obs { w := { s0 with mode := mode } } ops ++ ["ok"]) [m] (some d) mac' =
        Spec.Message.checkSegment false aF d m.size mac' ∧
      aF.hdr = d.msg.header ∧ aF.hdr.z = 0 ∧ m.size ≤ aF.limit ∧
      AbsCfg (run { w := { s0 with mode := mode } } ops).1.w aF ∧
      aF.mode = Driver.toSpecMode (run { w := { s0 with mode := mode } } ops).1.w.mode ∧
      (let modes := aF.itemModes.reverse
       let qs := aF.questions.reverse
       let nq := qs.length
       let ex := Spec.Message.expectedRecords aF
       let rmodes := modes.drop nq
       d.msg.questions.length = nq ∧
       Spec.Message.listEq (fun (p : Spec.Message.Mode × Spec.Message.Question) (q : Spec.Message.Question) =>
           Spec.Message.nameEq p.1 p.2.qname q.qname && p.2.qtype == q.qtype && p.2.qclass == q.qclass)
         ((modes.take nq).zip qs) d.msg.questions = true ∧
       Spec.Message.recsEq rmodes ex.1 d.msg.answers = true ∧
       Spec.Message.recsEq (rmodes.drop ex.1.length) ex.2.1 d.msg.authorities = true ∧
       ∃ ds tl, d.msg.additionals = ds ++ tl ∧
         Spec.Message.recsEq (rmodes.drop (ex.1.length + ex.2.1.length) ++ [aF.mode, aF.mode]) ex.2.2 ds = true ∧
         All2 (RecordIs ((run { w := { s0 with mode := mode } } ops).1.w.mode ≠ .standard))
           (tsigRecs (run { w := { s0 with mode := mode } } ops).1.w.tsig mac) tl) := by
  obtain ⟨m, mac, d, aF, h1, h2, h3, h4, h5, h6, h7, h8, _, h9⟩ :=
    segment_from_new macFn hmac buf limit s0 hnew hlim mode ops ht hb hr hv hno mac'
  exact ⟨m, mac, d, aF, h1, h2, h3, h4, h5, h6, h7, h8, h9⟩

/-! ### the walk of a segment reduces to the pointer audit

  `C12_segment_reduces_to_pointer_audit_partial` (no `clear_rrs`; the MAC has exactly the
  size the specification expects — `hml` —, and the MAC handed to the specification is the one
  `finish` returned): everything `walk` and `checkSegment` check holds, including the Bool form of
  the TSIG check (`tsigRecordOk_of`), so the whole walk *equals* `auditPointers d modes mode`, the
  pointer audit of C13 on the decoded message. -/
theorem C12_segment_reduces_to_pointer_audit_partial (macFn : Tsig → List UInt8 → List UInt8)
    (hmac : MacLenOK macFn) (buf : Bytes) (limit : Nat) (s0 : State) (hnew : Writer.new buf limit = .ok s0)
    (hlim : limit ≤ 65535) (mode : CMode) (ops : List Op) (ht : ∀ op ∈ ops, op.Typed)
    (hb : ∀ op ∈ ops, ApiBounds op) (hr : Respects { w := { s0 with mode := mode } } ops)
    (hv : ∀ v, Op.setLimit v ∈ ops → v ≤ 65535)
    (hno : ∀ op ∈ ops, op ≠ .clearRrs ∧ NonEmptySet op)
    (hml : ∀ m mac ts, finish (run { w := { s0 with mode := mode } } ops).1.w macFn = .ok (m, mac) →
      (run { w := { s0 with mode := mode } } ops).1.w.tsig = some ts →
      (mac.getD []).length = (toATsig ts).macLen)
    (mac' : Option (List UInt8))
    (hmac' : ∀ m mac, finish (run { w := { s0 with mode := mode } } ops).1.w macFn = .ok (m, mac) →
      mac' = none ∨ mac' = some (mac.getD [])) :
    ∃ (m : Bytes) (mac : Option (List UInt8)) (d : Spec.Message.Decoded) (aF : Spec.Message.AState),
      finish (run { w := { s0 with mode := mode } } ops).1.w macFn = .ok (m, mac) ∧
      Spec.Message.specDecodeMsg m = some d ∧
      Spec.Message.walk false
          { mode := Driver.toSpecMode mode, buflen := buf.size, limit := min limit buf.size }
          (ops.map Driver.toSpecOp)
          (obs { w := { s0 with mode := mode } } ops ++ ["ok"]) [m] (some d) mac' =
        Spec.Message.auditPointers d aF.itemModes.reverse aF.mode := by
  obtain ⟨m, mac, d, aF, h1, h2, h3, _⟩ :=
    segment_reduces_to_audit macFn hmac buf limit s0 hnew hlim mode ops ht hb hr hv hno hml mac' hmac'
  exact ⟨m, mac, d, aF, h1, h2, h3⟩

/-! ### `C12_full` for one segment, with the pointer audit as a premise

  `C12_full_one_segment_modulo_audit_partial`: `checkSession` on what `Driver.runModel` observes, for
  sessions without `clear_rrs`, under the premise that the pointer audit of the decoded message
  (`auditPointers`) passes. The premise always holds (`C12_pointer_audit_passes_partial`;
  `checkSession_segment` proves the audit together with the rest), so this is a weaker form of
  `C12_full_without_clear_rrs_partial` below. What `checkSession` checks: no call panics, `finish`
  succeeds, the message decodes, the walk accepts every call (`absOk` for successes, `justified` for
  failures, the getters report what the specification expects), header, questions and records compared
  in the mode of each item, the OPT and the TSIG record, the size limit. (`hsz`: for a signing TSIG mode
  the MAC given has the algorithm's output size — `MacLenOK` alone only bounds it.) -/
theorem C12_full_one_segment_modulo_audit_partial (buf : Bytes) (limit : Nat) (mode : CMode) (s : State)
    (ops : List Op) (mac : Option (List UInt8)) (hnew : Writer.new buf limit = .ok s)
    (hr : Respects { w := { s with mode := mode } } ops) (ht : ∀ op ∈ ops, ApiTyped op) (hlim : limit ≤ 65535)
    (hv : ∀ v, Op.setLimit v ∈ ops → v ≤ 65535) (hmac : MacLenOK (fun _ _ => mac.getD []))
    (hno : ∀ op ∈ ops, op ≠ .clearRrs)
    (hsz : ∀ ts, (run { w := { s with mode := mode } } ops).1.w.tsig = some ts → isUnsigned ts.mode = false →
      (mac.getD []).length = (toATsig ts).macLen) :
    ∃ (m : Bytes) (d : Spec.Message.Decoded) (aF : Spec.Message.AState),
      (Driver.runModel { w := { s with mode := mode } } ops mac true).msg = some m ∧
      Spec.Message.specDecodeMsg m = some d ∧
      (Spec.Message.auditPointers d aF.itemModes.reverse aF.mode = .ok () →
        Spec.Message.checkSession buf.size limit (Driver.toSpecMode mode) (ops.map Driver.toSpecOp)
          (Driver.runModel { w := { s with mode := mode } } ops mac true).statuses
          ((Driver.runModel { w := { s with mode := mode } } ops mac true).pre ++ [m])
          (Driver.runModel { w := { s with mode := mode } } ops mac true).mac = "ok") := by
  obtain ⟨m, d, aF, h1, h2, _, h4⟩ := checkSession_segment buf limit mode s ops mac hnew hr ht hlim hv hmac hno hsz
  exact ⟨m, d, aF, h1, h2, fun _ => h4⟩

/-! ### `C12_full` for sessions without `clear_rrs`

  `C12_full_without_clear_rrs_partial`: the statement of `C12_full`, word for
  word, with one more hypothesis: no call is `clear_rrs`. No premise about the pointer audit is left:
  `auditPointers` of the decoded message returns `ok` (`QV.Proofs.WriterAudit`): every pointer the
  decoder finds ends a name of the chains, its target is a label start the writer recorded, below
  that name, hence the first octet of a label of an earlier name (every recorded label start is one,
  for all call sequences: `QLab`, `RLab` in the layout invariant); names inside RDATA that must not
  be compressed and names written in `Disabled` mode contain no pointer. The restriction (the name
  ends in `_partial`): sessions with `clear_rrs`, where `checkSession` also judges the message
  finished before each `clear_rrs`, are not covered. -/
theorem C12_full_without_clear_rrs_partial (buf : Bytes) (limit : Nat) (mode : CMode) (s : State)
    (ops : List Op) (mac : Option (List UInt8)) (hnew : Writer.new buf limit = .ok s)
    (hr : Respects { w := { s with mode := mode } } ops) (ht : ∀ op ∈ ops, ApiTyped op) (hlim : limit ≤ 65535)
    (hv : ∀ v, Op.setLimit v ∈ ops → v ≤ 65535) (hmac : MacLenOK (fun _ _ => mac.getD []))
    (hsz : ∀ ts, (run { w := { s with mode := mode } } ops).1.w.tsig = some ts → isUnsigned ts.mode = false →
      (mac.getD []).length = (toATsig ts).macLen)
    (hno : ∀ op ∈ ops, op ≠ .clearRrs) :
    let r := Driver.runModel { w := { s with mode := mode } } ops mac true
    ∃ m, r.msg = some m ∧
      Spec.Message.checkSession buf.size limit (Driver.toSpecMode mode) (ops.map Driver.toSpecOp)
        r.statuses (r.pre ++ [m]) r.mac = "ok" := by
  intro r
  exact checkSession_full buf limit mode s ops mac hnew hr ht hlim hv hmac hsz

/-! ### `C12_full` for all sessions, `clear_rrs` included

  `C12_full_all_sessions_partial`: the statement of `C12_full` for every
  session — any number of `clear_rrs` calls; at each of them `checkSession` judges the message
  finished just before the call against the abstract state and continues from the questions on the
  next message (`QV.Proofs.WriterSessions`: `walk_sessions`, induction over the segments; the
  observer of the driver records exactly those messages: `go_all`). The one difference to `C12_full`
  (hence `_partial`): the MAC-size hypothesis is asked at every point of the session where a signing
  TSIG mode is configured (`hsz` for every prefix of the calls), not only for the final state — the
  two agree because a TSIG configuration, once set, keeps its algorithm (`set_tsig` fails with
  `AlreadyTsig`, `update_time_signed` changes the time only, the templates keep the algorithm):
  `after_sig`, used by `C12_full_holds`. -/
theorem C12_full_all_sessions_partial (buf : Bytes) (limit : Nat) (mode : CMode) (s : State)
    (ops : List Op) (mac : Option (List UInt8)) (hnew : Writer.new buf limit = .ok s)
    (hr : Respects { w := { s with mode := mode } } ops) (ht : ∀ op ∈ ops, ApiTyped op) (hlim : limit ≤ 65535)
    (hv : ∀ v, Op.setLimit v ∈ ops → v ≤ 65535) (hmac : MacLenOK (fun _ _ => mac.getD []))
    (hsz : ∀ o1 o2, ops = o1 ++ o2 → ∀ ts, (run { w := { s with mode := mode } } o1).1.w.tsig = some ts →
      isUnsigned ts.mode = false → (mac.getD []).length = (toATsig ts).macLen) :
    let r := Driver.runModel { w := { s with mode := mode } } ops mac true
    ∃ m, r.msg = some m ∧
      Spec.Message.checkSession buf.size limit (Driver.toSpecMode mode) (ops.map Driver.toSpecOp)
        r.statuses (r.pre ++ [m]) r.mac = "ok" :=
  checkSession_all buf limit mode s ops mac hnew hr ht hlim hv hmac hsz

/-! ### `C12_full`

  `C12_full_holds`: the statement `C12_full` is a theorem —
  for every buffer, limit (at most 65535), initial compression mode and every sequence of typed
  public calls that respects the hint contract (mode changes, templates, any number of `clear_rrs`,
  EDNS, TSIG with a MAC of the algorithm's size), `Spec.Message.checkSession` returns `"ok"` on
  exactly what the driver's observer records from the model. From `C12_full_all_sessions_partial`
  and the persistence of the TSIG algorithm (`after_sig`, `QV.Proofs.WriterSessions`: `set_tsig`
  fails once a TSIG is configured, `update_time_signed` changes the time only, the templates keep the
  algorithm). -/
theorem C12_full_holds : C12_full := by
  intro buf limit mode s ops mac hnew hr ht hlim hv hmac hsz
  exact checkSession_full buf limit mode s ops mac hnew hr ht hlim hv hmac hsz

/-- the pointer audit of the specification, alone: it passes on the message of every session
    without `clear_rrs` (typed calls, limits of at most 65535) — in every compression mode, with
    EDNS and TSIG -/
theorem C12_pointer_audit_passes_partial (macFn : Tsig → List UInt8 → List UInt8) (hmac : MacLenOK macFn)
    (buf : Bytes) (limit : Nat) (s0 : State) (hnew : Writer.new buf limit = .ok s0) (hlim : limit ≤ 65535)
    (mode : CMode) (ops : List Op) (ht : ∀ op ∈ ops, op.Typed) (hb : ∀ op ∈ ops, ApiBounds op)
    (hr : Respects { w := { s0 with mode := mode } } ops) (hv : ∀ v, Op.setLimit v ∈ ops → v ≤ 65535)
    (hno : ∀ op ∈ ops, op ≠ .clearRrs ∧ NonEmptySet op) :
    ∃ (m : Bytes) (mac : Option (List UInt8)) (d : Spec.Message.Decoded) (aF : Spec.Message.AState),
      finish (run { w := { s0 with mode := mode } } ops).1.w macFn = .ok (m, mac) ∧
      Spec.Message.specDecodeMsg m = some d ∧
      aF.mode = Driver.toSpecMode (run { w := { s0 with mode := mode } } ops).1.w.mode ∧
      Spec.Message.auditPointers d aF.itemModes.reverse aF.mode = .ok () := by
  obtain ⟨m, mac, d, aF, hf, hd, _, _, _, _, _, hmode, haud, _⟩ :=
    segment_from_new macFn hmac buf limit s0 hnew hlim mode ops ht hb hr hv hno none
  exact ⟨m, mac, d, aF, hf, hd, hmode, haud⟩

/-! non-vacuity: a `CasePreserving` session that respects the contract, whose calls all succeed, and
    that emits two pointers (owner = QNAME; the CNAME target shares a suffix with it) — all
    hypotheses of `C12_refinement_without_standard_mode` hold for it, and the message has a question
    and an answer -/

def nvOps : List Op := [.addQuestion ⟨[[119, 119, 119], [97]]⟩ 1 1,
  .addRr .answer (.direct .none) ⟨[[119, 119, 119], [97]]⟩ 5 1 60 [1, 98, 1, 97, 0] none]

def nvS : State := match Writer.new (Array.replicate 64 0) 64 with | .ok s => s | _ => default

example : Writer.new (Array.replicate 64 0) 64 = .ok nvS ∧
    (∀ op ∈ nvOps, op.Typed) ∧ Respects { w := { nvS with mode := .casePreserving } } nvOps ∧
    CMode.casePreserving ≠ .standard ∧ (∀ m, Op.setMode m ∈ nvOps → m ≠ .standard) ∧
    (run { w := { nvS with mode := .casePreserving } } nvOps).2 = [.ok (), .ok ()] ∧
    ((run { w := { nvS with mode := .casePreserving } } nvOps).1.w.gPtrs.map fun e => (e.pos, e.target)) =
      [(37, 16), (23, 12)] := by
  have hwf : WName.WF ⟨[[119, 119, 119], [97]]⟩ := by decide
  refine ⟨rfl, ?_, ⟨hwf, ⟨hwf, trivial⟩, trivial⟩, by decide, ?_, by decide +kernel, by decide +kernel⟩
  · intro op hop
    simp only [nvOps, List.mem_cons, List.mem_nil_iff, or_false] at hop
    rcases hop with rfl | rfl
    · exact ⟨hwf, by decide, by decide⟩
    · exact ⟨hwf, by decide, by decide, by decide⟩
  · intro m hm
    simp [nvOps] at hm

/-! non-vacuity of `C12_full_without_clear_rrs_partial`: the same session (two pointers emitted)
    satisfies all its hypotheses -/
example : Writer.new (Array.replicate 64 0) 64 = .ok nvS ∧
    Respects { w := { nvS with mode := .casePreserving } } nvOps ∧ (∀ op ∈ nvOps, ApiTyped op) ∧
    (64 : Nat) ≤ 65535 ∧ (∀ v, Op.setLimit v ∈ nvOps → v ≤ 65535) ∧
    MacLenOK (fun _ _ => (none : Option (List UInt8)).getD []) ∧
    (∀ ts, (run { w := { nvS with mode := .casePreserving } } nvOps).1.w.tsig = some ts →
      isUnsigned ts.mode = false → ((none : Option (List UInt8)).getD []).length = (toATsig ts).macLen) ∧
    (∀ op ∈ nvOps, op ≠ .clearRrs) := by
  have hwf : WName.WF ⟨[[119, 119, 119], [97]]⟩ := by decide
  refine ⟨rfl, ⟨hwf, ⟨hwf, trivial⟩, trivial⟩, ?_, by decide, ?_, ?_, ?_, ?_⟩
  · intro op hop
    simp only [nvOps, List.mem_cons, List.mem_nil_iff, or_false] at hop
    rcases hop with rfl | rfl
    · exact ⟨⟨hwf, by decide, by decide⟩, trivial, trivial⟩
    · exact ⟨⟨hwf, by decide, by decide, by decide⟩, trivial, trivial⟩
  · intro v hv; simp [nvOps] at hv
  · intro ts msg
    simp only [Option.getD_none, List.length_nil]
    exact Nat.zero_le _
  · intro ts hts
    have : (run { w := { nvS with mode := .casePreserving } } nvOps).1.w.tsig = none := by decide +kernel
    rw [this] at hts; cases hts
  · intro op hop
    simp only [nvOps, List.mem_cons, List.mem_nil_iff, or_false] at hop
    rcases hop with rfl | rfl <;> exact fun h => by cases h

end QV.C12
