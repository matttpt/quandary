/-
  C13 — Name compression only emits valid, permitted pointers.

  "Every compression pointer the writer emits points strictly backwards to the first octet of a
   label of a name written earlier in the message. Pointers are emitted only for owner names,
   the QNAME and names inside RDATA of RFC 1035 types, never inside SRV, Chaosnet A or
   unknown-type RDATA (RFC 3597 §4), and never when compression is disabled."

  The model logs every pointer it emits in the ghost field `gPtrs` (position, target, the kind
  of name being written, the compression mode) — all pointer emissions go through
  `pushPointer` — and the label positions of every literally written name in `gLabels`.
-/
import QV.Proofs.WriterSession
import QV.Proofs.NameDecode
import QV.Proofs.NameRoundTrip
import QV.Proofs.FinishTsigOwner
import QV.Proofs.WriterSegment
import QV.Proofs.WriterScratch

namespace QV.C13
open QV QV.Writer QV.ServerSafety

/-! ## the property, in full

  `C13_full` = for all operation sequences respecting the hint contract and all modes, every
  pointer in the log: (1) target < position, (2) 0 < target ≤ 0x3fff, (3) the target is a
  recorded label start (first octet of a label of a name written earlier), (4) emitted only for
  QNAME / owner / `CompressibleName` components and not in `Disabled` mode, (5) the independent
  decoder `specDecodeName` reads a name at the target.  (1)–(4) are `C13_pointer_log_sound` +
  `C13_pointers_only_where_permitted` below. That the name stored at the target is the replaced suffix
  (exactly in `CasePreserving` mode, up to ASCII case in `Standard` mode) is not a clause of `C13_full`;
  it is `C13_written_names_denote` (every name-writing routine returns an anchor that
  *denotes* the name it was given: the name stored at that position — read by following labels and
  pointers the way the writer itself reads prior names — matches the given name label by
  label) together with `C13_scan_correct`.
  (5), and that `specDecodeName` reads the same labels from those positions, is
  `C13_targets_decode` / `C13_recorded_label_starts_decode`: `NameAt` follows pointers with "target
  < pointer position" (what the writer's own scan needs), the RFC relation `Decodes` demands
  "target < start of the chunk that contains the pointer"; the writer only emits targets below the
  start of the name it is writing, and the invariant carries this (`NameAtC`, `WInv.clabs`): every
  recorded label start begins a name of the RFC relation of at most 255 octets.
  Hence `C13_holds : C13_full`. -/

def C13_full : Prop :=
  ∀ (buf : Bytes) (limit : Nat) (s : State) (ops : List Op),
    Writer.new buf limit = .ok s → Respects { w := s } ops →
    let s' := (run { w := s } ops).1.w
    (∀ e ∈ s'.gPtrs, e.target < e.pos ∧ 0 < e.target ∧ e.target ≤ 0x3fff ∧ e.target ∈ s'.gLabels ∧
      e.mode ≠ .disabled ∧ (e.ctx = .qname ∨ e.ctx = .owner ∨ e.ctx = .rdataCompressible) ∧
      ∃ w n k, Spec.specDecodeName (s'.octets.extract 0 s'.cursor) e.target = some (w, n, k))

/-- **Where pointers are emitted — for all operation sequences and all hints, valid or not.**
    Every pointer in the log was emitted while writing the QNAME, an owner name or a
    `CompressibleName` component, and not in `Disabled` mode; in particular never inside an
    `UncompressibleName` or `Other` component (SRV, Chaosnet A, unknown types). -/
theorem C13_pointers_only_where_permitted (buf : Bytes) (limit : Nat) (s : State)
    (h : Writer.new buf limit = .ok s) (ops : List Op) :
    ∀ e ∈ (run { w := s } ops).1.w.gPtrs,
      e.mode ≠ .disabled ∧ (e.ctx = .qname ∨ e.ctx = .owner ∨ e.ctx = .rdataCompressible) := by
  apply run_logOK
  unfold Writer.new at h
  dsimp only at h
  split at h
  · cases h
  · have := Out.ok.inj h; subst this
    intro e he; cases he

/-- the OPT and TSIG records appended by `finish` obey the same rule -/
theorem C13_finish_pointers_only_where_permitted (macFn : Tsig → List UInt8 → List UInt8)
    (s : State) (h : LogOK s) : LogOK (finishWithMac macFn s).2 :=
  finishWithMac_logOK macFn s h

/-! ## the targets of the pointers -/

/-- **For all operation sequences that respect the hint contract, in all modes**: every pointer
    the model has emitted points strictly backwards (`target < pos`), lies below the cursor, has
    a target in `1..=POINTER_MAX` that is a *recorded label start* (`gLabels`: the first octet of
    a label of a name written literally earlier in the message), and a name is stored at the
    target (`StoredAt`). -/
theorem C13_pointer_log_sound (buf : Bytes) (limit : Nat) (s : State)
    (h : Writer.new buf limit = .ok s) (ops : List Op) (hr : Respects { w := s } ops) :
    PtrLogOK (run { w := s } ops).1.w :=
  (run_I _ ops (new_i buf limit s h) hr).2.log

/-- the same after `finish` (OPT owner, TSIG owner) -/
theorem C13_pointer_log_sound_finish (s : State) (hI : I s) (macFn : Tsig → List UInt8 → List UInt8)
    (hmac : MacLenOK macFn) : ∃ r s', finishWithMac macFn s = (.ok r, s') ∧ PtrLogOK s' :=
  finishWithMac_ok macFn hmac s hI

/-! ## the independent decoder succeeds at every target -/

/-- **At every recorded label start** of a valid writer state — in particular at every pointer
    target and at every anchor — the independent RFC 1035 §4.1.4 decoder `specDecodeName`, run on
    the message written so far, succeeds and reads exactly the labels stored there (a name of at
    most 255 octets, every pointer going below the start of the chunk it ends). -/
theorem C13_recorded_label_starts_decode (s : State) (hI : I s) (g : Nat) (hg : g ∈ s.gLabels) :
    ∃ ls k, NameAtC (GL s) s.octets s.cursor g g ls ∧
      Spec.specDecodeName (s.octets.extract 0 s.cursor) g = some (wireOf ls, ls.length + 1, k) :=
  cstored_specDecodeName (hI.winv.clabs g hg) (Nat.le_trans hI.winv.cur_av hI.winv.av_size)

/-- … so it succeeds at the target of every pointer emitted -/
theorem C13_targets_decode (s : State) (hI : I s) (e : PtrEv) (he : e ∈ s.gPtrs) :
    ∃ w n k, Spec.specDecodeName (s.octets.extract 0 s.cursor) e.target = some (w, n, k) := by
  obtain ⟨_, _, _, _, hmem, _⟩ := hI.log e he
  obtain ⟨ls, k, _, hd⟩ := C13_recorded_label_starts_decode s hI e.target hmem
  exact ⟨_, _, _, hd⟩

/-- **C13 holds**: for all sequences of calls that respect the hint contract, in all modes. -/
theorem C13_holds : C13_full := by
  intro buf limit s ops hnew hr s' e he
  have hI : I s' := (run_I _ ops (new_i buf limit s hnew) hr).2
  obtain ⟨h1, _, h3, h4, h5, _⟩ := hI.log e he
  have hperm := C13_pointers_only_where_permitted buf limit s hnew ops e he
  exact ⟨h1, h3, h4, h5, hperm.1, hperm.2, C13_targets_decode s' hI e he⟩

/-! non-vacuity: a session that respects the contract and emits two pointers (owner = QNAME,
    CNAME target sharing a suffix with it) -/

def nvOps : List Op := [.addQuestion ⟨[[119, 119, 119], [97]]⟩ 1 1,
  .addRr .answer (.direct .none) ⟨[[119, 119, 119], [97]]⟩ 5 1 60 [1, 98, 1, 97, 0] none]

def nvS : State := match Writer.new (Array.replicate 64 0) 64 with | .ok s => s | _ => default

example : Writer.new (Array.replicate 64 0) 64 = .ok nvS ∧ Respects { w := nvS } nvOps ∧
    ((run { w := nvS } nvOps).1.w.gPtrs.map fun e => (e.pos, e.target)) = [(37, 16), (23, 12)] :=
  ⟨rfl, ⟨(by decide : WName.WF ⟨[[119, 119, 119], [97]]⟩),
    ⟨(by decide : WName.WF ⟨[[119, 119, 119], [97]]⟩), trivial⟩, trivial⟩, by decide +kernel⟩

/-- **The heuristic scan is correct** (`write_compressed_unhinted_name`): with valid prior names
    it is computed without a panic; if it decides "the first `k` labels, then a pointer to `pp`",
    then `k` is a proper prefix of the labels, `pp` is a recorded real label start in pointer
    range, and the name stored at `pp` has exactly the remaining labels, matching label by label
    (octet-exact in `CasePreserving` mode, ignoring ASCII case otherwise). -/
theorem C13_scan_correct {G : Nat → Prop} {oct : Bytes} {cur : Nat} {mode : CMode}
    {a b : Option Prior} {n : WName} (ha : ∀ p, a = some p → PriorOK G oct cur p)
    (hb : ∀ p, b = some p → PriorOK G oct cur p) :
    ∃ r, compressDecision oct mode a b n = .ok r ∧
      ∀ m, r = some m → m.startColumn < n.labels.length ∧ 0 < m.priorPointer ∧
        m.priorPointer ≤ Gen.POINTER_MAX ∧
        ∃ ls, NameAt G oct cur m.priorPointer ls ∧
          labelsMatch mode (n.labels.drop m.startColumn) ls = true :=
  compressDecision_ok ha hb

/-- **Every name the writer writes denotes the name it was given** — hinted or not, compressed
    or not: from a valid state, with a well-formed name and a valid hint, `write_hinted_name`
    does not panic; on success the state is valid again and the anchor returned (position, label
    count) *denotes* the name: the name stored there matches it label by label up to ASCII case
    (`Den`); the pointer log stays sound. -/
theorem C13_written_names_denote (hint : Hint) (n : WName) (s : State) (h : WInv s) (hn : n.WF)
    (hh : Writer.HintOK s hint n) : NameSpec s n (writeHintedName hint n s) :=
  writeHintedName_spec hint n s h hn hh

/-- **The round trip of one written name, through the independent decoder**, in every compression
    mode: whatever `write_hinted_name` wrote for the name `n` at the cursor (all labels; some labels
    and a pointer; a bare pointer — hinted or found by the scan), `specDecodeName`, run on the message
    written so far from that position, yields a name with `n`'s number of labels that equals `n` up
    to ASCII case, and octet for octet in `CasePreserving` and `Disabled` mode. -/
theorem C13_written_name_round_trip (hint : Hint) (n : WName) (s : State) (h : WInv s) (hn : n.WF)
    (hh : Writer.HintOK s hint n) (p : Option Prior) (hok : (writeHintedName hint n s).1 = .ok p) :
    ∃ w k, Spec.specDecodeName
        ((writeHintedName hint n s).2.octets.extract 0 (writeHintedName hint n s).2.cursor) s.cursor
          = some (w, n.len, k) ∧
      w.map lowerU8 = n.wire.map lowerU8 ∧ (s.mode ≠ .standard → w = n.wire) :=
  writeHintedName_round_trip hint n s h hn hh p hok

/-- … and of a name written without a hint (the QNAME; every `CompressibleName` inside RDATA) -/
theorem C13_unhinted_name_round_trip (n : WName) (s : State) (h : WInv s) (hn : n.WF) (p : Option Prior)
    (hok : (writeUnhintedName n s).1 = .ok p) :
    ∃ w k, Spec.specDecodeName ((writeUnhintedName n s).2.octets.extract 0 (writeUnhintedName n s).2.cursor)
        s.cursor = some (w, n.len, k) ∧
      w.map lowerU8 = n.wire.map lowerU8 ∧ (s.mode ≠ .standard → w = n.wire) :=
  writeUnhintedName_round_trip n s h hn p hok

/-- **the owner of the TSIG record `finish` appends**: on the finished message it decodes to the key
    name (compressed against earlier names or not). (The general fact, for the owner of any record and
    any message that agrees with the buffer below the cursor, is `addRr_owner_decodes`.) -/
theorem C13_tsig_owner_decodes (macFn : Tsig → List UInt8 → List UInt8) (hmac : MacLenOK macFn)
    (s : State) (hI : I s) (ts : Tsig) (hts : s.tsig = some ts)
    (m : Bytes) (mac : Option (List UInt8)) (hf : finish s macFn = .ok (m, mac)) :
    ∃ w k, Spec.specDecodeName m (finishPrefix s ++ optEnc s.edns).length = some (w, ts.rr.keyName.len, k) ∧
      (finishPrefix s ++ optEnc s.edns).length + k + 10 ≤ m.size ∧
      w.map lowerU8 = ts.rr.keyName.wire.map lowerU8 ∧ (s.mode ≠ .standard → w = ts.rr.keyName.wire) :=
  finish_tsig_owner_decodes macFn hmac s hI ts hts m mac hf

/-! ## which RDATA may be compressed (tie to the source: the table is *generated* from
    `Rdata::components` and the `components_as_*` constructors on every run) -/

/-- A `CompressibleName` component exists only for the RFC 1035 §3.3 types NS MD MF CNAME MB MG
    MR PTR SOA MINFO MX (RFC 3597 §4), in every class. Together with
    `C13_pointers_only_where_permitted` (pointers in RDATA are emitted only while writing a
    `CompressibleName` component): no pointer is ever emitted inside RDATA of any other type. -/
theorem C13_compressible_components_only_rfc1035 (cls ty : Nat) (ts : List CompType)
    (h : componentTypes cls ty = some ts) (hc : CompType.compressibleName ∈ ts) :
    ty ∈ [2, 3, 4, 5, 7, 8, 9, 12, 6, 14, 15] :=
  componentTypes_compressible cls ty ts h hc

/-- the dispatch is total (the generated tables are well formed) -/
theorem C13_components_total (cls ty : Nat) : ∃ ts, componentTypes cls ty = some ts :=
  componentTypes_total cls ty

/-- SRV (IN) and Chaosnet A: their embedded names are `UncompressibleName` components -/
theorem C13_srv_and_ch_a_uncompressible :
    componentTypes 1 33 = some [.fixedLen 6, .uncompressibleName] ∧
    componentTypes 3 1 = some [.uncompressibleName] :=
  ⟨componentTypes_srv_in, componentTypes_ch_a⟩

/-- unknown types (no arm mentions them) have no name components at all -/
theorem C13_unknown_types_verbatim (cls ty : Nat)
    (h : ∀ a ∈ Gen.rdataComponentsArms, a.1.contains ty = false) : componentTypes cls ty = some [] :=
  componentTypes_unknown cls ty h

/-! ## the scan does not read scratch space

  `C13_scan_reads_only_below_cursor`: "octets at or above the cursor are scratch space that no later
  read depends on" (docstring of `Same`), for the one reader of the buffer. With valid prior names
  (`PriorOK`: each anchor points at a name stored below the cursor — what `WInv` gives for `qname`,
  `most_recent_owner`, `most_recent_name_in_rdata`), the scan (`compressDecision`) computes the same decision
  on two buffers of equal size that agree below the cursor: it reads only length octets, label
  octets and pointers of stored names. (`QV.Proofs.WriterScratch`, with the scan lemma also for a
  two-octet hole below the cursor that no name overlaps — the reserved RDLENGTH octets:
  `compressDecision_congr_gap`. The
  same statement for whole `add_*_rr` / `add_*_rrset` calls — all writes threaded through, including
  the two RDLENGTH octets that are reserved before and written after the RDATA — is
  `addRrOp_scratch` / `addRrsetOp_scratch` in `QV.Proofs.WriterThread`, and for the header calls
  `set_aa`, `set_rcode` it is `scratch_setAa`, `scratch_setRcode` there.) -/
theorem C13_scan_reads_only_below_cursor {G : Nat → Prop} {oct oct' : Bytes} {cur : Nat} {mode : CMode}
    {a b : Option Prior} {n : WName}
    (ha : ∀ p, a = some p → PriorOK G oct cur p) (hb : ∀ p, b = some p → PriorOK G oct cur p)
    (hag : ∀ i, i < cur → oct'[i]? = oct[i]?) (hsz : oct'.size = oct.size) :
    compressDecision oct' mode a b n = compressDecision oct mode a b n :=
  compressDecision_congr ha hb hag hsz

/-! ## the audit of the independent decoder

  `C13_decoder_pointer_audit_partial`: C13 in the vocabulary of the *specification's own decoder*,
  not of the writer's pointer log. For every session of typed calls without `clear_rrs` (all
  compression modes and mode changes, templates, EDNS, TSIG; limits of at most 65535): the message
  `finish` returns decodes, and `Spec.Message.auditPointers` — run on the name occurrences the
  decoder finds, with the mode each item was written in — returns `ok`: every pointer points
  strictly backwards, to at most 0x3fff, to the first octet of a label of a name that occurs
  earlier in the message; none inside RDATA that must not be compressed (RFC 3597 §4) and none in
  an item written in `Disabled` mode. (`QV.Proofs.WriterAudit`; restriction `_partial`: the
  message finished at the end of a session that contains `clear_rrs` is covered by
  `QV.C12.C12_full_holds`, where the audit is one clause of `checkSession`, not restated here.) -/
theorem C13_decoder_pointer_audit_partial (macFn : Tsig → List UInt8 → List UInt8) (hmac : MacLenOK macFn)
    (buf : Bytes) (limit : Nat) (s0 : State) (hnew : Writer.new buf limit = .ok s0) (hlim : limit ≤ 65535)
    (mode : CMode) (ops : List Op) (ht : ∀ op ∈ ops, op.Typed) (hb : ∀ op ∈ ops, ApiBounds op)
    (hr : Respects { w := { s0 with mode := mode } } ops) (hv : ∀ v, Op.setLimit v ∈ ops → v ≤ 65535)
    (hno : ∀ op ∈ ops, op ≠ .clearRrs ∧ NonEmptySet op) :
    ∃ (m : Bytes) (mac : Option (List UInt8)) (d : Spec.Message.Decoded) (aF : Spec.Message.AState),
      finish (run { w := { s0 with mode := mode } } ops).1.w macFn = .ok (m, mac) ∧
      Spec.Message.specDecodeMsg m = some d ∧
      aF.mode = Driver.toSpecMode (run { w := { s0 with mode := mode } } ops).1.w.mode ∧
      Spec.Message.auditPointers d aF.itemModes.reverse aF.mode = .ok () := by
  obtain ⟨m, mac, d, aF, hf, hd, _, _, _, _, _, hmode, haud, _⟩ :=
    segment_from_new macFn hmac buf limit s0 hnew hlim mode ops ht hb hr hv hno none
  exact ⟨m, mac, d, aF, hf, hd, hmode, haud⟩

/-! the component table: an unknown type has no name components (RFC 3597 §4), NS has one compressible name -/
example : componentTypes 1 65280 = some [] := by decide
example : componentTypes 1 2 = some [.compressibleName] := by decide

end QV.C13
