/-
  C01 — The server survives every possible request without panicking.

  "Handling any byte string as a request, over UDP or TCP, returns either a response or no response
   and never panics or aborts. This holds for any zone contents, TSIG key set and rate-limit
   configuration the library API allows."

  Model: `QV.Server.handleMessage` (lean/QV/Model/Server.lean; byte-exact, every Rust panic site an
  explicit `.panic`), composed of the reader (C15), name parser (C14), RDATA reader (C18), catalog
  (C22), zone (C06), TSIG (C11) and writer (C12/C13) models. RRL is modelled separately (C26–C28).

  Shape: composition, in four layers (helpers in lean/QV/Proofs/Server*.lean):
    L1 scan phase       `C01_scan_phase`, `C01_tsig_branch`, `C01_answer_authority_scan_calls_safe`
    L2 zone / catalog   `C01_catalog_selects_own_zone`, `C01_cname_fuel_never_runs_out`
    L3 writer contract  `C01_query_phase` (every writer call meets `Call.Pre`: names well formed,
                        hints valid — C13's hint contract)
    L4 assembly         `C01_handle_message_partial`, `C01_holds`

  What is assumed (explicit hypotheses, each with its owner):
    * `W : WriterSafe`  (lean/QV/Proofs/ServerWriter.lean) — the writer's own theorems: invariant,
      no public call panics from it when its contract is met, which anchors / HintPointerVec entries
      are valid after a call, `finish` does not panic. Discharged from C12/C13 by
      `QV.Writer.writerSafe` (lean/QV/Proofs/WriterSafe.lean): `C01_holds`.
    * `CfgWF cfg` — what the library API guarantees of a configuration (entries filed under their
      zone's apex, apexes are names, stored RRsets non-empty, payload size ≥ 512);
      `C01_zone_api_rrsets_nonempty` proves the RRset part for every zone built with `add`.
    * `EnvOK` — the documented buffer-size requirement, a representable clock (`now < 2^48`), a
      request that is a slice.
  RRL is not in `handleMessage` (`rrl = None`); the handler with RRL is `QV.Server.handleMessageRrl`
  (`C01_rrl`, below). Its panic sites are the refill arithmetic (C26, repaired: D10) and the
  choice of the QNAME to hash — see `C01_truncated_tsig_gives_noerror_without_question` (defect D17,
  repaired): "NOERROR ⇒ a question is present" does NOT hold for the scan phase.
  In the model `macFn` maps a panicking `sign_response` to an empty MAC; `sign_response` panics iff
  the message has fewer than 12 octets or ARCOUNT = 0 (`C11_sign_panic_iff`), which `finish` excludes
  by writing ARCOUNT ≥ 1 first (writer invariant: ARCOUNT counts the reserved TSIG record) — part of
  the writer's obligations, checked on every generated TSIG case by the correspondence run.
-/
import QV.Proofs.ServerSafety
import QV.Proofs.ServerRrlSafe

namespace QV.C01
open QV QV.Writer QV.Server QV.Reader QV.ServerSafety

/-- **C01 at full strength** (for the RRL-less handler): for every configuration the API allows,
    either transport, every clock value the TSIG field can hold, every sufficiently large response
    buffer and every request, `handle_message` does not panic. -/
def C01_full : Prop :=
  ∀ (cfg : Cfg) (tr : Transport) (now bufLen : Nat) (req : Bytes), CfgWF cfg →
    EnvOK cfg tr now bufLen req → handleMessage cfg tr now bufLen req ≠ .panic

/-- **C01 for any instance `W` of the writer interface** (`WriterSafe`). (The MAC fits its
    reservation because HMAC-SHA1/256 tags have 20/32 octets: `QV.Tsig.realHmac_length`, C11.) -/
theorem C01_handle_message_partial (W : WriterSafe) : C01_full :=
  fun cfg tr now bufLen req hcfg henv =>
    handleMessage_no_panic W cfg hcfg tr now bufLen req henv (macLenOK_server hmacLenOK)

/-- **Main theorem: C01 holds** — `W` is `QV.Writer.writerSafe`, proved from C12/C13 in
    lean/QV/Proofs/WriterSafe.lean. -/
theorem C01_holds : C01_full := C01_handle_message_partial Writer.writerSafe

/-- … and a response, when there is one, is exactly what `finish` serialises from a writer state
    that satisfies the writer invariant (used by C02). -/
theorem C01_response_is_finished_writer (W : WriterSafe) (cfg : Cfg) (hcfg : CfgWF cfg)
    (tr : Transport) (now bufLen : Nat) (req : Bytes) (henv : EnvOK cfg tr now bufLen req) (b : Bytes)
    (h : handleMessage cfg tr now bufLen req = .ok (some b)) :
    ∃ w mac, W.I w ∧ Writer.finish w macFn = .ok (b, mac) := by
  rcases handleMessage_cases W cfg hcfg tr now bufLen req henv (macLenOK_server hmacLenOK) with h' | ⟨w, b', mac, hi, hf, h'⟩
  · rw [h'] at h; cases h
  · rw [h'] at h; cases h; exact ⟨w, mac, hi, hf⟩

/-! ### with response rate limiting enabled (`Server::set_rrl_params(Some(..))`) -/

/-- **C01 for the handler with RRL**: model `QV.Server.handleMessageRrl` (lean/QV/Model/ServerRrl.lean)
    = the handler, then `Rrl::process_response` on its `Context` (subject_to_rrl; category from the
    extended RCODE; the name hashed: source of synthesis, else QNAME, else the root; Send / Slip =
    `clear_rrs(); set_tc(true)` / Drop), then `finish`. For every configuration the API allows,
    every valid RRL parameter set and **every** table state, `RandomState`, source address, instant
    and `should_slip` outcome, it does not panic. -/
def C01_rrl_full : Prop :=
  ∀ (cfg : Cfg) (tr : Transport) (now bufLen : Nat) (req : Bytes) (rs : Rrl.RandomState) (rrl : Rrl.Rrl)
    (src : Rrl.IpAddr) (tnow : Nat) (rnd : Bool), CfgWF cfg → EnvOK cfg tr now bufLen req →
    rrl.params.Valid → handleMessageRrl cfg tr now bufLen req rs rrl src tnow rnd ≠ .panic

/-- **C01 holds with RRL enabled**: the handler's ingredients of `C01_holds` (it hands RRL a writer
    satisfying the writer invariant), C26 (`process_response` never panics, whatever the table
    holds), the writer contract for the two calls of the Slip path, and `finish`. -/
theorem C01_rrl : C01_rrl_full := by
  intro cfg tr now bufLen req rs rrl src tnow rnd hcfg henv hv
  obtain ⟨resp, rrl', h⟩ := handleMessageRrl_no_panic Writer.writerSafe cfg hcfg tr now bufLen req henv rs rrl hv
    src tnow rnd
  rw [h]; simp

/-- the RRL-less handler is the same computation cut before RRL, followed by `finish` -/
theorem C01_rrl_shares_the_handler (cfg : Cfg) (tr : Transport) (now bufLen : Nat) (req : Bytes) :
    handleMessage cfg tr now bufLen req =
      (match handleToContext cfg tr now bufLen req with
       | .ok h => finishResponse h
       | .err _ => .panic
       | .panic => .panic) := handleMessage_eq_toContext cfg tr now bufLen req

/-- **what RRL can do to a response**: nothing (not subject to RRL: the RRL-less response and an
    untouched table; or admitted: the RRL-less response), suppress it (Drop), or replace it by
    `finish` of the handler's writer after `clear_rrs(); set_tc(true)` (Slip): the question is kept,
    ANCOUNT = NSCOUNT = 0, ARCOUNT counts only the OPT / TSIG pseudo-records `finish` appends. -/
theorem C01_rrl_outcome (cfg : Cfg) (hcfg : CfgWF cfg) (tr : Transport) (now bufLen : Nat) (req : Bytes)
    (henv : EnvOK cfg tr now bufLen req) (rs : Rrl.RandomState) (rrl : Rrl.Rrl) (src : Rrl.IpAddr)
    (tnow : Nat) (rnd : Bool) (resp : Option Bytes) (rrl' : Rrl.Rrl)
    (h : handleMessageRrl cfg tr now bufLen req rs rrl src tnow rnd = .ok (resp, rrl')) :
    RrlOutcome cfg tr now bufLen req rrl resp rrl' :=
  handleMessageRrl_outcome Writer.writerSafe cfg hcfg tr now bufLen req henv rs rrl src tnow rnd resp rrl' h

/-- over TCP RRL changes nothing: the response of the RRL-less handler, the table untouched -/
theorem C01_rrl_tcp_exempt (cfg : Cfg) (hcfg : CfgWF cfg) (now bufLen : Nat) (req : Bytes)
    (henv : EnvOK cfg .tcp now bufLen req) (rs : Rrl.RandomState) (rrl : Rrl.Rrl) (hv : rrl.params.Valid)
    (src : Rrl.IpAddr) (tnow : Nat) (rnd : Bool) :
    ∃ resp, handleMessage cfg .tcp now bufLen req = .ok resp ∧
      handleMessageRrl cfg .tcp now bufLen req rs rrl src tnow rnd = .ok (resp, rrl) :=
  handleMessageRrl_tcp Writer.writerSafe cfg hcfg now bufLen req henv rs rrl hv src tnow rnd

/-- **every sequence of requests**: one server with RRL enabled, started with any valid parameter
    set (`Rrl::new`: every bucket holds the dummy key), handles any sequence of messages — any
    sources, transports, instants, `RandomState` — without panicking, and produces one result
    (response or none) per message. `serveAll` threads the table, the only state that survives a
    call, through `handleMessageRrl`. -/
theorem C01_rrl_every_sequence (cfg : Cfg) (hcfg : CfgWF cfg) (rs : Rrl.RandomState) (params : Rrl.RrlParams)
    (hv : params.Valid) (t0 : Nat) (arrivals : List Arrival)
    (henv : ∀ a ∈ arrivals, EnvOK cfg a.tr a.now a.bufLen a.req) :
    ∃ resps rrl', serveAll cfg rs (Rrl.Rrl.new params t0) arrivals = .ok (resps, rrl') ∧
      resps.length = arrivals.length := by
  obtain ⟨resps, rrl', h, hl, _⟩ := serveAll_no_panic Writer.writerSafe cfg hcfg rs arrivals henv
    (Rrl.Rrl.new params t0) hv
  exact ⟨resps, rrl', h, hl⟩

/-! ### L1 — the scan phase -/

/-- `handle_message_with_context` never panics from a fresh writer, given only that the QUERY
    handler is safe: every reader call is made on a reader satisfying C15's invariant, the `PeekRr`
    accessors are in range, a parsed QNAME converts to a `Name`, `set_extended_rcode(..).expect(..)`
    follows a successful `set_edns`, `arcount - 1` does not underflow, the TSIG branch is safe. -/
theorem C01_scan_phase (W : WriterSafe) (cfg : Cfg) (tr : Transport) (now : Nat) (hnow : now < 2^48)
    (hq : QuerySafe W cfg tr) (r0 : Reader) (hr : RInv r0) (s : State) (hI : W.I s)
    (hsect : s.sect = .question) (hqd : s.qdcount = 0) :
    (handleWithContext cfg tr now r0 s).1 ≠ .panic ∧ W.I (handleWithContext cfg tr now r0 s).2 :=
  handleWithContext_safe W cfg tr now hnow hq r0 hr s hI hsect hqd

/-- the TSIG branch: `ReadTsigRr::try_from` never answers `NotTsig` nor trips an `expect`
    (the RDATA was validated by `Rdata::read`), the clock is representable, the key and algorithm
    names convert, `verify_request` sees a message whose ARCOUNT ≥ 1, and the response TSIG meets
    the contract of `set_tsig`. -/
theorem C01_tsig_branch (W : WriterSafe) (cfg : Cfg) (now : Nat) (hnow : now < 2^48) (r : Reader)
    (hi : RInv r) (p : PeekRr) (hpk : peekRr r = .ok p) (ht : p.rrType = .ok (T "TSIG")) (raw : Nat)
    (har : 1 ≤ be16 r.octets Gen.ARCOUNT_START) (s : State) (hI : W.I s) :
    (handleTsig cfg now p raw s).1 ≠ .panic ∧ W.I (handleTsig cfg now p raw s).2 :=
  let h := handleTsig_safe W cfg now hnow r hi p hpk ht raw har s hI
  ⟨h.1, h.2.1⟩

/-- the model folds a panicking `peek_rr` of the answer/authority scan into "FORMERR"; on a reader
    satisfying the invariant that never happens: the scan with explicit panics computes the same -/
theorem C01_answer_authority_scan_calls_safe (n : Nat) (r : Reader) (hi : Reader.Inv r) :
    scanAnNsP n r = .ok (scanAnNs n r) := scanAnNs_no_panic n r hi

/-- the "unreachable" branch after `read_question`: a name the parser returned is a `Name` -/
theorem C01_parsed_qname_is_a_name (msg : Bytes) (s : Nat) (p : Wire.Parsed)
    (h : Wire.parseCompressed msg s = .ok p) :
    ∃ n : WName, n.WF ∧ n.wire = p.wire ∧ WName.parse p.wire = some (n, []) := parsed_wname msg s p h

/-- `set_extended_rcode(FORMERR / BADVERS).expect(..)` cannot fail once EDNS is set -/
theorem C01_ext_rcode_expect (v : Nat) (hv : v ≤ 4095) (s : State) (he : s.edns.isSome) :
    ∀ e, (setExtendedRcode v s).1 ≠ .err e := setExtendedRcode_not_err v hv s he

/-- the program never *returns* a `writer::Error` (the model treats that like a panic) -/
theorem C01_no_unhandled_writer_error (cfg : Cfg) (tr : Transport) (now : Nat) (r0 : Reader) :
    NoErr (handleWithContext cfg tr now r0) := noErr_handleWithContext cfg tr now r0

/-! ### L2 — zone and catalog -/

/-- the entry the catalog returns carries the index of its own zone, which exists, and its apex is
    a suffix of the QNAME: `cfg.zones[e.zone]` cannot fail, and the unchecked lookup of
    `answer`/`answer_any` is made on a name at or below the apex (so neither the subtraction
    overflow nor `WrongZone ⇒ panic!` is reachable) -/
theorem C01_catalog_selects_own_zone (zs : List ZoneEntry) (n : Catalog.DName) (cls : Nat)
    (e : Catalog.Entry Unit) (h : Catalog.lookup (mkCatalog zs) n cls = some e) :
    ∃ ze, zs[e.zone]? = some ze ∧ e.name = ze.apex.labels ∧ e.kind = ze.kind ∧
      Spec.Catalog.foldName ze.apex.labels <:+ Spec.Catalog.foldName n := mkCatalog_lookup zs n cls e h

/-- zone lookups: never a panic for a checked lookup or for a name at or below the apex;
    `WrongZone` only from a checked lookup -/
theorem C01_zone_lookup_safe (z : Zone.Zone) (hz : ZoneOK z) (name : NameL.Name) (o : Zone.Opts)
    (hname : (unfold name).WF) (hsub : o.unchecked = true → z.apex <:+ name) :
    Zone.lookupBase z name o ≠ .panic ∧ (o.unchecked = true → Zone.lookupBase z name o ≠ .ok .wrongZone) := by
  rcases lookupBase_cases z hz name o hname hsub with ⟨h, hu⟩ | ⟨b, hb, hnw, _, _⟩
  · rw [h]; exact ⟨by simp, fun hc => by rw [hu] at hc; cases hc⟩
  · rw [hb]; exact ⟨by simp, fun _ hc => hnw (Out.ok.inj hc)⟩

/-- the CNAME recursion is stopped by `owners_seen` (capacity `MAX_CNAME_CHAIN_LEN − 1`), never by
    the model's fuel: from the fuel `do_cname` starts with, more fuel changes nothing -/
theorem C01_cname_fuel_never_runs_out (z : Zone.Zone) (qname : WName) (rrType : Nat) (cn : Zone.Rrset) :
    followCname z qname rrType (Gen.MAX_CNAME_CHAIN_LEN + 1) cn [] =
      followCname z qname rrType (Gen.MAX_CNAME_CHAIN_LEN + 2) cn [] :=
  followCname_fuel z qname rrType Gen.MAX_CNAME_CHAIN_LEN cn [] (by simp)

/-! ### L3 — the QUERY handler meets the writer's contract -/

/-- `handle_query` never panics: every `add_*_rr(set)` call is made with a well-formed owner and
    a hint that is valid at that moment (`Hint::Qname` after the question was added with that name;
    `MostRecentOwner` / `MostRecentNameInRdata` right after such a name was written; explicit
    pointers from the `HintPointerVec` of the RRset just written, at the index of the RDATA whose
    name they accompany); writer errors (`OutOfOrder`, `Truncation`, `InvalidRdata`, …) become
    `ProcessingError`s, never `unwrap`s. -/
theorem C01_query_phase (W : WriterSafe) (cfg : Cfg) (hcfg : CfgWF cfg) (tr : Transport) :
    QuerySafe W cfg tr := querySafe W cfg hcfg tr

/-! ### RRL: a NOERROR response need not carry a question -/

/-- Defect D17 (repaired) was `process_response` assuming "a NOERROR response to a QUERY has a
    question" (`context.question.as_ref().unwrap()`). The scan phase does not guarantee it: when
    the response TSIG does not fit, `set_tsig_or_truncate` forces RCODE NOERROR (+ TC) whether or not
    there is a question — e.g. QDCOUNT = 0 and a TSIG record with a 255-octet key name and a
    220-octet algorithm name (corpus/C01/d17-rrl-noerror-without-question.cases). The repaired code
    hashes the root name in that case; the obligation on the RRL side is that its choice of QNAME is
    total. -/
theorem C01_truncated_tsig_gives_noerror_without_question (m : TsigMode) (rr : TsigRr) (s s' : State)
    (e : WriterErr) (h : setTsig m rr s = (.err e, s')) :
    setTsigOrTruncate m rr s = (do setRcode (RC "NOERROR"); setTc true; pure false : M Bool) s' := by
  unfold setTsigOrTruncate
  rw [h]

/-! ### the API side: zones built with `add` only hold non-empty RRsets -/

theorem C01_zone_api_rrsets_nonempty (eqv : Zone.Eqv) (apex : NameL.Name) (cls : Nat) (glue : Zone.GluePolicy)
    (rs : List Zone.Rec) :
    NodeOK (fun r => r.rdatas ≠ []) (Zone.build eqv (Zone.Zone.new apex cls glue) rs).root :=
  build_nodeOK eqv apex cls glue rs

/-! ### non-vacuity: a concrete configuration and environment satisfy the hypotheses -/

/-- zone `a.` (IN) with an SOA-less apex holding one A RRset and a child `b.a.` -/
def exZone : Zone.Zone :=
  ⟨[[97]], 1, .narrow, .mk [⟨1, 60, [[192, 0, 2, 1]]⟩] [([98], .mk [⟨16, 30, [[1, 120]]⟩] [])]⟩

def exCfg : Cfg := { payload := 1232, zones := [⟨⟨[[97]]⟩, 1, .Loaded, exZone⟩] }

example : CfgWF exCfg := by
  refine ⟨by decide, fun ze hze => ?_⟩
  simp only [exCfg, List.mem_singleton] at hze
  subst hze
  refine ⟨by decide, by decide, ?_⟩
  refine NodeOK.mk _ _ (fun r hr => ?_) (fun l c hc => ?_)
  · simp at hr; subst hr; simp
  · simp at hc
    obtain ⟨_, rfl⟩ := hc
    exact NodeOK.mk _ _ (fun r hr => by simp at hr; subst hr; simp) (fun _ _ h => by simp at h)

example : EnvOK exCfg .udp 1700000000 1232 #[0, 0, 1, 0, 0, 1, 0, 0, 0, 0, 0, 0, 1, 97, 0, 0, 1, 0, 1] :=
  ⟨by decide, by decide, by decide⟩

example : EnvOK exCfg .tcp 1700000000 65535 #[] := ⟨by decide, by decide, by decide⟩

end QV.C01
