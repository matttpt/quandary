/-
  C19 — RDATA equality is an equivalence and RRsets deduplicate by it.

  "For every class and type, RDATA equality is reflexive, symmetric and transitive, equals
   octet-wise equality except that embedded names of pre-RFC 3597 types compare case-insensitively
   when both RDATA are well formed, and falls back to octet-wise comparison when either is
   malformed. An RDATA set keeps, in insertion order, the first member of each equality class and
   nothing else."

  Model: `QV.Rdata.equals` (src/rr/rdata/mod.rs `Rdata::equals`, helpers.rs, std13.rs, srv.rs; the
  dispatch arms come from `QV.Generated.RdataDispatch`), `QV.RdataSet` (src/rr/rdata_set.rs).
  Spec: `QV.Spec.SpecEq`, `QV.Spec.firstOfEachClass`.
-/
import QV.Proofs.Rdata
import QV.Proofs.RdataSet

namespace QV.C19
open QV QV.Rdata QV.Spec

/-- the Boolean the model computes, named: field-wise comparison along the RFC layout of the
    format if both sides split along it, octet-wise otherwise -/
def specEqB (c t : Nat) (a b : List UInt8) : Bool :=
  match layoutOf (fmtOf c t) with
  | some l => eqB l a b
  | none => decide (a = b)

theorem specEqB_iff (c t : Nat) (a b : List UInt8) : specEqB c t a b = true ↔ SpecEq c t a b := by
  unfold specEqB SpecEq
  cases layoutOf (fmtOf c t) with
  | none => simp
  | some l => exact eqB_iff l a b

theorem equals_specEqB (c t : Nat) (a b : Bytes) :
    equals c t a b = .ok (specEqB c t a.toList b.toList) := by
  rw [equals_eq]
  unfold specEqB
  cases h : fmtOf c t <;> simp only [equalsFmt, layoutOf]
  case name => exact namesEqual_eq a b
  case chA => exact equalsAsChA_eq a b
  case soa => exact equalsAsSoa_eq a b
  case minfo => exact equalsAsMinfo_eq a b
  case mx => exact equalsAsMx_eq a b
  case srv => exact equalsAsInSrv_eq a b
  -- the formats without embedded names are compared octet-wise
  all_goals simp [bytesEq_eq_decide]

/-- **Main theorem (equality).** For every class, type and pair of octet strings — well formed or
    not — `Rdata::equals` neither panics nor fails, and answers `true` exactly when the
    specification's equality holds: field-wise with embedded names compared ASCII-case-insensitively
    when the type is a name-bearing pre-RFC 3597 type and both RDATA are well formed; octet-wise in
    every other case. -/
theorem C19_equals_iff_spec (c t : Nat) (a b : Bytes) :
    ∃ v, equals c t a b = .ok v ∧ (v = true ↔ SpecEq c t a.toList b.toList) :=
  ⟨_, equals_specEqB c t a b, specEqB_iff c t _ _⟩

/-- `Rdata::equals` never panics (no slice of `test_n_name_fields` or of the `equals_as_*`
    helpers is out of range, no `usize` subtraction underflows). -/
theorem C19_equals_no_panic (c t : Nat) (a b : Bytes) : equals c t a b ≠ .panic := by
  rw [equals_specEqB]; simp

/-- the specification's equality is an equivalence relation on *all* octet strings (its classes:
    the well-formed RDATA of a name-bearing type modulo letter case in names; every other octet
    string alone) -/
theorem C19_spec_equivalence (c t : Nat) :
    (∀ a, SpecEq c t a a) ∧ (∀ a b, SpecEq c t a b → SpecEq c t b a) ∧
    (∀ a b d, SpecEq c t a b → SpecEq c t b d → SpecEq c t a d) := by
  unfold SpecEq
  cases layoutOf (fmtOf c t) with
  | none => exact ⟨fun _ => rfl, fun _ _ h => h.symm, fun _ _ _ h1 h2 => h1.trans h2⟩
  | some l => exact ⟨layoutEq_refl l, fun _ _ h => layoutEq_symm h, fun _ _ _ h1 h2 => layoutEq_trans h1 h2⟩

/-- reflexive, for every class, type and octet string -/
theorem C19_equals_refl (c t : Nat) (a : Bytes) : equals c t a a = .ok true := by
  obtain ⟨v, hv, hiff⟩ := C19_equals_iff_spec c t a a
  rw [hv, hiff.mpr ((C19_spec_equivalence c t).1 _)]

/-- symmetric, for every class, type and pair of octet strings (false of a `names_equal` that tests
    `len == first.len()` only: defect D08) -/
theorem C19_equals_symm (c t : Nat) (a b : Bytes) : equals c t a b = equals c t b a := by
  have s := (C19_spec_equivalence c t).2.1
  rw [equals_specEqB, equals_specEqB,
    Bool.eq_iff_iff.mpr ((specEqB_iff c t _ _).trans (Iff.trans ⟨s _ _, s _ _⟩ (specEqB_iff c t _ _).symm))]

/-- transitive, for every class, type and triple of octet strings, across the valid / invalid
    boundary too -/
theorem C19_equals_trans (c t : Nat) (a b d : Bytes)
    (h1 : equals c t a b = .ok true) (h2 : equals c t b d = .ok true) : equals c t a d = .ok true := by
  rw [equals_specEqB] at h1 h2 ⊢
  simp only [Out.ok.injEq] at h1 h2 ⊢
  rw [specEqB_iff] at h1 h2 ⊢
  exact (C19_spec_equivalence c t).2.2 _ _ _ h1 h2

/-! ### non-vacuity -/

/-- NS RDATA `\x01a\x00` and `\x01A\x00` are equal (names are case-insensitive) … -/
example : equals 1 2 #[1, 97, 0] #[1, 65, 0] = .ok true := by
  rw [equals_specEqB]; decide +kernel

/-- … while `\x01a\x00` and `\x01a\x00\xff` (trailing junk: malformed) are unequal in *both*
    orders (the inputs of defect D08, on which a one-sided length test answers differently) -/
example : equals 1 2 #[1, 97, 0] #[1, 97, 0, 255] = .ok false ∧
          equals 1 2 #[1, 97, 0, 255] #[1, 97, 0] = .ok false := by
  rw [equals_specEqB, equals_specEqB]; decide +kernel

/-- two malformed NS RDATA that differ only in case are *not* equal (octet-wise fallback) -/
example : equals 1 2 #[1, 97, 0, 255] #[1, 65, 0, 255] = .ok false := by
  rw [equals_specEqB]; decide +kernel

/-- SOA: names case-insensitive, the 20 fixed octets exact -/
example : equals 1 6 (#[1, 97, 0, 0] ++ Array.replicate 20 7) (#[1, 65, 0, 0] ++ Array.replicate 20 7) = .ok true := by
  rw [equals_specEqB]; decide +kernel

/-! ## RDATA sets -/

open QV.RdataSet

/-- the encoding of a list of members (what `from_iter` builds when nothing is rejected) -/
abbrev encode := QV.RdataSet.encode

/-- **Encode / iterate round trip.** Iterating the length-prefixed encoding of any list of RDATA
    (each at most 65535 octets — the invariant of the `Rdata` type) yields exactly that list. -/
theorem C19_iter_encode (xs : List Bytes) (h : ∀ x ∈ xs, x.size ≤ 65535) : iter (encode xs) = xs :=
  iter_encode xs h

/-- **Main theorem (sets).** For every class and type and every non-empty list of RDATA (each at
    most 65535 octets), `RdataSetOwned::from_iter` succeeds without panicking, and iterating the
    resulting set yields, in insertion order, the first member of each equality class and nothing
    else — `firstOfEachClass` for any Boolean test `E` that decides the specification's equality. -/
theorem C19_set_first_of_each_class (c t : Nat) (xs : List Bytes) (hne : xs ≠ [])
    (hlen : ∀ x ∈ xs, x.size ≤ 65535)
    (E : Bytes → Bytes → Bool) (hE : ∀ x y, E x y = true ↔ SpecEq c t x.toList y.toList) :
    ∃ inner, fromIter c t xs = .ok (some inner) ∧ iter inner = firstOfEachClass E xs := by
  obtain ⟨_, hs, ht⟩ := C19_spec_equivalence c t
  exact fromIter_eq c t E
    (fun x y => by rw [equals_specEqB, Bool.eq_iff_iff.mpr ((specEqB_iff c t _ _).trans (hE x y).symm)])
    (fun x y => Bool.eq_iff_iff.mpr ((hE x y).trans (Iff.trans ⟨hs _ _, hs _ _⟩ (hE y x).symm)))
    (fun x y z h1 h2 => (hE x z).mpr (ht _ _ _ ((hE x y).mp h1) ((hE y z).mp h2))) xs hne hlen

/-- an empty iterator gives no set -/
theorem C19_set_empty (c t : Nat) : fromIter c t [] = .ok none := rfl

/-- **What "first of each class" means** (properties of the specification, for any reflexive and
    transitive test): the kept list is a sublist of the input (insertion order, nothing invented),
    its members are pairwise inequivalent, and for every input member the *first* input member
    equivalent to it is kept. -/
theorem C19_first_of_each_class_spec {α} (E : α → α → Bool) (hrefl : ∀ x, E x x = true)
    (htrans : ∀ x y z, E x y = true → E y z = true → E x z = true) (xs : List α) :
    (firstOfEachClass E xs).Sublist xs ∧
    (firstOfEachClass E xs).Pairwise (fun a b => E a b = false) ∧
    (∀ x ∈ xs, ∃ y, xs.find? (fun y => E y x) = some y ∧ y ∈ firstOfEachClass E xs) :=
  ⟨foec_sublist E xs, foec_pairwise E xs, foec_first E hrefl htrans xs⟩

/-- non-vacuity: a Boolean test deciding `SpecEq` exists (the one the model computes), so the
    hypothesis of `C19_set_first_of_each_class` is satisfiable for every class and type -/
example (c t : Nat) : ∃ E : Bytes → Bytes → Bool, ∀ x y, E x y = true ↔ SpecEq c t x.toList y.toList :=
  ⟨fun x y => specEqB c t x.toList y.toList, fun x y => specEqB_iff c t _ _⟩

/-- a concrete set: CNAME `a.`, `A.`, `a.` keeps only the first (the crate's own unit test) … -/
example : ∃ inner, fromIter 1 5 [#[1, 97, 0], #[1, 65, 0], #[1, 97, 0]] = .ok (some inner) ∧
    iter inner = [#[1, 97, 0]] := by
  obtain ⟨inner, h1, h2⟩ := C19_set_first_of_each_class 1 5 [#[1, 97, 0], #[1, 65, 0], #[1, 97, 0]]
    (by simp) (by simp) (fun x y => specEqB 1 5 x.toList y.toList) (fun x y => specEqB_iff 1 5 _ _)
  refine ⟨inner, h1, ?_⟩
  rw [h2]; decide +kernel

end QV.C19
