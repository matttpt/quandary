/-
  C16 — Domain name text form, equality and ordering are consistent.

  "Rendering any domain name as text and parsing it back gives the identical wire form, and text
   parsing accepts exactly the absolute names of at most 255 octets with labels of at most 63
   octets. Name equality and hashing ignore ASCII case and nothing else, ordering is a total order
   consistent with equality that matches RFC 4034 §6.1 canonical order, and subdomain tests,
   superdomain extraction, label access and lowercasing agree with a reference model."

  Model: `QV.Model.Name` (mirrors src/name/mod.rs, label.rs, builder.rs, lowercase.rs); names are
  wire forms (`List UInt8`).  Spec: `QV.Spec.NameText` (names as label lists; grammar `Denotes`;
  `SameName`; `canonicalCmp`; `IsSubdomainOrEq`; `RefBuilder`).  `IsName w` (the spec's
  well-formedness: `w = toWire n` for a valid label list `n`) is the hypothesis on names; it is
  proved for everything the model produces, and `wfb` decides it (`C16_wfb_iff`).

  All theorems hold for all names / texts / builder states; none is bounded.
-/
import QV.Proofs.NameOrder

namespace QV.C16
open QV QV.Name QV.Spec.NameText
open QV.Codes (Text)

/-! ### 1. text form -/

/-- **Round trip (headline).** For every name, `Display` succeeds and parsing the text it prints
    yields the identical wire form (and the label-offset table of that wire form). -/
theorem C16_roundtrip (w : List UInt8) (h : IsName w) :
    ∃ t, displayName w = .ok t ∧ fromStr t = .ok ⟨w, labelOffsets w⟩ := by
  obtain ⟨n, hv, rfl⟩ := h
  exact ⟨textOf n, displayName_toWire n hv.1, by
    rw [labelOffsets_toWire n hv.1]; exact fromStr_textOf n hv⟩

/-- what `Display` prints denotes the name under the RFC 1035 §5.1 grammar -/
theorem C16_display_denotes (n : DName) (h : ValidName n) :
    ∃ t, displayName (toWire n) = .ok t ∧ Denotes t n :=
  ⟨textOf n, displayName_toWire n h.1, textOf_denotes n h.1⟩

/-- **Acceptance, exactly.** `from_str` accepts a text iff the text denotes (RFC 1035 §5.1 / RFC
    4343 grammar, absolute names only) a name with labels of 1..63 octets and at most 255 octets on
    the wire; the result is that name's wire form with the matching label-offset table. -/
theorem C16_fromStr_iff (s : Text) (r : Built) :
    fromStr s = .ok r ↔ ∃ n, Denotes s n ∧ ValidName n ∧ r = ⟨toWire n, labelOffsets (toWire n)⟩ := by
  rw [fromStr_iff]
  constructor
  · intro ⟨n, hp, hv, hr⟩
    exact ⟨n, parseText_denotes hp, hv, by rw [labelOffsets_toWire n hv.1]; exact hr⟩
  · intro ⟨n, hd, hv, hr⟩
    exact ⟨n, denotes_parseText hd, hv, by rw [← labelOffsets_toWire n hv.1]; exact hr⟩

/-- everything `from_str` returns is a well-formed name with a consistent offset table -/
theorem C16_fromStr_wf (s : Text) (r : Built) (h : fromStr s = .ok r) :
    IsName r.wire ∧ r.offsets = labelOffsets r.wire := by
  obtain ⟨n, _, hv, rfl⟩ := (C16_fromStr_iff s r).mp h
  exact ⟨⟨n, hv, rfl⟩, rfl⟩

/-- `from_str` never panics (no index out of range, no `ArrayVec` overflow) … -/
theorem C16_fromStr_no_panic (s : Text) : fromStr s ≠ .panic := fromStr_no_panic s

/-- … and reports an error exactly for the texts that denote no valid name -/
theorem C16_fromStr_err_iff (s : Text) :
    (∃ e, fromStr s = .err e) ↔ ¬ ∃ n, Denotes s n ∧ ValidName n := by
  constructor
  · intro ⟨e, he⟩ ⟨n, hd, hv⟩
    have := (C16_fromStr_iff s _).mpr ⟨n, hd, hv, rfl⟩
    rw [he] at this; cases this
  · intro hno
    cases h : fromStr s with
    | ok r =>
      obtain ⟨n, hd, hv, _⟩ := (C16_fromStr_iff s r).mp h
      exact absurd ⟨n, hd, hv⟩ hno
    | err e => exact ⟨e, rfl⟩
    | panic => exact absurd h (fromStr_no_panic s)

/-- the grammar is unambiguous: a text denotes at most one name -/
theorem C16_denotes_unique (s : Text) (n n' : DName) (h : Denotes s n) (h' : Denotes s n') : n = n' := by
  have a := denotes_parseText h
  have b := denotes_parseText h'
  rw [a] at b; cases b; rfl

/-- the executable text parser of the spec (the oracle of the correspondence check) is the grammar -/
theorem C16_parseText_iff (s : Text) (n : DName) : parseText s = some n ↔ Denotes s n :=
  (denotes_iff_parseText s n).symm

/-! ### 2. well-formedness -/

/-- the executable check used by the driver decides `IsName` -/
theorem C16_wfb_iff (w : List UInt8) : wfb w = true ↔ IsName w := wfb_iff w

/-- the wire form determines the labels: `labels()` returns them, null label last -/
theorem C16_labels (n : DName) (h : ValidName n) :
    labelsOf (toWire n) = allLabels n ∧ nLabels (toWire n) = n.length + 1 ∧
      labelOffsets (toWire n) = offsetsList n :=
  ⟨labelsOf_toWire n h.1, nLabels_toWire n h.1, labelOffsets_toWire n h.1⟩

theorem C16_toWire_injective (a b : DName) (ha : ValidName a) (hb : ValidName b)
    (h : toWire a = toWire b) : a = b := toWire_injective ha.1 hb.1 h

/-! ### 3. equality and hashing -/

/-- `eq` is the spec's equality: label lists equal after ASCII lower-casing -/
theorem C16_eq_spec (a b : DName) (ha : ValidName a) (hb : ValidName b) :
    nameEq (toWire a) (toWire b) = true ↔ SameName a b := nameEq_toWire a b ha.1 hb.1

/-- **Equality ignores ASCII case and nothing else**: two names are equal iff their wire forms
    are identical after lower-casing `A`–`Z` … -/
theorem C16_eq_iff_lower (a b : List UInt8) (ha : IsName a) (hb : IsName b) :
    nameEq a b = true ↔ a.map lowerU8 = b.map lowerU8 := by
  obtain ⟨x, hx, rfl⟩ := ha
  obtain ⟨y, hy, rfl⟩ := hb
  rw [nameEq_toWire x y hx.1 hy.1, map_lower_toWire x hx.1, map_lower_toWire y hy.1]
  unfold SameName
  constructor
  · intro h; rw [h]
  · intro h; exact toWire_injective (LabelsOK_lower hx.1) (LabelsOK_lower hy.1) h

/-- the hash input is precisely the lower-cased wire form … -/
theorem C16_hash_input (w : List UInt8) (h : IsName w) : hashInput w = w.map lowerU8 := by
  obtain ⟨n, hn, rfl⟩ := h
  rw [hashInput_toWire n hn.1, map_lower_toWire n hn.1]

/-- … so names are equal iff the octet sequences `Hash` feeds to the hasher are identical (`Hash` is
    consistent with `Eq`, and hashes *only* what `Eq` compares) -/
theorem C16_eq_iff_hash (a b : List UInt8) (ha : IsName a) (hb : IsName b) :
    nameEq a b = true ↔ hashInput a = hashInput b := by
  rw [C16_hash_input a ha, C16_hash_input b hb]
  exact C16_eq_iff_lower a b ha hb

/-- `eq` is an equivalence relation -/
theorem C16_eq_equivalence :
    (∀ a, IsName a → nameEq a a = true) ∧
    (∀ a b, IsName a → IsName b → nameEq a b = true → nameEq b a = true) ∧
    (∀ a b c, IsName a → IsName b → IsName c → nameEq a b = true → nameEq b c = true → nameEq a c = true) := by
  refine ⟨?_, ?_, ?_⟩
  · intro a ha; exact (C16_eq_iff_lower a a ha ha).mpr rfl
  · intro a b ha hb h
    exact (C16_eq_iff_lower b a hb ha).mpr ((C16_eq_iff_lower a b ha hb).mp h).symm
  · intro a b c ha hb hc h1 h2
    exact (C16_eq_iff_lower a c ha hc).mpr
      (((C16_eq_iff_lower a b ha hb).mp h1).trans ((C16_eq_iff_lower b c hb hc).mp h2))

/-! ### 4. ordering -/

/-- **`cmp` is RFC 4034 §6.1's canonical order** (labels right to left, as lower-cased unsigned
    octet strings, a proper prefix first) -/
theorem C16_cmp_spec (a b : DName) (ha : ValidName a) (hb : ValidName b) :
    nameCmp (toWire a) (toWire b) = canonicalCmp a b := nameCmp_toWire a b ha.1 hb.1

/-- `cmp` is consistent with `eq` -/
theorem C16_cmp_eq_iff (a b : List UInt8) (ha : IsName a) (hb : IsName b) :
    nameCmp a b = .eq ↔ nameEq a b = true := by
  obtain ⟨x, hx, rfl⟩ := ha
  obtain ⟨y, hy, rfl⟩ := hb
  rw [nameCmp_toWire x y hx.1 hy.1, nameEq_toWire x y hx.1 hy.1, canonicalCmp_eq_iff]

/-- antisymmetry / totality: swapping the arguments swaps the result (so exactly one of `<`, `=`,
    `>` holds, and `a < b ↔ b > a`) -/
theorem C16_cmp_swap (a b : List UInt8) (ha : IsName a) (hb : IsName b) :
    nameCmp a b = (nameCmp b a).swap := by
  obtain ⟨x, hx, rfl⟩ := ha
  obtain ⟨y, hy, rfl⟩ := hb
  rw [nameCmp_toWire x y hx.1 hy.1, nameCmp_toWire y x hy.1 hx.1]
  exact canonicalCmp_swap x y

/-- transitivity -/
theorem C16_cmp_trans (a b c : List UInt8) (ha : IsName a) (hb : IsName b) (hc : IsName c)
    (h1 : nameCmp a b = .lt) (h2 : nameCmp b c = .lt) : nameCmp a c = .lt := by
  obtain ⟨x, hx, rfl⟩ := ha
  obtain ⟨y, hy, rfl⟩ := hb
  obtain ⟨z, hz, rfl⟩ := hc
  rw [nameCmp_toWire _ _ hx.1 hy.1] at h1
  rw [nameCmp_toWire _ _ hy.1 hz.1] at h2
  rw [nameCmp_toWire _ _ hx.1 hz.1]
  exact canonicalCmp_trans x y z h1 h2

/-- equal names are indistinguishable by the order (with `C16_cmp_trans`: a total preorder whose
    equivalence is `eq`, i.e. a total order on names up to case) -/
theorem C16_cmp_congr (a b c : List UInt8) (ha : IsName a) (hb : IsName b) (hc : IsName c)
    (h : nameEq a b = true) : nameCmp a c = nameCmp b c := by
  obtain ⟨x, hx, rfl⟩ := ha
  obtain ⟨y, hy, rfl⟩ := hb
  obtain ⟨z, hz, rfl⟩ := hc
  rw [nameCmp_toWire _ _ hx.1 hz.1, nameCmp_toWire _ _ hy.1 hz.1]
  exact canonicalCmp_congr x y z ((nameEq_toWire x y hx.1 hy.1).mp h)

/-- `Label`'s own `Ord` is the lower-cased octet-string order -/
theorem C16_label_cmp (a b : List UInt8) : labelCmp a b = cmpOctetString (lowerLabel a) (lowerLabel b) :=
  labelCmp_eq a b

/-- `Label`'s own `Eq` ignores ASCII case and nothing else -/
theorem C16_label_eq (a b : List UInt8) : labelEq a b = true ↔ lowerLabel a = lowerLabel b := labelEq_iff a b

/-! ### 5. hierarchy, label access, lower-casing -/

theorem C16_subdomain (a b : DName) (ha : ValidName a) (hb : ValidName b) :
    eqOrSubdomainOf (toWire a) (toWire b) = true ↔ IsSubdomainOrEq a b :=
  eqOrSubdomainOf_toWire a b ha.1 hb.1

theorem C16_superdomain (n : DName) (h : ValidName n) (k : Nat) :
    Name.superdomain (toWire n) k = (Spec.NameText.superdomain n k).map toWire :=
  superdomain_toWire n h.1 k

/-- a superdomain of a name is a name -/
theorem C16_superdomain_wf (w : List UInt8) (h : IsName w) (k : Nat) (w' : List UInt8)
    (hs : Name.superdomain w k = some w') : IsName w' := by
  obtain ⟨n, hn, rfl⟩ := h
  rw [superdomain_toWire n hn.1 k] at hs
  unfold Spec.NameText.superdomain at hs
  split at hs
  · simp at hs; subst hs
    refine ⟨n.drop k, ⟨fun l hl => hn.1 l (List.mem_of_mem_drop hl), ?_⟩, rfl⟩
    have := hn.2
    conv at this => rw [← List.take_append_drop k n, wireLength_append]
    omega
  · simp at hs

theorem C16_index (n : DName) (h : ValidName n) (i : Nat) :
    index (toWire n) i = if i ≤ n.length then .ok ((allLabels n)[i]?.getD []) else .panic :=
  index_toWire n h.1 i

theorem C16_is_root (n : DName) (h : ValidName n) : isRoot (toWire n) = true ↔ n = [] :=
  isRoot_toWire n h.1

theorem C16_is_wildcard (n : DName) (h : ValidName n) :
    Name.isWildcard (toWire n) = .ok (Spec.NameText.isWildcard n) := isWildcard_toWire n h.1

theorem C16_wire_repr_to (n : DName) (h : ValidName n) (k : Nat) :
    wireReprTo (toWire n) k =
      if k = n.length + 1 then .ok (toWire n) else if k ≤ n.length then .ok (body (n.take k)) else .panic :=
  wireReprTo_toWire n h.1 k

theorem C16_wire_repr_from (n : DName) (h : ValidName n) (k : Nat) :
    wireReprFrom (toWire n) k =
      if k = n.length + 1 then .ok [] else if k ≤ n.length then .ok (toWire (n.drop k)) else .panic :=
  wireReprFrom_toWire n h.1 k

/-- lower-casing lower-cases every label, keeps the structure, and is the octet-wise lower-casing
    of the wire form; the result is a name equal (`eq`) to the original -/
theorem C16_lowercase (n : DName) (h : ValidName n) :
    makeAsciiLowercase (toWire n) = toWire (lowerName n) ∧
    makeAsciiLowercase (toWire n) = (toWire n).map lowerU8 ∧
    IsName (makeAsciiLowercase (toWire n)) ∧
    nameEq (makeAsciiLowercase (toWire n)) (toWire n) = true := by
  have e := makeAsciiLowercase_toWire n h.1
  have hv : ValidName (lowerName n) := ⟨LabelsOK_lower h.1, by rw [wireLength_lower]; exact h.2⟩
  refine ⟨e, by rw [e, map_lower_toWire n h.1], by rw [e]; exact ⟨_, hv, rfl⟩, ?_⟩
  rw [e, nameEq_toWire _ _ hv.1 h.1]
  exact lowerName_idem n

/-! ### 6. the builder refines the reference builder; its operations are atomic on error -/

/-- abstraction relation: the model builder `b` represents the reference state `rb` -/
def Abs (b : Builder) (rb : RefBuilder) : Prop := InvDC rb.done rb.cur ∧ b = stateOf rb.done rb.cur

theorem C16_builder_new : Abs Builder.new ⟨[], []⟩ := ⟨invDC_nil, new_eq⟩

theorem C16_builder_is_fully_qualified (b : Builder) (rb : RefBuilder) (h : Abs b rb) :
    b.isFullyQualified = rb.cur.isEmpty := by
  obtain ⟨_, rfl⟩ := h
  cases rb.cur <;> simp [Builder.isFullyQualified, stateOf]

/-- `try_push_slice` (and `try_push` = a one-octet slice): succeeds exactly when the reference
    builder does, to the corresponding state; on error the builder is unchanged -/
theorem C16_builder_push_slice (b : Builder) (rb : RefBuilder) (h : Abs b rb) (os : List UInt8) :
    match rb.pushSlice os with
    | .ok rb' => ∃ b', b.tryPushSlice os = (b', .ok ()) ∧ Abs b' rb'
    | .error _ => ∃ e, b.tryPushSlice os = (b, .err e) := by
  obtain ⟨hinv, rfl⟩ := h
  rw [tryPushSlice_ref]
  cases hr : rb.pushSlice os with
  | ok rb' => exact ⟨_, rfl, hinv.pushSlice hr, rfl⟩
  | error e => exact ⟨_, rfl⟩

theorem C16_builder_push (b : Builder) (rb : RefBuilder) (h : Abs b rb) (o : UInt8) :
    match rb.push o with
    | .ok rb' => ∃ b', b.tryPush o = (b', .ok ()) ∧ Abs b' rb'
    | .error _ => ∃ e, b.tryPush o = (b, .err e) := by
  obtain ⟨hinv, rfl⟩ := h
  rw [tryPush_ref]
  cases hr : rb.push o with
  | ok rb' => exact ⟨_, rfl, hinv.pushSlice hr, rfl⟩
  | error e => exact ⟨_, rfl⟩

theorem C16_builder_next_label (b : Builder) (rb : RefBuilder) (h : Abs b rb) :
    match rb.nextLabel with
    | .ok rb' => ∃ b', b.nextLabel = (b', .ok ()) ∧ Abs b' rb'
    | .error _ => ∃ e, b.nextLabel = (b, .err e) := by
  obtain ⟨hinv, rfl⟩ := h
  rw [nextLabel_ref rb hinv]
  cases hr : rb.nextLabel with
  | ok rb' => exact ⟨_, rfl, hinv.nextLabel hr, rfl⟩
  | error e => exact ⟨_, rfl⟩

/-- `finish`: the reference builder's name, as a well-formed wire form with consistent offsets -/
theorem C16_builder_finish (b : Builder) (rb : RefBuilder) (h : Abs b rb) :
    match rb.finish with
    | .ok n => b.finish = .ok ⟨toWire n, labelOffsets (toWire n)⟩ ∧ ValidName n
    | .error _ => ∃ e, b.finish = .err e := by
  obtain ⟨hinv, rfl⟩ := h
  rw [finish_ref]
  cases hr : rb.finish with
  | ok n => have hv := hinv.finish hr; exact ⟨by rw [labelOffsets_toWire n hv.1], hv⟩
  | error e => exact ⟨_, rfl⟩

/-- `finish_with_suffix`: the labels so far, the current (non-empty) label and the suffix's labels,
    if that fits in 255 octets — with a consistent offset table, and without panicking (no `u8`
    overflow in the offset addition, no `ArrayVec` overflow) -/
theorem C16_builder_finish_with_suffix (b : Builder) (rb : RefBuilder) (h : Abs b rb) (sfx : DName)
    (hs : ValidName sfx) :
    match rb.finishWithSuffix sfx with
    | .ok n => b.finishWithSuffix (toWire sfx) = .ok ⟨toWire n, labelOffsets (toWire n)⟩ ∧ ValidName n
    | .error _ => ∃ e, b.finishWithSuffix (toWire sfx) = .err e := by
  obtain ⟨hinv, rfl⟩ := h
  rw [finishWithSuffix_ref rb hinv sfx hs]
  cases hr : rb.finishWithSuffix sfx with
  | ok n => have hv := hinv.finishWithSuffix hs hr; exact ⟨by rw [labelOffsets_toWire n hv.1], hv⟩
  | error e => exact ⟨_, rfl⟩

/-- `try_push`, `try_push_slice`, `next_label` and `finish` do not panic in any reachable state
    (`finish_with_suffix`: see `C16_builder_finish_with_suffix`, whose two outcomes are `ok` and `err`) -/
theorem C16_builder_no_panic (b : Builder) (rb : RefBuilder) (h : Abs b rb) (o : UInt8) (os : List UInt8) :
    (b.tryPush o).2 ≠ .panic ∧ (b.tryPushSlice os).2 ≠ .panic ∧ b.nextLabel.2 ≠ .panic ∧ b.finish ≠ .panic := by
  obtain ⟨hinv, rfl⟩ := h
  rw [tryPush_ref, tryPushSlice_ref, nextLabel_ref rb hinv, finish_ref]
  refine ⟨?_, ?_, ?_, ?_⟩
  · cases rb.push o <;> nofun
  · cases rb.pushSlice os <;> nofun
  · cases rb.nextLabel <;> nofun
  · cases rb.finish <;> nofun

/-! ### non-vacuity -/

/-- `\003www\007Example\000`: "www.Example." -/
def exName : DName := [[119, 119, 119], [69, 120, 97, 109, 112, 108, 101]]

theorem exName_valid : ValidName exName := by
  refine ⟨?_, by decide⟩
  intro l hl; simp [exName] at hl; rcases hl with rfl | rfl <;> decide

example : IsName (toWire exName) := ⟨exName, exName_valid, rfl⟩
example : toWire exName = [3, 119, 119, 119, 7, 69, 120, 97, 109, 112, 108, 101, 0] := by decide
example : displayName (toWire exName) = .ok (QV.Codes.bytesOf "www.Example.") := by
  rw [displayName_toWire exName exName_valid.1]; decide
/-- a label with a dot, a backslash, a space and a high octet: `a\.b\\\032\255.` -/
example : textOf [[97, 46, 98, 92, 32, 255]] = QV.Codes.bytesOf "a\\.b\\\\\\032\\255." := by decide
example : Denotes (QV.Codes.bytesOf "a\\.b.") [[97, 46, 98]] :=
  .last (.plain (by decide) (by decide) (by decide) (.quoted (by decide) (.plain (by decide) (by decide) (by decide) .nil)))
    (by decide)
example : canonicalCmp [[97]] [[90], [97]] = .lt := by decide
example : SameName exName [[87, 87, 119], [101, 88, 97, 109, 112, 108, 101]] := by decide
example : IsSubdomainOrEq exName [[101, 120, 97, 109, 112, 108, 101]] := by decide
example : Abs Builder.new ⟨[], []⟩ := C16_builder_new

end QV.C16
