/-
  C22 — Catalog updates never disturb unrelated entries.

  "After any history of catalog inserts and removals, looking up a name returns the entry of that
   class whose name is the longest suffix of the name, exact lookup returns only an entry with
   exactly that name, and iteration yields exactly the current entries. Removing one entry never
   removes or alters any other entry."

  Model: `QV.Model.Catalog` (mirrors src/db/hash_map_tree/catalog.rs, src/db/catalog.rs,
  src/db/hash_map_tree/node.rs, src/db/single_zone_catalog.rs).
  Spec:  `QV.Spec.Catalog` — a finite map (class × case-folded name) ⇀ entry.

  Shape: refinement. `abs` maps a tree to the list of its bindings; `Cat.Inv` is the invariant
  (no duplicate classes / child labels, no empty node, every entry filed under its own key).
  Everything is proved for *every* history `ops : List (Op μ)` from the empty catalog, and the
  one-step theorems for *every* catalog satisfying the invariant. `μ` (the metadata type) is
  arbitrary.

  Interpretation: names are compared label-wise and ASCII-case-insensitively (RFC 4343), as
  `Label`'s `Eq`/`Hash` do; "the entry whose name is the longest suffix" is `IsLongestMatch`.
-/
import QV.Proofs.Catalog

namespace QV.C22
open QV QV.Catalog QV.Spec.Catalog

variable {μ : Type}

/-- The tree invariant holds after every history: classes and child labels are never duplicated,
    no node is empty (so nothing leaks and pruning is exact), and every entry sits at the node
    of its own name in the tree of its own class. -/
theorem C22_invariant (ops : List (Op μ)) : (run ops).Inv := (refines_run ops).1

/-- … and it is preserved by each operation on any catalog that satisfies it. -/
theorem C22_invariant_step (c : Cat μ) (op : Op μ) (h : c.Inv) : (step c op).Inv := by
  cases op with
  | insert e => exact inv_insert c e h
  | remove n cls => exact inv_remove c n cls h

/-! ### refinement: the tree denotes the finite map -/

/-- **Main theorem.** After every history the tree denotes exactly the finite map obtained by
    running the same history on the specification: same binding for every key, and the list of
    the tree's bindings is a permutation of the map (neither has duplicate keys). -/
theorem C22_abs_run (ops : List (Op μ)) :
    (∀ k, sfind (abs (run ops)) k = sfind (specRun ops) k) ∧
      (abs (run ops)).Perm (specRun ops) := by
  obtain ⟨hi, hn, hf⟩ := refines_run ops
  have h1 : ∀ k, sfind (abs (run ops)) k = sfind (specRun ops) k := fun k => by
    rw [sfind_abs _ hi.1, hf]
  exact ⟨h1, perm_of_bindings (nodupKeys_abs _ hi.1) hn h1⟩

/-- `lookup` returns what the specification's longest-suffix search returns. -/
theorem C22_lookup (ops : List (Op μ)) (n : DName) (cls : Nat) :
    lookup (run ops) n cls = specLookup (specRun ops) n cls := by
  obtain ⟨_, _, hf⟩ := refines_run ops
  rw [lookup_eq_lsuf, specLookup, longestSuffix_eq_lsuf]
  exact lsuf_congr _ _ hf _ _

/-- … which is, declaratively: the entry of that class bound to the longest suffix of the name,
    and `none` exactly when no suffix of the name is bound. -/
theorem C22_lookup_longest (ops : List (Op μ)) (n : DName) (cls : Nat) :
    IsLongestMatch (specRun ops) cls (foldName n) (lookup (run ops) n cls) := by
  rw [C22_lookup]; exact longestSuffix_isLongestMatch _ _ _

/-- The declarative reading determines the result (so `C22_lookup_longest` says everything). -/
theorem C22_longest_unique {ε : Type} (m : SMap ε) (cls : Nat) (n : SName) (r r' : Option ε)
    (h : IsLongestMatch m cls n r) (h' : IsLongestMatch m cls n r') : r = r' := by
  have key : ∀ (a b : Option ε), IsLongestMatch m cls n a → IsLongestMatch m cls n b →
      ∀ e, a = some e → b = some e := by
    intro a b ha hb e he
    subst he
    simp only [IsLongestMatch] at ha
    obtain ⟨s, hs, hf, hmax⟩ := ha
    cases b with
    | none => simp only [IsLongestMatch] at hb; rw [hb s hs] at hf; cases hf
    | some e' =>
      simp only [IsLongestMatch] at hb
      obtain ⟨s', hs', hf', hmax'⟩ := hb
      rcases Nat.lt_trichotomy s.length s'.length with hl | hl | hl
      · rw [hmax s' hs' hl] at hf'; cases hf'
      · have : s = s' := by
          obtain ⟨t, ht⟩ := hs; obtain ⟨t', ht'⟩ := hs'
          have := ht.trans ht'.symm
          exact (List.append_inj' this hl).2
        subst this; rw [hf] at hf'; exact hf'.symm
      · rw [hmax' s hs hl] at hf; cases hf
  cases r with
  | some e => exact (key _ _ h h' e rfl).symm
  | none =>
    cases r' with
    | none => rfl
    | some e' => exact absurd (key _ _ h' h e' rfl) (by simp)

/-- `get` returns the entry bound to exactly this name and class, or nothing. -/
theorem C22_get (ops : List (Op μ)) (n : DName) (cls : Nat) :
    get (run ops) n cls = specGet (specRun ops) n cls := by
  obtain ⟨hi, _, hf⟩ := refines_run ops
  rw [get_eq_absFind _ hi.2, hf, specGet]

/-- an entry returned by `get` has exactly the queried name (up to case) and class -/
theorem C22_get_exact (ops : List (Op μ)) (n : DName) (cls : Nat) (e : Entry μ)
    (h : get (run ops) n cls = some e) : e.cls = cls ∧ foldName e.name = foldName n := by
  obtain ⟨hi, _, _⟩ := refines_run ops
  rw [get_eq_absFind _ hi.2] at h
  have := hi.2 _ _ h
  simp only [keyOf, Prod.mk.injEq] at this
  exact this

/-- Iteration yields exactly the current entries (each once; order unspecified). -/
theorem C22_iter (ops : List (Op μ)) : (iter (run ops)).Perm (specIter (specRun ops)) := by
  rw [iter_eq_abs, specIter]
  exact (C22_abs_run ops).2.map _

/-- `insert` returns the entry it replaced, `remove` the entry it removed. -/
theorem C22_insert_returns (ops : List (Op μ)) (e : Entry μ) :
    (insert (run ops) e).2 = specGet (specRun ops) e.name e.cls := by
  obtain ⟨_, _, hf⟩ := refines_run ops
  rw [insert_old, hf]; rfl

theorem C22_remove_returns (ops : List (Op μ)) (n : DName) (cls : Nat) :
    (remove (run ops) n cls).2 = specGet (specRun ops) n cls := by
  obtain ⟨_, _, hf⟩ := refines_run ops
  rw [remove_old, hf]; rfl

/-! ### frame properties: an operation on one key leaves every other key alone

  Stated for any catalog satisfying the invariant (hence, by `C22_invariant`, for the catalog
  after any history). -/

/-- Removing `(n, cls)` leaves the exact lookup of every other key unchanged … -/
theorem C22_remove_frame_get (c : Cat μ) (h : c.Inv) (n n' : DName) (cls cls' : Nat)
    (hk : (cls', foldName n') ≠ (cls, foldName n)) :
    get (remove c n cls).1 n' cls' = get c n' cls' := by
  rw [get_eq_absFind _ (inv_remove c n cls h).2, get_eq_absFind _ h.2, absFind_remove, if_neg hk]

/-- … and removes that key itself. -/
theorem C22_remove_get_self (c : Cat μ) (h : c.Inv) (n : DName) (cls : Nat) :
    get (remove c n cls).1 n cls = none := by
  rw [get_eq_absFind _ (inv_remove c n cls h).2, absFind_remove, if_pos rfl]

/-- Inserting `e` leaves the exact lookup of every other key unchanged and binds its own. -/
theorem C22_insert_frame_get (c : Cat μ) (h : c.Inv) (e : Entry μ) (n' : DName) (cls' : Nat) :
    get (insert c e).1 n' cls' =
      if (cls', foldName n') = keyOf e then some e else get c n' cls' := by
  rw [get_eq_absFind _ (inv_insert c e h).2, get_eq_absFind _ h.2, absFind_insert]

/-- Removing `(n, cls)` leaves the longest-match lookup of `n'` unchanged unless the removed
    entry *was* that longest match (in which case the next-longest takes over, see
    `C22_lookup_longest`). -/
theorem C22_remove_frame_lookup (c : Cat μ) (h : c.Inv) (n n' : DName) (cls cls' : Nat)
    (hk : (lookup c n' cls').map keyOf ≠ some (cls, foldName n)) :
    lookup (remove c n cls).1 n' cls' = lookup c n' cls' := by
  rw [lookup_eq_lsuf, lookup_eq_lsuf] at *
  generalize foldName n' = nm at *
  induction nm with
  | nil =>
    simp only [lsuf, absFind_remove] at *
    by_cases he : (cls', ([] : SName)) = (cls, foldName n)
    · rw [if_pos he]
      cases hf : absFind c (cls', []) with
      | none => rfl
      | some x => rw [hf] at hk; exact absurd (by rw [Option.map_some, h.2 _ _ hf, he]) hk
    · rw [if_neg he]
  | cons l r ih =>
    simp only [lsuf, absFind_remove] at *
    by_cases he : (cls', l :: r) = (cls, foldName n)
    · rw [if_pos he]
      cases hf : absFind c (cls', l :: r) with
      | none => rw [hf] at hk; simp only [Option.none_or] at hk ⊢; exact ih hk
      | some x =>
        rw [hf] at hk
        exact absurd (by rw [Option.some_or, Option.map_some, h.2 _ _ hf, he]) hk
    · rw [if_neg he]
      cases hf : absFind c (cls', l :: r) with
      | none => rw [hf] at hk; simp only [Option.none_or] at hk ⊢; exact ih hk
      | some x => simp

/-- In particular: if the removed name is not a suffix of the query (or the class differs), the
    lookup cannot change. -/
theorem C22_remove_frame_lookup_unrelated (c : Cat μ) (h : c.Inv) (n n' : DName) (cls cls' : Nat)
    (hk : ¬ (cls = cls' ∧ foldName n <:+ foldName n')) :
    lookup (remove c n cls).1 n' cls' = lookup c n' cls' := by
  apply C22_remove_frame_lookup c h
  intro hm
  apply hk
  cases hl : lookup c n' cls' with
  | none => rw [hl] at hm; cases hm
  | some e =>
    rw [hl] at hm
    simp only [Option.map_some, Option.some.injEq] at hm
    rw [lookup_eq_lsuf] at hl
    obtain ⟨s, hs, hf⟩ := lsuf_some _ _ _ _ hl
    have := h.2 _ _ hf
    rw [hm] at this
    simp only [Prod.mk.injEq] at this
    exact ⟨this.1, this.2 ▸ hs⟩

/-- One removal acts on the denoted map as erasing one key: every other binding survives
    unaltered, so iteration afterwards yields exactly the other entries. -/
theorem C22_remove_abs (c : Cat μ) (h : c.Inv) (n : DName) (cls : Nat) :
    (abs (remove c n cls).1).Perm (serase (abs c) (cls, foldName n)) := by
  have h' := inv_remove c n cls h
  apply perm_of_bindings (nodupKeys_abs _ h'.1) (nodupKeys_serase _ (nodupKeys_abs _ h.1))
  intro k
  rw [sfind_abs _ h'.1, absFind_remove, sfind_serase, sfind_abs _ h.1]

theorem C22_insert_abs (c : Cat μ) (h : c.Inv) (e : Entry μ) :
    (abs (insert c e).1).Perm (sinsert (abs c) (keyOf e) e) := by
  have h' := inv_insert c e h
  apply perm_of_bindings (nodupKeys_abs _ h'.1) (nodupKeys_sinsert _ _ (nodupKeys_abs _ h.1))
  intro k
  rw [sfind_abs _ h'.1, absFind_insert, sfind_sinsert, sfind_abs _ h.1]

theorem C22_remove_iter (c : Cat μ) (h : c.Inv) (n : DName) (cls : Nat) :
    (iter (remove c n cls).1).Perm
      ((iter c).filter (fun e => decide (keyOf e ≠ (cls, foldName n)))) := by
  rw [iter_eq_abs, iter_eq_abs]
  refine ((C22_remove_abs c h n cls).map _).trans ?_
  have : ∀ l : SMap (Entry μ), (∀ p ∈ l, keyOf p.2 = p.1) →
      (serase l (cls, foldName n)).map (·.2) =
        (l.map (·.2)).filter (fun e => decide (keyOf e ≠ (cls, foldName n))) := by
    intro l hl
    induction l with
    | nil => simp [serase]
    | cons a r ih =>
      have ha := hl a List.mem_cons_self
      have ih := ih (fun p hp => hl p (List.mem_cons_of_mem _ hp))
      simp only [serase] at ih
      by_cases hk : a.1 = (cls, foldName n)
      · have hk' : keyOf a.2 = (cls, foldName n) := ha.trans hk
        simp only [serase, List.filter_cons, List.map_cons, hk, hk', ne_eq, not_true_eq_false,
          decide_false, Bool.false_eq_true, if_false]
        exact ih
      · have hk' : ¬ keyOf a.2 = (cls, foldName n) := fun e => hk (ha.symm.trans e)
        simp only [serase, List.filter_cons, List.map_cons, hk, hk', ne_eq, not_false_eq_true,
          decide_true, if_true, List.cons.injEq, true_and]
        exact ih
  rw [this]
  intro p hp
  obtain ⟨k, e⟩ := p
  exact h.2 k e ((mem_abs c h.1 k e).mp hp)

/-- **Corollary (the last sentence of the property), over histories.** After any history,
    removing one entry does not change what `get` returns for any other key. -/
theorem C22_remove_keeps_others (ops : List (Op μ)) (n n' : DName) (cls cls' : Nat)
    (hk : (cls', foldName n') ≠ (cls, foldName n)) :
    get (run (ops ++ [.remove n cls])) n' cls' = get (run ops) n' cls' := by
  have : run (ops ++ [Op.remove n cls]) = (remove (run ops) n cls).1 := by
    simp [run, List.foldl_append, step]
  rw [this]
  exact C22_remove_frame_get _ (C22_invariant ops) n n' cls cls' hk

/-! ### SingleZoneCatalog: the finite map with one binding -/

/-- `SingleZoneCatalog::lookup` is the specification's lookup on the one-binding map. -/
theorem C22_single_lookup (e : Entry μ) (n : DName) (cls : Nat) :
    szLookup e n cls = specLookup (single (keyOf e) e) n cls := by
  simp only [szLookup, specLookup, longestSuffix_single, keyOf, foldName_eq_lowerName,
    Bool.and_eq_true, beq_iff_eq, eqOrSubdomainOf_iff]

/-- `SingleZoneCatalog::get` is the specification's exact lookup on the one-binding map. -/
theorem C22_single_get (e : Entry μ) (n : DName) (cls : Nat) :
    szGet e n cls = specGet (single (keyOf e) e) n cls := by
  simp only [szGet, specGet, single, sfind, keyOf, foldName_eq_lowerName, Prod.mk.injEq,
    Bool.and_eq_true, beq_iff_eq, nameEq_iff]
  by_cases hc : e.cls = cls
  · by_cases hs : lowerName n = lowerName e.name
    · simp [hc, hs]
    · have hs' : ¬ lowerName e.name = lowerName n := fun h => hs h.symm
      simp [hc, hs, hs']
  · simp [hc]

/-! ### non-vacuity and regression witnesses -/

def nA : DName := [[97]]              -- a.
def nBA : DName := [[98], [97]]       -- b.a.
def nBAup : DName := [[66], [65]]     -- B.A.
def nCBA : DName := [[99], [98], [97]] -- c.b.a.
def eA : Entry Nat := ⟨nA, 1, .Loaded, 1, 10⟩
def eBA : Entry Nat := ⟨nBA, 1, .NotYetLoaded, 0, 20⟩

/-- The witness history of the repaired defect D09 (commit fee812d): insert a., insert b.a.,
    remove b.a. — the entry of a. must survive, exact and longest-match. -/
def d09 : List (Op Nat) := [.insert eA, .insert eBA, .remove nBA 1]

example : get (run d09) nA 1 = some eA := by decide +kernel
example : lookup (run d09) nCBA 1 = some eA := by decide +kernel
example : get (run d09) nBA 1 = none := by decide +kernel
example : iter (run d09) = [eA] := by decide +kernel

/-- a non-trivial history: nested names, a case variant, two classes; the hypotheses of the
    frame theorems are satisfiable and the results are the expected ones -/
def h1 : List (Op Nat) := [.insert eA, .insert eBA, .insert ⟨nA, 3, .FailedToLoad, 0, 30⟩]

example : (run h1).Inv := C22_invariant h1
example : lookup (run h1) nCBA 1 = some eBA := by decide +kernel
example : lookup (run h1) nBAup 1 = some eBA := by decide +kernel
example : get (run h1) nCBA 1 = none := by decide +kernel
example : lookup (run h1) nCBA 3 = some ⟨nA, 3, .FailedToLoad, 0, 30⟩ := by decide +kernel
example : ((1 : Nat), foldName nA) ≠ (1, foldName nBA) := by decide +kernel
example : get (run (h1 ++ [.remove nBA 1])) nA 1 = some eA := by
  rw [C22_remove_keeps_others h1 nBA nA 1 1 (by decide +kernel)]; decide +kernel
/-- hypotheses of the lookup frame theorems hold on a concrete catalog: removing c.b.a. (absent)
    or a. in class 3 cannot change the lookup of c.b.a. in class 1, and removing b.a. — which *is*
    the longest match of c.b.a. — is correctly excluded -/
example : lookup (remove (run h1) nA 3).1 nCBA 1 = lookup (run h1) nCBA 1 :=
  C22_remove_frame_lookup_unrelated _ (C22_invariant h1) nA nCBA 3 1 (by decide +kernel)
example : (lookup (run h1) nCBA 1).map keyOf ≠ some (1, foldName nA) := by decide +kernel
example : lookup (remove (run h1) nA 1).1 nCBA 1 = lookup (run h1) nCBA 1 :=
  C22_remove_frame_lookup _ (C22_invariant h1) nA nCBA 1 1 (by decide +kernel)
example : (lookup (run h1) nCBA 1).map keyOf = some (1, foldName nBA) := by decide +kernel
example : lookup (remove (run h1) nBA 1).1 nCBA 1 = some eA := by decide +kernel

example : IsLongestMatch (specRun h1) 1 (foldName nCBA) (some eBA) := by
  have := C22_lookup_longest h1 nCBA 1
  rwa [show lookup (run h1) nCBA 1 = some eBA by decide +kernel] at this

end QV.C22
