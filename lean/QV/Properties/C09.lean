/-
  C09 — EDNS(0) requests get correct OPT handling.

  "A response contains exactly one OPT record (owner root, class equal to the server's payload size,
   EDNS version 0) if and only if the request's additional section contained an OPT record that
   processing reached. A request whose OPT carries an EDNS version other than 0 is answered with
   extended RCODE BADVERS and no answer data, and an OPT whose owner is not the root gives FORMERR."

  Model: `QV.Server.handleMessage` (src/server/mod.rs: OPT arm of the additional-section scan,
  `validate_opt`; src/message/writer.rs `set_edns`, `finish`).  Spec: `specScanWith` (its `edns`
  flag = "the scan reached an OPT in the additional section") and `specErrorResponse`.
  Interpretation: an OPT that was reached but does not parse still makes the response an EDNS
  response (RFC 6891 §7); the version is read from the *raw* TTL field (defect D06, repaired).

  What is proved (each theorem's docstring says what it states):
  * on the octets of the response — `C09_opt_iff_partial`, `C09_badvers` (verdicts the scan decides
    alone), `C09_answer_opt` (a loaded zone answers), `C09_signed_nodata_opt`, `C09_signed_error_opt`,
    `C09_signed_answer_opt` (TSIG-signed requests), and the spec-level decision at an OPT record,
    `C09_owner_not_root`, `C09_version`, `C09_limit`;
  * on the independent decoding of the response, `C09_full`'s own terms — the bridge `C09_decoded_of_good`
    / `C09_optClauses_of_good` (it suffices that the writer handed to `finish` is `Good`, i.e. reached
    from `Writer::new` by public calls so that C12's `finish_decodes_content` applies, has only address
    records of its own in the additional section, and has its EDNS slot set iff the scan reached an
    OPT), and one theorem per kind of response: `C09_decoded_unsigned`, `C09_decoded_answer`,
    `C09_decoded_signed_nodata`, `C09_decoded_signed_error`, `C09_decoded_signed_answer`,
    `C09_decoded_signed_nofit`;
  * **`C09 : C09_full`** — the property at full strength, by cases over the scan's verdict
    (`C09_decoded_unsigned`, `C09_decoded_answer`, and for every request whose scan reaches a TSIG
    record `ServerContent.signed_final_good`).
  `C09_full` quantifies over the configurations the library API can hold: it carries `CfgWF cfg` (each
  catalog entry filed under the apex of its zone, apexes are names, stored RRsets non-empty) and
  `cfg.payload ≤ 65535` (the payload size is a `u16` in the API; a larger `Nat` in the model would not
  fit the OPT record's CLASS field), which the decoded theorems need.  No `NoTruncation` hypothesis is
  needed: truncated and SERVFAIL answers are covered (the epilogues of `handle_non_axfr_query` keep
  the tie between log and layout).
  The differential check (audit tags `C09:*`) covers all of it as well.
-/
import QV.Proofs.ServerProps
import QV.Proofs.ServerSignedTable

namespace QV.C09
open QV QV.Spec.Server QV.ServerScan

/-- the OPT record the property prescribes, with `upper` the top eight bits of the extended RCODE -/
def optRecordOctets (serverSize upper : Nat) : List UInt8 :=
  [0] ++ u16be 41 ++ u16be serverSize ++ [UInt8.ofNat upper, 0, 0, 0] ++ u16be 0

/-- C09 at full strength -/
def C09_full : Prop :=
  ∀ (cfg : Server.Cfg) (tr : Server.Transport) (now bufLen : Nat) (req : Bytes),
    minBuf tr cfg.payload ≤ bufLen → 512 ≤ cfg.payload → req.size ≤ Rdata.USIZE_MAX →
    -- what the library API guarantees of a configuration (recorded correction, see the header)
    ServerSafety.CfgWF cfg → cfg.payload ≤ 65535 →
    ∀ b, Server.handleMessage cfg tr now bufLen req = .ok (some b) →
      -- `d` = the independent decoding of the response
      ∀ d, Spec.specDecodeMsg b = some d →
        ((d.ar.filter (fun r => r.ty = 41)).length = (if (specScanWith (catKind cfg) cfg.payload req).edns then 1 else 0)) ∧
        (∀ o ∈ d.ar, o.ty = 41 → o.owner = [0] ∧ o.cls = cfg.payload ∧ o.rawTtl / 65536 % 256 = 0) ∧
        ((specScanWith (catKind cfg) cfg.payload req).verdict = .badVers →
          d.rcode = 0 ∧ (∀ o ∈ d.ar, o.ty = 41 → o.rawTtl / 16777216 = 1) ∧ d.an = [] ∧ d.ns = [])

/-- **Theorem.** For every request whose verdict the scan decides alone: the response carries one
    OPT record — the last eleven octets, after the question: owner root, TYPE OPT, CLASS = server
    payload size, extended-RCODE bits as the verdict says, version 0, no flags, no options — and
    ARCOUNT 1, if and only if the scan reached an OPT in the request's additional section;
    otherwise ARCOUNT is 0 and the message ends with the question. -/
theorem C09_opt_iff_partial (cfg : Server.Cfg) (tr : Server.Transport) (now bufLen : Nat) (req : Bytes)
    (hbuf : minBuf tr cfg.payload ≤ bufLen) (hpay : 512 ≤ cfg.payload) (hreq : req.size ≤ Rdata.USIZE_MAX)
    (hr : (specScanWith (catKind cfg) cfg.payload req).respond = true)
    (hv : noDataV (specScanWith (catKind cfg) cfg.payload req).verdict = true) :
    ∃ b, Server.handleMessage cfg tr now bufLen req = .ok (some b) ∧
      hdr b 6 = 0 ∧ hdr b 8 = 0 ∧
      (if (specScanWith (catKind cfg) cfg.payload req).edns then
        hdr b 10 = 1 ∧
        b.toList.drop 12 = specQuestionOctets (specScanWith (catKind cfg) cfg.payload req).question ++
          optRecordOctets cfg.payload (verdictRcode (specScanWith (catKind cfg) cfg.payload req).verdict).2
      else
        hdr b 10 = 0 ∧
        b.toList.drop 12 = specQuestionOctets (specScanWith (catKind cfg) cfg.payload req).question) := by
  obtain ⟨b, hb, hl⟩ := server_error_response cfg tr now bufLen req hbuf hpay hreq hr hv
  obtain ⟨_, _, _, _, _, han, hns, har, hrest⟩ := errResp_facts _ _ _ _ hl
  refine ⟨b, hb, han, hns, ?_⟩
  cases he : (specScanWith (catKind cfg) cfg.payload req).edns with
  | false =>
    rw [he] at har
    simp only [Bool.false_eq_true, if_false] at har ⊢
    refine ⟨har, ?_⟩
    rw [hrest]; simp [specOptOctets, he]
  | true =>
    rw [he] at har
    simp only [if_true] at har ⊢
    refine ⟨har, ?_⟩
    rw [hrest]; simp [specOptOctets, he, optRecordOctets, u16be]

/-- **Theorem (BADVERS).** When the scan stops at an OPT with a version other than 0, the response
    has header RCODE bits 0 and an OPT whose TTL's top octet is 1 — extended RCODE 16 — and no
    answer or authority records. -/
theorem C09_badvers (cfg : Server.Cfg) (tr : Server.Transport) (now bufLen : Nat) (req : Bytes)
    (hbuf : minBuf tr cfg.payload ≤ bufLen) (hpay : 512 ≤ cfg.payload) (hreq : req.size ≤ Rdata.USIZE_MAX)
    (hr : (specScanWith (catKind cfg) cfg.payload req).respond = true)
    (hv : (specScanWith (catKind cfg) cfg.payload req).verdict = .badVers) :
    ∃ b, Server.handleMessage cfg tr now bufLen req = .ok (some b) ∧
      hdr b 2 % 16 = 0 ∧ hdr b 6 = 0 ∧ hdr b 8 = 0 ∧ hdr b 10 = 1 ∧
      b.toList.drop 12 = specQuestionOctets (specScanWith (catKind cfg) cfg.payload req).question ++
        optRecordOctets cfg.payload 1 := by
  have hnd : noDataV (specScanWith (catKind cfg) cfg.payload req).verdict = true := by rw [hv]; rfl
  obtain ⟨b, hb, hl⟩ := server_error_response cfg tr now bufLen req hbuf hpay hreq hr hnd
  obtain ⟨_, _, h2, h3, _, han, hns, har, hrest⟩ := errResp_facts _ _ _ _ hl
  obtain ⟨_, _, _, _, _, _, _, f8⟩ := flags_facts b req _ (verdictRcode_lt _) h2 h3
  have he : (specScanWith (catKind cfg) cfg.payload req).edns = true := by
    have := (specBody_props (catKind cfg) cfg.payload req).1
    rw [specScanWith_eq] at hv hr ⊢
    by_cases h12 : req.size < 12
    · simp only [h12, if_true] at hr; cases hr
    · by_cases hqr : (req.getD 2 0).toNat ≥ 128
      · simp only [h12, hqr, if_false, if_true] at hr; cases hr
      · simp only [h12, hqr, if_false] at hv ⊢
        exact this hv
  rw [he] at har
  refine ⟨b, hb, by rw [f8, hv]; rfl, han, hns, by simpa using har, ?_⟩
  rw [hrest]
  simp [specOptOctets, he, hv, verdictRcode, optRecordOctets, u16be]

/-- **Theorem (answers).** When a loaded zone answers: the response is what the answering phase
    wrote (`answerState`, counts filled in), followed — if and only if the scan reached an OPT in the
    request — by exactly one OPT record with owner root, TYPE 41, CLASS = the server's payload size,
    EDNS version 0, flags 0 and no options, which is then the last record of the message. -/
theorem C09_answer_opt (cfg : Server.Cfg) (tr : Server.Transport) (now bufLen : Nat) (req : Bytes)
    (hbuf : minBuf tr cfg.payload ≤ bufLen) (hpay : 512 ≤ cfg.payload) (hreq : req.size ≤ Rdata.USIZE_MAX)
    (hv : (specScanWith (catKind cfg) cfg.payload req).verdict = .answer)
    (b : Bytes) (h : Server.handleMessage cfg tr now bufLen req = .ok (some b)) :
    if (specScanWith (catKind cfg) cfg.payload req).edns then
      b.size = (answerState cfg tr now bufLen req).cursor + 11 ∧
      (∀ i, i < (answerState cfg tr now bufLen req).cursor →
        b[i]? = (Writer.withCounts (answerState cfg tr now bufLen req))[i]?) ∧
      ∃ upper, b.toList.drop (b.size - 11) = optRecordOctets cfg.payload upper
    else
      b = (Writer.withCounts (answerState cfg tr now bufLen req)).extract 0
        (answerState cfg tr now bufLen req).cursor := by
  have := answer_finish cfg tr now bufLen req hbuf hpay hreq hv b h
  cases he : (specScanWith (catKind cfg) cfg.payload req).edns with
  | false => rw [he] at this; simpa using this
  | true =>
    rw [he] at this
    simp only [if_true] at this ⊢
    obtain ⟨h1, h2, x, h3⟩ := this
    refine ⟨h1, h2, x.toNat, ?_⟩
    rw [h1, Nat.add_sub_cancel, h3]
    simp [optRecordOctets]

/-! ### TSIG-signed requests -/

/-- **Theorem (signed, no-data).** An authenticated request with a no-data verdict: ARCOUNT is
    (OPT ? 2 : 1) and after the question come exactly the OPT record — iff the scan reached an OPT —
    and the TSIG record. -/
theorem C09_signed_nodata_opt (cfg : Server.Cfg) (hcfg : ServerSafety.CfgWF cfg) (tr : Server.Transport)
    (now bufLen : Nat) (req : Bytes)
    (hbuf : minBuf tr cfg.payload ≤ bufLen) (hpay : 512 ≤ cfg.payload) (hreq : req.size ≤ Rdata.USIZE_MAX)
    (hnow : now < 2^48)
    (hr : (specScanWith (catKind cfg) cfg.payload req).respond = true)
    (hv : (specScanWith (catKind cfg) cfg.payload req).verdict = .tsigReached) :
    ∃ (t : Tsig.ReadTsigRr) (mw : Bytes) (r' : Reader.Reader), r'.octets = req ∧ r'.cursor ≤ req.size ∧
      ∀ r'' S, Server.tsigAfter cfg now t mw r' (preTsigState cfg tr bufLen req) = (.ok (some r''), S) →
      ∀ v, (v = Verdict.formErr ∨ v = .notImp ∨ v = .refused ∨ v = .servFailZone) →
        endVerdict (catKind cfg) req.size (specScanWith (catKind cfg) cfg.payload req).question
          r'.cursor ((req.getD 2 0).toNat / 8 % 16) = v →
        ∃ b, Server.handleMessage cfg tr now bufLen req = .ok (some b) ∧
          hdr b 10 = (if (specScanWith (catKind cfg) cfg.payload req).edns then 2 else 1) ∧
          ∃ oe ts mac, Writer.NameShape ts.rr.keyName oe ∧
            b.toList.drop 12 = specQuestionOctets (specScanWith (catKind cfg) cfg.payload req).question ++
              (if (specScanWith (catKind cfg) cfg.payload req).edns then optRecordOctets cfg.payload 0 else []) ++
              Writer.tsigRecordOctets oe ts mac := by
  obtain ⟨t, mw, r', h1, h2, h3⟩ := signed_noData_full cfg hcfg tr now bufLen req hbuf hpay hreq hnow hr hv
  refine ⟨t, mw, r', h1, h2, fun r'' S hT v hvv hev => ?_⟩
  obtain ⟨b, hb, hS⟩ := h3 r'' S hT v hvv hev
  obtain ⟨oe, ts, mac, hsh, hrest⟩ := hS.rest
  refine ⟨b, hb, hS.ar, oe, ts, mac, hsh, ?_⟩
  rw [hrest]
  unfold signedOptOctets optRecordOctets
  cases (specScanWith (catKind cfg) cfg.payload req).edns <;> simp [u16be]

/-- **Theorem (signed, rejected).** A request that the TSIG step does not authenticate (reply TSIG
    fits): the NOTAUTH / FORMERR response holds, after the question, exactly the OPT record — iff the
    scan reached an OPT — and the TSIG record. -/
theorem C09_signed_error_opt (cfg : Server.Cfg) (tr : Server.Transport) (now bufLen : Nat) (req : Bytes)
    (hbuf : minBuf tr cfg.payload ≤ bufLen) (hpay : 512 ≤ cfg.payload) (hreq : req.size ≤ Rdata.USIZE_MAX)
    (hr : (specScanWith (catKind cfg) cfg.payload req).respond = true)
    (hv : (specScanWith (catKind cfg) cfg.payload req).verdict = .tsigReached) :
    ∃ (t : Tsig.ReadTsigRr) (mw : Bytes) (r' : Reader.Reader), r'.octets = req ∧ r'.cursor ≤ req.size ∧
      ∀ nowT kn an rc mode rr, Tsig.TimeSigned.tryFromUnix now = some nowT →
        Writer.WName.parse t.keyName = some (kn, []) → Writer.WName.parse t.algorithm = some (an, []) →
        tsigStopReply Tsig.realHmac cfg.keys nowT t mw.toList kn an = some (rc, mode, rr) →
        ServerTsig.TsigFits (preTsigState cfg tr bufLen req) mode rr →
        ∀ b, Server.handleMessage cfg tr now bufLen req = .ok (some b) →
          hdr b 10 = (if (specScanWith (catKind cfg) cfg.payload req).edns then 2 else 1) ∧
          ∃ oe ts mac, Writer.NameShape ts.rr.keyName oe ∧
            b.toList.drop 12 = specQuestionOctets (specScanWith (catKind cfg) cfg.payload req).question ++
              (if (specScanWith (catKind cfg) cfg.payload req).edns then optRecordOctets cfg.payload 0 else []) ++
              Writer.tsigRecordOctets oe ts mac := by
  obtain ⟨t, mw, r', h1, h2, h3⟩ := tsig_error_response cfg tr now bufLen req hbuf hpay hreq hr hv
  refine ⟨t, mw, r', h1, h2, fun nowT kn an rc mode rr hnow hkn han hrep hfit b hb => ?_⟩
  obtain ⟨oe, sT, _, hsh, _, hbl⟩ := h3 nowT kn an rc mode rr hnow hkn han hrep hfit b hb
  have hrc : rc < 16 := by rcases tsigStopReply_rc hrep with rfl | rfl <;> omega
  have hS := signedNoData_of_list req cfg.payload _ rc hrc oe _ _ hsh b hbl
  obtain ⟨oe', ts, mac, hsh', hrest⟩ := hS.rest
  refine ⟨hS.ar, oe', ts, mac, hsh', ?_⟩
  rw [hrest]
  unfold signedOptOctets optRecordOctets
  cases (specScanWith (catKind cfg) cfg.payload req).edns <;> simp [u16be]

/-- **Theorem (signed, answered).** An authenticated request that a loaded zone answers: the
    response is `pre ++ TSIG record`, and `pre` ends with exactly one OPT record of the prescribed
    shape iff the scan reached an OPT (otherwise `pre` is what the answering phase wrote). -/
theorem C09_signed_answer_opt (cfg : Server.Cfg) (tr : Server.Transport) (now bufLen : Nat) (req : Bytes)
    (hbuf : minBuf tr cfg.payload ≤ bufLen) (hpay : 512 ≤ cfg.payload) (hreq : req.size ≤ Rdata.USIZE_MAX)
    (hr : (specScanWith (catKind cfg) cfg.payload req).respond = true)
    (hv : (specScanWith (catKind cfg) cfg.payload req).verdict = .tsigReached) :
    ∃ (t : Tsig.ReadTsigRr) (mw : Bytes) (r' : Reader.Reader), r'.octets = req ∧ r'.cursor ≤ req.size ∧
      ∀ r'' S, Server.tsigAfter cfg now t mw r' (preTsigState cfg tr bufLen req) = (.ok (some r''), S) →
        endVerdict (catKind cfg) req.size (specScanWith (catKind cfg) cfg.payload req).question
          r'.cursor ((req.getD 2 0).toNat / 8 % 16) = .answer →
      ∀ b, Server.handleMessage cfg tr now bufLen req = .ok (some b) →
        ∃ pre oe ts mac, Writer.NameShape ts.rr.keyName oe ∧ b.toList = pre ++ Writer.tsigRecordOctets oe ts mac ∧
          ((specScanWith (catKind cfg) cfg.payload req).edns = true →
            ∃ x upper, pre = x ++ optRecordOctets cfg.payload upper) ∧
          ((specScanWith (catKind cfg) cfg.payload req).edns = false →
            ∃ w1 : Writer.State, pre = Writer.finishPrefix w1) := by
  obtain ⟨t, mw, r', h1, h2, h3⟩ := signed_answer_response cfg tr now bufLen req hbuf hpay hreq hr hv
  refine ⟨t, mw, r', h1, h2, fun r'' S hT hev b hb => ?_⟩
  obtain ⟨nowT, alg, key, kn, _, _, _, _, _, pre, oe, hsh, hbl, hopt, hno⟩ := h3 r'' S hT hev b hb
  refine ⟨pre, oe, _, _, hsh, hbl, fun he => ?_, hno⟩
  obtain ⟨x, upper, hx⟩ := hopt he
  refine ⟨x, upper, ?_⟩
  rw [hx, Writer.optRecord_shape]
  simp [optRecordOctets]

/-! ### on the independent decoding of the response (`C09_full`'s own terms) -/

/-- the first two clauses of `C09_full` for one decoded response -/
def OptClauses (payload : Nat) (edns : Bool) (d : Spec.DMsg) : Prop :=
  ((d.ar.filter (fun r => r.ty = 41)).length = (if edns then 1 else 0)) ∧
  (∀ o ∈ d.ar, o.ty = 41 → o.owner = [0] ∧ o.cls = payload ∧ o.rawTtl / 65536 % 256 = 0)

/-- **the bridge**: whenever the writer handed to `finish` was reached from `Writer::new` by public
    calls (`Good`: the writer's invariant and content layout, C12), its own additional records are
    address records, and its EDNS slot is set — with the server's payload size and an extended-RCODE
    octet — iff the scan reached an OPT: every decoding of the finished message satisfies the OPT
    clauses, and the OPT's TTL is that octet shifted to the top. -/
theorem C09_decoded_of_good (payload up : Nat) (hp16 : payload ≤ 65535) (hup : up < 256) (edns : Bool)
    (F : Writer.State) (bd : Writer.Body) (hG : Good F bd) (hty : ∀ r ∈ bd.ar, r.ty = 1 ∨ r.ty = 28)
    (he : F.edns = (if edns then some ⟨payload, up⟩ else none)) (b : Bytes) (mac : Option (List UInt8))
    (hf : Writer.finish F Server.macFn = .ok (b, mac)) (d : Spec.DMsg) (hd : Spec.specDecodeMsg b = some d) :
    OptClauses payload edns d ∧ (∀ o ∈ d.ar, o.ty = 41 → o.rawTtl / 16777216 = up) ∧
    d.an.length = bd.an.length ∧ d.ns.length = bd.ns.length := by
  obtain ⟨h1, h2, h3, h4⟩ := opt_of_good Server.macFn F bd hG hty b mac hf d hd
  have hs : F.edns.isSome = edns := by rw [he]; cases edns <;> rfl
  -- an OPT record of the decoding shows the EDNS slot `⟨payload, up⟩`
  have hopt : ∀ o ∈ d.ar, o.ty = 41 → o.owner = [0] ∧ o.cls = payload % 65536 ∧
      o.rawTtl = (up * 16777216) % 4294967296 := by
    intro o ho hot
    obtain ⟨e, hee, q1, q2, q3⟩ := h2 o ho hot
    rw [he] at hee
    cases edns with
    | false => cases hee
    | true => cases hee; exact ⟨q1, q2, q3⟩
  refine ⟨⟨by rw [h1, hs], fun o ho hot => ?_⟩, fun o ho hot => ?_, h3, h4⟩
  · obtain ⟨q1, q2, q3⟩ := hopt o ho hot
    exact ⟨q1, by rw [q2]; exact Nat.mod_eq_of_lt (by omega), by rw [q3]; omega⟩
  · rw [(hopt o ho hot).2.2]; omega

/-- **`C09_full` for every request whose verdict the scan decides alone** (FORMERR, BADVERS, NOTIMP,
    REFUSED, SERVFAIL-not-loaded): all three clauses, on every independent decoding of the response -/
theorem C09_decoded_unsigned (cfg : Server.Cfg) (tr : Server.Transport) (now bufLen : Nat) (req : Bytes)
    (hbuf : minBuf tr cfg.payload ≤ bufLen) (hpay : 512 ≤ cfg.payload) (hp16 : cfg.payload ≤ 65535)
    (hreq : req.size ≤ Rdata.USIZE_MAX)
    (hr : (specScanWith (catKind cfg) cfg.payload req).respond = true)
    (hv : noDataV (specScanWith (catKind cfg) cfg.payload req).verdict = true) :
    ∀ b, Server.handleMessage cfg tr now bufLen req = .ok (some b) →
      ∀ d, Spec.specDecodeMsg b = some d →
        OptClauses cfg.payload (specScanWith (catKind cfg) cfg.payload req).edns d ∧
        d.an = [] ∧ d.ns = [] ∧
        ((specScanWith (catKind cfg) cfg.payload req).verdict = .badVers →
          d.rcode = 0 ∧ ∀ o ∈ d.ar, o.ty = 41 → o.rawTtl / 16777216 = 1) := by
  intro b hb d hd
  have hbv0 : (specScanWith (catKind cfg) cfg.payload req).verdict = .badVers → d.rcode = 0 := by
    intro hbv
    obtain ⟨b2, hb2, hrc, _⟩ := C09_badvers cfg tr now bufLen req hbuf hpay hreq hr hbv
    rw [hb] at hb2
    simp only [Out.ok.injEq, Option.some.injEq] at hb2
    subst hb2
    show d.flags % 16 = 0
    rw [decode_flags b d hd]; exact hrc
  obtain ⟨F, b', mac, hb', hf, hG, _, he⟩ := unsigned_nodata_final cfg tr now bufLen req hbuf hpay hp16 hreq hr hv
  rw [hb] at hb'
  simp only [Out.ok.injEq, Option.some.injEq] at hb'
  subst hb'
  obtain ⟨hq1, hq2, hq3⟩ := qBody_norecs (specScanWith (catKind cfg) cfg.payload req).question
  have hup : (verdictRcode (specScanWith (catKind cfg) cfg.payload req).verdict).2 < 256 := by
    cases (specScanWith (catKind cfg) cfg.payload req).verdict <;> simp [verdictRcode]
  obtain ⟨c1, c2, c3, c4⟩ := C09_decoded_of_good cfg.payload _ hp16 hup _ F _ hG (by rw [hq3]; simp) he b mac hf d hd
  rw [hq1] at c3
  rw [hq2] at c4
  refine ⟨c1, List.length_eq_zero_iff.mp c3, List.length_eq_zero_iff.mp c4, fun hbv => ⟨hbv0 hbv, fun o ho hot => ?_⟩⟩
  rw [c2 o ho hot, hbv]; rfl

/-- **`C09_full`'s OPT clauses for authenticated signed requests with a no-data verdict** -/
theorem C09_decoded_signed_nodata (cfg : Server.Cfg) (tr : Server.Transport) (now bufLen : Nat) (req : Bytes)
    (hbuf : minBuf tr cfg.payload ≤ bufLen) (hpay : 512 ≤ cfg.payload) (hp16 : cfg.payload ≤ 65535)
    (hreq : req.size ≤ Rdata.USIZE_MAX)
    (hr : (specScanWith (catKind cfg) cfg.payload req).respond = true)
    (hv : (specScanWith (catKind cfg) cfg.payload req).verdict = .tsigReached) :
    ∃ (t : Tsig.ReadTsigRr) (mw : Bytes) (r' : Reader.Reader), r'.octets = req ∧ r'.cursor ≤ req.size ∧
      ∀ r'' S, Server.tsigAfter cfg now t mw r' (preTsigState cfg tr bufLen req) = (.ok (some r''), S) →
      ∀ v, (v = Verdict.formErr ∨ v = .notImp ∨ v = .refused ∨ v = .servFailZone) →
        endVerdict (catKind cfg) req.size (specScanWith (catKind cfg) cfg.payload req).question
          r'.cursor ((req.getD 2 0).toNat / 8 % 16) = v →
      ∀ b, Server.handleMessage cfg tr now bufLen req = .ok (some b) →
        ∀ d, Spec.specDecodeMsg b = some d →
          OptClauses cfg.payload (specScanWith (catKind cfg) cfg.payload req).edns d ∧ d.an = [] ∧ d.ns = [] := by
  obtain ⟨t, mw, r', question, hrun⟩ := ServerContent.tsigRun_exists cfg tr now bufLen req hbuf hpay hreq hr hv
  refine ⟨t, mw, r', hrun.1, hrun.2.1, fun r'' S hT v hvv hev b hb d hd => ?_⟩
  obtain ⟨nowT, alg, key, kn, F, mac, _, _, _, _, _, _, hf, hG, _, he, _⟩ := ServerContent.signed_nodata_final_of_run cfg tr
    now bufLen req hbuf hpay hp16 hr t mw r' question hrun r'' S hT v hvv hev b hb
  obtain ⟨hq1, hq2, hq3⟩ := qBody_norecs (specScanWith (catKind cfg) cfg.payload req).question
  obtain ⟨c1, _, c3, c4⟩ := C09_decoded_of_good cfg.payload 0 hp16 (by omega) _ F _ hG (by rw [hq3]; simp) he b mac hf d hd
  rw [hq1] at c3
  rw [hq2] at c4
  exact ⟨c1, List.length_eq_zero_iff.mp c3, List.length_eq_zero_iff.mp c4⟩

/-- **`C09_full`'s OPT clauses for signed requests that the TSIG step rejects** (reply TSIG fits) -/
theorem C09_decoded_signed_error (cfg : Server.Cfg) (tr : Server.Transport) (now bufLen : Nat) (req : Bytes)
    (hbuf : minBuf tr cfg.payload ≤ bufLen) (hpay : 512 ≤ cfg.payload) (hp16 : cfg.payload ≤ 65535)
    (hreq : req.size ≤ Rdata.USIZE_MAX)
    (hr : (specScanWith (catKind cfg) cfg.payload req).respond = true)
    (hv : (specScanWith (catKind cfg) cfg.payload req).verdict = .tsigReached) :
    ∃ (t : Tsig.ReadTsigRr) (mw : Bytes) (r' : Reader.Reader), r'.octets = req ∧ r'.cursor ≤ req.size ∧
      ∀ nowT kn an rc mode rr, Tsig.TimeSigned.tryFromUnix now = some nowT →
        Writer.WName.parse t.keyName = some (kn, []) → Writer.WName.parse t.algorithm = some (an, []) →
        tsigStopReply Tsig.realHmac cfg.keys nowT t mw.toList kn an = some (rc, mode, rr) →
        ServerTsig.TsigFits (preTsigState cfg tr bufLen req) mode rr →
        ∀ b, Server.handleMessage cfg tr now bufLen req = .ok (some b) →
          ∀ d, Spec.specDecodeMsg b = some d →
            OptClauses cfg.payload (specScanWith (catKind cfg) cfg.payload req).edns d ∧ d.an = [] ∧ d.ns = [] := by
  obtain ⟨t, mw, r', question, hrun⟩ := ServerContent.tsigRun_exists cfg tr now bufLen req hbuf hpay hreq hr hv
  refine ⟨t, mw, r', hrun.1, hrun.2.1, fun nowT kn an rc mode rr hnow hkn han hrep hfit b hb d hd => ?_⟩
  obtain ⟨F, mac, hf, hG, _, he, _⟩ := ServerContent.signed_error_final_of_run cfg tr now bufLen req hbuf hpay hp16 hr
    t mw r' question hrun nowT kn an rc mode rr hnow hkn han hrep hfit b hb
  obtain ⟨hq1, hq2, hq3⟩ := qBody_norecs (specScanWith (catKind cfg) cfg.payload req).question
  obtain ⟨c1, _, c3, c4⟩ := C09_decoded_of_good cfg.payload 0 hp16 (by omega) _ F _ hG (by rw [hq3]; simp) he b mac hf d hd
  rw [hq1] at c3
  rw [hq2] at c4
  exact ⟨c1, List.length_eq_zero_iff.mp c3, List.length_eq_zero_iff.mp c4⟩

/-- the bridge again, for writers whose EDNS slot is known up to the extended-RCODE octet (the
    answering phase resets it with every `set_rcode`): the OPT clauses of `C09_full` need the
    payload size only — the version octet of the OPT's TTL is 0 whatever that octet is -/
theorem C09_optClauses_of_good (payload : Nat) (hp16 : payload ≤ 65535) (edns : Bool)
    (F : Writer.State) (bd : Writer.Body) (hG : Good F bd) (hty : ∀ r ∈ bd.ar, r.ty = 1 ∨ r.ty = 28)
    (he : F.edns.map (·.payload) = (if edns then some payload else none)) (b : Bytes) (mac : Option (List UInt8))
    (hf : Writer.finish F Server.macFn = .ok (b, mac)) (d : Spec.DMsg) (hd : Spec.specDecodeMsg b = some d) :
    OptClauses payload edns d ∧ d.an.length = bd.an.length ∧ d.ns.length = bd.ns.length := by
  obtain ⟨c1, c2, c3, c4⟩ := opt_of_good Server.macFn F bd hG hty b mac hf d hd
  have hs : F.edns.isSome = edns := by
    cases edns <;> cases hw : F.edns <;> rw [hw] at he <;> simp at he ⊢
  refine ⟨⟨by rw [c1, hs], fun o ho hot => ?_⟩, c3, c4⟩
  obtain ⟨ed, hed, q1, q2, q3⟩ := c2 o ho hot
  rw [hed] at he
  cases edns with
  | false => simp at he
  | true =>
    simp only [if_true, Option.map_some, Option.some.injEq] at he
    refine ⟨q1, by rw [q2, he]; exact Nat.mod_eq_of_lt (by omega), ?_⟩
    rw [q3]; omega

/-- **`C09_full`'s OPT clauses for every response that a loaded zone produces** (verdict `answer`:
    answers, CNAME chains, referrals, negative answers, SERVFAIL and truncation epilogues), on every
    independent decoding of the response.  The final writer is `Good` with the question and the
    records of the successful calls of the answering phase as its body
    (`ServerContent.answer_final_good`: the induction over `handle_non_axfr_query` that ties the ghost
    log to the writer's content layout), its own additional records are address records, and the
    answering phase keeps the EDNS payload (`hwc_answer_slot`). -/
theorem C09_decoded_answer (cfg : Server.Cfg) (hcfg : ServerSafety.CfgWF cfg) (tr : Server.Transport)
    (now bufLen : Nat) (req : Bytes)
    (hbuf : minBuf tr cfg.payload ≤ bufLen) (hpay : 512 ≤ cfg.payload) (hp16 : cfg.payload ≤ 65535)
    (hreq : req.size ≤ Rdata.USIZE_MAX)
    (hv : (specScanWith (catKind cfg) cfg.payload req).verdict = .answer) :
    ∀ b, Server.handleMessage cfg tr now bufLen req = .ok (some b) →
      ∀ d, Spec.specDecodeMsg b = some d →
        OptClauses cfg.payload (specScanWith (catKind cfg) cfg.payload req).edns d := by
  intro b h d hd
  obtain ⟨h12, _, hsb, w1, mac, hh, hf⟩ := handleMessage_some cfg tr now bufLen req hbuf hpay b h (catKind cfg) cfg.payload
  rw [hsb] at hv ⊢
  obtain ⟨_, he⟩ := hwc_answer_slot cfg tr now bufLen req hbuf hpay h12 hreq (Spec.Server.hdr req 0)
    (((req.getD 2 0).toNat &&& 120) >>> 3) (((req.getD 2 0).toNat &&& 1) != 0) hv
  obtain ⟨bd, hG, _, hty⟩ := ServerContent.answer_final_good cfg hcfg tr now bufLen req hbuf hpay hp16 h12 hreq
    (Spec.Server.hdr req 0) (((req.getD 2 0).toNat &&& 120) >>> 3) (((req.getD 2 0).toNat &&& 1) != 0) hv
  rw [hh] at he hG
  exact (C09_optClauses_of_good cfg.payload hp16 _ w1 bd hG hty he b mac hf d hd).1

/-- **`C09_full`'s OPT clauses for authenticated signed requests that a loaded zone answers** -/
theorem C09_decoded_signed_answer (cfg : Server.Cfg) (hcfg : ServerSafety.CfgWF cfg) (tr : Server.Transport)
    (now bufLen : Nat) (req : Bytes)
    (hbuf : minBuf tr cfg.payload ≤ bufLen) (hpay : 512 ≤ cfg.payload) (hp16 : cfg.payload ≤ 65535)
    (hreq : req.size ≤ Rdata.USIZE_MAX)
    (hr : (specScanWith (catKind cfg) cfg.payload req).respond = true)
    (hv : (specScanWith (catKind cfg) cfg.payload req).verdict = .tsigReached) :
    ∃ (t : Tsig.ReadTsigRr) (mw : Bytes) (r' : Reader.Reader), r'.octets = req ∧ r'.cursor ≤ req.size ∧
      ∀ r'' S, Server.tsigAfter cfg now t mw r' (preTsigState cfg tr bufLen req) = (.ok (some r''), S) →
        endVerdict (catKind cfg) req.size (specScanWith (catKind cfg) cfg.payload req).question
          r'.cursor ((req.getD 2 0).toNat / 8 % 16) = .answer →
      ∀ b, Server.handleMessage cfg tr now bufLen req = .ok (some b) →
        ∀ d, Spec.specDecodeMsg b = some d →
          OptClauses cfg.payload (specScanWith (catKind cfg) cfg.payload req).edns d := by
  obtain ⟨t, mw, r', h1, h2, h3⟩ := ServerContent.signed_answer_final cfg hcfg tr now bufLen req hbuf hpay hp16 hreq hr hv
  refine ⟨t, mw, r', h1, h2, fun r'' S hT hev b hb d hd => ?_⟩
  obtain ⟨nowT, alg, key, kn, F, mac, bd, _, _, _, _, _, hf, hG, _, hty, _, he⟩ := h3 r'' S hT hev b hb
  exact (C09_optClauses_of_good cfg.payload hp16 _ F bd hG hty he b mac hf d hd).1

/-- **`C09_full`'s OPT clauses for signed requests whose reply TSIG does not fit** (RFC 8945 §5.3, the
    repair of D03: TC set, RCODE 0, no TSIG record), with the rest of the decoded shape: no answer or
    authority data, and the additional section is exactly the OPT record iff the scan reached one -/
theorem C09_decoded_signed_nofit (cfg : Server.Cfg) (tr : Server.Transport) (now bufLen : Nat) (req : Bytes)
    (hbuf : minBuf tr cfg.payload ≤ bufLen) (hpay : 512 ≤ cfg.payload) (hp16 : cfg.payload ≤ 65535)
    (hreq : req.size ≤ Rdata.USIZE_MAX)
    (hr : (specScanWith (catKind cfg) cfg.payload req).respond = true)
    (hv : (specScanWith (catKind cfg) cfg.payload req).verdict = .tsigReached) :
    ∃ (t : Tsig.ReadTsigRr) (mw : Bytes) (r' : Reader.Reader), r'.octets = req ∧ r'.cursor ≤ req.size ∧
      ∀ nowT kn, Tsig.TimeSigned.tryFromUnix now = some nowT → Writer.WName.parse t.keyName = some (kn, []) →
        ServerContent.NoFit cfg nowT t mw kn (preTsigState cfg tr bufLen req) →
        ∀ b, Server.handleMessage cfg tr now bufLen req = .ok (some b) →
          ∀ d, Spec.specDecodeMsg b = some d →
            OptClauses cfg.payload (specScanWith (catKind cfg) cfg.payload req).edns d ∧
            d.tc = true ∧ d.rcode = 0 ∧ d.an = [] ∧ d.ns = [] ∧
            d.ar.length = (if (specScanWith (catKind cfg) cfg.payload req).edns then 1 else 0) ∧
            ∀ o ∈ d.ar, o.ty = 41 := by
  obtain ⟨t, mw, r', question, hrun⟩ := ServerContent.tsigRun_exists cfg tr now bufLen req hbuf hpay hreq hr hv
  refine ⟨t, mw, r', hrun.1, hrun.2.1, fun nowT kn hnow hkn hnf b hb d hd => ?_⟩
  obtain ⟨F, mac, hf, hG, hts, he, hh⟩ := ServerContent.signed_nofit_final_of_run cfg tr now bufLen req hbuf hpay hp16 hr
    t mw r' question hrun nowT kn hnow hkn hnf b hb
  obtain ⟨hq1, hq2, hq3⟩ := qBody_norecs (specScanWith (catKind cfg) cfg.payload req).question
  obtain ⟨c1, _, _⟩ := C09_decoded_of_good cfg.payload 0 hp16 (by omega) _ F _ hG (by rw [hq3]; simp) he b mac hf d hd
  obtain ⟨r1, r2, _, r4, r5, r6, r7⟩ := ServerContent.decoded_nofit F _ ⟨hq1, hq2, hq3⟩ hG hts hh b mac hf d hd
  refine ⟨c1, r1, r2, r4, r5, ?_, r7⟩
  rw [r6, he]
  cases (specScanWith (catKind cfg) cfg.payload req).edns <;> rfl

/-- **C09 at full strength** (statement amended with the API's guarantees, see the header): for every
    configuration the API can hold, every transport, clock, buffer and request, every independent
    decoding of the response has exactly one OPT record — owner root, CLASS = the server's payload
    size, version 0 — iff the scan reached an OPT in the request's additional section, and none
    otherwise; a BADVERS response has extended-RCODE octet 1, RCODE bits 0 and no answer / authority
    data.  By cases over the scan's verdict: decided by the scan alone (`C09_decoded_unsigned`), a
    loaded zone answers (`C09_decoded_answer`), a TSIG record was reached
    (`ServerContent.signed_final_good`: rejected or authenticated, reply TSIG fitting or not, no-data
    or answered — the final writer is `Good` with the EDNS slot set iff the scan reached an OPT). -/
theorem C09 : C09_full := by
  intro cfg tr now bufLen req hbuf hpay hreq hcfg hp16 b hb d hd
  have hr : (specScanWith (catKind cfg) cfg.payload req).respond = true := by
    cases hres : (specScanWith (catKind cfg) cfg.payload req).respond with
    | true => rfl
    | false =>
      have := (handleMessage_none_iff cfg tr now bufLen req hbuf hpay (catKind cfg)).mpr hres
      rw [this] at hb; cases hb
  cases hv : (specScanWith (catKind cfg) cfg.payload req).verdict with
  | answer =>
    obtain ⟨c1, c2⟩ := C09_decoded_answer cfg hcfg tr now bufLen req hbuf hpay hp16 hreq hv b hb d hd
    exact ⟨c1, c2, fun h => by cases h⟩
  | tsigReached =>
    obtain ⟨F, mac, bd, hf, hG, _, hty, he⟩ :=
      ServerContent.signed_final_good cfg hcfg tr now bufLen req hbuf hpay hp16 hreq hr hv b hb
    obtain ⟨⟨c1, c2⟩, _⟩ := C09_optClauses_of_good cfg.payload hp16 _ F bd hG hty he b mac hf d hd
    exact ⟨c1, c2, fun h => by cases h⟩
  | formErr | notImp | refused | servFailZone =>
    obtain ⟨⟨c1, c2⟩, _, _, _⟩ := C09_decoded_unsigned cfg tr now bufLen req hbuf hpay hp16 hreq hr (by rw [hv]; rfl) b hb d hd
    exact ⟨c1, c2, fun h => by cases h⟩
  | badVers =>
    obtain ⟨⟨c1, c2⟩, c3, c4, c5⟩ := C09_decoded_unsigned cfg tr now bufLen req hbuf hpay hp16 hreq hr (by rw [hv]; rfl) b hb d hd
    obtain ⟨c6, c7⟩ := c5 hv
    exact ⟨c1, c2, fun _ => ⟨c6, c7, c3, c4⟩⟩

/-! ### the decision at an OPT record (spec level) -/

/-- an OPT that parses but whose owner is not the root: FORMERR (as an EDNS response) -/
theorem C09_owner_not_root (msg : Bytes) (S n total pos lim : Nat) (d : Delim) (owner : List UInt8) (x y : Nat)
    (h : Spec.Server.specDelimit msg pos = some d) (ht : d.ty = 41)
    (hn : Spec.specDecodeName msg pos = some (owner, x, y))
    (ho : optRdataOk msg (d.rdlen + 1) (d.ownerEnd + 10) d.next = true) (hroot : owner ≠ [0]) :
    scanAr msg S (n + 1) total pos false lim = (.formErr, true, max 512 (min d.cls S)) := by
  unfold scanAr; rw [h]; simp [ht, hn, ho, hroot]

/-- a root-owned OPT with a version other than 0: BADVERS — whatever the other TTL bits, in
    particular the top bit (defect D06) -/
theorem C09_version (msg : Bytes) (S n total pos lim : Nat) (d : Delim) (x y : Nat)
    (h : Spec.Server.specDelimit msg pos = some d) (ht : d.ty = 41)
    (hn : Spec.specDecodeName msg pos = some ([0], x, y))
    (ho : optRdataOk msg (d.rdlen + 1) (d.ownerEnd + 10) d.next = true)
    (hver : d.rawTtl / 65536 % 256 ≠ 0) :
    scanAr msg S (n + 1) total pos false lim = (.badVers, true, max 512 (min d.cls S)) := by
  unfold scanAr; rw [h]; simp [ht, hn, ho, hver]

/-- the UDP size limit negotiated by a good OPT: the requestor's payload size, at least 512, at most
    the server's -/
theorem C09_limit (msg : Bytes) (S n total pos lim : Nat) (d : Delim) (x y : Nat)
    (h : Spec.Server.specDelimit msg pos = some d) (ht : d.ty = 41)
    (hn : Spec.specDecodeName msg pos = some ([0], x, y))
    (ho : optRdataOk msg (d.rdlen + 1) (d.ownerEnd + 10) d.next = true)
    (hver : d.rawTtl / 65536 % 256 = 0) :
    scanAr msg S (n + 1) total pos false lim = scanAr msg S n total d.next true (max 512 (min d.cls S)) := by
  simp [scanAr, h, ht, hn, ho, hver]

/-! ### non-vacuity -/

def exCfg : Server.Cfg := { payload := 1232, zones := [] }
/-- `. IN NS` + OPT (payload 4096, TTL 0) -/
def exEdns : Bytes :=
  #[0, 1, 1, 0, 0, 1, 0, 0, 0, 0, 0, 1, 0, 0, 2, 0, 1, 0, 0, 41, 16, 0, 0, 0, 0, 0, 0, 0]
/-- the same with EDNS version 1 *and* the TTL's top bit set (TTL = 0x80010000) -/
def exBadVers : Bytes :=
  #[0, 1, 1, 0, 0, 1, 0, 0, 0, 0, 0, 1, 0, 0, 2, 0, 1, 0, 0, 41, 16, 0, 0x80, 1, 0, 0, 0, 0]
/-- OPT with owner `x.` -/
def exOwner : Bytes :=
  #[0, 1, 1, 0, 0, 1, 0, 0, 0, 0, 0, 1, 0, 0, 2, 0, 1, 1, 120, 0, 0, 41, 16, 0, 0, 0, 0, 0, 0, 0]

example : (specScanWith (catKind exCfg) 1232 exEdns).edns = true ∧
    (specScanWith (catKind exCfg) 1232 exEdns).verdict = .refused ∧
    (specScanWith (catKind exCfg) 1232 exEdns).limitUdp = 1232 := by decide +kernel
example : (specScanWith (catKind exCfg) 1232 exBadVers).verdict = .badVers := by decide +kernel
example : (specScanWith (catKind exCfg) 1232 exOwner).verdict = .formErr ∧
    (specScanWith (catKind exCfg) 1232 exOwner).edns = true := by decide +kernel

/-- the regression witness of the repaired defect D06: version 1 hidden behind the TTL's top bit is
    answered BADVERS (header RCODE 0, OPT TTL 0x01000000), with the server's payload size 1232 =
    0x04d0 as CLASS, and no data -/
example : ∃ b, Server.handleMessage exCfg .udp 0 65535 exBadVers = .ok (some b) ∧
    b.toList = [0, 1, 0x81, 0, 0, 1, 0, 0, 0, 0, 0, 1, 0, 0, 2, 0, 1,
                0, 0, 41, 0x04, 0xd0, 1, 0, 0, 0, 0, 0] := by
  obtain ⟨b, hb, hl⟩ := server_error_response exCfg .udp 0 65535 exBadVers (by decide) (by decide) (by decide)
    (by decide +kernel) (by decide +kernel)
  exact ⟨b, hb, by rw [hl]; decide +kernel⟩

/-- zone `a.` (IN) whose apex holds one A RRset; `a. IN A` with an OPT: the hypotheses of
    `C09_answer_opt` hold (a loaded zone answers, the scan reached the OPT); `#eval` of the model gives
    the response `… c0 0c 00 01 00 01 00 00 00 3c 00 04 c0 00 02 01 | 00 00 29 04 d0 00 00 00 00 00 00` -/
def exZone : Zone.Zone := ⟨[[97]], 1, .narrow, .mk [⟨1, 60, [[192, 0, 2, 1]]⟩] []⟩
def exCfgA : Server.Cfg := { payload := 1232, zones := [⟨⟨[[97]]⟩, 1, .Loaded, exZone⟩] }
def exAns : Bytes :=
  #[0, 1, 1, 0, 0, 1, 0, 0, 0, 0, 0, 1, 1, 97, 0, 0, 1, 0, 1, 0, 0, 41, 16, 0, 0, 0, 0, 0, 0, 0]

example : (specScanWith (catKind exCfgA) 1232 exAns).verdict = .answer ∧
    (specScanWith (catKind exCfgA) 1232 exAns).edns = true := by decide +kernel

end QV.C09
