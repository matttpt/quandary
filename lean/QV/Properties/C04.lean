/-
  C04 — Responses respect the transport size limit and truncate correctly.

  "A UDP response never exceeds 512 octets without EDNS, or the requestor's advertised payload
   size clamped to [512, the server's configured size] with EDNS. When the complete answer does
   not fit, a UDP response sets TC and carries no answer, authority or additional records other
   than OPT/TSIG; TCP responses never set TC. Whenever the complete response (as produced over
   TCP) fits within the UDP limit, the UDP response is identical to it, and otherwise a UDP
   response with TC clear differs from it only by omitted optional additional records, never by
   in-bailiwick referral glue."

  Four parts (DESIGN.md §6 C04):
    T1  size ≤ limit                      — a property of the writer (`available ≤ limit`): proved
                                            (`C04_T1 : C04_T1_full`); also audited on every response
                                            by the harness oracles `aud`/`audans`
    T2  truncation handling               — proved here, on the operation log of the answer phase
    T3  limit monotonicity (UDP = TCP when TCP fits)
                                          — a property of the writer: proved for the calls of the
                                            answer phase (`C04_T3`), audited end to end
    T4  only optional additional records may be missing, never mandatory glue
                                          — proved here as statements about which calls are issued
                                            inside `execute_allowing_truncation`

  Model: `handleNonAxfrQueryL` and the functions it calls (`QV.Model.Server`), with the ghost
  operation log; `view` (`QV.Proofs.ServerAnswer`) abstracts a log to RCODE/AA/TC/sections.
  All T2/T4 statements hold for *every* writer behaviour (no assumption on which calls fit).

  Interpretation and the one corner (T3): "complete response (as produced over TCP)" is read as
  "the TCP run produced the complete answer". When the answering logic would fail with SERVFAIL
  *after* the UDP limit has already been exceeded (a CNAME chain with long names that is also too
  long or loops), UDP says TC (retry over TCP) and TCP says SERVFAIL — both correct, not identical.
  `C04_T3_corner_shape` shows this is exactly what the model does; it is listed as a known finding
  (tag `C04:T3-tcp-servfail-after-udp-overflow`, corpus/C04).
-/
import QV.Proofs.ServerAnswer
import QV.Proofs.ServerAnswerLimit
import QV.Proofs.Writer

namespace QV.C04
open QV QV.Writer QV.Server QV.Zone QV.Spec.Zone QV.Spec.Resolve QV.ServerAnswer

/-! ### full statements of the writer-side parts -/

/-- what the writer has promised to leave free: the OPT record and the TSIG record -/
def reserved (s : Writer.State) : Nat :=
  (if s.edns.isSome then Gen.OPT_RECORD_SIZE else 0) + (match s.tsig with | some t => t.reservedLen | none => 0)

/-- the writer's size invariant (established by `Writer.new`, kept by every operation: C12) -/
def SizeInv (s : Writer.State) : Prop :=
  s.cursor ≤ s.available ∧ s.available + reserved s = s.limit ∧ s.limit ≤ s.octets.size

/-- **T1 at full strength**: a finished message is never longer than the writer's limit (which
    `handle_message` sets to 512, or `clamp(requestor's size, 512, server's size)` when the scan
    reaches an OPT record, for UDP; 65 535 for TCP). -/
def C04_T1_full : Prop :=
  ∀ (s : Writer.State) (macFn : Writer.Tsig → List UInt8 → List UInt8) (bytes : Bytes) (mac : Option (List UInt8)),
    SizeInv s → Writer.finish s macFn = .ok (bytes, mac) → bytes.size ≤ s.limit

/-- **T1 holds**: from the writer's size invariant alone, whatever `finish` hands back fits the
    limit (the writer's theorem `QV.Writer.finish_size_le_limit'`, C12 (b)) -/
theorem C04_T1 : C04_T1_full := by
  intro s macFn bytes mac hs hf
  obtain ⟨h1, h2, _⟩ := hs
  have hres : s.limit - s.available =
      (if s.edns.isSome then Gen.OPT_RECORD_SIZE else 0) + Writer.tsigReserved s.tsig := by
    have : reserved s = (if s.edns.isSome then Gen.OPT_RECORD_SIZE else 0) + Writer.tsigReserved s.tsig := by
      unfold reserved Writer.tsigReserved
      cases s.tsig <;> rfl
    omega
  exact Writer.finish_size_le_limit' macFn s h1 (by omega) hres bytes mac hf

/-- the size invariant is the size part of the writer's invariant `QV.Writer.Inv`, which
    `Writer::new` establishes and every public call keeps (C12 (a)) -/
theorem C04_sizeInv_of_inv (s : Writer.State) (h : Writer.Inv s) : SizeInv s := by
  refine ⟨h.cur_av, ?_, h.lim_size⟩
  have h1 := h.reserved
  have h2 := h.av_lim
  have : reserved s = s.limit - s.available := by rw [h1]; rfl
  omega

/-- two writer states that differ only in how much room there is -/
def SameButLimit (s1 s2 : Writer.State) : Prop :=
  s1.limit ≤ s2.limit ∧ s2.available = s1.available + (s2.limit - s1.limit) ∧
  { s2 with limit := s1.limit, available := s1.available } = s1

/-- `SameButLimit s1 s2` says `s2` is `s1` with `s2.limit - s1.limit` more octets of room -/
theorem sameButLimit_iff_lift (s1 s2 : Writer.State) :
    SameButLimit s1 s2 ↔ ∃ d, s2 = lift d s1 := by
  constructor
  · rintro ⟨h1, h2, h3⟩
    refine ⟨s2.limit - s1.limit, ?_⟩
    cases s1; cases s2
    simp only [lift, State.mk.injEq] at h1 h2 h3 ⊢
    obtain ⟨e1, e2, _, _, e5, e6, e7, e8, e9, e10, e11, e12, e13, e14, e15, e16, e17, e18, e19, e20⟩ := h3
    refine ⟨e1, e2, by omega, by omega, e5, e6, e7, e8, e9, e10, e11, e12, e13, e14, e15, e16, e17, e18, e19, e20⟩
  · rintro ⟨d, rfl⟩
    refine ⟨by simp [lift], by simp [lift], ?_⟩
    cases s1; rfl

/-- **T3 at full strength** (limit monotonicity of the writer, for the calls of the answer phase
    — `set_aa`, `set_rcode`, `add_*_rr`, `add_*_rrset`): a sequence of calls that succeeds, call
    for call, under the larger limit and ends within the smaller room succeeds under the smaller
    limit too, and leaves the same state up to the room — the same cursor, octets, counts and
    header. (The server issues the same calls over both transports as long as none fails, so the
    UDP response equals the TCP one whenever the latter's complete answer fits the UDP limit.)

    The calls of the *scan* phase are deliberately not in the list: `set_edns` / `set_tsig`
    reserve room (a run that ends within the smaller room may still have no place for the
    reservation there) and `set_limit` changes the room; over UDP and TCP the scan differs only by
    `set_limit`, after which both writers are in `SameButLimit` states. -/
def C04_T3_full : Prop :=
  ∀ (cs : List AnsCall) (s1 s2 t2 : Writer.State), SameButLimit s1 s2 →
    runCalls cs s2 = (.ok (), t2) → t2.cursor ≤ s1.available →
      ∃ t1, runCalls cs s1 = (.ok (), t1) ∧ SameButLimit t1 t2 ∧
        t1.cursor = t2.cursor ∧ t1.octets = t2.octets

/-- **T3 holds.** (`QV.ServerAnswer.sim_runCalls`; call by call `sim_addRrOp`, `sim_addRrsetOp`:
    every internal step of the writer — names, compression decisions, RDATA components — reads
    the room only through "does it fit".) -/
theorem C04_T3 : C04_T3_full := by
  intro cs s1 s2 t2 hs h hc
  obtain ⟨d, rfl⟩ := (sameButLimit_iff_lift s1 s2).mp hs
  obtain ⟨t1, h1, ht⟩ := sim_runCalls cs d s1 t2 h hc
  refine ⟨t1, h1, (sameButLimit_iff_lift t1 t2).mpr ⟨d, ht⟩, ?_, ?_⟩ <;> rw [ht] <;> rfl

/-- one record-adding call does not depend on the limit -/
theorem C04_T3_add_rrset (sec : RrSection) (hint : Hint) (owner : WName) (ty cls ttl : Nat)
    (rds : List (List UInt8)) (d : Nat) (s t : Writer.State)
    (h : addRrsetOp sec hint owner ty cls ttl rds (lift d s) = (.ok (), t)) (hc : t.cursor ≤ s.available) :
    ∃ s', addRrsetOp sec hint owner ty cls ttl rds s = (.ok (), s') ∧ t = lift d s' :=
  sim_addRrsetOp sec hint owner ty cls ttl rds d s () t h hc

/-- when the answering logic succeeds, `handle_non_axfr_query` adds nothing (either transport) -/
theorem C04_handle_of_inner_ok (z : Zone.Zone) (qname : WName) (qtype : Nat) (tr : Transport) (ps ps' : PS)
    (h : inner z qname qtype ps = (.ok (), ps')) : handleNonAxfrQueryL z qname qtype tr ps = (.ok (), ps') := by
  unfold handleNonAxfrQueryL
  simp only [← inner_apply, h]

/-- **T3 for the server's answer phase**: let the writers of the two transports differ only in the
    room (`lift d w` has `d` more octets than `w` — TCP vs UDP after `set_limit`). If with more
    room the answering logic succeeds with every call accepted (the complete answer) and the
    result fits the smaller room, then with the smaller room `handle_non_axfr_query` makes the
    same calls with the same results (the same log, so the same RCODE, AA, sections, TC clear) and
    leaves the same octets: the UDP response is the TCP response. When the answering logic *fails*
    with more room (SERVFAIL) nothing of the kind holds — `C04_T3_corner_shape`, known finding K01. -/
theorem C04_T3_answer_phase (z : Zone.Zone) (qname : WName) (qtype : Nat) (tr1 tr2 : Transport) (d : Nat)
    (w : Writer.State) (pt : PS)
    (h : inner z qname qtype ⟨lift d w, []⟩ = (.ok (), pt)) (hok : ∀ e ∈ pt.log, OkEv e)
    (hc : pt.w.cursor ≤ w.available) :
    handleNonAxfrQueryL z qname qtype tr2 ⟨lift d w, []⟩ = (.ok (), pt) ∧
    ∃ ps', handleNonAxfrQueryL z qname qtype tr1 ⟨w, []⟩ = (.ok (), ps') ∧ ps'.log = pt.log ∧
      pt.w = lift d ps'.w ∧ ps'.w.cursor = pt.w.cursor ∧ ps'.w.octets = pt.w.octets := by
  refine ⟨C04_handle_of_inner_ok z qname qtype tr2 _ _ h, ?_⟩
  obtain ⟨ps', h1, h2, h3⟩ := inner_limit_independent z qname qtype d w pt h hok hc
  exact ⟨ps', C04_handle_of_inner_ok z qname qtype tr1 _ _ h1, h2, h3, by rw [h3]; rfl, by rw [h3]; rfl⟩

/-! ### T2: what `handle_non_axfr_query` does with a `Truncation` -/

/-- **the epilogue, exactly**: whatever the answering logic (`answer` / `answer_any`) returned,
    `handle_non_axfr_query` appends precisely `tailEvs`: nothing on success; `set_aa(false)`,
    `set_rcode(SERVFAIL)`, `clear_rrs` on `ServFail`; on `Truncation` `clear_rrs` followed by
    `set_tc(true)` over UDP, by `set_aa(false)`, `set_rcode(SERVFAIL)` over TCP. -/
theorem C04_epilogue (z : Zone.Zone) (qname : WName) (qtype : Nat) (tr : Transport) (ps : PS)
    (hnb : NoBad (handleNonAxfrQueryL z qname qtype tr ps).2.log) :
    (handleNonAxfrQueryL z qname qtype tr ps).2.log
      = (inner z qname qtype ps).2.log ++ tailEvs tr (inner z qname qtype ps).1 :=
  (handle_log z qname qtype tr ps hnb).1

/-- **UDP**: a `Truncation` error of the answering logic yields TC set and all three sections
    empty (the RCODE and AA set so far stay), and the handler returns normally. -/
theorem C04_truncation_udp (z : Zone.Zone) (qname : WName) (qtype : Nat) (ps : PS)
    (hnb : NoBad (handleNonAxfrQueryL z qname qtype .udp ps).2.log)
    (ht : (inner z qname qtype ps).1 = .err .truncation) :
    (handleNonAxfrQueryL z qname qtype .udp ps).1 = .ok () ∧
    (view (handleNonAxfrQueryL z qname qtype .udp ps).2.log).tc = true ∧
    (view (handleNonAxfrQueryL z qname qtype .udp ps).2.log).answer = [] ∧
    (view (handleNonAxfrQueryL z qname qtype .udp ps).2.log).authority = [] ∧
    (view (handleNonAxfrQueryL z qname qtype .udp ps).2.log).additional = [] := by
  obtain ⟨hl, hr⟩ := handle_log z qname qtype .udp ps hnb
  refine ⟨hr (by rw [ht]; simp), ?_⟩
  rw [hl, view_tail, ht]
  simp

/-- **TCP**: a `Truncation` error yields SERVFAIL with AA clear and empty sections — and the
    epilogue does not touch TC (it stays whatever it was: clear, see `C04_tc_never_in_answer_phase`). -/
theorem C04_truncation_tcp (z : Zone.Zone) (qname : WName) (qtype : Nat) (ps : PS)
    (hnb : NoBad (handleNonAxfrQueryL z qname qtype .tcp ps).2.log)
    (ht : (inner z qname qtype ps).1 = .err .truncation) :
    (handleNonAxfrQueryL z qname qtype .tcp ps).1 = .ok () ∧
    view (handleNonAxfrQueryL z qname qtype .tcp ps).2.log
      = { rcode := SERVFAIL, aa := false, tc := (view (inner z qname qtype ps).2.log).tc,
          answer := [], authority := [], additional := [] } := by
  obtain ⟨hl, hr⟩ := handle_log z qname qtype .tcp ps hnb
  refine ⟨hr (by rw [ht]; simp), ?_⟩
  rw [hl, view_tail, ht]
  simp

/-- a `ServFail` error clears the sections and AA, on both transports -/
theorem C04_servfail_clears (z : Zone.Zone) (qname : WName) (qtype : Nat) (tr : Transport) (ps : PS)
    (hnb : NoBad (handleNonAxfrQueryL z qname qtype tr ps).2.log)
    (ht : (inner z qname qtype ps).1 = .err .servFail) :
    view (handleNonAxfrQueryL z qname qtype tr ps).2.log
      = { rcode := SERVFAIL, aa := false, tc := (view (inner z qname qtype ps).2.log).tc,
          answer := [], authority := [], additional := [] } := by
  obtain ⟨hl, _⟩ := handle_log z qname qtype tr ps hnb
  rw [hl, view_tail, ht]

/-- **TC is set nowhere else**: for every zone built through the API, the answering logic itself
    logs no `set_tc` (and no `clear_rrs`), whatever the writer does … -/
theorem C04_tc_never_in_answer_phase (eqv : Eqv) (apex : NameL.Name) (cls : Nat) (glue : GluePolicy) (rs : List Rec)
    (qname : WName) (qtype : Nat) (ha : Folded apex) (hq : apex <:+ fold qname) (ps : PS) :
    ∃ evs, (inner (build eqv (Zone.new apex cls glue) rs) qname qtype ps).2.log = ps.log ++ evs ∧
      ∀ e ∈ evs, (∀ b, e ≠ .tc b) ∧ e ≠ .clear := by
  have hR := Rel.reachable eqv apex cls glue rs
  have hap : (specBuild eqv ⟨apex, cls, glue, []⟩ rs).apex = apex := (specBuild_fields eqv _ rs).1
  obtain ⟨evs, hl, hi⟩ := (Does.inner hR (by rw [hap]; exact ha) qname qtype (by rw [hap]; exact hq)).events ps
  exact ⟨evs, hl, fun e he => ⟨(hi e he).1, (hi e he).2.1⟩⟩

/-- … so, starting from an empty log, the response has TC set **iff** the transport is UDP and the
    answering logic ended with `Truncation`; in particular never over TCP. -/
theorem C04_tc_iff (eqv : Eqv) (apex : NameL.Name) (cls : Nat) (glue : GluePolicy) (rs : List Rec)
    (qname : WName) (qtype : Nat) (ha : Folded apex) (hq : apex <:+ fold qname) (tr : Transport) (w : Writer.State)
    (hnb : NoBad (handleNonAxfrQueryL (build eqv (Zone.new apex cls glue) rs) qname qtype tr ⟨w, []⟩).2.log) :
    (view (handleNonAxfrQueryL (build eqv (Zone.new apex cls glue) rs) qname qtype tr ⟨w, []⟩).2.log).tc = true ↔
      (tr = .udp ∧ (inner (build eqv (Zone.new apex cls glue) rs) qname qtype ⟨w, []⟩).1 = .err .truncation) := by
  obtain ⟨evs, hl, hnt⟩ := C04_tc_never_in_answer_phase eqv apex cls glue rs qname qtype ha hq ⟨w, []⟩
  obtain ⟨hlog, _⟩ := handle_log (build eqv (Zone.new apex cls glue) rs) qname qtype tr ⟨w, []⟩ hnb
  simp only [List.nil_append] at hl
  have htc : (view evs).tc = false := foldl_tc (fun e he => (hnt e he).1) {}
  rw [hlog, hl, view_tail]
  rcases hr : (inner (build eqv (Zone.new apex cls glue) rs) qname qtype ⟨w, []⟩).1 with u | e | _
  · simp [htc]
  · cases e with
    | servFail => simp [htc]
    | truncation =>
      cases tr <;> simp [htc]
  · simp [htc]

/-! ### T4: what `execute_allowing_truncation` can drop -/

/-- **only additional-section records are ever optional**: every call the answering logic issues
    inside `execute_allowing_truncation` adds to the additional section — answer and authority
    records (the CNAME chain, the final RRset, the NS RRset of a referral, the negative-caching
    SOA) are never wrapped, so a response with TC clear has them all. -/
theorem C04_optional_only_additional (eqv : Eqv) (apex : NameL.Name) (cls : Nat) (glue : GluePolicy) (rs : List Rec)
    (qname : WName) (qtype : Nat) (ha : Folded apex) (hq : apex <:+ fold qname) (ps : PS) :
    ∃ evs, (inner (build eqv (Zone.new apex cls glue) rs) qname qtype ps).2.log = ps.log ++ evs ∧
      ∀ a, Ev.add a ∈ evs → a.optional = true → a.sec = .additional := by
  have hR := Rel.reachable eqv apex cls glue rs
  have hap : (specBuild eqv ⟨apex, cls, glue, []⟩ rs).apex = apex := (specBuild_fields eqv _ rs).1
  obtain ⟨evs, hl, hi⟩ := (Does.inner hR (by rw [hap]; exact ha) qname qtype (by rw [hap]; exact hq)).events ps
  exact ⟨evs, hl, fun a he ho => ((hi _ he).2.2 a rfl).1 ho⟩

/-- **mandatory glue is never wrapped**: in a referral (for *any* zone tree, delegation point and
    NS RRset, whatever the writer does) every logged call is the NS RRset (authority, mandatory) or
    an address RRset in the additional section that is optional *exactly when* its owner is not at
    or below the delegation point. Hence: a `Truncation` while adding in-bailiwick glue is never
    swallowed (it reaches `handle_non_axfr_query`: TC over UDP), and everything that can be
    silently omitted is an address of a name server outside the delegated zone. -/
theorem C04_glue_mandatory (z : Zone.Zone) (child : NameL.Name) (ns : Rrset) (ps : PS) :
    ∃ evs, (doReferral z child ns ps).2.log = ps.log ++ evs ∧
      ∀ a, Ev.add a ∈ evs →
        (a.sec = .authority ∧ a.optional = false) ∨
        (a.sec = .additional ∧
          a.optional = !NameL.eqOrSubdomainOf (fold a.owner) (fold (unfold child))) := by
  obtain ⟨evs, hl, hP⟩ := (Logs.referral z child ns).events ps
  exact ⟨evs, hl, fun a he => hP _ he a rfl⟩

/-- a swallowed `Truncation` is the only way a call can fail without failing the response: when
    the answering logic returns `Ok`, every failed call in its log is an optional one that
    reported `Truncation` — stated for the primitive every call goes through -/
theorem C04_only_truncation_swallowed (ev : AddEv) (m : M HV) (ps : PS) (o : Option HV)
    (h : (PM.addCall ev m ps).1 = .ok o) :
    (∃ hv, o = some hv ∧ (m ps.w).1 = .ok hv) ∨
    (o = none ∧ ev.optional = true ∧ (m ps.w).1 = .err .Truncation) := by
  unfold PM.addCall at h
  rcases hm : m ps.w with ⟨(hv | e | _), w'⟩
  · rw [hm] at h; simp only [] at h
    exact Or.inl ⟨hv, by cases h; rfl, rfl⟩
  · rw [hm] at h; simp only [] at h
    split at h
    · next hc => cases h; exact Or.inr ⟨rfl, hc.1, by rw [hc.2]⟩
    · cases h
  · rw [hm] at h; cases h

/-! ### the corner of T3, exactly -/

/-- when the answering logic hits `Truncation` over UDP but `ServFail` over TCP (possible only
    because the TCP run got further: the failure lies beyond the UDP limit), the two responses are
    TC-with-empty-sections and SERVFAIL-with-empty-sections: different, both without data -/
theorem C04_T3_corner_shape (z : Zone.Zone) (qname : WName) (qtype : Nat) (pu pt : PS)
    (hu : NoBad (handleNonAxfrQueryL z qname qtype .udp pu).2.log)
    (ht : NoBad (handleNonAxfrQueryL z qname qtype .tcp pt).2.log)
    (ru : (inner z qname qtype pu).1 = .err .truncation) (rt : (inner z qname qtype pt).1 = .err .servFail) :
    (view (handleNonAxfrQueryL z qname qtype .udp pu).2.log).tc = true ∧
    (view (handleNonAxfrQueryL z qname qtype .tcp pt).2.log).rcode = SERVFAIL ∧
    (view (handleNonAxfrQueryL z qname qtype .udp pu).2.log).answer = [] ∧
    (view (handleNonAxfrQueryL z qname qtype .tcp pt).2.log).answer = [] := by
  have h1 := C04_truncation_udp z qname qtype pu hu ru
  have h2 := C04_servfail_clears z qname qtype .tcp pt ht rt
  exact ⟨h1.2.1, by rw [h2], h1.2.2.1, by rw [h2]⟩

/-! ### non-vacuity: a response that does not fit -/

def oct : Eqv := fun _ _ a b => a == b
def lz : NameL.Label := [122]
def soaRd : List UInt8 := [1,97,1,122,0, 1,98,1,122,0, 0,0,0,1, 0,0,0,2, 0,0,0,3, 0,0,0,4, 0,0,14,16]
def exZone : Zone.Zone := Zone.build oct (Zone.new [lz] 1 .narrow) [⟨[lz], 6, 1, 60, soaRd⟩]
/-- a writer with a 40-octet limit holding the question `x.z A` (21 octets): the SOA does not fit -/
def wSmall : Writer.State :=
  match Writer.new (Array.replicate 512 0) 40 with
  | .ok w => (Writer.addQuestion ⟨[[120], lz]⟩ 1 1 w).2
  | _ => default

example : (inner exZone ⟨[[120], lz]⟩ 1 ⟨wSmall, []⟩).1 = .err .truncation := by decide +kernel
example : (handleNonAxfrQueryL exZone ⟨[[120], lz]⟩ 1 .udp ⟨wSmall, []⟩).2.log
    = [.rcode 3, .aa true, .add ⟨.authority, ⟨[lz]⟩, 6, 1, 60, [soaRd], false, .err .Truncation⟩, .clear, .tc true] := by
  decide +kernel
example : view (handleNonAxfrQueryL exZone ⟨[[120], lz]⟩ 1 .udp ⟨wSmall, []⟩).2.log
    = { rcode := 3, aa := true, tc := true, answer := [], authority := [], additional := [] } := by decide +kernel
example : view (handleNonAxfrQueryL exZone ⟨[[120], lz]⟩ 1 .tcp ⟨wSmall, []⟩).2.log
    = { rcode := 2, aa := false, tc := false, answer := [], authority := [], additional := [] } := by decide +kernel
/-- the finished UDP message is 21 octets (header + question): within the limit of 40 -/
example : (match Writer.finish (handleNonAxfrQueryL exZone ⟨[[120], lz]⟩ 1 .udp ⟨wSmall, []⟩).2.w with
    | .ok (b, _) => b.size | _ => 0) = 21 := by decide +kernel

/-- non-vacuity of T3: a 512-octet writer and the same writer with 65 023 more octets of room
    (UDP vs TCP); the NXDOMAIN answer is complete with the larger room and fits the smaller one -/
def wUdp : Writer.State :=
  match Writer.new (Array.replicate 65535 0) 512 with
  | .ok w => (Writer.addQuestion ⟨[[120], lz]⟩ 1 1 w).2
  | _ => default

example : (inner exZone ⟨[[120], lz]⟩ 1 ⟨lift 65023 wUdp, []⟩).1 = .ok () ∧
    (inner exZone ⟨[[120], lz]⟩ 1 ⟨lift 65023 wUdp, []⟩).2.w.cursor ≤ wUdp.available ∧
    (inner exZone ⟨[[120], lz]⟩ 1 ⟨lift 65023 wUdp, []⟩).2.log
      = [.rcode 3, .aa true, .add ⟨.authority, ⟨[lz]⟩, 6, 1, 60, [soaRd], false, .ok ()⟩] := by
  decide +kernel

end QV.C04
