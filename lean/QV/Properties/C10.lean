/-
  C10 — TSIG-signed requests are authenticated before being answered.

  "A request signed with a configured key and algorithm and a time within the fudge window is
   answered normally, and the response carries a TSIG record whose MAC an independent RFC 8945
   implementation verifies against the request MAC.  Otherwise no answer data is returned: a wrong
   MAC gives NOTAUTH with error BADSIG and an empty MAC, an unknown key or algorithm gives NOTAUTH
   with BADKEY and an empty MAC, a MAC outside the allowed length gives FORMERR, and a stale or
   future time gives NOTAUTH with BADTIME in a response that is itself verifiably signed."

  Code: src/server/mod.rs (`handle_message_with_context`, TSIG arm; `find_tsig_algorithm_or_write_error`,
  `find_tsig_key_or_write_error`, `verify_tsig_and_write_tsig_rr`, `set_tsig_or_truncate`),
  src/message/tsig.rs (`verify_request`, `PreparedTsigRr::new_from_read`, `sign_response`),
  src/message/writer.rs (`set_tsig`, `finish_with_mac`).
  Model: `QV.Server.{tsigProcess, tsigBadKey, tsigVerifyAndWrite, handleTsig, setTsigOrTruncate,
  scanAr, handleWithContext, macFnWith}` (Model/Server.lean), byte-exact and tied to the code by the
  correspondence check of group `srvtsig` (requests signed by an independent signer).
  Spec: `QV.Spec.ServerTsig` (decision table `specTsigOutcome`, response audit) over `QV.Spec.Tsig`.

  What is proved here, for ALL key sets, requests, clocks and writer states (no bounds):

   (a) `C10_decision_table`      the effect of the TSIG step on the writer — RCODE, TSIG mode
        (unsigned / signed response), the prepared RR (error field, time signed, other data source,
        fudge 300, original ID, key name) — as a function of (algorithm known, key configured with that
        algorithm, outcome of `verify_request`), in exactly the precedence
        BADKEY(alg) > BADKEY(key) > FORMERR(MAC size) > BADSIG > BADTIME > authenticated;
   (b) `C10_authenticated_iff`   using C11's characterisation of `verify_request`: the step lets the
        scan go on  ↔  key configured ∧ its algorithm is the one named ∧ MAC size allowed ∧
        MAC = truncated HMAC of the RFC 8945 §4.3 digest input ∧ |now − signed| ≤ fudge (∧ the RR fits);
   (c) `C10_scan_then_dispatch`, `C10_no_records_unless_scan_completes`, `C10_scan_writes_no_record`,
        `C10_completed_scan_tsig_is_authenticated`: `handle_message_with_context` is the scan phase
        followed by the opcode dispatch; the scan phase never writes a record; the dispatch (the only
        place where answer / authority data is produced) runs only if the scan completes, and then
        any TSIG recorded is that of a request for which `verify_request` succeeded under a
        configured key of the named algorithm;
   (d) `C10_response_mac_eq_rfc` the MAC the writer puts into a signed response is the HMAC, under
        the request's key, of the RFC 8945 §4.3 digest input in *response* mode (request MAC with its
        length, message with original ID and ARCOUNT − 1, TSIG variables) over the octets that
        precede the TSIG RR;
   (e) `C10_set_tsig_or_truncate_total`, `C10_truncates_when_tsig_does_not_fit` (the repair of D03):
        never a panic; when the RR does not fit: TC ∧ NOERROR ∧ no TSIG, nothing else touched;
        `C10_tcp_tsig_always_fits`: over TCP, from the writer `handle_message` sets up, the
        truncation branch is never taken (question ≤ 12+255+6, OPT 11, TSIG RR ≤ 255+255+64).

   (f) **lifted to the response octets** (`Proofs/FinishTsig`: `Writer::finish` read backwards in every
        compression mode; `Proofs/ServerSigned`):
        `C10_authenticated_nodata_octets` — an authenticated request that gets a no-data verdict is
        answered with header ++ question ++ OPT (iff reached) ++ TSIG record, the TSIG record last
        (TYPE 250, CLASS ANY, TTL 0, RDATA = algorithm ‖ time ‖ fudge 300 ‖ MAC ‖ original ID ‖ error 0 ‖
        no other data), its MAC being — for a lower-case key name — the HMAC under the request's key of
        the RFC 8945 §4.3 response digest input over exactly the octets before it;
        `C10_authenticated_answer_octets` — the same for answers from a loaded zone (whatever the
        zone answers): the response ends with that TSIG record, MAC over everything before it;
        `C10_error_response_octets` — a request that is not authenticated gets header(NOTAUTH, or
        FORMERR for a MAC of a size not allowed) ++ question ++ OPT ++ TSIG record and nothing else: for
        BADKEY and BADSIG the record is unsigned (MAC size 0), for BADTIME it is signed in response
        mode and carries the server time as other data.

   (g) **on the independent decoding of the response** (`Proofs/ServerSignedDecode`: the final writer of
        these responses is reached from `Writer::new` by public calls — `Good` —, so C12's
        `finish_decodes_content` applies; `Proofs/ServerDecoded`, `decoded_of_good`: what such a writer decodes
        to): `C10_decoded_authenticated_nodata`, `C10_decoded_error` — every decoding has empty
        answer / authority sections, and the additional section is OPT (iff reached) then, last, a
        record of TYPE 250, CLASS ANY, TTL 0, owner = key name up to case, RDATA = `tsigRdata` of the
        decision table's prepared RR octet for octet (algorithm, time signed, fudge 300, MAC, original
        ID, error, other data — the server time iff BADTIME), with the MAC of (f).

  **`C10_decoded_table`** (also in section (g)) — the above, `C10_decoded_authenticated_answer` and `C10_decoded_tsig_does_not_fit`
      in one theorem, for one and the same TSIG record `t`, message-without-TSIG `mw` and reader `r'`
      (`ServerContent.TsigRun`, Proofs/ServerSignedTable.lean): per row of the decision table — rejected
      and the reply fits; authenticated, no-data verdict; authenticated, answered by a loaded zone; reply
      does not fit — the decoded TSIG record of the response (or its absence).

      `C10_rows_exhaustive`: the four rows are exhaustive and mutually exclusive — a run of
      `handle_message` on a request whose scan reaches a TSIG record, if it yields a response, falls
      into exactly one of `RowRejected` / `RowAuthNoData` / `RowAuthAnswer` / `RowNoFit`
      (`ServerContent.rows_of_decided`: a run of the TSIG step that does not panic has decided —
      `tsigProcess_ok_inv`, Proofs/TsigStep — and the rows are the cases of "go on", "the RR fits" and the
      verdict; `fromName_parses`: a name the algorithm table knows is a well-formed wire name); `C10_decoded_table_of_run` gives the decoded
      response of each row for the same `t`, `mw`, `r'` (the single-row theorems of (g) follow from it).
  (i) `C10_full`, per clause of the executable audit `Spec.ServerTsig.audit`:
      `C10_audit_scan_agrees` (the audit's scan and the model's agree on "a response is due" and on
      "a TSIG record is reached", whatever the catalogs), `C10_audit_pre_tsig` (classes "no-response"
      and "pre-tsig": the audit returns no tag — a response to a request without an acceptable TSIG
      carries no record of type 250), `C10_audit_reaches_decoding` (tags `panic`, `no-response`,
      `undecodable` of `auditResponse` never arise: C01, C03, and the final writer is `Good`).

      `C10_decoded_fields_of_run` (rows 1 and 2, decoded field by field with the specification's own
      RFC 8945 §4.2 reader `Spec.Tsig.parseRdata` — round trip `ServerContent.parseRdata_tsigRdata` —
      and with the header: RCODE of the table / verdict, AA and TC clear, fudge 300, original ID, error,
      time signed, other data = server time iff BADTIME, MAC): the decoded facts behind the audit tags
      `rcode-*`, `tc-in-error`, `aa-in-error`, `fudge-*`, `original-id`, `tsig-error-*`, `other-data`,
      `badtime-other`, `tsig-class-ttl`, `mac-not-empty`; what separates them from the audit's clauses
      is (1a)–(1c) below (the audit's own view of the request).

  `C10_full` (below) is the end-to-end statement "the executable C10 audit finds nothing wrong with
  the response the model produces, for every configuration, request and clock".
  Hypotheses of `C10_full` beyond the property as quoted:
  · what the library API guarantees, as in `C09_full`: `CfgWF cfg` (catalog entries filed under their
    apex, non-empty RRsets), `512 ≤ cfg.payload ≤ 65535` (the payload size is a `u16` ≥ 512 in the API),
    `req.size ≤ usize::MAX`;
  · `KeysOK cfg.keys` — every configured key name is a well-formed wire name in lower case, the API's
    `LowercaseName` (the comment on `Server.Key.name`).  Without it the statement is false: the model
    looks a key up by comparing `k.name` octet for octet with the lower-cased key name of the request,
    the audit's `findKey` compares labels ignoring case; a key configured as "Key." is never found by the
    model (BADKEY) but is found by the audit (`authenticated`), and the audit tags the response.  No
    hypothesis on the *request's* key name is needed: the model lower-cases it (`ReadTsigRr::try_from`),
    so the prepared RR's key name is in lower case and C11's digest equation applies
    (`C10_response_mac_eq_rfc`);
  · `ZonesTyped cfg` — every RRset of every configured zone has a `u16` TYPE (the library's `Type` is a
    `u16`, the model's types are naturals).  Without it the decoder congruence behind the comparison
    clause is false of the model: a record of type 65536 + 2 is written opaque but decoded as type 2.
  (m) the audit, row by row.  `AuditRun` packages what the walk through `auditResponse` starts from
      (`auditRun_exists`: every request whose scan reaches a TSIG record has one; `audit_eq_of_run`:
      its audit is `auditResponse` on the model's view).  `C10_audit_nofit`: row 4 (the reply TSIG does
      not fit), whatever the outcome — the audit returns no tag.  `C10_audit_rejected`: row 1 (rejected, the reply
      fits: BADKEY / FORMERR / BADSIG unsigned, BADTIME signed) — the audit returns no tag
      (`Proofs/AuditDecoded.decoded_nodata_tsig`: the no-data response with its TSIG record decoded;
      `labelsOf_of_lower`: the decoded owner has the key name's labels up to case; `AuditWalk.decision_view`: the
      decision in the audit's words; `Proofs/FinishTsigPos.finish_tsig_pos` / `tsig_prefix_of_good`: the decoded
      TSIG record starts exactly where the MAC input ends, for every valid writer — answers included;
      `Proofs/AuditMac.response_mac_audit`: (1e), the MAC is the audit's `specMac`).
      `C10_audit_authenticated_nodata`: row 2 (authenticated, no-data verdict) — every clause but
      "answered normally" holds (`AuditWalk.auditResponse_fits`, `AnsweredNormally`), that
      clause being a hypothesis; `C10_audit_row2`: and with `plain` the response to the stripped
      request that clause holds too, so row 2 returns no tag — (1f) for the no-data verdicts
      (`ServerContent.specScanWith_cases` / `specScanWith_lookup_indep` — question, EDNS state, UDP limit do
      not depend on the catalog, the verdict is a pre-table verdict or the table's at the same position;
      `endVerdict_transfer` — the guard's verdict equation, stated for the audit's catalog, holds for
      the server's; `plain_nodata_decoded` — the unsigned no-data response decoded: RCODE, AA, TC, no
      answer / authority records; `plain_nodata_of_comparable`).

  Guards of the *oracle* (`Spec.ServerTsig.audit`), first: `plainComparable`.  The clause "answered normally"
  compares with the response to `stripTsigRr req`, which decrements ARCOUNT (octets 10–11).  The name
  decoder follows compression pointers to any earlier offset, the header included, so ARCOUNT can be
  part of a name the server decodes, and stripping the TSIG RR then changes what is asked:
    · QNAME = `C0 0B` (pointer to octet 11), ARCOUNT 1 (the TSIG RR): signed, octet 11 = 1 and the
      QNAME is the label `C0`, then an 11-octet label (QTYPE, QCLASS and the first 7 octets of the TSIG
      owner, key name "abcdef."), then the root; stripped, octet 11 = 0 and the QNAME is the root.
      With a root zone loaded: NXDOMAIN signed, NOERROR plain (`answer-header-differs` without the guard);
    · OPT owner = `C0 0B` with ARCOUNT 256 (octet 11 = 0: the root); stripped, ARCOUNT 255, octet 11 =
      `FF` is a pointer to nowhere: REFUSED signed, FORMERR plain.
  Neither is a server defect ("the same request without its TSIG RR" does not exist).  The audit
  makes the comparison only under `plainComparable`: the scan of the stripped request has the same
  question, EDNS state and UDP limit and ends with the verdict the decision table gives after the TSIG
  RR (`postVerdict`); otherwise the clause is skipped, all others apply.  Both requests are in
  corpus/C10 (they pass; the implementation answers them as the model does).

  (n) the walk assembled: `C10_of_row3 : C10_row3 → C10_full` — requests that do not reach a TSIG
      record (`C10_audit_pre_tsig`), rows 1, 2 and 4 (`C10_audit_rejected`, `C10_audit_row2`,
      `C10_audit_nofit`) pass the audit and the rows are exhaustive (`C10_rows_exhaustive`), so
      `C10_full` holds as soon as row 3 does.

  row 3 except the comparison (in section (m)): `C10_audit_authenticated_answer` — for an authenticated request that a
      loaded zone answers every clause of the audit holds except the second half of "answered normally"
      (hypothesis `hB`): the header view of the answering writer gives RCODE 0, 2
      or 3, never 9 (`ServerAnswer.view_handle_flags`, Proofs/ServerAnswerHdrLog: the answering logic logs
      only `set_aa` and `set_rcode(NXDOMAIN)`, never `set_tc` / `clear_rrs`; zone-generic), the
      extended-RCODE octet of the OPT is 0 (`ServerContent.ednsUp0_handleNonAxfrQueryL`), the reply fits
      (`tsigAfter_some_state`), and the first half of "answered normally" holds — TC only over UDP and then
      without data (`signed_answer_facts_of_run`, `decoded_answer_tsig`; what rows 1, 2 and 3 share:
      `audit_of_decoded`).  `C10_row3_of_compare`:
      `C10_row3` follows from `C10_row3_compare`, the comparison with the plain response alone.
      Guards of the oracle, second: room and SERVFAIL.  Comparing the signed answer with the plain one
      whenever neither is truncated is stronger than what any writer with a reserved TSIG can do; under `plainComparable` the two
      runs start from the same scan state and differ only in room (`available` smaller by the reserved
      TSIG length R in the signed run).  Counter-examples (none a server defect):
        · F1, TCP, `answer-header-differs`: a *mandatory* record (answer RRset, NS, glue, negative SOA) that
          fits 65535 octets only without the reserved TSIG gets `Truncation` in the signed run — over
          TCP the epilogue is `clear_rrs`, AA clear, SERVFAIL, TC not set — and is sent in the plain
          run: d.tc = pd.tc = false, d.rcode = 2 ≠ 0 = pd.rcode.  (Over UDP the same sets TC, which the
          clause allows.)  Needs an answer of size in (65535 − R, 65535], e.g. ~250 TXT records.
        · F2, `additional-differs`: optional additional-section calls (`execute_allowing_truncation`) are
          dropped one by one and the loop goes on.  MX / NS / SRV RRset with two in-zone targets, address
          RRsets of sizes B and b, room left x (signed) and x + R (plain) with x < B ≤ x + R and
          x + R − B < b ≤ x (x = 150, R = 80, B = 160, b = 96): signed drops the first and keeps the
          second, plain keeps the first and drops the second — neither truncated, same RCODE / AA /
          answer / authority, but the signed additional section is not a sub-multiset of the plain one.
        · F3, `answer-header-differs`: an optional address RRset whose later record has unrenderable
          RDATA: the signed run runs out of room before reaching it (`Truncation`, optional ⇒ dropped,
          NOERROR), the plain run reaches it (`InvalidRdata` ⇒ SERVFAIL).
      The audit makes the comparison only when, besides `plainComparable`, the plain response
      leaves room for the TSIG RR — `pb.size + (uncompressed TSIG RR) ≤ limit` (excludes F1 and F2: in F1
      the plain answer is within R of 65535, in F2 the plain run ends within R of the limit) — and not
      when the plain response alone is SERVFAIL (F3).  Otherwise the clause is skipped; the TC clause and
      all TSIG / MAC clauses still apply, and answers within R octets of the limit are audited by C04 /
      C05's own oracles.
      The comparison itself is `C10_row3_compare_of`, from `ServerContent.compare_core`
      (Proofs/ServerSignedCompare.lean; its docstring and those of `plain_answer_run`,
      `twin_view`, `scratchIndepI`, `decodeCongrT` say how): under `plainComparable` the
      stripped request is answered from the same scan state, so the two runs differ by `set_rcode(0)` +
      `set_tsig`; under the guards the signed run of `handle_non_axfr_query` logs the same operations as
      the plain one, or both fail into SERVFAIL; and two `Good` writers that agree below the cursor
      decode alike.

  **`C10 : C10_full`** (end of file) is `C10_full_of scratchIndepI`.

  (j), (k), (l): the links (1a), (1c), (1b) between the audit's clauses and the model; all of them, as the
  docstrings below cite them:
      (1a) `C10_request_view`, (j): `viewRequest` (the audit's own walk to the TSIG RR: `findTsig`,
           `specDecodeName`, `labelsOf`, `parseRdata`, the request prefix) yields the key name, RDATA
           fields and prefix of the model's `t` / `mw` of the same `TsigRun`;
      (1b) `C10_audit_fits`, (l), with `reservedLen_unsigned` / `reservedLen_response` /
           `canonName_length` in Proofs/RequestFits: `fits` (uncompressed size ≤ limit) ⇔ the model's
           `TsigFits` on the scan state — selects between the "nofit-*" tags (decoded facts:
           `C10_decoded_tsig_does_not_fit`) and the rest;
      (1c) `C10_audit_outcome`, (k), under `KeysOK cfg.keys`: `specTsigOutcome` = the model's decision
           (`modelOutcome`; `modelOutcome_of_decision`: it is the row of the decision table the TSIG step is
           in, `tsigDecision`; `modelOutcome_stopReply` / `modelOutcome_authenticated` are its readings for
           `tsigStopReply` and for an authenticated request) — gives `tsig-error-*`, `rcode-*`,
           `notauth-on-authenticated` once combined with the rows of `C10_decoded_table`;
      (1d) `parseRdata (tsigRdata rr alg mac)` = the fields of `rr` (round trip
           `ServerContent.parseRdata_tsigRdata`) — gives `fudge`, `original-id`, `time-signed`,
           `other-data`, `badtime-*`, `mac-length`, `mac-not-empty`, `alg-name`, `key-name`;
           `tsig-missing` / `two-tsig` / `tsig-not-last` / `tsig-class-ttl` follow from the rows of `C10_decoded_table`;
      (1e) `ServerContent.response_mac_audit`, for every writer with a pending `Response`-mode TSIG (no
           hypothesis on the request's key name is needed, the model lower-cases it): `response-mac`,
           `macFn` = HMAC of the RFC digest input (`C10_response_mac_eq_rfc`, (d)) over the octets before
           the decoded record;
      (1f) `data-in-unauthenticated`, `tc-in-error`, `aa-in-error` and "answered normally": the
           comparison with the response to the stripped request (`stripTsigRr`), under `plainComparable`
           (`C10_audit_rejected`, `C10_audit_row2`, `C10_row3_compare_of`).
-/
import QV.Properties.C11
import QV.Proofs.ServerSignedOwner
import QV.Proofs.ServerSignedCompare
import QV.Proofs.ServerScratchIndep

namespace QV.C10
open QV QV.Server QV.Writer QV.Tsig QV.ServerTsig

/-! ## the full statement -/

/-- HMAC as the spec uses it (`true` = SHA-256) -/
def hmSpec : Spec.ServerTsig.Hm := fun sha256 key data =>
  (Hmac.hmac (if sha256 then .HmacSha256 else .HmacSha1) key.toArray data.toArray).toList

/-- the key set as the spec sees it -/
def specKeys (keys : List Key) : List Spec.ServerTsig.KeyCfg :=
  keys.map (fun k => ⟨k.name, k.alg = .HmacSha256, k.secret⟩)

def toResp : Out Unit (Option Bytes) → Spec.ServerTsig.Resp
  | .ok (some b) => .bytes b
  | .ok none => .none
  | _ => .panic

/-- what the library API guarantees about zone data: the TYPE of an RRset is a `u16` (the model's types are
    naturals; a record of type 65536 + 2 would be written opaque and decoded as type 2) -/
def ZonesTyped (cfg : Cfg) : Prop :=
  ∀ ze ∈ cfg.zones, ServerSafety.NodeOK (fun r => r.rtype < 65536) ze.zone.root

/-- **C10, full strength**: whatever the configuration, transport, clock and request, the response of
    `handle_message` passes the C10 audit of `QV.Spec.ServerTsig` (decision table, response MAC,
    no answer data unless authenticated, truncation rule), `plain` being the response to the same
    request without its TSIG RR. -/
def C10_full : Prop :=
  ∀ (cfg : Cfg) (cat : List Spec.Server.ZoneCfg) (tr : Transport) (now : Nat) (req : Bytes),
    now < 2 ^ 48 →
    -- what the library API guarantees (recorded amendment, see the header)
    ServerSafety.CfgWF cfg → ZonesTyped cfg → 512 ≤ cfg.payload → cfg.payload ≤ 65535 → req.size ≤ Rdata.USIZE_MAX →
    -- correction (see the header): configured key names are `LowercaseName`s
    ServerScan.KeysOK cfg.keys →
    let resp := handleMessage cfg tr now 65535 req
    let plain := match Spec.ServerTsig.stripTsigRr req with
      | some p => toResp (handleMessage cfg tr now 65535 p)
      | none => .none
    (Spec.ServerTsig.audit hmSpec cat cfg.payload (specKeys cfg.keys) req now (tr = .udp) (toResp resp) plain).1 = []

variable (hm : Algorithm → Octets → Octets → Octets)

/-! ## (a) the decision table -/

/-- **Decision table of the TSIG step.**  `Responds s rc mode rr res out` says: RCODE `rc` is set, then
    either (the RR fits) `(mode, rr)` is recorded as the response TSIG and the step returns `res`
    (`some r'` = go on scanning at `r'`, `none` = stop), or (it does not fit) the response degrades
    to TC / NOERROR without TSIG and the step returns `none`.  `prepOf kn r now e` is the prepared
    RR: key name `kn`, error `e`, fudge 300, the request's original ID, time signed = `now` (the
    request's own time iff `e` = BADTIME), server time = `now` (serialised only for BADTIME).
    Codes: 9 NOTAUTH, 1 FORMERR, 0 NOERROR; 17 BADKEY, 16 BADSIG, 18 BADTIME. -/
theorem C10_decision_table (keys : List Key) (s : State) (hs : 12 ≤ s.octets.size) (r : ReadTsigRr)
    (msg : List UInt8) (nowT : TimeSigned) (r' : Reader.Reader) (kn an : WName)
    (hkn : WName.parse r.keyName = some (kn, [])) (han : WName.parse r.algorithm = some (an, [])) :
    let out := tsigProcess hm keys nowT r msg r' s
    match Algorithm.fromName r.algorithm with
    | none => Responds s 9 (.unsigned an) (prepOf kn r nowT 17) none out
    | some alg =>
      match findKey keys r.keyName alg with
      | none => Responds s 9 (.unsigned an) (prepOf kn r nowT 17) none out
      | some key =>
        match verifyRequest hm r msg alg key.secret nowT with
        | .ok () => Responds s 0 (.response (toWriterAlg alg) r.mac key.secret) (prepOf kn r nowT 0) (some r') out
        | .err .FormErr => Responds s 1 (.unsigned (algName (toWriterAlg alg))) (prepOf kn r nowT 16) none out
        | .err .BadSig => Responds s 9 (.unsigned (algName (toWriterAlg alg))) (prepOf kn r nowT 16) none out
        | .err .BadTime => Responds s 9 (.response (toWriterAlg alg) r.mac key.secret) (prepOf kn r nowT 18) none out
        | .panic => out.1 = .panic :=
  tsigProcess_table hm keys s hs r msg nowT r' kn an hkn han

/-- the key lookup: an entry under that name, configured for the named algorithm -/
theorem C10_key_lookup (keys : List Key) (kn : List UInt8) (alg : Hmac.Alg) (key : Key) :
    findKey keys kn alg = some key ↔ keys.find? (fun k => k.name == kn) = some key ∧ key.alg = alg :=
  findKey_some_iff keys kn alg key

/-! ## (b) authenticated ↔ the RFC's conditions -/

/-- **The TSIG step lets the request through exactly when** the algorithm is implemented, a key of
    that name is configured for that algorithm, the MAC has an allowed size and equals the HMAC of the
    RFC 8945 §4.3 request digest input truncated to that size, and the server's clock is within
    `fudge` of the time signed — and the response TSIG RR fits.
    Hypotheses: the names in the RR are well-formed lower-case names (`ReadTsigRr::try_from` of a
    parsed record), the RDATA is consistent (`hv`), the model's variables are what the RFC's describe
    (`habs`, see `C11_lowercase_name_is_canonical`), the buffer holds a message whose ARCOUNT counts
    the TSIG RR (`hmsg`: true at the call site, the record was just counted and parsed). -/
theorem C10_authenticated_iff (keys : List Key) (s : State) (hs : 12 ≤ s.octets.size)
    (r : ReadTsigRr) (msg : List UInt8) (nowT : TimeSigned) (r' : Reader.Reader) (kn an : WName)
    (hkn : WName.parse r.keyName = some (kn, [])) (han : WName.parse r.algorithm = some (an, []))
    (hlow : lowerName r.algorithm = r.algorithm) (hv : r.mac.length = r.macSize)
    (sv : Spec.Tsig.Vars) (habs : Abstracts r.vars sv) (hmsg : MsgOk msg) :
    (∃ s', tsigProcess hm keys nowT r msg r' s = (.ok (some r'), s')) ↔
      ∃ alg key, Algorithm.fromName r.algorithm = some alg ∧
        keys.find? (fun k => k.name == r.keyName) = some key ∧ key.alg = alg ∧
        Spec.Tsig.MacSizeAllowed alg.outputSize r.macSize ∧
        (hm alg key.secret (Spec.Tsig.digestInput .request msg r.originalId.toNat sv [])).take r.macSize = r.mac ∧
        Spec.Tsig.TimeOk nowT.toUnix sv.timeSigned sv.fudge ∧
        TsigFits s (.response (toWriterAlg alg) r.mac key.secret) (prepOf kn r nowT 0) := by
  -- `verify_request` succeeds iff the RFC's three conditions hold (C11), for the algorithm the RR names
  have hC11 : ∀ alg (key : Key), Algorithm.fromName r.algorithm = some alg →
      (verifyRequest hm r msg alg key.secret nowT = .ok () ↔
        Spec.Tsig.MacSizeAllowed alg.outputSize r.macSize ∧
        (hm alg key.secret (Spec.Tsig.digestInput .request msg r.originalId.toNat sv [])).take r.macSize = r.mac ∧
        Spec.Tsig.TimeOk nowT.toUnix sv.timeSigned sv.fudge) := fun alg key ha =>
    QV.C11.C11_verify_ok_iff hm .request r msg [] alg key.secret nowT sv hv habs
      ⟨by simp [verifyAsserts], by rw [← hlow]; exact fromName_some _ _ ha, hmsg⟩
  constructor
  · rintro ⟨s', ho⟩
    obtain ⟨alg, key, kn', ha, hk, hkn', hvr, _, hf, _⟩ := ServerScan.tsigProcess_some_state hm keys s hs r msg nowT r' r' s' ho
    rw [hkn] at hkn'
    cases hkn'
    obtain ⟨hk1, hk2⟩ := (findKey_some_iff _ _ _ _).mp hk
    obtain ⟨c1, c2, c3⟩ := (hC11 alg key ha).mp hvr
    exact ⟨alg, key, ha, hk1, hk2, c1, c2, c3, hf⟩
  · rintro ⟨alg, key, ha, hk1, hk2, c1, c2, c3, hf⟩
    have hk : findKey keys r.keyName alg = some key := (findKey_some_iff _ _ _ _).mpr ⟨hk1, hk2⟩
    have hvr := (hC11 alg key ha).mpr ⟨c1, c2, c3⟩
    exact ⟨_, by rw [ServerScan.tsigProcess_eq s (by omega) r' hkn han (ServerScan.tsigDecision_auth ha hk hvr), if_pos ⟨rfl, hf⟩]⟩

/-! ## (c) no answer data unless authenticated -/

/-- **`handle_message_with_context` = scan phase, then opcode dispatch.**  `scanPhase` (question,
    pre-scan, additional-section scan with OPT and TSIG handling, end-of-message test) ends with
    `stop` (a response is ready), `noResponse`, or `proceed question`; only `proceed` reaches
    `handle_query` / NOTIMP, the only producers of answer and authority data. -/
theorem C10_scan_then_dispatch (cfg : Cfg) (tr : Transport) (now : Nat) (r0 : Reader.Reader) (s : State) :
    handleWithContext cfg tr now r0 s =
      andThen (scanPhase cfg tr now r0 s) (dispatch cfg tr ((Reader.opcode r0).toOption.getD 0)) :=
  handleWithContext_eq cfg tr now r0 s

/-- **The scan of the additional section writes no record**, whatever it meets (OPT, TSIG of any
    kind) and however it ends: cursor, start of the record area, section and the three counts are
    those it started with. -/
theorem C10_scan_writes_no_record (cfg : Cfg) (tr : Transport) (now arcount n index : Nat) (st : ScanSt) (s : State) :
    ScanFrame s (scanAr cfg tr now arcount n index st s).2 :=
  Fr.scanAr cfg tr now arcount n index st s

/-- **If the scan of the additional section completes, any TSIG it recorded is that of an
    authenticated request**: there are a TSIG RR `r`, a message, an implemented algorithm and a key
    configured under `r`'s key name for that algorithm such that `verify_request` succeeded; the
    recorded mode is *signed response* with that key and the request MAC, the error field is
    NOERROR, and the RCODE is NOERROR. -/
theorem C10_completed_scan_tsig_is_authenticated (cfg : Cfg) (tr : Transport) (now arcount n index : Nat)
    (st : ScanSt) (s : State) (st' : ScanSt) (s' : State) (hs : 12 ≤ s.octets.size) (h0 : s.tsig = none)
    (h : scanAr cfg tr now arcount n index st s = (.ok (some st'), s')) :
    s'.tsig = none ∨ ∃ nowT, TimeSigned.tryFromUnix now = some nowT ∧ Authenticated realHmac cfg.keys nowT s' :=
  (scanAr_tsigClean cfg tr now arcount n index st s st' s' ⟨hs, Or.inl h0⟩ h).2

/-- **No answer data unless the scan completes.**  From a writer holding a header only, after
    `handle_message_with_context` (if it does not panic) either the response consists of header and
    question only (no record written or counted: the scan stopped — every non-authenticated TSIG
    outcome of the decision table returns `none` = stop — or no response is sent), or the scan phase
    handed over to the dispatch in a state with no record and a clean TSIG state (none, or
    authenticated), and the final state is what the dispatch made of it. -/
theorem C10_no_records_unless_scan_completes (cfg : Cfg) (tr : Transport) (now : Nat) (r0 : Reader.Reader)
    (s : State) (hn : NoRecords s) (ht : s.tsig = none) (hs : 12 ≤ s.octets.size)
    (out : Out WriterErr Bool) (s' : State) (h : handleWithContext cfg tr now r0 s = (out, s'))
    (hnp : out ≠ .panic) :
    NoRecords s' ∨
      ∃ q s1, scanPhase cfg tr now r0 s = (.ok (ScanEnd.proceed q), s1) ∧ NoRecords s1 ∧ TsigClean cfg now s1 ∧
        dispatch cfg tr ((Reader.opcode r0).toOption.getD 0) (ScanEnd.proceed q) s1 = (out, s') := by
  rw [handleWithContext_eq] at h
  rcases hsp : scanPhase cfg tr now r0 s with ⟨o, s1⟩
  rw [hsp] at h
  rcases o with e | e | _
  · have post := scanPhase_post cfg tr now r0 s hn ht hs _ s1 hsp (by simp)
    cases e with
    | stop => simp [andThen, dispatch, pure] at h; obtain ⟨_, rfl⟩ := h; exact Or.inl post.1
    | noResponse => simp [andThen, dispatch, pure] at h; obtain ⟨_, rfl⟩ := h; exact Or.inl post.1
    | proceed q => exact Or.inr ⟨q, s1, rfl, post.1, post.2 q rfl, h⟩
  · have post := scanPhase_post cfg tr now r0 s hn ht hs _ s1 hsp (by simp)
    simp [andThen] at h; obtain ⟨_, rfl⟩ := h; exact Or.inl post.1
  · simp [andThen] at h; exact absurd h.1.symm hnp

/-! ## (d) the response MAC -/

/-- **The MAC of a signed response = HMAC(key, RFC 8945 §4.3 response digest input).**  `message` is
    what `finish_with_mac` hands over: the response octets up to the TSIG RR, ARCOUNT already
    counting it (`set_tsig` incremented it — `MsgOk`).  The digest input is
    `len(request MAC) ‖ request MAC ‖ message[ID := original ID, ARCOUNT − 1] ‖ key name ‖ ANY ‖ 0 ‖
    algorithm name ‖ time signed ‖ fudge ‖ error ‖ other len ‖ other` with the fields of the prepared
    RR (`respVars`; other = server time iff the error is BADTIME).  Holds for every MAC primitive
    whose tags are not absurdly long (`hlen`; HMAC-SHA1/256: 20 / 32 octets). -/
theorem C10_response_mac_eq_rfc (ts : Writer.Tsig) (message : List UInt8) (alg : Writer.Alg)
    (requestMac key : List UInt8) (hmode : ts.mode = .response alg requestMac key) (wf : RrWF ts.rr)
    (hreq : requestMac.length ≤ 65535) (hmsg : MsgOk message)
    (hlen : ∀ d, (hm (ofWriterAlg alg) key d).length ≤ 65000) :
    macFnWith hm ts message =
      hm (ofWriterAlg alg) key
        (Spec.Tsig.digestInput .response message ts.rr.originalId (respVars ts.rr (ofWriterAlg alg)) requestMac) :=
  macFnWith_eq_rfc hm ts message alg requestMac key hmode wf hreq hmsg hlen

/-- (d) applies to every TSIG the decision table records: its prepared RR is well formed -/
theorem C10_prepared_rr_wf (kn : WName) (r : ReadTsigRr) (nowT : TimeSigned) (e : Nat)
    (hl : ∀ l ∈ kn.labels, l.map Spec.Tsig.lower = l) (he : e < 65536) : RrWF (prepOf kn r nowT e) :=
  prepOf_wf kn r nowT e hl he

/-- the model's `macFn` is `macFnWith` with the real HMAC -/
theorem C10_macFn_is_real_hmac (ts : Writer.Tsig) (message : List UInt8) :
    macFn ts message = macFnWith realHmac ts message := rfl

/-! ## (e) `set_tsig_or_truncate` -/

/-- **`set_tsig_or_truncate` is total** (the repair of D03: `set_tsig(..).unwrap()` panicked) -/
theorem C10_set_tsig_or_truncate_total (mode : TsigMode) (rr : TsigRr) (s : State) (hs : 12 ≤ s.octets.size) :
    (setTsigOrTruncate mode rr s).1 ≠ .panic :=
  setTsigOrTruncate_no_panic mode rr s hs

/-- it records the TSIG RR exactly when `set_tsig` can: no TSIG yet, room for the reserved length
    (`unsigned_len` / `signed_len`) within what is available, ARCOUNT not at its maximum -/
theorem C10_records_tsig_when_it_fits (mode : TsigMode) (rr : TsigRr) (s : State) (h : TsigFits s mode rr) :
    setTsigOrTruncate mode rr s = (.ok true, withTsig s mode rr) :=
  setTsigOrTruncate_fits mode rr s h

/-- **when the TSIG RR does not fit: TC ∧ NOERROR ∧ no TSIG**, and nothing but the header changed
    (`HeaderOnly`: cursor, counts, reservations, TSIG/EDNS state as before) -/
theorem C10_truncates_when_tsig_does_not_fit (mode : TsigMode) (rr : TsigRr) (s : State)
    (hs : 12 ≤ s.octets.size) (h : ¬ TsigFits s mode rr) :
    ∃ s', setTsigOrTruncate mode rr s = (.ok false, s') ∧ HeaderOnly s s' ∧ getRcode s' = 0 ∧
      getBit s' Gen.TC_BYTE Gen.TC_MASK = true :=
  setTsigOrTruncate_nofit mode rr s hs h

/-- **Over TCP the TSIG RR always fits**: starting from the writer `handle_message` sets up over TCP
    (`FreshTcp`: 65535 octets, header only, nothing reserved, TC clear), the scan phase — for every
    request, key set and clock — ends with TC clear unless it panics: the truncation branch of
    `set_tsig_or_truncate` is never taken. -/
theorem C10_tcp_tsig_always_fits (cfg : Cfg) (now : Nat) (r0 : Reader.Reader) (s : State) (hf : FreshTcp s)
    (out : Out WriterErr ScanEnd) (s' : State) (h : scanPhase cfg .tcp now r0 s = (out, s')) (hnp : out ≠ .panic) :
    getBit s' Gen.TC_BYTE Gen.TC_MASK = false :=
  scanPhase_tcp cfg now r0 s hf out s' h hnp

/-- the arithmetic behind it: with room for 574 octets every reply of the decision table fits -/
theorem C10_room_suffices (s : State) (h : TsigRoom s) (kn : WName) (hk : kn.wire.length ≤ 255)
    (a : Writer.Alg) (mac key : List UInt8) (r : ReadTsigRr) (nowT : TimeSigned) (e : Nat) :
    TsigFits s (.response a mac key) (prepOf kn r nowT e) :=
  tsigFits_response s h kn hk a mac key r nowT e

/-- (a)–(e) in two facts, on the writer state: the TSIG step is total on a writer with a header, and a
    rejected request never reaches the answer phase. -/
theorem C10_partial (keys : List Key) (s : State) (hs : 12 ≤ s.octets.size) (r : ReadTsigRr)
    (msg : List UInt8) (nowT : TimeSigned) (r' : Reader.Reader) (kn an : WName)
    (hkn : WName.parse r.keyName = some (kn, [])) (han : WName.parse r.algorithm = some (an, []))
    (hv : verifyRequest hm r msg ((Algorithm.fromName r.algorithm).getD .HmacSha1)
            (((Algorithm.fromName r.algorithm).bind (findKey keys r.keyName)).map (·.secret) |>.getD []) nowT ≠ .panic) :
    (tsigProcess hm keys nowT r msg r' s).1 ≠ .panic ∧
    (∀ x s', tsigProcess hm keys nowT r msg r' s = (.ok (some x), s') →
       ∃ alg key, Algorithm.fromName r.algorithm = some alg ∧ findKey keys r.keyName alg = some key ∧
         verifyRequest hm r msg alg key.secret nowT = .ok ()) := by
  refine ⟨?_, fun x s' h => ?_⟩
  · rcases hd : ServerScan.tsigDecision hm keys nowT r msg kn an with _ | ⟨rc, mode, rr, go⟩
    · obtain ⟨alg, key, ha, hk, hp⟩ := ServerScan.tsigDecision_none hd
      simp only [ha, hk, Option.getD_some, Option.bind_some, Option.map_some] at hv
      exact absurd hp hv
    · rw [ServerScan.tsigProcess_eq s (by omega) r' hkn han hd]
      exact fun h => by cases h
  · obtain ⟨alg, key, _, ha, hk, _, hvr, _⟩ := ServerScan.tsigProcess_some_state hm keys s hs r msg nowT r' x s' h
    exact ⟨alg, key, ha, hk, hvr⟩

/-! ## (f) lifted to the response octets -/

open QV.ServerScan in
/-- **an authenticated request with a no-data verdict, on the octets.**  The response is
    `signedPrefix` (header with the RCODE, question, OPT iff reached) followed by the TSIG record and
    nothing else; the MAC in it is `macFn` of exactly `signedPrefix`, and for a lower-case key name
    that is the HMAC, under the request's key, of the RFC 8945 §4.3 response digest input. -/
theorem C10_authenticated_nodata_octets (cfg : Cfg) (tr : Transport) (now bufLen : Nat) (req : Bytes)
    (hbuf : minBuf tr cfg.payload ≤ bufLen) (hpay : 512 ≤ cfg.payload) (hreq : req.size ≤ Rdata.USIZE_MAX)
    (hr : (Spec.Server.specScanWith (catKind cfg) cfg.payload req).respond = true)
    (hv : (Spec.Server.specScanWith (catKind cfg) cfg.payload req).verdict = .tsigReached) :
    ∃ (t : ReadTsigRr) (mw : Bytes) (r' : Reader.Reader), r'.octets = req ∧ r'.cursor ≤ req.size ∧
      ∀ r'' S, tsigAfter cfg now t mw r' (preTsigState cfg tr bufLen req) = (.ok (some r''), S) →
      ∀ v, (v = Spec.Server.Verdict.formErr ∨ v = .notImp ∨ v = .refused ∨ v = .servFailZone) →
        endVerdict (catKind cfg) req.size (Spec.Server.specScanWith (catKind cfg) cfg.payload req).question
          r'.cursor ((req.getD 2 0).toNat / 8 % 16) = v →
      ∀ b, handleMessage cfg tr now bufLen req = .ok (some b) →
        ∃ nowT alg key kn, TimeSigned.tryFromUnix now = some nowT ∧
          Algorithm.fromName t.algorithm = some alg ∧ findKey cfg.keys t.keyName alg = some key ∧
          WName.parse t.keyName = some (kn, []) ∧ verifyRequest realHmac t mw.toList alg key.secret nowT = .ok () ∧
          ∃ oe, NameShape kn oe ∧
            b.toList =
              signedPrefix req cfg.payload (Spec.Server.specScanWith (catKind cfg) cfg.payload req)
                (Spec.Server.verdictRcode v).1 ++
              tsigRecordOctets oe (respTsig alg key kn t nowT)
                (some (macFn (respTsig alg key kn t nowT)
                  (signedPrefix req cfg.payload (Spec.Server.specScanWith (catKind cfg) cfg.payload req)
                    (Spec.Server.verdictRcode v).1))) ∧
            ((∀ l ∈ kn.labels, l.map Spec.Tsig.lower = l) → t.mac.length ≤ 65535 →
              macFn (respTsig alg key kn t nowT)
                  (signedPrefix req cfg.payload (Spec.Server.specScanWith (catKind cfg) cfg.payload req)
                    (Spec.Server.verdictRcode v).1) =
                realHmac (ofWriterAlg (toWriterAlg alg)) key.secret
                  (Spec.Tsig.digestInput .response
                    (signedPrefix req cfg.payload (Spec.Server.specScanWith (catKind cfg) cfg.payload req)
                      (Spec.Server.verdictRcode v).1)
                    (prepOf kn t nowT 0).originalId (respVars (prepOf kn t nowT 0) (ofWriterAlg (toWriterAlg alg)))
                    t.mac)) := by
  obtain ⟨t, mw, r', h1, h2, h3⟩ := signed_noData_response cfg tr now bufLen req hbuf hpay hreq hr hv
  refine ⟨t, mw, r', h1, h2, fun r'' S hT v hvv hev b hb => ?_⟩
  obtain ⟨nowT, alg, key, kn, e1, e2, e3, e4, e5, oe, sT, _, hsh, _, hbl⟩ := h3 r'' S hT v hvv hev b hb
  refine ⟨nowT, alg, key, kn, e1, e2, e3, e4, e5, oe, hsh, hbl, fun hl hmac => ?_⟩
  exact macFnWith_eq_rfc realHmac (respTsig alg key kn t nowT) _ (toWriterAlg alg) t.mac key.secret rfl
    (prepOf_wf kn t nowT 0 hl (by omega)) hmac (signedPrefix_msgOk _ _ _ _)
    (fun d => by rw [realHmac_length]; cases (ofWriterAlg (toWriterAlg alg)) <;> decide)

open QV.ServerScan in
/-- **an authenticated request that a loaded zone answers, on the octets**: whatever the zone
    answers, the response is `pre ++ TSIG record` with the MAC `macFn` of exactly `pre`, the record
    being the last thing in the message; when the scan reached an OPT, `pre` ends with the one OPT
    record. -/
theorem C10_authenticated_answer_octets (cfg : Cfg) (tr : Transport) (now bufLen : Nat) (req : Bytes)
    (hbuf : minBuf tr cfg.payload ≤ bufLen) (hpay : 512 ≤ cfg.payload) (hreq : req.size ≤ Rdata.USIZE_MAX)
    (hr : (Spec.Server.specScanWith (catKind cfg) cfg.payload req).respond = true)
    (hv : (Spec.Server.specScanWith (catKind cfg) cfg.payload req).verdict = .tsigReached) :
    ∃ (t : ReadTsigRr) (mw : Bytes) (r' : Reader.Reader), r'.octets = req ∧ r'.cursor ≤ req.size ∧
      ∀ r'' S, tsigAfter cfg now t mw r' (preTsigState cfg tr bufLen req) = (.ok (some r''), S) →
        endVerdict (catKind cfg) req.size (Spec.Server.specScanWith (catKind cfg) cfg.payload req).question
          r'.cursor ((req.getD 2 0).toNat / 8 % 16) = .answer →
      ∀ b, handleMessage cfg tr now bufLen req = .ok (some b) →
        ∃ nowT alg key kn, TimeSigned.tryFromUnix now = some nowT ∧
          Algorithm.fromName t.algorithm = some alg ∧ findKey cfg.keys t.keyName alg = some key ∧
          WName.parse t.keyName = some (kn, []) ∧ verifyRequest realHmac t mw.toList alg key.secret nowT = .ok () ∧
          ∃ pre oe, NameShape kn oe ∧
            b.toList = pre ++ tsigRecordOctets oe (respTsig alg key kn t nowT)
              (some (macFn (respTsig alg key kn t nowT) pre)) ∧
            ((Spec.Server.specScanWith (catKind cfg) cfg.payload req).edns = true →
              ∃ x upper, pre = x ++ Writer.optRecord ⟨cfg.payload, upper⟩) := by
  obtain ⟨t, mw, r', h1, h2, h3⟩ := signed_answer_response cfg tr now bufLen req hbuf hpay hreq hr hv
  refine ⟨t, mw, r', h1, h2, fun r'' S hT hev b hb => ?_⟩
  obtain ⟨nowT, alg, key, kn, e1, e2, e3, e4, e5, pre, oe, hsh, hbl, hopt, _⟩ := h3 r'' S hT hev b hb
  exact ⟨nowT, alg, key, kn, e1, e2, e3, e4, e5, pre, oe, hsh, hbl, hopt⟩

open QV.ServerScan in
/-- **a request that is not authenticated, on the octets** (reply TSIG fits).  `tsigStopReply` is the
    decision table (a): RCODE NOTAUTH with BADKEY (unknown algorithm / key) or BADSIG (wrong MAC), or
    FORMERR with BADSIG (MAC size not allowed) — all *unsigned*, i.e. an empty MAC — or NOTAUTH with
    BADTIME, *signed* in response mode.  The response is header ++ question ++ OPT ++ that TSIG record,
    the TSIG record last, no answer or authority data. -/
theorem C10_error_response_octets (cfg : Cfg) (tr : Transport) (now bufLen : Nat) (req : Bytes)
    (hbuf : minBuf tr cfg.payload ≤ bufLen) (hpay : 512 ≤ cfg.payload) (hreq : req.size ≤ Rdata.USIZE_MAX)
    (hr : (Spec.Server.specScanWith (catKind cfg) cfg.payload req).respond = true)
    (hv : (Spec.Server.specScanWith (catKind cfg) cfg.payload req).verdict = .tsigReached) :
    ∃ (t : ReadTsigRr) (mw : Bytes) (r' : Reader.Reader), r'.octets = req ∧ r'.cursor ≤ req.size ∧
      ∀ nowT kn an rc mode rr, TimeSigned.tryFromUnix now = some nowT →
        WName.parse t.keyName = some (kn, []) → WName.parse t.algorithm = some (an, []) →
        tsigStopReply realHmac cfg.keys nowT t mw.toList kn an = some (rc, mode, rr) →
        TsigFits (preTsigState cfg tr bufLen req) mode rr →
        ∀ b, handleMessage cfg tr now bufLen req = .ok (some b) →
          SignedNoData cfg.payload (Spec.Server.specScanWith (catKind cfg) cfg.payload req) rc b ∧
          ∃ oe, NameShape rr.keyName oe ∧
            b.toList =
              signedPrefix req cfg.payload (Spec.Server.specScanWith (catKind cfg) cfg.payload req) rc ++
              tsigRecordOctets oe ⟨mode, reservedLen mode rr, rr⟩
                (finishMac macFn ⟨mode, reservedLen mode rr, rr⟩
                  (signedPrefix req cfg.payload (Spec.Server.specScanWith (catKind cfg) cfg.payload req) rc)) := by
  obtain ⟨t, mw, r', h1, h2, h3⟩ := tsig_error_response cfg tr now bufLen req hbuf hpay hreq hr hv
  refine ⟨t, mw, r', h1, h2, fun nowT kn an rc mode rr hnow hkn han hrep hfit b hb => ?_⟩
  obtain ⟨oe, sT, _, hsh, _, hbl⟩ := h3 nowT kn an rc mode rr hnow hkn han hrep hfit b hb
  have hrc : rc < 16 := by rcases tsigStopReply_rc hrep with rfl | rfl <;> omega
  exact ⟨signedNoData_of_list req cfg.payload _ rc hrc oe _ _ hsh b hbl, oe, hsh, hbl⟩

/-- the unsigned replies carry an empty MAC; the BADTIME reply is signed -/
theorem C10_unsigned_mac_empty (an : WName) (rl : Nat) (rr : TsigRr) (pre : List UInt8) :
    finishMac macFn ⟨.unsigned an, rl, rr⟩ pre = none := rfl

theorem C10_badtime_mac_signed (a : Writer.Alg) (m k : List UInt8) (rl : Nat) (rr : TsigRr) (pre : List UInt8) :
    finishMac macFn ⟨.response a m k, rl, rr⟩ pre = some (macFn ⟨.response a m k, rl, rr⟩ pre) := rfl

/-! ## (g) on the independent decoding of the response -/

open QV.ServerScan in
/-- the rows of `C10_decoded_table`, for a given run (`ServerContent.TsigRun`: the TSIG record `t`, the
    message without it `mw`, the reader `r'` after it): the writer handed to `finish` is `Good` with the
    row's TSIG pending (`ServerContent.signed_*_of_run`), so C12's decoding theorem reads the response back
    (`question_tsig_of_good`, `tsig_of_good`, `decoded_nofit`) -/
theorem C10_decoded_table_of_run (cfg : Cfg) (tr : Transport) (now bufLen : Nat) (req : Bytes)
    (hbuf : minBuf tr cfg.payload ≤ bufLen) (hpay : 512 ≤ cfg.payload) (hp16 : cfg.payload ≤ 65535)
    (hr : (Spec.Server.specScanWith (catKind cfg) cfg.payload req).respond = true)
    (t : ReadTsigRr) (mw : Bytes) (r' : Reader.Reader) (question : Option (WName × Nat × Nat))
    (hrun : ServerContent.TsigRun cfg tr now bufLen req t mw r' question) :
      (∀ nowT kn an rc mode rr, TimeSigned.tryFromUnix now = some nowT →
        WName.parse t.keyName = some (kn, []) → WName.parse t.algorithm = some (an, []) →
        tsigStopReply realHmac cfg.keys nowT t mw.toList kn an = some (rc, mode, rr) →
        TsigFits (preTsigState cfg tr bufLen req) mode rr →
        ∀ b, handleMessage cfg tr now bufLen req = .ok (some b) →
          ∀ d, Spec.specDecodeMsg b = some d →
            d.an = [] ∧ d.ns = [] ∧
            ∃ rest o, d.ar = rest ++ [o] ∧
              rest.length = (if (Spec.Server.specScanWith (catKind cfg) cfg.payload req).edns then 1 else 0) ∧
              o.ty = 250 ∧ o.cls = 255 ∧ o.rawTtl = 0 ∧
              o.owner.map lowerU8 = rr.keyName.wire.map lowerU8 ∧
              o.rdata = tsigRdata rr (tsigAlgName mode)
                ((finishMac macFn ⟨mode, reservedLen mode rr, rr⟩
                  (signedPrefix req cfg.payload (Spec.Server.specScanWith (catKind cfg) cfg.payload req) rc)).getD [])) ∧
      (∀ r'' S, tsigAfter cfg now t mw r' (preTsigState cfg tr bufLen req) = (.ok (some r''), S) →
      ∀ v, (v = Spec.Server.Verdict.formErr ∨ v = .notImp ∨ v = .refused ∨ v = .servFailZone) →
        endVerdict (catKind cfg) req.size (Spec.Server.specScanWith (catKind cfg) cfg.payload req).question
          r'.cursor ((req.getD 2 0).toNat / 8 % 16) = v →
      ∀ b, handleMessage cfg tr now bufLen req = .ok (some b) →
        ∃ nowT alg key kn, TimeSigned.tryFromUnix now = some nowT ∧
          Algorithm.fromName t.algorithm = some alg ∧ findKey cfg.keys t.keyName alg = some key ∧
          WName.parse t.keyName = some (kn, []) ∧ verifyRequest realHmac t mw.toList alg key.secret nowT = .ok () ∧
          ∀ d, Spec.specDecodeMsg b = some d →
            d.an = [] ∧ d.ns = [] ∧
            ∃ rest o, d.ar = rest ++ [o] ∧
              rest.length = (if (Spec.Server.specScanWith (catKind cfg) cfg.payload req).edns then 1 else 0) ∧
              o.ty = 250 ∧ o.cls = 255 ∧ o.rawTtl = 0 ∧
              o.owner.map lowerU8 = kn.wire.map lowerU8 ∧
              o.rdata = tsigRdata (prepOf kn t nowT 0) (algName (toWriterAlg alg))
                (macFn (respTsig alg key kn t nowT)
                  (signedPrefix req cfg.payload (Spec.Server.specScanWith (catKind cfg) cfg.payload req)
                    (Spec.Server.verdictRcode v).1))) ∧
      (ServerSafety.CfgWF cfg → ∀ r'' S, tsigAfter cfg now t mw r' (preTsigState cfg tr bufLen req) = (.ok (some r''), S) →
        endVerdict (catKind cfg) req.size (Spec.Server.specScanWith (catKind cfg) cfg.payload req).question
          r'.cursor ((req.getD 2 0).toNat / 8 % 16) = .answer →
      ∀ b, handleMessage cfg tr now bufLen req = .ok (some b) →
        ∃ nowT alg key kn, TimeSigned.tryFromUnix now = some nowT ∧
          Algorithm.fromName t.algorithm = some alg ∧ findKey cfg.keys t.keyName alg = some key ∧
          WName.parse t.keyName = some (kn, []) ∧ verifyRequest realHmac t mw.toList alg key.secret nowT = .ok () ∧
          ∃ pre oe, b.toList = pre ++ tsigRecordOctets oe (respTsig alg key kn t nowT)
              (some (macFn (respTsig alg key kn t nowT) pre)) ∧
            ∀ d, Spec.specDecodeMsg b = some d →
              ∃ rest o, d.ar = rest ++ [o] ∧ o.ty = 250 ∧ o.cls = 255 ∧ o.rawTtl = 0 ∧
                o.owner.map lowerU8 = kn.wire.map lowerU8 ∧
                o.rdata = tsigRdata (prepOf kn t nowT 0) (algName (toWriterAlg alg))
                  (macFn (respTsig alg key kn t nowT) pre)) ∧
      (∀ nowT kn, TimeSigned.tryFromUnix now = some nowT → WName.parse t.keyName = some (kn, []) →
        ServerContent.NoFit cfg nowT t mw kn (preTsigState cfg tr bufLen req) →
        ∀ b, handleMessage cfg tr now bufLen req = .ok (some b) →
          ∀ d, Spec.specDecodeMsg b = some d →
            d.tc = true ∧ d.rcode = 0 ∧ d.aa = false ∧ d.an = [] ∧ d.ns = [] ∧
            d.ar.length = (if (Spec.Server.specScanWith (catKind cfg) cfg.payload req).edns then 1 else 0) ∧
            (∀ o ∈ d.ar, o.ty = 41) ∧ ∀ o ∈ d.ar, o.ty ≠ 250) := by
  have hedns : ∀ F : State, F.edns = (if (Spec.Server.specScanWith (catKind cfg) cfg.payload req).edns
      then some ⟨cfg.payload, 0⟩ else none) →
      (if F.edns.isSome then 1 else 0) = (if (Spec.Server.specScanWith (catKind cfg) cfg.payload req).edns then 1 else 0) := by
    intro F he
    rw [he]; cases (Spec.Server.specScanWith (catKind cfg) cfg.payload req).edns <;> rfl
  refine ⟨?_, ?_, ?_, ?_⟩
  · intro nowT kn an rc mode rr hnow hkn han hrep hfit b hb d hd
    obtain ⟨F, mac, hf, hG, hts, he, hmac, _⟩ := ServerContent.signed_error_final_of_run cfg tr now bufLen req hbuf hpay hp16
      hr t mw r' question hrun nowT kn an rc mode rr hnow hkn han hrep hfit b hb
    obtain ⟨c1, c2, rest, o, g1, g2, g3, g4, g5, g6, g7⟩ := question_tsig_of_good macFn F _ hG _ hts b mac hf d hd
    exact ⟨c1, c2, rest, o, g1, by rw [g2, hedns F he], g3, g4, g5, g6, by rw [g7, hmac]⟩
  · intro r'' S hT v hvv hev b hb
    obtain ⟨nowT, alg, key, kn, F, mac, e1, e2, e3, e4, e5, _, hf, hG, hts, he, hmac, _⟩ :=
      ServerContent.signed_nodata_final_of_run cfg tr now bufLen req hbuf hpay hp16 hr t mw r' question hrun r'' S hT v hvv
        hev b hb
    refine ⟨nowT, alg, key, kn, e1, e2, e3, e4, e5, fun d hd => ?_⟩
    obtain ⟨c1, c2, rest, o, g1, g2, g3, g4, g5, g6, g7⟩ := question_tsig_of_good macFn F _ hG _ hts b mac hf d hd
    exact ⟨c1, c2, rest, o, g1, by rw [g2, hedns F he], g3, g4, g5, g6, by rw [g7, hmac]; rfl⟩
  · intro hcfg r'' S hT hev b hb
    obtain ⟨nowT, alg, key, kn, F, mac, bd, _, e1, e2, e3, e4, e5, _, hf, hG, _, _, _, _, _, _, hts, _⟩ :=
      ServerContent.signed_answer_facts_of_run cfg hcfg tr now bufLen req hbuf hpay hp16 hr t mw r' question hrun r'' S hT
        hev b hb
    refine ⟨nowT, alg, key, kn, e1, e2, e3, e4, e5, ?_⟩
    obtain ⟨_, hmac, oe, sT, _, _, _, _, hbl⟩ := finish_octets_tsig macFn F hG.1.inv.hdr _ hts b mac hf
    have hmac' : mac = some (macFn (respTsig alg key kn t nowT) (finishPrefix F ++ optEnc F.edns)) := by
      rw [hmac]; rfl
    rw [hmac'] at hbl
    refine ⟨finishPrefix F ++ optEnc F.edns, oe, hbl, fun d hd => ?_⟩
    obtain ⟨rest, o, g1, g2, g3, g4, g5, g6, _, _⟩ := tsig_of_good macFn F _ hG _ hts b mac hf d hd
    refine ⟨rest, o, g1, g2, g3, g4, g5, ?_⟩
    rw [g6, hmac']; rfl
  · intro nowT kn hnow hkn hnf b hb d hd
    obtain ⟨F, mac, hf, hG, hts, he, hh⟩ := ServerContent.signed_nofit_final_of_run cfg tr now bufLen req hbuf hpay hp16 hr
      t mw r' question hrun nowT kn hnow hkn hnf b hb
    obtain ⟨r1, r2, r3, r4, r5, r6, r7⟩ :=
      ServerContent.decoded_nofit F _ (qBody_norecs _) hG hts hh b mac hf d hd
    exact ⟨r1, r2, r3, r4, r5, by rw [r6, hedns F he], r7, fun o ho h => by rw [r7 o ho] at h; cases h⟩

open QV.ServerScan in
/-- **an authenticated request with a no-data verdict, decoded.**  Every decoding of the response
    under the independent decoder has empty answer and authority sections, and its additional
    section is the OPT record (iff the scan reached one) followed by — last — a record of TYPE 250,
    CLASS ANY, TTL 0 whose owner is the key name up to ASCII case and whose RDATA is, octet for octet,
    `algorithm ‖ time signed (= now) ‖ fudge 300 ‖ MAC length ‖ MAC ‖ original ID ‖ error 0 ‖ other length 0`
    (`tsigRdata` of the prepared RR `prepOf kn t now 0`), the MAC being `macFn` of exactly the octets
    before the record — for a lower-case key name the HMAC of the RFC 8945 §4.3 response digest
    input (`C10_authenticated_nodata_octets`). -/
theorem C10_decoded_authenticated_nodata (cfg : Cfg) (tr : Transport) (now bufLen : Nat) (req : Bytes)
    (hbuf : minBuf tr cfg.payload ≤ bufLen) (hpay : 512 ≤ cfg.payload) (hp16 : cfg.payload ≤ 65535)
    (hreq : req.size ≤ Rdata.USIZE_MAX)
    (hr : (Spec.Server.specScanWith (catKind cfg) cfg.payload req).respond = true)
    (hv : (Spec.Server.specScanWith (catKind cfg) cfg.payload req).verdict = .tsigReached) :
    ∃ (t : ReadTsigRr) (mw : Bytes) (r' : Reader.Reader), r'.octets = req ∧ r'.cursor ≤ req.size ∧
      ∀ r'' S, tsigAfter cfg now t mw r' (preTsigState cfg tr bufLen req) = (.ok (some r''), S) →
      ∀ v, (v = Spec.Server.Verdict.formErr ∨ v = .notImp ∨ v = .refused ∨ v = .servFailZone) →
        endVerdict (catKind cfg) req.size (Spec.Server.specScanWith (catKind cfg) cfg.payload req).question
          r'.cursor ((req.getD 2 0).toNat / 8 % 16) = v →
      ∀ b, handleMessage cfg tr now bufLen req = .ok (some b) →
        ∃ nowT alg key kn, TimeSigned.tryFromUnix now = some nowT ∧
          Algorithm.fromName t.algorithm = some alg ∧ findKey cfg.keys t.keyName alg = some key ∧
          WName.parse t.keyName = some (kn, []) ∧ verifyRequest realHmac t mw.toList alg key.secret nowT = .ok () ∧
          ∀ d, Spec.specDecodeMsg b = some d →
            d.an = [] ∧ d.ns = [] ∧
            ∃ rest o, d.ar = rest ++ [o] ∧
              rest.length = (if (Spec.Server.specScanWith (catKind cfg) cfg.payload req).edns then 1 else 0) ∧
              o.ty = 250 ∧ o.cls = 255 ∧ o.rawTtl = 0 ∧
              o.owner.map lowerU8 = kn.wire.map lowerU8 ∧
              o.rdata = tsigRdata (prepOf kn t nowT 0) (algName (toWriterAlg alg))
                (macFn (respTsig alg key kn t nowT)
                  (signedPrefix req cfg.payload (Spec.Server.specScanWith (catKind cfg) cfg.payload req)
                    (Spec.Server.verdictRcode v).1)) := by
  obtain ⟨t, mw, r', question, hrun⟩ := ServerContent.tsigRun_exists cfg tr now bufLen req hbuf hpay hreq hr hv
  exact ⟨t, mw, r', hrun.1, hrun.2.1,
    (C10_decoded_table_of_run cfg tr now bufLen req hbuf hpay hp16 hr t mw r' question hrun).2.1⟩

open QV.ServerScan in
/-- **a request that is not authenticated, decoded** (reply TSIG fits): empty answer and authority
    sections; the additional section is the OPT (iff reached) and then, last, the TSIG record with the
    key name as owner (up to case) and the RDATA of the decision table's prepared RR — error BADKEY /
    BADSIG / BADTIME, MAC empty for the unsigned replies, `macFn` of the octets before the record for
    BADTIME, the server time as other data iff BADTIME (`tsigRdata`). -/
theorem C10_decoded_error (cfg : Cfg) (tr : Transport) (now bufLen : Nat) (req : Bytes)
    (hbuf : minBuf tr cfg.payload ≤ bufLen) (hpay : 512 ≤ cfg.payload) (hp16 : cfg.payload ≤ 65535)
    (hreq : req.size ≤ Rdata.USIZE_MAX)
    (hr : (Spec.Server.specScanWith (catKind cfg) cfg.payload req).respond = true)
    (hv : (Spec.Server.specScanWith (catKind cfg) cfg.payload req).verdict = .tsigReached) :
    ∃ (t : ReadTsigRr) (mw : Bytes) (r' : Reader.Reader), r'.octets = req ∧ r'.cursor ≤ req.size ∧
      ∀ nowT kn an rc mode rr, TimeSigned.tryFromUnix now = some nowT →
        WName.parse t.keyName = some (kn, []) → WName.parse t.algorithm = some (an, []) →
        tsigStopReply realHmac cfg.keys nowT t mw.toList kn an = some (rc, mode, rr) →
        TsigFits (preTsigState cfg tr bufLen req) mode rr →
        ∀ b, handleMessage cfg tr now bufLen req = .ok (some b) →
          ∀ d, Spec.specDecodeMsg b = some d →
            d.an = [] ∧ d.ns = [] ∧
            ∃ rest o, d.ar = rest ++ [o] ∧
              rest.length = (if (Spec.Server.specScanWith (catKind cfg) cfg.payload req).edns then 1 else 0) ∧
              o.ty = 250 ∧ o.cls = 255 ∧ o.rawTtl = 0 ∧
              o.owner.map lowerU8 = rr.keyName.wire.map lowerU8 ∧
              o.rdata = tsigRdata rr (tsigAlgName mode)
                ((finishMac macFn ⟨mode, reservedLen mode rr, rr⟩
                  (signedPrefix req cfg.payload (Spec.Server.specScanWith (catKind cfg) cfg.payload req) rc)).getD []) := by
  obtain ⟨t, mw, r', question, hrun⟩ := ServerContent.tsigRun_exists cfg tr now bufLen req hbuf hpay hreq hr hv
  exact ⟨t, mw, r', hrun.1, hrun.2.1,
    (C10_decoded_table_of_run cfg tr now bufLen req hbuf hpay hp16 hr t mw r' question hrun).1⟩

open QV.ServerScan in
/-- **an authenticated request that a loaded zone answers, decoded**: in every independent decoding
    of the response the TSIG record is the *last element of the additional section* — TYPE 250, CLASS
    ANY, TTL 0, owner = the key name up to ASCII case, RDATA octet for octet `tsigRdata` of the
    prepared RR `prepOf kn t now 0` (algorithm, time signed = now, fudge 300, MAC, original ID, error
    0, no other data) — and the MAC is `macFn` of exactly the octets `pre` before the record
    (`b = pre ++ TSIG record`); before it come the address records of the answering phase and the OPT
    (iff the scan reached one).  The final writer is `Good` with the question and the records of the
    successful calls of the answering phase as its body (`ServerContent.signed_answer_final`: the
    induction over `handle_non_axfr_query` that ties the ghost log to the writer's content layout). -/
theorem C10_decoded_authenticated_answer (cfg : Cfg) (hcfg : ServerSafety.CfgWF cfg) (tr : Transport)
    (now bufLen : Nat) (req : Bytes)
    (hbuf : minBuf tr cfg.payload ≤ bufLen) (hpay : 512 ≤ cfg.payload) (hp16 : cfg.payload ≤ 65535)
    (hreq : req.size ≤ Rdata.USIZE_MAX)
    (hr : (Spec.Server.specScanWith (catKind cfg) cfg.payload req).respond = true)
    (hv : (Spec.Server.specScanWith (catKind cfg) cfg.payload req).verdict = .tsigReached) :
    ∃ (t : ReadTsigRr) (mw : Bytes) (r' : Reader.Reader), r'.octets = req ∧ r'.cursor ≤ req.size ∧
      ∀ r'' S, tsigAfter cfg now t mw r' (preTsigState cfg tr bufLen req) = (.ok (some r''), S) →
        endVerdict (catKind cfg) req.size (Spec.Server.specScanWith (catKind cfg) cfg.payload req).question
          r'.cursor ((req.getD 2 0).toNat / 8 % 16) = .answer →
      ∀ b, handleMessage cfg tr now bufLen req = .ok (some b) →
        ∃ nowT alg key kn, TimeSigned.tryFromUnix now = some nowT ∧
          Algorithm.fromName t.algorithm = some alg ∧ findKey cfg.keys t.keyName alg = some key ∧
          WName.parse t.keyName = some (kn, []) ∧ verifyRequest realHmac t mw.toList alg key.secret nowT = .ok () ∧
          ∃ pre oe, b.toList = pre ++ tsigRecordOctets oe (respTsig alg key kn t nowT)
              (some (macFn (respTsig alg key kn t nowT) pre)) ∧
            ∀ d, Spec.specDecodeMsg b = some d →
              ∃ rest o, d.ar = rest ++ [o] ∧ o.ty = 250 ∧ o.cls = 255 ∧ o.rawTtl = 0 ∧
                o.owner.map lowerU8 = kn.wire.map lowerU8 ∧
                o.rdata = tsigRdata (prepOf kn t nowT 0) (algName (toWriterAlg alg))
                  (macFn (respTsig alg key kn t nowT) pre) := by
  obtain ⟨t, mw, r', question, hrun⟩ := ServerContent.tsigRun_exists cfg tr now bufLen req hbuf hpay hreq hr hv
  exact ⟨t, mw, r', hrun.1, hrun.2.1,
    (C10_decoded_table_of_run cfg tr now bufLen req hbuf hpay hp16 hr t mw r' question hrun).2.2.1 hcfg⟩

open QV.ServerScan in
/-- **(e) decoded: the reply TSIG does not fit** (RFC 8945 §5.3; `set_tsig_or_truncate`, the repair of
    D03).  Whether the request was rejected by the decision table and the prescribed reply TSIG does
    not fit, or it was authenticated and the response TSIG does not fit (`ServerContent.NoFit`): every
    decoding of the response has TC set, RCODE 0 (NOERROR), AA clear, empty answer and authority
    sections, and an additional section that is exactly the OPT record iff the scan reached one — in
    particular no record of type 250: the response carries no TSIG. -/
theorem C10_decoded_tsig_does_not_fit (cfg : Cfg) (tr : Transport) (now bufLen : Nat) (req : Bytes)
    (hbuf : minBuf tr cfg.payload ≤ bufLen) (hpay : 512 ≤ cfg.payload) (hp16 : cfg.payload ≤ 65535)
    (hreq : req.size ≤ Rdata.USIZE_MAX)
    (hr : (Spec.Server.specScanWith (catKind cfg) cfg.payload req).respond = true)
    (hv : (Spec.Server.specScanWith (catKind cfg) cfg.payload req).verdict = .tsigReached) :
    ∃ (t : ReadTsigRr) (mw : Bytes) (r' : Reader.Reader), r'.octets = req ∧ r'.cursor ≤ req.size ∧
      ∀ nowT kn, TimeSigned.tryFromUnix now = some nowT → WName.parse t.keyName = some (kn, []) →
        ServerContent.NoFit cfg nowT t mw kn (preTsigState cfg tr bufLen req) →
        ∀ b, handleMessage cfg tr now bufLen req = .ok (some b) →
          ∀ d, Spec.specDecodeMsg b = some d →
            d.tc = true ∧ d.rcode = 0 ∧ d.aa = false ∧ d.an = [] ∧ d.ns = [] ∧
            d.ar.length = (if (Spec.Server.specScanWith (catKind cfg) cfg.payload req).edns then 1 else 0) ∧
            (∀ o ∈ d.ar, o.ty = 41) ∧ ∀ o ∈ d.ar, o.ty ≠ 250 := by
  obtain ⟨t, mw, r', question, hrun⟩ := ServerContent.tsigRun_exists cfg tr now bufLen req hbuf hpay hreq hr hv
  exact ⟨t, mw, r', hrun.1, hrun.2.1,
    (C10_decoded_table_of_run cfg tr now bufLen req hbuf hpay hp16 hr t mw r' question hrun).2.2.2⟩

open QV.ServerScan in
/-- **the decoded TSIG record, field by field, and the header** — rows 1 and 2 of the table for a given
    run.  Row 1 (rejected, the reply fits): RCODE = the table's (NOTAUTH 9 / FORMERR 1), AA and TC
    clear; the last additional record is the TSIG record and the specification's RFC 8945 §4.2 reader
    finds in its RDATA: the algorithm name of the reply mode, fudge 300, the request's original ID, the
    table's error (16 / 17 / 18), time signed = the prepared RR's (the client's iff BADTIME), other data
    = the server time iff BADTIME, and the MAC `finish` computed (empty for unsigned replies).  Row 2
    (authenticated, no-data verdict `v`): RCODE of `v`, AA and TC clear; error 0, fudge 300, original
    ID, time signed = now, no other data, MAC = `macFn` over the octets before the record. -/
theorem C10_decoded_fields_of_run (cfg : Cfg) (tr : Transport) (now bufLen : Nat) (req : Bytes)
    (hbuf : minBuf tr cfg.payload ≤ bufLen) (hpay : 512 ≤ cfg.payload) (hp16 : cfg.payload ≤ 65535)
    (hr : (Spec.Server.specScanWith (catKind cfg) cfg.payload req).respond = true)
    (t : ReadTsigRr) (mw : Bytes) (r' : Reader.Reader) (question : Option (WName × Nat × Nat))
    (hrun : ServerContent.TsigRun cfg tr now bufLen req t mw r' question) :
    (∀ nowT kn an rc mode rr, TimeSigned.tryFromUnix now = some nowT →
      WName.parse t.keyName = some (kn, []) → WName.parse t.algorithm = some (an, []) →
      tsigStopReply realHmac cfg.keys nowT t mw.toList kn an = some (rc, mode, rr) →
      TsigFits (preTsigState cfg tr bufLen req) mode rr →
      ∀ b, handleMessage cfg tr now bufLen req = .ok (some b) →
        ∀ d, Spec.specDecodeMsg b = some d →
          d.rcode = rc ∧ (rc = 9 ∨ rc = 1) ∧ d.aa = false ∧ d.tc = false ∧
          ∃ e, (e = 16 ∨ e = 17 ∨ e = 18) ∧ rr = prepOf kn t nowT e ∧
          ∃ rest o mac, d.ar = rest ++ [o] ∧ o.ty = 250 ∧ o.cls = 255 ∧ o.rawTtl = 0 ∧
            Spec.Tsig.parseRdata o.rdata = some ⟨(tsigAlgName mode).labels, Spec.Tsig.nat48 rr.timeSigned,
              300, mac, (ReadTsigRr.originalId t).toNat % 65536, e,
              if e = 18 then nowT.asSlice else []⟩) ∧
    (∀ r'' S, tsigAfter cfg now t mw r' (preTsigState cfg tr bufLen req) = (.ok (some r''), S) →
      ∀ v, (v = Spec.Server.Verdict.formErr ∨ v = .notImp ∨ v = .refused ∨ v = .servFailZone) →
        endVerdict (catKind cfg) req.size (Spec.Server.specScanWith (catKind cfg) cfg.payload req).question
          r'.cursor ((req.getD 2 0).toNat / 8 % 16) = v →
      ∀ b, handleMessage cfg tr now bufLen req = .ok (some b) →
        ∃ nowT alg key kn, TimeSigned.tryFromUnix now = some nowT ∧
          Algorithm.fromName t.algorithm = some alg ∧ findKey cfg.keys t.keyName alg = some key ∧
          WName.parse t.keyName = some (kn, []) ∧ verifyRequest realHmac t mw.toList alg key.secret nowT = .ok () ∧
          ∀ d, Spec.specDecodeMsg b = some d →
            d.rcode = (Spec.Server.verdictRcode v).1 ∧ d.aa = false ∧ d.tc = false ∧
            ∃ rest o, d.ar = rest ++ [o] ∧ o.ty = 250 ∧ o.cls = 255 ∧ o.rawTtl = 0 ∧
              Spec.Tsig.parseRdata o.rdata = some ⟨(algName (toWriterAlg alg)).labels, Spec.Tsig.nat48 nowT.asSlice,
                300, macFn (respTsig alg key kn t nowT)
                  (signedPrefix req cfg.payload (Spec.Server.specScanWith (catKind cfg) cfg.payload req)
                    (Spec.Server.verdictRcode v).1),
                (ReadTsigRr.originalId t).toNat % 65536, 0, []⟩) := by
  refine ⟨?_, ?_⟩
  · have h3 := ServerContent.signed_error_final_of_run cfg tr now bufLen req hbuf hpay hp16 hr t mw r' question hrun
    intro nowT kn an rc mode rr hnow hkn han hrep hfit b hb d hd
    obtain ⟨F, mac, hf, hG, hts, _, _, hh⟩ := h3 nowT kn an rc mode rr hnow hkn han hrep hfit b hb
    obtain ⟨_, _, w1, w3, w4⟩ :=
      (⟨hnow, hkn, han, tsigDecision_stop hrep⟩ : ServerContent.Decided cfg now t mw nowT kn an rc mode rr false).wf
    obtain ⟨hrc, e, he, hrr⟩ := ServerContent.tsigStopReply_prep hrep
    obtain ⟨g1, g2, g3, rest, o, q1, q2, q3, q4, q5⟩ :=
      ServerContent.tsig_fields_of_good F _ hG _ hts w1 w3 w4 _ hh b mac hf d hd
    refine ⟨by rw [g1]; show rc % 16 = rc; omega, hrc, g2, g3, e, he, hrr, rest, o, mac.getD [], q1, q2, q3, q4, ?_⟩
    rw [q5]
    subst hrr
    have e18 : Writer.XR_BADTIME = 18 := by decide
    simp only [prepOf, e18]
    congr 2
    · rcases he with rfl | rfl | rfl <;> rfl
  · have h3 := ServerContent.signed_nodata_final_of_run cfg tr now bufLen req hbuf hpay hp16 hr t mw r' question hrun
    intro r'' S hT v hvv hev b hb
    obtain ⟨nowT, alg, key, kn, F, mac, e1, e2, e3, e4, e5, _, hf, hG, hts, _, hmac, hh⟩ := h3 r'' S hT v hvv hev b hb
    refine ⟨nowT, alg, key, kn, e1, e2, e3, e4, e5, fun d hd => ?_⟩
    obtain ⟨l1, l2⟩ := prepOf_lengths kn t nowT 0
    obtain ⟨g1, g2, g3, rest, o, q1, q2, q3, q4, q5⟩ :=
      ServerContent.tsig_fields_of_good F _ hG _ hts (algName_wf _) l1 l2 _ hh b mac hf d hd
    refine ⟨by rw [g1]; show (Spec.Server.verdictRcode v).1 % 16 = _; rcases hvv with rfl | rfl | rfl | rfl <;> rfl,
      g2, g3, rest, o, q1, q2, q3, q4, ?_⟩
    rw [q5, hmac]
    rfl

open QV.ServerScan in
/-- **the decision table, decoded — one theorem.**  For a request whose scan reaches a well-formed TSIG
    record there are that record `t`, the message without it `mw` and the reader `r'` after it such
    that all rows hold *for these*:
    1. the request is rejected by the table (`tsigStopReply`: unknown algorithm / key ⇒ NOTAUTH + BADKEY
       unsigned; bad MAC size ⇒ FORMERR + BADSIG unsigned; wrong MAC ⇒ NOTAUTH + BADSIG unsigned; time
       outside the window ⇒ NOTAUTH + BADTIME signed) and the reply TSIG fits: no answer / authority
       data; the additional section is the OPT (iff reached) then, last, the TSIG record of the table's
       prepared RR (`C10_decoded_error`);
    2. the request is authenticated and the verdict is a no-data verdict: the same shape with the
       response TSIG (error 0, time = now), MAC over exactly the octets before it
       (`C10_decoded_authenticated_nodata`);
    3. the request is authenticated and a loaded zone answers: the TSIG record is the last element of
       the additional section, MAC over exactly the octets before it (`C10_decoded_authenticated_answer`);
    4. the reply TSIG does not fit: TC, NOERROR, no data, OPT iff reached, no TSIG record
       (`C10_decoded_tsig_does_not_fit`). -/
theorem C10_decoded_table (cfg : Cfg) (hcfg : ServerSafety.CfgWF cfg) (tr : Transport) (now bufLen : Nat) (req : Bytes)
    (hbuf : minBuf tr cfg.payload ≤ bufLen) (hpay : 512 ≤ cfg.payload) (hp16 : cfg.payload ≤ 65535)
    (hreq : req.size ≤ Rdata.USIZE_MAX)
    (hr : (Spec.Server.specScanWith (catKind cfg) cfg.payload req).respond = true)
    (hv : (Spec.Server.specScanWith (catKind cfg) cfg.payload req).verdict = .tsigReached) :
    ∃ (t : ReadTsigRr) (mw : Bytes) (r' : Reader.Reader), r'.octets = req ∧ r'.cursor ≤ req.size ∧
      (∀ nowT kn an rc mode rr, TimeSigned.tryFromUnix now = some nowT →
        WName.parse t.keyName = some (kn, []) → WName.parse t.algorithm = some (an, []) →
        tsigStopReply realHmac cfg.keys nowT t mw.toList kn an = some (rc, mode, rr) →
        TsigFits (preTsigState cfg tr bufLen req) mode rr →
        ∀ b, handleMessage cfg tr now bufLen req = .ok (some b) →
          ∀ d, Spec.specDecodeMsg b = some d →
            d.an = [] ∧ d.ns = [] ∧
            ∃ rest o, d.ar = rest ++ [o] ∧
              rest.length = (if (Spec.Server.specScanWith (catKind cfg) cfg.payload req).edns then 1 else 0) ∧
              o.ty = 250 ∧ o.cls = 255 ∧ o.rawTtl = 0 ∧
              o.owner.map lowerU8 = rr.keyName.wire.map lowerU8 ∧
              o.rdata = tsigRdata rr (tsigAlgName mode)
                ((finishMac macFn ⟨mode, reservedLen mode rr, rr⟩
                  (signedPrefix req cfg.payload (Spec.Server.specScanWith (catKind cfg) cfg.payload req) rc)).getD [])) ∧
      (∀ r'' S, tsigAfter cfg now t mw r' (preTsigState cfg tr bufLen req) = (.ok (some r''), S) →
      ∀ v, (v = Spec.Server.Verdict.formErr ∨ v = .notImp ∨ v = .refused ∨ v = .servFailZone) →
        endVerdict (catKind cfg) req.size (Spec.Server.specScanWith (catKind cfg) cfg.payload req).question
          r'.cursor ((req.getD 2 0).toNat / 8 % 16) = v →
      ∀ b, handleMessage cfg tr now bufLen req = .ok (some b) →
        ∃ nowT alg key kn, TimeSigned.tryFromUnix now = some nowT ∧
          Algorithm.fromName t.algorithm = some alg ∧ findKey cfg.keys t.keyName alg = some key ∧
          WName.parse t.keyName = some (kn, []) ∧ verifyRequest realHmac t mw.toList alg key.secret nowT = .ok () ∧
          ∀ d, Spec.specDecodeMsg b = some d →
            d.an = [] ∧ d.ns = [] ∧
            ∃ rest o, d.ar = rest ++ [o] ∧
              rest.length = (if (Spec.Server.specScanWith (catKind cfg) cfg.payload req).edns then 1 else 0) ∧
              o.ty = 250 ∧ o.cls = 255 ∧ o.rawTtl = 0 ∧
              o.owner.map lowerU8 = kn.wire.map lowerU8 ∧
              o.rdata = tsigRdata (prepOf kn t nowT 0) (algName (toWriterAlg alg))
                (macFn (respTsig alg key kn t nowT)
                  (signedPrefix req cfg.payload (Spec.Server.specScanWith (catKind cfg) cfg.payload req)
                    (Spec.Server.verdictRcode v).1))) ∧
      (∀ r'' S, tsigAfter cfg now t mw r' (preTsigState cfg tr bufLen req) = (.ok (some r''), S) →
        endVerdict (catKind cfg) req.size (Spec.Server.specScanWith (catKind cfg) cfg.payload req).question
          r'.cursor ((req.getD 2 0).toNat / 8 % 16) = .answer →
      ∀ b, handleMessage cfg tr now bufLen req = .ok (some b) →
        ∃ nowT alg key kn, TimeSigned.tryFromUnix now = some nowT ∧
          Algorithm.fromName t.algorithm = some alg ∧ findKey cfg.keys t.keyName alg = some key ∧
          WName.parse t.keyName = some (kn, []) ∧ verifyRequest realHmac t mw.toList alg key.secret nowT = .ok () ∧
          ∃ pre oe, b.toList = pre ++ tsigRecordOctets oe (respTsig alg key kn t nowT)
              (some (macFn (respTsig alg key kn t nowT) pre)) ∧
            ∀ d, Spec.specDecodeMsg b = some d →
              ∃ rest o, d.ar = rest ++ [o] ∧ o.ty = 250 ∧ o.cls = 255 ∧ o.rawTtl = 0 ∧
                o.owner.map lowerU8 = kn.wire.map lowerU8 ∧
                o.rdata = tsigRdata (prepOf kn t nowT 0) (algName (toWriterAlg alg))
                  (macFn (respTsig alg key kn t nowT) pre)) ∧
      (∀ nowT kn, TimeSigned.tryFromUnix now = some nowT → WName.parse t.keyName = some (kn, []) →
        ServerContent.NoFit cfg nowT t mw kn (preTsigState cfg tr bufLen req) →
        ∀ b, handleMessage cfg tr now bufLen req = .ok (some b) →
          ∀ d, Spec.specDecodeMsg b = some d →
            d.tc = true ∧ d.rcode = 0 ∧ d.aa = false ∧ d.an = [] ∧ d.ns = [] ∧
            d.ar.length = (if (Spec.Server.specScanWith (catKind cfg) cfg.payload req).edns then 1 else 0) ∧
            (∀ o ∈ d.ar, o.ty = 41) ∧ ∀ o ∈ d.ar, o.ty ≠ 250) := by
  obtain ⟨t, mw, r', question, hrun⟩ := ServerContent.tsigRun_exists cfg tr now bufLen req hbuf hpay hreq hr hv
  obtain ⟨h1, h2, h3, h4⟩ := C10_decoded_table_of_run cfg tr now bufLen req hbuf hpay hp16 hr t mw r' question hrun
  exact ⟨t, mw, r', hrun.1, hrun.2.1, h1, h2, h3 hcfg, h4⟩

open QV.ServerScan in
/-- **the four rows are exhaustive and mutually exclusive.**  For a request whose scan reaches a
    well-formed TSIG record (`TsigRun`; `ServerContent.tsigRun_exists`): if `handle_message` yields a
    response, the run falls into exactly one row of `C10_decoded_table` — rejected by the decision
    table and the reply TSIG fits (`RowRejected`), authenticated with a no-data verdict
    (`RowAuthNoData`), authenticated and answered by a loaded zone (`RowAuthAnswer`), or the reply TSIG
    does not fit (`RowNoFit`) — and `C10_decoded_table_of_run` gives the decoded response of that row
    for the same `t`, `mw`, `r'`. -/
theorem C10_rows_exhaustive (cfg : Cfg) (tr : Transport) (now bufLen : Nat) (req : Bytes)
    (hbuf : minBuf tr cfg.payload ≤ bufLen) (hpay : 512 ≤ cfg.payload)
    (hr : (Spec.Server.specScanWith (catKind cfg) cfg.payload req).respond = true)
    (t : ReadTsigRr) (mw : Bytes) (r' : Reader.Reader) (question : Option (WName × Nat × Nat))
    (hrun : ServerContent.TsigRun cfg tr now bufLen req t mw r' question)
    (b : Bytes) (hb : handleMessage cfg tr now bufLen req = .ok (some b)) :
    (ServerContent.RowRejected cfg tr now bufLen req t mw ∨ ServerContent.RowAuthNoData cfg tr now bufLen req t mw r' ∨
      ServerContent.RowAuthAnswer cfg tr now bufLen req t mw r' ∨ ServerContent.RowNoFit cfg tr now bufLen req t mw) ∧
    ¬ (ServerContent.RowRejected cfg tr now bufLen req t mw ∧ ServerContent.RowAuthNoData cfg tr now bufLen req t mw r') ∧
    ¬ (ServerContent.RowRejected cfg tr now bufLen req t mw ∧ ServerContent.RowAuthAnswer cfg tr now bufLen req t mw r') ∧
    ¬ (ServerContent.RowRejected cfg tr now bufLen req t mw ∧ ServerContent.RowNoFit cfg tr now bufLen req t mw) ∧
    ¬ (ServerContent.RowAuthNoData cfg tr now bufLen req t mw r' ∧ ServerContent.RowAuthAnswer cfg tr now bufLen req t mw r') ∧
    ¬ (ServerContent.RowAuthNoData cfg tr now bufLen req t mw r' ∧ ServerContent.RowNoFit cfg tr now bufLen req t mw) ∧
    ¬ (ServerContent.RowAuthAnswer cfg tr now bufLen req t mw r' ∧ ServerContent.RowNoFit cfg tr now bufLen req t mw) :=
  ServerContent.rows_exhaustive cfg tr now bufLen req hbuf hpay hr t mw r' question hrun b hb

open QV.ServerScan in
/-- **every signed response — answers from loaded zones included.**  With `w1` the writer that
    `handle_message` hands to `finish` (`answerState`; `prog_safe` shows it satisfies the
    writer's invariant) and `ts` the TSIG it holds: the response is `pre ++ TSIG record`, the record
    last, its MAC `macFn ts pre` (none when unsigned), and at position `|pre|` the independent name
    decoder reads on the response the key name, up to ASCII case (C13's `finish_tsig_owner_decodes`),
    whether it was written literally or compressed. -/
theorem C10_tsig_record_last_owner_decodes (cfg : Cfg) (hcfg : ServerSafety.CfgWF cfg) (tr : Transport)
    (now bufLen : Nat) (req : Bytes) (hbuf : minBuf tr cfg.payload ≤ bufLen) (hpay : 512 ≤ cfg.payload)
    (hnow : now < 2^48) (hreq : req.size ≤ Rdata.USIZE_MAX) (b : Bytes)
    (hb : handleMessage cfg tr now bufLen req = .ok (some b))
    (ts : Writer.Tsig) (hts : (answerState cfg tr now bufLen req).tsig = some ts) :
    ∃ pre oe mac w k, mac = finishMac macFn ts pre ∧ b.toList = pre ++ tsigRecordOctets oe ts mac ∧
      NameShape ts.rr.keyName oe ∧
      Spec.specDecodeName b pre.length = some (w, ts.rr.keyName.len, k) ∧
      w.map lowerU8 = ts.rr.keyName.wire.map lowerU8 := by
  obtain ⟨oe, mac, w, k, h1, h2, h3, h4, h5⟩ :=
    response_tsig_owner_decodes cfg hcfg tr now bufLen req hbuf hpay hnow hreq b hb ts hts
  exact ⟨_, oe, mac, w, k, h1, h2, h3, h4, h5⟩

/-! ## (i) `C10_full`: the executable audit, clause by clause -/

theorem minBuf_le (tr : Transport) (p : Nat) (hp16 : p ≤ 65535) : ServerScan.minBuf tr p ≤ 65535 := by
  cases tr <;> simp only [ServerScan.minBuf] <;> omega

open QV.ServerScan in
/-- the audit's scan (`specScan cat`, any catalog) and the model's (`specScanWith (catKind cfg)`) agree
    on whether a response is due and on whether a TSIG record is reached -/
theorem C10_audit_scan_agrees (cfg : Cfg) (cat : List Spec.Server.ZoneCfg) (req : Bytes) :
    (Spec.Server.specScan cat cfg.payload req).respond = (Spec.Server.specScanWith (catKind cfg) cfg.payload req).respond ∧
    ((Spec.Server.specScan cat cfg.payload req).verdict = .tsigReached ↔
      (Spec.Server.specScanWith (catKind cfg) cfg.payload req).verdict = .tsigReached) := by
  obtain ⟨h1, h2, _⟩ := ServerContent.specScanWith_tsig_indep
    (fun qn qc => (Spec.Server.specCatalogLookup cat qn qc).map (·.kind)) (catKind cfg) cfg.payload req
  exact ⟨h1, h2⟩

open QV.ServerScan in
/-- **audit clause "pre-tsig" (and "no-response")**: for a request to which no response is due, or
    whose scan does not reach an acceptable TSIG record, the audit returns no tag: the response — if
    there is one and it decodes — carries no record of type 250
    (`C10:tsig-in-response-without-acceptable-request-tsig`) -/
theorem C10_audit_pre_tsig (cfg : Cfg) (hcfg : ServerSafety.CfgWF cfg) (cat : List Spec.Server.ZoneCfg)
    (tr : Transport) (now : Nat) (req : Bytes) (hpay : 512 ≤ cfg.payload) (hp16 : cfg.payload ≤ 65535)
    (hreq : req.size ≤ Rdata.USIZE_MAX) (plain : Spec.ServerTsig.Resp)
    (h : (Spec.Server.specScan cat cfg.payload req).respond = false ∨
      (Spec.Server.specScan cat cfg.payload req).verdict ≠ .tsigReached) :
    (Spec.ServerTsig.audit hmSpec cat cfg.payload (specKeys cfg.keys) req now (tr = .udp)
      (toResp (handleMessage cfg tr now 65535 req)) plain).1 = [] := by
  obtain ⟨a1, a2⟩ := C10_audit_scan_agrees cfg cat req
  unfold Spec.ServerTsig.audit
  simp only
  cases hres : (Spec.Server.specScan cat cfg.payload req).respond with
  | false => simp
  | true =>
    have hv : (Spec.Server.specScan cat cfg.payload req).verdict ≠ .tsigReached := by
      rcases h with h | h
      · rw [hres] at h; cases h
      · exact h
    simp only [Bool.not_true, Bool.false_eq_true, if_false, hv, ne_eq, not_false_eq_true, if_true]
    rcases hm : handleMessage cfg tr now 65535 req with (_ | b) | e | _
    · rfl
    · simp only [toResp]
      cases hd : Spec.specDecodeMsg b with
      | none => rfl
      | some d =>
        simp only
        have hno := ServerContent.unsigned_no_tsig cfg hcfg tr now 65535 req (minBuf_le tr _ hp16) hpay hp16 hreq
          (by rw [← a1]; exact hres) (fun hx => hv (a2.mpr hx)) b hm d hd
        have : d.ar.any (fun r => decide (r.ty = 250)) = false := by
          rw [List.any_eq_false]
          intro o ho; simpa using hno o ho
        rw [this]; rfl
    · rfl
    · rfl

open QV.ServerScan in
/-- **audit clauses "panic", "no-response", "undecodable"**: a request whose scan reaches an acceptable
    TSIG record gets a response (no panic — C01; a response is due), and the response decodes under
    the independent decoder — so the audit goes on to the clauses about the decoded response -/
theorem C10_audit_reaches_decoding (cfg : Cfg) (hcfg : ServerSafety.CfgWF cfg) (cat : List Spec.Server.ZoneCfg)
    (tr : Transport) (now : Nat) (req : Bytes) (hnow : now < 2 ^ 48) (hpay : 512 ≤ cfg.payload)
    (hp16 : cfg.payload ≤ 65535) (hreq : req.size ≤ Rdata.USIZE_MAX)
    (hr : (Spec.Server.specScan cat cfg.payload req).respond = true)
    (hv : (Spec.Server.specScan cat cfg.payload req).verdict = .tsigReached) :
    ∃ b d, toResp (handleMessage cfg tr now 65535 req) = .bytes b ∧ Spec.specDecodeMsg b = some d := by
  obtain ⟨a1, a2⟩ := C10_audit_scan_agrees cfg cat req
  have hnp : handleMessage cfg tr now 65535 req ≠ .panic :=
    C01.C01_holds cfg tr now 65535 req hcfg
      ⟨by cases tr <;> simp only <;> omega, hnow, by unfold Rdata.USIZE_MAX at hreq; omega⟩
  obtain ⟨b, d, hb, hd⟩ := ServerContent.signed_response_decodes cfg hcfg tr now 65535 req (minBuf_le tr _ hp16)
    hpay hp16 hreq (by rw [← a1]; exact hr) (a2.mp hv) hnp
  exact ⟨b, d, by rw [hb]; rfl, hd⟩

/-! ## (j) the request-side link (1a) -/

open QV.ServerScan in
/-- **C10 (1a): the audit's view of the request is the model's.**  On a request whose scan reaches a
    TSIG record: the record `d` that the audit's `findTsig` walks to is the one the model's scan hands
    to `ReadTsigRr::try_from` (`t`); the model's message-without-TSIG `mw` is the request up to `d`,
    i.e. the audit's `prefixOctets`; the decoded owner is the key name (`kn`: `t.keyName` is its wire
    form in lower case, the audit's `keyName` its labels); the RDATA is `alg.wire ++ rest` with `alg`
    the algorithm name (`t.algorithm` its wire form in lower case, the audit's `fields.algName` its
    labels) and `Spec.Tsig.parseRdata` reads from `rest` exactly what `t`'s accessors return
    (`FieldsAgree`: time signed, fudge, MAC, original ID, error, other data); and `viewRequest` returns
    this view with `specTsigOutcome` evaluated on it (proof: `Proofs/RequestView`, `Proofs/RequestFields`;
    the scan's post-condition `ArPost` carries the record, `TsigView`). -/
theorem C10_request_view (cfg : Server.Cfg) (tr : Server.Transport) (now bufLen : Nat) (req : Bytes)
    (hbuf : minBuf tr cfg.payload ≤ bufLen) (hpay : 512 ≤ cfg.payload) (hreq : req.size ≤ Rdata.USIZE_MAX)
    (hr : (Spec.Server.specScanWith (catKind cfg) cfg.payload req).respond = true)
    (hv : (Spec.Server.specScanWith (catKind cfg) cfg.payload req).verdict = .tsigReached)
    (hm : Spec.ServerTsig.Hm) (keys : List Spec.ServerTsig.KeyCfg) :
    ∃ (t : Tsig.ReadTsigRr) (mw : Bytes) (r' : Reader.Reader) (question : Option (WName × Nat × Nat))
      (d : Spec.Server.Delim) (owner : List UInt8) (nl fl : Nat) (kn alg : WName) (rest : List UInt8),
      ServerContent.TsigRun cfg tr now bufLen req t mw r' question ∧
      Spec.ServerTsig.findTsig req = some d ∧ d.ty = 250 ∧ d.cls = 255 ∧ d.rawTtl = 0 ∧
      Spec.specDecodeName req d.pos = some (owner, nl, fl) ∧ kn.WF ∧ kn.wire = owner ∧
      alg.WF ∧ tsigRd req d = alg.wire ++ rest ∧ 10 ≤ rest.length ∧
      Spec.Tsig.field16 rest 8 + 16 ≤ rest.length ∧ 12 ≤ d.pos ∧ 1 ≤ Spec.Server.hdr req 10 ∧
      mw = req.extract 0 d.pos ∧ r'.cursor = d.next ∧
      t = ⟨Tsig.lowerName owner, Tsig.lowerName alg.wire,
        (Tsig.rd16 (alg.wire ++ rest) (alg.wire.length + 8)).toNat, alg.wire ++ rest⟩ ∧
      FieldsAgree t (fieldsOf alg.labels rest) ∧
      Spec.ServerTsig.viewRequest hm keys req now =
        some ⟨kn.labels, fieldsOf alg.labels rest, mw.toList,
          Spec.ServerTsig.specTsigOutcome keys kn.labels (fieldsOf alg.labels rest)
            (fun k => hm k.sha256 k.secret (Spec.Tsig.digestInput .request mw.toList
              (fieldsOf alg.labels rest).originalId
              { keyName := kn.labels, algName := alg.labels, timeSigned := (fieldsOf alg.labels rest).timeSigned,
                fudge := (fieldsOf alg.labels rest).fudge, error := (fieldsOf alg.labels rest).error,
                other := (fieldsOf alg.labels rest).other } [])) now,
          Spec.ServerTsig.findKey keys kn.labels⟩ :=
  request_view cfg tr now bufLen req hbuf hpay hreq hr hv hm keys

/-! ## (k) the decision (1c) -/

open QV.ServerScan in
/-- **C10 (1c): the audit's `specTsigOutcome` is the model's decision.**  For configured keys whose
    names are `LowercaseName`s (`KeysOK`: well-formed wire names in lower case — what the library API
    guarantees; see the header), the audit's view of the request is
    `⟨key name labels, RDATA fields, request prefix, outcome, key⟩` with
    `outcome = modelOutcome cfg.keys now kn alg rest mw` — the decision `tsigProcess` takes on the very
    record `t = viewRr kn alg rest` and prefix `mw` of the run: the algorithm table
    (`outputSizeOf_view`), the key map (`findKey_view`: lookup by labels ignoring case = lookup by
    lower-case octets), `verify_request` = RFC 8945 §5.2 on the audit's fields (`verifyRequest_view`, from
    C11's `C11_verify_decision`), the HMAC (`hmSpec` = `realHmac`), the clock.  `modelOutcome_of_decision`
    ties `modelOutcome` to the rows of the decision table (`tsigDecision`, `C10_rows_exhaustive`). -/
theorem C10_audit_outcome (cfg : Server.Cfg) (tr : Server.Transport) (now bufLen : Nat) (req : Bytes)
    (hbuf : minBuf tr cfg.payload ≤ bufLen) (hpay : 512 ≤ cfg.payload) (hreq : req.size ≤ Rdata.USIZE_MAX)
    (hr : (Spec.Server.specScanWith (catKind cfg) cfg.payload req).respond = true)
    (hv : (Spec.Server.specScanWith (catKind cfg) cfg.payload req).verdict = .tsigReached)
    (hk : KeysOK cfg.keys) (nowT : Tsig.TimeSigned) (hnow : Tsig.TimeSigned.tryFromUnix now = some nowT) :
    ∃ (t : Tsig.ReadTsigRr) (mw : Bytes) (r' : Reader.Reader) (question : Option (WName × Nat × Nat))
      (d : Spec.Server.Delim) (kn alg : WName) (rest : List UInt8),
      ServerContent.TsigRun cfg tr now bufLen req t mw r' question ∧
      Spec.ServerTsig.findTsig req = some d ∧ kn.WF ∧ alg.WF ∧
      mw = req.extract 0 d.pos ∧ r'.cursor = d.next ∧ t = viewRr kn alg rest ∧
      Spec.ServerTsig.viewRequest hmSpec (specKeys cfg.keys) req now =
        some ⟨kn.labels, fieldsOf alg.labels rest, mw.toList, modelOutcome cfg.keys nowT kn alg rest mw.toList,
          Spec.ServerTsig.findKey (specKeys cfg.keys) kn.labels⟩ :=
  request_outcome cfg tr now bufLen req hbuf hpay hreq hr hv hk nowT hnow

/-! ## (l) "the reply fits" (1b) -/

open QV.ServerScan in
/-- **C10 (1b): the audit's `fits` is the model's `TsigFits`.**  On the state the scan left
    (`preTsigState`), the reply TSIG `(mode, rr)` fits iff
    `12 + |question| + (OPT ? 11 : 0) + reservedLen mode rr ≤ limit`, the limit being 65535 over TCP and
    the scan's UDP limit over UDP (512 without an OPT: `specTail_noedns`) — which is the audit's
    `need ≤ limit`, since `reservedLen` is `|key name| + 10 + |algorithm name| + 16 + MAC + other`
    (`reservedLen_unsigned`: no MAC, no other data for BADKEY / BADSIG / FORMERR; `reservedLen_response`:
    the hash's output size, plus six octets of other data for BADTIME) and the canonical forms the audit
    measures have the lengths of the wire forms (`canonName_length`). -/
theorem C10_audit_fits (cfg : Cfg) (tr : Transport) (bufLen : Nat) (req : Bytes)
    (hbuf : minBuf tr cfg.payload ≤ bufLen) (hpay : 512 ≤ cfg.payload)
    (hr : (Spec.Server.specScanWith (catKind cfg) cfg.payload req).respond = true)
    (mode : TsigMode) (rr : TsigRr) :
    TsigFits (preTsigState cfg tr bufLen req) mode rr ↔
      12 + (qOctets (Spec.Server.specScanWith (catKind cfg) cfg.payload req).question).length +
        (if (Spec.Server.specScanWith (catKind cfg) cfg.payload req).edns then 11 else 0) +
        reservedLen mode rr ≤
      (match tr with
       | .udp => (Spec.Server.specScanWith (catKind cfg) cfg.payload req).limitUdp
       | .tcp => 65535) :=
  tsigFits_iff cfg tr bufLen req hbuf hpay hr mode rr

/-! ## (m) the audit, row by row -/

open QV.ServerScan in
/-- what the walk through `auditResponse` starts from, for one run: the scan of the audit reaches a
    TSIG record, the run of `handle_message` (`TsigRun`), and the audit's view of the request in the
    model's terms (`C10_audit_outcome`) -/
structure AuditRun (cfg : Cfg) (cat : List Spec.Server.ZoneCfg) (tr : Transport) (now : Nat) (req : Bytes)
    (nowT : TimeSigned) (t : ReadTsigRr) (mw : Bytes) (r' : Reader.Reader) (question : Option (WName × Nat × Nat))
    (d : Spec.Server.Delim) (kn alg : WName) (rest : List UInt8) : Prop where
  respond : (Spec.Server.specScan cat cfg.payload req).respond = true
  verdict : (Spec.Server.specScan cat cfg.payload req).verdict = .tsigReached
  hnow : TimeSigned.tryFromUnix now = some nowT
  hrun : ServerContent.TsigRun cfg tr now 65535 req t mw r' question
  hkn : kn.WF
  halg : alg.WF
  hmw : mw = req.extract 0 d.pos
  hfind : Spec.ServerTsig.findTsig req = some d
  hcur : r'.cursor = d.next
  ht : t = viewRr kn alg rest
  h10 : 10 ≤ rest.length
  hpos : 12 ≤ d.pos
  hdsz : d.pos ≤ req.size
  hmsg : MsgOk mw.toList
  hnext : d.pos ≤ d.next
  hnsz : d.next ≤ req.size
  hview : Spec.ServerTsig.viewRequest hmSpec (specKeys cfg.keys) req now =
    some ⟨kn.labels, fieldsOf alg.labels rest, mw.toList, modelOutcome cfg.keys nowT kn alg rest mw.toList,
      Spec.ServerTsig.findKey (specKeys cfg.keys) kn.labels⟩

open QV.ServerScan in
/-- every request whose scan (the audit's) reaches a TSIG record has an `AuditRun` -/
theorem auditRun_exists (cfg : Cfg) (cat : List Spec.Server.ZoneCfg) (tr : Transport) (now : Nat) (req : Bytes)
    (hnow : now < 2 ^ 48) (hpay : 512 ≤ cfg.payload) (hp16 : cfg.payload ≤ 65535) (hreq : req.size ≤ Rdata.USIZE_MAX)
    (hk : KeysOK cfg.keys)
    (hr : (Spec.Server.specScan cat cfg.payload req).respond = true)
    (hv : (Spec.Server.specScan cat cfg.payload req).verdict = .tsigReached) :
    ∃ nowT t mw r' question d kn alg rest, AuditRun cfg cat tr now req nowT t mw r' question d kn alg rest := by
  obtain ⟨a1, a2⟩ := C10_audit_scan_agrees cfg cat req
  have hnT : ∃ nowT, TimeSigned.tryFromUnix now = some nowT := by
    unfold TimeSigned.tryFromUnix; rw [if_pos hnow]; exact ⟨_, rfl⟩
  obtain ⟨nowT, hnT⟩ := hnT
  obtain ⟨t, mw, r', question, d, kn, alg, rest, h1, h2, h3, h4, h5, h6, h7, h8, h9, h10, h11, h12, h13, h14⟩ :=
    request_outcome_ext cfg tr now 65535 req (minBuf_le tr _ hp16) hpay hreq (by rw [← a1]; exact hr) (a2.mp hv) hk nowT hnT
  exact ⟨nowT, t, mw, r', question, d, kn, alg, rest, hr, hv, hnT, h1, h3, h4, h5, h2, h6, h7, h9, h10, h11, h12, h13, h14, h8⟩

section
open QV.ServerScan
variable {cfg : Cfg} {cat : List Spec.Server.ZoneCfg} {tr : Transport} {now : Nat} {req : Bytes}
  {nowT : TimeSigned} {t : ReadTsigRr} {mw : Bytes} {r' : Reader.Reader} {question : Option (WName × Nat × Nat)}
  {d : Spec.Server.Delim} {kn alg : WName} {rest : List UInt8}

/-- the audit of such a request is `auditResponse` on the view -/
theorem audit_eq_of_run
    (h : AuditRun cfg cat tr now req nowT t mw r' question d kn alg rest) (r plain : Spec.ServerTsig.Resp) :
    Spec.ServerTsig.audit hmSpec cat cfg.payload (specKeys cfg.keys) req now (tr = .udp) r plain =
      Spec.ServerTsig.auditResponse hmSpec (Spec.Server.specScan cat cfg.payload req)
        ⟨kn.labels, fieldsOf alg.labels rest, mw.toList, modelOutcome cfg.keys nowT kn alg rest mw.toList,
          Spec.ServerTsig.findKey (specKeys cfg.keys) kn.labels⟩ now (tr = .udp) (Spec.Server.hdr req 0)
        (Spec.ServerTsig.plainComparable cat cfg.payload req) r plain := by
  unfold Spec.ServerTsig.audit
  simp only [h.respond, h.verdict, h.hview, Bool.not_true, Bool.false_eq_true, if_false, ne_eq, not_true_eq_false]

/-- the model's scan of an `AuditRun`: a response is due, and it agrees with the audit's scan on the
    question, the EDNS state and the UDP limit -/
theorem AuditRun.scanM
    (h : AuditRun cfg cat tr now req nowT t mw r' question d kn alg rest) :
    (Spec.Server.specScanWith (catKind cfg) cfg.payload req).respond = true ∧
    (Spec.Server.specScan cat cfg.payload req).question =
      (Spec.Server.specScanWith (catKind cfg) cfg.payload req).question ∧
    (Spec.Server.specScan cat cfg.payload req).edns = (Spec.Server.specScanWith (catKind cfg) cfg.payload req).edns ∧
    (Spec.Server.specScan cat cfg.payload req).limitUdp =
      (Spec.Server.specScanWith (catKind cfg) cfg.payload req).limitUdp := by
  obtain ⟨a1, _⟩ := C10_audit_scan_agrees cfg cat req
  obtain ⟨_, _, hind⟩ := ServerContent.specScanWith_tsig_indep
    (fun qn qc => (Spec.Server.specCatalogLookup cat qn qc).map (·.kind)) (catKind cfg) cfg.payload req
  exact ⟨by rw [← a1]; exact h.respond, hind h.verdict⟩

/-- **"the reply fits" on a run** ((1b) with `auditNeed_eq`): a reply whose reserved length is what the audit
    computes for the outcome `o` (`reservedLen_of_decision`) fits the writer before the TSIG
    step iff the audit's `need ≤ limit` -/
private theorem AuditRun.fits_iff
    (h : AuditRun cfg cat tr now req nowT t mw r' question d kn alg rest)
    (hpay : 512 ≤ cfg.payload) (hp16 : cfg.payload ≤ 65535) (o : Spec.ServerTsig.Outcome) (mode : TsigMode) (rr : TsigRr)
    (hres : reservedLen mode rr = kn.wire.length + 10 + alg.wire.length + 16 +
      (macOther ((Spec.Tsig.outputSizeOf alg.labels).getD 0) o).1 +
      (macOther ((Spec.Tsig.outputSizeOf alg.labels).getD 0) o).2) :
    TsigFits (preTsigState cfg tr 65535 req) mode rr ↔
      auditNeed (Spec.Server.specScan cat cfg.payload req)
        ⟨kn.labels, fieldsOf alg.labels rest, mw.toList, o, Spec.ServerTsig.findKey (specKeys cfg.keys) kn.labels⟩ ≤
      auditLimit (Spec.Server.specScan cat cfg.payload req) (decide (tr = .udp)) := by
  obtain ⟨hrM, iq, ie, il⟩ := h.scanM
  rw [auditNeed_eq _ _ iq ie kn alg h.hkn h.halg, auditLimit_eq _ _ il tr, ← hres]
  have := C10_audit_fits cfg tr 65535 req (minBuf_le tr _ hp16) hpay hrM mode rr
  cases tr <;> exact this

/-- the names of the model's record `t` are those of the audit's view in lower case -/
private theorem AuditRun.names
    (h : AuditRun cfg cat tr now req nowT t mw r' question d kn alg rest) :
    (∀ kn', WName.parse t.keyName = some (kn', []) →
      kn'.wire = Tsig.lowerName kn.wire ∧ kn'.wire.length = kn.wire.length) ∧
    (∀ an, WName.parse t.algorithm = some (an, []) →
      an.wire = Tsig.lowerName alg.wire ∧ an.wire.length = alg.wire.length) := by
  rw [h.ht]
  refine ⟨fun kn' hp => ?_, fun an hp => ?_⟩
  · have e : kn'.wire = Tsig.lowerName kn.wire := ServerAnswer.parse_wire _ _ hp
    exact ⟨e, by rw [e]; simp [Tsig.lowerName]⟩
  · have e : an.wire = Tsig.lowerName alg.wire := ServerAnswer.parse_wire _ _ hp
    exact ⟨e, by rw [e]; simp [Tsig.lowerName]⟩

end

open QV.ServerScan in
/-- **audit clause "nofit-\*"** (row 4): when the reply TSIG does not fit, the audit's `fits` is false
    too (`C10_audit_fits`, `reservedLen_of_decision`), and the response — TC set, extended
    RCODE 0, no data, no TSIG record (`C10_decoded_tsig_does_not_fit`, with the OPT's extended-RCODE
    octet 0: `signed_nofit_final_of_run`) — gets no tag -/
theorem C10_audit_nofit (cfg : Cfg) (cat : List Spec.Server.ZoneCfg) (tr : Transport) (now : Nat) (req : Bytes)
    (hpay : 512 ≤ cfg.payload) (hp16 : cfg.payload ≤ 65535)
    {nowT : TimeSigned} {t : ReadTsigRr} {mw : Bytes} {r' : Reader.Reader} {question : Option (WName × Nat × Nat)}
    {d : Spec.Server.Delim} {kn alg : WName} {rest : List UInt8}
    (h : AuditRun cfg cat tr now req nowT t mw r' question d kn alg rest)
    (hrow : ServerContent.RowNoFit cfg tr now 65535 req t mw)
    (b : Bytes) (hb : handleMessage cfg tr now 65535 req = .ok (some b)) (plain : Spec.ServerTsig.Resp) :
    (Spec.ServerTsig.audit hmSpec cat cfg.payload (specKeys cfg.keys) req now (tr = .udp)
      (toResp (handleMessage cfg tr now 65535 req)) plain).1 = [] := by
  obtain ⟨hrM, _⟩ := h.scanM
  rw [audit_eq_of_run h, hb]
  simp only [toResp]
  obtain ⟨nowT', kn', hn', hkn', hnf⟩ := hrow
  rw [h.hnow] at hn'; cases hn'
  have hkw := (h.names.1 kn' hkn').2
  obtain ⟨F, mac, hf, hG, hts, he, hh⟩ := ServerContent.signed_nofit_final_of_run cfg tr now 65535 req (minBuf_le tr _ hp16)
    hpay hp16 hrM t mw r' question h.hrun nowT kn' h.hnow hkn' hnf b hb
  obtain ⟨dm, hdm⟩ := ServerContent.decodes_of_good F _ hG b mac hf
  obtain ⟨r1, r2, _, r4, r5, _, r7⟩ := ServerContent.decoded_nofit F _ (qBody_norecs _) hG hts hh b mac hf dm hdm
  obtain ⟨hq1, hq2, hq3⟩ := qBody_norecs (Spec.Server.specScanWith (catKind cfg) cfg.payload req).question
  obtain ⟨_, c2, _, _⟩ := opt_of_good macFn F _ hG (by rw [hq3]; simp) b mac hf dm hdm
  refine auditResponse_nofit hmSpec _ _ now _ _ _ b plain dm hdm ?_ r1 r2 ?_ ?_ ?_
  · -- does not fit
    obtain ⟨an, rc, mode, rr, go, D, hnfit⟩ := hnf.decided h.hnow hkn'
    have hd := D.dec
    rw [h.ht] at hd
    exact fun hle => hnfit ((h.fits_iff hpay hp16 _ mode rr
      (reservedLen_of_decision kn alg h.halg rest mw.toList hkw (h.names.2 an D.han).1 hd)).mpr hle)
  · exact ServerContent.noData_of_types dm r4 r5 (fun o ho => Or.inl (r7 o ho))
  · -- the OPT's extended-RCODE octet
    intro o ho hty
    obtain ⟨e, hee, _, _, q3⟩ := c2 o ho hty
    rw [he] at hee
    split at hee
    · simp only [Option.some.injEq] at hee; subst hee; rw [q3]; simp
    · cases hee
  · -- no TSIG record
    rw [List.filter_eq_nil_iff]
    intro o ho; simp [r7 o ho]

open QV.ServerScan in
/-- **the audit of a reply that fits, from the decoded response** — what rows 1, 2 and 3 have in common: the
    step has decided `(rc, mode, rr, go)` (`Decided`) and the RR fits, the response is finished from a `Good`
    writer with that TSIG pending, and a decoding `dm` of it has an additional section of address and OPT
    records followed by the TSIG record `o`, read back field by field.  Then every clause of the audit about
    the TSIG record holds — `tsig-missing`, `two-tsig`, `tsig-rdata`, `tsig-not-last`, `tsig-class-ttl`,
    `key-name`, `alg-name`, `fudge`, `original-id`, `id`, `tsig-error-*`, `mac-not-empty`, `mac-length`,
    `response-mac` (`ServerContent.response_mac_audit`), `badtime-other`, `badtime-time-signed`, `other-data`,
    `time-signed` — and what is left is the row's: the RCODE and "no data" of a rejected request (`hR`),
    `notauth-on-authenticated` and "answered normally" of an authenticated one (`hA`). -/
private theorem audit_of_decoded (cfg : Cfg) (cat : List Spec.Server.ZoneCfg) (tr : Transport) (now : Nat)
    (req : Bytes) (hpay : 512 ≤ cfg.payload) (hp16 : cfg.payload ≤ 65535) (hk : KeysOK cfg.keys)
    {nowT : TimeSigned} {t : ReadTsigRr} {mw : Bytes} {r' : Reader.Reader} {question : Option (WName × Nat × Nat)}
    {d : Spec.Server.Delim} {kn alg : WName} {rest : List UInt8}
    (h : AuditRun cfg cat tr now req nowT t mw r' question d kn alg rest)
    {kn' an : WName} {rc : Nat} {mode : TsigMode} {rr : TsigRr} {go : Bool}
    (D : ServerContent.Decided cfg now t mw nowT kn' an rc mode rr go)
    (hfit : TsigFits (preTsigState cfg tr 65535 req) mode rr)
    (F : State) (bd : Body) (hG : Good F bd) (hts : F.tsig = some ⟨mode, reservedLen mode rr, rr⟩)
    (b : Bytes) (hb : handleMessage cfg tr now 65535 req = .ok (some b)) (mac : Option (List UInt8))
    (hf : Writer.finish F macFn = .ok (b, mac)) (plain : Spec.ServerTsig.Resp)
    (dm : Spec.DMsg) (hdm : Spec.specDecodeMsg b = some dm) (restR : List Spec.DRr) (o : Spec.DRr)
    (q1 : dm.ar = restR ++ [o]) (q2 : ∀ x ∈ restR, x.ty = 1 ∨ x.ty = 28 ∨ x.ty = 41)
    (q3 : o.ty = 250) (q4 : o.cls = 255) (q5 : o.rawTtl = 0)
    (q6 : o.owner.map lowerU8 = rr.keyName.wire.map lowerU8)
    (q7 : Spec.Tsig.parseRdata o.rdata = some ⟨(tsigAlgName mode).labels, Spec.Tsig.nat48 rr.timeSigned,
      rr.fudge % 65536, mac.getD [], rr.originalId % 65536, rr.error % 65536,
      if rr.error = XR_BADTIME then rr.serverTime else []⟩)
    (g6 : ∀ x ∈ dm.ar, x.ty = 41 → x.rawTtl / 16777216 = 0)
    (hR : go = false → dm.rcode = rc % 16 ∧ Spec.Server.noData dm = true ∧ dm.tc = false ∧ dm.aa = false)
    (hA : go = true → dm.rcode ≠ 9 ∧
      AnsweredNormally dm (decide (tr = .udp)) (Spec.ServerTsig.plainComparable cat cfg.payload req)
        ((Spec.Tsig.canonName kn.labels).length + 10 + (Spec.Tsig.canonName (fieldsOf alg.labels rest).algName).length + 16 +
        (Spec.Tsig.outputSizeOf (fieldsOf alg.labels rest).algName).getD 0 + 0)
        (if decide (tr = .udp) then (Spec.Server.specScan cat cfg.payload req).limitUdp else 65535) plain) :
    (Spec.ServerTsig.audit hmSpec cat cfg.payload (specKeys cfg.keys) req now (tr = .udp)
      (toResp (handleMessage cfg tr now 65535 req)) plain).1 = [] := by
  rw [audit_eq_of_run h, hb]
  simp only [toResp]
  obtain ⟨hkw, hkl⟩ := h.names.1 kn' D.hkn
  obtain ⟨haw, _⟩ := h.names.2 an D.han
  have hkwf := parse_wf D.hkn
  obtain ⟨_, w2, w1, _, _⟩ := D.wf
  obtain ⟨_, hmacF, _⟩ := finish_octets_tsig macFn F hG.1.inv.hdr _ hts b mac hf
  -- the TSIG record: the only one, the last one, owned by the key name
  rw [w2] at q6
  obtain ⟨rkn, hl1, hl2⟩ := labelsOf_of_lower o.owner kn' hkwf q6
  have hl3 : rkn.map (·.map Spec.Tsig.lower) = kn.labels.map (·.map Spec.Tsig.lower) := by
    rw [hl2]
    exact (labels_lower_iff kn' kn hkwf h.hkn).mpr (by rw [hkw, ServerSafety.lowerName_idem])
  obtain ⟨htsF, hlastT⟩ := tsig_last_unique dm.ar restR o q1
    (fun x hx => by rcases q2 x hx with h1 | h1 | h1 <;> rw [h1] <;> decide) q3
  have hidd := decoded_id_echo cfg tr now 65535 req (minBuf_le tr _ hp16) hpay b hb dm hdm
  have hfa := fieldsAgree_of (Tsig.lowerName kn.wire) alg rest h.h10
  obtain ⟨hmacV, hreq, hoidm⟩ := viewRr_fields kn alg rest h.h10
  have hnow' : Spec.Tsig.nat48 nowT.asSlice = now := by rw [nat48_asSlice, toUnix_tryFromUnix now nowT h.hnow]
  have e18 : Writer.XR_BADTIME = 18 := by decide
  -- the decision in the audit's words, for whatever outcome `oc` the model has
  have hd := D.dec
  rw [h.ht] at hd
  have hfit' := (h.fits_iff hpay hp16 _ mode rr (reservedLen_of_decision kn alg h.halg rest mw.toList hkl haw hd)).mp hfit
  obtain ⟨hgo, hrr, hrc, halgw, hsig, hunsig⟩ := decision_view kn alg rest mw.toList haw hd rfl
  have halgL : (tsigAlgName mode).labels.map (·.map Spec.Tsig.lower) = alg.labels.map (·.map Spec.Tsig.lower) :=
    (labels_lower_iff _ alg w1 h.halg).mpr (by rw [halgw, ServerSafety.lowerName_idem])
  have hbt := expErr_badTime (modelOutcome cfg.keys nowT kn alg rest mw.toList)
  have hel := expErr_le (modelOutcome cfg.keys nowT kn alg rest mw.toList)
  have hrl := expRc_le (modelOutcome cfg.keys nowT kn alg rest mw.toList)
  generalize modelOutcome cfg.keys nowT kn alg rest mw.toList = oc at *
  have hgof : oc ≠ .authenticated → go = false := fun hn => Bool.eq_false_iff.mpr (fun e => hn (hgo.mp e))
  subst hrr
  refine auditResponse_fits hmSpec _ _ _ _ oc _ now _ _ _ b plain dm o _ rkn hdm hfit'
    htsF q7 hl1 hlastT q4 q5 hl3 halgL rfl hoidm hidd (Nat.mod_eq_of_lt (by show expErr oc < 65536; omega)) g6
    (fun hn => by rw [(hR (hgof hn)).1, ← hrc (hgof hn)]; exact Nat.mod_eq_of_lt (by rw [hrc (hgof hn)]; omega))
    (fun ha => (hA (hgo.mpr ha)).1) (fun h1 h2 => ?_) (fun hs => ?_) (fun hn => ⟨?_, ?_⟩) (fun hn => ⟨?_, ?_⟩)
    (fun hn => (hR (hgof hn)).2) (fun ha => (hA (hgo.mpr ha)).2)
  · -- unsigned: no MAC
    obtain ⟨n, rfl⟩ := hunsig h1 h2
    rw [hmacF]; rfl
  · -- the MAC of a signed reply
    obtain ⟨a, key, ha, hkey, rfl⟩ := hsig hs
    have hlowk : Tsig.lowerName kn'.wire = kn'.wire := by rw [hkw, ServerSafety.lowerName_idem]
    have wf := prepOf_wf kn' (viewRr kn alg rest) nowT (expErr oc) (ServerContent.labels_lower_of_wire kn' hkwf hlowk)
      (by omega)
    obtain ⟨hlen, k, hfk, hall⟩ := ServerContent.response_mac_audit cfg.keys hk kn h.hkn a key hkey
      F _ hG _ wf _ hreq _ hts b mac hf dm hdm restR o q1
    refine ⟨?_, k, hfk, ?_⟩
    · show (mac.getD []).length = (Spec.Tsig.outputSizeOf alg.labels).getD 0
      rw [hlen, outputSizeOf_view alg h.halg, ha]; rfl
    · rw [← hmacV]
      exact hall rkn hl2
  · show (if expErr oc = XR_BADTIME then nowT.asSlice else []) = []
    rw [e18, if_neg (fun e => hn (hbt.mp e))]
  · show Spec.Tsig.nat48 (if expErr oc = 18 then _ else nowT.asSlice) = now
    rw [if_neg (fun e => hn (hbt.mp e)), hnow']
  · show (if expErr oc = XR_BADTIME then nowT.asSlice else []) = Spec.Tsig.u48 now
    rw [e18, if_pos (hbt.mpr hn), Tsig.asSlice_eq_spec, toUnix_tryFromUnix now nowT h.hnow]
  · show Spec.Tsig.nat48 (if expErr oc = 18 then (ReadTsigRr.timeSigned (viewRr kn alg rest)).asSlice else _) = _
    rw [if_pos (hbt.mpr hn), nat48_asSlice, hfa.time]; rfl

open QV.ServerScan in
/-- **audit of a rejected request whose reply fits** (row 1: BADKEY, FORMERR, BADSIG unsigned; BADTIME
    signed): the audit returns no tag — `tsig-missing`, `two-tsig`, `tsig-rdata`, `tsig-not-last`,
    `tsig-class-ttl`, `key-name`, `alg-name`, `fudge`, `original-id`, `id`, `tsig-error-*`, `rcode-*`,
    `mac-not-empty`, `mac-length`, `response-mac` (`ServerContent.response_mac_audit`: the MAC is the
    HMAC, under the audit's own key, of the RFC 8945 §4.3 digest input over the octets before the
    decoded TSIG record), `badtime-other`, `badtime-time-signed`, `other-data`, `time-signed`,
    `data-in-unauthenticated`, `tc-in-error`, `aa-in-error` never arise -/
theorem C10_audit_rejected (cfg : Cfg) (cat : List Spec.Server.ZoneCfg) (tr : Transport) (now : Nat) (req : Bytes)
    (hpay : 512 ≤ cfg.payload) (hp16 : cfg.payload ≤ 65535) (hk : KeysOK cfg.keys)
    {nowT : TimeSigned} {t : ReadTsigRr} {mw : Bytes} {r' : Reader.Reader} {question : Option (WName × Nat × Nat)}
    {d : Spec.Server.Delim} {kn alg : WName} {rest : List UInt8}
    (h : AuditRun cfg cat tr now req nowT t mw r' question d kn alg rest)
    (hrow : ServerContent.RowRejected cfg tr now 65535 req t mw)
    (b : Bytes) (hb : handleMessage cfg tr now 65535 req = .ok (some b)) (plain : Spec.ServerTsig.Resp) :
    (Spec.ServerTsig.audit hmSpec cat cfg.payload (specKeys cfg.keys) req now (tr = .udp)
      (toResp (handleMessage cfg tr now 65535 req)) plain).1 = [] := by
  obtain ⟨hrM, _⟩ := h.scanM
  obtain ⟨nowT', kn', an, rc, mode, rr, hn', hkn', han, hrep, hfit⟩ := hrow
  rw [h.hnow] at hn'; cases hn'
  obtain ⟨F, mac, hf, hG, hts, he, _, hh⟩ := ServerContent.signed_error_final_of_run cfg tr now 65535 req
    (minBuf_le tr _ hp16) hpay hp16 hrM t mw r' question h.hrun nowT kn' an rc mode rr h.hnow hkn' han hrep hfit b hb
  have D : ServerContent.Decided cfg now t mw nowT kn' an rc mode rr false := ⟨h.hnow, hkn', han, tsigDecision_stop hrep⟩
  obtain ⟨_, _, w1, w3, w4⟩ := D.wf
  obtain ⟨dm, hdm⟩ := ServerContent.decodes_of_good F _ hG b mac hf
  obtain ⟨g1, g2, g3, g4, g5, g6, restR, o, q1, q2, q3, q4, q5, q6, q7⟩ :=
    ServerContent.decoded_nodata_tsig F _ hG ⟨mode, reservedLen mode rr, rr⟩ hts w1 w3 w4 _ cfg.payload he _ hh
      b mac hf dm hdm
  have hnd : Spec.Server.noData dm = true := ServerContent.noData_of_types dm g4 g5 (fun x hx => by
    rw [q1] at hx
    rcases List.mem_append.mp hx with hx | hx
    · exact Or.inl (q2 x hx)
    · rw [List.mem_singleton.mp hx]; exact Or.inr q3)
  exact audit_of_decoded cfg cat tr now req hpay hp16 hk h D hfit F _ hG hts b hb mac hf plain dm hdm restR o q1
    (fun x hx => Or.inr (Or.inr (q2 x hx))) q3 q4 q5 q6 q7 g6 (fun _ => ⟨g1, hnd, g3, g2⟩) (fun e => by cases e)


open QV.ServerScan in
/-- **audit of an authenticated request with a no-data verdict** (row 2: FORMERR after the TSIG record,
    NOTIMP, REFUSED, SERVFAIL for a zone not loaded), the clause "answered normally" being the
    hypothesis `hdata`: all the other clauses hold — `tsig-missing`, `two-tsig`, `tsig-rdata`,
    `tsig-not-last`, `tsig-class-ttl`, `key-name`, `alg-name`, `fudge`, `original-id`, `id`,
    `tsig-error-*`, `notauth-on-authenticated`, `mac-length`, `response-mac`, `other-data`,
    `time-signed` never arise -/
theorem C10_audit_authenticated_nodata (cfg : Cfg) (cat : List Spec.Server.ZoneCfg) (tr : Transport) (now : Nat)
    (req : Bytes) (hpay : 512 ≤ cfg.payload) (hp16 : cfg.payload ≤ 65535) (hk : KeysOK cfg.keys)
    {nowT : TimeSigned} {t : ReadTsigRr} {mw : Bytes} {r' : Reader.Reader} {question : Option (WName × Nat × Nat)}
    {d : Spec.Server.Delim} {kn alg : WName} {rest : List UInt8}
    (h : AuditRun cfg cat tr now req nowT t mw r' question d kn alg rest)
    (hrow : ServerContent.RowAuthNoData cfg tr now 65535 req t mw r')
    (b : Bytes) (hb : handleMessage cfg tr now 65535 req = .ok (some b)) (plain : Spec.ServerTsig.Resp)
    (hdata : ∀ dm v, Spec.specDecodeMsg b = some dm →
      (v = Spec.Server.Verdict.formErr ∨ v = .notImp ∨ v = .refused ∨ v = .servFailZone) →
      endVerdict (catKind cfg) req.size (Spec.Server.specScanWith (catKind cfg) cfg.payload req).question
        r'.cursor ((req.getD 2 0).toNat / 8 % 16) = v →
      dm.rcode = (Spec.Server.verdictRcode v).1 % 16 → dm.aa = false → dm.tc = false → dm.an = [] → dm.ns = [] →
      (∀ x ∈ dm.ar, x.ty = 41 ∨ x.ty = 250) →
      AnsweredNormally dm (decide (tr = .udp)) (Spec.ServerTsig.plainComparable cat cfg.payload req)
        ((Spec.Tsig.canonName kn.labels).length + 10 + (Spec.Tsig.canonName (fieldsOf alg.labels rest).algName).length + 16 +
        (Spec.Tsig.outputSizeOf (fieldsOf alg.labels rest).algName).getD 0 + 0)
        (if decide (tr = .udp) then (Spec.Server.specScan cat cfg.payload req).limitUdp else 65535) plain) :
    (Spec.ServerTsig.audit hmSpec cat cfg.payload (specKeys cfg.keys) req now (tr = .udp)
      (toResp (handleMessage cfg tr now 65535 req)) plain).1 = [] := by
  obtain ⟨hrM, _⟩ := h.scanM
  obtain ⟨r'', S, v, hT, hvv, hev⟩ := hrow
  obtain ⟨nowT', a, key, kn', F, mac, e1, e2, e3, e4, e5, hfit, hf, hG, hts, he, _, hh⟩ :=
    ServerContent.signed_nodata_final_of_run cfg tr now 65535 req (minBuf_le tr _ hp16) hpay hp16 hrM t mw r' question
      h.hrun r'' S hT v hvv hev b hb
  rw [h.hnow] at e1; cases e1
  obtain ⟨l1, l2⟩ := prepOf_lengths kn' t nowT 0
  obtain ⟨dm, hdm⟩ := ServerContent.decodes_of_good F _ hG b mac hf
  obtain ⟨g1, g2, g3, g4, g5, g6, restR, o, q1, q2, q3, q4, q5, q6, q7⟩ :=
    ServerContent.decoded_nodata_tsig F _ hG _ hts (algName_wf _) l1 l2 _ cfg.payload he _ hh b mac hf dm hdm
  obtain ⟨an, han⟩ := fromName_parses _ _ e2
  refine audit_of_decoded cfg cat tr now req hpay hp16 hk h ⟨h.hnow, e4, han, tsigDecision_auth e2 e3 e5⟩ hfit F _ hG hts
    b hb mac hf plain dm hdm restR o q1 (fun x hx => Or.inr (Or.inr (q2 x hx))) q3 q4 q5 q6 q7 g6 (fun e => by cases e)
    (fun _ => ⟨?_, hdata dm v hdm hvv hev g1 g2 g3 g4 g5 (fun x hx => by
      rw [q1] at hx
      rcases List.mem_append.mp hx with hx | hx
      · exact Or.inl (q2 x hx)
      · simp only [List.mem_singleton] at hx; subst hx; exact Or.inr q3)⟩)
  rw [g1]; rcases hvv with rfl | rfl | rfl | rfl <;> decide

open QV.ServerScan in
/-- **audit of an authenticated request that a loaded zone answers** (row 3), the second half of the
    clause "answered normally" — the comparison with the response to the stripped request when neither
    response is truncated — being the hypothesis `hB`: all the other clauses hold.  `tsig-missing`,
    `two-tsig`, `tsig-rdata`, `tsig-not-last`, `tsig-class-ttl`, `key-name`, `alg-name`, `fudge`,
    `original-id`, `id`, `tsig-error-*`, `notauth-on-authenticated` (the RCODE is 0, 2 or 3:
    `view_handle_flags`), `mac-length`, `response-mac`, `other-data`, `time-signed` never arise, the
    extended-RCODE octet of the OPT is 0 (`ednsUp0_handleNonAxfrQueryL`), and the first half of "answered
    normally" holds: TC is set only over UDP and then the response carries no data (`tc-over-tcp`,
    `tc-with-data` never arise).  (`ServerContent.signed_answer_facts_of_run`, `decoded_answer_tsig`.) -/
theorem C10_audit_authenticated_answer (cfg : Cfg) (hcfg : ServerSafety.CfgWF cfg) (cat : List Spec.Server.ZoneCfg)
    (tr : Transport) (now : Nat)
    (req : Bytes) (hpay : 512 ≤ cfg.payload) (hp16 : cfg.payload ≤ 65535) (hk : KeysOK cfg.keys)
    {nowT : TimeSigned} {t : ReadTsigRr} {mw : Bytes} {r' : Reader.Reader} {question : Option (WName × Nat × Nat)}
    {d : Spec.Server.Delim} {kn alg : WName} {rest : List UInt8}
    (h : AuditRun cfg cat tr now req nowT t mw r' question d kn alg rest)
    (hrow : ServerContent.RowAuthAnswer cfg tr now 65535 req t mw r')
    (b : Bytes) (hb : handleMessage cfg tr now 65535 req = .ok (some b)) (plain : Spec.ServerTsig.Resp)
    (hB : ∀ dm pb pd, Spec.specDecodeMsg b = some dm → plain = .bytes pb → Spec.specDecodeMsg pb = some pd →
      dm.tc = false → pd.tc = false → Spec.ServerTsig.plainComparable cat cfg.payload req = true →
      pb.size + ((Spec.Tsig.canonName kn.labels).length + 10 + (Spec.Tsig.canonName (fieldsOf alg.labels rest).algName).length + 16 +
        (Spec.Tsig.outputSizeOf (fieldsOf alg.labels rest).algName).getD 0 + 0) ≤
        (if decide (tr = .udp) then (Spec.Server.specScan cat cfg.payload req).limitUdp else 65535) → (pd.rcode = 2 → dm.rcode = 2) →
      dm.rcode = pd.rcode ∧ dm.aa = pd.aa ∧
      Spec.ServerTsig.sameMultiset (dm.an.map Spec.ServerTsig.rrKey) (pd.an.map Spec.ServerTsig.rrKey) = true ∧
      Spec.ServerTsig.sameMultiset (dm.ns.map Spec.ServerTsig.rrKey) (pd.ns.map Spec.ServerTsig.rrKey) = true ∧
      Spec.ServerTsig.subMultiset (Spec.ServerTsig.plainRrs dm.ar) (Spec.ServerTsig.plainRrs pd.ar) = true) :
    (Spec.ServerTsig.audit hmSpec cat cfg.payload (specKeys cfg.keys) req now (tr = .udp)
      (toResp (handleMessage cfg tr now 65535 req)) plain).1 = [] := by
  obtain ⟨hrM, _⟩ := h.scanM
  obtain ⟨r'', S, hT, hev⟩ := hrow
  obtain ⟨nowT', a, key, kn', F, mac, bd, vw, e1, e2, e3, e4, e5, hfit, hf, hG, _, hty, hbv, hh, hrc3, htcv, hts, he, hup⟩ :=
    ServerContent.signed_answer_facts_of_run cfg hcfg tr now 65535 req (minBuf_le tr _ hp16) hpay hp16 hrM t mw r' question
      h.hrun r'' S hT hev b hb
  rw [h.hnow] at e1; cases e1
  obtain ⟨l1, l2⟩ := prepOf_lengths kn' t nowT 0
  obtain ⟨dm, hdm⟩ := ServerContent.decodes_of_good F _ hG b mac hf
  obtain ⟨g1, g2, g3, g4, g5, g6, ar', opt, o, q1, qA, qT, qO, q3, q4, q5, q6, q7⟩ :=
    ServerContent.decoded_answer_tsig F bd vw hG hty hbv hh _ hts (algName_wf _) l1 l2 hup b mac hf dm hdm
  obtain ⟨an, han⟩ := fromName_parses _ _ e2
  refine audit_of_decoded cfg cat tr now req hpay hp16 hk h ⟨h.hnow, e4, han, tsigDecision_auth e2 e3 e5⟩ hfit F _ hG hts
    b hb mac hf plain dm hdm (ar' ++ opt) o q1 (fun x hx => ?_) q3 q4 q5 q6 q7 g6 (fun e => by cases e) (fun _ => ⟨?_, ?_⟩)
  · rcases List.mem_append.mp hx with hx | hx
    · rcases qT x hx with h1 | h1
      · exact Or.inl h1
      · exact Or.inr (Or.inl h1)
    · exact Or.inr (Or.inr (qO x hx))
  · rw [g1]; rcases hrc3 with h0 | h0 | h0 <;> rw [h0] <;> decide
  · -- "answered normally": TC only over UDP and then without data; the comparison is `hB`
    intro pb pd hpl hpd
    refine ⟨fun htc => ?_, fun htc hptc hcmp hroom hrc2 => hB dm pb pd hdm hpl hpd htc hptc hcmp hroom hrc2⟩
    rw [g3] at htc
    obtain ⟨t1, t2, t3, t4⟩ := htcv htc
    rw [t2] at g4; rw [t3] at g5; rw [t4] at qA
    have ean : dm.an = [] := List.length_eq_zero_iff.mp g4.length.symm
    have ens : dm.ns = [] := List.length_eq_zero_iff.mp g5.length.symm
    have ear : ar' = [] := List.length_eq_zero_iff.mp qA.length.symm
    refine ⟨by rw [t1]; rfl, ServerContent.noData_of_types dm ean ens (fun x hx => ?_)⟩
    rw [q1, ear, List.nil_append] at hx
    rcases List.mem_append.mp hx with hx | hx
    · exact Or.inl (qO x hx)
    · rw [List.mem_singleton.mp hx]; exact Or.inr q3

open QV.ServerScan in
/-- **row 2 passes the audit**: an authenticated request with a no-data verdict, `plain` being the
    response to the request without its TSIG record — "answered normally" included
    (`plain_nodata_of_comparable`: under the audit's guard the stripped request gets the unsigned
    no-data response of the same verdict) -/
theorem C10_audit_row2 (cfg : Cfg) (cat : List Spec.Server.ZoneCfg) (tr : Transport) (now : Nat)
    (req : Bytes) (hpay : 512 ≤ cfg.payload) (hp16 : cfg.payload ≤ 65535) (hreq : req.size ≤ Rdata.USIZE_MAX)
    (hk : KeysOK cfg.keys)
    {nowT : TimeSigned} {t : ReadTsigRr} {mw : Bytes} {r' : Reader.Reader} {question : Option (WName × Nat × Nat)}
    {d : Spec.Server.Delim} {kn alg : WName} {rest : List UInt8}
    (h : AuditRun cfg cat tr now req nowT t mw r' question d kn alg rest)
    (hrow : ServerContent.RowAuthNoData cfg tr now 65535 req t mw r')
    (b : Bytes) (hb : handleMessage cfg tr now 65535 req = .ok (some b)) :
    (Spec.ServerTsig.audit hmSpec cat cfg.payload (specKeys cfg.keys) req now (tr = .udp)
      (toResp (handleMessage cfg tr now 65535 req))
      (match Spec.ServerTsig.stripTsigRr req with
        | some p => toResp (handleMessage cfg tr now 65535 p)
        | none => .none)).1 = [] := by
  refine C10_audit_authenticated_nodata cfg cat tr now req hpay hp16 hk h hrow b hb _ ?_
  intro dm v hdm hvv hev hrc haa htc han hns har pb pd hplain hpd
  refine ⟨fun hc => (by rw [htc] at hc; cases hc), fun _ hptc hcmp _ _ => ?_⟩
  obtain ⟨_, iq, _, _⟩ := h.scanM
  rw [h.hcur] at hev
  obtain ⟨p, hstrip, pb', hpb', hall⟩ := plain_nodata_of_comparable cfg cat tr now req hpay hp16 hreq d h.hfind h.hpos
    h.hdsz h.hnext h.hnsz iq v hvv hev hcmp
  rw [hstrip] at hplain
  simp only [hpb', toResp, Spec.ServerTsig.Resp.bytes.injEq] at hplain
  subst hplain
  obtain ⟨p1, p2, p3, p4, _⟩ := hall pd hpd
  refine ⟨by rw [hrc, p3], by rw [haa, p4], by rw [han, p1]; rfl, by rw [hns, p2]; rfl, ?_⟩
  have : Spec.ServerTsig.plainRrs dm.ar = [] := by
    unfold Spec.ServerTsig.plainRrs
    rw [List.map_eq_nil_iff, List.filter_eq_nil_iff]
    intro x hx
    rcases har x hx with h1 | h1 <;> simp [h1]
  rw [this]; rfl

/-! ## (n) the walk assembled -/

open QV.ServerScan in
/-- **row 3** of `C10_full` — an authenticated request that a loaded zone answers passes
    the audit (`plain` being the response to the request without its TSIG record) -/
def C10_row3 : Prop :=
  ∀ (cfg : Cfg) (cat : List Spec.Server.ZoneCfg) (tr : Transport) (now : Nat) (req : Bytes),
    now < 2 ^ 48 → ServerSafety.CfgWF cfg → ZonesTyped cfg → 512 ≤ cfg.payload → cfg.payload ≤ 65535 →
    req.size ≤ Rdata.USIZE_MAX → KeysOK cfg.keys →
    ∀ (nowT : TimeSigned) (t : ReadTsigRr) (mw : Bytes) (r' : Reader.Reader) (question : Option (WName × Nat × Nat))
      (d : Spec.Server.Delim) (kn alg : WName) (rest : List UInt8),
      AuditRun cfg cat tr now req nowT t mw r' question d kn alg rest →
      ServerContent.RowAuthAnswer cfg tr now 65535 req t mw r' →
      ∀ b, handleMessage cfg tr now 65535 req = .ok (some b) →
        (Spec.ServerTsig.audit hmSpec cat cfg.payload (specKeys cfg.keys) req now (tr = .udp)
          (toResp (handleMessage cfg tr now 65535 req))
          (match Spec.ServerTsig.stripTsigRr req with
            | some p => toResp (handleMessage cfg tr now 65535 p)
            | none => .none)).1 = []

open QV.ServerScan in
/-- the one clause of row 3 that `C10_audit_authenticated_answer` leaves: the comparison of the decoded
    response with the decoded response to the request without its TSIG record, when neither is
    truncated and the audit's guard `plainComparable` holds — same RCODE and AA, answer and authority
    sections equal as multisets, own additional records a sub-multiset.
    (With the audit's two further guards as premises — the plain response leaves room for the TSIG RR;
    not "plain SERVFAIL, signed not" — without which the statement is false: see the header, guards of the
    oracle, F1–F3.) -/
def C10_row3_compare : Prop :=
  ∀ (cfg : Cfg) (cat : List Spec.Server.ZoneCfg) (tr : Transport) (now : Nat) (req : Bytes),
    now < 2 ^ 48 → ServerSafety.CfgWF cfg → ZonesTyped cfg → 512 ≤ cfg.payload → cfg.payload ≤ 65535 →
    req.size ≤ Rdata.USIZE_MAX → KeysOK cfg.keys →
    ∀ (nowT : TimeSigned) (t : ReadTsigRr) (mw : Bytes) (r' : Reader.Reader) (question : Option (WName × Nat × Nat))
      (d : Spec.Server.Delim) (kn alg : WName) (rest : List UInt8),
      AuditRun cfg cat tr now req nowT t mw r' question d kn alg rest →
      ServerContent.RowAuthAnswer cfg tr now 65535 req t mw r' →
      ∀ b, handleMessage cfg tr now 65535 req = .ok (some b) →
        ∀ dm pb pd, Spec.specDecodeMsg b = some dm →
          (match Spec.ServerTsig.stripTsigRr req with
            | some p => toResp (handleMessage cfg tr now 65535 p)
            | none => .none) = .bytes pb →
          Spec.specDecodeMsg pb = some pd →
          dm.tc = false → pd.tc = false → Spec.ServerTsig.plainComparable cat cfg.payload req = true →
      pb.size + ((Spec.Tsig.canonName kn.labels).length + 10 + (Spec.Tsig.canonName (fieldsOf alg.labels rest).algName).length + 16 +
        (Spec.Tsig.outputSizeOf (fieldsOf alg.labels rest).algName).getD 0 + 0) ≤
        (if decide (tr = .udp) then (Spec.Server.specScan cat cfg.payload req).limitUdp else 65535) → (pd.rcode = 2 → dm.rcode = 2) →
          dm.rcode = pd.rcode ∧ dm.aa = pd.aa ∧
          Spec.ServerTsig.sameMultiset (dm.an.map Spec.ServerTsig.rrKey) (pd.an.map Spec.ServerTsig.rrKey) = true ∧
          Spec.ServerTsig.sameMultiset (dm.ns.map Spec.ServerTsig.rrKey) (pd.ns.map Spec.ServerTsig.rrKey) = true ∧
          Spec.ServerTsig.subMultiset (Spec.ServerTsig.plainRrs dm.ar) (Spec.ServerTsig.plainRrs pd.ar) = true

open QV.ServerScan in
/-- **row 3 reduced to the comparison with the plain response**: every other clause of the audit holds
    for an authenticated request that a loaded zone answers (`C10_audit_authenticated_answer`) -/
theorem C10_row3_of_compare (hc : C10_row3_compare) : C10_row3 := by
  intro cfg cat tr now req hnow hcfg hzt hpay hp16 hreq hk nowT t mw r' question d kn alg rest h hrow b hb
  exact C10_audit_authenticated_answer cfg hcfg cat tr now req hpay hp16 hk h hrow b hb _
    (fun dm pb pd hdm hpl hpd htc hptc hcmp hroom hrc2 =>
      hc cfg cat tr now req hnow hcfg hzt hpay hp16 hreq hk nowT t mw r' question d kn alg rest h hrow b hb dm pb pd
        hdm hpl hpd htc hptc hcmp hroom hrc2)

open QV.ServerScan in
/-- **the comparison clause**, from `ServerContent.compare_core`: the two runs start from the same scan
    state (`plain_answer_run`), the signed run shows the same view as the plain one under the clause's
    guards (`twin_view`, through `twin_compare`), the guards on the decodings are the guards on the views, the room
    the audit computes is the writer's, and the decoder congruence is `decodeCongrT`
    (Proofs/ServerDecodeCongr.lean).  The writer fact `hSI` (next to a state satisfying the writer's
    invariant, with a valid hint, a writer call of the answering phase does not read octets at or above
    the cursor) is a parameter here; `theorem C10` supplies it: `ServerContent.scratchIndepI`
    (Proofs/ServerScratchIndep.lean). -/
theorem C10_row3_compare_of (hSI : ServerContent.ScratchIndepI) : C10_row3_compare := by
  intro cfg cat tr now req hnow hcfg hzt hpay hp16 hreq hk nowT t mw r' question d kn alg rest h hrow b hb dm pb pd
    hdm hpl hpd htc hptc hcmp hroom hrc2
  obtain ⟨hrM, iq, ie, il⟩ := h.scanM
  -- the run has decided "authenticated" and the response TSIG fits
  have h3 : 3 < (preTsigState cfg tr 65535 req).octets.size := by
    have := ServerScan.preTsig_size cfg tr 65535 req (minBuf_le tr _ hp16) hpay hrM; omega
  have ⟨r'', S, hT, _⟩ := hrow
  obtain ⟨nowT', kn', an, rc, mode, rr, go, D⟩ := ServerContent.decided_of_ok r' _ h3 _ S hT
  obtain ⟨⟨rfl, hfits⟩, hev⟩ := (ServerContent.rows_of_decided cfg tr now 65535 req t mw r' D h3).2.2.2.mp hrow
  rcases tsigDecision_inv D.dec with ⟨hg, _⟩ | ⟨_, a, key, e2, _, _, rfl, rfl, rfl⟩
  · cases hg
  refine ServerContent.compare_core hSI cfg hcfg hzt cat tr now req (minBuf_le tr _ hp16) hpay hp16 hreq hrM iq ie il
    t mw r' question h.hrun D hfits hev b hb d h.hfind h.hpos h.hdsz h.hnext h.hnsz h.hcur hcmp pb ?_ dm pd hdm hpd
    htc hptc ?_ hrc2
  · intro p hp
    rw [hp] at hpl
    simp only at hpl
    rcases hm : handleMessage cfg tr now 65535 p with (_ | bb) | x | _
    · rw [hm] at hpl; simp [toResp] at hpl
    · rw [hm] at hpl; simp only [toResp, Spec.ServerTsig.Resp.bytes.injEq] at hpl; rw [hpl]
    · rw [hm] at hpl; simp [toResp] at hpl
    · rw [hm] at hpl; simp [toResp] at hpl
  · have hkl := (h.names.1 kn' D.hkn).2
    have hd := D.dec
    rw [h.ht] at hd
    have hres := reservedLen_of_decision kn alg h.halg rest mw.toList hkl (h.names.2 an D.han).1 hd
    rw [modelOutcome_of_decision kn alg rest mw.toList hd, if_pos rfl, ← h.ht] at hres
    rw [hres]
    have e0 : (fieldsOf alg.labels rest).algName = alg.labels := rfl
    rw [e0, canonName_length kn h.hkn, canonName_length alg h.halg] at hroom
    simp only [macOther]
    rw [← il]
    cases tr with
    | udp => simp only [decide_true, if_true] at hroom; unfold ServerContent.limOf; omega
    | tcp =>
      have : decide (Transport.tcp = Transport.udp) = false := by decide
      simp only [this, Bool.false_eq_true, if_false] at hroom
      unfold ServerContent.limOf; omega

open QV.ServerScan in
/-- **`C10_full` from row 3**: requests that do not reach a TSIG record (`C10_audit_pre_tsig`), rejected
    requests (`C10_audit_rejected`), authenticated requests with a no-data verdict (`C10_audit_row2`)
    and replies whose TSIG does not fit (`C10_audit_nofit`) pass the audit; the rows are exhaustive
    (`C10_rows_exhaustive`) — so `C10_full` holds as soon as row 3 does -/
theorem C10_of_row3 (h3 : C10_row3) : C10_full := by
  intro cfg cat tr now req hnow hcfg hzt hpay hp16 hreq hk
  simp only
  by_cases hr : (Spec.Server.specScan cat cfg.payload req).respond = true
  · by_cases hv : (Spec.Server.specScan cat cfg.payload req).verdict = .tsigReached
    · obtain ⟨nowT, t, mw, r', question, d, kn, alg, rest, h⟩ :=
        auditRun_exists cfg cat tr now req hnow hpay hp16 hreq hk hr hv
      obtain ⟨hrM, _, _, _⟩ := h.scanM
      obtain ⟨b, hb⟩ := ServerScan.response_exists cfg hcfg tr now 65535 req (minBuf_le tr _ hp16) hpay hreq
        hnow hrM
      obtain ⟨hrows, _⟩ := C10_rows_exhaustive cfg tr now 65535 req (minBuf_le tr _ hp16) hpay hrM t mw r' question
        h.hrun b hb
      rcases hrows with h1 | h2 | h3' | h4
      · exact C10_audit_rejected cfg cat tr now req hpay hp16 hk h h1 b hb _
      · exact C10_audit_row2 cfg cat tr now req hpay hp16 hreq hk h h2 b hb
      · exact h3 cfg cat tr now req hnow hcfg hzt hpay hp16 hreq hk nowT t mw r' question d kn alg rest h h3' b hb
      · exact C10_audit_nofit cfg cat tr now req hpay hp16 h h4 b hb _
    · exact C10_audit_pre_tsig cfg hcfg cat tr now req hpay hp16 hreq _ (Or.inr hv)
  · exact C10_audit_pre_tsig cfg hcfg cat tr now req hpay hp16 hreq _
      (Or.inl (by cases hh : (Spec.Server.specScan cat cfg.payload req).respond <;> simp_all))

/-- `C10_full` with the writer fact `ScratchIndepI` as a parameter; `theorem C10` below supplies
    `scratchIndepI`. -/
theorem C10_full_of (hSI : ServerContent.ScratchIndepI) : C10_full :=
  C10_of_row3 (C10_row3_of_compare (C10_row3_compare_of hSI))

/-! ## non-vacuity: concrete instances of the hypotheses used above -/

/-- a writer as `handle_message` sets it up over TCP (65535 zeroed octets, header only) -/
def exState : State :=
  { octets := Array.replicate 65535 0, cursor := 12, limit := 65535, available := 65535, rrStart := 12,
    sect := .question, qdcount := 0, ancount := 0, nscount := 0, arcount := 0, qname := none,
    mostRecentOwner := none, mostRecentNameInRdata := none, mode := .standard, edns := none, tsig := none }

example : 12 ≤ exState.octets.size ∧ NoRecords exState ∧ exState.tsig = none := by
  refine ⟨by simp [exState], ⟨rfl, rfl, rfl⟩, rfl⟩

example : FreshTcp exState := by
  refine ⟨by simp [exState], ?_, rfl, rfl, Or.inl ⟨rfl, rfl, rfl⟩⟩
  simp [TcClear, getBit, Writer.hdr, exState, Gen.TC_BYTE]

/-- the same writer over UDP with a long question: 512 octets, cursor at 280 — a TSIG RR with a
    255-octet key name does not fit (the D03 shape), one with a short key name does -/
def exUdp : State := { exState with limit := 512, available := 512, cursor := 280, rrStart := 280 }

/-- key name `key.` and the TSIG RR of a request signed with HMAC-SHA256 -/
def exKn : WName := ⟨[[107, 101, 121]]⟩
def exRr : ReadTsigRr :=
  readOf [3, 107, 101, 121, 0] (Algorithm.name .HmacSha256) ⟨0, 0, 0x5f, 0x5e, 0x10, 0⟩ 300
    (List.replicate 32 7) 1 0 []
def exNow : TimeSigned := ⟨0, 0, 0x5f, 0x5e, 0x10, 100⟩

example : WName.parse exRr.keyName = some (exKn, []) := by decide
example : WName.parse exRr.algorithm = some (algName .hmacSha256, []) := by decide +kernel
example : lowerName exRr.algorithm = exRr.algorithm := by decide
example : exRr.mac.length = exRr.macSize := by
  show (readOf _ _ _ _ _ _ _ _).mac.length = _
  rw [readOf_mac]; rfl
example : Abstracts exRr.vars
    { keyName := [[107, 101, 121]], algName := [[104, 109, 97, 99, 45, 115, 104, 97, 50, 53, 54]],
      timeSigned := 1600000000, fudge := 300, error := 0, other := [] } := by
  show Abstracts (readOf _ _ _ _ _ _ _ _).vars _
  rw [readOf_vars]
  exact ⟨by decide, by decide, rfl, rfl, by decide, by decide, by decide, by decide⟩
example : MsgOk [0, 1, 0, 0, 0, 1, 0, 0, 0, 0, 0, 1, 0, 0, 1, 0, 1] := by decide

/-- all three rows of the lookup part of the table are inhabited -/
example : Algorithm.fromName [3, 109, 100, 53, 0] = none := by decide
example : Algorithm.fromName exRr.algorithm = some .HmacSha256 := by decide
example : findKey [] exRr.keyName .HmacSha256 = none := rfl
example : findKey [⟨[3, 107, 101, 121, 0], .HmacSha1, [1, 2, 3]⟩] exRr.keyName .HmacSha256 = none := by decide
example : findKey [⟨[3, 107, 101, 121, 0], .HmacSha256, [1, 2, 3]⟩] exRr.keyName .HmacSha256 =
    some ⟨[3, 107, 101, 121, 0], .HmacSha256, [1, 2, 3]⟩ := rfl

/-- fits / does not fit -/
example : TsigFits exState (.response .hmacSha256 exRr.mac [1, 2, 3]) (prepOf exKn exRr exNow 0) := by
  refine ⟨rfl, ?_, by decide⟩
  show 12 + (exKn.wire.length + (algName .hmacSha256).wire.length + 26 + 0 + 32) ≤ 65535
  have h1 : (algName .hmacSha256).wire.length ≤ 255 := algName_wire_le _
  have h2 : exKn.wire.length = 5 := by decide
  generalize (algName .hmacSha256).wire.length = a at h1 ⊢
  generalize exKn.wire.length = k at h2 ⊢
  omega

example (long : WName) (h : long.wire.length = 255) :
    ¬ TsigFits exUdp (.unsigned (algName .hmacSha256)) (prepOf long exRr exNow 17) := by
  rintro ⟨_, hfit, _⟩
  have : reservedLen (.unsigned (algName .hmacSha256)) (prepOf long exRr exNow 17) ≥ 255 + 26 := by
    simp only [reservedLen, unsignedLen, prepOf]; omega
  have hc : exUdp.cursor = 280 := rfl
  have ha : exUdp.available = 512 := rfl
  omega

/-- a prepared RR as the table produces it is well formed in the sense of (d) -/
example : RrWF (prepOf exKn exRr exNow 18) :=
  ⟨by decide, rfl, rfl, by decide, UInt16.toNat_lt _, by decide⟩

/-- a MAC primitive with tags of the right size exists, so `hlen` of (d) is satisfiable -/
example : ∀ d, ((fun (a : Algorithm) (_ _ : Octets) => List.replicate a.outputSize (0 : UInt8))
    (ofWriterAlg .hmacSha256) [1, 2, 3] d).length ≤ 65000 := by
  intro d; simp [ofWriterAlg, Hmac.Alg.outputSize]

/-- **C10.** The property at full strength (hypotheses `CfgWF`, 16-bit payload, `KeysOK`, `ZonesTyped`;
    oracle guards `plainComparable`, room, SERVFAIL: see the header): for every request, the executable
    audit of `Spec.ServerTsig` finds nothing to object to in the response of `handle_message`.  The two
    writer-level facts it rests on are `scratchIndepI` (Proofs/ServerScratchIndep.lean) and
    `decodeCongrT` (Proofs/ServerDecodeCongr.lean, inside `C10_full_of`). -/
theorem C10 : C10_full := C10_full_of ServerContent.scratchIndepI

end QV.C10
