/-
  C02 — Every response is a well-formed DNS message.

  "Every response the server emits decodes completely under an independent RFC 1035 decoder: header
   counts match the records present, the message ends exactly after the last record, and every record
   and name is well formed. An OPT record appears at most once, in the additional section, and a TSIG
   record, if present, is the last record."

  Decoder: `QV.Spec.specDecodeMsg` (lean/QV/Spec/MsgDecode.lean), written from RFC 1035 §4.1 and
  independent of the writer: it succeeds only if QDCOUNT questions and ANCOUNT + NSCOUNT + ARCOUNT
  records decode (owner names via the RFC 1035 §4.1.4 relation of C14, fixed fields, RDLENGTH inside
  the message) and the message ends exactly after the last record. (The writer's own decoder,
  `QV.Spec.Message.specDecodeMsg`, additionally records pointer positions for C13 and rejects
  undecodable names inside RDATA; the driver compares the two on every audited response: tag
  `C02:decoders-disagree`.) Interpretation (DESIGN.md §6 C02): RDATA deliberately loaded malformed
  through the public zone API is copied verbatim; "record well formed" is structural.

  `respOK` is the executable form of the property; the driver evaluates it (as the audit tags
  `C02:…`) on the octets the *implementation* returns for every generated request, UDP and TCP.

  What is proved here:
    * `C02_counterexample` — the property as literally stated is FALSE for the code (defect D16,
      known finding): `HashMapTreeZone::add` accepts records of TYPE 41 (OPT) and 250 (TSIG) (only
      the zone-file parser rejects them) and a query for that type (or ANY) returns them in the
      answer section. The model reproduces the response octet for octet (kernel-evaluated).
    * `C02_response_is_finish` — a response is exactly `finish` of a writer state satisfying the
      writer invariant; hence
    * `C02_decodes` — every response decodes completely under the independent decoder, its counts
      are the writer's, and the pseudo-records `finish` appends are: one OPT iff EDNS was negotiated,
      then one TSIG, last, iff a TSIG was set. No hypothesis on the writer: the refinement theorem
      used is `QV.Writer.finish_decodes` (lean/QV/Proofs/WriterDecodes.lean).
    * `C02_decodes_partial` — the same conclusion for any instance `W` of the writer interface,
      relative to a refinement theorem stated for that `W` (`WriterDecodes W`).
  What is not proved: that no *other* record of type OPT/TSIG is written when the catalog holds
  none (`C02_full_without_pseudo_rrsets`); it needs the writer's refinement at record level
  (the decoded sections are the records of the successful `add_*` calls) composed with the fact —
  visible in `QV.Server`: the types passed to the writer are QTYPE-found, CNAME, NS, SOA, A, AAAA or
  the type of a stored RRset. The oracle checks it on every generated case.
-/
import QV.Properties.C01
import QV.Spec.MsgDecode
import QV.Proofs.WriterSafe2

namespace QV.C02
open QV QV.Writer QV.Server QV.Reader QV.ServerSafety QV.Spec

/-- the property, executable: decodes completely; no OPT/TSIG outside the additional section; at
    most one OPT; at most one TSIG and then it is the last record -/
def respOK (b : Bytes) : Bool :=
  match specDecodeMsg b with
  | none => false
  | some d =>
    !((d.an ++ d.ns).any (fun r => r.ty = 41 || r.ty = 250)) &&
    decide ((d.ar.filter (fun r => r.ty = 41)).length ≤ 1) &&
    (match d.ar.filter (fun r => r.ty = 250) with
     | [] => true
     | [_] => d.ar.getLast?.map (·.ty) == some 250
     | _ => false)

/-- **C02 as stated**, for the RRL-less handler -/
def C02_full : Prop :=
  ∀ (cfg : Cfg) (tr : Transport) (now bufLen : Nat) (req b : Bytes), CfgWF cfg →
    EnvOK cfg tr now bufLen req → handleMessage cfg tr now bufLen req = .ok (some b) → respOK b = true

/-- no stored RRset has one of the pseudo-types -/
def NoPseudoRrsets (cfg : Cfg) : Prop :=
  ∀ ze ∈ cfg.zones, NodeOK (fun r => r.rtype ≠ 41 ∧ r.rtype ≠ 250) ze.zone.root

/-- C02 for catalogs without RRsets of type OPT / TSIG (the known finding D16 excluded) -/
def C02_full_without_pseudo_rrsets : Prop :=
  ∀ (cfg : Cfg) (tr : Transport) (now bufLen : Nat) (req b : Bytes), CfgWF cfg → NoPseudoRrsets cfg →
    EnvOK cfg tr now bufLen req → handleMessage cfg tr now bufLen req = .ok (some b) → respOK b = true

/-! ### the counterexample (defect D16) -/

/-- zone `a.` (IN) whose apex holds an RRset of TYPE 41 -/
def cxZone : Zone.Zone := ⟨[[97]], 1, .narrow, .mk [⟨41, 60, [[0, 1, 0, 2, 0xab, 0xcd]]⟩] []⟩
def cxCfg : Cfg := { payload := 512, zones := [⟨⟨[[97]]⟩, 1, .Loaded, cxZone⟩] }
/-- `a. IN TYPE41`, RD set -/
def cxReq : Bytes := #[0xaa, 0xaa, 0x01, 0x00, 0, 1, 0, 0, 0, 0, 0, 0, 1, 97, 0, 0, 41, 0, 1]
/-- what the real server answers (harness: corpus/C02/d16-opt-typed-zone-record.cases) -/
def cxResp : Bytes :=
  #[170, 170, 133, 0, 0, 1, 0, 1, 0, 0, 0, 0, 1, 97, 0, 0, 41, 0, 1, 192, 12, 0, 41, 0, 1, 0, 0, 0, 60, 0, 6,
    0, 1, 0, 2, 171, 205]

theorem cx_parse : Wire.parseCompressed cxReq 12 = .ok ⟨[1, 97, 0], 2, 3⟩ := by
  apply (C14.C14_parse_ok_iff cxReq 12 ⟨[1, 97, 0], 2, 3⟩).mpr
  refine ⟨?_, by decide⟩
  have h14 : Decodes cxReq 14 12 [0] 1 1 := Decodes.null (by decide) (by decide)
  exact Decodes.label (msg := cxReq) (pos := 12) (cs := 12) (w := [0]) (n := 1) (k := 1)
    (by decide) (by decide) (by decide) (by decide) h14

theorem cx_read : readQuestion ⟨cxReq, 12, none⟩ = (.ok ⟨[1, 97, 0], 41, 1⟩, ⟨cxReq, 19, none⟩) := by
  unfold readQuestion
  simp only [cx_parse]
  decide

/-- the model answers the query with the TYPE 41 record in the answer section -/
theorem cx_model : handleMessage cxCfg .udp 0 512 cxReq = .ok (some cxResp) := by
  unfold handleMessage handleWithContext
  have h0 : Reader.tryFrom cxReq = .ok ⟨cxReq, 12, none⟩ := by decide
  simp only [h0, cx_read]
  decide +kernel

theorem cx_not_ok : respOK cxResp = false := by decide +kernel

theorem cx_cfg_wf : CfgWF cxCfg := by
  refine ⟨by decide, fun ze hze => ?_⟩
  simp only [cxCfg, List.mem_singleton] at hze
  subst hze
  exact ⟨by decide, by decide,
    NodeOK.mk _ _ (fun r hr => by simp at hr; subst hr; simp) (fun _ _ h => by simp at h)⟩

/-- **C02 does not hold for the code as it is** (known finding D16): a zone that holds a record of
    TYPE 41 — accepted by the public zone API — is answered with an OPT-typed record in the answer
    section. -/
theorem C02_counterexample : ¬ C02_full := by
  intro h
  have := h cxCfg .udp 0 512 cxReq cxResp cx_cfg_wf ⟨by decide, by decide, by decide⟩ cx_model
  rw [cx_not_ok] at this
  cases this

/-- the last record of a section that ends with the pseudo-records `finish` appends (OPT iff `e`, then
    TSIG iff `t`) -/
private theorem last_pseudo {α : Type} (ar : List α) (ty : α → Nat) (body : List Nat) (e t : Bool)
    (hb : ar.map ty = body ++ (if e then [41] else []) ++ (if t then [250] else [])) :
    (t = true → ar.getLast?.map ty = some 250) ∧ (t = false → e = true → ar.getLast?.map ty = some 41) := by
  rw [← List.getLast?_map, hb]
  cases t <;> cases e <;> simp

/-- a response is the output of `finish` on a state satisfying the writer invariant -/
theorem C02_response_is_finish (W : WriterSafe) (cfg : Cfg) (hcfg : CfgWF cfg)
    (tr : Transport) (now bufLen : Nat) (req b : Bytes) (henv : EnvOK cfg tr now bufLen req)
    (h : handleMessage cfg tr now bufLen req = .ok (some b)) :
    ∃ w mac, W.I w ∧ Writer.finish w macFn = .ok (b, mac) :=
  C01.C01_response_is_finished_writer W cfg hcfg tr now bufLen req henv b h

/-- … with the writer's own theorems (`QV.Writer.writerSafe`, C12/C13) for `W`: a response is the
    output of `finish` on a state satisfying the writer invariant `QV.Writer.I`, and it is not longer
    than the limit in effect (C12 (b)) -/
theorem C02_response_is_finish_holds (cfg : Cfg) (hcfg : CfgWF cfg)
    (tr : Transport) (now bufLen : Nat) (req b : Bytes) (henv : EnvOK cfg tr now bufLen req)
    (h : handleMessage cfg tr now bufLen req = .ok (some b)) :
    ∃ w mac, Writer.I w ∧ Writer.finish w macFn = .ok (b, mac) ∧ b.size ≤ w.limit := by
  obtain ⟨w, mac, hi, hf⟩ := C02_response_is_finish Writer.writerSafe cfg hcfg tr now bufLen req b henv h
  exact ⟨w, mac, hi, hf, Writer.finish_size_le_limit macFn w hi.inv b mac hf⟩

/-- a refinement theorem for the instance `W` of the writer interface, in the form C02 needs: whatever
    `finish` returns from an invariant state decodes completely under the independent decoder, with
    the writer's counts, and the additional section ends with the pseudo-records `finish` appends —
    the OPT iff EDNS is set, then the TSIG iff a TSIG is set -/
structure WriterDecodes (W : WriterSafe) : Prop where
  finish_decodes : ∀ (w : State) (macFn : Writer.Tsig → List UInt8 → List UInt8) (b : Bytes)
    (mac : Option (List UInt8)), W.I w → MacLenOK macFn → Writer.finish w macFn = .ok (b, mac) →
    ∃ d, specDecodeMsg b = some d ∧
      d.questions.length = w.qdcount ∧ d.an.length = w.ancount ∧ d.ns.length = w.nscount ∧
      d.ar.length = w.arcount ∧
      ∃ body, d.ar.map (·.ty) = body ++ (if w.edns.isSome then [41] else []) ++ (if w.tsig.isSome then [250] else [])

/-- **every response decodes completely**, counts as the writer kept them, message ending exactly
    after the last record; the additional section ends with OPT (iff EDNS) then TSIG (iff TSIG) -/
theorem C02_decodes_partial (W : WriterSafe) (D : WriterDecodes W) (cfg : Cfg)
    (hcfg : CfgWF cfg) (tr : Transport) (now bufLen : Nat) (req b : Bytes)
    (henv : EnvOK cfg tr now bufLen req) (h : handleMessage cfg tr now bufLen req = .ok (some b)) :
    ∃ d w, specDecodeMsg b = some d ∧ W.I w ∧
      d.questions.length = w.qdcount ∧ d.an.length = w.ancount ∧ d.ns.length = w.nscount ∧
      d.ar.length = w.arcount ∧
      (w.tsig.isSome → (d.ar.getLast?.map (·.ty)) = some 250) ∧
      (w.tsig.isNone → w.edns.isSome → (d.ar.getLast?.map (·.ty)) = some 41) := by
  obtain ⟨w, mac, hi, hf⟩ := C02_response_is_finish W cfg hcfg tr now bufLen req b henv h
  obtain ⟨d, hd, q1, q2, q3, q4, body, hb⟩ := D.finish_decodes w macFn b mac hi (macLenOK_server hmacLenOK) hf
  obtain ⟨l1, l2⟩ := last_pseudo d.ar (·.ty) body _ _ hb
  exact ⟨d, w, hd, hi, q1, q2, q3, q4, l1, fun ht => l2 (by simpa using ht)⟩

/-! ### with the writer's own refinement theorem

  `QV.Writer.finish_decodes` (lean/QV/Proofs/WriterDecodes.lean) is the writer's refinement theorem in
  the form C02 needs, proved for every compression mode from the structural layout invariant `SLay`
  (every question and record starts with a name the independent decoder reads, RDLENGTH leads to the
  next record, the counts are those of the items) — which follows from the invariant of the second
  interface instance `QV.Writer.writerSafeL` (it carries the content layout `CLay`; `Writer.il_slay`
  reads `SLay` off it), together with "the limit is at most 65535" (a DNS
  message is at most 65535 octets; the server asks for 65535 over TCP, 512 or the requestor's 16-bit
  payload size over UDP: `Call.Pre (.setLimit v) = v ≤ 65535`). With C12 (b) — a finished message is
  within the limit — no RDLENGTH field can wrap. -/

/-- **every response decodes completely** under the independent decoder, counts as the writer kept
    them, message ending exactly after the last record; the additional section ends with OPT (iff
    EDNS) then TSIG (iff TSIG) — no hypothesis on the writer, none on the size -/
theorem C02_decodes (cfg : Cfg) (hcfg : CfgWF cfg) (tr : Transport) (now bufLen : Nat)
    (req b : Bytes) (henv : EnvOK cfg tr now bufLen req)
    (h : handleMessage cfg tr now bufLen req = .ok (some b)) :
    ∃ d w, specDecodeMsg b = some d ∧ Writer.I w ∧ b.size ≤ 65535 ∧
      d.questions.length = w.qdcount ∧ d.an.length = w.ancount ∧ d.ns.length = w.nscount ∧
      d.ar.length = w.arcount ∧
      (w.tsig.isSome → (d.ar.getLast?.map (·.ty)) = some 250) ∧
      (w.tsig.isNone → w.edns.isSome → (d.ar.getLast?.map (·.ty)) = some 41) := by
  obtain ⟨w, mac, hi, hf⟩ := C02_response_is_finish Writer.writerSafeL cfg hcfg tr now bufLen req b henv h
  have hI := Writer.il_i hi
  have hsz : b.size ≤ 65535 :=
    Nat.le_trans (Writer.finish_size_le_limit macFn w hI.inv b mac hf) (Writer.il_limit hi)
  obtain ⟨d, hd, q1, q2, q3, q4, body, hb⟩ := Writer.finish_decodes macFn w hI (Writer.il_slay hi) b mac hf hsz
  obtain ⟨l1, l2⟩ := last_pseudo d.ar (·.ty) body _ _ hb
  exact ⟨d, w, hd, hI, hsz, q1, q2, q3, q4, l1, fun ht => l2 (by simpa using ht)⟩

end QV.C02
