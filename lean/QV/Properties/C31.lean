/-
  C31 — Reloading keeps every zone on its own latest good data.

  "After the daemon reloads on SIGHUP, each configured zone is served from its newly loaded data
   if its file loaded and validated, from its previously served data if it failed, and with
   SERVFAIL if it has never loaded; zones removed from the configuration are no longer served.
   A zone's load failure never changes what any other zone serves."

  Model: `QV.Model.Reload` (mirrors src/bin/quandaryd/zones.rs `load`/`reload`/`load_impl`/
  `check_mtime`/`make_error_catalog_entry` and the reload path of src/bin/quandaryd/run.rs) on
  top of the C22 catalog model.   Spec: `QV.Spec.Reload` — a per-zone rule `specZone`, folded
  over the zone's own view of the history.

  Shape: refinement, for every history of (configuration, file-system state) steps — including
  steps at which the configuration cannot be loaded — with a reload after each.

  Interpretations (also in the evidence):
  * what a zone "is served from" is read off its catalog entry: `Loaded` = that data,
    `FailedToLoad`/`NotYetLoaded` = SERVFAIL (`stateOf`); which entry answers a query name is the
    longest-match `lookup` of C22 (`C31_query`);
  * "unchanged on disk" is the daemon's mtime criterion (`unchanged`); `C31_rule_text` shows that
    under the environment assumption `MtimeSound` the rule coincides with the property text;
  * the same zone configured twice: `config.rs` (`find_duplicated_zone`) rejects such a
    configuration, which is a `configError` step (nothing changes). `load_impl` itself, given a
    list with duplicates, lets the *last* configuration of a key win (each one is evaluated
    against the *old* catalog); the theorems are stated with `lastCfg` and hold with or without
    duplicates, `C31_lastCfg_nodup` says what `lastCfg` is when there are none.
-/
import QV.Proofs.Reload

namespace QV.C31
open QV QV.Catalog QV.Reload QV.Spec.Catalog QV.Spec.Reload

/-- the state of zone `(n, cls)` in the served catalog: `none` = not served (REFUSED / parent
    zone answers), `some failed` = SERVFAIL, `some (good d ..)` = answers from data `d` -/
def served (st : Option Catalog) (n : DName) (cls : Nat) : Option SZone :=
  (st.bind (fun c => get c n cls)).map stateOf

/-- the state of the zone that answers a query for `n`: the longest-match entry -/
def answering (st : Option Catalog) (n : DName) (cls : Nat) : Option SZone :=
  (st.bind (fun c => lookup c n cls)).map stateOf

/-- the served catalog always satisfies the C22 invariant -/
theorem C31_invariant (steps : List Step) (c : Catalog) (h : daemonRun steps = some c) : c.Inv :=
  (daemonRun_spec steps).1 c h

theorem served_eq (st : Option Catalog) (h : ∀ c, st = some c → c.Inv) (n : DName) (cls : Nat) :
    served st n cls = servedAt st (cls, foldName n) := by
  cases st with
  | none => rfl
  | some c =>
    simp only [served, servedAt, prevEntry, Option.bind_some, get_eq_absFind c (h c rfl).2]

/-- **Main theorem.** After every history of reloads, every zone is in exactly the state the
    per-zone rule yields from *that zone's own* view of the history: its own configuration
    entries, the state of its own file at each reload, and nothing else. -/
theorem C31_served (steps : List Step) (n : DName) (cls : Nat) :
    served (daemonRun steps) n cls = specHist (steps.map (viewOf (cls, foldName n))) := by
  rw [served_eq _ (C31_invariant steps)]
  exact (daemonRun_spec steps).2 _

/-- the answering entry is the longest match among what is served -/
private theorem answering_eq (st : Option Catalog) (n : DName) (cls : Nat) :
    answering st n cls = lsuf (servedAt st) cls (foldName n) := by
  unfold answering
  cases st with
  | none =>
    generalize foldName n = nm
    induction nm with
    | nil => rfl
    | cons l r ih => simp [lsuf, ← ih]; rfl
  | some c => simp only [Option.bind_some, lookup_eq_lsuf, lsuf_map]; rfl

/-- Which zone answers a query: the configured zone with the longest matching name, in the state
    given by its own history. In particular a configured child zone that never loaded answers
    SERVFAIL itself — its parent's data is not used for it. -/
theorem C31_query (steps : List Step) (n : DName) (cls : Nat) :
    answering (daemonRun steps) n cls =
      lsuf (fun k => specHist (steps.map (viewOf k))) cls (foldName n) := by
  rw [answering_eq]
  exact lsuf_congr _ _ (daemonRun_spec steps).2 _ _

/-! ### the daemon's signal loop (src/bin/quandaryd/run.rs)

  `daemonRun` idealises the loop: every catalog a reload builds is what is served next and what
  the next reload starts from. `loopRun sh` is the loop with that plumbing explicit, for a loop
  of shape `sh`; the shape of the actual source is extracted on every run. -/

/-- **Structural premise, checked on the source on every run**: after the start-up load the
    catalog is installed; the SIGHUP arm assigns the catalog returned by `reload_zones_and_keys`
    to the variable it passes to the next call; a successful reload installs that catalog in the
    server; and `zones::reload` gets that variable as its baseline. A tree in which any of these
    no longer holds (e.g. the `Ok` arm stops assigning `catalog = new_catalog`) fails here. -/
theorem C31_structural_premise :
    Gen.reloadStartupInstallsCatalog = true ∧ Gen.reloadLoopThreadsCatalog = true ∧
    Gen.reloadInstallsCatalog = true ∧ Gen.reloadBaselineIsCurrent = true := by decide

/-- **The daemon loop.** For a loop with the four structural premises, after every history of
    start-up + SIGHUPs (configuration errors included) the catalog the *server answers from* puts
    every zone in the state the per-zone specification prescribes. -/
theorem C31_daemon_loop (sh : LoopShape) (hs : sh = .good) (alt : Catalog) (steps : List Step)
    (n : DName) (cls : Nat) :
    served (loopRun sh alt steps).served n cls = specHist (steps.map (viewOf (cls, foldName n))) := by
  subst hs
  rw [loopRun_good]
  exact C31_served steps n cls

/-- … and so does the loop of the repository under test. -/
theorem C31_daemon_loop_code (alt : Catalog) (steps : List Step) (n : DName) (cls : Nat) :
    served (loopRun codeShape alt steps).served n cls =
      specHist (steps.map (viewOf (cls, foldName n))) :=
  C31_daemon_loop codeShape (by decide) alt steps n cls

/-- the same for the entry that answers a query name (longest match) -/
theorem C31_daemon_loop_query (alt : Catalog) (steps : List Step) (n : DName) (cls : Nat) :
    answering (loopRun codeShape alt steps).served n cls =
      lsuf (fun k => specHist (steps.map (viewOf k))) cls (foldName n) := by
  have : codeShape = .good := by decide
  rw [this, loopRun_good]
  exact C31_query steps n cls

/-! ### independence -/

/-- **Independence.** What zone `k` is served from depends only on `k`'s own view of the history:
    two histories that look the same from `k` (same configuration entries for `k`, same state of
    `k`'s file at each reload) leave `k` in the same state, whatever happens to all other zones
    and files in them. -/
theorem C31_independence (steps steps' : List Step) (n : DName) (cls : Nat)
    (h : steps.map (viewOf (cls, foldName n)) = steps'.map (viewOf (cls, foldName n))) :
    served (daemonRun steps) n cls = served (daemonRun steps') n cls := by
  rw [C31_served, C31_served, h]

/-- One reload, two environments that differ arbitrarily except on the file of the configuration
    in force for zone `(n, cls)`: that zone ends up in the same state. (Changing zone A's file —
    making it fail, fixing it, deleting it — never changes what zone B ≠ A gets.) -/
theorem C31_independence_step (steps : List Step) (zones : List ZoneConfig) (fs fs' : FS)
    (n : DName) (cls : Nat)
    (h : ∀ zc, lastCfg (cls, foldName n) zones = some zc →
      fs.stat zc.path = fs'.stat zc.path ∧ fs.load zc = fs'.load zc) :
    served (daemonRun (steps ++ [.reload zones fs])) n cls =
      served (daemonRun (steps ++ [.reload zones fs'])) n cls := by
  apply C31_independence
  simp only [List.map_append, List.map_cons, List.map_nil, List.append_cancel_left_eq,
    List.cons.injEq, and_true, viewOf]
  cases hl : lastCfg (cls, foldName n) zones with
  | none => rfl
  | some zc =>
    obtain ⟨h1, h2⟩ := h zc hl
    simp [viewOfCfg, h1, h2]

/-! ### the per-zone rule says what the property text says -/

/-- loaded and validated ⇒ the newly loaded data (unless the file is unchanged, see below) -/
theorem C31_rule_loaded (prev : Option SZone) (v : ZView) (d : Nat)
    (hu : unchanged prev v = false) (hs : v.stat ≠ .unreadable) (hl : v.load = some d) :
    specZone prev v = .good d v.path v.stat.time := by
  simp only [specZone, hu, hl]
  cases h : v.stat <;> simp_all

/-- failed (cannot stat the file, or it does not load / validate) ⇒ the zone's own previous
    state: its previously served data if it had any, SERVFAIL if it has never loaded -/
theorem C31_rule_failed (prev : Option SZone) (v : ZView)
    (hf : v.stat = .unreadable ∨ v.load = none) : specZone prev v = keep prev := by
  simp only [specZone]
  split
  · rfl
  · rcases hf with hf | hf
    · simp [hf]
    · cases h : v.stat <;> simp [hf]

theorem C31_keep_some (s : SZone) : keep (some s) = s := rfl
theorem C31_keep_none : keep none = .failed := rfl

/-- unchanged on disk ⇒ the zone keeps its state … -/
theorem C31_rule_unchanged (prev : Option SZone) (v : ZView) (hu : unchanged prev v = true) :
    specZone prev v = keep prev := by
  simp [specZone, hu]

/-- … and under the environment assumption `MtimeSound` (a file not newer than the version being
    served still has that version's content) the rule is exactly the property text: the data
    served is the newly loadable data if the file loads, the zone's own previous data otherwise. -/
theorem C31_rule_text (prev : Option SZone) (v : ZView) (hm : MtimeSound prev v) :
    (specZone prev v).data =
      match v.stat, v.load with
      | .unreadable, _ => (keep prev).data
      | _, some d => some d
      | _, none => (keep prev).data := by
  by_cases hu : unchanged prev v = true
  · have hl := hm hu
    rw [C31_rule_unchanged prev v hu]
    cases hs : v.stat with
    | unreadable => rfl
    | mtime t => simp only [hl]; cases h : (keep prev).data <;> rfl
    | noMtime => simp only [hl]; cases h : (keep prev).data <;> rfl
  · simp only [Bool.not_eq_true] at hu
    simp only [specZone, hu]
    cases hs : v.stat <;> cases hl : v.load <;> simp [SZone.data]

/-- removed from the configuration ⇒ no longer served; configuration error ⇒ nothing changes -/
theorem C31_rule_unconfigured (prev : Option SZone) : specStep prev .unconfigured = none := rfl
theorem C31_rule_configError (prev : Option SZone) : specStep prev .configError = prev := rfl

/-! ### configurations: which entry is in force -/

theorem C31_lastCfg_mem (k : Key) (zones : List ZoneConfig) (zc : ZoneConfig)
    (h : lastCfg k zones = some zc) : zc ∈ zones ∧ cfgKey zc = k :=
  lastCfg_mem k zones zc h

/-- a zone that is not configured has no configuration in force -/
theorem C31_lastCfg_none (k : Key) (zones : List ZoneConfig) (h : ∀ zc ∈ zones, cfgKey zc ≠ k) :
    lastCfg k zones = none := by
  cases hl : lastCfg k zones with
  | none => rfl
  | some zc => exact absurd (C31_lastCfg_mem k zones zc hl).2 (h zc (C31_lastCfg_mem k zones zc hl).1)

/-- without duplicates (what `config.rs` enforces) the configuration in force for a configured
    zone is its one configuration -/
theorem C31_lastCfg_nodup (zones : List ZoneConfig) (hn : (zones.map cfgKey).Nodup)
    (zc : ZoneConfig) (h : zc ∈ zones) : lastCfg (cfgKey zc) zones = some zc := by
  induction zones with
  | nil => simp at h
  | cons z r ih =>
    simp only [List.map_cons, List.nodup_cons] at hn
    simp only [lastCfg]
    rcases List.mem_cons.mp h with e | hm
    · subst e
      rw [C31_lastCfg_none _ r (fun x hx hk => hn.1 (by rw [← hk]; exact List.mem_map_of_mem hx))]
      simp
    · rw [ih hn.2 hm]

/-! ### non-vacuity and regression witnesses -/

def nA : DName := [[97]]              -- a.
def nBA : DName := [[98], [97]]       -- b.a.
def nCA : DName := [[99], [97]]       -- c.a.

/-- file 1 (zone a.) has mtime `t1` and loads to `d1` (or fails when `d1 = 0`); file 2 likewise;
    every other file is missing -/
def fsOf (t1 d1 : Nat) (f2 : Option (Nat × Nat)) : FS where
  stat := fun p => if p = 1 then .ok t1 else if p = 2 then
    (match f2 with | some (t, _) => .ok t | none => .err) else .err
  load := fun zc => if zc.path = 1 then (if d1 = 0 then .fail else .ok d1) else if zc.path = 2 then
    (match f2 with | some (_, d) => if d = 0 then .fail else .ok d | none => .fail) else .fail

/-- The D12 shape (commit b00796e): `a.` is loaded; then the never-loaded child `b.a.` is added
    to the configuration with a missing file. The child must answer SERVFAIL and the parent keep
    its data (the defective code re-inserted the parent's entry for the child). -/
def d12 : List Step :=
  [.reload [⟨nA, 1, 1⟩] (fsOf 5 10 none),
   .reload [⟨nA, 1, 1⟩, ⟨nBA, 1, 2⟩] (fsOf 5 10 none)]

example : served (daemonRun d12) nBA 1 = some .failed := by decide +kernel
example : served (daemonRun d12) nA 1 = some (.good 10 1 (some 5)) := by decide +kernel
example : answering (daemonRun d12) [[120], [98], [97]] 1 = some .failed := by decide +kernel
example : answering (daemonRun d12) nCA 1 = some (.good 10 1 (some 5)) := by decide +kernel

/-- a longer history: load both; the child's file breaks (newer mtime, fails) → old child data
    kept, parent reloaded from its changed file; then the child is removed from the configuration;
    then a configuration error -/
def h2 : List Step :=
  [.reload [⟨nA, 1, 1⟩, ⟨nBA, 1, 2⟩] (fsOf 5 10 (some (5, 20))),
   .reload [⟨nA, 1, 1⟩, ⟨nBA, 1, 2⟩] (fsOf 6 11 (some (7, 0))),
   .reload [⟨nA, 1, 1⟩] (fsOf 6 11 (some (7, 0))),
   .configError]

example : served (daemonRun (h2.take 2)) nBA 1 = some (.good 20 2 (some 5)) := by decide +kernel
example : served (daemonRun (h2.take 2)) nA 1 = some (.good 11 1 (some 6)) := by decide +kernel
example : served (daemonRun h2) nBA 1 = none := by decide +kernel
example : served (daemonRun h2) nA 1 = some (.good 11 1 (some 6)) := by decide +kernel

/-- **The threading premise is necessary.** A loop that installs each new catalog but keeps the
    start-up catalog as the baseline of every reload (the `Ok` arm without `catalog = new_catalog`)
    violates the specification: `a.` loads v10 at start-up, v11 at the first SIGHUP, its file is
    broken at the second — it must stay on v11 but falls back to v10. -/
def unthreaded : LoopShape := ⟨true, false, true, true⟩
def h3 : List Step :=
  [.reload [⟨nA, 1, 1⟩] (fsOf 1 10 none), .reload [⟨nA, 1, 1⟩] (fsOf 2 11 none),
   .reload [⟨nA, 1, 1⟩] (fsOf 3 0 none)]

theorem C31_loop_needs_threading :
    served (loopRun unthreaded Cat.empty h3).served nA 1 = some (.good 10 1 (some 1)) ∧
    specHist (h3.map (viewOf (1, foldName nA))) = some (.good 11 1 (some 2)) := by decide +kernel

example : served (loopRun .good Cat.empty h3).served nA 1 = some (.good 11 1 (some 2)) := by
  decide +kernel

/-- the hypotheses of the independence theorem are satisfiable non-trivially: the child's file
    differs between the two environments, the parent's does not -/
example : served (daemonRun ([Step.reload [⟨nA, 1, 1⟩, ⟨nBA, 1, 2⟩] (fsOf 5 10 (some (5, 20)))] ++
      [.reload [⟨nA, 1, 1⟩, ⟨nBA, 1, 2⟩] (fsOf 6 11 (some (7, 0)))])) nA 1 =
    served (daemonRun ([Step.reload [⟨nA, 1, 1⟩, ⟨nBA, 1, 2⟩] (fsOf 5 10 (some (5, 20)))] ++
      [.reload [⟨nA, 1, 1⟩, ⟨nBA, 1, 2⟩] (fsOf 6 11 none)])) nA 1 := by
  apply C31_independence_step
  intro zc hz
  have : zc = ⟨nA, 1, 1⟩ := by
    have h : lastCfg ((1 : Nat), foldName nA) [⟨nA, 1, 1⟩, ⟨nBA, 1, 2⟩] = some ⟨nA, 1, 1⟩ := by
      decide +kernel
    rw [h] at hz; cases hz; rfl
  subst this
  exact ⟨rfl, rfl⟩

example : ∃ c, daemonRun d12 = some c ∧ c.Inv := by
  cases h : daemonRun d12 with
  | none => exact absurd h (by decide +kernel)
  | some c => exact ⟨c, rfl, C31_invariant d12 c h⟩

/-- the clauses of the rule on concrete views: newer valid file → new data; newer broken
    file → own old data; never loaded and missing → SERVFAIL; untouched file → kept -/
example : specZone (some (.good 10 1 (some 5))) ⟨1, .mtime 6, some 11⟩ = .good 11 1 (some 6) :=
  C31_rule_loaded _ _ 11 (by decide) (by decide) rfl
example : specZone (some (.good 10 1 (some 5))) ⟨1, .mtime 6, none⟩ = .good 10 1 (some 5) :=
  C31_rule_failed _ _ (Or.inr rfl)
example : specZone none ⟨2, .unreadable, none⟩ = .failed := C31_rule_failed _ _ (Or.inl rfl)
example : specZone (some (.good 10 1 (some 5))) ⟨1, .mtime 5, some 10⟩ = .good 10 1 (some 5) :=
  C31_rule_unchanged _ _ (by decide)

/-- `MtimeSound` holds in the ordinary situation (file untouched) and `C31_rule_text` applies -/
example : MtimeSound (some (.good 10 1 (some 5))) ⟨1, .mtime 5, some 10⟩ := by decide
example : ¬ MtimeSound (some (.good 10 1 (some 5))) ⟨1, .mtime 4, some 11⟩ := by decide
example : (zonesNodup : ([⟨nA, 1, 1⟩, ⟨nBA, 1, 2⟩] : List ZoneConfig).map cfgKey |>.Nodup) →
    lastCfg (cfgKey ⟨nBA, 1, 2⟩) [⟨nA, 1, 1⟩, ⟨nBA, 1, 2⟩] = some ⟨nBA, 1, 2⟩ :=
  fun hn => C31_lastCfg_nodup _ hn _ (by simp)

end QV.C31
