/-
  C17 — Type, class, opcode and RCODE codes round-trip through text.

  "For every 16-bit value, rendering a TYPE, CLASS, QTYPE or QCLASS as text and parsing it back
   yields the same value, mnemonics parse case-insensitively, and the RFC 3597 TYPEnnn/CLASSnnn
   forms parse for every value. Opcode and RCODE conversions accept exactly the 4-bit values, and
   extended RCODEs convert to RCODEs exactly when below 16."

  Model: `QV.Model.Codes` (mirrors src/rr/rr_type.rs, src/class.rs, src/message/question.rs,
  src/message/opcode.rs, src/message/rcode.rs, src/util.rs) over the *generated* tables
  `QV.Gen.*` (extracted from the Rust source).
  Spec: `QV.Spec.Codes` (`Presents`: RFC 3597 §5 + the IANA mnemonics written out literally).

  The property holds for all values (`C17_full`).  It depends on the text being upper-cased before
  the mnemonic arms: `match Caseless(text) { Caseless("IN") => … }` compares the text exactly (a
  struct pattern never calls `PartialEq`), so without the normalisation `"in"`, `"a"`, `"any"` are
  rejected (defect D13, the code before commit 41208a0).  Whether the normalisation is present is
  extracted (`Gen.*ParseNormalise`) and required by `C17_shape`, on which everything below rests.
-/
import QV.Proofs.Codes

namespace QV.C17
open QV QV.Codes QV.Spec.Codes

/-! ### the four `FromStr` / `Display` impls, by kind -/

def parse : Kind → Text → Out ParseErr Nat
  | .type => typeFromStr
  | .class => classFromStr
  | .qtype => qtypeFromStr
  | .qclass => qclassFromStr

def display : Kind → Nat → Text
  | .type => typeDisplay
  | .class => classDisplay
  | .qtype => qtypeDisplay
  | .qclass => qclassDisplay

/-- all mnemonic arms a `FromStr` impl goes through, in order -/
def tableOf : Kind → List (Text × Nat)
  | .type => typeTable
  | .class => classTable
  | .qtype => qtypeTable ++ typeTable
  | .qclass => qclassTable ++ classTable

def wordOf : Kind → Text
  | .type | .qtype => typeWord
  | .class | .qclass => classWord

def endOf : Kind → Nat
  | .type | .qtype => Gen.typeParseGetEnd
  | .class | .qclass => Gen.classParseGetEnd

def dtableOf : Kind → List (Nat × String)
  | .type => Gen.typeDisplay
  | .class => Gen.classDisplay
  | .qtype => Gen.qtypeDisplay ++ Gen.typeDisplay
  | .qclass => Gen.qclassDisplay ++ Gen.classDisplay

def prefixOf : Kind → String
  | .type | .qtype => Gen.typeDisplayPrefix
  | .class | .qclass => Gen.classDisplayPrefix

/-! ### facts about the generated tables (finite; re-checked whenever the Rust source changes) -/

instance (tbl word) : Decidable (NoWord tbl word) := by unfold NoWord; infer_instance
instance (tbl) : Decidable (Distinct tbl) := by unfold Distinct; infer_instance
instance (d t) : Decidable (RowsParse d t) := by unfold RowsParse; infer_instance
instance (tbl) : Decidable (AllUpper tbl) := by unfold AllUpper; infer_instance

/-- shape of the source the model relies on: the slice `text[n..]` starts where `text.get(0..n)`
    ended, `n` is the length of the word, `Display` and `FromStr` use the same word, the
    Qtype/Qclass impls delegate to Type/Class, and all four `FromStr` impls upper-case the text
    before the mnemonic arms. -/
theorem C17_shape :
    (∀ k, (wordOf k).length = endOf k) ∧
    Gen.typeParseSliceFrom = Gen.typeParseGetEnd ∧ Gen.classParseSliceFrom = Gen.classParseGetEnd ∧
    (∀ k, (bytesOf (prefixOf k)).map lowerU8 = (wordOf k).map lowerU8) ∧
    Gen.qtypeParseDelegate = "Type" ∧ Gen.qtypeDisplayDelegate = "Type" ∧
    Gen.qclassParseDelegate = "Class" ∧ Gen.qclassDisplayDelegate = "Class" ∧
    Gen.typeParseNormalise = "to_ascii_uppercase" ∧ Gen.classParseNormalise = "to_ascii_uppercase" ∧
    Gen.qtypeParseNormalise = "to_ascii_uppercase" ∧ Gen.qclassParseNormalise = "to_ascii_uppercase" := by
  refine ⟨?_, by decide +kernel, by decide +kernel, ?_, by decide +kernel, by decide +kernel,
    by decide +kernel, by decide +kernel, by decide +kernel, by decide +kernel, by decide +kernel,
    by decide +kernel⟩
  · intro k; cases k <;> decide +kernel
  · intro k; cases k <;> decide +kernel

/-- no mnemonic of any table begins with "TYPE"/"CLASS" (in any case) -/
theorem C17_tables_no_word (k : Kind) : NoWord (tableOf k) (wordOf k) := by cases k <;> decide +kernel

/-- no two arms of a table carry mnemonics that are equal up to case -/
theorem C17_tables_distinct (k : Kind) : Distinct (tableOf k) := by cases k <;> decide +kernel

/-- every mnemonic arm is written in upper case (else it could never match the upper-cased text) -/
theorem C17_tables_upper (k : Kind) : AllUpper (tableOf k) := by cases k <;> decide +kernel

/-- every text written by a `Display` arm is a mnemonic arm of `FromStr` with the same value -/
theorem C17_display_rows_parse (k : Kind) : RowsParse (dtableOf k) (tableOf k) := by cases k <;> decide +kernel

/-- **The generated tables are the IANA tables.**  Every arm of the Rust `FromStr` impls is a row
    of the literal registry tables of `QV.Spec.Codes` (same spelling, same value), and every
    registry row is an arm.  A misspelt, dropped, duplicated or renumbered mnemonic in the Rust
    source fails this theorem. -/
theorem C17_tables_are_iana (k : Kind) :
    (∀ r ∈ mnemonics k, (ascii r.1, r.2) ∈ tableOf k) ∧
    (∀ r ∈ tableOf k, r ∈ (mnemonics k).map (fun r => (ascii r.1, r.2))) := by
  cases k <;> decide +kernel

/-- … and so are the `Display` tables: every arm prints a registry mnemonic of its value. -/
theorem C17_display_tables_are_iana (k : Kind) :
    ∀ d ∈ dtableOf k, (bytesOf d.2, d.1) ∈ (mnemonics k).map (fun r => (ascii r.1, r.2)) := by
  cases k <;> decide +kernel

/-! ### the registry tables inherit these facts, and with them the executable oracle is the specification -/

/-- registry rows that agree up to case carry the same value -/
private theorem spec_rows_consistent (k : Kind) :
    ∀ r ∈ mnemonics k, ∀ r' ∈ mnemonics k, lower (ascii r.1) = lower (ascii r'.1) → r.2 = r'.2 := by
  intro r hr r' hr' e
  have tie := (C17_tables_are_iana k).1
  rw [lower_eq_map, lower_eq_map] at e
  exact (Prod.mk.inj (C17_tables_distinct k _ (tie r hr) _ (tie r' hr') e)).2

/-- no registry mnemonic begins with the RFC 3597 word -/
private theorem spec_rows_no_word (k : Kind) :
    ∀ r ∈ mnemonics k, (lower (ascii r.1)).take (ascii (word k)).length ≠ lower (ascii (word k)) := by
  intro r hr e
  have wlen : (wordOf k).map lowerU8 = (ascii (word k)).map lowerU8 := by cases k <;> decide +kernel
  apply C17_tables_no_word k _ ((C17_tables_are_iana k).1 r hr)
  rw [lower_eq_map, lower_eq_map] at e
  simp only
  rw [List.map_take, map_lower_length wlen, e, wlen]

/-- **the oracle is the specification**: the executable `specParse` returns `v` exactly for the
    texts that present `v` -/
theorem specParse_iff (k : Kind) (t : List UInt8) (v : Nat) : specParse k t = some v ↔ Presents k t v := by
  unfold specParse specLookup
  constructor
  · intro h
    cases hf : (mnemonics k).find? (fun r => lower (ascii r.1) == lower t) with
    | some r =>
      simp only [hf, Option.map_some, Option.some.injEq] at h
      have hm := List.mem_of_find?_eq_some hf
      have hp := List.find?_some hf
      simp only [beq_iff_eq] at hp
      subst h
      exact Presents.mnemonic (m := r.1) hm hp.symm
    | none =>
      simp only [hf, Option.map_none] at h
      split at h
      · rename_i hc
        simp only [beq_iff_eq] at hc
        obtain ⟨hd, hv⟩ := isDecimal_of_specDecimalValue h
        have := Presents.generic (k := k) hc hd hv
        rwa [List.take_append_drop] at this
      · cases h
  · intro h
    cases h with
    | mnemonic hm ht =>
      rename_i m
      cases hf : (mnemonics k).find? (fun r => lower (ascii r.1) == lower t) with
      | some r =>
        have hm' := List.mem_of_find?_eq_some hf
        have hp := List.find?_some hf
        simp only [beq_iff_eq] at hp
        have := C17.spec_rows_consistent k r hm' (m, v) hm (by rw [hp, ht])
        simp only [Option.map_some, Option.some.injEq]
        exact this
      | none =>
        have := List.find?_eq_none.mp hf (m, v) hm
        simp only [beq_iff_eq] at this
        exact absurd ht.symm this
    | generic hp hd hv =>
      rename_i p ds
      have hpl : p.length = (ascii (word k)).length := by
        have := congrArg List.length hp; simpa [lower_length] using this
      have hnone : (mnemonics k).find? (fun r => lower (ascii r.1) == lower (p ++ ds)) = none := by
        rw [List.find?_eq_none]
        intro r hr hc
        simp only [beq_iff_eq] at hc
        apply C17.spec_rows_no_word k r hr
        rw [hc, lower_append, ← hpl, ← lower_length p, List.take_left, hp]
      simp only [hnone, Option.map_none]
      have ht : (p ++ ds).take (ascii (word k)).length = p := by rw [← hpl]; simp
      have hdr : (p ++ ds).drop (ascii (word k)).length = ds := by rw [← hpl]; simp
      simp only [ht, hdr, hp, beq_self_eq_true, ↓reduceIte]
      exact specDecimalValue_of_isDecimal hd hv

theorem C17_parse_eq (k : Kind) (t : Text) :
    parse k t = parseWith (tableOf k) UP (wordOf k) (endOf k) (endOf k) t := by
  cases k
  · rfl
  · rfl
  · exact qtypeFromStr_eq t
  · exact qclassFromStr_eq t

theorem C17_display_eq (k : Kind) (v : Nat) : display k v = displayWith (dtableOf k) (prefixOf k) v := by
  cases k
  · rfl
  · rfl
  · exact qtypeDisplay_eq v
  · exact qclassDisplay_eq v

/-! ### display → parse round trip, for every 16-bit value -/

/-- **Round trip.** For every kind and every 16-bit value, parsing the rendered text yields the
    value. -/
theorem C17_roundtrip (k : Kind) (v : Nat) (hv : v < 65536) : parse k (display k v) = .ok v := by
  rw [C17_parse_eq, C17_display_eq]
  exact parseWith_display _ _ _ (C17_shape.1 k) (C17_tables_no_word k) _ _ (C17_shape.2.2.2.1 k) (C17_display_rows_parse k) v hv

theorem C17_type_roundtrip (v : Nat) (hv : v < 65536) : typeFromStr (typeDisplay v) = .ok v :=
  C17_roundtrip .type v hv
theorem C17_class_roundtrip (v : Nat) (hv : v < 65536) : classFromStr (classDisplay v) = .ok v :=
  C17_roundtrip .class v hv
theorem C17_qtype_roundtrip (v : Nat) (hv : v < 65536) : qtypeFromStr (qtypeDisplay v) = .ok v :=
  C17_roundtrip .qtype v hv
theorem C17_qclass_roundtrip (v : Nat) (hv : v < 65536) : qclassFromStr (qclassDisplay v) = .ok v :=
  C17_roundtrip .qclass v hv

/-! ### RFC 3597 forms -/

/-- **RFC 3597 §5.** For every kind, every case variant `p` of the word "TYPE" / "CLASS" and every
    16-bit value `v` with canonical decimal numeral `ds`, `p ++ ds` parses to `v`. -/
theorem C17_rfc3597 (k : Kind) (p ds : Text) (v : Nat) (hp : lower p = lower (ascii (word k)))
    (hd : IsDecimal ds v) (hv : v < 65536) : parse k (p ++ ds) = .ok v := by
  rw [C17_parse_eq]
  refine parseWith_generic _ _ _ (C17_shape.1 k) (C17_tables_no_word k) p ds v ?_ hd hv
  rw [lower_eq_map, lower_eq_map] at hp
  rw [hp]
  cases k <;> decide +kernel

/-- every value has a canonical numeral (the one `Display for u16` prints), so the previous
    theorem is about all 65536 values -/
theorem C17_rfc3597_all_values (k : Kind) (p : Text) (v : Nat) (hp : lower p = lower (ascii (word k)))
    (hv : v < 65536) : parse k (p ++ dec v) = .ok v :=
  C17_rfc3597 k p (dec v) v hp (dec_isDecimal v) hv

/-! ### mnemonics -/

/-- **Mnemonics parse case-insensitively.** For every kind, every registry mnemonic `m` of value
    `v` and every text `s` equal to `m` up to ASCII case (all 2^len variants), `s` parses to `v`. -/
theorem C17_mnemonic (k : Kind) (m : String) (v : Nat) (h : (m, v) ∈ mnemonics k)
    (s : Text) (hs : lower s = lower (ascii m)) : parse k s = .ok v := by
  rw [C17_parse_eq]
  rw [lower_eq_map, lower_eq_map] at hs
  exact parseWith_mnemonic _ _ _ _ (C17_tables_distinct k) (C17_tables_upper k) _ _
    ((C17_tables_are_iana k).1 (m, v) h) s hs

/-- the same over the generated tables: every arm of the Rust source, in any case -/
theorem C17_mnemonic_generated (k : Kind) (m : Text) (v : Nat) (h : (m, v) ∈ tableOf k)
    (s : Text) (hs : s.map lowerU8 = m.map lowerU8) : parse k s = .ok v := by
  rw [C17_parse_eq]
  exact parseWith_mnemonic _ _ _ _ (C17_tables_distinct k) (C17_tables_upper k) _ _ h s hs

/-! ### acceptance, exactly (what the model says Rust's `u16::from_str` and the parsers accept) -/

/-- `u16::from_str` as modelled: optional `+`, at least one ASCII digit, nothing else, value ≤ 65535
    (leading zeros fine) -/
theorem C17_parseU16_iff (s : Text) (v : Nat) :
    parseU16 s = some v ↔
      ∃ ds, (s = ds ∨ s = 43 :: ds) ∧ ds ≠ [] ∧ (∀ c ∈ ds, isDigit c = true) ∧ decValue ds = v ∧ v ≤ 65535 :=
  parseU16_iff s v

/-- every parser accepts exactly (a) the mnemonics of its table(s) in any ASCII case and (b) the
    word TYPE / CLASS in any case followed by what `u16::from_str` accepts — for arbitrary octet
    strings (non-ASCII input included) -/
theorem C17_parse_ok_iff (k : Kind) (t : Text) (v : Nat) :
    parse k t = .ok v ↔
      (∃ m, (m, v) ∈ tableOf k ∧ t.map lowerU8 = m.map lowerU8) ∨
      (∃ p s, t = p ++ s ∧ p.map lowerU8 = (wordOf k).map lowerU8 ∧ parseU16 s = some v) := by
  rw [C17_parse_eq]
  exact parseWith_ok_iff _ _ _ (C17_shape.1 k) (C17_tables_no_word k) (C17_tables_distinct k)
    (C17_tables_upper k) t v

/-! ### Opcode / RCODE conversions -/

/-- a conversion that keeps the values below a bound and refuses the others -/
private theorem below_bound (b x : Nat) :
    ((if x < b then some x else none) = some x ↔ x < b) ∧ ((if x < b then some x else none) = none ↔ ¬ x < b) := by
  split <;> simp [*]

/-- `Opcode::try_from(x: u8)` succeeds exactly on the 4-bit values, and keeps the value. -/
theorem C17_opcode_iff (x : Nat) : opcodeTryFrom x = some x ↔ fitsFourBits x := (below_bound 16 x).1

theorem C17_opcode_none_iff (x : Nat) : opcodeTryFrom x = none ↔ ¬ fitsFourBits x := (below_bound 16 x).2

/-- `Rcode::try_from(x: u8)` succeeds exactly on the 4-bit values, and keeps the value. -/
theorem C17_rcode_iff (x : Nat) : rcodeTryFrom x = some x ↔ fitsFourBits x := (below_bound 16 x).1

theorem C17_rcode_none_iff (x : Nat) : rcodeTryFrom x = none ↔ ¬ fitsFourBits x := (below_bound 16 x).2

/-- `Rcode::try_from(ExtendedRcode(e))` succeeds exactly when `e < 16`, and keeps the value
    (the `as u8` cast loses nothing). -/
theorem C17_rcode_from_ext_iff (e : Nat) : rcodeFromExt e = some e ↔ e < 16 := by
  unfold rcodeFromExt
  have : Gen.rcodeFromExtBound = 16 := by decide
  rw [this]; split
  · simp; omega
  · simp; omega

theorem C17_rcode_from_ext_none_iff (e : Nat) : rcodeFromExt e = none ↔ ¬ e < 16 := by
  unfold rcodeFromExt
  have : Gen.rcodeFromExtBound = 16 := by decide
  rw [this]; split <;> simp_all

/-! ### the parsers never panic -/

/-- `text[n..]` after a successful `text.get(0..n)` is always on a char boundary. -/
theorem C17_no_panic (k : Kind) (t : Text) : parse k t ≠ .panic := by
  rw [C17_parse_eq]; exact parseWith_no_panic _ _ _ _ t

/-! ### the property as a whole -/

/-- **C17.** Every presentation (RFC 3597 §5 form, or a registry mnemonic, in any ASCII case) of a
    16-bit code parses to that code; rendering any 16-bit value and parsing it back yields the
    value; `Opcode` / `Rcode` conversions accept exactly the 4-bit values and keep them; an extended
    RCODE converts exactly when below 16. -/
theorem C17_full :
    (∀ k t v, Presents k t v → parse k t = .ok v) ∧
    (∀ k v, v < 65536 → parse k (display k v) = .ok v) ∧
    (∀ x, opcodeTryFrom x = some x ↔ fitsFourBits x) ∧
    (∀ x, rcodeTryFrom x = some x ↔ fitsFourBits x) ∧
    (∀ e, rcodeFromExt e = some e ↔ e < 16) := by
  refine ⟨?_, C17_roundtrip, C17_opcode_iff, C17_rcode_iff, C17_rcode_from_ext_iff⟩
  intro k t v hp
  cases hp with
  | mnemonic hm ht => exact C17_mnemonic k _ v hm t ht
  | generic hp hd hv => exact C17_rfc3597 k _ _ v hp hd hv

/-! ### the spec is unambiguous: a text presents at most one value -/

theorem C17_presents_unique (k : Kind) (t : Text) (v v' : Nat) (h : Presents k t v)
    (h' : Presents k t v') : v = v' := by
  -- the specification is decided by a function (`specParse_iff`)
  have e := (specParse_iff k t v).mpr h
  rw [(specParse_iff k t v').mpr h'] at e
  exact (Option.some.inj e).symm

/-! ### the oracle of the correspondence check is the specification -/

/-- the executable `specParse` (spec column of `cparse` / `cpres`) returns `v` exactly for the
    texts that present `v` -/
theorem C17_oracle_is_spec (k : Kind) (t : Text) (v : Nat) : specParse k t = some v ↔ Presents k t v :=
  specParse_iff k t v

/-! ### non-vacuity -/

example : typeDisplay 65280 = bytesOf "TYPE65280" := by decide +kernel
example : qtypeDisplay 255 = bytesOf "*" := by decide +kernel
example : typeFromStr (bytesOf "TYPE65280") = .ok 65280 := by decide +kernel
example : classFromStr (bytesOf "cLaSs+007") = .ok 7 := by decide +kernel
example : typeFromStr (bytesOf "TYPE65536") = .err .BadValue := by decide +kernel
example : typeFromStr (bytesOf "TYP€") = .err .Unknown := by decide +kernel
example : parseU16 (bytesOf "+0065") = some 65 := by decide +kernel
example : parseU16 (bytesOf "65536") = none := by decide +kernel
example : parseU16 (bytesOf "-5") = none := by decide +kernel
example : Presents .qtype (bytesOf "tYpE252") 252 :=
  .generic (p := bytesOf "tYpE") (by decide +kernel)
    (.snoc 2 (by omega) (by omega) (.snoc 5 (by omega) (by omega) (.digit 2 (by omega)))) (by omega)
example : Presents .qtype (bytesOf "axfr") 252 := .mnemonic (m := "AXFR") (by decide +kernel) (by decide +kernel)
/-- lower-case mnemonics parse (the inputs of defect D13) -/
example : parse .type (bytesOf "a") = .ok 1 := by decide +kernel
example : parse .class (bytesOf "in") = .ok 1 := by decide +kernel
example : parse .qtype (bytesOf "aNy") = .ok 255 := by decide +kernel
example : parse .qclass (bytesOf "none") = .ok 254 := by decide +kernel
example : Presents .type [97] 1 := .mnemonic (m := "A") (by decide +kernel) (by decide +kernel)

end QV.C17
