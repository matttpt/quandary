/-
  C29 — Worker pools run every accepted task and shut down cleanly.

  "Under every thread interleaving, each task accepted by a thread pool runs exactly once, and it
   has run by the time waiting for the group's shutdown returns. Shutdown waiting returns only
   after every thread of the group has exited, work submitted after shutdown has begun is
   rejected, and no interleaving deadlocks; this includes an auxiliary worker's linger timeout
   expiring while a task is being handed to it."

  Model: `QV.Pool` — src/thread.rs as a transition system at lock granularity: two mutexes, three
  condition variables (waiter sets, nondeterministic `notify_one`, spurious wake-ups, timeouts
  that fire at any moment), per-thread program counters for ARBITRARILY MANY threads of every
  role, tasks tracked individually.  `Reachable cfg s` quantifies over every interleaving.
  `cfg.fixed = false` is the code before commit a7b63db (defect D11).

  Level: theorems about the model, for all interleavings and any number of threads and tasks (no
  bounded exploration).  The model is tied to the code by trace validation: the unmodified
  src/thread.rs runs under a controlled scheduler and every logged execution must be a path of
  `QV.Pool.next` (group `pool`).  PARTIAL with respect to the real runtime: std::sync::{Mutex,
  Condvar}, the OS scheduler and real time are assumed to behave like the model's mutexes,
  condvars and `timeout` steps (see `assumptions` in tools/props.py).
-/
import QV.Proofs.PoolProgress

namespace QV.C29
open QV QV.Pool

/-- `available_workers` is exactly the number of registered workers — those waiting on
    `task_wakeup`, just woken, or re-checking the queue — plus the workers that left on shutdown
    without decrementing (which only exist once the pool is shutting down). -/
theorem C29_available_counts (cfg : Cfg) (hf : cfg.fixed = true) (s : State) (hr : Reachable cfg s) :
    s.available = s.threads.countP isReg + s.stale ∧ (0 < s.stale → s.pShutting = true) :=
  ⟨(cinv_reachable hf hr).avail, (cinv_reachable hf hr).stale⟩

/-- **The invariant D11 broke.**  In every reachable state of the repaired code, every queued task
    is covered by a registered worker that is awake (woken by a notification, a timeout or
    spuriously, or already holding the pool mutex) and that will look at the queue before it
    deregisters. -/
theorem C29_queue_covered (cfg : Cfg) (hf : cfg.fixed = true) (s : State) (hr : Reachable cfg s) :
    s.queue.length ≤ s.threads.countP isAwake :=
  (cinv_reachable hf hr).queue rfl

/-- `thread_count` is exactly the number of group threads that have not run `end_thread`. -/
theorem C29_thread_count (cfg : Cfg) (hf : cfg.fixed = true) (s : State) (hr : Reachable cfg s) :
    s.threadCount = s.threads.countP isLive :=
  (cinv_reachable hf hr).live

/-- mutual exclusion: at most one thread is inside a critical section of each mutex, and none
    when the mutex is free -/
theorem C29_mutual_exclusion (cfg : Cfg) (hf : cfg.fixed = true) (s : State) (hr : Reachable cfg s) :
    s.threads.countP holdsP = lockN s.pLock ∧ s.threads.countP holdsG = lockN s.gLock ∧
    s.threads.countP holdsP ≤ 1 ∧ s.threads.countP holdsG ≤ 1 := by
  have h := cinv_reachable hf hr
  exact ⟨h.lockP, h.lockG, h.lockP ▸ lockN_le_one _, h.lockG ▸ lockN_le_one _⟩

/-- the mutex a thread's next `acq` step takes -/
inductive LockId | G | P deriving DecidableEq

def wants : Local → Option LockId
  | .spWantG _ | .sosWantG _ | .shWantG | .pshWantG | .awWantG | .endWantG | .rhWantG _ => some .G
  | .subWantP _ | .sosWantP _ | .shInG | .pshWantP | .wWantP _ | .wWoken _ _ => some .P
  | _ => none

/-- `wants` is what `acq` does: a successful `acq t` takes the lock `wants` names -/
theorem C29_acq_takes_wanted (s s' : State) (t : Nat) (h : nextAcq s t = some s') :
    ∃ l, s.threads[t]? = some l ∧
      ((wants l = some .G ∧ s.gLock = none ∧ s'.gLock = some t ∧ s'.pLock = s.pLock) ∨
       (wants l = some .P ∧ s.pLock = none ∧ s'.pLock = some t ∧ s'.gLock = s.gLock)) := by
  unfold nextAcq at h
  cases hg : s.threads[t]? with
  | none => simp [hg] at h
  | some l =>
    refine ⟨l, rfl, ?_⟩
    simp only [hg] at h
    cases l <;> simp at h
    all_goals (
      obtain ⟨hgd, rfl⟩ := h
      simp [wants, State.setT, hgd])

/-- **Lock order group → pool.**  No thread ever waits for the group mutex while holding the pool
    mutex; the only nested acquisition is the pool mutex inside the group mutex
    (`ThreadGroup::shut_down`).  Hence there is no cycle in the wait-for graph of the mutexes. -/
theorem C29_lock_order (l : Local) :
    (holdsP l = true → wants l = none) ∧
    (holdsG l = true → wants l ≠ some .G) ∧
    (holdsG l = true → wants l = some .P → holdsP l = false) := by
  cases l <;> simp [holdsP, holdsG, wants]

/-- a task carried by a thread of the group keeps that thread alive -/
theorem live_of_expect {u k : Nat} {l : Local} {st : Status} (h : expect u l = some (k, st))
    (hst : st = .handed u ∨ st = .running u) : isLive l = true := by
  cases l <;> simp [expect] at h <;> try rfl
  all_goals (obtain ⟨_, rfl⟩ := h; rcases hst with h | h <;> cases h)

/-- **What `await_shutdown` observes.**  In every reachable state with `thread_count = 0` the
    queue is empty and every accepted task is done (has run to completion). -/
theorem C29_accepted_done_when_no_threads (cfg : Cfg) (hf : cfg.fixed = true) (s : State) (hr : Reachable cfg s)
    (h0 : s.threadCount = 0) :
    s.queue = [] ∧ ∀ (k : Nat) (st : Status), s.tasks[k]? = some st → st.accepted = true → st = .done := by
  have hc := cinv_reachable hf hr
  have ht := tinv_reachable hr
  have hlive : s.threads.countP isLive = 0 := hc.live.symm.trans h0
  have hq : s.queue = [] := by
    have := hc.queue rfl
    have := reg_eq_awake_add_wait s.threads
    have := countP_isReg_le_isLive s.threads
    exact List.eq_nil_of_length_eq_zero (by omega)
  refine ⟨hq, fun k st hk hacc => ?_⟩
  -- a task in a thread's hands keeps that thread alive
  have held (u : Nat) (hh : st.holder = some u) (hst : st = .handed u ∨ st = .running u) : False := by
    have he := ht.st k st u hk hh
    unfold E at he
    cases hu : s.threads[u]? with
    | none => simp [hu] at he
    | some l =>
      simp only [hu, Option.bind_some] at he
      have := List.countP_eq_zero.mp hlive l (List.mem_of_getElem? hu)
      exact this (live_of_expect he hst)
  cases st with
  | pending u => cases hacc
  | rejected => cases hacc
  | done => rfl
  | queued => exact absurd (ht.q2 k hk) (by simp [hq])
  | handed u => exact (held u rfl (.inl rfl)).elim
  | running u => exact (held u rfl (.inr rfl)).elim

/-- **`await_shutdown` returns only when shutdown is complete.**  The step by which an awaiter
    returns (it leaves `awInG` for `idle`) is enabled only in a state where shutdown has been
    initiated and no group thread is alive; every accepted task is then done and the queue is
    empty. -/
theorem C29_await_returns_only_when_done (cfg : Cfg) (hf : cfg.fixed = true) (s s' : State) (hr : Reachable cfg s)
    (t : Nat) (tg : Option Nat) (fl : Bool)
    (hat : s.threads[t]? = some .awInG) (hstep : next cfg s (.rel t tg fl) = some s')
    (hret : s'.threads[t]? = some .idle) :
    s.gShutting = true ∧ s.threadCount = 0 ∧ s.threads.countP isLive = 0 ∧ s.queue = [] ∧
    ∀ (k : Nat) (st : Status), s.tasks[k]? = some st → st.accepted = true → st = .done := by
  have hcond : s.gShutting = true ∧ s.threadCount = 0 := by
    simp only [next, nextRel, hat] at hstep
    by_cases hc : (s.gShutting && s.threadCount == 0) = true
    · simpa using hc
    · simp only [hc] at hstep
      cases tg <;> simp at hstep
      subst hstep
      simp [State.setT, get_lt hat] at hret
  have hd := C29_accepted_done_when_no_threads cfg hf s hr hcond.2
  have hl := (cinv_reachable hf hr).live
  exact ⟨hcond.1, hcond.2, by omega, hd.1, hd.2⟩

/-- **Each task is started at most once**, and exactly once iff it is running or done: the
    per-task start counter is `1` for started tasks and `0` for all others, in every reachable
    state (of the repaired and of the pre-fix code alike). -/
theorem C29_run_at_most_once (cfg : Cfg) (s : State) (hr : Reachable cfg s) (k : Nat) (st : Status)
    (hk : s.tasks[k]? = some st) :
    s.runs[k]? = some (if st.started then 1 else 0) :=
  (tinv_reachable hr).runsOk k st hk

/-- **Each task is in exactly one place.**  A task recorded as pending / handed / running is
    carried by exactly the thread recorded (and that thread carries no other task); a queued task
    is in the queue exactly once; and conversely. -/
theorem C29_task_in_one_place (cfg : Cfg) (s : State) (hr : Reachable cfg s) :
    (∀ (k : Nat) (st : Status) (u : Nat), s.tasks[k]? = some st → st.holder = some u → E s.threads u = some (k, st)) ∧
    (∀ (u k : Nat) (st : Status), E s.threads u = some (k, st) → s.tasks[k]? = some st) ∧
    (∀ k, k ∈ s.queue ↔ s.tasks[k]? = some .queued) ∧ s.queue.Nodup := by
  have h := tinv_reachable hr
  exact ⟨h.st, h.th, fun k => ⟨h.q1 k, h.q2 k⟩, h.nodup⟩

/-- **Work submitted after shutdown has begun is rejected.**  A submitter whose check of
    `shutting_down` (its critical section) happens in a state where the pool's flag is set gets
    `Err(ShuttingDown)`: the task is marked rejected and never enters the queue. -/
theorem C29_rejected_when_shutting (cfg : Cfg) (s s' : State) (t k : Nat) (tg : Option Nat) (fl : Bool)
    (hat : s.threads[t]? = some (.subInP k) ∨ s.threads[t]? = some (.sosInP k))
    (hsh : s.pShutting = true) (hstep : next cfg s (.rel t tg fl) = some s') :
    s'.tasks = s.tasks.set k .rejected ∧ s'.queue = s.queue ∧ s'.threads[t]? = some .idle := by
  rcases hat with hat | hat <;>
    simp only [next, nextRel, hat, hsh] at hstep <;>
    cases tg <;> simp at hstep <;> subst hstep <;>
    simp [State.setT, setStatus, get_lt hat]

/-- … and `submit_or_spawn`'s fallback (`start_oneshot`) is refused once the group's flag is set -/
theorem C29_spawn_rejected_when_group_shutting (cfg : Cfg) (s s' : State) (t k : Nat) (l : Label)
    (hat : s.threads[t]? = some (.sosInG k)) (hsh : s.gShutting = true)
    (hl : l = .spawn t false ∨ l = .spawn t true ∨ ∃ tg fl, l = .rel t tg fl)
    (hstep : next cfg s l = some s') :
    s'.tasks = s.tasks.set k .rejected ∧ s'.threadCount = s.threadCount := by
  rcases hl with rfl | rfl | ⟨tg, fl, rfl⟩
  · simp [next, nextSpawn, hat, hsh] at hstep
  · simp [next, nextSpawn, hat, hsh] at hstep
  · simp only [next, nextRel, hat, hsh] at hstep
    cases tg <;> simp at hstep
    subst hstep
    simp [State.setT, setStatus]

/-- **Nothing is accepted once shutdown is complete.**  In every reachable state with
    `thread_count = 0` (what `await_shutdown` waits for), the pool either has its flag set or has
    no available worker: every later `submit` / `submit_or_spawn` check fails to queue, and the
    fallback `start_oneshot` is refused by the group's flag (`C29_spawn_rejected_when_group_shutting`). -/
theorem C29_no_queueing_when_complete (cfg : Cfg) (hf : cfg.fixed = true) (s : State) (hr : Reachable cfg s)
    (h0 : s.threadCount = 0) : s.pShutting = true ∨ s.available ≤ s.queue.length := by
  have hc := cinv_reachable hf hr
  have hlive : s.threads.countP isLive = 0 := by rw [← hc.live]; exact h0
  have hreg := countP_isReg_le_isLive s.threads
  by_cases hs : 0 < s.stale
  · exact Or.inl (hc.stale hs)
  · right
    have := hc.avail
    omega

/-! ### deadlock-freedom -/

/-- a thread that is legitimately waiting: nothing the pool owes it is outstanding -/
def Parked (s : State) : Local → Prop
  | .idle | .exited => True
  -- an idle permanent worker: no work, no shutdown
  | .wWait .perm => s.queue = [] ∧ s.pShutting = false
  -- a blocked `submit`: no worker is available, no shutdown
  | .subWait _ => s.pShutting = false ∧ s.available ≤ s.queue.length
  -- `await_shutdown`: shutdown is not complete
  | .awWait => ¬ (s.gShutting = true ∧ s.threadCount = 0)
  | _ => False

/-- **Statement of deadlock-freedom** (proved below as `C29_progress`): in every reachable state either some step that is not
    a pure environment step (arrival, API call, spurious wake-up) is enabled — timeouts count as
    enabled steps: time passes — or every thread is idle, has exited, or is waiting legitimately
    (so no wake-up has been lost). -/
def C29_progress_full : Prop :=
  ∀ (cfg : Cfg), cfg.fixed = true → ∀ s, Reachable cfg s →
    Enabled cfg s ∨ ∀ (t : Nat) (l : Local), s.threads[t]? = some l → Parked s l

theorem b2n_eq_one {b : Bool} (h : b2n b = 1) : b = true := by cases b <;> simp_all
theorem b2n_eq_zero {b : Bool} (h : b2n b = 0) : b = false := by cases b <;> simp_all

/-- the environment assumption on `ThreadPool::shut_down` is maintained by the model's call guards:
    a pool shutter inside its group section still finds the pool registered -/
theorem C29_pool_shutter_finds_pool (cfg : Cfg) (s : State) (hr : Reachable cfg s)
    (t : Nat) (hg : s.threads[t]? = some Local.pshInG) : s.hasPool = true := by
  have hpos : 0 < s.threads.countP isPshEarly := countP_pos hg rfl
  rcases (winv_reachable hr).calls.f4 with h | ⟨h, _⟩
  · omega
  · exact b2n_eq_one h

/-- **No deadlock on the mutexes.**  In every reachable state in which some thread holds or is
    waiting for a mutex, a non-environment step is enabled: the holder of the pool mutex can always
    finish its critical section, the holder of the group mutex can finish or needs only the pool
    mutex, and a free mutex can be taken (mutual exclusion + lock order group → pool). -/
theorem C29_no_lock_deadlock (cfg : Cfg) (hf : cfg.fixed = true) (s : State) (hr : Reachable cfg s)
    (t : Nat) (l : Local) (hg : s.threads[t]? = some l)
    (hl : wantsG l = true ∨ wantsP l = true ∨ holdsP l = true ∨ holdsG l = true) : Enabled cfg s :=
  lock_progress cfg s (cinv_reachable hf hr) (fun u hu => C29_pool_shutter_finds_pool cfg s hr u hu) t l hg hl

/-- threads that are running a task, or whose timed wait can time out, can always step too -/
theorem C29_runner_or_timed_waiter_can_step (cfg : Cfg) (s : State) (t : Nat) (l : Local)
    (hg : s.threads[t]? = some l)
    (hl : (∃ w k, l = .wRun w k) ∨ (∃ w k, l = .wRunning w k) ∨ (∃ k, l = .auxStart k) ∨
          (∃ k, l = .auxRunning k) ∨ l = .wWait .aux ∨ l = .rhWait) : Enabled cfg s := by
  have mk : ∀ lab : Label, lab.isEnv = false → (∃ s', next cfg s lab = some s') → Enabled cfg s :=
    fun lab he ⟨s', h⟩ => ⟨lab, s', he, h⟩
  rcases hl with ⟨w, k, rfl⟩ | ⟨w, k, rfl⟩ | ⟨k, rfl⟩ | ⟨k, rfl⟩ | rfl | rfl
  · exact mk (.run t) rfl (by simp [next, nextRun, hg])
  · exact mk (.fin t) rfl (by simp [next, nextFin, hg])
  · exact mk (.run t) rfl (by simp [next, nextRun, hg])
  · exact mk (.fin t) rfl (by simp [next, nextFin, hg])
  · exact mk (.timeout t) rfl (by simp [next, nextTimeout, hg])
  · exact mk (.timeout t) rfl (by simp [next, nextTimeout, hg])

/-- the only states without an enabled non-environment step consist of threads that are idle,
    exited, or blocked on a condition variable without a timeout -/
theorem C29_stuck_states_are_condvar_waits (cfg : Cfg) (hf : cfg.fixed = true) (s : State) (hr : Reachable cfg s)
    (hstuck : ¬ Enabled cfg s) (t : Nat) (l : Local) (hg : s.threads[t]? = some l) :
    l = .idle ∨ l = .exited ∨ l = .wWait .perm ∨ (∃ k, l = .subWait k) ∨ l = .awWait := by
  have h1 := fun h => hstuck (C29_no_lock_deadlock cfg hf s hr t l hg h)
  have h2 := fun h => hstuck (C29_runner_or_timed_waiter_can_step cfg s t l hg h)
  cases l <;> simp [wantsG, wantsP, holdsP, holdsG] at h1 h2 ⊢
  case wWait w => cases w <;> simp at h2 ⊢

theorem count_zero_of_stuck (cfg : Cfg) (hf : cfg.fixed = true) (s : State) (hr : Reachable cfg s)
    (hstuck : ¬ Enabled cfg s) (p : Local → Bool)
    (hp : p .idle = false ∧ p .exited = false ∧ p (.wWait .perm) = false ∧ (∀ k, p (.subWait k) = false) ∧ p .awWait = false) :
    s.threads.countP p = 0 := by
  rw [List.countP_eq_zero]
  intro a ha hw
  obtain ⟨u, hu⟩ := List.mem_iff_getElem?.mp ha
  rcases C29_stuck_states_are_condvar_waits cfg hf s hr hstuck u a hu with rfl | rfl | rfl | ⟨k, rfl⟩ | rfl
  · rw [hp.1] at hw; cases hw
  · rw [hp.2.1] at hw; cases hw
  · rw [hp.2.2.1] at hw; cases hw
  · rw [hp.2.2.2.1 k] at hw; cases hw
  · rw [hp.2.2.2.2] at hw; cases hw

/-- **Deadlock-freedom (full statement proved).**  Under every interleaving, in every reachable
    state of the repaired code, either some step that is not a pure environment step is enabled,
    or every thread is idle, has exited, or is waiting *legitimately*: a permanent worker with an
    empty queue and no shutdown; a blocked `submit` with no available worker and no shutdown; an
    awaiter while shutdown is not complete.  No wake-up is ever lost, and no lock cycle exists.
    Assumptions (see tools/props.py): Mesa condition variables whose `notify_one` wakes a waiter
    if there is one; timeouts eventually fire (they are ordinary steps); tasks terminate. -/
theorem C29_progress : C29_progress_full := by
  intro cfg hf s hr
  by_cases hstuck : Enabled cfg s
  · exact Or.inl hstuck
  right
  intro t l hg
  have hc := cinv_reachable hf hr
  have hw := winv_reachable hr
  have zero := count_zero_of_stuck cfg hf s hr hstuck
  have hAwake : s.threads.countP isAwake = 0 := zero isAwake (by simp [isAwake])
  have hSA : s.threads.countP isSubAwake = 0 := zero isSubAwake (by simp [isSubAwake])
  have hSM : s.threads.countP isShMid = 0 := zero isShMid (by simp [isShMid])
  have hq : s.queue = [] := List.eq_nil_of_length_eq_zero (by have := hc.queue rfl; omega)
  have b1 := b2n_le_one s.pShutting
  have b2 := b2n_le_one s.gShutting
  rcases C29_stuck_states_are_condvar_waits cfg hf s hr hstuck t l hg with rfl | rfl | rfl | ⟨k, rfl⟩ | rfl
  · trivial
  · trivial
  · have hpos : 0 < s.threads.countP isWWait := countP_pos hg rfl
    refine ⟨hq, b2n_eq_zero ?_⟩
    rcases hw.work.w1 with h | h <;> omega
  · have hpos : 0 < s.threads.countP isSubWait := countP_pos hg rfl
    have hps : b2n s.pShutting = 0 := by rcases hw.work.w2 with h | h <;> omega
    refine ⟨b2n_eq_zero hps, ?_⟩
    rcases hw.work.w3 with h | h | h <;> omega
  · have hpos : 0 < s.threads.countP isAwWait := countP_pos hg rfl
    intro ⟨h1, h2⟩
    have : b2n s.gShutting = 1 := b2n_of_true h1
    rcases hw.await.w4 with h | h | h | h <;> omega

/-! ### the defect repaired by a7b63db (D11) -/

/-- the witness schedule: an auxiliary worker lingers (registered, asleep with a timeout); its
    timeout fires; a submitter counts it as available, queues task 1 and notifies nobody; the
    worker re-acquires the mutex, sees `timed_out()`, deregisters and exits without looking at the
    queue; shutdown completes with the accepted task 1 still queued. -/
def d11Schedule : List Label :=
  [.arrive, .arrive, .callStartPool 0 0, .acq 0, .rel 0 none false,
   .callSos 0, .acq 0, .rel 0 none false, .acq 0, .spawn 0 false, .rel 0 none false,
   .run 2, .fin 2, .acq 2, .rel 2 none false, .timeout 2,
   .callSos 1, .acq 1, .rel 1 none false,
   .acq 2, .rel 2 none false, .acq 2, .rel 2 none false,
   .callShutdown 0, .acq 0, .acq 0, .rel 0 none false, .rel 0 none false]

theorem reachable_of_runLabels (cfg : Cfg) : ∀ (ls : List Label) (s s' : State), Reachable cfg s →
    runLabels cfg s ls = some s' → Reachable cfg s'
  | [], s, s', hr, h => by simp [runLabels] at h; subst h; exact hr
  | l :: ls, s, s', hr, h => by
    simp only [runLabels] at h
    cases hn : next cfg s l with
    | none => simp [hn] at h
    | some s1 =>
      simp only [hn] at h
      exact reachable_of_runLabels cfg ls s1 s' (Reachable.step hr ⟨l, hn⟩) h

/-- **Before a7b63db the bad state is reachable**: with the pre-fix transition relation
    (`fixed := false`) the schedule above leads to a state in which shutdown is complete
    (`thread_count = 0`, `shutting_down`), yet the accepted task 1 is still in the queue and has
    never been started. -/
theorem C29_buggy_strands_a_task :
    ∃ s, Reachable { linger := true, fixed := false } s ∧
      s.gShutting = true ∧ s.threadCount = 0 ∧ s.queue = [1] ∧
      s.tasks[1]? = some .queued ∧ s.runs[1]? = some 0 ∧ ¬ (s.queue.length ≤ s.threads.countP isAwake) := by
  have h : ∃ s, runLabels { linger := true, fixed := false } init d11Schedule = some s ∧
      s.gShutting = true ∧ s.threadCount = 0 ∧ s.queue = [1] ∧
      s.tasks[1]? = some .queued ∧ s.runs[1]? = some 0 ∧ ¬ (s.queue.length ≤ s.threads.countP isAwake) := by
    decide
  obtain ⟨s, hrun, rest⟩ := h
  exact ⟨s, reachable_of_runLabels _ _ _ _ Reachable.init hrun, rest⟩

/-- **With the current code it is not**: no reachable state of the repaired transition relation
    has `thread_count = 0` and a non-empty queue, or an accepted task that is not done. -/
theorem C29_fixed_never_strands (s : State) (hr : Reachable { linger := true, fixed := true } s)
    (h0 : s.threadCount = 0) : s.queue = [] ∧ ∀ (k : Nat) (st : Status), s.tasks[k]? = some st → st.accepted = true → st = .done :=
  C29_accepted_done_when_no_threads _ rfl s hr h0

/-- the same schedule is not even a path of the repaired relation: the woken worker takes the task -/
example : runLabels { linger := true, fixed := true } init d11Schedule = none := by decide

/-- non-vacuity: the repaired relation does reach states with completed shutdown and done tasks
    (the schedule in which the worker, after its timeout, finds the queued task and runs it) -/
example : ∃ s, runLabels { linger := true, fixed := true } init
      [.arrive, .arrive, .callStartPool 0 0, .acq 0, .rel 0 none false,
       .callSos 0, .acq 0, .rel 0 none false, .acq 0, .spawn 0 false, .rel 0 none false,
       .run 2, .fin 2, .acq 2, .rel 2 none false, .timeout 2,
       .callSos 1, .acq 1, .rel 1 none false,
       .acq 2, .rel 2 none false, .run 2, .fin 2,
       .callShutdown 0, .acq 0, .acq 0, .rel 0 none false, .rel 0 none false,
       .acq 2, .rel 2 none false, .acq 2, .rel 2 none false,
       .callAwait 1, .acq 1, .rel 1 none false] = some s ∧
      s.gShutting = true ∧ s.threadCount = 0 ∧ s.queue = [] ∧ s.tasks = [.done, .done] ∧ s.runs = [1, 1] := by
  decide

end QV.C29
