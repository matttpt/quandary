/-
  C07 — Zone selection and RCODEs for unsupported queries.

  "Well-formed requests with an opcode other than QUERY, and queries with QCLASS ANY or QTYPE AXFR,
   IXFR, MAILA or MAILB, get NOTIMP regardless of the catalog. Any other query is answered from the
   catalog entry of its class whose name is the longest suffix of the QNAME: no such entry gives
   REFUSED, and an entry that is not loaded or failed to load gives SERVFAIL. All of these NOTIMP,
   REFUSED and SERVFAIL responses carry no records besides OPT/TSIG and have AA clear."

  Model: `QV.Server.handleMessage` (src/server/mod.rs, src/server/query.rs `handle_query`) over the
  catalog model of C22 (src/db/hash_map_tree/catalog.rs).  Spec: `specScanWith`'s decision table and
  `specErrorResponse`; the catalog lookup is C22's `IsLongestMatch`.

  Proved, for every configuration, transport, buffer and request:
  * `C07_decision` — the decision table itself (which verdict for which opcode/QTYPE/QCLASS/catalog
    state), for requests whose scan reaches the dispatch;
  * `C07_response` — for each of the three verdicts the response exists and is exactly
    `specErrorResponse`: that RCODE, ANCOUNT = NSCOUNT = 0, nothing after the question but the OPT
    record (iff the scan reached one), AA and TC clear;
  * `C07_catalog_longest` — the entry consulted is the entry of QCLASS whose name is the longest
    suffix of QNAME among the entries inserted (C22's theorem applied to the server's catalog).
  For requests that carry a TSIG record reaching TSIG processing (verdict `tsigReached`; C10 decides
  whether the TSIG step authenticates):
  * `C07_after_verified_tsig` — whenever the TSIG step authenticates, the *same* decision table
    (`endVerdict`, by `specTail_done` literally the table of `specScanWith`) is applied, and for
    NOTIMP / REFUSED / SERVFAIL the response is `finish` of the writer the TSIG step left with only
    the RCODE set;
  * `C07_signed_response` — and on the octets: the response exists, has exactly that RCODE, ANCOUNT =
    NSCOUNT = 0, AA and TC clear, ARCOUNT = (OPT ? 2 : 1), and after the question nothing but the OPT
    record (iff the scan reached one) followed by the TSIG record (TYPE 250, CLASS ANY, TTL 0, RDATA per
    RFC 8945 §4.2, MAC over exactly the octets before it), which is last (`Proofs/FinishTsig`,
    `Proofs/ServerSigned`: `finish` read backwards in every compression mode).
  `theorem C07 : C07_full` — both halves.  The one thing the octet statement leaves symbolic is the
  TSIG record's owner: it is the key name as `write_hinted_name` wrote it, literally or as a literal
  prefix plus a compression pointer (`NameShape`); that a compressed owner *decodes* to the key name
  is the writer's compression theorem (C12/C13), not restated here.
-/
import QV.Proofs.ServerSigned
import QV.Properties.C22

namespace QV.C07
open QV QV.Spec.Server QV.ServerScan

/-- a response without data: no answer, no authority, and after the question nothing but the OPT -/
structure NoData (p : Nat) (sc : Scan) (b : Bytes) : Prop where
  an : hdr b 6 = 0
  ns : hdr b 8 = 0
  ar : hdr b 10 = (if sc.edns then 1 else 0)
  rest : b.toList.drop 12 = specQuestionOctets sc.question ++ specOptOctets p sc
  aa : hdr b 2 / 1024 % 2 = 0
  tc : hdr b 2 / 512 % 2 = 0

/-- C07 at full strength: unsigned requests (the verdict of the scan is one of the three), and
    TSIG-signed requests that the TSIG step authenticates (the same decision table, applied after the
    TSIG record).  Requests that fail authentication get NOTAUTH / FORMERR from the TSIG step: C10. -/
def C07_full : Prop :=
  ∀ (cfg : Server.Cfg) (tr : Server.Transport) (now bufLen : Nat) (req : Bytes),
    minBuf tr cfg.payload ≤ bufLen → 512 ≤ cfg.payload → req.size ≤ Rdata.USIZE_MAX →
    (∀ v, (v = Verdict.notImp ∨ v = .refused ∨ v = .servFailZone) →
      (specScanWith (catKind cfg) cfg.payload req).respond = true →
      (specScanWith (catKind cfg) cfg.payload req).verdict = v →
      ∃ b, Server.handleMessage cfg tr now bufLen req = .ok (some b) ∧
        hdr b 2 % 16 = (verdictRcode v).1 ∧ NoData cfg.payload (specScanWith (catKind cfg) cfg.payload req) b) ∧
    -- signed requests (well-formed configuration, clock below 2^48 s: C01's hypotheses)
    (ServerSafety.CfgWF cfg → now < 2^48 →
      (specScanWith (catKind cfg) cfg.payload req).respond = true →
      (specScanWith (catKind cfg) cfg.payload req).verdict = .tsigReached →
      ∃ (t : Tsig.ReadTsigRr) (mw : Bytes) (r' : Reader.Reader), r'.octets = req ∧ r'.cursor ≤ req.size ∧
        ∀ r'' S, Server.tsigAfter cfg now t mw r' (preTsigState cfg tr bufLen req) = (.ok (some r''), S) →
        ∀ v, (v = Verdict.notImp ∨ v = .refused ∨ v = .servFailZone) →
          endVerdict (catKind cfg) req.size (specScanWith (catKind cfg) cfg.payload req).question
            r'.cursor ((req.getD 2 0).toNat / 8 % 16) = v →
          ∃ b, Server.handleMessage cfg tr now bufLen req = .ok (some b) ∧
            SignedNoData cfg.payload (specScanWith (catKind cfg) cfg.payload req) (verdictRcode v).1 b)

/-! ### the decision table -/

/-- **Theorem (decision table).** For a request whose three record sections scan cleanly to the end
    of the message: an opcode other than QUERY gives NOTIMP; a QUERY for QTYPE 251–254 (IXFR, AXFR,
    MAILB, MAILA) or QCLASS 255 gives NOTIMP whatever the catalog says; otherwise the catalog
    decides — no entry: REFUSED; entry not loaded / failed: SERVFAIL; loaded: it answers. -/
theorem C07_decision (lookup : List UInt8 → Nat → Option ZoneKind) (S : Nat) (msg : Bytes)
    (q : Spec.DQuestion) (p1 an ns ar opcode p2 p3 : Nat) (e : Bool) (l : Nat)
    (h1 : scanPlain msg (an + ns) p1 = some p2) (h2 : scanAr msg S ar ar p2 false 512 = (.done p3, e, l))
    (h3 : ¬ p3 < msg.size) :
    (specTail lookup S msg (some q) p1 an ns ar opcode).verdict =
      if opcode ≠ 0 then .notImp
      else if 251 ≤ q.qtype ∧ q.qtype ≤ 254 then .notImp
      else if q.qclass = 255 then .notImp
      else match lookup q.qname q.qclass with
        | none => .refused
        | some .loaded => .answer
        | some _ => .servFailZone := by
  rw [specTail_done lookup S msg (some q) p1 an ns ar opcode p2 p3 e l h1 h2]
  unfold endVerdict
  rw [if_neg h3]
  rfl

/-! ### the responses -/

/-- **Theorem.** Whenever the scan's verdict is NOTIMP, REFUSED or SERVFAIL (zone not loaded), the
    server responds, with exactly that RCODE, no answer or authority records, no additional record
    except the OPT (present iff the scan reached an OPT), and AA and TC clear. -/
theorem C07_response (cfg : Server.Cfg) (tr : Server.Transport) (now bufLen : Nat) (req : Bytes)
    (hbuf : minBuf tr cfg.payload ≤ bufLen) (hpay : 512 ≤ cfg.payload) (hreq : req.size ≤ Rdata.USIZE_MAX)
    (hr : (specScanWith (catKind cfg) cfg.payload req).respond = true)
    (v : Verdict) (hv : v = .notImp ∨ v = .refused ∨ v = .servFailZone)
    (hsv : (specScanWith (catKind cfg) cfg.payload req).verdict = v) :
    ∃ b, Server.handleMessage cfg tr now bufLen req = .ok (some b) ∧
      b.toList = specErrorResponse req cfg.payload (specScanWith (catKind cfg) cfg.payload req) ∧
      hdr b 2 % 16 = (verdictRcode v).1 ∧ NoData cfg.payload (specScanWith (catKind cfg) cfg.payload req) b := by
  have hnd : noDataV (specScanWith (catKind cfg) cfg.payload req).verdict = true := by
    rw [hsv]; rcases hv with rfl | rfl | rfl <;> rfl
  obtain ⟨b, hb, hl⟩ := server_error_response cfg tr now bufLen req hbuf hpay hreq hr hnd
  obtain ⟨_, _, h2, h3, _, han, hns, har, hrest⟩ := errResp_facts _ _ _ _ hl
  obtain ⟨_, _, f3, f4, _, _, _, f8⟩ := flags_facts b req _ (verdictRcode_lt _) h2 h3
  exact ⟨b, hb, hl, by rw [f8, hsv], han, hns, har, hrest, f3, f4⟩

/-! ### after a TSIG record that verifies -/

/-- **Theorem (signed requests).** For a request whose scan reaches a well-formed TSIG record there
    are the TSIG record `t`, the message without it `mw` and the reader `r'` after it such that:
    if the TSIG step authenticates (returns a reader, leaving the writer `S`; C10 says exactly when)
    and the decision table gives NOTIMP, REFUSED or SERVFAIL-for-a-zone-not-loaded, then the
    response is `finish` of `S` with that RCODE set and nothing else changed. -/
theorem C07_after_verified_tsig (cfg : Server.Cfg) (tr : Server.Transport) (now bufLen : Nat) (req : Bytes)
    (hbuf : minBuf tr cfg.payload ≤ bufLen) (hpay : 512 ≤ cfg.payload) (hreq : req.size ≤ Rdata.USIZE_MAX)
    (hr : (specScanWith (catKind cfg) cfg.payload req).respond = true)
    (hv : (specScanWith (catKind cfg) cfg.payload req).verdict = .tsigReached) :
    ∃ (t : Tsig.ReadTsigRr) (mw : Bytes) (r' : Reader.Reader), r'.octets = req ∧ r'.cursor ≤ req.size ∧
      ∀ r'' S, Server.tsigAfter cfg now t mw r' (preTsigState cfg tr bufLen req) = (.ok (some r''), S) →
        ∀ v, (v = Verdict.notImp ∨ v = .refused ∨ v = .servFailZone) →
        endVerdict (catKind cfg) req.size (specScanWith (catKind cfg) cfg.payload req).question
          r'.cursor ((req.getD 2 0).toNat / 8 % 16) = v →
        Server.handleMessage cfg tr now bufLen req =
          match Writer.finish (Writer.stRcode (verdictRcode v).1 S) Server.macFn with
          | .ok (bytes, _) => .ok (some bytes)
          | _ => .panic := by
  obtain ⟨t, mw, r', h1, h2, h3⟩ := handleMessage_after_tsig cfg tr now bufLen req hbuf hpay hreq hr hv
  refine ⟨t, mw, r', h1, h2, fun r'' S hT v hvv hev => ?_⟩
  have := h3 r'' S hT (by rw [hev]; rcases hvv with rfl | rfl | rfl <;> simp)
  rw [this, hev]
  rcases hvv with rfl | rfl | rfl <;> rfl

/-- **Theorem (signed requests, on the octets).** For a request whose scan reaches a well-formed
    TSIG record: if the TSIG step authenticates it and the decision table gives NOTIMP, REFUSED or
    SERVFAIL-for-a-zone-not-loaded, the server responds with exactly that RCODE, no answer or
    authority records, AA and TC clear, and after the question only the OPT record (iff the scan
    reached one) and the TSIG record, which is last. -/
theorem C07_signed_response (cfg : Server.Cfg) (hcfg : ServerSafety.CfgWF cfg) (tr : Server.Transport)
    (now bufLen : Nat) (req : Bytes)
    (hbuf : minBuf tr cfg.payload ≤ bufLen) (hpay : 512 ≤ cfg.payload) (hreq : req.size ≤ Rdata.USIZE_MAX)
    (hnow : now < 2^48)
    (hr : (specScanWith (catKind cfg) cfg.payload req).respond = true)
    (hv : (specScanWith (catKind cfg) cfg.payload req).verdict = .tsigReached) :
    ∃ (t : Tsig.ReadTsigRr) (mw : Bytes) (r' : Reader.Reader), r'.octets = req ∧ r'.cursor ≤ req.size ∧
      ∀ r'' S, Server.tsigAfter cfg now t mw r' (preTsigState cfg tr bufLen req) = (.ok (some r''), S) →
      ∀ v, (v = Verdict.notImp ∨ v = .refused ∨ v = .servFailZone) →
        endVerdict (catKind cfg) req.size (specScanWith (catKind cfg) cfg.payload req).question
          r'.cursor ((req.getD 2 0).toNat / 8 % 16) = v →
        ∃ b, Server.handleMessage cfg tr now bufLen req = .ok (some b) ∧
          SignedNoData cfg.payload (specScanWith (catKind cfg) cfg.payload req) (verdictRcode v).1 b := by
  obtain ⟨t, mw, r', h1, h2, h3⟩ := signed_noData_full cfg hcfg tr now bufLen req hbuf hpay hreq hnow hr hv
  exact ⟨t, mw, r', h1, h2, fun r'' S hT v hvv hev =>
    h3 r'' S hT v (by rcases hvv with h | h | h <;> simp [h]) hev⟩

/-! ### the catalog entry used -/

/-- the history of catalog operations that builds the server's catalog: one insert per entry -/
def catOps (zs : List Server.ZoneEntry) : List (Catalog.Op Unit) :=
  zs.zipIdx.map (fun p => Catalog.Op.insert ⟨p.1.apex.labels, p.1.cls, p.1.kind, p.2, ()⟩)

theorem mkCatalog_eq_run (zs : List Server.ZoneEntry) : Server.mkCatalog zs = Catalog.run (catOps zs) := by
  unfold Server.mkCatalog Catalog.run catOps
  rw [List.foldl_map]
  rfl

/-- **Theorem.** The catalog entry `handle_query` consults for `(qname, qclass)` is the entry of that
    class whose name is the longest suffix (label-wise, ASCII case-insensitively) of the QNAME among
    the entries inserted — `none` exactly when no entry's name is a suffix (C22). -/
theorem C07_catalog_longest (cfg : Server.Cfg) (qn : Writer.WName) (qclass : Nat) :
    Spec.Catalog.IsLongestMatch (Catalog.specRun (catOps cfg.zones)) qclass
      (Spec.Catalog.foldName qn.labels) (Catalog.lookup (Server.mkCatalog cfg.zones) qn.labels qclass) := by
  rw [mkCatalog_eq_run]
  exact C22.C22_lookup_longest (catOps cfg.zones) qn.labels qclass

/-! ### C07 -/

/-- **C07 holds at full strength.** -/
theorem C07 : C07_full := by
  intro cfg tr now bufLen req hbuf hpay hreq
  refine ⟨fun v hvv hr hsv => ?_, fun hcfg hnow hr hv =>
    C07_signed_response cfg hcfg tr now bufLen req hbuf hpay hreq hnow hr hv⟩
  obtain ⟨b, hb, _, h2, h3⟩ := C07_response cfg tr now bufLen req hbuf hpay hreq hr v hvv hsv
  exact ⟨b, hb, h2, h3⟩

/-! ### non-vacuity -/

def exCfg : Server.Cfg := { payload := 1232, zones := [] }
/-- catalog: `.` class IN not yet loaded -/
def exCfgN : Server.Cfg := { payload := 1232, zones := [⟨⟨[]⟩, 1, .NotYetLoaded, default⟩] }
/-- `. IN NS` -/
def exQuery : Bytes := #[0x12, 0x34, 0x01, 0x00, 0, 1, 0, 0, 0, 0, 0, 0, 0, 0, 2, 0, 1]
/-- `. IN AXFR` (QTYPE 252) -/
def exAxfr : Bytes := #[0x12, 0x34, 0x00, 0x00, 0, 1, 0, 0, 0, 0, 0, 0, 0, 0, 252, 0, 1]
/-- opcode 4 (NOTIFY), no question -/
def exNotify : Bytes := #[0, 1, 0x20, 0, 0, 0, 0, 0, 0, 0, 0, 0]

example : (specScanWith (catKind exCfg) 1232 exQuery).verdict = .refused := by decide +kernel
example : (specScanWith (catKind exCfgN) 1232 exQuery).verdict = .servFailZone := by decide +kernel
example : (specScanWith (catKind exCfgN) 1232 exAxfr).verdict = .notImp := by decide +kernel
example : (specScanWith (catKind exCfg) 1232 exNotify).verdict = .notImp := by decide +kernel

/-- the theorem applies to a concrete query against a not-yet-loaded zone: SERVFAIL, no records -/
example : ∃ b, Server.handleMessage exCfgN .tcp 0 65535 exQuery = .ok (some b) ∧
    b.toList = [0x12, 0x34, 0x81, 0x02, 0, 1, 0, 0, 0, 0, 0, 0, 0, 0, 2, 0, 1] := by
  obtain ⟨b, hb, hl, _⟩ := C07_response exCfgN .tcp 0 65535 exQuery (hbuf := by decide) (hpay := by decide)
    (hreq := by decide) (hr := by decide +kernel) .servFailZone (Or.inr (Or.inr rfl)) (hsv := by decide +kernel)
  exact ⟨b, hb, by rw [hl]; decide +kernel⟩

end QV.C07
