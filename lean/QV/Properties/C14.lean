/-
  C14 — Wire-format name decoding matches RFC 1035.

  "For any octet buffer and start offset, decoding a possibly compressed name terminates without
   panicking and yields exactly the name and first-chunk length an independent RFC 1035 §4.1.4
   decoder yields (pointers strictly backwards, labels of at most 63 octets, names of at most 255
   octets), or an error when that decoder fails. Skipping, validating and uncompressed parsing
   agree with it on acceptance and length."

  Model: `QV.Model.Wire` (mirrors src/name/wire.rs).  Spec: `QV.Spec.Decodes` (QV/Spec/NameWire.lean).
  Termination is discharged by Lean's termination checker for `parseAux` (lexicographic measure
  `(chunk_start, msg.size - index)`), `uncompAux` and `skipAux`.
-/
import QV.Proofs.Wire

namespace QV.C14
open QV QV.Wire QV.Spec

/-- **Main theorem.** The parser accepts exactly the names the RFC relation describes, and
    returns exactly that wire form, label count and first-chunk length. -/
theorem C14_parse_ok_iff (msg : Bytes) (s : Nat) (p : Parsed) :
    parseCompressed msg s = .ok p ↔ DecodesName msg s p.wire p.nlabels p.len := by
  unfold parseCompressed DecodesName
  constructor
  · intro h
    obtain ⟨w', n', k', hd, hw, hl, hn, hk⟩ := parseAux_sound msg s s [] 0 none p (Nat.le_refl _) h
    simp at hw hn hk
    subst hw hn hk
    exact ⟨hd, hl⟩
  · intro ⟨hd, hl⟩
    have := parseAux_complete msg hd [] 0 none (Nat.le_refl _) (by simpa using hl) (by simp)
    rw [this]; simp

/-- The parser never panics: no index is out of range and `label_offsets` never overflows. -/
theorem C14_no_panic (msg : Bytes) (s : Nat) : parseCompressed msg s ≠ .panic :=
  parseAux_no_panic msg s s [] 0 none (by simp) (by simp)

/-- It reports an error exactly when no name decodes at `s`. -/
theorem C14_err_iff (msg : Bytes) (s : Nat) :
    (∃ e, parseCompressed msg s = .err e) ↔ ¬ ∃ w n k, DecodesName msg s w n k := by
  constructor
  · intro ⟨e, he⟩ ⟨w, n, k, hd⟩
    have := (C14_parse_ok_iff msg s ⟨w, n, k⟩).mpr hd
    rw [he] at this; cases this
  · intro hno
    cases h : parseCompressed msg s with
    | ok p => exact absurd ⟨p.wire, p.nlabels, p.len, (C14_parse_ok_iff msg s p).mp h⟩ hno
    | err e => exact ⟨e, rfl⟩
    | panic => exact absurd h (C14_no_panic msg s)

/-- The RFC relation is functional: a buffer and offset decode to at most one name. -/
theorem C14_decodes_unique (msg : Bytes) (s : Nat) (w w' : List UInt8) (n n' k k' : Nat)
    (h : DecodesName msg s w n k) (h' : DecodesName msg s w' n' k') : w = w' ∧ n = n' ∧ k = k' := by
  have a := (C14_parse_ok_iff msg s ⟨w, n, k⟩).mpr h
  have b := (C14_parse_ok_iff msg s ⟨w', n', k'⟩).mpr h'
  rw [a] at b
  cases b; exact ⟨rfl, rfl, rfl⟩

/-- Uncompressed parsing never panics. -/
theorem C14_uncompressed_no_panic (b : Bytes) (u : Bool) : parseUncompressed b u ≠ .panic :=
  parseUncompressed_no_panic b u

/-- Validation agrees with uncompressed parsing on acceptance and length … -/
theorem C14_validate_ok_iff (b : Bytes) (u : Bool) (k : Nat) :
    validateUncompressed b u = .ok k ↔ ∃ p, parseUncompressed b u = .ok p ∧ p.len = k :=
  validate_iff_parse b u k

/-- … and on the error reported. -/
theorem C14_validate_err_iff (b : Bytes) (u : Bool) (e : NameErr) :
    validateUncompressed b u = .err e ↔ parseUncompressed b u = .err e :=
  validate_err_iff_parse b u e

/-- Uncompressed parsing agrees with the (compressed) decoder: same name, same length. -/
theorem C14_uncompressed_agrees (b : Bytes) (p : Parsed) (h : parseUncompressed b false = .ok p) :
    DecodesName b 0 p.wire p.nlabels p.len :=
  (C14_parse_ok_iff b 0 p).mp (parseUncompressed_compressed b p h)

/-- Skipping agrees with decoding on acceptance and length. -/
theorem C14_skip_agrees (msg : Bytes) (s : Nat) (p : Parsed) (h : parseCompressed msg s = .ok p) :
    skipCompressed (msg.extract s msg.size) = .ok p.len :=
  skip_of_parse msg s p h

/-! ### non-vacuity: a concrete compressed name satisfies the relation -/

/-- `\x03www\xc0\x00` at offset 9 of a message that starts with `\x07example\x00`. -/
def exMsg : Bytes := #[7, 101, 120, 97, 109, 112, 108, 101, 0, 3, 119, 119, 119, 0xc0, 0]

theorem exMsg_parses : parseCompressed exMsg 9 =
    .ok ⟨[3, 119, 119, 119, 7, 101, 120, 97, 109, 112, 108, 101, 0], 3, 6⟩ := by
  simp [parseCompressed, parseAux, exMsg, isPtr, ptrOf, Gen.MAX_LABEL_LEN, Gen.MAX_WIRE_LEN,
    Gen.MAX_N_LABELS]
  decide

example : ∃ w n k, DecodesName exMsg 9 w n k :=
  ⟨_, _, _, (C14_parse_ok_iff exMsg 9 _).mp exMsg_parses⟩

/-- and a pointer to its own chunk is rejected (pointers go strictly backwards) -/
example : parseCompressed #[0xc0, 0] 0 = .err .InvalidPointer := by
  simp [parseCompressed, parseAux, isPtr, ptrOf]

/-- `start = len` is an error, not a panic: the first octet is fetched with a bounds check -/
example : parseCompressed #[1, 2, 3] 3 = .err .UnexpectedEom := by
  simp [parseCompressed, parseAux]

end QV.C14
