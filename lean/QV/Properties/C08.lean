/-
  C08 — Malformed requests are answered with FORMERR.

  "A request is answered with FORMERR and no answer or authority data when its question cannot be
   parsed, a counted record cannot be delimited, an OPT or TSIG record appears outside the additional
   section, there is more than one OPT, a TSIG record is not last or has the wrong class or TTL, a
   QUERY has no question, or octets remain after the last counted record. The server reports the
   first problem in message order, so only an EDNS version error or TSIG error detected earlier in
   the message may be reported instead, and FORMERR is never replaced by any other RCODE."

  Model: `QV.Server.handleMessage` (src/server/mod.rs `handle_message_with_context`, src/server/query.rs
  `handle_query`).  Spec: `specScanWith` — the scan in message order, stopping at the first problem.
  Interpretations (recorded in Spec/Server.lean): a record "can be delimited" = syntactically valid
  first chunk of the owner + ten fixed octets + RDLENGTH octets inside the message; the TSIG raw TTL
  must be 0.

  Proved, for every configuration, transport, buffer and request:
  * `C08_formerr_response` — whenever the spec's scan stops at a format problem (verdict `formErr`),
    the server responds with RCODE FORMERR (extended RCODE bits 0), ANCOUNT = NSCOUNT = 0 and no
    additional record but the OPT if one had been reached: the exact octets of `specErrorResponse`.
    Since the scan is "first problem in message order" by construction, this is also "FORMERR is never
    replaced by another RCODE" and "only an earlier BADVERS/TSIG stop may be reported instead".
  * `C08_cause_*` — each cause listed in the property makes the spec's scan stop with `formErr`
    (unless an earlier record already stopped it): unparseable question, undelimitable record,
    OPT/TSIG in the answer/authority sections, second OPT, TSIG not last, TSIG with wrong class or
    non-zero TTL, QUERY without question, trailing octets.
  After a TSIG record that *verifies* the server goes on to the end-of-message check and the dispatch
  (the spec's verdict is `tsigReached`, C10's domain):
  * `C08_after_verified_tsig` — if octets remain after the TSIG record, or a QUERY has no question,
    the response is `finish` of the writer the TSIG step left with RCODE FORMERR set and nothing
    else changed (`C08_tsig_trailing`, `C08_tsig_no_question`: the two causes);
  * `C08_signed_response` — and on the octets: the response exists, has RCODE FORMERR, ANCOUNT =
    NSCOUNT = 0, and after the question only the OPT record (iff reached) and the TSIG record, last
    (`Proofs/FinishTsig`, `Proofs/ServerSigned`).
  `theorem C08 : C08_full` — both halves.  As in C07, the TSIG record's owner is given as the key name
  literally or as a literal prefix plus pointer (`NameShape`); decoding a compressed owner is C12/C13.
-/
import QV.Proofs.ServerSigned

namespace QV.C08
open QV QV.Spec.Server QV.ServerScan

/-- C08 at full strength: the first problem in message order is a format error ⇒ FORMERR, no data —
    for unsigned requests, and for TSIG-signed requests that the TSIG step authenticates (the problem
    then lies after the TSIG record: trailing octets, or a QUERY without question) -/
def C08_full : Prop :=
  ∀ (cfg : Server.Cfg) (tr : Server.Transport) (now bufLen : Nat) (req : Bytes),
    minBuf tr cfg.payload ≤ bufLen → 512 ≤ cfg.payload → req.size ≤ Rdata.USIZE_MAX →
    (specScanWith (catKind cfg) cfg.payload req).respond = true →
    ((specScanWith (catKind cfg) cfg.payload req).verdict = .formErr →
      ∃ b, Server.handleMessage cfg tr now bufLen req = .ok (some b) ∧ hdr b 2 % 16 = 1 ∧
        hdr b 6 = 0 ∧ hdr b 8 = 0) ∧
    -- signed requests (well-formed configuration, clock below 2^48 s: C01's hypotheses)
    (ServerSafety.CfgWF cfg → now < 2^48 →
      (specScanWith (catKind cfg) cfg.payload req).verdict = .tsigReached →
      ∃ (t : Tsig.ReadTsigRr) (mw : Bytes) (r' : Reader.Reader), r'.octets = req ∧ r'.cursor ≤ req.size ∧
        ∀ r'' S, Server.tsigAfter cfg now t mw r' (preTsigState cfg tr bufLen req) = (.ok (some r''), S) →
          endVerdict (catKind cfg) req.size (specScanWith (catKind cfg) cfg.payload req).question
            r'.cursor ((req.getD 2 0).toNat / 8 % 16) = .formErr →
          ∃ b, Server.handleMessage cfg tr now bufLen req = .ok (some b) ∧
            SignedNoData cfg.payload (specScanWith (catKind cfg) cfg.payload req) 1 b)

/-- **Theorem.** If the first problem in message order is a format error, the response is FORMERR:
    RCODE 1 with the extended bits clear, no answer, no authority, nothing after the question but
    the OPT record when one had been reached before the problem — exactly `specErrorResponse`. -/
theorem C08_formerr_response (cfg : Server.Cfg) (tr : Server.Transport) (now bufLen : Nat) (req : Bytes)
    (hbuf : minBuf tr cfg.payload ≤ bufLen) (hpay : 512 ≤ cfg.payload) (hreq : req.size ≤ Rdata.USIZE_MAX)
    (hr : (specScanWith (catKind cfg) cfg.payload req).respond = true)
    (hv : (specScanWith (catKind cfg) cfg.payload req).verdict = .formErr) :
    ∃ b, Server.handleMessage cfg tr now bufLen req = .ok (some b) ∧
      b.toList = specErrorResponse req cfg.payload (specScanWith (catKind cfg) cfg.payload req) ∧
      hdr b 2 % 16 = 1 ∧ hdr b 6 = 0 ∧ hdr b 8 = 0 ∧
      hdr b 10 = (if (specScanWith (catKind cfg) cfg.payload req).edns then 1 else 0) ∧
      b.toList.drop 12 = specQuestionOctets (specScanWith (catKind cfg) cfg.payload req).question ++
        specOptOctets cfg.payload (specScanWith (catKind cfg) cfg.payload req) := by
  obtain ⟨b, hb, hl⟩ := server_error_response cfg tr now bufLen req hbuf hpay hreq hr (by rw [hv]; rfl)
  obtain ⟨_, _, h2, h3, _, han, hns, har, hrest⟩ := errResp_facts _ _ _ _ hl
  obtain ⟨_, _, _, _, _, _, _, f8⟩ := flags_facts b req _ (verdictRcode_lt _) h2 h3
  exact ⟨b, hb, hl, by rw [f8, hv]; rfl, han, hns, har, hrest⟩

/-- the OPT record of a FORMERR response carries extended-RCODE bits 0 (so the RCODE stays 1) -/
theorem C08_formerr_opt (p : Nat) (sc : Scan) (hv : sc.verdict = .formErr) (he : sc.edns = true) :
    specOptOctets p sc = [0, 0, 41] ++ u16be p ++ [0, 0, 0, 0, 0, 0] := by
  simp [specOptOctets, hv, he, verdictRcode]

/-! ### each listed cause is a format error of the scan -/

/-- the question cannot be parsed -/
theorem C08_cause_question (lookup : List UInt8 → Nat → Option ZoneKind) (S : Nat) (msg : Bytes)
    (h12 : ¬ msg.size < 12) (hqr : ¬ (msg.getD 2 0).toNat ≥ 128) (hqd : hdr msg 4 = 1)
    (hq : Spec.specQuestionAt msg 12 = none) :
    (specScanWith lookup S msg).respond = true ∧ (specScanWith lookup S msg).verdict = .formErr ∧
    (specScanWith lookup S msg).question = none := by
  rw [specScanWith_eq]
  simp only [h12, hqr, if_false]
  unfold specBody
  simp [hqd, hq]

/-- a counted answer/authority record cannot be delimited, or is an OPT or TSIG -/
theorem C08_cause_plain (msg : Bytes) (n pos : Nat)
    (h : Spec.Server.specDelimit msg pos = none ∨
      ∃ d, Spec.Server.specDelimit msg pos = some d ∧ (d.ty = 41 ∨ d.ty = 250)) :
    scanPlain msg (n + 1) pos = none := by
  unfold scanPlain
  rcases h with h | ⟨d, h, ht⟩
  · rw [h]
  · rw [h]; simp [ht]

theorem C08_cause_plain_verdict (lookup : List UInt8 → Nat → Option ZoneKind) (S : Nat) (msg : Bytes)
    (q : Option Spec.DQuestion) (p1 an ns ar op : Nat) (h : scanPlain msg (an + ns) p1 = none) :
    (specTail lookup S msg q p1 an ns ar op).verdict = .formErr ∧
    (specTail lookup S msg q p1 an ns ar op).respond = true := by
  unfold specTail; rw [h]; exact ⟨rfl, rfl⟩

/-- a counted additional record cannot be delimited -/
theorem C08_cause_undelimitable (msg : Bytes) (S n total pos : Nat) (e : Bool) (lim : Nat)
    (h : Spec.Server.specDelimit msg pos = none) :
    scanAr msg S (n + 1) total pos e lim = (.formErr, e, lim) := by
  unfold scanAr; rw [h]

/-- a second OPT -/
theorem C08_cause_second_opt (msg : Bytes) (S n total pos : Nat) (lim : Nat) (d : Delim)
    (h : Spec.Server.specDelimit msg pos = some d) (ht : d.ty = 41) :
    scanAr msg S (n + 1) total pos true lim = (.formErr, true, lim) := by
  unfold scanAr; rw [h]; simp [ht]

/-- a TSIG record that is not the last record -/
theorem C08_cause_tsig_not_last (msg : Bytes) (S n total pos : Nat) (e : Bool) (lim : Nat) (d : Delim)
    (h : Spec.Server.specDelimit msg pos = some d) (ht : d.ty = 250) (hn : n ≠ 0) :
    scanAr msg S (n + 1) total pos e lim = (.formErr, e, lim) := by
  unfold scanAr; rw [h]; simp [ht, hn]

/-- a TSIG record (in last position) with a class other than ANY or a non-zero raw TTL -/
theorem C08_cause_tsig_class_ttl (msg : Bytes) (S total pos : Nat) (e : Bool) (lim : Nat) (d : Delim)
    (h : Spec.Server.specDelimit msg pos = some d) (ht : d.ty = 250) (hc : d.cls ≠ 255 ∨ d.rawTtl ≠ 0) :
    scanAr msg S 1 total pos e lim = (.formErr, e, lim) := by
  unfold scanAr; rw [h]
  simp only [ht, show ¬ (250 : Nat) = 41 by decide, if_false, if_true, ne_eq, not_true_eq_false]
  split
  · rfl
  · split
    · rfl
    · simp [hc]

/-- a QUERY without a question, and octets after the last counted record -/
theorem C08_cause_end (lookup : List UInt8 → Nat → Option ZoneKind) (S : Nat) (msg : Bytes)
    (q : Option Spec.DQuestion) (p1 an ns ar opcode p2 p3 : Nat) (e : Bool) (l : Nat)
    (h1 : scanPlain msg (an + ns) p1 = some p2) (h2 : scanAr msg S ar ar p2 false 512 = (.done p3, e, l))
    (h : p3 < msg.size ∨ (opcode = 0 ∧ q = none)) :
    (specTail lookup S msg q p1 an ns ar opcode).verdict = .formErr := by
  rw [specTail_done lookup S msg q p1 an ns ar opcode p2 p3 e l h1 h2]
  exact (endVerdict_formErr_iff lookup msg.size q p3 opcode).mpr h

/-! ### after a TSIG record that verifies -/

/-- octets after the (last) TSIG record: a format error -/
theorem C08_tsig_trailing (lookup : List UInt8 → Nat → Option ZoneKind) (size : Nat) (q : Option Spec.DQuestion)
    (pos opcode : Nat) (h : pos < size) : endVerdict lookup size q pos opcode = .formErr :=
  (endVerdict_formErr_iff lookup size q pos opcode).mpr (Or.inl h)

/-- a signed QUERY without question: a format error -/
theorem C08_tsig_no_question (lookup : List UInt8 → Nat → Option ZoneKind) (size pos : Nat) (h : ¬ pos < size) :
    endVerdict lookup size none pos 0 = .formErr :=
  (endVerdict_formErr_iff lookup size none pos 0).mpr (Or.inr ⟨rfl, rfl⟩)

/-- **Theorem (signed requests).** For a request whose scan reaches a well-formed TSIG record: if
    the TSIG step authenticates (leaving the writer `S`) and the end-of-message check or the missing
    question makes the verdict FORMERR, the response is `finish` of `S` with RCODE FORMERR set and
    nothing else changed — in particular no answer or authority record is added. -/
theorem C08_after_verified_tsig (cfg : Server.Cfg) (tr : Server.Transport) (now bufLen : Nat) (req : Bytes)
    (hbuf : minBuf tr cfg.payload ≤ bufLen) (hpay : 512 ≤ cfg.payload) (hreq : req.size ≤ Rdata.USIZE_MAX)
    (hr : (specScanWith (catKind cfg) cfg.payload req).respond = true)
    (hv : (specScanWith (catKind cfg) cfg.payload req).verdict = .tsigReached) :
    ∃ (t : Tsig.ReadTsigRr) (mw : Bytes) (r' : Reader.Reader), r'.octets = req ∧ r'.cursor ≤ req.size ∧
      ∀ r'' S, Server.tsigAfter cfg now t mw r' (preTsigState cfg tr bufLen req) = (.ok (some r''), S) →
        endVerdict (catKind cfg) req.size (specScanWith (catKind cfg) cfg.payload req).question
          r'.cursor ((req.getD 2 0).toNat / 8 % 16) = .formErr →
        Server.handleMessage cfg tr now bufLen req =
          match Writer.finish (Writer.stRcode 1 S) Server.macFn with
          | .ok (bytes, _) => .ok (some bytes)
          | _ => .panic := by
  obtain ⟨t, mw, r', h1, h2, h3⟩ := handleMessage_after_tsig cfg tr now bufLen req hbuf hpay hreq hr hv
  refine ⟨t, mw, r', h1, h2, fun r'' S hT hev => ?_⟩
  have := h3 r'' S hT (by rw [hev]; simp)
  rw [this, hev]
  rfl

/-- **Theorem (signed requests, on the octets).** If the TSIG step authenticates the request and
    the end-of-message check or the missing question makes the verdict FORMERR, the server responds
    with RCODE FORMERR, no answer or authority records, and after the question only the OPT record
    (iff the scan reached one) and the TSIG record, which is last. -/
theorem C08_signed_response (cfg : Server.Cfg) (hcfg : ServerSafety.CfgWF cfg) (tr : Server.Transport)
    (now bufLen : Nat) (req : Bytes)
    (hbuf : minBuf tr cfg.payload ≤ bufLen) (hpay : 512 ≤ cfg.payload) (hreq : req.size ≤ Rdata.USIZE_MAX)
    (hnow : now < 2^48)
    (hr : (specScanWith (catKind cfg) cfg.payload req).respond = true)
    (hv : (specScanWith (catKind cfg) cfg.payload req).verdict = .tsigReached) :
    ∃ (t : Tsig.ReadTsigRr) (mw : Bytes) (r' : Reader.Reader), r'.octets = req ∧ r'.cursor ≤ req.size ∧
      ∀ r'' S, Server.tsigAfter cfg now t mw r' (preTsigState cfg tr bufLen req) = (.ok (some r''), S) →
        endVerdict (catKind cfg) req.size (specScanWith (catKind cfg) cfg.payload req).question
          r'.cursor ((req.getD 2 0).toNat / 8 % 16) = .formErr →
        ∃ b, Server.handleMessage cfg tr now bufLen req = .ok (some b) ∧
          SignedNoData cfg.payload (specScanWith (catKind cfg) cfg.payload req) 1 b := by
  obtain ⟨t, mw, r', h1, h2, h3⟩ := signed_noData_full cfg hcfg tr now bufLen req hbuf hpay hreq hnow hr hv
  exact ⟨t, mw, r', h1, h2, fun r'' S hT hev => h3 r'' S hT .formErr (Or.inl rfl) hev⟩

/-- **C08 holds at full strength.** -/
theorem C08 : C08_full := by
  intro cfg tr now bufLen req hbuf hpay hreq hr
  refine ⟨fun hv => ?_, fun hcfg hnow hv => C08_signed_response cfg hcfg tr now bufLen req hbuf hpay hreq hnow hr hv⟩
  obtain ⟨b, hb, _, h1, h2, h3, _⟩ := C08_formerr_response cfg tr now bufLen req hbuf hpay hreq hr hv
  exact ⟨b, hb, h1, h2, h3⟩

/-! ### non-vacuity: each cause on a concrete request -/

def exCfg : Server.Cfg := { payload := 1232, zones := [] }
/-- `. IN NS` followed by one junk octet -/
def exTrailing : Bytes := #[0x12, 0x34, 0x01, 0x00, 0, 1, 0, 0, 0, 0, 0, 0, 0, 0, 2, 0, 1, 0xff]
/-- QUERY with QDCOUNT = 0 -/
def exNoQuestion : Bytes := #[0, 1, 0, 0, 0, 0, 0, 0, 0, 0, 0, 0]
/-- QDCOUNT = 1 and a question cut short -/
def exCutQuestion : Bytes := #[0, 1, 0, 0, 0, 1, 0, 0, 0, 0, 0, 0, 3, 97]
/-- `. IN NS` with ANCOUNT = 1 and an OPT record in the answer section -/
def exOptInAnswer : Bytes :=
  #[0, 1, 0, 0, 0, 1, 0, 1, 0, 0, 0, 0, 0, 0, 2, 0, 1, 0, 0, 41, 4, 208, 0, 0, 0, 0, 0, 0]
/-- `. IN NS` with two OPT records in the additional section -/
def exTwoOpt : Bytes :=
  #[0, 1, 0, 0, 0, 1, 0, 0, 0, 0, 0, 2, 0, 0, 2, 0, 1, 0, 0, 41, 4, 208, 0, 0, 0, 0, 0, 0,
    0, 0, 41, 4, 208, 0, 0, 0, 0, 0, 0]
/-- `. IN NS` with ARCOUNT = 1 and nothing after the question -/
def exMissingRecord : Bytes := #[0, 1, 0, 0, 0, 1, 0, 0, 0, 0, 0, 1, 0, 0, 2, 0, 1]

example : (specScanWith (catKind exCfg) 1232 exTrailing).verdict = .formErr := by decide +kernel
example : (specScanWith (catKind exCfg) 1232 exNoQuestion).verdict = .formErr := by decide +kernel
example : (specScanWith (catKind exCfg) 1232 exCutQuestion).verdict = .formErr := by decide +kernel
example : (specScanWith (catKind exCfg) 1232 exOptInAnswer).verdict = .formErr := by decide +kernel
example : (specScanWith (catKind exCfg) 1232 exMissingRecord).verdict = .formErr := by decide +kernel
/-- the second OPT is a FORMERR *and* the response is an EDNS response (the first OPT was reached) -/
example : (specScanWith (catKind exCfg) 1232 exTwoOpt).verdict = .formErr ∧
    (specScanWith (catKind exCfg) 1232 exTwoOpt).edns = true := by decide +kernel

/-- the regression witness of the repaired defect D05: a valid query plus one junk octet is
    answered FORMERR — not NXDOMAIN/REFUSED — with no data -/
example : ∃ b, Server.handleMessage exCfg .udp 0 65535 exTrailing = .ok (some b) ∧
    b.toList = [0x12, 0x34, 0x81, 0x01, 0, 1, 0, 0, 0, 0, 0, 0, 0, 0, 2, 0, 1] := by
  obtain ⟨b, hb, hl, _⟩ := C08_formerr_response exCfg .udp 0 65535 exTrailing (hbuf := by decide) (hpay := by decide)
    (hreq := by decide) (hr := by decide +kernel) (hv := by decide +kernel)
  exact ⟨b, hb, by rw [hl]; decide +kernel⟩

/-- `. IN NS` signed with a (syntactically well-formed) TSIG record, key `k.`, hmac-sha256, as the
    last record: the scan reaches TSIG processing — the hypothesis of `C08_after_verified_tsig` -/
def exSigned : Bytes :=
  #[0, 1, 0, 0, 0, 1, 0, 0, 0, 0, 0, 1, 0, 0, 2, 0, 1,
    1, 107, 0, 0, 250, 0, 255, 0, 0, 0, 0, 0, 61,
    11, 104, 109, 97, 99, 45, 115, 104, 97, 50, 53, 54, 0,
    0, 0, 0, 0, 0, 0, 1, 44, 0, 32,
    0, 0, 0, 0, 0, 0, 0, 0, 0, 0, 0, 0, 0, 0, 0, 0, 0, 0, 0, 0, 0, 0, 0, 0, 0, 0, 0, 0, 0, 0, 0, 0,
    0, 1, 0, 0, 0, 0]
example : (specScanWith (catKind exCfg) 1232 exSigned).verdict = .tsigReached ∧
    (specScanWith (catKind exCfg) 1232 exSigned).respond = true := by decide +kernel

end QV.C08
